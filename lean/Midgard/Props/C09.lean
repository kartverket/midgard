/-
C09 — A Dataset stays a rectangular, row-aligned table under any operation sequence.

Property theorems only, about the executable model in `Model/Dataset.lean` / `Model/DatasetOps.lean`
(heap of array objects with `other`/`ref_pos` references, field trees, every operation threading
the code's memo).  The model is tied to `/repo` by the correspondence of `harness/c09.py`.

Proved for all heaps, datasets, indices and operation sequences (no bound): rectangularity after any history
(`history_invariant`; no shape of field tree is excluded: a collection without fields remembers its `num_obs`); `subset` as
"keep the selected rows" of every array by one and the same index, which is row alignment (`subset_refines`), with sharing
(`subset_keeps_sharing`); `extend` of `n` rows by `m` rows gives `n + m` everywhere (`extend_counts`), with where the rows go
and how units and time scales are converted, array by array; the sort index of `merge_with` is a stable sorted permutation;
`difference` pairs rows by the first occurrence of each common key, or by position, with ONE pair of row indices for the
whole field tree (`difference_pairs_by_key`, `difference_pairs_by_position`); the content of `extend` is the list-of-records
function for plain columns at any nesting (`extend_refines_records_partial`), and content and sharing hold for top-level
leaves of the flat kinds under the semantic memo invariant, given consistent sharing of the two operands (`…_flat_partial`).

Not proved (measured by the correspondence and the property oracle only): content and sharing under `extend` for
nested collections holding memo kinds, for the position kinds with their `other` / `ref_pos` attachments and for an
empty self (there only the row counts and the array-level splice are theorems), and the identity of *attached* objects
with fields (`p.other is q` — the images of the attachments are proved, that the image is the object field `q` now
holds is not).  Outside the modelled fragment of `difference` (the model answers `unsupported`, the harness has no
expectation): fields of different types under one name, NumPy broadcasting of arrays of different shapes, a NaN or a
field of a collection as index field, epochs that are the empty epoch.
-/
import Midgard.Proofs.DatasetOpsRect
import Midgard.Proofs.DatasetExtendFlat

namespace Midgard.Props.C09
open Midgard.Dataset

/-- After any history of successful operations, starting from a world of rectangular tables, every
dataset is a rectangular table: all fields, nested fields and attached objects have `num_obs` rows.
(`Run` also records that the arrays handed to `add` are themselves consistent, which the code does
not check.) -/
theorem history_invariant {w w' : W} {ops : List Op} (hr : Run w ops w') (ok : WOK w) : WOK w' := by
  induction hr with
  | nil => exact ok
  | cons hv hs _ ih => exact ih (step_ok _ _ _ _ hs ok hv).1

/-- the empty world is fine, so every history from scratch is covered -/
theorem empty_world_ok : WOK {} := by
  intro i x h
  simp [W.getDs] at h

/-- one step, with the heap only growing (old arrays are never modified: datasets that were not
operated on keep their contents) -/
theorem step_invariant (w : W) (op : Op) (w' : W) (out : Out) (hs : step w op = .ok (w', out)) (ok : WOK w)
    (hv : Valid w op) : WOK w' ∧ HeapExt w.heap w'.heap :=
  step_ok w op w' out hs ok hv

/-- `Dataset.subset` refines "keep the selected rows of every column" -/
theorem subset_refines (idx : Index) (h : Heap) (d : DS) (h' : Heap) (d' : DS)
    (hok : dsSubset idx h d = .ok (h', d')) :
    HeapExt h h' ∧ FieldImg.FieldsImg idx h' d.fields d'.fields ∧ d'.numObs = idx.count ∧ Rect h' d' :=
  dsSubset_spec hok

/-- an image has the picked rows, and so has everything attached to it -/
theorem image_rows (idx : Index) (h : Heap) (o o' : Nat) (hi : Img idx h o o') :
    ∃ ob ob', h[o]? = some ob ∧ h[o']? = some ob' ∧ pick idx ob.rows = .ok ob'.rows ∧ ob'.kind = ob.kind ∧
      (ob.kind.hasOther = true → OptRel (Img idx h) ob.other ob'.other) ∧
      (ob.kind.isDelta = true → OptRel (Img idx h) ob.refPos ob'.refPos) := by
  obtain ⟨ob, ob', h1, h2, h3, h4, _, _, h7, h8⟩ := hi.dest
  exact ⟨ob, ob', h1, h2, h3, h4, h7, h8⟩

/-- boolean mask: the result is the sub-list of the rows whose mask entry is true, in order -/
theorem pick_mask_in_order {α} (m : List Bool) (xs r : List α) (h : pick (.mask m) xs = .ok r) :
    r.Sublist xs ∧ r = ((m.zip xs).filter (fun p => p.1)).map (·.2) ∧ r.length = (m.filter id).length := by
  have hl := pick_length (.mask m) xs r h
  obtain ⟨_, rfl⟩ := pick_mask_ok h
  exact ⟨pickMask_sublist m xs, pickMask_eq_zip_filter m xs, hl⟩

/-- integer index: entry `k` of the result is row `is[k]` (negative numbers count from the end) -/
theorem pick_ints_in_order {α} (is : List Int) (xs r : List α) (h : pick (.ints is) xs = .ok r) :
    r.length = is.length ∧ ∀ k (hk : k < is.length), ∃ j, normIdx xs.length is[k] = some j ∧ r[k]? = xs[j]? :=
  ⟨pick_length (.ints is) xs r h, pickInts_get xs is r (pick_ints_ok h)⟩

/-- the declared count is the number of selected rows, not `sum(idx)`: for the integer index `[3, 2, 1, 3]` over four
rows the sum is 9, the count 4 -/
theorem subset_count_not_sum :
    (Index.ints [3, 2, 1, 3]).count = 4 ∧ ([3, 2, 1, 3] : List Int).sum = 9 ∧
    pick (.ints [3, 2, 1, 3]) [10, 11, 12, 13] = .ok [13, 12, 11, 13] := by
  refine ⟨rfl, by decide, rfl⟩

/-- **sharing under `subset`**: if the heap objects of the leaves have the kinds of their fields (as
`add` establishes), there is one map `σ` from old to new objects such that every leaf of a
memo-using kind (time, time delta, position, posvel, the deltas) that held `o` holds `σ o` afterwards,
at every nesting depth — two fields that were the same object are the same object again. -/
theorem subset_keeps_sharing (idx : Index) (h : Heap) (d : DS) (h' : Heap) (d' : DS)
    (hok : dsSubset idx h d = .ok (h', d')) (hk : KindsOK.KindsOKs h d.fields) :
    ∃ σ : Nat → Option Nat, LeafMap.LeafMaps σ d.fields d'.fields := by
  simp only [dsSubset] at hok
  split at hok
  · simp at hok
  · rename_i fs s hr
    split at hok
    · simp at hok
    · cases hok.symm
      exact ⟨s.find, LeafMapsAt.toMaps d.fields fs
        ((subsetFields_full idx h d.fields { heap := h } fs s hr).2.2 (HeapExt.refl _) hk)⟩

/-- the memo registers what it re-creates and never forgets the registration of an array object of a
memo-using kind (the mechanism behind `subset_keeps_sharing`) -/
theorem memo_registers (idx : Index) (fuel o : Nat) (s : St) (o' : Nat) (s' : St)
    (h : subsetObj idx fuel o s = .ok (o', s')) : s'.find o = some o' ∧ PersistK s s' :=
  ⟨(subsetObj_full idx fuel o s o' s' h).1.2.2, (subsetObj_full idx fuel o s o' s' h).1.2.1⟩

/-- `Dataset.extend`: `n` rows extended by `m` rows are `n + m` rows in every field, nested field
and attached object; fields missing on one side are padded. -/
theorem extend_counts (us : Units) (h : Heap) (d e : DS) (h' : Heap) (d' : DS)
    (hok : dsExtend us h d e = .ok (h', d')) (hd : Rect h d) (he : Rect h e) (okd : DSOK d) (oke : DSOK e) :
    HeapExt h h' ∧ Rect h' d' ∧ DSOK d' ∧ d'.numObs = d.numObs + e.numObs :=
  dsExtend_ok hok hd he okd oke

/-- at the array level `np.insert` at the end appends (every field inserts at its own `num_obs`,
which the invariant makes the number of rows) and at 0 prepends -/
theorem insert_at_end_appends {α} (a b : List α) : insertAt a a.length b = a ++ b := insertAt_end a b
theorem pad_front {α} (a b : List α) : insertAt a 0 b = b ++ a := insertAt_zero a b

/-- `insert` of two arrays: the result has the rows of both, whatever the memo returned for the
attachments -/
theorem insert_counts (n m : Nat) (fuel a pos b : Nat) (s : St) (r : Nat) (s' : St)
    (h : insertObj fuel a pos b s = .ok (r, s')) (hm : MemoGood (n + m) s) (ga : Good s.heap n a)
    (gb : Good s.heap m b) : Good s'.heap (n + m) r ∧ HeapExt s.heap s'.heap :=
  ⟨(insertObj_spec n m fuel a pos b s r s' h hm ga gb).2, (insertObj_spec n m fuel a pos b s r s' h hm ga gb).1.1⟩

/-- `insert(a, pos, b, memo)` of two arrays the memo has not seen: the rows of `a` with the rows of `b`
spliced in at `pos` (= appended, by `insert_at_end_appends`, for a field of a rectangular table); the rows of a
time `b` of another scale / format are the converted ones (`convRows`, see `insert_converts_each_epoch`); the
result keeps kind, time scale and format of `a` -/
theorem insert_splices_rows (fuel a pos b : Nat) (s : St) (r : Nat) (s' : St)
    (h : insertObj (fuel + 1) a pos b s = .ok (r, s')) (ha : s.find a = none) (hb : s.find b = none) :
    ∃ oa ob orr, s.heap[a]? = some oa ∧ s.heap[b]? = some ob ∧ s'.heap[r]? = some orr ∧
      orr.rows = insertAt oa.rows pos (convRows s.conv oa.tag ob) ∧ orr.kind = oa.kind ∧ orr.tag = oa.tag := by
  obtain ⟨oa, ob, oth, rp, s2, hoa, hob, rfl, rfl⟩ := insertObj_miss h ha hb
  exact ⟨oa, ob, _, hoa, hob, alloc_get s2 _, rfl, rfl, rfl⟩

/-- same scale and format (or no time at all, or the padding array): the rows of `b` go in unchanged -/
theorem insert_same_format_keeps_rows (cv : Conv) (t : String) (ob : Obj) (h : ob.tag = t ∨ ob.tag = "") :
    convRows cv t ob = ob.rows := by
  unfold convRows needsConv
  rcases h with h | h <;> simp [h]

/-- another scale or format: epoch `k` of the spliced rows is the conversion **of epoch `k` of `b` itself** (the table
is the function of the Time classes, applied row by row) — in particular two arrays `b`, `b'` with different epochs
never receive each other's rows, and the number of epochs is unchanged -/
theorem insert_converts_each_epoch (cv : Conv) (t : String) (ob : Obj) (hn : needsConv t ob = true)
    (hc : convertible cv t ob = true) (k : Nat) (r : Row) (hr : ob.rows[k]? = some r) :
    ∃ r', cv.lookup (ob.tag, t, r) = some r' ∧ (convRows cv t ob)[k]? = some r' ∧
      (convRows cv t ob).length = ob.rows.length := by
  have hall : ∀ x ∈ ob.rows, (cv.lookup (ob.tag, t, x)).isSome = true := by
    have := hc
    simp only [convertible, hn, Bool.not_true, Bool.false_or, Bool.and_eq_true, List.all_eq_true] at this
    exact this.2
  have hmem : r ∈ ob.rows := List.mem_of_getElem? hr
  obtain ⟨r', hr'⟩ := Option.isSome_iff_exists.mp (hall r hmem)
  refine ⟨r', hr', ?_, convRows_length cv t ob⟩
  simp [convRows, hn, hr, hr']

/-- **extending a time / time-delta field** (field level, memo has seen neither array): the extended field holds the
epochs of self followed — at the field's `num_obs` — by the epochs of other, each converted to the scale and shown in
the format of self when those differ; scale and format of self are kept; the field's `num_obs` is the new length -/
theorem extend_time_field_content (us : Units) (nm : String) (k : Kind) (hk : k = .time ∨ k = .timeDelta)
    (o no : Nat) (u : Option (List String)) (l : Nat)
    (nm2 : String) (o2 no2 : Nat) (u2 : Option (List String)) (l2 : Nat) (s : St) (f' : Field) (s' : St)
    (h : extendLeaf us nm k o no u l (.leaf nm2 k o2 no2 u2 l2) s = .ok (f', s'))
    (ha : s.find o = none) (hb : s.find o2 = none) :
    ∃ oa ob o' no' orr, s.heap[o]? = some oa ∧ s.heap[o2]? = some ob ∧
      f' = .leaf nm k o' no' u l ∧ s'.heap[o']? = some orr ∧
      orr.rows = insertAt oa.rows no (convRows s.conv oa.tag ob) ∧ orr.tag = oa.tag ∧ no' = orr.rows.length := by
  rcases hk with rfl | rfl
  · exact extendLeaf_insert_rows rfl (by decide) h ha hb
  · exact extendLeaf_insert_rows rfl (by decide) h ha hb

/-- **extending a sigma field** (field level): values and sigmas of other, column by column times the unit factor
`Unit(other unit, own unit)`, appended at the field's `num_obs` — when the memo has not seen the array of self and its keys
are ids of arrays that exist (`hbnd`; the clause `bound` of the invariant `MemoSem` of the flat kinds).  The premise on the tags is there because the
splice is read off `insert_splices_rows`, which speaks of `convRows`; the tag of a sigma array is always `""`. -/
theorem extend_sigma_field_content (us : Units) (nm : String) (o no : Nat) (u : Option (List String)) (l : Nat)
    (nm2 : String) (o2 no2 : Nat) (u2 : Option (List String)) (l2 : Nat) (s : St) (f' : Field) (s' : St)
    (h : extendLeaf us nm .sigma o no u l (.leaf nm2 .sigma o2 no2 u2 l2) s = .ok (f', s'))
    (ha : s.find o = none) (hbnd : ∀ k v, (k, v) ∈ s.memo → k < s.heap.length) :
    ∃ oa ob fs o' no' orr, s.heap[o]? = some oa ∧ s.heap[o2]? = some ob ∧ unitFactors us u u2 = .ok fs ∧
      f' = .leaf nm .sigma o' no' u l ∧ s'.heap[o']? = some orr ∧
      (ob.tag = oa.tag ∨ ob.tag = "" → orr.rows = insertAt oa.rows no (ob.rows.map (scaleRow fs))) := by
  obtain ⟨oa, ob, o', hoa, hob, _, _, rfl, hop⟩ := extendLeaf_ok h
  rcases hop with ⟨_, hs, _⟩ | ⟨hp, _⟩ | ⟨_, _, fs, t, hfs, rfl, hins⟩
  · exact absurd rfl hs
  · cases hp
  · -- the scaled copy is a fresh array: the memo, which only knows arrays that exist, cannot know it
    have e0 := HeapExt.alloc s { ob with rows := ob.rows.map (scaleRow fs) }
    obtain ⟨oa', ot, orr, q1, q2, q3, q4, _, _⟩ := insert_splices_rows _ _ _ _ _ _ _ hins ha
      (find_none_of_ge s _ hbnd (Nat.le_refl _))
    rw [e0.get hoa] at q1; cases q1
    cases (alloc_get s _).symm.trans q2
    refine ⟨oa, ob, fs, o', _, orr, hoa, hob, hfs, rfl, q3, fun htag => ?_⟩
    exact q4.trans (congrArg (insertAt oa.rows no) (insert_same_format_keeps_rows _ _ _ htag))

/-- **the memo contract of `insert`** (the mechanism that keeps shared objects shared under `extend`): an `insert`
that found neither array in the memo registers the new array under the id of `a` AND under the id `b` had when it was
handed in (also when `b` was converted to another scale); from then on every `insert` whose `a` is that array, and every
`insert` of that `b` into an array the memo does not know, hands out the very same new array and changes nothing.  That
two fields holding one array hold one array after `Dataset.extend` additionally needs that entries of dataset objects
survive the loop over the fields: `extend_keeps_sharing_flat_partial` proves it for datasets of top-level leaves of the
flat kinds; for nested collections and the position kinds it is measured by the correspondence, which compares object
identities. -/
theorem extend_keeps_sharing_partial (fuel a pos b : Nat) (s : St) (r : Nat) (s' : St)
    (h : insertObj (fuel + 1) a pos b s = .ok (r, s')) (ha : s.find a = none) (hb : s.find b = none) :
    (s'.find a = some r ∧ s'.find b = some r) ∧
    (∀ fuel' pos' b', insertObj (fuel' + 1) a pos' b' s' = .ok (r, s')) ∧
    (∀ fuel' a' pos', s'.find a' = none → insertObj (fuel' + 1) a' pos' b s' = .ok (r, s')) := by
  obtain ⟨h1, h2⟩ := insertObj_registers h ha hb
  exact ⟨⟨h1, h2⟩, fun f' p' b' => insertObj_hit_a f' a p' b' s' r h1,
    fun f' a' p' ha' => insertObj_hit_b f' a' p' b s' r ha' h2⟩

/-- a second time field holding the same array as a field that was already extended is served from the memo: it gets
the very array made for the first name (two names of one array stay one array when both names are extended) -/
theorem extend_second_name_served_from_memo (us : Units) (nm : String) (k : Kind) (hk : k = .time ∨ k = .timeDelta)
    (o no : Nat) (u : Option (List String)) (l : Nat)
    (nm2 : String) (o2 no2 : Nat) (u2 : Option (List String)) (l2 : Nat) (s : St) (r : Nat) (oa ob : Obj)
    (hoa : s.heap[o]? = some oa) (hob : s.heap[o2]? = some ob) (hka : oa.kind = k) (hkb : ob.kind = k)
    (hnd : oa.ndim = ob.ndim) (hit : s.find o = some r) :
    extendLeaf us nm k o no u l (.leaf nm2 k o2 no2 u2 l2) s = .ok (.leaf nm k r (objLen s.heap r) u l, s) := by
  rcases hk with rfl | rfl <;>
  simp [extendLeaf, hoa, hob, hka, hkb, hnd, Kind.isDelta, Kind.isPlain, insertObj, hit]

/-- **the mechanism of the listed finding** `extend:shared-array-one-name-missing` is a theorem about the model: padding
(`append_empty` / `prepend_empty`) a time field whose array was already extended under another name does not pad — the
memo hands out the array made for the other name, so the name the other dataset lacks holds the other dataset's values.
Every dataset-level statement about the content of `extend` or about sharing has to exclude this situation;
`splitSharing` ("an array is held under a name the other dataset lacks and under a name it has",
`Model/DatasetRecords.lean`) is that condition as a decidable predicate, evaluated by the driver for every `extend` and
compared with the same question asked of the real datasets and of the reference.  The dataset-level theorems of this
file (`extend_refines_records_flat_partial`, `extend_keeps_sharing_flat_partial`) exclude it through their hypotheses
`Consistent` / `ObjsAgree`. -/
theorem pad_of_second_name_served_from_memo (front : Bool) (n : Nat) (nm : String) (k : Kind) (hk : k = .time ∨ k = .timeDelta)
    (o no : Nat) (u : Option (List String)) (l : Nat) (s : St) (r : Nat) (ob : Obj)
    (hob : s.heap[o]? = some ob) (hkb : ob.kind = k) (hit : s.find o = some r) :
    ∃ s', padField front n (.leaf nm k o no u l) s = .ok (.leaf nm k r (objLen s'.heap r) u l, s') ∧
      s'.find o = some r := by
  have hlt : o < s.heap.length := Lists.lt_of_get hob
  have hit1 : ∀ e : Obj, (s.alloc e).2.find o = some r := fun e => (find_alloc s e o).trans hit
  rcases hk with rfl | rfl <;>
  · simp only [padField, hob, hkb, bne_self_eq_false, Bool.false_or, hit, Option.isNone_some, Bool.and_false,
      Bool.false_eq_true, if_false, Kind.isPlain, Kind.isDelta]
    simp only [insertObj_hit_a _ o _ _ _ r (hit1 _)]
    refine ⟨_, rfl, ?_⟩
    exact (find_pop _ (by show o ≠ s.heap.length; omega)).trans (hit1 _)

/-! ### the memo invariant of `extend` (flat kinds) and the field-level steps under it

`MemoSem us h0 n m W s` (`Proofs/DatasetExtendInv.lean`): `W` is the set of units of work (`Item`), `Item.exp` what the table
demands of an item, read off the heap `h0` before the `extend`; the invariant says that every memo entry under an array of
an item holds what the table demands of that item and that the arrays of one item are registered to one new array.  What
the hypotheses `Consistent` and `ObjsAgree` on `W` are meant to follow from is said at their definitions; that implication is
not a theorem.  (`W` here is a set of items, not the type of worlds of the first section.) -/

/-- one `insert` of a flat memo kind under the invariant: right content whatever the memo answers (hit on `a`, hit on `b`,
miss), invariant kept, the result registered under an array of the item, earlier entries untouched -/
theorem insert_under_memo_invariant (us : Units) (h0 : Heap) (n m : Nat) (W : Item → Prop) (hI : Items h0 W)
    (hC : Consistent us h0 n m W) (hO : ObjsAgree W) (it : Item) (hit : W it) (hnp : it.kind.isPlain = false)
    (fuel a pos b : Nat) (s : St) (oa ob : Obj) (ms : MemoSem us h0 n m W s) (hcv : s.conv = us.conv)
    (ha : a ∈ it.objs) (hoa : s.heap[a]? = some oa) (hob : s.heap[b]? = some ob) (hf : oa.kind.flat = true)
    (hb : b ∈ it.objs ∨ (s.find b = none ∧ h0.length ≤ b)) (hsub : ∀ x ∈ it.objs, x = a ∨ x = b)
    (hexp : it.exp us h0 n m = some (insertAt oa.rows pos (convRows us.conv oa.tag ob), oa.tag))
    (r : Nat) (s' : St) (h : insertObj (fuel + 1) a pos b s = .ok (r, s')) :
    IsRes s'.heap r (insertAt oa.rows pos (convRows us.conv oa.tag ob), oa.tag) ∧ HeapExt s.heap s'.heap ∧
      MemoSem us h0 n m W s' ∧ s'.conv = us.conv ∧ (∃ o ∈ it.objs, s'.find o = some r) ∧ PersistW W s s' :=
  insert_step hI hC hO hit hnp ms hcv ha hoa hob hf hb hsub hexp h

/-- a time / time-delta leaf of self extended by the leaf of other under the invariant: the new leaf holds the epochs of
self followed by the converted epochs of other (`Item.exp`), in the scale / format of self, `num_obs` = its length, it
is registered in the memo; the invariant is kept -/
theorem extend_time_leaf_under_invariant (us : Units) (h0 : Heap) (n m : Nat) (W : Item → Prop) (hI : Items h0 W)
    (hC : Consistent us h0 n m W) (hO : ObjsAgree W) (nm : String) (k : Kind) (hk : k = .time ∨ k = .timeDelta)
    (o no : Nat) (u : Option (List String)) (l : Nat)
    (nm2 : String) (o2 no2 : Nat) (u2 : Option (List String)) (l2 : Nat) (s : St) (f' : Field) (s' : St)
    (ms : MemoSem us h0 n m W s) (hcv : s.conv = us.conv) (hit : W (.both k o u o2 u2))
    (oa : Obj) (hoa : h0[o]? = some oa) (hno : no = oa.rows.length)
    (h : extendLeaf us nm k o no u l (.leaf nm2 k o2 no2 u2 l2) s = .ok (f', s')) :
    LeafPost us h0 n m s' (.both k o u o2 u2) nm k u l f' ∧ HeapExt s.heap s'.heap ∧
      MemoSem us h0 n m W s' ∧ s'.conv = us.conv ∧ PersistW W s s' := by
  have hns : (k == Kind.sigma) = false := by rcases hk with rfl | rfl <;> rfl
  obtain ⟨ob, hob, _⟩ := hI.lt _ hit o2 (by simp [Item.objs, hns])
  exact extendLeaf_flat_step hI hC hO (by rcases hk with rfl | rfl <;> rfl) ms hcv (fun _ => hit) hoa hob hno h

/-- a sigma leaf likewise (values and sigmas of other times the unit factors appended) -/
theorem extend_sigma_leaf_under_invariant (us : Units) (h0 : Heap) (n m : Nat) (W : Item → Prop) (hI : Items h0 W)
    (hC : Consistent us h0 n m W) (hO : ObjsAgree W) (nm : String)
    (o no : Nat) (u : Option (List String)) (l : Nat)
    (nm2 : String) (o2 no2 : Nat) (u2 : Option (List String)) (l2 : Nat) (s : St) (f' : Field) (s' : St)
    (ms : MemoSem us h0 n m W s) (hcv : s.conv = us.conv) (hit : W (.both .sigma o u o2 u2))
    (oa ob0 : Obj) (hoa : h0[o]? = some oa) (hob0 : h0[o2]? = some ob0) (hno : no = oa.rows.length)
    (h : extendLeaf us nm .sigma o no u l (.leaf nm2 .sigma o2 no2 u2 l2) s = .ok (f', s')) :
    LeafPost us h0 n m s' (.both .sigma o u o2 u2) nm .sigma u l f' ∧ HeapExt s.heap s'.heap ∧
      MemoSem us h0 n m W s' ∧ s'.conv = us.conv ∧ PersistW W s s' :=
  extendLeaf_flat_step hI hC hO rfl ms hcv (fun _ => hit) hoa hob0 hno h

/-- the padding of a time / time-delta / sigma leaf only one dataset has (`front = false`: only self, `m` empty values at
the end; `front = true`: only other, `n` in front) under the invariant -/
theorem pad_leaf_under_invariant (us : Units) (h0 : Heap) (n m : Nat) (W : Item → Prop) (hI : Items h0 W)
    (hC : Consistent us h0 n m W) (hO : ObjsAgree W) (front : Bool) (nm : String) (k : Kind)
    (hk : k = .time ∨ k = .timeDelta ∨ k = .sigma)
    (o no : Nat) (u : Option (List String)) (l : Nat) (s : St) (f' : Field) (s' : St)
    (ms : MemoSem us h0 n m W s) (hcv : s.conv = us.conv)
    (hit : W (if front then .otherOnly k o else .selfOnly k o))
    (oa : Obj) (hoa : h0[o]? = some oa) (hno : front = false → no = oa.rows.length)
    (cnt : Nat) (hcnt : cnt = if front then n else m)
    (h : padField front cnt (.leaf nm k o no u l) s = .ok (f', s')) :
    LeafPost us h0 n m s' (if front then .otherOnly k o else .selfOnly k o) nm k u l f' ∧ HeapExt s.heap s'.heap ∧
      MemoSem us h0 n m W s' ∧ s'.conv = us.conv ∧ PersistW W s s' :=
  padField_flat_step hI hC hO (by rcases hk with rfl | rfl | rfl <;> rfl) ms hcv (fun _ => hit) hoa hno hcnt h

/-- **content of `Dataset.extend`, datasets of flat leaf fields** (bool, float, text, sigma, time, time delta at the top
level; self not empty): under `Consistent` and `ObjsAgree` of the units of work `itemsOf d.fields e.fields` (see the
section comment above for what they are meant to capture) **every field of the result holds exactly what the table
demands** of its unit of work: rows
(`self ++ converted other`, `self ++ m empty`, `n empty ++ other`) and scale/format of `Item.exp`, `num_obs` = their
number; every name of self is still there; the declared count is `n + m`.
Not covered: nested collections and the position kinds with their attachments. -/
theorem extend_refines_records_flat_partial (us : Units) (h : Heap) (d e : DS) (h' : Heap) (d' : DS)
    (hok : dsExtend us h d e = .ok (h', d'))
    (hn : d.numObs ≠ 0)
    (hS : ∀ f ∈ d.fields, FlatLeaf h d.numObs f) (hE : ∀ g ∈ e.fields, FlatLeaf h e.numObs g)
    (hkS : ∀ f ∈ d.fields, KindsOK h f) (hkE : ∀ g ∈ e.fields, KindsOK h g)
    (ndS : (names d.fields).Nodup) (ndE : (names e.fields).Nodup)
    (hC : Consistent us h d.numObs e.numObs (itemsOf d.fields e.fields))
    (hO : ObjsAgree (itemsOf d.fields e.fields)) :
    (∀ x ∈ d'.fields, ∃ it nm k u l r no' ex, itemsOf d.fields e.fields it ∧ x = .leaf nm k r no' u l ∧
        it.exp us h d.numObs e.numObs = some ex ∧ IsRes h' r ex ∧ no' = ex.1.length) ∧
      (∀ x ∈ names d.fields, x ∈ names d'.fields) ∧ d'.numObs = d.numObs + e.numObs := by
  obtain ⟨s', hs', _, hall, hsub, hno, _⟩ := dsExtend_flat us h d e h' d' hok hn hS hE hkS hkE ndS ndE hC hO
  refine ⟨?_, hsub, hno⟩
  intro x hx
  obtain ⟨it, nm, k, u, l, hw, ⟨r, no', ex, h1, h2, h3, h4, _⟩, _⟩ := hall x hx
  exact ⟨it, nm, k, u, l, r, no', ex, hw, h1, h2, hs' ▸ h3, h4⟩

/-- **sharing under `Dataset.extend`, datasets of flat leaf fields**: two fields of self that hold ONE array (of a kind whose
`insert` uses the memo: time, time delta, sigma) hold ONE array after `Dataset.extend` (same hypotheses, same restriction) -/
theorem extend_keeps_sharing_flat_partial (us : Units) (h : Heap) (d e : DS) (h' : Heap) (d' : DS)
    (hok : dsExtend us h d e = .ok (h', d'))
    (hn : d.numObs ≠ 0)
    (hS : ∀ f ∈ d.fields, FlatLeaf h d.numObs f) (hE : ∀ g ∈ e.fields, FlatLeaf h e.numObs g)
    (hkS : ∀ f ∈ d.fields, KindsOK h f) (hkE : ∀ g ∈ e.fields, KindsOK h g)
    (ndS : (names d.fields).Nodup) (ndE : (names e.fields).Nodup)
    (hC : Consistent us h d.numObs e.numObs (itemsOf d.fields e.fields))
    (hO : ObjsAgree (itemsOf d.fields e.fields))
    (nm1 nm2 : String) (k1 k2 : Kind) (o no1 no2 : Nat) (u1 u2 : Option (List String)) (l1 l2 : Nat)
    (h1 : Field.leaf nm1 k1 o no1 u1 l1 ∈ d.fields) (h2 : Field.leaf nm2 k2 o no2 u2 l2 ∈ d.fields)
    (hnp : k1.isPlain = false) :
    ∃ x1 x2 r no1' no2' k1' k2' u1' u2' l1' l2', x1 ∈ d'.fields ∧ x2 ∈ d'.fields ∧
      x1 = .leaf nm1 k1' r no1' u1' l1' ∧ x2 = .leaf nm2 k2' r no2' u2' l2' := by
  obtain ⟨s', _, ms, hall, hsub, _, hI⟩ := dsExtend_flat us h d e h' d' hok hn hS hE hkS hkE ndS ndE hC hO
  obtain ⟨ob, hob, hk1⟩ : ∃ ob, h[o]? = some ob ∧ ob.kind = k1 := by
    have := hkS _ h1; simpa [KindsOK] using this
  have getx : ∀ nm k no u l, Field.leaf nm k o no u l ∈ d.fields → ∃ x ∈ d'.fields, x.name = nm := by
    intro nm k no u l hin
    have := hsub nm (List.mem_map_of_mem (f := Field.name) hin)
    obtain ⟨x, hx, hxn⟩ := List.mem_map.mp this
    exact ⟨x, hx, hxn⟩
  obtain ⟨x1, hx1, hn1⟩ := getx _ _ _ _ _ h1
  obtain ⟨x2, hx2, hn2⟩ := getx _ _ _ _ _ h2
  obtain ⟨it1, a1, b1, c1, d1, hw1, lp1, src1⟩ := hall x1 hx1
  obtain ⟨it2, a2, b2, c2, d2, hw2, lp2, src2⟩ := hall x2 hx2
  have ho1 : o ∈ it1.objs := src1 _ _ _ _ _ _ h1 hn1.symm
  have ho2 : o ∈ it2.objs := src2 _ _ _ _ _ _ h2 hn2.symm
  have kind_it : ∀ it, itemsOf d.fields e.fields it → o ∈ it.objs → it.kind.isPlain = false := by
    intro it hw ho
    obtain ⟨ob', hob', hk'⟩ := hI.lt it hw o ho
    rw [hob] at hob'; cases hob'
    rw [← hk', hk1]; exact hnp
  have np1 := kind_it it1 hw1 ho1
  have np2 := kind_it it2 hw2 ho2
  obtain ⟨r1, n1, e1, hx1e, _, _, _, ow1⟩ := lp1
  obtain ⟨r2, n2, e2, hx2e, _, _, _, ow2⟩ := lp2
  obtain ⟨p1, hp1, hf1⟩ := ow1 np1
  obtain ⟨p2, hp2, hf2⟩ := ow2 np2
  have hp2' : p2 ∈ it1.objs := ((hO it1 it2 hw1 hw2 np1 np2 ⟨o, ho1, ho2⟩) p2).mpr hp2
  have hr : r1 = r2 := ms.agree it1 hw1 np1 p1 hp1 p2 hp2' r1 r2 hf1 hf2
  subst hr
  subst hx1e; subst hx2e
  simp only [Field.name] at hn1 hn2
  subst hn1; subst hn2
  exact ⟨_, _, r1, n1, n2, b1, b2, c1, c2, d1, d2, hx1, hx2, rfl, rfl⟩

/-- the sort key of a time field is the VALUE the field holds (third component of a row, after jd1 and jd2), not a
number derived from the Julian date: epochs that are different in the field have different keys -/
theorem sort_key_is_field_value (j1 j2 v : Scalar) (rest : Row) (hv : v ≠ .nan) :
    timeKey (j1 :: j2 :: v :: rest) = v := by
  cases v <;> simp_all [timeKey]

/-- extending a float field: the other field's rows, each column multiplied by the unit factor
`Unit(other unit, own unit)` of that column, spliced in at the field's `num_obs` ("unit conversion for
differing units") -/
theorem extend_float_converts_units (us : Units) (nm : String) (o no : Nat) (u : Option (List String)) (l : Nat)
    (nm2 : String) (o2 no2 : Nat) (u2 : Option (List String)) (l2 : Nat) (s : St) (f' : Field) (s' : St)
    (h : extendLeaf us nm .float o no u l (.leaf nm2 .float o2 no2 u2 l2) s = .ok (f', s')) :
    ∃ oa ob fs o' no' orr, s.heap[o]? = some oa ∧ s.heap[o2]? = some ob ∧ unitFactors us u u2 = .ok fs ∧
      f' = .leaf nm .float o' no' u l ∧ s'.heap[o']? = some orr ∧
      orr.rows = insertAt oa.rows no (ob.rows.map (scaleRow fs)) := by
  obtain ⟨oa, ob, o', hoa, hob, _, _, rfl, hop⟩ := extendLeaf_ok h
  rcases hop with ⟨hp, _⟩ | ⟨_, _, _, brows, hins, ⟨_, fs, hfs, rfl⟩ | ⟨hne, _⟩⟩ | ⟨hs, _⟩
  · cases hp
  · obtain ⟨oa', orr, q1, q2, q3, _⟩ := insertPlain_rows hins
    rw [hoa] at q1; cases q1
    exact ⟨oa, ob, fs, o', _, orr, hoa, hob, hfs, rfl, q2, q3⟩
  · exact absurd rfl hne
  · cases hs

/-- the sort index of `merge_with(sort_by=…)` (`kind="stable"`) is a permutation of
the row numbers, sorted by key, and stable -/
theorem sort_is_stable_permutation (keys : List Scalar) :
    (argsortStable keys).Perm (List.range keys.length) ∧
    SortedBy (fun i => keys.getD i .nan) (argsortStable keys) ∧
    StableBy (fun i => keys.getD i .nan) (argsortStable keys) :=
  ⟨argsortStable_perm keys, argsortStable_sorted keys, argsortStable_stable keys⟩

/-- the sorting half of `merge_with(sort_by=…)` keeps the table rectangular and well-formed, with the same number of
rows, and only adds to the heap.  (That it is the `subset` by the sort index — every column the image of the old one under
`argsortStable keys` — is `dsSort_spec`, `Proofs/DatasetOpsRect.lean`.) -/
theorem sort_refines (h : Heap) (d : DS) (p : Path) (h' : Heap) (d' : DS)
    (hok : dsSort h d p = .ok (h', d')) (hd : Rect h d) (ok : DSOK d) :
    HeapExt h h' ∧ Rect h' d' ∧ DSOK d' ∧ d'.numObs = d.numObs :=
  dsSort_ok hok hd ok

/-- **`Dataset.extend` refines the list-of-records `extend`**, for datasets all of whose columns (at any nesting
depth) are plain arrays (bool / float / text): the abstraction (names, kinds, units, levels and the rows, no
heap, no memo, no `num_obs`) of the extended dataset is the pure function `aExtendFields` of the abstractions of
the two operands — a column in both tables has the rows of self followed by the rows of other (float: times the
unit factor), a column only in self gets `m` empty values at the end, a column only in other `n` empty values in
front, collections recurse (see `records_extend_float`, `records_extend_plain`, `records_pad`).
PARTIAL: the full statement is the same equation for datasets with every field type (sigma, time, time delta,
position, posvel and the deltas with their `other` / `ref_pos` attachments); there `insert` consults the memo,
and the equation needs the additional hypothesis that the two datasets share their objects compatibly.  Those
kinds are covered by `extend_counts` (row counts), `insert_splices_rows` (array level), for top-level leaves of sigma /
time / time delta by `extend_refines_records_flat_partial` (pointwise content), and by the correspondence. -/
theorem extend_refines_records_partial (us : Units) (h : Heap) (d e : DS) (h' : Heap) (d' : DS)
    (hok : dsExtend us h d e = .ok (h', d')) (hd : Rect h d) (he : Rect h e) (okd : DSOK d) (oke : DSOK e)
    (hpd : Field.plain.plainL d.fields = true) (hpe : Field.plain.plainL e.fields = true) :
    aExtendFields us d.numObs e.numObs (absField.absFields h d.fields) (absField.absFields h e.fields) =
      some (absField.absFields h' d'.fields) := by
  obtain ⟨no', s', hx, rfl, _⟩ := dsExtend_root hok hd he
  have ab := (extendField_full us d.numObs e.numObs _ _ _ _ _ hx (fun a v hav => by cases hav)
    (DS.rect_root.mpr hd) (DS.rect_root.mpr he) (DS.wff_root.mpr okd) (DS.wff_root.mpr oke)).2 hpd hpe
  simp only [DS.root, absField, aExtend] at ab
  simp only [aExtendFields]
  split at ab
  · cases ab
  · simpa using ab

/-- the list-of-records `extend` on a float column present in both tables: the rows of self, then the rows
of other with every column multiplied by `Unit(other unit, own unit)`; name, unit and level are self's -/
theorem records_extend_float (us : Units) (n m : Nat) (nm nm2 : String) (nd c : Nat) (u u2 : Option (List String))
    (l l2 : Nat) (rows rows2 : List Row) (fs : List Rat) (hu : unitFactors us u u2 = .ok fs) :
    aExtend us n m (.leaf nm .float nd c u l rows) (.leaf nm2 .float nd c u2 l2 rows2) =
      some (.leaf nm .float nd c u l (rows ++ rows2.map (scaleRow fs))) := by
  simp [aExtend, aExtendLeaf, hu]

/-- … on a bool / text column: the rows of self, then the rows of other -/
theorem records_extend_plain (us : Units) (n m : Nat) (nm nm2 : String) (k : Kind) (nd c : Nat)
    (u u2 : Option (List String)) (l l2 : Nat) (rows rows2 : List Row) (hk : k = .bool ∨ k = .text) :
    aExtend us n m (.leaf nm k nd c u l rows) (.leaf nm2 k nd c u2 l2 rows2) =
      some (.leaf nm k nd c u l (rows ++ rows2)) := by
  rcases hk with rfl | rfl <;> simp [aExtend, aExtendLeaf, Kind.isPlain]

/-- a column missing on one side: `k` empty values of its type (NaN / False / "") after, or in front of, its rows -/
theorem records_pad (front : Bool) (k : Nat) (nm : String) (kd : Kind) (nd c : Nat) (u : Option (List String)) (l : Nat)
    (rows : List Row) :
    aPad front k (.leaf nm kd nd c u l rows) =
      .leaf nm kd nd c u l (if front then List.replicate k (emptyRow kd c) ++ rows else rows ++ List.replicate k (emptyRow kd c)) := by
  simp [aPad]

/-- `Dataset.difference` returns a rectangular, well-formed table with at least one row: every field, nested
field and attached object has `num_obs` rows (no assumption on the operands: both selections have the
number of paired rows, or the operation fails) -/
theorem difference_rectangular (us : Units) (h : Heap) (d e : DS) (ib : Option (List String)) (cs co : Bool)
    (h' : Heap) (r : DS) (hok : dsDifference us h d e ib cs co = .ok (h', r)) :
    HeapExt h h' ∧ Rect h' r ∧ DSOK r ∧ r.numObs ≠ 0 := by
  obtain ⟨a, b, c⟩ := dsDifference_ok hok
  obtain ⟨_, _, _, _, hc, hn, _⟩ := dsDifference_spec hok
  exact ⟨a, b, c, by rw [hn]; exact hc⟩

/-- the common keys are strictly ascending (hence distinct) and are exactly the keys both lists carry -/
theorem common_keys_sorted_distinct (A B : List Key) :
    (commonKeys A B).Pairwise KeyLt ∧ (commonKeys A B).Nodup ∧ ∀ k, k ∈ commonKeys A B ↔ k ∈ A ∧ k ∈ B :=
  ⟨commonKeys_sorted A B, (commonKeys_sorted A B).imp (fun hlt => hlt.2), mem_commonKeys A B⟩

/-- the row paired with a key is the first row that carries it -/
theorem first_occurrence (A : List Key) (k : Key) (hk : k ∈ A) :
    A[A.idxOf k]? = some k ∧ ∀ j, j < A.idxOf k → A[j]? ≠ some k :=
  ⟨Lists.getElem?_idxOf hk, fun j hj => Lists.idxOf_first A k j hj⟩

/-- **difference pairs rows by the index fields.**  With `A`, `B` the key tuples of the rows of self and of
other: the result has one row per common key, in strictly ascending key order; with `i_k` / `j_k` the first
row of self / other carrying the `k`-th common key, every field `x` of the result is
`DiffAny … (ints i) (ints j) …` — the difference (or `_self` / `_other` copy, or collection of such, to any depth)
of a pair of fields of the same name built with exactly these two index arrays — or one of the index fields,
copied from self with the index array `i`. -/
theorem difference_pairs_by_key (us : Units) (h : Heap) (d e : DS) (nms : List String) (cs co : Bool)
    (h' : Heap) (r : DS) (hok : dsDifference us h d e (some nms) cs co = .ok (h', r)) :
    ∃ ca cb A B, nms.mapM (indexColumn h d) = .ok ca ∧ nms.mapM (indexColumn h e) = .ok cb ∧
      keyRows ca = .ok A ∧ keyRows cb = .ok B ∧
      (commonKeys A B).Pairwise KeyLt ∧ (∀ k, k ∈ commonKeys A B ↔ k ∈ A ∧ k ∈ B) ∧
      (∀ k ∈ commonKeys A B, (A[A.idxOf k]? = some k ∧ ∀ j, j < A.idxOf k → A[j]? ≠ some k) ∧
                              (B[B.idxOf k]? = some k ∧ ∀ j, j < B.idxOf k → B[j]? ≠ some k)) ∧
      r.numObs = (commonKeys A B).length ∧ r.numObs ≠ 0 ∧
      ∀ x ∈ r.fields,
        DiffOf.DiffAny us (.ints ((commonKeys A B).map (fun k => Int.ofNat (A.idxOf k))))
          (.ints ((commonKeys A B).map (fun k => Int.ofNat (B.idxOf k)))) (commonKeys A B).length h'
          d.fields e.fields x ∨
        (IndexCopy (.ints ((commonKeys A B).map (fun k => Int.ofNat (A.idxOf k)))) (commonKeys A B).length h' d.fields x ∧
          x.name ∈ nms) := by
  obtain ⟨si, oi, cnt, hidx, hc, hn, _, _, hall⟩ := dsDifference_spec hok
  obtain ⟨ca, cb, A, B, h1, h2, h3, h4, rfl, rfl, rfl⟩ := diffIndex_keyed hidx
  refine ⟨ca, cb, A, B, h1, h2, h3, h4, commonKeys_sorted A B, mem_commonKeys A B, ?_, hn, by rw [hn]; exact hc, ?_⟩
  · intro k hk
    obtain ⟨ka, kb⟩ := (mem_commonKeys A B k).mp hk
    exact ⟨first_occurrence A k ka, first_occurrence B k kb⟩
  · intro x hx
    simpa using hall x hx

/-- reading a difference array with row-number indices: row `n` of the result is row `is[n]` of self minus
row `js[n]` of other times the unit factors (column by column; NaN propagates) -/
theorem difference_row (us : Units) (h : Heap) (k : Kind) (u u2 : Option (List String)) (o o2 r : Nat)
    (is js : List Nat) (hl : is.length = js.length)
    (hd : DiffObj us (.ints (is.map Int.ofNat)) (.ints (js.map Int.ofNat)) h k u u2 o o2 r) :
    ∃ oa ob orr fs, h[o]? = some oa ∧ h[o2]? = some ob ∧ h[r]? = some orr ∧ diffFactors us u u2 = .ok fs ∧
      orr.rows.length = is.length ∧
      ∀ n (hn : n < is.length), ∃ ra rb, oa.rows[is[n]]? = some ra ∧ ob.rows[js[n]'(hl ▸ hn)]? = some rb ∧
        orr.rows[n]? = some (subRow ra (scaleRow fs rb)) := by
  obtain ⟨oa, ob, orr, ra, rb, fs, h1, h2, h3, h4, h5, h6, h7, _⟩ := hd
  obtain ⟨la, ga⟩ := pick_nats is oa.rows ra h4
  obtain ⟨lb, gb⟩ := pick_nats js ob.rows rb h5
  refine ⟨oa, ob, orr, fs, h1, h2, h3, h6, by rw [h7]; simp [la, lb, hl], ?_⟩
  intro n hn
  have hn' : n < js.length := hl ▸ hn
  obtain ⟨ea, ia⟩ := ga n hn
  obtain ⟨eb, ib⟩ := gb n hn'
  refine ⟨oa.rows[is[n]], ob.rows[js[n]], List.getElem?_eq_getElem ia, List.getElem?_eq_getElem ib, ?_⟩
  have xa : ra[n]? = some oa.rows[is[n]] := by rw [ea, List.getElem?_eq_getElem ia]
  have xb : rb[n]? = some ob.rows[js[n]] := by rw [eb, List.getElem?_eq_getElem ib]
  rw [h7, List.getElem?_zipWith, xa, List.getElem?_map, xb]
  rfl

/-- **without `index_by` rows pair by position**: the numbers of observations must agree, and every field of
the result (at any depth) is built with the all-true masks, i.e. row `k` with row `k` -/
theorem difference_pairs_by_position (us : Units) (h : Heap) (d e : DS) (cs co : Bool)
    (h' : Heap) (r : DS) (hok : dsDifference us h d e none cs co = .ok (h', r)) :
    d.numObs = e.numObs ∧ r.numObs = d.numObs ∧ r.numObs ≠ 0 ∧
      ∀ x ∈ r.fields, DiffOf.DiffAny us (.mask (List.replicate d.numObs true)) (.mask (List.replicate d.numObs true))
        d.numObs h' d.fields e.fields x := by
  obtain ⟨si, oi, cnt, hidx, hc, hn, _, _, hall⟩ := dsDifference_spec hok
  obtain ⟨heq, rfl, rfl, rfl⟩ := diffIndex_positional hidx
  refine ⟨heq, hn, by rw [hn]; exact hc, fun x hx => ?_⟩
  rcases hall x hx with h0 | h0
  · exact h0
  · simp at h0

/-- reading a difference array built with the all-true masks: the arrays have `n` rows each and row `k` of
the result is row `k` of self minus row `k` of other times the unit factors -/
theorem difference_row_positional (us : Units) (h : Heap) (k : Kind) (u u2 : Option (List String)) (o o2 r n : Nat)
    (hd : DiffObj us (.mask (List.replicate n true)) (.mask (List.replicate n true)) h k u u2 o o2 r) :
    ∃ oa ob orr fs, h[o]? = some oa ∧ h[o2]? = some ob ∧ h[r]? = some orr ∧ diffFactors us u u2 = .ok fs ∧
      oa.rows.length = n ∧ ob.rows.length = n ∧
      orr.rows = List.zipWith subRow oa.rows (ob.rows.map (scaleRow fs)) := by
  obtain ⟨oa, ob, orr, ra, rb, fs, h1, h2, h3, h4, h5, h6, h7, _⟩ := hd
  obtain ⟨rfl, la⟩ := pick_mask_all n oa.rows ra h4
  obtain ⟨rfl, lb⟩ := pick_mask_all n ob.rows rb h5
  exact ⟨oa, ob, orr, fs, h1, h2, h3, h6, la, lb, h7⟩

/-- unequal numbers of observations without `index_by`: `ValueError`, whatever the fields -/
theorem difference_unequal_lengths (us : Units) (h : Heap) (d e : DS) (cs co : Bool) (hne : d.numObs ≠ e.numObs) :
    dsDifference us h d e none cs co = .error .value := by
  have : (d.numObs != e.numObs) = true := by simpa using hne
  simp [dsDifference, diffIndex, this]

/-- no pair of rows (with `index_by`: no key tuple in common): `ValueError`, whatever the fields -/
theorem difference_nothing_in_common (us : Units) (h : Heap) (d e : DS) (ib : Option (List String)) (cs co : Bool)
    (si oi : Index) (hidx : diffIndex h d e ib = .ok (si, oi, 0)) :
    dsDifference us h d e ib cs co = .error .value := by
  simp [dsDifference, hidx]

example : pick (.mask [true, false, true]) [1, 2, 3] = .ok [1, 3] := rfl
example : pick (.ints [-1, 0]) [1, 2, 3] = .ok [3, 1] := rfl
example : pick (.ints [3]) [1, 2, 3] = (.error .index : M (List Nat)) := rfl
example : argsortStable [.num 2, .num 1, .num 2, .num 1] = [1, 3, 0, 2] := by decide +kernel

/-- self: keys `a b a` (a duplicate), `g.x = 1 2 3`; other: keys `b a`, `g.x = 10 20` -/
def exHeap : Heap := [
  { kind := .text, ndim := 1, cols := 1, rows := [[.txt "a"], [.txt "b"], [.txt "a"]] },
  { kind := .float, ndim := 1, cols := 1, rows := [[.num 1], [.num 2], [.num 3]] },
  { kind := .text, ndim := 1, cols := 1, rows := [[.txt "b"], [.txt "a"]] },
  { kind := .float, ndim := 1, cols := 1, rows := [[.num 10], [.num 20]] } ]
def exD : DS := { numObs := 3, fields := [.leaf "k" .text 0 3 none 3, .coll "g" 3 3 [.leaf "x" .float 1 3 none 3]] }
def exE : DS := { numObs := 2, fields := [.leaf "k" .text 2 2 none 3, .coll "g" 2 3 [.leaf "x" .float 3 2 none 3]] }

/-- the hypotheses of `difference_pairs_by_key` / `difference_rectangular` are satisfiable: keys `a`, `b` in
ascending order, paired with the first rows carrying them (0, 1 of self; 1, 0 of other); the nested field
`g.x` (heap object 8) is `1 − 20, 2 − 10` -/
example : (dsDifference {} exHeap exD exE (some ["k"]) false false).toOption.map
      (fun p => (p.2.numObs, names p.2.fields, (p.1.getD 8 default).rows, (p.1.getD 9 default).rows))
    = some (2, ["g", "k"], [[.num (-19)], [.num (-8)]], [[.txt "a"], [.txt "b"]]) := by decide +kernel
/-- by position: unequal lengths fail, equal lengths pair row `k` with row `k` -/
example : dsDifference {} exHeap exD exE none false false = .error .value :=
  difference_unequal_lengths _ _ _ _ _ _ (by decide)
example : (dsDifference {} exHeap exD exD none true false).toOption.map
      (fun p => (p.2.numObs, names p.2.fields, (p.1.getD 8 default).rows))
    = some (3, ["k_self", "g"], [[.num 0], [.num 0], [.num 0]]) := by decide +kernel
example : intersectKeys [[.num 1], [.num 1], [.num 2]] [[.num 2], [.num 3], [.num 1]] = [(0, 2), (2, 0)] := by
  decide +kernel
example : intersectKeys [[.txt "a"]] [[.txt "b"]] = [] := by decide +kernel
/-- the list-of-records `extend`: `x` (bit) gets other's `x` (byte, factor 8) appended, `y` only in other gets two
NaN in front, `z` only in self one NaN at the end -/
example : (aExtendFields { table := [("byte", "bit", 8)] } 2 1
    [.leaf "x" .float 1 1 (some ["bit"]) 3 [[.num 1], [.num 2]], .leaf "z" .float 1 1 none 3 [[.num 5], [.num 6]]]
    [.leaf "y" .float 1 1 none 2 [[.num 7]], .leaf "x" .float 1 1 (some ["byte"]) 1 [[.num 3]]]).map aLeaves.aLeavesL =
    some [("x", [[.num 1], [.num 2], [.num 24]]), ("z", [[.num 5], [.num 6], [.nan]]),
          ("y", [[.nan], [.nan], [.num 7]])] := by decide +kernel

def exUtc : Obj :=
  { kind := .time, ndim := 1, cols := 1, rows := [[.num 2451544.5, .num 0, .num 51544], [.num 2451545.5, .num 0, .num 51545]],
    tag := "utc/mjd" }
def exConv : Conv :=
  [(("utc/mjd", "gps/jd", [.num 2451544.5, .num 0, .num 51544]), [.num 2451544.5, .num (1/6400), .num 2451544.50015625]),
   (("utc/mjd", "gps/jd", [.num 2451545.5, .num 0, .num 51545]), [.num 2451545.5, .num (1/6400), .num 2451545.50015625])]

/-- the hypotheses of `insert_converts_each_epoch` are satisfiable: a UTC/mjd array spliced into a GPS/jd array (13.5 s
= 1/6400 d later, value shown as a Julian date) -/
example : needsConv "gps/jd" exUtc = true := by decide +kernel
example : convertible exConv "gps/jd" exUtc = true := by
  simp only [convertible, exUtc, exConv, needsConv]
  decide +kernel
example : convRows exConv "gps/jd" exUtc =
      [[.num 2451544.5, .num (1/6400), .num 2451544.50015625], [.num 2451545.5, .num (1/6400), .num 2451545.50015625]] := by
  decide +kernel
/-- same scale and format: nothing is converted -/
example : convRows exConv "utc/mjd" exUtc = exUtc.rows := insert_same_format_keeps_rows _ _ _ (Or.inl rfl)
/-- two epochs some microseconds apart (values in mjd) keep different sort keys although `jd1 + jd2` rounds to one float -/
example : timeKey [.num 2458849.5, .num (1/2), .num 58849.5000000001] = .num 58849.5000000001 :=
  sort_key_is_field_value _ _ _ _ (by decide)

def exGps : Obj :=
  { kind := .time, ndim := 1, cols := 1, rows := [[.num 2451540.5, .num 0, .num 2451540.5]], tag := "gps/jd" }
/-- the hypotheses of `extend_time_field_content` / `extend_keeps_sharing_partial` are satisfiable: a GPS/jd field of one
epoch extended by the UTC/mjd field of two epochs; the result (object 2) holds the three epochs in GPS/jd and is what a
second insert of either array hands out -/
example : (extendLeaf {} "t" .time 0 1 none 3 (.leaf "t" .time 1 2 none 3) { heap := [exGps, exUtc], conv := exConv }).toOption.map
      (fun p => (p.2.heap.getD 2 default).rows.length) = some 3 := by decide +kernel
example : (insertObj 3 0 1 1 { heap := [exGps, exUtc], conv := exConv }).toOption.map (fun p => (p.1, p.2.find 0, p.2.find 1))
    = some (2, some 2, some 2) := by decide +kernel

/-- the hypotheses of `extend_sigma_field_content` are satisfiable -/
example : (extendLeaf {} "s" .sigma 0 2 (some ["bit"]) 3 (.leaf "s" .sigma 1 1 (some ["bit"]) 3)
      { heap := [{ kind := .sigma, ndim := 1, cols := 1, rows := [[.num 1, .num 2], [.num 3, .num 4]] },
                 { kind := .sigma, ndim := 1, cols := 1, rows := [[.num 5, .num 6]] }] }).toOption.map
      (fun p => (p.2.heap.getD 3 default).rows) = some [[.num 1, .num 2], [.num 3, .num 4], [.num 5, .num 6]] := by
  decide +kernel

/-- the situation of the listed finding: `sent` and `received` are one array (object 0), the other dataset has only
`received`; and its absence when the other dataset has both names -/
example : splitSharing [.leaf "sent" .time 0 2 none 3, .leaf "received" .time 0 2 none 3] [.leaf "received" .time 1 1 none 3]
    = true := by decide +kernel
example : splitSharing [.leaf "sent" .time 0 2 none 3, .leaf "received" .time 0 2 none 3]
    [.leaf "received" .time 1 1 none 3, .leaf "sent" .time 1 1 none 3] = false := by decide +kernel
/-- the hypotheses of the two `…served_from_memo` theorems are satisfiable: after the insert of (0, 1) the memo knows 0 -/
example : ((insertObj 3 0 1 1 { heap := [exGps, exUtc], conv := exConv }).toOption.bind (fun p => p.2.find 0)) = some 2 := by
  decide +kernel

/-- the only unit of work of the examples below, which show that the hypotheses of the `…_under_invariant` theorems are
satisfiable: GPS/jd array 0 of self, UTC/mjd array 1 of other, the empty memo at the start of an `extend` -/
def exW : Item → Prop := fun it => it = .both .time 0 none 1 none
example : Items [exGps, exUtc] exW := ⟨by
  intro it hit o ho
  cases hit
  simp only [Item.objs, show (Kind.time == Kind.sigma) = false from rfl, Bool.false_eq_true, if_false,
    List.mem_cons, List.not_mem_nil, or_false] at ho
  rcases ho with rfl | rfl
  · exact ⟨exGps, rfl, rfl⟩
  · exact ⟨exUtc, rfl, rfl⟩⟩
example (us : Units) (n m : Nat) : Consistent us [exGps, exUtc] n m exW := by
  intro i j hi hj _ _ _; cases hi; cases hj; rfl
example : ObjsAgree exW := by
  intro i j hi hj _ _ _ x; cases hi; cases hj; rfl
example (us : Units) (n m : Nat) : MemoSem us [exGps, exUtc] n m exW { heap := [exGps, exUtc], conv := us.conv } :=
  MemoSem.start us _ n m exW

def exT0 : Obj := { kind := .time, ndim := 1, cols := 1, tag := "utc/mjd", rows := [[.num 2451544.5, .num 0, .num 51544], [.num 2451545.5, .num 0, .num 51545]] }
def exT1 : Obj := { kind := .time, ndim := 1, cols := 1, tag := "utc/mjd", rows := [[.num 2451546.5, .num 0, .num 51546]] }
def exDS : DS := { numObs := 2, fields := [.leaf "sent" .time 0 2 none 3, .leaf "received" .time 0 2 none 3] }
def exES : DS := { numObs := 1, fields := [.leaf "sent" .time 1 1 none 3, .leaf "received" .time 1 1 none 3] }

/-- (for the example below) the only unit of work of `exDS`, `exES` -/
theorem flat_example_items : ∀ it, itemsOf exDS.fields exES.fields it → it = .both .time 0 none 1 none := by
  intro it hit
  rcases hit with ⟨nm, k, a, no, u, l, nm2, b, no2, u2, l2, h1, h2, _, rfl⟩ | ⟨nm, k, a, no, u, l, h1, h2, rfl⟩ |
    ⟨nm, k, b, no, u, l, h1, h2, rfl⟩
  · simp [exDS, exES] at h1 h2
    rcases h1 with ⟨_, rfl, rfl, _, rfl, _⟩ | ⟨_, rfl, rfl, _, rfl, _⟩ <;>
      rcases h2 with ⟨_, _, rfl, _, rfl, _⟩ | ⟨_, _, rfl, _, rfl, _⟩ <;> rfl
  · simp [exDS, exES, names] at h1 h2
    rcases h1 with ⟨rfl, _⟩ | ⟨rfl, _⟩
    · exact absurd rfl h2.1
    · exact absurd rfl h2.2
  · simp [exDS, exES, names] at h1 h2
    rcases h1 with ⟨rfl, _⟩ | ⟨rfl, _⟩
    · exact absurd rfl h2.1
    · exact absurd rfl h2.2

/-- the hypotheses of `extend_refines_records_flat_partial` / `extend_keeps_sharing_flat_partial` are satisfiable, with
sharing: `sent` and `received` are ONE array in self (object 0) and ONE array in other (object 1) -/
example : ∃ h' d', dsExtend {} [exT0, exT1] exDS exES = .ok (h', d') ∧ exDS.numObs ≠ 0 ∧
    (∀ f ∈ exDS.fields, FlatLeaf [exT0, exT1] exDS.numObs f) ∧ (∀ g ∈ exES.fields, FlatLeaf [exT0, exT1] exES.numObs g) ∧
    (∀ f ∈ exDS.fields, KindsOK [exT0, exT1] f) ∧ (∀ g ∈ exES.fields, KindsOK [exT0, exT1] g) ∧
    (names exDS.fields).Nodup ∧ (names exES.fields).Nodup ∧
    Consistent {} [exT0, exT1] exDS.numObs exES.numObs (itemsOf exDS.fields exES.fields) ∧
    ObjsAgree (itemsOf exDS.fields exES.fields) := by
  refine ⟨_, _, rfl, by decide, ?_, ?_, ?_, ?_, by decide, by decide, ?_, ?_⟩
  · intro f hf
    simp [exDS] at hf
    rcases hf with rfl | rfl <;> exact ⟨_, _, _, _, _, _, exT0, rfl, rfl, rfl, rfl, rfl⟩
  · intro f hf
    simp [exES] at hf
    rcases hf with rfl | rfl <;> exact ⟨_, _, _, _, _, _, exT1, rfl, rfl, rfl, rfl, rfl⟩
  · intro f hf
    simp [exDS] at hf
    rcases hf with rfl | rfl <;> exact ⟨exT0, rfl, rfl⟩
  · intro f hf
    simp [exES] at hf
    rcases hf with rfl | rfl <;> exact ⟨exT1, rfl, rfl⟩
  · intro i j hi hj _ _ _
    rw [flat_example_items i hi, flat_example_items j hj]
  · intro i j hi hj _ _ _ x
    rw [flat_example_items i hi, flat_example_items j hj]

/-- does the history run? (executable) -/
def runs : W → List Op → Bool
  | _, [] => true
  | w, op :: ops => match step w op with
    | .ok (w', _) => runs w' ops
    | .error _ => false

theorem run_of_runs : ∀ (ops : List Op) (w : W), (∀ w op, op ∈ ops → Valid w op) → runs w ops = true → ∃ w', Run w ops w'
  | [], w, _, _ => ⟨w, .nil w⟩
  | op :: ops, w, hv, hr => by
    simp only [runs] at hr
    split at hr
    · rename_i w1 out hs
      obtain ⟨w', hrun⟩ := run_of_runs ops w1 (fun w o ho => hv w o (List.mem_cons_of_mem _ ho)) hr
      exact ⟨w', .cons (hv w op (by simp)) hs hrun⟩
    · simp at hr

/-- a history with differences (keyed, then of the result with itself by position) and a subset in between is a
`Run`, so `history_invariant` speaks about it -/
example : ∃ w', Run { heap := exHeap, ds := [some exD, some exE] }
    [.difference 0 1 2 (some ["k"]) true true, .subset 2 (.ints [1, 0, 1]), .difference 2 2 0 none false true] w' :=
  run_of_runs _ _ (fun w op hop => by
    simp only [List.mem_cons, List.not_mem_nil, or_false] at hop
    rcases hop with rfl | rfl | rfl <;> trivial) (by decide +kernel)

end Midgard.Props.C09

#print axioms Midgard.Props.C09.history_invariant
#print axioms Midgard.Props.C09.empty_world_ok
#print axioms Midgard.Props.C09.step_invariant
#print axioms Midgard.Props.C09.subset_refines
#print axioms Midgard.Props.C09.image_rows
#print axioms Midgard.Props.C09.pick_mask_in_order
#print axioms Midgard.Props.C09.pick_ints_in_order
#print axioms Midgard.Props.C09.subset_count_not_sum
#print axioms Midgard.Props.C09.subset_keeps_sharing
#print axioms Midgard.Props.C09.memo_registers
#print axioms Midgard.Props.C09.extend_counts
#print axioms Midgard.Props.C09.insert_at_end_appends
#print axioms Midgard.Props.C09.pad_front
#print axioms Midgard.Props.C09.insert_counts
#print axioms Midgard.Props.C09.insert_splices_rows
#print axioms Midgard.Props.C09.insert_same_format_keeps_rows
#print axioms Midgard.Props.C09.insert_converts_each_epoch
#print axioms Midgard.Props.C09.sort_key_is_field_value
#print axioms Midgard.Props.C09.extend_time_field_content
#print axioms Midgard.Props.C09.extend_keeps_sharing_partial
#print axioms Midgard.Props.C09.extend_sigma_field_content
#print axioms Midgard.Props.C09.extend_second_name_served_from_memo
#print axioms Midgard.Props.C09.pad_of_second_name_served_from_memo
#print axioms Midgard.Props.C09.insert_under_memo_invariant
#print axioms Midgard.Props.C09.extend_time_leaf_under_invariant
#print axioms Midgard.Props.C09.extend_sigma_leaf_under_invariant
#print axioms Midgard.Props.C09.pad_leaf_under_invariant
#print axioms Midgard.Props.C09.extend_refines_records_flat_partial
#print axioms Midgard.Props.C09.extend_keeps_sharing_flat_partial
#print axioms Midgard.Props.C09.flat_example_items
#print axioms Midgard.Props.C09.extend_float_converts_units
#print axioms Midgard.Props.C09.sort_is_stable_permutation
#print axioms Midgard.Props.C09.sort_refines
#print axioms Midgard.Props.C09.difference_rectangular
#print axioms Midgard.Props.C09.common_keys_sorted_distinct
#print axioms Midgard.Props.C09.first_occurrence
#print axioms Midgard.Props.C09.difference_pairs_by_key
#print axioms Midgard.Props.C09.difference_row
#print axioms Midgard.Props.C09.difference_pairs_by_position
#print axioms Midgard.Props.C09.difference_row_positional
#print axioms Midgard.Props.C09.difference_unequal_lengths
#print axioms Midgard.Props.C09.difference_nothing_in_common
#print axioms Midgard.Props.C09.run_of_runs
#print axioms Midgard.Props.C09.extend_refines_records_partial
#print axioms Midgard.Props.C09.records_extend_float
#print axioms Midgard.Props.C09.records_extend_plain
#print axioms Midgard.Props.C09.records_pad
