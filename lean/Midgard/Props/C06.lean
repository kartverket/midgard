/-
C06 — Local-frame conversions are proper rotations tied to the geodetic normal.

The statements of the property, about the definitions of `Model/Rotation.lean` and `Model/Frames.lean` (the same terms the
compiled driver runs at `Float` and `Rat`).  The algebra over a commutative ring is proved here; what holds of the definitions for any
number type (entries of `MᵀM = 1`, the triad in components, rows of arrays) is in Proofs/RotationEqs.lean, the surface facts behind
`up_is_surface_normal` in Proofs/GeoSurface.lean.

* Part A is pure algebra: it holds in every commutative ring `R` for every pair `(c, s)` with
  `c² + s² = 1` — in particular for the real cosine/sine of any angle (Part B), and, exactly, for
  the rational Pythagorean pairs the driver can be run on.
* Part B instantiates the model at `ℝ` (`Proofs/GeoReal.lean`) and adds what needs analysis:
  angle addition, `R(-a)`, derivatives, the ACR triad (square roots), azimuth/elevation; then the registered conversion
  graph, exact Pythagorean instances, and the axis rotations and ENU matrices regenerated from the source.
* Part C is the object / array level of `Model/Frames.lean` (also run by the driver): the frame
  properties of `_position.py` and the `delta_*` conversions regenerated from the source equal the
  model (whose frame is used), rows of an array are converted independently and there-and-back is
  the identity on arrays, row selection commutes with converting, the ranges of the reported
  angles (single objects; the array forms `rowsAzElZd`, `rowsAzElZdB` of the angles have no theorem), and — composed with
  the C05 model of `trs2llh` — Up is the surface normal for an observer on its ellipsoid.

Not proved (measured by the correspondence, harness/c06.py): the `< 1e-9` relative bound of the
IEEE evaluation; the principal ranges libm's `atan2`/`asin` return.
-/
import Midgard.Proofs.SourceTie
import Midgard.Generated.PositionSystems
import Midgard.Generated.SourceFrames
import Midgard.Proofs.RotationEqs
import Midgard.Proofs.Lists
import Midgard.Proofs.GeoSurface

namespace Midgard.Props.C06
open Midgard.Geo

/-! ## Part A — algebra over any commutative ring -/

section Algebra
variable {R : Type} [CommRing R]

def IsRotation (m : M3 R) : Prop :=
  m.transpose.mul m = M3.one ∧ m.mul m.transpose = M3.one ∧ m.det = 1

/-- `R(-a) = R(a)ᵀ` in `(c, s)` form: negating the angle negates the sine -/
theorem R_neg_eq_transpose (c s : R) :
    R1cs c (-s) = (R1cs c s).transpose ∧ R2cs c (-s) = (R2cs c s).transpose ∧
      R3cs c (-s) = (R3cs c s).transpose := by
  refine ⟨?_, ?_, ?_⟩ <;> apply M3.ext' <;> apply V3.ext' <;>
    simp only [R1cs, R2cs, R3cs, M3.transpose, M3.col1, M3.col2, M3.col3, neg_neg]

/-- `R(a) R(b) = R(a + b)` in `(c, s)` form: the product is the rotation of the angle-addition
pair `(c₁c₂ − s₁s₂, s₁c₂ + c₁s₂)` -/
theorem R_mul (c₁ s₁ c₂ s₂ : R) :
    (R1cs c₁ s₁).mul (R1cs c₂ s₂) = R1cs (c₁ * c₂ - s₁ * s₂) (s₁ * c₂ + c₁ * s₂) ∧
    (R2cs c₁ s₁).mul (R2cs c₂ s₂) = R2cs (c₁ * c₂ - s₁ * s₂) (s₁ * c₂ + c₁ * s₂) ∧
    (R3cs c₁ s₁).mul (R3cs c₂ s₂) = R3cs (c₁ * c₂ - s₁ * s₂) (s₁ * c₂ + c₁ * s₂) := by
  refine ⟨?_, ?_, ?_⟩ <;> apply M3.ext' <;> apply V3.ext' <;>
    simp only [R1cs, R2cs, R3cs, M3.mul, M3.col1, M3.col2, M3.col3, V3.dot] <;> ring

/-- an axis rotation family `Rk (c, s)` with `Rk(c, −s) = Rk(c, s)ᵀ`, `Rk(c₁, s₁)·Rk(c₂, s₂) = Rk` of the angle-addition pair
and `Rk(1, 0) = 1` is orthogonal for `c² + s² = 1`:  `RᵀR = Rk(c, −s)·Rk(c, s) = Rk(c² + s², 0) = 1` -/
theorem axis_orthogonal (Rk : R → R → M3 R) (hneg : ∀ c s, Rk c (-s) = (Rk c s).transpose)
    (hmul : ∀ c₁ s₁ c₂ s₂, (Rk c₁ s₁).mul (Rk c₂ s₂) = Rk (c₁ * c₂ - s₁ * s₂) (s₁ * c₂ + c₁ * s₂))
    (hone : Rk 1 0 = M3.one) (c s : R) (h : c ^ 2 + s ^ 2 = 1) :
    (Rk c s).transpose.mul (Rk c s) = M3.one ∧ (Rk c s).mul (Rk c s).transpose = M3.one := by
  have e1 : c * c - -s * s = 1 := by linear_combination h
  have e2 : -s * c + c * s = 0 := by ring
  have e3 : c * c - s * -s = 1 := by linear_combination h
  have e4 : s * c + c * -s = 0 := by ring
  rw [← hneg, hmul, hmul, e1, e2, e3, e4, hone]
  exact ⟨rfl, rfl⟩

theorem R1_rotation (c s : R) (h : c ^ 2 + s ^ 2 = 1) : IsRotation (R1cs c s) :=
  have o := axis_orthogonal R1cs (fun c s => (R_neg_eq_transpose c s).1) (fun c₁ s₁ c₂ s₂ => (R_mul c₁ s₁ c₂ s₂).1)
    (by simp only [R1cs, M3.one, neg_zero]) c s h
  ⟨o.1, o.2, by simp only [R1cs, M3.det, V3.dot, V3.cross]; linear_combination h⟩

theorem R2_rotation (c s : R) (h : c ^ 2 + s ^ 2 = 1) : IsRotation (R2cs c s) :=
  have o := axis_orthogonal R2cs (fun c s => (R_neg_eq_transpose c s).2.1) (fun c₁ s₁ c₂ s₂ => (R_mul c₁ s₁ c₂ s₂).2.1)
    (by simp only [R2cs, M3.one, neg_zero]) c s h
  ⟨o.1, o.2, by simp only [R2cs, M3.det, V3.dot, V3.cross]; linear_combination h⟩

theorem R3_rotation (c s : R) (h : c ^ 2 + s ^ 2 = 1) : IsRotation (R3cs c s) :=
  have o := axis_orthogonal R3cs (fun c s => (R_neg_eq_transpose c s).2.2) (fun c₁ s₁ c₂ s₂ => (R_mul c₁ s₁ c₂ s₂).2.2)
    (by simp only [R3cs, M3.one, neg_zero]) c s h
  ⟨o.1, o.2, by simp only [R3cs, M3.det, V3.dot, V3.cross]; linear_combination h⟩

/-- the published derivative matrices are the rotation by a quarter turn more, with the fixed
axis entry removed: `dR(c, s) = R(-s, c) − E_kk` (the `(cos, sin)` of `a + π/2` is `(-s, c)`) -/
theorem dR_eq_quarter_turn (c s : R) :
    dR1cs c s = ⟨⟨0, 0, 0⟩, (R1cs (-s) c).r2, (R1cs (-s) c).r3⟩ ∧
    dR2cs c s = ⟨(R2cs (-s) c).r1, ⟨0, 0, 0⟩, (R2cs (-s) c).r3⟩ ∧
    dR3cs c s = ⟨(R3cs (-s) c).r1, (R3cs (-s) c).r2, ⟨0, 0, 0⟩⟩ := by
  refine ⟨?_, ?_, ?_⟩ <;> simp only [dR1cs, dR2cs, dR3cs, R1cs, R2cs, R3cs]

theorem dot_preserved (m : M3 R) (h : m.transpose.mul m = M3.one) (u v : V3 R) :
    V3.dot (m.mulVec u) (m.mulVec v) = V3.dot u v := by
  obtain ⟨⟨e11, e12, e13⟩, ⟨e21, e22, e23⟩, e31, e32, e33⟩ := M3.orthonormal_cols h
  simp only [M3.mulVec, V3.dot]
  linear_combination (u.x * v.x) * e11 + (u.x * v.y) * e12 + (u.x * v.z) * e13
    + (u.y * v.x) * e21 + (u.y * v.y) * e22 + (u.y * v.z) * e23
    + (u.z * v.x) * e31 + (u.z * v.y) * e32 + (u.z * v.z) * e33

theorem norm_preserved (m : M3 R) (h : m.transpose.mul m = M3.one) (u : V3 R) :
    (m.mulVec u).norm2 = u.norm2 := dot_preserved m h u u

/-- converting there and back is the identity -/
theorem mulVec_transpose_cancel (m : M3 R) (h : m.transpose.mul m = M3.one) (u : V3 R) :
    m.transpose.mulVec (m.mulVec u) = u := by
  obtain ⟨⟨e11, e12, e13⟩, ⟨e21, e22, e23⟩, e31, e32, e33⟩ := M3.orthonormal_cols h
  apply V3.ext' <;> simp only [M3.mulVec, M3.transpose, M3.col1, M3.col2, M3.col3, V3.dot]
  · linear_combination u.x * e11 + u.y * e12 + u.z * e13
  · linear_combination u.x * e21 + u.y * e22 + u.z * e23
  · linear_combination u.x * e31 + u.y * e32 + u.z * e33

omit [CommRing R] in
theorem transpose_transpose (m : M3 R) : m.transpose.transpose = m := by
  apply M3.ext' <;> apply V3.ext' <;> simp only [M3.transpose, M3.col1, M3.col2, M3.col3]

theorem mulVec_cancel_transpose (m : M3 R) (h : m.mul m.transpose = M3.one) (u : V3 R) :
    m.mulVec (m.transpose.mulVec u) = u := by
  have := mulVec_transpose_cancel m.transpose (by rw [transpose_transpose]; exact h) u
  rwa [transpose_transpose] at this

/-- for unit, mutually perpendicular `c`, `r` the matrix with rows `(c × r, c, r)` is a proper
rotation (rows and columns orthonormal, determinant +1) -/
theorem triad_rotation (c r : V3 R) (hc : c.norm2 = 1) (hr : r.norm2 = 1) (hcr : V3.dot c r = 0) :
    IsRotation ⟨V3.cross c r, c, r⟩ := by
  simp only [V3.norm2, V3.dot] at hc hr hcr
  refine ⟨?_, ?_, ?_⟩
  · -- columns: (c × r)ᵢ(c × r)ⱼ + cᵢcⱼ + rᵢrⱼ = δᵢⱼ
    apply M3.ext' <;> apply V3.ext' <;>
      simp only [M3.transpose, M3.mul, M3.col1, M3.col2, M3.col3, V3.dot, V3.cross, M3.one]
    · linear_combination (r.x * r.x + r.y * r.y + r.z * r.z - r.x * r.x) * hc + (1 - c.x * c.x) * hr + (c.x * r.x + c.x * r.x - (c.x * r.x + c.y * r.y + c.z * r.z)) * hcr
    · linear_combination (-(r.x * r.y)) * hc + (-(c.x * c.y)) * hr + (c.x * r.y + c.y * r.x) * hcr
    · linear_combination (-(r.x * r.z)) * hc + (-(c.x * c.z)) * hr + (c.x * r.z + c.z * r.x) * hcr
    · linear_combination (-(r.y * r.x)) * hc + (-(c.y * c.x)) * hr + (c.y * r.x + c.x * r.y) * hcr
    · linear_combination (r.x * r.x + r.y * r.y + r.z * r.z - r.y * r.y) * hc + (1 - c.y * c.y) * hr + (c.y * r.y + c.y * r.y - (c.x * r.x + c.y * r.y + c.z * r.z)) * hcr
    · linear_combination (-(r.y * r.z)) * hc + (-(c.y * c.z)) * hr + (c.y * r.z + c.z * r.y) * hcr
    · linear_combination (-(r.z * r.x)) * hc + (-(c.z * c.x)) * hr + (c.z * r.x + c.x * r.z) * hcr
    · linear_combination (-(r.z * r.y)) * hc + (-(c.z * c.y)) * hr + (c.z * r.y + c.y * r.z) * hcr
    · linear_combination (r.x * r.x + r.y * r.y + r.z * r.z - r.z * r.z) * hc + (1 - c.z * c.z) * hr + (c.z * r.z + c.z * r.z - (c.x * r.x + c.y * r.y + c.z * r.z)) * hcr
  · -- rows: `|c × r|² = |c|²|r|² − (c·r)²`, `(c × r)·c = (c × r)·r = 0`
    apply M3.ext' <;> apply V3.ext' <;>
      simp only [M3.transpose, M3.mul, M3.col1, M3.col2, M3.col3, V3.dot, V3.cross, M3.one]
    · linear_combination (r.x * r.x + r.y * r.y + r.z * r.z) * hc + hr + (-(c.x * r.x + c.y * r.y + c.z * r.z)) * hcr
    · ring
    · ring
    · ring
    · exact hc
    · exact hcr
    · ring
    · linear_combination hcr
    · exact hr
  · simp only [M3.det, V3.dot, V3.cross]
    linear_combination (r.x * r.x + r.y * r.y + r.z * r.z) * hc + hr + (-(c.x * r.x + c.y * r.y + c.z * r.z)) * hcr

/-- `rotation.trs2enu` is the transpose of `rotation.enu2trs` -/
theorem trs2enu_eq_transpose (cl sl co so : R) :
    trs2enuCS cl sl co so = (enu2trsCS cl sl co so).transpose := by
  apply M3.ext' <;> apply V3.ext' <;>
    simp only [trs2enuCS, enu2trsCS, M3.transpose, M3.col1, M3.col2, M3.col3] <;> ring

/-- the rows of `trs2enu` are East, North, Up with `East = North × Up`: a right-handed orthonormal triad -/
theorem trs2enu_rotation (cl sl co so : R) (hl : cl ^ 2 + sl ^ 2 = 1) (ho : co ^ 2 + so ^ 2 = 1) :
    IsRotation (trs2enuCS cl sl co so) := by
  have h := triad_rotation (⟨-sl * co, -sl * so, cl⟩ : V3 R) ⟨cl * co, cl * so, sl⟩
    (by simp only [V3.norm2, V3.dot]; linear_combination (sl ^ 2) * ho + hl)
    (by simp only [V3.norm2, V3.dot]; linear_combination (cl ^ 2) * ho + hl)
    (by simp only [V3.dot]; linear_combination (-(sl * cl)) * ho)
  have e : V3.cross (⟨-sl * co, -sl * so, cl⟩ : V3 R) ⟨cl * co, cl * so, sl⟩ = ⟨-so, co, 0⟩ := by
    apply V3.ext' <;> simp only [V3.cross]
    · linear_combination (-so) * hl
    · linear_combination co * hl
    · ring
  rwa [e] at h

theorem det_transpose (m : M3 R) : m.transpose.det = m.det := by
  simp only [M3.transpose, M3.col1, M3.col2, M3.col3, M3.det, V3.dot, V3.cross]; ring

theorem isRotation_transpose {m : M3 R} (h : IsRotation m) : IsRotation m.transpose :=
  ⟨by rw [transpose_transpose]; exact h.2.1, by rw [transpose_transpose]; exact h.1, (det_transpose m).trans h.2.2⟩

theorem enu2trs_rotation (cl sl co so : R) (hl : cl ^ 2 + sl ^ 2 = 1) (ho : co ^ 2 + so ^ 2 = 1) :
    IsRotation (enu2trsCS cl sl co so) := by
  have h := isRotation_transpose (trs2enu_rotation cl sl co so hl ho)
  rwa [trs2enu_eq_transpose, transpose_transpose] at h

/-- the docstring's claim: `enu2trs(lat, lon) = R3(-(π/2 + lon)) @ R1(-(π/2 - lat))`, with
`(cos, sin)(-(π/2 + lon)) = (-so, -co)` and `(cos, sin)(-(π/2 - lat)) = (sl, -cl)` -/
theorem enu2trs_eq_R3_R1 (cl sl co so : R) :
    enu2trsCS cl sl co so = (R3cs (-so) (-co)).mul (R1cs sl (-cl)) := by
  apply M3.ext' <;> apply V3.ext' <;>
    simp only [enu2trsCS, R3cs, R1cs, M3.mul, M3.col1, M3.col2, M3.col3, V3.dot] <;> ring

/-- TRS → ENU → TRS and ENU → TRS → ENU are the identity on position differences -/
theorem delta_enu_roundtrip (cl sl co so : R) (hl : cl ^ 2 + sl ^ 2 = 1) (ho : co ^ 2 + so ^ 2 = 1)
    (d : V3 R) :
    deltaEnu2TrsCS cl sl co so (deltaTrs2EnuCS cl sl co so d) = d ∧
    deltaTrs2EnuCS cl sl co so (deltaEnu2TrsCS cl sl co so d) = d := by
  obtain ⟨h1, h2, _⟩ := enu2trs_rotation cl sl co so hl ho
  simp only [deltaEnu2TrsCS, deltaTrs2EnuCS, trs2enu_eq_transpose]
  exact ⟨mulVec_cancel_transpose _ h2 d, mulVec_transpose_cancel _ h1 d⟩

/-- lengths and angles of position differences are the same in TRS and ENU -/
theorem delta_enu_dot_preserved (cl sl co so : R) (hl : cl ^ 2 + sl ^ 2 = 1) (ho : co ^ 2 + so ^ 2 = 1)
    (u v : V3 R) :
    V3.dot (deltaTrs2EnuCS cl sl co so u) (deltaTrs2EnuCS cl sl co so v) = V3.dot u v :=
  dot_preserved _ (trs2enu_rotation cl sl co so hl ho).1 u v

/-! ### the triad: Up is the ellipsoid normal, East ⟂ axis and Up, North completes it -/

/-- `enu_up` is `n̂(lat, lon) = (cos lat cos lon, cos lat sin lon, sin lat)` — the direction along
which `llh2trs` moves when only the height changes (`Props/C05.lean`, `llh2trs_normal`), i.e. the
ellipsoid normal at the reference position -/
theorem up_is_normal (cl sl co so : R) : enuUpCS cl sl co so = normalCS cl sl co so := by
  apply V3.ext' <;> simp only [enuUpCS_eq, normalCS] <;> ring

/-- East is perpendicular to the rotation axis `(0, 0, 1)` and to Up -/
theorem east_perp_axis_up (cl sl co so : R) :
    V3.dot (enuEastCS cl sl co so) ⟨0, 0, 1⟩ = 0 ∧
    V3.dot (enuEastCS cl sl co so) (enuUpCS cl sl co so) = 0 := by
  constructor <;> simp only [enuEastCS_eq, enuUpCS_eq, V3.dot] <;> ring

/-- North completes the right-handed triad: `North = Up × East`, `East × North = Up`,
`North × Up = East` -/
theorem north_completes_triad (cl sl co so : R) (hl : cl ^ 2 + sl ^ 2 = 1) (ho : co ^ 2 + so ^ 2 = 1) :
    enuNorthCS cl sl co so = V3.cross (enuUpCS cl sl co so) (enuEastCS cl sl co so) ∧
    V3.cross (enuEastCS cl sl co so) (enuNorthCS cl sl co so) = enuUpCS cl sl co so ∧
    V3.cross (enuNorthCS cl sl co so) (enuUpCS cl sl co so) = enuEastCS cl sl co so := by
  refine ⟨?_, ?_, ?_⟩ <;> apply V3.ext' <;>
    simp only [enuEastCS_eq, enuNorthCS_eq, enuUpCS_eq, V3.cross] <;>
    first
      | ring1
      | linear_combination (-cl) * ho
      | linear_combination sl * ho
      | linear_combination (-so) * hl
      | linear_combination co * hl

/-- the ENU components of a vector are its projections on East, North, Up -/
theorem enu_components_are_projections (cl sl co so : R) (d : V3 R) :
    deltaTrs2EnuCS cl sl co so d =
      ⟨V3.dot d (enuEastCS cl sl co so), V3.dot d (enuNorthCS cl sl co so), V3.dot d (enuUpCS cl sl co so)⟩ := by
  apply V3.ext' <;>
    simp only [deltaTrs2EnuCS, trs2enuCS, enuEastCS_eq, enuNorthCS_eq, enuUpCS_eq, M3.mulVec, V3.dot] <;> ring

/-- `np.block([[M, 0], [0, M]]) @ (p | v) = (M p | M v)` -/
theorem blockDiag_mulVec (m : M3 R) (w : V6 R) :
    (M6.blockDiag m).mulVec w = ⟨m.mulVec w.p, m.mulVec w.v⟩ := by
  apply V6.ext' <;> apply V3.ext' <;>
    simp only [M6.blockDiag, M6.mulVec, M3.mulVec, M3.zero, V3.zero, V3.add, V3.dot] <;> ring

theorem blockDiag_transpose_mul (m n : M3 R) :
    (M6.blockDiag m).transpose.mul (M6.blockDiag n) = M6.blockDiag (m.transpose.mul n) := by
  simp only [M6.blockDiag, M6.transpose, M6.mul, M6.mk.injEq]
  refine ⟨?_, ?_, ?_, ?_⟩ <;> apply M3.ext' <;> apply V3.ext' <;>
    simp only [M3.transpose, M3.mul, M3.col1, M3.col2, M3.col3, M3.zero, V3.zero, V3.add, V3.dot] <;> ring

/-- the block-diagonal matrix of a rotation is orthogonal (not used below: the position/velocity round trips go half by half) -/
theorem block6_orth (m : M3 R) (h : m.transpose.mul m = M3.one) :
    (M6.blockDiag m).transpose.mul (M6.blockDiag m) = M6.one := by
  rw [blockDiag_transpose_mul, h]
  rfl

/-- position/velocity differences: TRS → ENU → TRS is the identity, lengths of both halves are kept -/
theorem delta_enu_posvel_roundtrip (cl sl co so : R) (hl : cl ^ 2 + sl ^ 2 = 1) (ho : co ^ 2 + so ^ 2 = 1)
    (w : V6 R) :
    deltaEnu2TrsPosVelCS cl sl co so (deltaTrs2EnuPosVelCS cl sl co so w) = w ∧
    (deltaTrs2EnuPosVelCS cl sl co so w).p.norm2 = w.p.norm2 ∧
    (deltaTrs2EnuPosVelCS cl sl co so w).v.norm2 = w.v.norm2 := by
  obtain ⟨h1, h2, _⟩ := enu2trs_rotation cl sl co so hl ho
  have ht := (trs2enu_rotation cl sl co so hl ho).1
  simp only [deltaEnu2TrsPosVelCS, deltaTrs2EnuPosVelCS, blockDiag_mulVec]
  refine ⟨?_, norm_preserved _ ht _, norm_preserved _ ht _⟩
  apply V6.ext' <;> simp only [trs2enu_eq_transpose] <;> exact mulVec_cancel_transpose _ h2 _

end Algebra

/-! ## Part B — the model at `ℝ` -/

section RealAngles

theorem R_rotation_real (a : ℝ) : IsRotation (R1 a) ∧ IsRotation (R2 a) ∧ IsRotation (R3 a) :=
  ⟨R1_rotation _ _ (Real.cos_sq_add_sin_sq a), R2_rotation _ _ (Real.cos_sq_add_sin_sq a),
   R3_rotation _ _ (Real.cos_sq_add_sin_sq a)⟩

theorem R_neg_real (a : ℝ) :
    R1 (-a) = (R1 a).transpose ∧ R2 (-a) = (R2 a).transpose ∧ R3 (-a) = (R3 a).transpose := by
  have h := R_neg_eq_transpose (Real.cos a) (Real.sin a)
  simp only [R1, R2, R3, trig_cos, trig_sin, Real.cos_neg, Real.sin_neg]
  exact h

theorem R_add_real (a b : ℝ) :
    (R1 a).mul (R1 b) = R1 (a + b) ∧ (R2 a).mul (R2 b) = R2 (a + b) ∧ (R3 a).mul (R3 b) = R3 (a + b) := by
  have h := R_mul (Real.cos a) (Real.sin a) (Real.cos b) (Real.sin b)
  simp only [R1, R2, R3, trig_cos, trig_sin, Real.cos_add, Real.sin_add]
  exact h

/-- the published derivative matrices `dR1`, `dR2`, `dR3` are, entry by entry, the derivatives of
`R1`, `R2`, `R3` with respect to the angle -/
theorem dR_hasDerivAt (a : ℝ) (i j : Fin 3) :
    HasDerivAt (fun t : ℝ => (R1 t).entry i j) ((dR1 a).entry i j) a ∧
    HasDerivAt (fun t : ℝ => (R2 t).entry i j) ((dR2 a).entry i j) a ∧
    HasDerivAt (fun t : ℝ => (R3 t).entry i j) ((dR3 a).entry i j) a := by
  have hc := Real.hasDerivAt_cos a
  have hs := Real.hasDerivAt_sin a
  have hns := hs.neg
  have h0 := hasDerivAt_const a (0 : ℝ)
  have h1 := hasDerivAt_const a (1 : ℝ)
  refine ⟨?_, ?_, ?_⟩ <;> fin_cases i <;> fin_cases j <;>
    simp only [R1, R2, R3, dR1, dR2, dR3, R1cs, R2cs, R3cs, dR1cs, dR2cs, dR3cs, M3.entry, trig_cos, trig_sin] <;>
    first | exact h0 | exact hc | exact hs | exact hns | simpa using h1

/-- for every latitude and longitude `enu2trs` and `trs2enu` are proper rotations and each
other's transpose (inverse) -/
theorem enu_rotation_real (lat lon : ℝ) :
    IsRotation (enu2trs lat lon) ∧ IsRotation (trs2enu lat lon) ∧
      trs2enu lat lon = (enu2trs lat lon).transpose :=
  ⟨enu2trs_rotation _ _ _ _ (Real.cos_sq_add_sin_sq lat) (Real.cos_sq_add_sin_sq lon),
   trs2enu_rotation _ _ _ _ (Real.cos_sq_add_sin_sq lat) (Real.cos_sq_add_sin_sq lon),
   trs2enu_eq_transpose _ _ _ _⟩

/-- the docstring of `rotation.enu2trs`: `enu2trs(lat, lon) = R3(-(π/2 + lon)) @ R1(-(π/2 - lat))` -/
theorem enu2trs_eq_R3_R1_real (lat lon : ℝ) :
    enu2trs lat lon = (R3 (-(Real.pi / 2 + lon))).mul (R1 (-(Real.pi / 2 - lat))) := by
  have h := enu2trs_eq_R3_R1 (Real.cos lat) (Real.sin lat) (Real.cos lon) (Real.sin lon)
  simp only [enu2trs, R3, R1, trig_cos, trig_sin, Real.cos_neg, Real.sin_neg, Real.cos_pi_div_two_sub,
    Real.sin_pi_div_two_sub, Real.cos_add, Real.sin_add, Real.cos_pi_div_two, Real.sin_pi_div_two,
    zero_mul, one_mul, zero_sub, add_zero]
  exact h

end RealAngles

section Acr

/-- for every orbit state with non-parallel `r`, `v` the coded `trs2acr` matrix is a proper
rotation whose rows are an orthonormal right-handed triad: the third row is the radial unit
vector `r/‖r‖`, the second the unit vector along `r × v` (cross-track), the first
`cross-track × radial` (along-track); `acr2trs` is its transpose (inverse) -/
theorem acr_orthonormal_righthanded (r v : V3 ℝ) (h : (V3.cross r v).norm2 ≠ 0) :
    IsRotation (trs2acr r v) ∧
    (trs2acr r v).r3 = r.unit ∧
    (trs2acr r v).r2 = (V3.cross r.unit v.unit).unit ∧
    (trs2acr r v).r1 = V3.cross (trs2acr r v).r2 (trs2acr r v).r3 ∧
    acr2trs r v = (trs2acr r v).transpose := by
  have hr : r.norm2 ≠ 0 := by
    intro h0
    apply h
    rw [V3.norm2_eq_zero h0]
    simp [V3.cross, V3.norm2, V3.dot]
  have hv : v.norm2 ≠ 0 := by
    intro h0
    apply h
    rw [V3.norm2_eq_zero h0]
    simp [V3.cross, V3.norm2, V3.dot]
  have hru := V3.unit_norm2 hr
  have hnr := V3.norm_pos hr
  have hnv := V3.norm_pos hv
  -- r̂ × v̂ = (r × v)/(‖r‖‖v‖) is not zero
  have hw : (V3.cross r.unit v.unit).norm2 ≠ 0 := by
    have e : (V3.cross r.unit v.unit).norm2 = (V3.cross r v).norm2 / (r.norm * v.norm) ^ 2 := by
      simp only [V3.unit, V3.sdiv, V3.cross, V3.norm2, V3.dot]
      field_simp
    rw [e]
    exact div_ne_zero h (pow_ne_zero 2 (mul_pos hnr hnv).ne')
  have hcu := V3.unit_norm2 hw
  -- ĉ ⟂ r̂
  have hcr : V3.dot (V3.cross r.unit v.unit).unit r.unit = 0 := by
    have hdiv : ∀ w u : V3 ℝ, V3.dot w.unit u = V3.dot w u / w.norm := by
      intro w u; simp only [V3.unit, V3.sdiv, V3.dot]; ring
    have : V3.dot (V3.cross r.unit v.unit) r.unit = 0 := by
      simp only [V3.cross, V3.dot]; ring
    rw [hdiv, this, zero_div]
  -- ĉ × r̂ already has length 1
  have hau : (V3.cross (V3.cross r.unit v.unit).unit r.unit).norm2 = 1 := by
    have lag : ∀ c u : V3 ℝ, (V3.cross c u).norm2 = c.norm2 * u.norm2 - (V3.dot c u) ^ 2 := by
      intro c u; simp only [V3.cross, V3.norm2, V3.dot]; ring
    rw [lag, hcu, hru, hcr]; norm_num
  have hrows : trs2acr r v = ⟨V3.cross (V3.cross r.unit v.unit).unit r.unit, (V3.cross r.unit v.unit).unit, r.unit⟩ := by
    simp only [trs2acr, V3.unit_of_norm2_one hau]
  refine ⟨?_, ?_, ?_, ?_, rfl⟩
  · rw [hrows]; exact triad_rotation _ _ hcu hru hcr
  · rw [hrows]
  · rw [hrows]
  · rw [hrows]

/-- position/velocity differences: TRS → ACR → TRS is the identity and the lengths of both
halves are kept -/
theorem delta_acr_posvel_roundtrip (r v : V3 ℝ) (h : (V3.cross r v).norm2 ≠ 0) (w : V6 ℝ) :
    deltaAcr2TrsPosVel r v (deltaTrs2AcrPosVel r v w) = w ∧
    (deltaTrs2AcrPosVel r v w).p.norm2 = w.p.norm2 ∧ (deltaTrs2AcrPosVel r v w).v.norm2 = w.v.norm2 := by
  obtain ⟨⟨h1, _, _⟩, _, _, _, ht⟩ := acr_orthonormal_righthanded r v h
  simp only [deltaAcr2TrsPosVel, deltaTrs2AcrPosVel, blockDiag_mulVec, ht]
  refine ⟨?_, norm_preserved _ h1 _, norm_preserved _ h1 _⟩
  apply V6.ext' <;> exact mulVec_transpose_cancel _ h1 _

end Acr

section AzEl

/-- `(cos el · sin az, cos el · cos az, sin el)` reproduces a unit vector `(e, n, u)` when
`az = arctan2(e, n)` and `el = arcsin(u)`: azimuth and elevation are the angles of that vector -/
theorem angles_of_unit_vector (e n u : ℝ) (h : e ^ 2 + n ^ 2 + u ^ 2 = 1) :
    Real.cos (Real.arcsin u) * Real.sin (Complex.arg ⟨n, e⟩) = e ∧
    Real.cos (Real.arcsin u) * Real.cos (Complex.arg ⟨n, e⟩) = n ∧
    Real.sin (Real.arcsin u) = u := by
  have hu2 : u ^ 2 ≤ 1 := by nlinarith [sq_nonneg e, sq_nonneg n]
  have hu : -1 ≤ u ∧ u ≤ 1 := abs_le_of_sq_le_sq' (by rw [one_pow]; exact hu2) zero_le_one
  have hcos : Real.cos (Real.arcsin u) = Real.sqrt (n ^ 2 + e ^ 2) := by
    rw [Real.cos_arcsin]; congr 1; linarith
  refine ⟨?_, ?_, Real.sin_arcsin hu.1 hu.2⟩
  · by_cases hz : (⟨n, e⟩ : ℂ) = 0
    · have he : e = 0 := by simpa using congrArg Complex.im hz
      have hn : n = 0 := by simpa using congrArg Complex.re hz
      rw [hcos, he, hn]; simp
    · rw [Complex.sin_arg, Complex.norm_eq_sqrt_sq_add_sq, hcos]
      have hpos : 0 < Real.sqrt (n ^ 2 + e ^ 2) := by
        rw [← Complex.norm_eq_sqrt_sq_add_sq (⟨n, e⟩ : ℂ)]
        exact norm_pos_iff.mpr hz
      simp only []
      field_simp
  · by_cases hz : (⟨n, e⟩ : ℂ) = 0
    · have he : e = 0 := by simpa using congrArg Complex.im hz
      have hn : n = 0 := by simpa using congrArg Complex.re hz
      rw [hcos, he, hn]; simp
    · rw [Complex.cos_arg hz, Complex.norm_eq_sqrt_sq_add_sq, hcos]
      have hpos : 0 < Real.sqrt (n ^ 2 + e ^ 2) := by
        rw [← Complex.norm_eq_sqrt_sq_add_sq (⟨n, e⟩ : ℂ)]
        exact norm_pos_iff.mpr hz
      simp only []
      field_simp

/-- **azimuth and elevation are the angles of the target direction in the East/North/Up triad**:
for a unit direction `dir`, the reported `azimuth`, `elevation` satisfy
`(cos el sin az, cos el cos az, sin el) = (dir·East, dir·North, dir·Up)` — the ENU components
`trs2enu @ dir` — and `zenith distance = π/2 − elevation` -/
theorem az_el_are_angles_of_triad (cl sl co so : ℝ) (hl : cl ^ 2 + sl ^ 2 = 1) (ho : co ^ 2 + so ^ 2 = 1)
    (dir : V3 ℝ) (hd : dir.norm2 = 1) :
    let enu := deltaTrs2EnuCS cl sl co so dir
    let az := azimuthCS cl sl co so dir
    let el := elevationCS cl sl co so dir
    Real.cos el * Real.sin az = enu.x ∧ Real.cos el * Real.cos az = enu.y ∧ Real.sin el = enu.z ∧
    zenithDistanceCS cl sl co so dir = Real.pi / 2 - el := by
  intro enu az el
  have hproj := enu_components_are_projections cl sl co so dir
  have hn : enu.norm2 = 1 := by
    have := delta_enu_dot_preserved cl sl co so hl ho dir dir
    simp only [enu, V3.norm2]; rw [this]; exact hd
  have hx : enu.x = V3.dot dir (enuEastCS cl sl co so) := by simp only [enu, hproj]
  have hy : enu.y = V3.dot dir (enuNorthCS cl sl co so) := by simp only [enu, hproj]
  have hz : enu.z = V3.dot dir (enuUpCS cl sl co so) := by simp only [enu, hproj]
  have h1 : enu.x ^ 2 + enu.y ^ 2 + enu.z ^ 2 = 1 := by
    simp only [V3.norm2, V3.dot] at hn; linear_combination hn
  obtain ⟨a1, a2, a3⟩ := angles_of_unit_vector enu.x enu.y enu.z h1
  refine ⟨?_, ?_, ?_, ?_⟩
  · simp only [az, el, azimuthCS, elevationCS, trig_asin, trig_atan2, ← hx, ← hy, ← hz]; exact a1
  · simp only [az, el, azimuthCS, elevationCS, trig_asin, trig_atan2, ← hx, ← hy, ← hz]; exact a2
  · simp only [el, elevationCS, trig_asin, ← hz]; exact a3
  · simp only [zenithDistanceCS, el, trig_pi]; norm_num

end AzEl

/-! ### the registered conversion graph is the modelled one -/

/-- which model function stands for which registered converter -/
def modelledConversions : List (String × String × String × String) := [
  ("PosVelArray", "kepler", "trs", "kepler2trs"),
  ("PosVelArray", "trs", "kepler", "trs2kepler"),
  ("PosVelDeltaArray", "acr", "trs", "delta_acr2trs_posvel"),
  ("PosVelDeltaArray", "enu", "trs", "delta_enu2trs_posvel"),
  ("PosVelDeltaArray", "trs", "acr", "delta_trs2acr_posvel"),
  ("PosVelDeltaArray", "trs", "enu", "delta_trs2enu_posvel"),
  ("PositionArray", "llh", "trs", "llh2trs"),
  ("PositionArray", "trs", "llh", "trs2llh"),
  ("PositionDeltaArray", "enu", "trs", "delta_enu2trs"),
  ("PositionDeltaArray", "trs", "enu", "delta_trs2enu")]

/-- the conversion graph registered in `midgard/data/position.py` (regenerated from the source on
every run) is exactly the set of conversions the model covers, each wired to the function of
that name, and every conversion has its inverse registered -/
theorem registered_conversions :
    Midgard.Generated.PositionSystems.conversions = modelledConversions ∧
    ∀ c ∈ Midgard.Generated.PositionSystems.conversions,
      ∃ d ∈ Midgard.Generated.PositionSystems.conversions, d.1 = c.1 ∧ d.2.1 = c.2.2.1 ∧ d.2.2.1 = c.2.1 := by
  decide +kernel

/-! ### non-vacuity: exact Pythagorean pairs (the `Rat` runs of the driver) -/

example : IsRotation (R1cs (3 / 5 : ℚ) (4 / 5)) := R1_rotation _ _ (by norm_num)
example : IsRotation (enu2trsCS (3 / 5 : ℚ) (4 / 5) (5 / 13) (-12 / 13)) :=
  enu2trs_rotation _ _ _ _ (by norm_num) (by norm_num)
example : enuUpCS (3 / 5 : ℚ) (4 / 5) (5 / 13) (-12 / 13) = ⟨3 / 13, -36 / 65, 4 / 5⟩ := by
  simp only [enuUpCS_eq]; norm_num

/-! ### The model is the source (regenerated on every run)

`Generated/SourceExprs.lean` is written by `translator/extract_exprs.py` from the Python `ast` of the tree under test: the arithmetic of the
functions named below, statement by statement (straight-line arithmetic, no control flow).  The theorems of this section say that the
hand-written matrix definitions are, over the reals, *equal* to those regenerated definitions; what the tie tactic accepts as equal:
Proofs/SourceTie.lean, SrcTieCore.lean. -/
section Source
open Midgard.Generated
-- `src_tie` tries `rfl` first and falls back to unfold-and-compare: where `rfl` closes the goal the linters would flag the
-- fallback as unused
set_option linter.unusedTactic false
set_option linter.unreachableTactic false
set_option linter.unusedSimpArgs false
set_option linter.unnecessarySeqFocus false

theorem source_axis_rotations (c s : ℝ) :
    Src.R1src c s = R1cs c s ∧ Src.R2src c s = R2cs c s ∧ Src.R3src c s = R3cs c s ∧
    Src.dR1src c s = dR1cs c s ∧ Src.dR2src c s = dR2cs c s ∧ Src.dR3src c s = dR3cs c s := by
  refine ⟨?_, ?_, ?_, ?_, ?_, ?_⟩ <;>
    src_tie [Src.R1src, Src.R2src, Src.R3src, Src.dR1src, Src.dR2src, Src.dR3src, R1cs, R2cs, R3cs, dR1cs, dR2cs, dR3cs]
theorem source_enu_matrices (cl sl co so : ℝ) :
    Src.enu2trsSrc cl co sl so = enu2trsCS cl sl co so ∧ Src.trs2enuSrc cl co sl so = trs2enuCS cl sl co so := by
  refine ⟨?_, ?_⟩ <;> src_tie [Src.enu2trsSrc, Src.trs2enuSrc, enu2trsCS, trs2enuCS]

end Source

/-! ## Part C — objects and arrays (`Model/Frames.lean`) -/

/-! ### The frame properties and the delta conversions are the source (regenerated on every run)

`Generated/SourceFrames.lean` is written by `translator/extract_frames.py` from the `ast` of `_position.py` and
`transformation.py`: the frame properties as functions of the position objects involved.  The theorems say that they are
the object-level model of `Model/Frames.lean` — in particular *whose* latitude / longitude enters (the observer's for
azimuth / elevation, `ref_pos`'s for a delta), which column of `enu2trs` is East / North / Up, and that the vector is
target minus observer. -/
section SourceFrames
open Midgard.Generated

theorem source_frame_triad (self : PosObj ℝ) :
    Frames.enu2trsSrc self = self.enu2trs ∧ Frames.trs2enuSrc self = self.trs2enu ∧
    Frames.enuEastSrc self = self.east ∧ Frames.enuNorthSrc self = self.north ∧ Frames.enuUpSrc self = self.up :=
  ⟨rfl, rfl, rfl, rfl, rfl⟩

theorem source_frame_angles (self other : PosObj ℝ) :
    Frames.vectorToSrc self other = self.vectorTo other ∧
    Frames.distanceToSrc self other = self.distanceTo other ∧
    Frames.directionToSrc self other = self.direction other ∧
    Frames.azimuthToSrc self other = self.azimuthTo other ∧
    Frames.elevationToSrc self other = self.elevationTo other ∧
    Frames.zenithDistanceToSrc self other = self.zenithDistanceTo other ∧
    Frames.azimuthSrc self other = self.azimuthTo other ∧
    Frames.elevationSrc self other = self.elevationTo other ∧
    Frames.zenithDistanceSrc self other = self.zenithDistanceTo other ∧
    Frames.vectorSrc self other = self.vectorTo other ∧
    Frames.distanceSrc self other = self.distanceTo other ∧
    Frames.directionSrc self other = self.direction other :=
  ⟨rfl, rfl, rfl, rfl, rfl, rfl, rfl, rfl, rfl, rfl, rfl, rfl⟩

theorem source_frame_acr (self : PosObj ℝ) :
    Frames.trs2acrSrc self = self.trs2acr ∧ Frames.acr2trsSrc self = self.acr2trs := ⟨rfl, rfl⟩

theorem source_delta_conversions (ref : PosObj ℝ) (d : V3 ℝ) (w : V6 ℝ) :
    Frames.deltaTrs2EnuSrc ref d = deltaTrs2Enu ref d ∧ Frames.deltaEnu2TrsSrc ref d = deltaEnu2Trs ref d ∧
    Frames.deltaTrs2EnuPosVelSrc ref w = deltaTrs2EnuPosVel ref w ∧
    Frames.deltaEnu2TrsPosVelSrc ref w = deltaEnu2TrsPosVel ref w ∧
    Frames.deltaTrs2AcrPosVelSrc ref w = deltaTrs2Acr ref w ∧ Frames.deltaAcr2TrsPosVelSrc ref w = deltaAcr2Trs ref w :=
  ⟨rfl, rfl, rfl, rfl, rfl, rfl⟩

/-- `vector` / `distance` / `direction` (and the `*_to` methods) of an observer given **in llh**: the code works in the
observer's own system, i.e. on (Δlat, Δlon, Δh) -/
theorem source_frame_vectors_llh (self other : PosObj ℝ) :
    Frames.vectorToLlhSrc self other = self.vectorToLlh other ∧
    Frames.distanceToLlhSrc self other = self.distanceToLlh other ∧
    Frames.directionToLlhSrc self other = self.directionLlh other ∧
    Frames.vectorLlhSrc self other = self.vectorToLlh other ∧
    Frames.distanceLlhSrc self other = self.distanceToLlh other ∧
    Frames.directionLlhSrc self other = self.directionLlh other :=
  ⟨rfl, rfl, rfl, rfl, rfl, rfl⟩

end SourceFrames

/-! ### arrays: every row in the frame of its own reference position -/
section Rows

/-- **row `i` of a converted array is the conversion of row `i` of the values in the frame of row `i` of the reference
positions** (whatever the other rows are: nearly equal reference positions do not share a frame), and the converted
array has the rows of the input -/
theorem rows_independent {β : Type} (f : PosObj ℝ → β → β) (refs : List (PosObj ℝ)) (ds : List β)
    (hl : refs.length = ds.length) :
    (rowsWith f refs ds).length = ds.length ∧
    ∀ i (hr : i < refs.length) (hd : i < ds.length), (rowsWith f refs ds)[i]? = some (f refs[i] ds[i]) := by
  refine ⟨by simp [rowsWith, hl], fun i hr hd => ?_⟩
  simp [rowsWith, List.getElem?_zipWith, List.getElem?_eq_getElem hr, List.getElem?_eq_getElem hd]

/-- **there and back is the identity on arrays**, `PositionDelta` `(n, 3)` and `PosVelDelta` `(n, 6)`, ENU, both
directions, every row with its own reference position -/
theorem rows_enu_roundtrip (refs : List (PosObj ℝ)) (ds : List (V3 ℝ)) (ws : List (V6 ℝ))
    (hd : refs.length = ds.length) (hw : refs.length = ws.length) :
    rowsEnu2Trs refs (rowsTrs2Enu refs ds) = ds ∧ rowsTrs2Enu refs (rowsEnu2Trs refs ds) = ds ∧
    rowsEnu2TrsPosVel refs (rowsTrs2EnuPosVel refs ws) = ws ∧ rowsTrs2EnuPosVel refs (rowsEnu2TrsPosVel refs ws) = ws := by
  have cs := Real.cos_sq_add_sin_sq
  have back : ∀ (r : PosObj ℝ) (w : V6 ℝ), deltaTrs2EnuPosVel r (deltaEnu2TrsPosVel r w) = w := by
    intro r w
    obtain ⟨h1, _, _⟩ := enu2trs_rotation _ _ _ _ (cs r.lat) (cs r.lon)
    simp only [deltaTrs2EnuPosVel, deltaEnu2TrsPosVel, deltaEnu2TrsPosVelCS, deltaTrs2EnuPosVelCS, blockDiag_mulVec,
      trs2enu_eq_transpose]
    apply V6.ext' <;> exact mulVec_transpose_cancel _ h1 _
  refine ⟨?_, ?_, ?_, ?_⟩
  · exact rowsWith_cancel deltaTrs2Enu deltaEnu2Trs (fun _ => True)
      (fun r _ d => (delta_enu_roundtrip _ _ _ _ (cs r.lat) (cs r.lon) d).1) refs ds hd (fun _ _ => trivial)
  · exact rowsWith_cancel deltaEnu2Trs deltaTrs2Enu (fun _ => True)
      (fun r _ d => (delta_enu_roundtrip _ _ _ _ (cs r.lat) (cs r.lon) d).2) refs ds hd (fun _ _ => trivial)
  · exact rowsWith_cancel deltaTrs2EnuPosVel deltaEnu2TrsPosVel (fun _ => True)
      (fun r _ w => (delta_enu_posvel_roundtrip _ _ _ _ (cs r.lat) (cs r.lon) w).1) refs ws hw (fun _ _ => trivial)
  · exact rowsWith_cancel deltaEnu2TrsPosVel deltaTrs2EnuPosVel (fun _ => True) (fun r _ w => back r w) refs ws hw
      (fun _ _ => trivial)

/-- … and along/cross/radial, for orbit states with non-parallel `r`, `v` in every row -/
theorem rows_acr_roundtrip (refs : List (PosObj ℝ)) (ws : List (V6 ℝ)) (hw : refs.length = ws.length)
    (h : ∀ r ∈ refs, (V3.cross r.trs r.vel).norm2 ≠ 0) :
    rowsAcr2Trs refs (rowsTrs2Acr refs ws) = ws ∧ rowsTrs2Acr refs (rowsAcr2Trs refs ws) = ws := by
  have back : ∀ (r : PosObj ℝ), (V3.cross r.trs r.vel).norm2 ≠ 0 → ∀ w : V6 ℝ, deltaTrs2Acr r (deltaAcr2Trs r w) = w := by
    intro r hr w
    obtain ⟨⟨_, h2, _⟩, _, _, _, ht⟩ := acr_orthonormal_righthanded r.trs r.vel hr
    simp only [deltaTrs2Acr, deltaAcr2Trs, deltaAcr2TrsPosVel, deltaTrs2AcrPosVel, blockDiag_mulVec, ht]
    apply V6.ext' <;> exact mulVec_cancel_transpose _ h2 _
  refine ⟨?_, ?_⟩
  · exact rowsWith_cancel deltaTrs2Acr deltaAcr2Trs (fun r => (V3.cross r.trs r.vel).norm2 ≠ 0)
      (fun r hr w => (delta_acr_posvel_roundtrip r.trs r.vel hr w).1) refs ws hw h
  · exact rowsWith_cancel deltaAcr2Trs deltaTrs2Acr (fun r => (V3.cross r.trs r.vel).norm2 ≠ 0) back refs ws hw h

/-- **rows / slices / masks**: converting the selected rows (with the selected rows of the reference positions) gives
the selected rows of the converted array — `delta[idx].enu = delta.enu[idx]` for every conversion -/
theorem rows_selection_commutes {β : Type} (f : PosObj ℝ → β → β) (refs : List (PosObj ℝ)) (ds : List β)
    (hl : refs.length = ds.length) (idx : List Nat) :
    rowsWith f (takeRows refs idx) (takeRows ds idx) = takeRows (rowsWith f refs ds) idx :=
  (takeRows_rowsWith f refs ds hl idx).symm

example : rowsTrs2Enu [⟨⟨1, 0, 0⟩, ⟨0, 1, 0⟩, 0, 0, 0⟩] [(⟨1, 2, 3⟩ : V3 ℝ)] = [⟨2, 3, 1⟩] := by
  simp [rowsTrs2Enu, rowsWith, deltaTrs2Enu, deltaTrs2EnuCS, trs2enuCS, M3.mulVec, V3.dot]

/-- **the broadcasting the code accepts**: with as many reference positions as values the rows are paired; a single
reference position — given as `(k,)` or `(1, k)` — is the frame of every row; a single value row is converted in the
frame of every reference position; any other pair of lengths is refused -/
theorem broadcast_rows {β : Type} (f : PosObj ℝ → β → β) (refs : List (PosObj ℝ)) (ds : List β) :
    (refs.length = ds.length → rowsWithB f refs ds = some (rowsWith f refs ds)) ∧
    (∀ r, refs = [r] → rowsWithB f refs ds = some (ds.map (f r))) ∧
    (∀ d, ds = [d] → rowsWithB f refs ds = some (refs.map (fun r => f r d))) ∧
    (refs.length ≠ ds.length → refs.length ≠ 1 → ds.length ≠ 1 → rowsWithB f refs ds = none) := by
  refine ⟨?_, ?_, ?_, ?_⟩
  · intro h; simp [rowsWithB, broadcastRows, h]
  · rintro r rfl
    by_cases h : ds.length = 1
    · obtain ⟨d, rfl⟩ := List.length_eq_one_iff.1 h
      simp [rowsWithB, broadcastRows, rowsWith]
    · have h' : ¬ (1 = ds.length) := fun e => h e.symm
      simp [rowsWithB, broadcastRows, rowsWith, h', Lists.zipWith_replicate_l]
  · rintro d rfl
    by_cases h : refs.length = 1
    · obtain ⟨r, rfl⟩ := List.length_eq_one_iff.1 h
      simp [rowsWithB, broadcastRows, rowsWith]
    · simp only [rowsWithB, broadcastRows, List.length_singleton, h, if_false]
      cases refs with
      | nil => simp [rowsWith]
      | cons r rs =>
        cases rs with
        | nil => simp at h
        | cons r' rs' =>
          have := Lists.zipWith_replicate_r f d (r :: r' :: rs')
          simpa [rowsWith] using this
  · intro h h1 h2
    simp only [rowsWithB, broadcastRows, h, if_false]
    cases refs with
    | nil => cases ds with
      | nil => simp at h
      | cons d ds' => cases ds' with
        | nil => simp at h2
        | cons _ _ => rfl
    | cons r rs => cases rs with
      | nil => simp at h1
      | cons r' rs' => cases ds with
        | nil => rfl
        | cons d ds' => cases ds' with
          | nil => simp at h2
          | cons _ _ => rfl

/-- `rotation.enu2trs` / `trs2enu` take two scalars or two arrays of the same length, nothing else -/
theorem angle_shapes (m : ℝ → ℝ → M3 ℝ) (a b : ℝ) (as bs : List ℝ) :
    angleMatrices m (.scalar a) (.scalar b) = some [m a b] ∧
    (as.length = bs.length → angleMatrices m (.array as) (.array bs) = some (List.zipWith m as bs)) ∧
    (as.length ≠ bs.length → angleMatrices m (.array as) (.array bs) = none) ∧
    angleMatrices m (.scalar a) (.array bs) = none ∧ angleMatrices m (.array as) (.scalar b) = none := by
  refine ⟨rfl, fun h => by simp [angleMatrices, h], fun h => by simp [angleMatrices, h], rfl, rfl⟩

end Rows

section Ranges

/-- **azimuth ∈ (−π, π], elevation ∈ [−π/2, π/2], zenith distance ∈ [0, π]** for every observer and every target
(whatever the vectors are — also for a target at the observer, where the code divides 0 by 0) -/
theorem angle_ranges (self other : PosObj ℝ) :
    (-Real.pi < self.azimuthTo other ∧ self.azimuthTo other ≤ Real.pi) ∧
    (-(Real.pi / 2) ≤ self.elevationTo other ∧ self.elevationTo other ≤ Real.pi / 2) ∧
    (0 ≤ self.zenithDistanceTo other ∧ self.zenithDistanceTo other ≤ Real.pi) := by
  have key : ∀ x : ℝ, 0 ≤ Real.pi / (1 + 1) - Real.arcsin x ∧ Real.pi / (1 + 1) - Real.arcsin x ≤ Real.pi := by
    intro x
    have h1 := Real.arcsin_le_pi_div_two x
    have h2 := Real.neg_pi_div_two_le_arcsin x
    have h3 : (1 + 1 : ℝ) = 2 := by norm_num
    rw [h3]; constructor <;> linarith
  refine ⟨⟨?_, ?_⟩, ⟨?_, ?_⟩, ?_, ?_⟩
  · simp only [PosObj.azimuthTo, azimuthCS, trig_atan2]; exact Complex.neg_pi_lt_arg _
  · simp only [PosObj.azimuthTo, azimuthCS, trig_atan2]; exact Complex.arg_le_pi _
  · simp only [PosObj.elevationTo, elevationCS, trig_asin]; exact Real.neg_pi_div_two_le_arcsin _
  · simp only [PosObj.elevationTo, elevationCS, trig_asin]; exact Real.arcsin_le_pi_div_two _
  · exact (key _).1
  · exact (key _).2

end Ranges

/-! ### Up is the surface normal (composition with the C05 model of `trs2llh`) -/
section SurfaceNormal

/-- **Up is the normal of the ellipsoid surface at the observer** (the clause "tied to the geodetic normal", composed
with the C05 model of `trs2llh`): for an observer `v` *on the surface* of its ellipsoid `x²/a² + y²/a² + z²/b² = 1`
(any `a > 0`, `f < 1`, off the pole branch), the `enu_up` of the frame taken at the geodetic coordinates
`trs2llh E v` the code computes is a unit vector parallel to the gradient `(x/a², y/a², z/b²)` of the ellipsoid
equation at `v`, pointing outwards — i.e. exactly the surface normal there; `enu_east` is tangent to the surface
and horizontal, `enu_north` tangent. -/
theorem up_is_surface_normal (E : Ellipsoid ℝ) (ha : 0 < E.a) (hf1 : E.f < 1) (v vel : V3 ℝ)
    (hon : (v.x * v.x + v.y * v.y) / (E.a * E.a) + (v.z * v.z) / (E.b * E.b) = 1)
    (hoff : ¬ v.x * v.x + v.y * v.y ≤ E.a * E.a * 1e-32) :
    let o : PosObj ℝ := ⟨v, vel, (trs2llh E v).lat, (trs2llh E v).lon, (trs2llh E v).h⟩
    let grad : V3 ℝ := ⟨v.x / E.a ^ 2, v.y / E.a ^ 2, v.z / E.b ^ 2⟩
    V3.cross grad o.up = V3.zero ∧ 0 < V3.dot grad o.up ∧ o.up.norm2 = 1 ∧
    V3.dot grad o.east = 0 ∧ V3.dot grad o.north = 0 ∧ o.east.z = 0 := by
  intro o grad
  have cs := Real.cos_sq_add_sin_sq
  set g := trs2llh E v with hg
  have hv : llh2trsCS E (Real.cos g.lat) (Real.sin g.lat) (Real.cos g.lon) (Real.sin g.lon) 0 = v := by
    have h1 := surface_roundtrip E ha hf1 v hon hoff
    have h0 := surface_height_zero E ha hf1 v hon hoff
    rw [← hg] at h1 h0
    simpa only [llh2trs, trig_cos, trig_sin, h0] using h1
  have hup : o.up = normalCS (Real.cos g.lat) (Real.sin g.lat) (Real.cos g.lon) (Real.sin g.lon) :=
    up_is_normal _ _ _ _
  have hpar := normal_parallel_gradient E ha.ne' (ne_of_lt hf1) (Real.cos g.lat) (Real.sin g.lat)
    (Real.cos g.lon) (Real.sin g.lon)
  have hout := normal_outward E ha (ne_of_lt hf1) (Real.cos g.lat) (Real.sin g.lat)
    (Real.cos g.lon) (Real.sin g.lon) (cs _) (cs _)
  simp only [hv] at hpar hout
  have hunit := normal_unit (Real.cos g.lat) (Real.sin g.lat) (Real.cos g.lon) (Real.sin g.lon) (cs _) (cs _)
  have hperp := east_perp_axis_up (Real.cos g.lat) (Real.sin g.lat) (Real.cos g.lon) (Real.sin g.lon)
  have hnorth : V3.dot o.north o.up = 0 := by
    simp only [o, PosObj.north, PosObj.up, enuNorthCS_eq, enuUpCS_eq, V3.dot, trig_cos, trig_sin]
    linear_combination (-(Real.cos g.lat * Real.sin g.lat)) * cs g.lon
  refine ⟨by rw [hup]; exact hpar, by rw [hup]; exact hout, by rw [hup]; exact hunit, ?_, ?_, ?_⟩
  · exact dot_zero_of_parallel grad o.up o.east (by rw [hup]; exact hpar) (by rw [hup]; exact hunit) hperp.2
  · exact dot_zero_of_parallel grad o.up o.north (by rw [hup]; exact hpar) (by rw [hup]; exact hunit) hnorth
  · simp only [o, PosObj.east, enuEastCS_eq]

example : ∃ (E : Ellipsoid ℝ) (v : V3 ℝ), 0 < E.a ∧ E.f < 1 ∧
    (v.x * v.x + v.y * v.y) / (E.a * E.a) + (v.z * v.z) / (E.b * E.b) = 1 ∧ ¬ v.x * v.x + v.y * v.y ≤ E.a * E.a * 1e-32 :=
  ⟨⟨1, none⟩, ⟨1, 0, 0⟩, by norm_num, by simp [Ellipsoid.f], by simp [Ellipsoid.b, Ellipsoid.f], by norm_num⟩

end SurfaceNormal

end Midgard.Props.C06

#print axioms Midgard.Props.C06.axis_orthogonal
#print axioms Midgard.Props.C06.R1_rotation
#print axioms Midgard.Props.C06.R2_rotation
#print axioms Midgard.Props.C06.R3_rotation
#print axioms Midgard.Props.C06.R_neg_eq_transpose
#print axioms Midgard.Props.C06.R_mul
#print axioms Midgard.Props.C06.dR_eq_quarter_turn
#print axioms Midgard.Props.C06.dot_preserved
#print axioms Midgard.Props.C06.norm_preserved
#print axioms Midgard.Props.C06.mulVec_transpose_cancel
#print axioms Midgard.Props.C06.transpose_transpose
#print axioms Midgard.Props.C06.mulVec_cancel_transpose
#print axioms Midgard.Props.C06.enu2trs_rotation
#print axioms Midgard.Props.C06.trs2enu_eq_transpose
#print axioms Midgard.Props.C06.trs2enu_rotation
#print axioms Midgard.Props.C06.det_transpose
#print axioms Midgard.Props.C06.isRotation_transpose
#print axioms Midgard.Props.C06.enu2trs_eq_R3_R1
#print axioms Midgard.Props.C06.delta_enu_roundtrip
#print axioms Midgard.Props.C06.delta_enu_dot_preserved
#print axioms Midgard.Props.C06.up_is_normal
#print axioms Midgard.Props.C06.east_perp_axis_up
#print axioms Midgard.Props.C06.north_completes_triad
#print axioms Midgard.Props.C06.enu_components_are_projections
#print axioms Midgard.Props.C06.blockDiag_mulVec
#print axioms Midgard.Props.C06.blockDiag_transpose_mul
#print axioms Midgard.Props.C06.block6_orth
#print axioms Midgard.Props.C06.delta_enu_posvel_roundtrip
#print axioms Midgard.Props.C06.triad_rotation
#print axioms Midgard.Props.C06.R_rotation_real
#print axioms Midgard.Props.C06.R_neg_real
#print axioms Midgard.Props.C06.R_add_real
#print axioms Midgard.Props.C06.dR_hasDerivAt
#print axioms Midgard.Props.C06.enu_rotation_real
#print axioms Midgard.Props.C06.enu2trs_eq_R3_R1_real
#print axioms Midgard.Props.C06.acr_orthonormal_righthanded
#print axioms Midgard.Props.C06.delta_acr_posvel_roundtrip
#print axioms Midgard.Props.C06.angles_of_unit_vector
#print axioms Midgard.Props.C06.az_el_are_angles_of_triad
#print axioms Midgard.Props.C06.registered_conversions
#print axioms Midgard.Props.C06.source_axis_rotations
#print axioms Midgard.Props.C06.source_enu_matrices
#print axioms Midgard.Props.C06.source_frame_triad
#print axioms Midgard.Props.C06.source_frame_angles
#print axioms Midgard.Props.C06.source_frame_acr
#print axioms Midgard.Props.C06.source_delta_conversions
#print axioms Midgard.Props.C06.rows_independent
#print axioms Midgard.Props.C06.rows_enu_roundtrip
#print axioms Midgard.Props.C06.rows_acr_roundtrip
#print axioms Midgard.Props.C06.rows_selection_commutes
#print axioms Midgard.Props.C06.angle_ranges
#print axioms Midgard.Props.C06.up_is_surface_normal
#print axioms Midgard.Props.C06.source_frame_vectors_llh
#print axioms Midgard.Props.C06.broadcast_rows
#print axioms Midgard.Props.C06.angle_shapes
