/-
C19 — Configuration lookup follows profile priority and fallback; typed accessors; text round trip.

Property theorems about the model in `Model/Config.lean` and `Model/ConfigTyped.lean`.
-/
import Midgard.Generated.ConfigTables
import Midgard.Proofs.ConfigRoundTrip
import Midgard.Proofs.ConfigReplace
import Midgard.Proofs.ConfigLookup
import Midgard.Proofs.ConfigAccessors
import Midgard.Proofs.TimeText
import Midgard.Proofs.Lists

namespace Midgard.Props.C19
open Midgard.Config
open Midgard.Proofs.ConfigText (stripBlanks_id lineSplit_spec)

/-! ### Tables regenerated from the source -/

/-- the eight boolean spellings of the code are the model's -/
theorem bool_spellings : booleanStates = Generated.ConfigTables.booleanStates := by decide +kernel

/-- exactly the eight documented spellings, four of each truth value -/
theorem bool_spellings_eight :
    Generated.ConfigTables.booleanStates.length = 8 ∧
    (Generated.ConfigTables.booleanStates.filter (·.2)).map (·.1) = ["1", "true", "yes", "on"] ∧
    (Generated.ConfigTables.booleanStates.filter (fun p => !p.2)).map (·.1) = ["0", "false", "no", "off"] := by
  decide +kernel

/-- `write_to_file` uses a fixed width, and the key column of `as_str` and `entry_as_str` agree -/
theorem widths : Generated.ConfigTables.fileWidth = 200 ∧
    Generated.ConfigTables.keyWidth = Generated.ConfigTables.entryKeyWidth := by decide +kernel

/-- the pattern `_replace` compiles, as a string: it is the pattern `findVars`/`matchVar` were written to mirror -/
theorem replace_regex : Generated.ConfigTables.replaceRegex = "\\{(\\w+)(:[^\\{\\}]*)?\\}" := by decide +kernel

/-- `Configuration.get` catches both lookup errors around its own lookup, and around the fallback
lookup additionally the missing-configuration error — so a fallback that lacks the section cannot
hide the default -/
theorem get_catches :
    Generated.ConfigTables.getOuterCatches = ["MissingEntryError", "MissingSectionError"] ∧
    Generated.ConfigTables.getInnerCatches = ["MissingConfigurationError", "MissingEntryError", "MissingSectionError"] := by
  decide +kernel

/-- the wrapping options the text model assumes, and the `replace(",", " ")` of the `list` accessor -/
theorem fill_options :
    ("break_long_words", "False") ∈ Generated.ConfigTables.fillArgs ∧
    ("break_on_hyphens", "False") ∈ Generated.ConfigTables.fillArgs ∧
    ("hanging", "key_width + 3") ∈ Generated.ConfigTables.fillArgs ∧
    Generated.ConfigTables.listReplace = [",", " "] := by decide +kernel

/-! ### The flattened view holds, for every key, the entry of the first listed profile

`dget2`, `resolve` (first listed profile that defines `(section, key)`), `StoreWF` and `Good` are defined in
`Proofs/ConfigFlatten.lean`. -/

/-- **flatten_priority**: in the flattened view `(section, key)` holds the entry of the first listed
profile that defines it -/
theorem flatten_priority (ps : List (Profile × Sections)) (hwf : StoreWF ps) (profiles : List Profile)
    (s k : String) : dget2 (flatten profiles ps) s k = resolve ps profiles s k := by
  unfold flatten
  rw [flattenFrom_get ps hwf]
  simp only [List.reverse_reverse]
  cases resolve ps profiles s k <;> simp [dget2, dget?]

/-! ### …after every history of operations -/

/-- the alphabet of histories: `update`, `update_from_dict` / `_options` / `_config_section` / `_file`, the `profiles` and
`master_section` setters, `update_vars`.  `del cfg[name]` and `clear()` (`Cfg.delSection`, `Cfg.clear`) are not in it:
they empty the flattened view without touching the store, so `Good` does not survive them -/
inductive Op
  | update (u : Upd)
  | fromDict (d : List (String × String)) (sect : Option String) (source : String) (allowNew : Bool)
  | fromOptions (options : List String) (profile : Profile) (source : String) (allowNew : Bool)
  | fromSection (otherName : String) (other : Section) (sect : Option String) (allowNew : Bool)
  | fromText (text source : String) (allowNew caseSensitive : Bool)
  | fromFile (text source : String) (allowNew caseSensitive : Bool)
  | setProfiles (v : Option (List Profile))
  | setMaster (m : Option String)
  | updateVars (d : List (String × String))

/-- the state after an operation; an operation that raises leaves the state it reached -/
def applyOp (c : Cfg) : Op → Cfg
  | .update u => match c.update u with | .ok c' => c' | .error _ => c
  | .fromDict d s src a => (c.updateFromDict d s src a).1
  | .fromOptions o p src a => (c.updateFromOptions o p src a).1
  | .fromSection n other s a => (c.updateFromSection n other s a).1
  | .fromText t src a cs => match c.updateFromText t src a cs with | .ok r => r.1 | .error _ => c
  | .fromFile t src a cs => match c.updateFromFile t src a cs with | .ok r => r.1 | .error _ => c
  | .setProfiles v => c.setProfiles v
  | .setMaster m => { c with master := m }
  | .updateVars d => c.updateVars d

def run (c : Cfg) (ops : List Op) : Cfg := ops.foldl applyOp c

theorem applyOp_good (c : Cfg) (op : Op) (h : Good c) : Good (applyOp c op) := by
  cases op with
  | update u =>
    simp only [applyOp, Cfg.update]
    cases hu : c.updateRaw u with
    | ok c' => exact refresh_good c' (updateRaw_wf c c' u h.1 hu).1
    | error e => exact h
  | fromDict d s src a =>
    simp only [applyOp, Cfg.updateFromDict]
    split
    · exact h
    · exact updateMany_good _ _ c [] h.1
  | fromOptions o p src a =>
    simp only [applyOp, Cfg.updateFromOptions]
    exact optionsLoop_good p src a o c [] h.1
  | fromSection n other s a =>
    simp only [applyOp, Cfg.updateFromSection]
    exact updateMany_good _ _ c [] h.1
  | fromText t src a cs =>
    simp only [applyOp, Cfg.updateFromText]
    cases readIniRaw (!cs) t with
    | error e => exact h
    | ok raw => exact updateMany_good _ _ c [] h.1
  | fromFile t src a cs =>
    simp only [applyOp, Cfg.updateFromFile]
    cases readIniRaw (!cs) t with
    | error e => exact h
    | ok raw =>
      simp only [Except.map]
      apply updateMany_good
      split
      · exact h.1
      · exact h.1
  | setProfiles v =>
    simp only [applyOp, Cfg.setProfiles]
    exact ⟨h.1, rfl⟩
  | setMaster m => exact h
  | updateVars d => exact h

theorem new_good (name : String) : Good (Cfg.new name) := by
  refine ⟨by intro q hq; simp [Cfg.new] at hq, ?_⟩
  simp [Cfg.new, flatten, flattenFrom, mergeProfile, dget?]

theorem run_good (c : Cfg) (ops : List Op) (h : Good c) : Good (run c ops) := by
  induction ops generalizing c with
  | nil => exact h
  | cons op t ih => exact ih (applyOp c op) (applyOp_good c op h)

/-- **for all update / profile-change histories**: after any sequence of operations (including ones
that raised), looking `(section, key)` up in the flattened view gives the entry of the first listed
profile that defines it -/
theorem lookup_first_profile (name : String) (ops : List Op) (s k : String) :
    let c := run (Cfg.new name) ops
    dget2 c.sections s k = resolve c.profileSections c.profiles s k := by
  intro c
  have hg : Good c := run_good _ ops (new_good name)
  rw [hg.2]
  exact flatten_priority _ hg.1 _ s k

/-! ### The lookup order of `Configuration.get`

`ownLookup` and `ownLookupAt` stand here because the statements of `get_order` / `getAt_order` share the auxiliary matchers
of their `match`es, which Lean does only inside one file. -/

/-- an explicit override always wins -/
theorem get_override (c : Cfg) (rest : List Cfg) (key v : String) (sect dflt : Option String) :
    Midgard.Config.get (c :: rest) key (some v) sect dflt = .ok (key, ⟨v, "method call", []⟩) := by
  simp [Midgard.Config.get]

/-- the configuration's own answer: master section when no section is named, else `cfg[section][key]`
(or the master-section entry called `section`, see DESIGN.md §5/C19 note) -/
def ownLookup (c : Cfg) (rest : List Cfg) (key : String) (sect : Option String) : Except Err (String × Entry) :=
  match sect with
  | none => match c.masterSection with
    | .error e => .error e
    | .ok (_, m) => (sectionEntry m key).map (fun e => (key, e))
  | some s => match getItem (c :: rest) s with
    | .error e => .error e
    | .ok (.entry k e) => .ok (k, e)
    | .ok (.sect _ sec) => (sectionEntry sec key).map (fun e => (key, e))

/-- **get_order**: own configuration → fallback configuration → default → the own lookup's error -/
theorem get_order (c : Cfg) (rest : List Cfg) (key : String) (sect dflt : Option String) :
    Midgard.Config.get (c :: rest) key none sect dflt =
      match ownLookup c rest key sect with
      | .ok r => .ok r
      | .error err =>
        match Midgard.Config.get rest key none sect none with
        | .ok r => .ok r
        | .error _ =>
          match dflt with
          | none => .error err
          | some d => .ok (key, ⟨d, "default value", []⟩) := by
  cases sect <;> simp only [Midgard.Config.get, ownLookup] <;> rfl

/-- the own configuration wins over fallback and default whenever it has the entry -/
theorem get_own_hit (c : Cfg) (rest : List Cfg) (key s : String) (dflt : Option String) (sec : Section) (e : Entry)
    (hs : dget? c.sections s = some sec) (hk : dget? sec key = some e) :
    Midgard.Config.get (c :: rest) key none (some s) dflt = .ok (key, e) := by
  rw [get_order]
  simp [ownLookup, getItem_sect c rest s sec hs, sectionEntry, hk, Except.map]

/-- the fallback is asked before the default is used -/
theorem get_fallback_before_default (c : Cfg) (rest : List Cfg) (key : String) (sect dflt : Option String)
    (err : Err) (r : String × Entry)
    (hown : ownLookup c rest key sect = .error err) (hfb : Midgard.Config.get rest key none sect none = .ok r) :
    Midgard.Config.get (c :: rest) key none sect dflt = .ok r := by
  rw [get_order, hown]; simp [hfb]

/-- the default is used when neither the configuration nor its fallbacks have the entry -/
theorem get_default (c : Cfg) (rest : List Cfg) (key d : String) (sect : Option String)
    (err err' : Err)
    (hown : ownLookup c rest key sect = .error err) (hfb : Midgard.Config.get rest key none sect none = .error err') :
    Midgard.Config.get (c :: rest) key none sect (some d) = .ok (key, ⟨d, "default value", []⟩) := by
  rw [get_order, hown]; simp [hfb]

/-- without an entry, a fallback hit or a default, the documented error is raised: missing section or
missing entry, nothing else -/
theorem get_error (c : Cfg) (rest : List Cfg) (key : String) (sect : Option String) (err err' : Err)
    (hown : ownLookup c rest key sect = .error err)
    (hfb : Midgard.Config.get rest key none sect none = .error err') :
    Midgard.Config.get (c :: rest) key none sect none = .error err ∧
      (err = .missingSection ∨ err = .missingEntry) := by
  refine ⟨by rw [get_order, hown]; simp [hfb], ?_⟩
  unfold ownLookup at hown
  split at hown
  · split at hown
    · rename_i hm
      cases hown
      exact Or.inl (masterSection_error c _ hm)
    · exact Or.inr (sectionEntry_error _ key err hown)
  · split at hown
    · rename_i hi
      cases hown
      exact getItem_error_missing c rest _ _ hi
    · cases hown
    · exact Or.inr (sectionEntry_error _ key err hown)

/-- the master section is used when no section is named -/
theorem master_when_no_section (c : Cfg) (rest : List Cfg) (key m : String) (sec : Section)
    (hm : c.master = some m) (hs : dget? c.sections m = some sec) :
    ownLookup c rest key none = ownLookup c rest key (some m) := by
  simp [ownLookup, Cfg.masterSection, hm, hs, getItem_sect c rest m sec hs]

/-- for a configuration without fallback the whole lookup with no section is the lookup in the master section -/
theorem master_when_no_section_get (c : Cfg) (key m : String) (dflt : Option String) (sec : Section)
    (hm : c.master = some m) (hs : dget? c.sections m = some sec) :
    Midgard.Config.get [c] key none none dflt = Midgard.Config.get [c] key none (some m) dflt := by
  rw [get_order, get_order, master_when_no_section c [] key m sec hm hs]
  simp [Midgard.Config.get]

/-- **priority and lookup together, for every history**: in a configuration reached by any sequence
of updates and profile changes, asking for `key` in an existing section returns the entry of the first
listed profile that defines it; when no listed profile does, the configuration's own lookup (`ownLookup`) ends in the
missing-entry error, so that `get` goes on to the fallback chain and the default (`get_order`) -/
theorem get_first_profile (name : String) (ops : List Op) (rest : List Cfg) (key s : String) (sec : Section)
    (hs : dget? (run (Cfg.new name) ops).sections s = some sec) :
    let c := run (Cfg.new name) ops
    (∀ e, resolve c.profileSections c.profiles s key = some e →
        ∀ dflt, Midgard.Config.get (c :: rest) key none (some s) dflt = .ok (key, e)) ∧
    (resolve c.profileSections c.profiles s key = none →
        ownLookup c rest key (some s) = .error .missingEntry) := by
  intro c
  have hl := lookup_first_profile name ops s key
  simp only [dget2] at hl
  change (dget? c.sections s).bind (dget? · key) = resolve c.profileSections c.profiles s key at hl
  have hs' : dget? c.sections s = some sec := hs
  rw [hs'] at hl
  simp only [Option.bind_some] at hl
  constructor
  · intro e he dflt
    exact get_own_hit c rest key s dflt sec e hs' (hl.trans he)
  · intro hn
    simp [ownLookup, getItem_sect c rest s sec hs', sectionEntry, hl.trans hn, Except.map]

/-! ### Whose variables an answer carries along the fallback chain -/

/-- the configuration's own answer with the position of the configuration it belongs to -/
def ownLookupAt (c : Cfg) (rest : List Cfg) (key : String) (sect : Option String) : Except Err (Nat × String × Entry) :=
  match sect with
  | none => match c.masterSection with
    | .error e => .error e
    | .ok (_, m) => (sectionEntry m key).map (fun e => (0, key, e))
  | some s => match getItemAt (c :: rest) s with
    | .error e => .error e
    | .ok (d, .entry k e) => .ok (d, k, e)
    | .ok (d, .sect _ sec) => (sectionEntry sec key).map (fun e => (d, key, e))

theorem ownLookupAt_ownLookup (c : Cfg) (rest : List Cfg) (key : String) (sect : Option String) :
    (ownLookupAt c rest key sect).map (·.2) = ownLookup c rest key sect := by
  cases sect with
  | none =>
    simp only [ownLookupAt, ownLookup]
    cases c.masterSection with
    | error e => rfl
    | ok r => obtain ⟨mn, m⟩ := r; simp only; cases sectionEntry m key <;> rfl
  | some s =>
    simp only [ownLookupAt, ownLookup]
    rw [← getItemAt_getItem]
    cases getItemAt (c :: rest) s with
    | error e => rfl
    | ok r =>
      obtain ⟨d, it⟩ := r
      cases it with
      | entry k e => rfl
      | sect n sec => simp only [Except.map]; cases sectionEntry sec key <;> rfl

/-- **getAt_order**: the lookup order of `get`, with the configuration each kind of answer is bound to: the
configuration's own answer keeps its position, an answer of the fallback chain moves one position down, the
default belongs to the configuration that was asked (position 0) -/
theorem getAt_order (c : Cfg) (rest : List Cfg) (key : String) (sect dflt : Option String) :
    getAt (c :: rest) key none sect dflt =
      match ownLookupAt c rest key sect with
      | .ok r => .ok r
      | .error err =>
        match getAt rest key none sect none with
        | .ok r => .ok (r.1 + 1, r.2)
        | .error _ =>
          match dflt with
          | none => .error err
          | some d => .ok (0, key, ⟨d, "default value", []⟩) := by
  cases sect <;> simp only [getAt, ownLookupAt] <;> rfl

/-- **`getAt` refines `get`**: forgetting the position gives exactly `Configuration.get` of the model, so each
result on `get` (order, override, default, errors, first listed profile) holds for the entry `getAt` returns -/
theorem getAt_get (chain : List Cfg) (key : String) (value sect dflt : Option String) :
    (getAt chain key value sect dflt).map (·.2) = Midgard.Config.get chain key value sect dflt := by
  induction chain generalizing value dflt with
  | nil => rfl
  | cons c rest ih =>
    cases value with
    | some v => simp [getAt, Midgard.Config.get, Except.map]
    | none =>
      rw [getAt_order, get_order, ← ownLookupAt_ownLookup, ← ih none none]
      cases ownLookupAt c rest key sect with
      | ok r => rfl
      | error err =>
        simp only [Except.map]
        cases getAt rest key none sect none with
        | ok r => rfl
        | error e => cases dflt <;> rfl

theorem ownLookupAt_lt (c : Cfg) (rest : List Cfg) (key : String) (sect : Option String) (r : Nat × String × Entry)
    (h : ownLookupAt c rest key sect = .ok r) : r.1 < (c :: rest).length := by
  unfold ownLookupAt at h
  split at h
  · split at h
    · cases h
    · obtain ⟨e, rfl⟩ := sectionEntry_map_ok _ key _ r h
      exact Nat.zero_lt_succ _
  · split at h
    · cases h
    · rename_i hi
      cases h
      exact getItemAt_lt _ _ _ _ hi
    · rename_i hi
      obtain ⟨e, rfl⟩ := sectionEntry_map_ok _ key _ r h
      exact getItemAt_lt _ _ _ _ hi

/-- the answer is bound to a configuration of the chain -/
theorem getAt_lt (chain : List Cfg) (key : String) (value sect dflt : Option String) (r : Nat × String × Entry)
    (h : getAt chain key value sect dflt = .ok r) : r.1 < chain.length := by
  induction chain generalizing value dflt r with
  | nil => cases h
  | cons c rest ih =>
    cases value with
    | some v => cases h; exact Nat.zero_lt_succ _
    | none =>
      rw [getAt_order] at h
      split at h
      · rename_i ho
        cases h
        exact ownLookupAt_lt c rest key sect _ ho
      · split at h
        · rename_i hf
          cases h
          exact Nat.succ_lt_succ (ih none none _ hf)
        · split at h
          · cases h
          · cases h; exact Nat.zero_lt_succ _

/-- an explicit override belongs to the configuration that was asked -/
theorem getAt_override (c : Cfg) (rest : List Cfg) (key v : String) (sect dflt : Option String) :
    getAt (c :: rest) key (some v) sect dflt = .ok (0, key, ⟨v, "method call", []⟩) := by
  simp [getAt]

/-- an entry of the configuration's own section belongs to it -/
theorem getAt_own_hit (c : Cfg) (rest : List Cfg) (key s : String) (dflt : Option String) (sec : Section) (e : Entry)
    (hs : dget? c.sections s = some sec) (hk : dget? sec key = some e) :
    getAt (c :: rest) key none (some s) dflt = .ok (0, key, e) := by
  rw [getAt_order]
  simp [ownLookupAt, getItemAt_sect c rest s sec hs, sectionEntry, hk, Except.map]

/-- an entry found by the fallback chain belongs to the configuration the fallback's own `get` binds it to -/
theorem getAt_fallback (c : Cfg) (rest : List Cfg) (key : String) (sect dflt : Option String)
    (err : Err) (r : Nat × String × Entry)
    (hown : ownLookupAt c rest key sect = .error err) (hfb : getAt rest key none sect none = .ok r) :
    getAt (c :: rest) key none sect dflt = .ok (r.1 + 1, r.2) := by
  rw [getAt_order, hown]; simp [hfb]

/-- **the default belongs to the configuration that was asked**, whatever the fallback chain is -/
theorem getAt_default (c : Cfg) (rest : List Cfg) (key d : String) (sect : Option String) (err err' : Err)
    (hown : ownLookupAt c rest key sect = .error err) (hfb : getAt rest key none sect none = .error err') :
    getAt (c :: rest) key none sect (some d) = .ok (0, key, ⟨d, "default value", []⟩) := by
  rw [getAt_order, hown]; simp [hfb]

theorem varsAt_zero (c : Cfg) (rest : List Cfg) : varsAt (c :: rest) 0 = c.vars := rfl

/-- **`.replaced` / `.replace()` on a default**: the variables are those of the configuration that was asked and of
the call — the result does not depend on the variables (or anything else) of the fallback configurations beyond
their not having the entry -/
theorem getReplaced_default (c : Cfg) (rest : List Cfg) (key d : String) (sect : Option String) (err err' : Err)
    (callVars : List (String × String)) (rdflt : Option String)
    (hown : ownLookupAt c rest key sect = .error err) (hfb : getAt rest key none sect none = .error err') :
    getReplaced (c :: rest) key none sect (some d) callVars rdflt =
      .ok (0, key, ⟨d, "default value", []⟩, entryReplace c.vars callVars rdflt d) := by
  simp [getReplaced, getAt_default c rest key d sect err err' hown hfb, Except.map, varsAt_zero]

/-- the same for an explicit override -/
theorem getReplaced_override (c : Cfg) (rest : List Cfg) (key v : String) (sect dflt : Option String)
    (callVars : List (String × String)) (rdflt : Option String) :
    getReplaced (c :: rest) key (some v) sect dflt callVars rdflt =
      .ok (0, key, ⟨v, "method call", []⟩, entryReplace c.vars callVars rdflt v) := by
  simp [getReplaced, getAt_override, Except.map, varsAt_zero]

/-- an own entry is filled in from the configuration's own variables -/
theorem getReplaced_own_hit (c : Cfg) (rest : List Cfg) (key s : String) (dflt : Option String) (sec : Section) (e : Entry)
    (callVars : List (String × String)) (rdflt : Option String)
    (hs : dget? c.sections s = some sec) (hk : dget? sec key = some e) :
    getReplaced (c :: rest) key none (some s) dflt callVars rdflt =
      .ok (0, key, e, entryReplace c.vars callVars rdflt e.value) := by
  simp [getReplaced, getAt_own_hit c rest key s dflt sec e hs hk, Except.map, varsAt_zero]

/-- `cfg[section][key]` of an own section is filled in from the configuration's own variables -/
theorem itemReplaced_own_hit (c : Cfg) (rest : List Cfg) (s key : String) (sec : Section) (e : Entry)
    (callVars : List (String × String)) (rdflt : Option String)
    (hs : dget? c.sections s = some sec) (hk : dget? sec key = some e) :
    itemReplaced (c :: rest) s key callVars rdflt = .ok (0, e, entryReplace c.vars callVars rdflt e.value) := by
  simp [itemReplaced, getItemAt_sect c rest s sec hs, sectionEntry, hk, Except.map, varsAt_zero]

/-- **an entry found in the fallback chain reads exactly as when the fallback configuration is asked itself**
(same entry, same replaced text; only the position moves by one) -/
theorem getReplaced_fallback (c : Cfg) (rest : List Cfg) (key : String) (sect dflt : Option String) (err : Err)
    (callVars : List (String × String)) (rdflt : Option String) (r : Nat × String × Entry × Except RErr String)
    (hown : ownLookupAt c rest key sect = .error err)
    (hfb : getReplaced rest key none sect none callVars rdflt = .ok r) :
    getReplaced (c :: rest) key none sect dflt callVars rdflt = .ok (r.1 + 1, r.2) := by
  simp only [getReplaced] at hfb ⊢
  cases hg : getAt rest key none sect none with
  | error e => rw [hg] at hfb; simp [Except.map] at hfb
  | ok q =>
    rw [hg] at hfb
    simp [Except.map] at hfb
    rw [getAt_fallback c rest key sect dflt err q hown hg]
    simp [Except.map, varsAt_succ, ← hfb]

theorem masterSection_vars (c : Cfg) (vs : List (String × String)) :
    ({ c with vars := vs } : Cfg).masterSection = c.masterSection := rfl

theorem getItemAt_ignores_vars (f : Cfg → List (String × String)) (chain : List Cfg) (name : String) :
    getItemAt (chain.map fun c => { c with vars := f c }) name = getItemAt chain name := by
  induction chain with
  | nil => rfl
  | cons c rest ih =>
    simp only [List.map_cons, getItemAt, masterSection_vars, ih]

/-- **lookups do not read variables**: replacing the variables of every configuration changes nothing about which entry is
found and whom it belongs to -/
theorem getAt_ignores_vars (f : Cfg → List (String × String)) (chain : List Cfg) (key : String)
    (value sect dflt : Option String) :
    getAt (chain.map fun c => { c with vars := f c }) key value sect dflt = getAt chain key value sect dflt := by
  induction chain generalizing value dflt with
  | nil => rfl
  | cons c rest ih =>
    have hi := getItemAt_ignores_vars f (c :: rest)
    simp only [List.map_cons] at hi
    simp only [List.map_cons, getAt, masterSection_vars, ih, hi]

theorem ownLookupAt_ignores_fallback_vars (f : Cfg → List (String × String)) (c : Cfg) (rest : List Cfg)
    (key : String) (sect : Option String) :
    ownLookupAt c (rest.map fun x => { x with vars := f x }) key sect = ownLookupAt c rest key sect := by
  have hi : ∀ s, getItemAt (c :: rest.map fun x => { x with vars := f x }) s = getItemAt (c :: rest) s := by
    intro s; simp only [getItemAt, getItemAt_ignores_vars]
  cases sect with
  | none => rfl
  | some s => simp only [ownLookupAt, hi]

/-- **the default does not see the fallbacks' variables**: when the lookup ends at the default, the text seen through
`.replaced` / `.replace()` is the same whatever variables the fallback configurations hold -/
theorem default_ignores_fallback_vars (f : Cfg → List (String × String)) (c : Cfg) (rest : List Cfg)
    (key d : String) (sect : Option String) (err err' : Err) (callVars : List (String × String)) (rdflt : Option String)
    (hown : ownLookupAt c rest key sect = .error err) (hfb : getAt rest key none sect none = .error err') :
    getReplaced (c :: rest.map fun x => { x with vars := f x }) key none sect (some d) callVars rdflt =
      getReplaced (c :: rest) key none sect (some d) callVars rdflt := by
  rw [getReplaced_default c rest key d sect err err' callVars rdflt hown hfb,
    getReplaced_default c _ key d sect err err' callVars rdflt
      (by rw [ownLookupAt_ignores_fallback_vars]; exact hown) (by rw [getAt_ignores_vars]; exact hfb)]

example : (match getReplaced [{ Cfg.new "main" with vars := [("root", "/data")] }, { Cfg.new "fb" with vars := [("root", "/opt")] }]
    "out" none (some "files") (some "{root}/out") [] none with
    | .ok (0, _, _, .ok s) => s == "/data/out"
    | _ => false) = true := by decide +kernel

/-! ### The accessors `list`, `bool`, `dict`, `int`

`list`: `list_split`, further down with `as_list`, whose `reSplit_spec` it rests on.  `asListChars`, `dictItem` (the `key:value` reading of an item), `decValue` (decimal reading of the digits of a text) are
defined in `Proofs/ConfigAccessors.lean`. -/

/-- **bool**: a value that converts has a lower-case form among the eight spellings, with that truth value (`bool_error`
has the converse: anything else is refused) -/
theorem bool_sound (v : String) (b : Bool) : asBool v = .ok b → (lowerStr v, b) ∈ booleanStates :=
  fun h => dget_mem _ _ _ ((asBool_iff v b).1 h)

theorem bool_error (v : String) : (∃ e, asBool v = .error e) ↔ lowerStr v ∉ booleanStates.map (·.1) := by
  simp only [asBool, ← dget_eq_none_iff]
  cases dget? booleanStates (lowerStr v) <;> simp

/-- **dict, sound**: every pair of `entry.dict` is the `key:value` reading of an item of `entry.list` -/
theorem dict_sound (v : String) (p : String × String) (hp : p ∈ asDict v) :
    ∃ it ∈ asListChars v, p = dictItem it := by
  rw [asDict_eq] at hp
  rcases mem_foldl_dset _ _ _ hp with h | h
  · simp only [List.mem_map] at h
    obtain ⟨it, hit, rfl⟩ := h
    exact ⟨it, hit, rfl⟩
  · simp at h

/-- **dict, complete, last one wins**: every item's key is a key of `entry.dict`, and the value stored
under a key is the value of the *last* item with that key (Python dict construction) -/
theorem dict_lookup (v : String) (k : String) :
    dget? (asDict v) k =
      ((((asListChars v).map dictItem).reverse.find? (fun q => q.1 = k))).map (·.2) := by
  rw [asDict_eq, foldl_dset_get]
  cases (List.find? (fun q => decide (q.1 = k)) (List.map dictItem (asListChars v)).reverse) <;> simp [dget?]

/-- keys of `entry.dict` are unique (it is a dict) -/
theorem dict_keys_nodup (v : String) : KeysNodup (asDict v) := by
  rw [asDict_eq]
  exact nodup_foldl_dset _ [] List.nodup_nil

/-- **int, sound**: when `entry.int` succeeds, the text is — between blanks — an optional sign followed
by digits and underscores that starts and ends with a digit (that underscores come singly is `digitsVal`'s check, not
stated here), and the value is the decimal reading of those digits with that sign -/
theorem int_sound (v : String) (n : Int) (h : asInt v = .ok n) :
    let body := (splitSign (stripBlanks v.toList)).2
    let neg := (splitSign (stripBlanks v.toList)).1
    n = (if neg then -(decValue body : Int) else decValue body) ∧
    body ≠ [] ∧ (∀ c ∈ body, c.isDigit = true ∨ c = '_') ∧
    (∀ c, body.head? = some c → c.isDigit = true) ∧ (∀ c, body.getLast? = some c → c.isDigit = true) := by
  intro body neg
  simp only [asInt] at h
  split at h
  · rename_i k hv
    simp only [Except.ok.injEq] at h
    obtain ⟨h1, h2, h3, h4, h5⟩ := digitsVal_some body false none k hv
    exact ⟨by rw [← h, h2]; rfl, fun hb => by simpa using (h3 hb).2, h1, h5 rfl, h4⟩
  · cases h

/-- **int, error**: a character other than a digit or an underscore after the sign is refused -/
theorem int_error (v : String) (c : Char) (hc : c ∈ (splitSign (stripBlanks v.toList)).2)
    (hbad : c.isDigit = false ∧ c ≠ '_') : asInt v = .error .value := by
  simp only [asInt]
  split
  · rename_i k hv
    rcases (digitsVal_some _ false none k hv).1 c hc with h | h
    · rw [hbad.1] at h; cases h
    · exact absurd h hbad.2
  · rfl

/-- **int, plain numerals**: a non-empty run of decimal digits, optionally signed, converts to its
decimal value (what `str(int)` writes is read back) -/
theorem int_plain (ds : List Char) (hne : ds ≠ []) (hd : ∀ c ∈ ds, c.isDigit = true) :
    asInt (String.ofList ds) = .ok (decValue ds) ∧
    asInt (String.ofList ('-' :: ds)) = .ok (-(decValue ds : Int)) ∧
    asInt (String.ofList ('+' :: ds)) = .ok (decValue ds) := by
  have hv := digitsVal_digits ds hd none (Or.inl hne)
  -- digits, with or without a sign in front, have no blank at either end
  have hstrip : ∀ pre : List Char, (∀ c ∈ pre, isBlank c = false) → stripBlanks (pre ++ ds) = pre ++ ds := by
    intro pre hpre
    have hall : ∀ c ∈ pre ++ ds, isBlank c = false := fun c hc =>
      (List.mem_append.1 hc).elim (hpre c) fun h => digit_not_blank c (hd c h)
    exact stripBlanks_id _ (fun c hc => hall c (List.mem_of_head? hc)) (fun c hc => hall c (List.mem_of_getLast? hc))
  have hnosign : splitSign ds = (false, ds) := by
    cases ds with
    | nil => exact absurd rfl hne
    | cons c t =>
      have hc := hd c (by simp)
      unfold splitSign
      split
      · rename_i h; cases h; exact absurd hc (by decide)
      · rename_i h; cases h; exact absurd hc (by decide)
      · rfl
  have h0 := hstrip [] (by simp)
  have h1 := hstrip ['-'] (by simp; decide)
  have h2 := hstrip ['+'] (by simp; decide)
  simp only [List.nil_append, List.singleton_append] at h0 h1 h2
  simp only [asInt, String.toList_ofList, h0, h1, h2, hnosign]
  simp [splitSign, hv, decValue]

/-! ### `_replace`

The grammar the statements speak of — a text as `Piece`s (`renderPieces`), well-formed and flat references (`RefOK`,
`PieceOK`, `FlatRef`), what a reference becomes (`outOf`, `finalP`), the pieces while the loop runs (`substP`, `partialP`) — is defined in
`Proofs/ConfigReplace.lean`; one round of the loop, `stepR`, below. -/

/-- a text none of whose `{variables}` is known is returned unchanged (no default given) -/
theorem replace_unknown_untouched (vars : List (String × String)) (fuel : Nat) (s : List Char)
    (hunknown : ∀ m ∈ findVars s.length s, dget? vars (String.ofList m.name) = none) :
    replaceVars vars none (fuel + 1) s = .ok s := by
  simp only [replaceVars]
  generalize findVars s.length s = ms at hunknown
  induction ms with
  | nil => rfl
  | cons m t ih =>
    simp only [List.foldl_cons]
    rw [hunknown m (by simp)]
    simp only [Option.map_none]
    exact ih (fun m' hm' => hunknown m' (List.mem_cons_of_mem _ hm'))

/-- a text without an opening brace is never changed, whatever the variables and the default -/
theorem replace_no_braces (vars : List (String × String)) (dflt : Option String) (fuel : Nat) (s : List Char)
    (h : '{' ∉ s) : replaceVars vars dflt (fuel + 1) s = .ok s := by
  simp [replaceVars, findVars_no_brace _ s h]

/-- with no variables defined at all (the `update_from_file` case without a `__replace__` section) the
replacement is the identity — which is why the file reader of the model may skip it -/
theorem replace_no_vars (fuel : Nat) (s : List Char) : replaceVars [] none (fuel + 1) s = .ok s :=
  replace_unknown_untouched [] fuel s (by intro m _; rfl)

/-- what stands between the braces of a reference: `name` or `name:spec` (used in proofs only; it stands in this
file because Lean shares the auxiliary matcher of its `match` with `stepR` below, and only inside one file) -/
def innerOf (m : VarMatch) : List Char :=
  match m.spec with
  | none => m.name
  | some sp => m.name ++ ':' :: sp

theorem expr_inner (m : VarMatch) : m.expr = '{' :: ((innerOf m) ++ ['}']) := by
  cases m with | mk name spec => cases spec <;> simp [VarMatch.expr, innerOf]

theorem inner_no_brace (m : VarMatch) (h : RefOK m) : '{' ∉ (innerOf m) ∧ '}' ∉ (innerOf m) := by
  obtain ⟨_, hw, hs⟩ := h
  have hn1 : '{' ∉ m.name := fun hm => by have := hw _ hm; simp [isWord_open] at this
  have hn2 : '}' ∉ m.name := fun hm => by have := hw _ hm; simp [isWord_close] at this
  cases hsp : m.spec with
  | none => simpa [innerOf, hsp] using ⟨hn1, hn2⟩
  | some sp =>
    have h1 : '{' ∉ sp := fun hm => (hs sp hsp _ hm).1 rfl
    have h2 : '}' ∉ sp := fun hm => (hs sp hsp _ hm).2 rfl
    simp only [innerOf, hsp, List.mem_append, List.mem_cons, not_or]
    exact ⟨⟨hn1, by decide, h1⟩, ⟨hn2, by decide, h2⟩⟩

theorem matchVar_ref (m : VarMatch) (h : RefOK m) (rest : List Char) :
    matchVar ((innerOf m) ++ '}' :: rest) = some (m.name, m.spec, rest) := by
  obtain ⟨hne, hw, hs⟩ := h
  -- the name ends at the first character that is not a word character
  have hstop : ∀ x r, isWord x = false → (m.name ++ x :: r).takeWhile isWord = m.name ∧
      (m.name ++ x :: r).dropWhile isWord = x :: r ∧ m.name.isEmpty = false := fun x r hx =>
    ⟨Decimal.takeWhile_append_stop _ _ _ _ hw hx, Decimal.dropWhile_append_stop _ _ _ _ hw hx, by simpa using hne⟩
  cases hsp : m.spec with
  | none =>
    obtain ⟨h1, h2, h3⟩ := hstop '}' rest isWord_close
    simp [innerOf, hsp, matchVar, h1, h2, h3]
  | some sp =>
    obtain ⟨h1, h2, h3⟩ := hstop ':' (sp ++ '}' :: rest) isWord_colon
    have hsp' : ∀ c ∈ sp, (c ≠ '{' && c ≠ '}') = true := fun c hc => by simp [hs sp hsp c hc]
    simp only [innerOf, hsp, List.append_assoc, List.cons_append, matchVar, h1, h2, h3, Bool.false_eq_true, if_false,
      Decimal.takeWhile_append_stop _ sp '}' rest hsp' (by simp), Decimal.dropWhile_append_stop _ sp '}' rest hsp' (by simp)]

/-- **the references `re.finditer` finds are the references of the text, in order** -/
theorem findVars_pieces (ps : List Piece) (hok : ∀ p ∈ ps, PieceOK p) (n : Nat) (hn : (renderPieces ps).length ≤ n) :
    findVars n (renderPieces ps) = refsOf ps := by
  induction ps generalizing n with
  | nil => cases n <;> simp [renderPieces, findVars, refsOf]
  | cons p t ih =>
    have hokt : ∀ q ∈ t, PieceOK q := fun q hq => hok q (List.mem_cons_of_mem _ hq)
    have hr : renderPieces (p :: t) = p.text ++ renderPieces t := by simp [renderPieces]
    rw [hr] at hn ⊢
    cases p with
    | lit x =>
      have hx : '{' ∉ x := hok (.lit x) (by simp)
      simp only [Piece.text, List.length_append] at hn ⊢
      rw [findVars_skip x _ n hx (by omega), ih hokt _ (by omega)]
      rfl
    | ref m =>
      have hm : RefOK m := hok (.ref m) (by simp)
      simp only [Piece.text, expr_inner, List.length_append, List.length_cons] at hn ⊢
      cases n with
      | zero => simp at hn
      | succ n =>
        have : '{' :: ((innerOf m) ++ ['}']) ++ renderPieces t = '{' :: ((innerOf m) ++ '}' :: renderPieces t) := by simp
        rw [this]
        simp only [findVars, if_true, matchVar_ref m hm]
        rw [ih hokt n (by simp at hn; omega)]
        cases m; rfl

/-- **`text.replace(expr, new)` replaces exactly the references written like `expr`** -/
theorem replaceAll_pieces (m0 : VarMatch) (h0 : RefOK m0) (new : List Char) (ps : List Piece)
    (hok : ∀ p ∈ ps, PieceOK p) (n : Nat) (hn : (renderPieces ps).length ≤ n) :
    replaceAll m0.expr new n (renderPieces ps) = renderPieces (ps.map (substP m0.expr new)) := by
  induction ps generalizing n with
  | nil => cases n <;> rfl
  | cons p t ih =>
    have hokt : ∀ q ∈ t, PieceOK q := fun q hq => hok q (List.mem_cons_of_mem _ hq)
    have hr : ∀ q (l : List Piece), renderPieces (q :: l) = q.text ++ renderPieces l := fun q l => rfl
    rw [List.map_cons, hr, hr] at *
    rw [List.length_append] at hn
    cases p with
    | lit x =>
      have hx : '{' ∉ x := hok (.lit x) (by simp)
      simp only [Piece.text, substP] at hn ⊢
      rw [expr_inner, replaceAll_skip _ _ _ _ _ hx (by omega), ← expr_inner, ih hokt _ (by omega)]
    | ref m =>
      have hm : RefOK m := hok (.ref m) (by simp)
      obtain ⟨k, rfl⟩ : ∃ k, n = k + 1 := ⟨n - 1, by simp only [Piece.text, expr_inner, List.length_cons] at hn; omega⟩
      simp only [Piece.text, substP] at hn ⊢
      by_cases he : m.expr = m0.expr
      · -- the reference is written like `expr`: it is replaced
        rw [if_pos he, he, expr_inner m0, replaceAll_hit, ← expr_inner m0, ih hokt k (by
          rw [he, expr_inner, List.length_cons] at hn; omega)]
      · -- another reference: `expr` does not start at its brace, and there is no further brace inside it
        have hpf : isPrefix m0.expr ('{' :: (innerOf m ++ ['}'] ++ renderPieces t)) = false := by
          rw [Bool.eq_false_iff]
          intro hc
          rw [expr_inner m0] at hc
          simp only [isPrefix, decide_true, Bool.true_and, List.append_assoc, List.singleton_append] at hc
          exact he (by rw [expr_inner, expr_inner,
            isPrefix_closed _ _ _ (inner_no_brace m0 h0).2 (inner_no_brace m hm).2 hc])
        have hb : '{' ∉ innerOf m ++ ['}'] := by
          simp only [List.mem_append, List.mem_singleton, not_or]
          exact ⟨(inner_no_brace m hm).1, by decide⟩
        rw [expr_inner m, List.length_cons] at hn
        rw [if_neg he, expr_inner m, List.cons_append, replaceAll_miss _ _ _ _ _ hpf, expr_inner m0,
          replaceAll_skip _ _ _ _ _ hb (by omega), ← expr_inner m0, ih hokt _ (by omega)]
        simp [expr_inner m]

/-- one round of the loop of `_replace` -/
def stepR (vars : List (String × String)) (dflt : Option String) (fuel : Nat)
    (acc : Except RErr (List Char)) (m : VarMatch) : Except RErr (List Char) :=
  match acc with
  | .error e => .error e
  | .ok cur =>
    let repl : Except RErr (Option (List Char)) :=
      match dget? vars (String.ofList m.name) with
      | none => .ok (dflt.map String.toList)
      | some r => (replaceVars vars dflt fuel r.toList).map some
    match repl with
    | .error e => .error e
    | .ok none => .ok cur
    | .ok (some r) =>
      match formatStr m.spec r with
      | none => .error .unsupportedSpec
      | some txt => .ok (replaceAll m.expr txt cur.length cur)

theorem replaceVars_eq (vars : List (String × String)) (dflt : Option String) (fuel : Nat) (s : List Char) :
    replaceVars vars dflt (fuel + 1) s = (findVars s.length s).foldl (stepR vars dflt fuel) (.ok s) := rfl

/-- the nested `_replace` on the variable's value finds no brace and returns it -/
theorem stepR_flat (vars : List (String × String)) (dflt : Option String) (fuel : Nat) (m : VarMatch)
    (h : FlatRef vars dflt m) (cur : List Char) :
    stepR vars dflt (fuel + 1) (.ok cur) m =
      .ok (match outOf vars dflt m with | some txt => replaceAll m.expr txt cur.length cur | none => cur) := by
  obtain ⟨_, hv, hf⟩ := h
  simp only [stepR, outOf, targetOf] at hf ⊢
  cases hd : dget? vars (String.ofList m.name) with
  | some r =>
    obtain ⟨txt, ht, _⟩ := hf r.toList (by simp [hd])
    simp [replace_no_braces vars dflt fuel r.toList (hv r hd), Except.map, ht]
  | none =>
    cases dflt with
    | none => simp
    | some d =>
      obtain ⟨txt, ht, _⟩ := hf d.toList (by simp [hd])
      simp [ht]

theorem expr_inj (m m' : VarMatch) (h : RefOK m) (h' : RefOK m') (he : m.expr = m'.expr) : m = m' := by
  rw [expr_inner, expr_inner] at he
  have hi : innerOf m ++ ['}'] = innerOf m' ++ ['}'] := by simpa using he
  have h1 := matchVar_ref m h []
  have h2 := matchVar_ref m' h' []
  rw [hi, h2] at h1
  cases m; cases m'; simp at h1; simp [h1.1, h1.2]

theorem partialP_step (vars : List (String × String)) (dflt : Option String) (done : List VarMatch) (m0 : VarMatch)
    (h0 : RefOK m0) (p : Piece) (hp : PieceOK p) :
    (match outOf vars dflt m0 with
      | some txt => substP m0.expr txt (partialP vars dflt done p)
      | none => partialP vars dflt done p) = partialP vars dflt (done ++ [m0]) p := by
  cases p with
  | lit t => cases outOf vars dflt m0 <;> rfl
  | ref m =>
    -- different references are written differently, so replacing one leaves the other alone
    have hne : m ≠ m0 → m.expr ≠ m0.expr := fun h he => h (expr_inj m m0 hp h0 he)
    by_cases he : m = m0
    · subst he
      by_cases hd : m ∈ done <;> cases ho : outOf vars dflt m <;> simp [partialP, finalP, substP, hd, ho]
    · by_cases hd : m ∈ done <;> cases ho0 : outOf vars dflt m0 <;> cases ho : outOf vars dflt m <;>
        simp [partialP, finalP, substP, hd, he, ho, hne he]

/-- the loop invariant: after the references `done` the text is the rendering of the pieces with exactly those references
in their final form -/
theorem foldl_stepR (vars : List (String × String)) (dflt : Option String) (fuel : Nat) (ps : List Piece)
    (hok : ∀ p ∈ ps, PieceOK p) (hflat : ∀ m, Piece.ref m ∈ ps → FlatRef vars dflt m)
    (L : List VarMatch) (hL : ∀ m ∈ L, FlatRef vars dflt m) (done : List VarMatch) :
    L.foldl (stepR vars dflt (fuel + 1)) (.ok (renderPieces (ps.map (partialP vars dflt done)))) =
      .ok (renderPieces (ps.map (partialP vars dflt (done ++ L)))) := by
  induction L generalizing done with
  | nil => simp
  | cons m0 t ih =>
    have h0 := hL m0 (by simp)
    have hcur : ∀ p ∈ ps.map (partialP vars dflt done), PieceOK p := by
      intro p hp
      obtain ⟨q, hq, rfl⟩ := List.mem_map.1 hp
      exact partialP_ok vars dflt done q (hok q hq) (fun m hm => hflat m (hm ▸ hq))
    have hmap := List.map_congr_left (l := ps) fun p hp => (partialP_step vars dflt done m0 h0.1 p (hok p hp)).symm
    rw [List.foldl_cons, stepR_flat vars dflt fuel m0 h0]
    have hnext : (match outOf vars dflt m0 with
        | some txt => replaceAll m0.expr txt (renderPieces (ps.map (partialP vars dflt done))).length
            (renderPieces (ps.map (partialP vars dflt done)))
        | none => renderPieces (ps.map (partialP vars dflt done))) =
        renderPieces (ps.map (partialP vars dflt (done ++ [m0]))) := by
      rw [hmap]
      cases outOf vars dflt m0 with
      | none => rfl
      | some txt => exact (replaceAll_pieces m0 h0.1 txt _ hcur _ (Nat.le_refl _)).trans (by rw [List.map_map]; rfl)
    rw [hnext]
    simpa [List.append_assoc] using ih (fun m hm => hL m (List.mem_cons_of_mem _ hm)) (done ++ [m0])

/-- **`_replace` on the whole grammar**: a text made of
brace-free stretches and any number of references `{name}` / `{name:spec}` — repeated ones included —, in the flat case
(values of known variables without an opening brace, specs `format` accepts): every reference to a known variable becomes
`format(value, spec)`, every reference to an unknown variable becomes `format(default, spec)` when a default is given
and stays exactly as it is when none is given, and the stretches in between are untouched -/
theorem replace_all_references (vars : List (String × String)) (dflt : Option String) (fuel : Nat) (ps : List Piece)
    (hok : ∀ p ∈ ps, PieceOK p) (hflat : ∀ m, Piece.ref m ∈ ps → FlatRef vars dflt m) :
    replaceVars vars dflt (fuel + 2) (renderPieces ps) = .ok (renderPieces (ps.map (finalP vars dflt))) := by
  rw [replaceVars_eq, findVars_pieces ps hok _ (Nat.le_refl _)]
  have h0 : ps.map (partialP vars dflt []) = ps := by
    rw [List.map_congr_left (g := id)]; simp
    intro p _; cases p <;> simp [partialP]
  have := foldl_stepR vars dflt fuel ps hok hflat (refsOf ps) (fun m hm => hflat m ((mem_refsOf ps m).1 hm)) []
  rw [h0] at this
  rw [this]
  congr 2
  apply List.map_congr_left
  intro p hp
  cases p with
  | lit t => rfl
  | ref m => simp [partialP, (mem_refsOf ps m).2 hp]

/-- unknown variables without a default: the text comes back unchanged wherever it has no known variable — and with
`replace_all_references` the known ones are replaced around them -/
example : replaceVars [("year", "2019"), ("doy", "7")] none 5 "/data/{year}/{doy:>3}_{year}_{unknown}.txt".toList =
    .ok "/data/2019/  7_2019_{unknown}.txt".toList := by
  -- the kernel reads a literal as `String.ofList [...]`: handing it the characters spares it decoding the bytes
  rw [String.toList_ofList, String.toList_ofList]
  decide +kernel

example : replaceVars [("year", "2019")] (some "*") 5 "{year}/{sta}{sta:^5}".toList = .ok "2019/*  *  ".toList := by
  rw [String.toList_ofList, String.toList_ofList]
  decide +kernel

/-- **a reference to a known variable is replaced by the variable's value**: in a text `pre{name}post` with no other
opening brace, with `name` a known variable whose value has no opening brace, `_replace` returns `pre` + value + `post` — whatever
the default is, whatever other variables are defined -/
theorem replace_known_variable (vars : List (String × String)) (dflt : Option String) (fuel : Nat)
    (pre name post : List Char) (v : String)
    (hpre : '{' ∉ pre) (hpost : '{' ∉ post) (hne : name ≠ []) (hw : ∀ c ∈ name, isWord c = true)
    (hv : dget? vars (String.ofList name) = some v) (hvb : '{' ∉ v.toList) :
    replaceVars vars dflt (fuel + 2) (pre ++ '{' :: name ++ '}' :: post) = .ok (pre ++ v.toList ++ post) := by
  have hm : RefOK ⟨name, none⟩ := ⟨hne, hw, fun sp hsp => by cases hsp⟩
  have h := replace_all_references vars dflt fuel [.lit pre, .ref ⟨name, none⟩, .lit post]
    (by
      intro p hp
      simp only [List.mem_cons, List.not_mem_nil, or_false] at hp
      rcases hp with rfl | rfl | rfl
      · exact hpre
      · exact hm
      · exact hpost)
    (by
      intro m hmem
      obtain rfl : m = ⟨name, none⟩ := by simpa using hmem
      refine ⟨hm, fun r hr => ?_, fun t ht => ⟨t, rfl, ?_⟩⟩
      · rw [hv] at hr; cases hr; exact hvb
      · simp only [targetOf, hv] at ht; cases ht; exact hvb)
  simpa [renderPieces, Piece.text, VarMatch.expr, finalP, outOf, targetOf, hv, formatStr_none] using h

/-- the same through `entry.replace(default, **call_vars)` -/
theorem entryReplace_known_variable (entryVars callVars : List (String × String)) (dflt : Option String)
    (pre name post : List Char) (v : String)
    (hpre : '{' ∉ pre) (hpost : '{' ∉ post) (hne : name ≠ []) (hw : ∀ c ∈ name, isWord c = true)
    (hv : dget? (callVars.foldl (fun acc kx => dset acc kx.1 kx.2) entryVars) (String.ofList name) = some v)
    (hvb : '{' ∉ v.toList) :
    entryReplace entryVars callVars dflt (String.ofList (pre ++ '{' :: name ++ '}' :: post)) =
      .ok (String.ofList (pre ++ v.toList ++ post)) := by
  simp only [entryReplace, String.toList_ofList]
  -- `entry.replace` runs `_replace` with fuel 64 = 62 + 2
  rw [replace_known_variable _ dflt 62 pre name post v hpre hpost hne hw hv hvb]
  rfl

example : entryReplace [("root", "/data")] [] none "{root}/out" = .ok "/data/out" :=
  entryReplace_known_variable [("root", "/data")] [] none [] "root".toList "/out".toList "/data"
    (hpre := by simp) (hpost := by decide) (hne := by decide) (hw := by decide) (hv := by decide) (hvb := by decide)

/-! ### `update_from_file`: `DEFAULT`, `__replace__`, `__vars__` -/

theorem takeOk_map_ok {ε α} (l : List α) : takeOk (l.map (Except.ok (ε := ε))) = (l, none) := by
  induction l with
  | nil => rfl
  | cons a t ih => simp [takeOk, ih]

theorem replaceIn_nil (s : String) : replaceIn [] s = .ok s := by
  -- `replaceIn` runs `_replace` with fuel 64 = 63 + 1
  simp [replaceIn, replace_no_vars 63 s.toList, Except.map]

theorem joinValueR_nil (vs : List (List Char)) : joinValueR [] vs = .ok (joinValue vs) := by
  simp [joinValueR, replaceIn_nil, Except.map, joinValue, rawValue]

theorem sectionUpdatesR_nil (source : String) (allowNew : Bool) (n : String) (opts : List RawOpt) :
    sectionUpdatesR [] source allowNew n opts = (sectionUpdates source allowNew n opts).map .ok := by
  simp only [sectionUpdatesR, sectionUpdates]
  split
  · rfl
  · rw [List.map_filterMap]
    congr 1
    funext o
    split
    · rfl
    · cases hv : o.value with
      | none => simp [replaceIn_nil]
      | some vs => simp [replaceIn_nil, joinValueR_nil]

theorem fileUpdatesR_nil (source : String) (allowNew : Bool) (raw : List (String × List RawOpt)) :
    fileUpdatesR [] source allowNew raw = (fileUpdates source allowNew raw).map .ok := by
  simp [fileUpdatesR, fileUpdates, sectionUpdatesR_nil, List.map_flatMap]

/-- **the extended reader is conservative**: for a file without `DEFAULT`, `__replace__` and `__vars__` sections
`update_from_file` is the reader of the round-trip theorems (`Cfg.updateFromText`) -/
theorem updateFromFile_plain (c : Cfg) (text source : String) (allowNew caseSensitive : Bool)
    (raw : List (String × List RawOpt)) (hraw : readIniRaw (!caseSensitive) text = .ok raw)
    (hd : dget? raw "DEFAULT" = none) (hr : dget? raw "__replace__" = none) (hv : dget? raw "__vars__" = none) :
    c.updateFromFile text source allowNew caseSensitive =
      (c.updateFromText text source allowNew caseSensitive).map (fun r => (r.1, r.2.map FileErr.cfg)) := by
  simp only [Cfg.updateFromFile, Cfg.updateFromText, hraw, Except.map, applyDefaults, hd, hr, hv, replaceTable,
    fileUpdatesR_nil, takeOk_map_ok]
  cases ((c.updateMany false (fileUpdates source allowNew raw) []).2.1) <;> rfl

theorem updateRaw_vars (c c' : Cfg) (u : Upd) (h : c.updateRaw u = .ok c') : c'.vars = c.vars := by
  simp only [Cfg.updateRaw] at h
  split at h
  · simp at h
  · simp at h; rw [← h]

theorem updateMany_vars (skip : Bool) (l : List (String × Upd)) (c : Cfg) (done : List String) :
    (c.updateMany skip l done).1.vars = c.vars := by
  induction l generalizing c done with
  | nil => rfl
  | cons tu t ih =>
    obtain ⟨tag, u⟩ := tu
    simp only [Cfg.updateMany]
    cases hu : c.updateRaw u with
    | ok c' => simp only; rw [ih, updateRaw_vars c c' u hu]
    | error e =>
      simp only
      split
      · exact ih c done
      · rfl

/-- **`__vars__`**: after `update_from_file` the variables are the old ones overlaid with the items of the `__vars__`
section of the file (with the `DEFAULT` options seen in it) — also when an entry of the file is refused or a
replacement raises; without such a section the variables are untouched -/
theorem updateFromFile_vars (c c' : Cfg) (text source : String) (allowNew caseSensitive : Bool) (e : Option FileErr)
    (raw : List (String × List RawOpt)) (hraw : readIniRaw (!caseSensitive) text = .ok raw)
    (h : c.updateFromFile text source allowNew caseSensitive = .ok (c', e)) :
    c'.vars = match dget? (applyDefaults raw) "__vars__" with
      | some os => (c.updateVarsOpt (sectionItems os)).vars
      | none => c.vars := by
  simp only [Cfg.updateFromFile, hraw, Except.map] at h
  injection h with h
  have h1 := congrArg Prod.fst h
  simp only at h1
  rw [← h1, updateMany_vars]
  cases dget? (applyDefaults raw) "__vars__" <;> rfl

/-- sections whose name starts with `__` (`__vars__`, `__replace__`, …) define no entries -/
theorem dunder_sections_no_entries (rv : List (String × String)) (source : String) (allowNew : Bool) (n : String)
    (rest : List Char) (hn : n.toList = '_' :: '_' :: rest) (opts : List RawOpt) :
    sectionUpdatesR rv source allowNew n opts = [] := by
  simp [sectionUpdatesR, hn, partDunder]

example : (match (Cfg.new "c").updateFromFile
    "[DEFAULT]\nunit = m\n[__vars__]\nroot = /data\n[__replace__]\nsta = zimm\n[s1]\nk_{sta} = {root}/{sta}.txt\n" "f" true false with
    | .ok (c', none) => c'.vars == [("root", "/data"), ("unit", "m")] &&
        c'.sections == [("s1", [("k_zimm", ⟨"{root}/zimm.txt", "f", []⟩), ("unit", ⟨"m", "f", []⟩)])]
    | _ => false) = true := by decide +kernel

/-! ### The `profiles` setter -/

/-- whatever is assigned to `cfg.profiles`, the profile-less level `None` ends the priority list
("then the profile-less value"); `None` and the empty list select no profile -/
theorem setProfiles_last (c : Cfg) (v : Option (List Profile)) :
    (c.setProfiles v).profiles.getLast? = some none := by
  simp only [Cfg.setProfiles, Cfg.refresh]
  cases v with
  | none => rfl
  | some l =>
    cases l with
    | nil => rfl
    | cons a t =>
      simp only
      split
      · rename_i h; exact h
      · rw [List.getLast?_append]; simp

theorem setProfiles_none_eq_empty (c : Cfg) : c.setProfiles none = c.setProfiles (some []) := rfl

/-! ### Wrapping keeps the words

`wordChunks` (the chunks that are not blank) is defined in `Proofs/ConfigWrap.lean`. -/

/-- **wrapping keeps every word**: the lines `textwrap` produces contain, in order, exactly the word
chunks of the text — only blank chunks are dropped (at line starts and ends), nothing is split,
merged, reordered or lost, for every width and indent -/
theorem wrap_keeps_words (w hang : Nat) (n : Nat) (first : Bool) (cs : List (List Char))
    (hfuel : cs.length ≤ n) :
    wordChunks (wrapChunks w hang n first cs).flatten = wordChunks cs := by
  induction n generalizing first cs with
  | zero =>
    have : cs = [] := by cases cs <;> simp_all
    subst this; simp [wrapChunks, wordChunks]
  | succ n ih =>
    cases cs with
    | nil => simp [wrapChunks, wordChunks]
    | cons ch0 r0 =>
      simp only [wrapChunks]
      generalize hcs : (if (!first && isSpaceChunk ch0) = true then r0 else ch0 :: r0) = cs'
      have hlen : cs'.length ≤ n + 1 := by
        rw [← hcs]; split <;> simp at hfuel ⊢ <;> omega
      have hwords : wordChunks cs' = wordChunks (ch0 :: r0) := by
        rw [← hcs]; split
        · rename_i h; simp at h; simp [wordChunks, h.2]
        · rfl
      obtain ⟨hsplit, hne⟩ := lineSplit_spec (if first = true then w else w - hang) cs'
      generalize lineSplit (if first = true then w else w - hang) cs' = sp at hsplit hne
      obtain ⟨cur2, rest2⟩ := sp
      simp only at hsplit hne ⊢
      have hrest : rest2.length ≤ n := by
        by_cases hcs' : cs' = []
        · subst hcs'; simp at hsplit; simp [hsplit.2]
        · have := hne hcs'
          have hl : cs'.length = cur2.length + rest2.length := by rw [← hsplit]; simp
          have : 0 < cur2.length := List.length_pos_iff.2 this
          omega
      have hfin : wordChunks (dropTrailingSpace cur2) ++ wordChunks rest2 = wordChunks (ch0 :: r0) := by
        rw [wordChunks_dropTrailingSpace, ← wordChunks_append, hsplit, hwords]
      split
      · rename_i hemp
        rw [ih first rest2 hrest]
        have : dropTrailingSpace cur2 = [] := by simpa using hemp
        rw [this] at hfin
        simpa [wordChunks] using hfin
      · rw [List.flatten_cons, wordChunks_append, ih false rest2 hrest]
        exact hfin

/-- the same for `fill`, whose fuel is the number of chunks plus one -/
theorem fill_keeps_words (w hang : Nat) (text : List Char) :
    wordChunks (wrapChunks w hang ((chunks (munge text)).length + 1) true (chunks (munge text))).flatten
      = wordChunks (chunks (munge text)) :=
  wrap_keeps_words w hang _ true _ (Nat.le_succ _)

/-! ### Text form: written with `as_str`, read back with `update_from_file`

The statement is about exactly the functions the driver runs for its `w` and `r` operations
(`asStr`, `Cfg.updateFromText` = `readIniRaw` + `fileUpdates` + `Cfg.updateMany`), which every run compares
character for character with `Configuration.as_str` and with `ConfigParser` + `update_from_file` on the
written file.

`WfText lower w kw secs` (decidable, `Proofs/ConfigDoc.lean`) says which configurations the text form can
carry — each clause is a way the real reader would return something else:
 * section names: pairwise different, no blank, a non-empty part before the first `__`, not `DEFAULT`;
   sections are not empty (`as_str` leaves an empty section out);
 * keys: pairwise different within a section, not empty, no blank, no `=`, no `:` (that marks metadata), lower
   case unless the reader is case sensitive, not starting with `[`, `#` or `;`; key, padding and `=` fit the
   line (`max kw |key| + 2 ≤ w`); the same for the metadata option names `key:meta`, and the metadata names of
   one entry are pairwise different;
 * values and metadata texts: words separated by single blanks (the empty text included), no `%`
   (interpolation), no word starting with `#` or `;` (a wrapped line starting with such a word is a comment).
Long words, words longer than the line, values wrapped over any number of lines, keys longer than the key
column, valueless metadata (`key:meta` alone on a line) and `section__profile` names are all inside. -/

open Midgard.Proofs.ConfigText (WfText readBack readEntry profileOf baseOf)

/-- **Text round trip.**  For every well-formed configuration `secs` (the flattened view `as_str` writes),
every line width `w` and key column `kw`: reading the written text (`as_str` + the final line break of
`write_to_file`) into a new configuration succeeds without error, and the configuration read has, for every
profile `p`, exactly the sections that were written under a name standing for `p` (`name` → no profile,
`name__p` → profile `p`), in the order written, each with the same keys in the same order, the same values
and the same metadata (`readBack`); its flattened view is the profile-less part. -/
theorem text_roundtrip (caseSensitive : Bool) (w kw : Nat) (secs : Sections)
    (hwf : WfText (!caseSensitive) w kw secs = true) (name src : String) :
    ∃ c', (Cfg.new name).updateFromText (asStr w kw secs ++ "\n") src true caseSensitive = .ok (c', none) ∧
      c'.name = name ∧ c'.profiles = [none] ∧ c'.master = none ∧ c'.vars = [] ∧
      (∀ p, (dget? c'.profileSections p).getD [] = readBack src p secs) ∧
      c'.sections = readBack src none secs :=
  Midgard.Proofs.ConfigText.text_roundtrip_main caseSensitive w kw secs hwf name src

/-- **Text round trip, no profile sections.**  When no section name contains `__`, the view read back is the
view written: the same sections in the same order, the same keys in the same order, the same values and the
same metadata; the source of every entry read back is the file. -/
theorem text_roundtrip_plain (caseSensitive : Bool) (w kw : Nat) (secs : Sections)
    (hwf : WfText (!caseSensitive) w kw secs = true)
    (hplain : ∀ ns ∈ secs, (partDunder ns.1.toList).2.1 = false) (name src : String) :
    ∃ c', (Cfg.new name).updateFromText (asStr w kw secs ++ "\n") src true caseSensitive = .ok (c', none) ∧
      c'.sections = secs.map (fun ns => (ns.1, ns.2.map (fun ke => (ke.1, ⟨ke.2.value, src, ke.2.metas⟩)))) :=
  Midgard.Proofs.ConfigText.text_roundtrip_plain_main caseSensitive w kw secs hwf hplain name src

/-- the driver's `r` operation (`Driver/C19.lean`: key column 30, written out there — the default `key_width` of `as_str`
and `entry_as_str`; no theorem compares it with the regenerated `Generated.ConfigTables.keyWidth` —, reader not case
sensitive, configuration `reread`, source `F`) answers with the view written -/
theorem text_roundtrip_driver (w : Nat) (secs : Sections) (hwf : WfText true w 30 secs = true)
    (hplain : ∀ ns ∈ secs, (partDunder ns.1.toList).2.1 = false) :
    ∃ c', (Cfg.new "reread").updateFromText (asStr w 30 secs ++ "\n") "F" true false = .ok (c', none) ∧
      c'.sections = secs.map (fun ns => (ns.1, ns.2.map (fun ke => (ke.1, ⟨ke.2.value, "F", ke.2.metas⟩)))) :=
  text_roundtrip_plain false w 30 secs hwf hplain "reread" "F"

/-- **the text form is stable**: a written configuration that is read back and written again gives the same
text, character for character (what `update_on_file` and the fixed `FILE_WIDTH` are for) -/
theorem text_form_stable (caseSensitive : Bool) (w kw : Nat) (secs : Sections)
    (hwf : WfText (!caseSensitive) w kw secs = true)
    (hplain : ∀ ns ∈ secs, (partDunder ns.1.toList).2.1 = false) (name src : String) :
    ∃ c', (Cfg.new name).updateFromText (asStr w kw secs ++ "\n") src true caseSensitive = .ok (c', none) ∧
      asStr w kw c'.sections = asStr w kw secs := by
  obtain ⟨c', h1, h2⟩ := text_roundtrip_plain caseSensitive w kw secs hwf hplain name src
  exact ⟨c', h1, by rw [h2]; exact asStr_ignores_source w kw secs src⟩

/-- what `readBack` says, entry by entry: a written section `n` with entry `(k, e)` is found under profile
`profileOf n`, section `baseOf n`, key `k`, with value and metadata of `e` -/
theorem readBack_mem (src : String) (secs : Sections) (n : String) (s : Section) (h : (n, s) ∈ secs) :
    (baseOf n, s.map (fun ke => (ke.1, readEntry src (profileOf n) ke.2))) ∈ readBack src (profileOf n) secs :=
  (Midgard.Proofs.ConfigText.mem_readBack _ _ _ _).2 ⟨(n, s), h, rfl, rfl⟩

/-- a non-trivial configuration inside `WfText` at width 45 (12 characters per continuation line): a value
wrapped over many lines, a word longer than a line, a hyphenated word, words with `#`, `;`, `=`, `[`, `:`
inside, an empty value, a key longer than the key column, metadata with and without value, a wrapped help
text, and two profiles of the same section -/
def exampleSecs : Sections :=
  [("gnss",
     [("stations", ⟨"zimm onsa nyal trom hofn mets wtzr kir0 mar6 vis0 north-east", "code", []⟩),
      ("empty", ⟨"", "", []⟩),
      ("a_key_longer_than_the_key_column", ⟨"/a/path/that/is/much/longer/than/the/forty-five/characters/of/a/line.txt b", "",
        [("help", some "How the a#b c;d e=f [g] h:i values are chosen"), ("type", some "List[str]"), ("flag", none)]⟩)]),
   ("gnss__vlbi", [("stations", ⟨"wettzell ny-alesund", "", [("help", some "x")]⟩)]),
   ("gnss__slr", [("stations", ⟨"", "", []⟩), ("k2", ⟨"0", "", []⟩)]),
   ("files", [("path", ⟨"{year}/{doy:03d}/file.txt", "", [("wrapper", none)]⟩)])]

theorem exampleSecs_wf : WfText true 45 30 exampleSecs = true := by decide +kernel

example : WfText true 45 30 exampleSecs = true := exampleSecs_wf
example : WfText true 200 30 exampleSecs = true := Midgard.Proofs.ConfigText.wfText_mono (by decide) exampleSecs_wf

/-- the first value is written on six lines -/
example : (entryLines 45 30 "stations"
    ⟨"zimm onsa nyal trom hofn mets wtzr kir0 mar6 vis0 north-east", "code", []⟩).length = 6 := by
  rw [entryLines]
  rw [String.toList_ofList, String.toList_ofList, String.toList_ofList]
  decide +kernel

/-- a word starting with `#` is outside (it would be read as a comment when it starts a line) -/
example : WfText true 45 30 [("s", [("k", ⟨"a #b", "", []⟩)])] = false := by decide +kernel

/-! ### Accessors with arguments: `as_list`, `as_tuple`, `as_dict`, `float`, `date`, `datetime`, `path`, `as_enum` -/

/-- the default patterns and limits of the source are the ones the model's defaults stand for -/
theorem accessor_defaults :
    Generated.ConfigTables.splitDefaults = [("as_list.split_re", "[\\s,]"), ("as_tuple.split_re", "[\\s,]"),
      ("as_dict.item_split_re", "[\\s,]"), ("as_dict.key_value_split_re", "[:]")] ∧
    Generated.ConfigTables.maxsplitDefaults = [("as_list", 0), ("as_tuple", 0), ("as_dict", 0)] ∧
    parseClass? "[\\s,]" = some classSpaceComma ∧ parseClass? "[:]" = some classColon ∧
    Generated.ConfigTables.asDateDefault = "%Y-%m-%d" ∧ Generated.ConfigTables.asDatetimeDefault = "%Y-%m-%d %H:%M:%S" ∧
    Generated.ConfigTables.fmtDate = "%Y-%m-%d" ∧ Generated.ConfigTables.fmtDatetime = "%Y-%m-%d %H:%M:%S" := by
  decide +kernel

/-- **`as_list()` / `as_tuple()` with their defaults are the `list` / `tuple` properties** -/
theorem asListRe_default (v : String) : asListRe classSpaceComma 0 v = asList v := by
  simp only [asListRe, limOf, if_true, asList]
  rw [reSplit_filter_eq_splitBlanks classSpaceComma.has classSpaceComma_has]

/-- **the pieces of `re.split(class, text)`**: no piece contains a character of the class, and their concatenation is the
text without the characters of the class -/
theorem reSplit_spec (isSep : Char → Bool) (s cur : List Char) (hcur : ∀ c ∈ cur, isSep c = false) :
    (∀ p ∈ reSplit isSep none s cur, ∀ c ∈ p, isSep c = false) ∧
    (reSplit isSep none s cur).flatten = cur.reverse ++ s.filter (fun c => !isSep c) := by
  induction s generalizing cur with
  | nil => simpa [reSplit] using hcur
  | cons c t ih =>
    rw [reSplit_none_cons, List.filter_cons]
    cases hc : isSep c
    · obtain ⟨h1, h2⟩ := ih (c :: cur) (by simpa [hc] using hcur)
      exact ⟨h1, by simp [h2]⟩
    · obtain ⟨h1, h2⟩ := ih [] (by simp)
      exact ⟨by simpa using ⟨hcur, h1⟩, by simp [h2]⟩

/-- **`as_list(split_re)`**: every element is non-empty and free of separator characters, and in order they make up the
text without its separator characters (for `maxsplit = 0`) -/
theorem asListRe_spec (cc : CharClass) (v : String) :
    (∀ w ∈ asListRe cc 0 v, w ≠ "" ∧ ∀ c ∈ w.toList, cc.has c = false) ∧
    ((asListRe cc 0 v).map String.toList).flatten = v.toList.filter (fun c => !cc.has c) := by
  obtain ⟨h1, h2⟩ := reSplit_spec cc.has v.toList [] (by simp)
  simp only [asListRe, limOf, if_true]
  constructor
  · intro w hw
    obtain ⟨p, hp, rfl⟩ := List.mem_map.1 hw
    obtain ⟨hp1, hp2⟩ := List.mem_filter.1 hp
    refine ⟨?_, by simpa using h1 p hp1⟩
    intro h
    have : p = [] := by simpa using congrArg String.toList h
    simp [this] at hp2
  · rw [List.map_map]
    have : (String.toList ∘ String.ofList) = id := by funext x; simp
    rw [this, List.map_id]
    rw [List.flatten_filter_not_isEmpty, h2]; simp

/-- **list_split**: every element of `entry.list` / `entry.tuple` is non-empty and contains neither a
comma nor a blank, and together, in order, they are exactly the non-separator characters of the text -/
theorem list_split (v : String) :
    (∀ w ∈ asListChars v, w ≠ [] ∧ ',' ∉ w ∧ ∀ c ∈ w, isBlank c = false) ∧
    (asListChars v).flatten = v.toList.filter (fun c => c ≠ ',' && !isBlank c) := by
  obtain ⟨h1, h2⟩ := reSplit_spec (fun c => isBlank c || decide (c = ',')) v.toList [] (by simp)
  rw [asListChars, ← reSplit_filter_eq_splitBlanks _ (fun _ => rfl)]
  refine ⟨fun w hw => ?_, ?_⟩
  · obtain ⟨hw1, hw2⟩ := List.mem_filter.1 hw
    have hsep := h1 w hw1
    refine ⟨fun e => by simp [e] at hw2, fun hc => by simpa using hsep ',' hc, fun c hc => ?_⟩
    exact (Bool.or_eq_false_iff.1 (hsep c hc)).1
  · rw [List.flatten_filter_not_isEmpty, h2]
    simp only [List.reverse_nil, List.nil_append]
    apply List.filter_congr
    intro c _
    by_cases hc : c = ',' <;> simp [hc]

theorem asDictRe_default (v : String) :
    asDictRe classSpaceComma classColon 0 v =
      if ∀ it ∈ asListChars v, ':' ∈ it then .ok (asDict v) else .error .value := by
  rw [asDictRe_eq, asListRe_default, asList_eq, asDict_eq]
  generalize asListChars v = l
  suffices hs : ∀ d, (l.map String.ofList).foldl (dictStep classColon) (.ok d) =
      if ∀ it ∈ l, ':' ∈ it then .ok ((l.map dictItem).foldl (fun acc p => dset acc p.1 p.2) d) else .error .value from hs []
  induction l with
  | nil => intro d; simp
  | cons it t ih =>
    intro d
    simp only [List.map_cons, List.foldl_cons, dictStep_colon, List.forall_mem_cons]
    by_cases h : ':' ∈ it
    · simp only [h, if_true, true_and]
      exact ih _
    · simp only [h, if_false, false_and]
      exact dictStep_error _ _ _

/-- **`as_dict()` with its defaults**: when every item has a colon it is the `dict` property -/
theorem asDictRe_default_ok (v : String) (h : ∀ it ∈ asListChars v, ':' ∈ it) :
    asDictRe classSpaceComma classColon 0 v = .ok (asDict v) := by
  rw [asDictRe_default, if_pos h]

/-- … and when some item has no colon, `as_dict()` raises ValueError (the unpacking `for k, v in …` fails), where the
`dict` property maps that item to the empty text -/
theorem asDictRe_default_error (v : String) (it : List Char) (hit : it ∈ asListChars v) (hno : ':' ∉ it) :
    asDictRe classSpaceComma classColon 0 v = .error .value := by
  rw [asDictRe_default, if_neg fun h => hno (h it hit)]

/-- **`dict_partition`**: the `dict` property takes an item apart with `str.partition(":")` — an item without a colon is
a key with the empty text as value (it is not an error, unlike in `as_dict`) -/
theorem dict_partition (it : List Char) (h : ':' ∉ it) : dictItem it = (String.ofList it, "") := by
  have := (dictItem_text it).2 h
  apply Prod.ext
  · simpa using congrArg String.ofList this.1
  · exact this.2

example : asDict "elevation:10, ionosphere, clock:poly:2" = [("elevation", "10"), ("ionosphere", ""), ("clock", "poly:2")] := by
  decide +kernel

example : (asDictRe classSpaceComma classColon 0 "elevation:10, ionosphere") = .error .value := by
  apply asDictRe_default_error _ "ionosphere".toList <;> decide +kernel

/-- `entry.float` raises nothing but ValueError -/
theorem asFloat_error (v : String) (e : Err) (h : asFloat v = .error e) : e = .value := by
  simp only [asFloat] at h
  split at h
  · simp at h
  · split at h
    · simp at h
    · split at h
      · simp at h; exact h.symm
      · split at h
        · simp at h; exact h.symm
        · split at h <;> simp at h; exact h.symm

/-- **`entry.float` = the decimal parser on the text without its blanks around and its underscores**: a finite answer is
the exact value `Decimal.parseFloat` (the `float()` grammar shared with the file parsers: sign, digits, point,
exponent) gives for the text with the underscores taken out, and underscores are accepted between two digits only -/
theorem asFloat_sound (v : String) (q : Rat) (h : asFloat v = .ok (.finite q)) :
    ∃ t, dropUnderscores none (stripBlanks v.toList) = some t ∧ Midgard.Decimal.parseFloat t = some q := by
  simp only [asFloat] at h
  split at h
  · simp at h
  · split at h
    · simp at h
    · split at h
      · simp at h
      · rename_i t ht
        split at h
        · simp at h
        · split at h
          · rename_i q' hq
            simp at h; subst h; exact ⟨t, ht, hq⟩
          · simp at h

theorem dropUnderscores_spec (prev : Option Char) (s t : List Char) (h : dropUnderscores prev s = some t) :
    t = s.filter (· ≠ '_') := by
  induction s generalizing prev t with
  | nil => simp [dropUnderscores] at h; subst h; rfl
  | cons c r ih =>
    by_cases hc : c = '_'
    · subst hc
      cases prev with
      | none => simp [dropUnderscores] at h
      | some p =>
        cases r with
        | nil => simp [dropUnderscores] at h
        | cons n r' =>
          simp only [dropUnderscores] at h
          split at h
          · simpa using ih _ _ h
          · simp at h
    · have : dropUnderscores prev (c :: r) = (dropUnderscores (some c) r).map (c :: ·) := by
        cases prev <;> simp [dropUnderscores]
      rw [this] at h
      cases hr : dropUnderscores (some c) r with
      | none => simp [hr] at h
      | some t' => simp [hr] at h; subst h; simp [hc, ih _ _ hr]

/-- a text without underscores is handed to the decimal parser as it is -/
theorem dropUnderscores_plain (prev : Option Char) (s : List Char) (h : '_' ∉ s) : dropUnderscores prev s = some s := by
  induction s generalizing prev with
  | nil => rfl
  | cons c r ih =>
    have hc : c ≠ '_' := by intro e; subst e; simp at h
    have hr : '_' ∉ r := fun hm => h (List.mem_cons_of_mem _ hm)
    cases prev <;> simp [dropUnderscores, ih _ hr]

example : asFloat "1_000" = .ok (.finite 1000) := by decide +kernel
example : asFloat " -2.5e-3\n" = .ok (.finite (-1 / 400)) := by decide +kernel
example : asFloat "1__0" = .error .value ∧ asFloat "1_.5" = .error .value ∧ asFloat "" = .error .value := by decide +kernel
example : asFloat "-Infinity" = .ok (.inf true) ∧ asFloat "NaN" = .ok .nan := by decide +kernel

section Dates
open Midgard.TimeFormat Midgard.Text

/-- **`entry.date` agrees with the `%Y-%m-%d` parser of the time model (C02)** whenever that one accepts the text (the
accessor's own parser accepts in addition a day written as a blank and one digit, as `_strptime`'s `%d` does) -/
theorem asDate_of_strptime (v : String) (dt : Int) (h : strptime .date false v.toList = some dt) : asDate v = .ok dt := by
  simp only [strptime, Option.bind_eq_some_iff] at h
  obtain ⟨a, ha, h⟩ := h
  simp only [asDate, ymdDirB_of_ymdDir _ a ha, Option.bind_some, h]

theorem asDatetime_of_strptime (v : String) (dt : Int) (h : strptime .iso false v.toList = some dt) :
    asDatetime v = .ok dt := by
  simp only [strptime, Option.bind_eq_some_iff, reduceCtorEq, if_false, optFracDir, Bool.false_eq_true] at h
  obtain ⟨a, ha, s1, hw, b, hb, u, hu, h⟩ := h
  cases hu
  simp only [asDatetime, ymdDirB_of_ymdDir _ a ha, Option.bind_some, hw, hb, h]

/-- **what `date.isoformat()` writes, `entry.date` reads**: for every day of the years 1000 … 9999 -/
theorem asDate_isoformat (dt : DateTime) (hy : 1000 ≤ (fieldsOf dt).year ∧ (fieldsOf dt).year ≤ 9999) :
    asDate (String.ofList (render .date dt)) = .ok (dt / usPerDay * usPerDay) := by
  apply asDate_of_strptime
  have := Midgard.TimeFormat.parse_render_date dt hy
  simp only [parse?, render] at this
  rw [str2dt_nofrac _ _ (noPoint_renderYmd _)] at this
  simpa [render] using this

/-- **what `str(datetime)` writes for a whole second, `entry.datetime` reads** -/
theorem asDatetime_isoformat (dt : DateTime) (hy : 1000 ≤ (fieldsOf dt).year ∧ (fieldsOf dt).year ≤ 9999) :
    asDatetime (String.ofList (renderYmd (fieldsOf dt) ++ ' ' :: renderHms (fieldsOf dt))) =
      .ok (dt - (fieldsOf dt).micro) := by
  apply asDatetime_of_strptime
  have hx := fieldsSpec dt
  generalize fieldsOf dt = x at hx hy
  simp only [String.toList_ofList, strptime]
  rw [ymdDir_render x _ hy hx.month hx.day]
  have hws : wsDir (' ' :: renderHms x) = some (renderHms x) := by
    apply wsDir_blank _
    intro c r' hcr
    obtain ⟨d, r, hz, hd⟩ := zpad_head_digit 2 x.hour
    unfold renderHms at hcr
    rw [hz] at hcr
    simp only [List.cons_append, List.cons.injEq] at hcr
    rw [← hcr.1]; exact Midgard.Decimal.isSpace_of_isDigit hd
  simp only [Option.bind_some, reduceCtorEq, if_false, hws]
  have hh := hmsDir_render x [] hx.hour hx.minute hx.second
  rw [List.append_nil] at hh
  rw [hh]
  simp only [Option.bind_some, optFracDir, Bool.false_eq_true, if_false, List.isEmpty_nil, if_true]
  unfold mkDateTime
  have h59 : x.second ≤ 59 := by have := hx.second; omega
  rw [if_pos ⟨by omega, hx.valid, h59⟩]
  have hb := hx.back
  simp only [ofFields, usPerDay, usPerSec] at hb ⊢
  rw [Option.some.injEq]
  have key : ∀ a c d : Int, a + c = d → a + 0 = d - c := by intro a c d h; omega
  exact key _ _ _ hb

example : asDate "2020-02-30" = .error .value ∧ asDate "2020-1-5" = asDate "2020-01-05" ∧ asDate "2020-01- 5" = asDate "2020-01-05" ∧
    asDate "2000-01-02" = .ok 86400000000 ∧ asDatetime "2000-01-01  0:0:1" = .ok 1000000 ∧
    asDatetime "2000-01-01 00:00:60" = .error .value := by decide +kernel

end Dates

/-- a single path component (no slash, not empty, not `.`) is its own path -/
theorem normPath_component (s : List Char) (h : '/' ∉ s) (hne : s ≠ []) (hdot : s ≠ ['.']) : normPath s = s := by
  have htw : s.takeWhile (· = '/') = [] := by
    cases s with
    | nil => rfl
    | cons c t =>
      have hc : c ≠ '/' := by intro e; subst e; simp at h
      simp [List.takeWhile, hc]
  have hemp : s.isEmpty = false := by cases s <;> simp_all
  have hd : (s != ['.']) = true := by simpa using hdot
  simp [normPath, htw, splitOnChar_none '/' s [] h, hemp, hd, joinWith]

/-- without `~` the text goes to `pathlib` as it is -/
theorem asPath_no_tilde (home v : String) (h : '~' ∉ v.toList) : asPath home v = some (String.ofList (normPath v.toList)) := by
  simp [asPath, h]

/-- `~/rest` is `$HOME` (without trailing slashes) followed by `/rest` -/
theorem expandUser_home (home rest : List Char) :
    expandUser home ('~' :: '/' :: rest) = some ((home.reverse.dropWhile (· = '/')).reverse ++ '/' :: rest) := by
  simp [expandUser]

example : asPath "/home/geo/" "~/x//y/./z/" = some "/home/geo/x/y/z" ∧ asPath "/h" "//a/b" = some "//a/b" ∧
    asPath "/h" "///a" = some "/a" ∧ asPath "/h" "" = some "." ∧ asPath "/h" "~user/x" = none ∧ asPath "/h" "a~b" = some "a~b" := by
  decide +kernel

/-- **`as_enum(name)`**: the member (an alias stands for the member it was defined equal to) when the registered
enumeration `name` has a member called like the value; ValueError when it has not; UnknownEnumError when no enumeration
is registered under `name` -/
theorem asEnum_spec (table : List (String × List (String × String))) (name v : String) :
    (∀ m, asEnum table name v = .ok m ↔ ∃ members, dget? table name = some members ∧ dget? members v = some m) ∧
    (asEnum table name v = .error .unknownEnum ↔ dget? table name = none) ∧
    (asEnum table name v = .error .value ↔ ∃ members, dget? table name = some members ∧ dget? members v = none) := by
  simp only [asEnum]
  cases ht : dget? table name with
  | none => simp
  | some members =>
    simp only
    cases hm : dget? members v with
    | none => simp [hm]
    | some c => simp [hm]

example : asEnum Generated.ConfigTables.enumTable "gnss_freq_G" "f1" = .ok "L1" ∧
    asEnum Generated.ConfigTables.enumTable "gnss_freq_G" "l1" = .error .value ∧
    asEnum Generated.ConfigTables.enumTable "nope" "L1" = .error .unknownEnum := by decide +kernel

section OneLine
open Midgard.Proofs.ConfigText

/-! ### An entry that fits on one line keeps its runs of blanks

`spacedValue w1 ps` (words with arbitrary non-empty runs of blanks between them) is defined in `Proofs/ConfigLines.lean`. -/

/-- **written on one line**: when key column, `=` and value fit the width, `console.fill` leaves the text as it is — every
run of blanks inside the value is kept -/
theorem fill_one_line (w hang : Nat) (x0 : List Char) (ps : List Pair) (hx : IsWord x0) (hps : PairsOK ps)
    (hctl : NoCtl (flatAlt x0 ps).flatten) (hfit : (flatAlt x0 ps).flatten.length ≤ w) :
    fill w hang (flatAlt x0 ps).flatten = [(flatAlt x0 ps).flatten] := by
  simp only [fill, chunks_flatAlt x0 ps hx hps hctl]
  rw [wrapChunks_first _ _ _ _ (flatAlt_ne_nil _ _), lineSplit_fits w _ hfit, dropTrailingSpace_flatAlt x0 ps hx hps]
  simp [flatAlt, wrapChunks_nil, renderLines]

/-- **`entry_as_str` of an entry without metadata that fits on one line** is that one line, the value unchanged -/
theorem entryLines_one_line (w kw : Nat) (k : String) (w1 : List Char) (ps : List Pair) (src : String)
    (hkey : IsWord k.toList) (hw1 : IsWord w1) (hps : PairsOK ps)
    (hctl : NoCtl (entryText kw k.toList (spacedValue w1 ps)))
    (hfit : (entryText kw k.toList (spacedValue w1 ps)).length ≤ w) :
    entryLines w kw k ⟨String.ofList (spacedValue w1 ps), src, []⟩ = [entryText kw k.toList (spacedValue w1 ps)] := by
  have hP : PairsOK (entryPairs kw k.toList w1 ps) := by
    intro p hp
    simp only [entryPairs, List.mem_cons] at hp
    rcases hp with rfl | rfl | hp
    · exact ⟨isSpaces_pad kw k.toList, isWord_eqSign⟩
    · exact ⟨isSpaces_single, hw1⟩
    · exact hps p hp
  have h := fill_one_line w (kw + 3) k.toList (entryPairs kw k.toList w1 ps) hkey hP
    (by rw [← entryText_spaced]; exact hctl) (by rw [← entryText_spaced]; exact hfit)
  rw [← entryText_spaced] at h
  simpa [entryLines, entryText] using h

/-- **read from one line**: the reader returns the key and the value exactly as written — blank runs, `#`, `;`, `=`, `:`
anywhere in the value (a comment character starts a comment only at the start of a line, the first `=` of the line ends the
key) -/
theorem readLine_one_line (lower : Bool) (p : PState) (n : String) (os : List RawOpt) (kw : Nat)
    (key v : List Char) (hcur : p.cur = some (n, os)) (hkey : KeyOK lower key)
    (hvh : ∀ c, v.head? = some c → isBlank c = false) (hvl : ∀ c, v.getLast? = some c → isBlank c = false) (hvne : v ≠ [])
    (hnew : key ∉ (os ++ p.opt.toList).map (·.key)) :
    readLine lower p (key ++ padOf kw key ++ '=' :: ' ' :: v) =
      .ok { done := p.done, cur := some (n, os ++ p.opt.toList), opt := some ⟨key, some [v]⟩, indent := 0 } := by
  have hlast : ∀ c, (key ++ padOf kw key ++ '=' :: ' ' :: v).getLast? = some c → isBlank c = false := by
    intro c hc
    rw [show key ++ padOf kw key ++ '=' :: ' ' :: v = (key ++ padOf kw key ++ ['=', ' ']) ++ v by simp,
      Text.getLast?_append_ne _ _ hvne] at hc
    exact hvl c hc
  have h := readLine_keyValue lower p n os kw key (' ' :: v) hcur hkey hlast hnew
  rwa [show ' ' :: v = [' '] ++ v from rfl, stripBlanks_blanks_append _ _ (by simp [isBlank_space]),
    stripBlanks_id v hvh hvl] at h

/-- the value the reader hands on for a one-line option is the text of that line -/
theorem joinValue_one_line (v : List Char) (hvh : ∀ c, v.head? = some c → isBlank c = false)
    (hvl : ∀ c, v.getLast? = some c → isBlank c = false) (hnl : '\n' ∉ v) : joinValue [v] = String.ofList v := by
  have hmap : v.map (fun c => if c = '\n' then ' ' else c) = v := map_nl2sp_id v hnl
  simp [joinValue, joinLines, rstripBlanks_id v hvl, hmap, stripBlanks_id v hvh hvl]

/-- a value with runs of two and three blanks, a `#`, a `;` and a `=` inside, on one line: written as it is, read as it is
(the document-level theorem `text_roundtrip` asks for single blanks because a run that meets a line break is read back as
one blank) -/
example : let secs : Sections := [("s1", [("k1", ⟨"a  b   #c ;d = e", "x", []⟩)])]
    (match (Cfg.new "r").updateFromText (asStr 80 30 secs ++ "\n") "x" true false with
      | .ok (c, none) => c.sections == secs
      | _ => false) = true ∧ WfText true 80 30 secs = false := by decide +kernel

/-- … and the same value at a width where the line breaks inside a run of blanks: the run comes back as one blank, which
is why `WfText` asks for single blanks -/
example : let secs : Sections := [("s1", [("k1", ⟨"aaaa   bbbb", "x", []⟩)])]
    (match (Cfg.new "r").updateFromText (asStr 40 30 secs ++ "\n") "x" true false with
      | .ok (c, none) => c.sections == [("s1", [("k1", ⟨"aaaa bbbb", "x", []⟩)])]
      | _ => false) = true := by decide +kernel

end OneLine

end Midgard.Props.C19

#print axioms Midgard.Props.C19.bool_spellings
#print axioms Midgard.Props.C19.bool_spellings_eight
#print axioms Midgard.Props.C19.widths
#print axioms Midgard.Props.C19.replace_regex
#print axioms Midgard.Props.C19.get_catches
#print axioms Midgard.Props.C19.fill_options
#print axioms Midgard.Props.C19.flatten_priority
#print axioms Midgard.Props.C19.applyOp_good
#print axioms Midgard.Props.C19.new_good
#print axioms Midgard.Props.C19.run_good
#print axioms Midgard.Props.C19.lookup_first_profile
#print axioms Midgard.Props.C19.get_override
#print axioms Midgard.Props.C19.get_order
#print axioms Midgard.Props.C19.get_own_hit
#print axioms Midgard.Props.C19.get_fallback_before_default
#print axioms Midgard.Props.C19.get_default
#print axioms Midgard.Props.C19.get_error
#print axioms Midgard.Props.C19.master_when_no_section
#print axioms Midgard.Props.C19.master_when_no_section_get
#print axioms Midgard.Props.C19.get_first_profile
#print axioms Midgard.Props.C19.list_split
#print axioms Midgard.Props.C19.bool_sound
#print axioms Midgard.Props.C19.bool_error
#print axioms Midgard.Props.C19.replace_unknown_untouched
#print axioms Midgard.Props.C19.replace_no_braces
#print axioms Midgard.Props.C19.replace_no_vars
#print axioms Midgard.Props.C19.setProfiles_last
#print axioms Midgard.Props.C19.setProfiles_none_eq_empty
#print axioms Midgard.Props.C19.wrap_keeps_words
#print axioms Midgard.Props.C19.fill_keeps_words
#print axioms Midgard.Props.C19.dict_sound
#print axioms Midgard.Props.C19.dict_lookup
#print axioms Midgard.Props.C19.dict_keys_nodup
#print axioms Midgard.Props.C19.int_sound
#print axioms Midgard.Props.C19.int_error
#print axioms Midgard.Props.C19.int_plain
#print axioms Midgard.Props.C19.text_roundtrip
#print axioms Midgard.Props.C19.text_roundtrip_plain
#print axioms Midgard.Props.C19.text_roundtrip_driver
#print axioms Midgard.Props.C19.readBack_mem
#print axioms Midgard.Props.C19.text_form_stable
#print axioms Midgard.Props.C19.exampleSecs_wf
#print axioms Midgard.Props.C19.ownLookupAt_ownLookup
#print axioms Midgard.Props.C19.getAt_order
#print axioms Midgard.Props.C19.getAt_get
#print axioms Midgard.Props.C19.ownLookupAt_lt
#print axioms Midgard.Props.C19.getAt_lt
#print axioms Midgard.Props.C19.getAt_override
#print axioms Midgard.Props.C19.getAt_own_hit
#print axioms Midgard.Props.C19.getAt_fallback
#print axioms Midgard.Props.C19.getAt_default
#print axioms Midgard.Props.C19.varsAt_zero
#print axioms Midgard.Props.C19.getReplaced_default
#print axioms Midgard.Props.C19.getReplaced_override
#print axioms Midgard.Props.C19.getReplaced_own_hit
#print axioms Midgard.Props.C19.getReplaced_fallback
#print axioms Midgard.Props.C19.masterSection_vars
#print axioms Midgard.Props.C19.getItemAt_ignores_vars
#print axioms Midgard.Props.C19.getAt_ignores_vars
#print axioms Midgard.Props.C19.ownLookupAt_ignores_fallback_vars
#print axioms Midgard.Props.C19.default_ignores_fallback_vars
#print axioms Midgard.Props.C19.takeOk_map_ok
#print axioms Midgard.Props.C19.replaceIn_nil
#print axioms Midgard.Props.C19.joinValueR_nil
#print axioms Midgard.Props.C19.sectionUpdatesR_nil
#print axioms Midgard.Props.C19.fileUpdatesR_nil
#print axioms Midgard.Props.C19.updateFromFile_plain
#print axioms Midgard.Props.C19.updateRaw_vars
#print axioms Midgard.Props.C19.updateMany_vars
#print axioms Midgard.Props.C19.updateFromFile_vars
#print axioms Midgard.Props.C19.dunder_sections_no_entries
#print axioms Midgard.Props.C19.itemReplaced_own_hit
#print axioms Midgard.Props.C19.replace_known_variable
#print axioms Midgard.Props.C19.entryReplace_known_variable
#print axioms Midgard.Props.C19.accessor_defaults
#print axioms Midgard.Props.C19.asListRe_default
#print axioms Midgard.Props.C19.reSplit_spec
#print axioms Midgard.Props.C19.asListRe_spec
#print axioms Midgard.Props.C19.asDictRe_default
#print axioms Midgard.Props.C19.asDictRe_default_ok
#print axioms Midgard.Props.C19.asDictRe_default_error
#print axioms Midgard.Props.C19.dict_partition
#print axioms Midgard.Props.C19.asFloat_error
#print axioms Midgard.Props.C19.asFloat_sound
#print axioms Midgard.Props.C19.dropUnderscores_spec
#print axioms Midgard.Props.C19.dropUnderscores_plain
#print axioms Midgard.Props.C19.asDate_of_strptime
#print axioms Midgard.Props.C19.asDatetime_of_strptime
#print axioms Midgard.Props.C19.asDate_isoformat
#print axioms Midgard.Props.C19.asDatetime_isoformat
#print axioms Midgard.Props.C19.normPath_component
#print axioms Midgard.Props.C19.asPath_no_tilde
#print axioms Midgard.Props.C19.expandUser_home
#print axioms Midgard.Props.C19.asEnum_spec
#print axioms Midgard.Props.C19.expr_inner
#print axioms Midgard.Props.C19.inner_no_brace
#print axioms Midgard.Props.C19.matchVar_ref
#print axioms Midgard.Props.C19.findVars_pieces
#print axioms Midgard.Props.C19.replaceAll_pieces
#print axioms Midgard.Props.C19.replaceVars_eq
#print axioms Midgard.Props.C19.stepR_flat
#print axioms Midgard.Props.C19.expr_inj
#print axioms Midgard.Props.C19.partialP_step
#print axioms Midgard.Props.C19.foldl_stepR
#print axioms Midgard.Props.C19.replace_all_references
#print axioms Midgard.Props.C19.fill_one_line
#print axioms Midgard.Props.C19.entryLines_one_line
#print axioms Midgard.Props.C19.readLine_one_line
#print axioms Midgard.Props.C19.joinValue_one_line
