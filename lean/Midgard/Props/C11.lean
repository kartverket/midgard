/-
C11 — RINEX observation files (2.x, 3.x) are parsed into exactly the records they contain.

Property theorems about `Model/Rinex3Obs.lean`, `Model/Rinex2Obs.lean` (models of the parsers as they
stand), the generated column tables `Generated/Rinex{3,2}ObsCols.lean` and the RINEX 3.04 / 2.11
layouts of `Spec/Rinex.lean`.  Numbers are exact rationals of the printed decimals; double
rounding is measured by the correspondence (harness/c11.py), not proved.

For RINEX 3 the file-level theorems are stated here and their parts (`epoch_line`, `sat_line`, `special_line`, `block_run` …)
stay in `Proofs/Rinex3Obs*.lean`; for RINEX 2 the parts are restated here as well (`obs_lines2` … `blocks_run2'`), because that
is where the parser departs most from the format (the label heuristic, lines continued by count, the all-blank line) and each
part is a claim a reader of the property asks about.
-/
import Midgard.Proofs.Rinex3ObsHeader
import Midgard.Proofs.Rinex2ObsHeader
import Midgard.Proofs.RinexObsPost

namespace Midgard.Props.C11
open Midgard.Text Midgard.FixedCol Midgard.ChainParser Midgard.RinexObs Midgard.Decimal
open Midgard.Spec.Rinex (RecSpec headerSpecs renderLabelled renderCells findLabel epoch3 epoch2 obs3 obs2 obsTriple)

/-! ### The code's column tables against the standards' -/

def intersects (f g : Field) : Bool := decide (f.start < g.stop) && decide (g.start < f.stop)
def inside (g f : Field) : Bool := decide (f.start ≤ g.start) && decide (g.stop ≤ f.stop)

/-- a parser field *covers* the standard's layout when the standard's fields it touches are at least
one, lie completely inside it, and — if it is exactly one — carry the same name: the parser reads
that field plus blank (`nX`) columns only -/
def covers (spec : Layout) (f : Field) : Bool :=
  let hit := spec.filter (intersects f)
  !hit.isEmpty && hit.all (inside · f) &&
  (match hit with
   | [g] => g.name == f.name
   | _ => true)

/-- a header label of the code: some record of the standard with that label is covered field by field -/
def headerCovered (d : LabelDef) : Bool :=
  d.openFields.isEmpty && d.strip == .whitespace &&
  (findLabel d.label).any fun sp => d.fields.all (covers sp.layout)

/-- `SYS / SCALE FACTOR` is declared by the code but not implemented (its handler only logs) -/
def knownUnimplemented : List String := ["SYS / SCALE FACTOR"]

theorem header_cols_cover_spec :
    (Midgard.Generated.Rinex3ObsCols.header.filter fun d => !knownUnimplemented.contains d.label).all headerCovered = true ∧
    Midgard.Generated.Rinex2ObsCols.header.all headerCovered = true := by
  decide +kernel

/-- the data records: RINEX 3 epoch line (plus the code's own look at columns 61–80 for comment lines),
RINEX 3 observation record (`sat` then 16-character fields from column 4), RINEX 2 epoch line incl. the
12-satellite list, RINEX 2 observation line of five 16-character fields -/
theorem record_cols_cover_spec :
    (Midgard.Generated.Rinex3ObsCols.records.map fun d => (d.label, d.strip, d.openFields)) =
      [("False", .whitespace, []), ("True", .newline, [("obs", 3)])] ∧
    ((Midgard.Generated.Rinex3ObsCols.records.find? (·.label == "False")).map fun d =>
      (d.fields.filter (·.name != "comment")).all (covers epoch3.layout) &&
      d.fields.any (fun f => f == ⟨"comment", 60, 80⟩)) = some true ∧
    ((Midgard.Generated.Rinex3ObsCols.records.find? (·.label == "True")).map fun d =>
      d.fields == [⟨"sat", 0, 3⟩]) = some true ∧
    (Midgard.Generated.Rinex2ObsCols.records.map fun d => (d.label, d.strip, d.openFields)) =
      [("False", .newline, []), ("True", .newline, [])] ∧
    ((Midgard.Generated.Rinex2ObsCols.records.find? (·.label == "False")).map fun d =>
      d.fields.all (covers epoch2.layout)) = some true ∧
    ((Midgard.Generated.Rinex2ObsCols.records.find? (·.label == "True")).map fun d =>
      d.fields.all (covers (obs2 5).layout) && d.fields.map (fun f => (f.start, f.stop)) ==
        [(0, 16), (16, 32), (32, 48), (48, 64), (64, 80)]) = some true := by
  decide +kernel

/-- the handler registered for each label is the one the models dispatch to -/
theorem handlers_as_modelled :
    (Midgard.Generated.Rinex3ObsCols.header.map fun d => (d.label, d.handler)) =
      [("RINEX VERSION / TYPE", "_parse_string"), ("PGM / RUN BY / DATE", "_parse_string"), ("COMMENT", "_parse_comment"),
       ("MARKER NAME", "_parse_string"), ("MARKER NUMBER", "_parse_string"), ("MARKER TYPE", "_parse_string"),
       ("OBSERVER / AGENCY", "_parse_string"), ("REC # / TYPE / VERS", "_parse_string"), ("ANT # / TYPE", "_parse_string"),
       ("APPROX POSITION XYZ", "_parse_approx_position"), ("ANTENNA: DELTA H/E/N", "_parse_float"),
       ("ANTENNA: DELTA X/Y/Z", "_parse_float"), ("SYS / # / OBS TYPES", "_parse_sys_obs_types"),
       ("SIGNAL STRENGTH UNIT", "_parse_string"), ("INTERVAL", "_parse_float"),
       ("TIME OF FIRST OBS", "_parse_time_of_first_obs"), ("TIME OF LAST OBS", "_parse_time_of_last_obs"),
       ("RCV CLOCK OFFS APPL", "_parse_string"), ("SYS / DCBS APPLIED", "_parse_sys_dcbs_applied"),
       ("SYS / PCVS APPLIED", "_parse_sys_pcvs_applied"), ("SYS / SCALE FACTOR", "_parse_scale_factor"),
       ("SYS / PHASE SHIFT", "_parse_phase_shift"), ("GLONASS SLOT / FRQ #", "_parse_glonass_slot"),
       ("GLONASS COD/PHS/BIS", "_parse_glonass_code_phase_bias"), ("LEAP SECONDS", "_parse_leap_seconds"),
       ("# OF SATELLITES", "_parse_integer")] ∧
    (Midgard.Generated.Rinex2ObsCols.header.map fun d => (d.label, d.handler)) =
      [("RINEX VERSION / TYPE", "_parse_rinex_version_type"), ("PGM / RUN BY / DATE", "_parse_string"),
       ("COMMENT", "_parse_comment"), ("MARKER NAME", "_parse_string"), ("MARKER NUMBER", "_parse_string"),
       ("OBSERVER / AGENCY", "_parse_string"), ("REC # / TYPE / VERS", "_parse_string"), ("ANT # / TYPE", "_parse_string"),
       ("APPROX POSITION XYZ", "_parse_approx_position"), ("ANTENNA: DELTA H/E/N", "_parse_float"),
       ("WAVELENGTH FACT L1/2", "_parse_wavelength_fact"), ("# / TYPES OF OBSERV", "_parse_types_of_observ"),
       ("INTERVAL", "_parse_float"), ("TIME OF FIRST OBS", "_parse_time_of_first_obs"),
       ("TIME OF LAST OBS", "_parse_time_of_last_obs"), ("RCV CLOCK OFFS APPL", "_parse_string"),
       ("LEAP SECONDS", "_parse_leap_seconds"), ("# OF SATELLITES", "_parse_integer")] ∧
    (Midgard.Generated.Rinex3ObsCols.records.map fun d => (d.label, d.handler)) =
      [("False", "_parse_observation_epoch"), ("True", "_parse_observation")] ∧
    (Midgard.Generated.Rinex2ObsCols.records.map fun d => (d.label, d.handler)) =
      [("False", "_parse_observation_epoch"), ("True", "_parse_observation")] := by
  decide +kernel

/-! ### Header records: fixed columns + label -/

theorem specs_ok : headerSpecs.all Records.specOk = true := by
  rw [List.all_eq_true]
  intro sp hsp
  obtain ⟨hs, hw, hal, hc, hne⟩ := Records.spec_facts hsp
  simp [Records.specOk, hs, hw, hal, hc, hne]

/-- **Header record round trip.**  Every header record kind of RINEX 3.04 / 2.11 (including the
continuation-line kinds of the observation-type lists with 13 resp. 9 types per line, the phase-shift
satellite list and the GLONASS slot list) whose cells fit their columns is read back cell by cell from
the right-stripped rendered line, and the header label function returns its label. -/
theorem header_record_roundtrip (sp : RecSpec) (hsp : sp ∈ headerSpecs) (cells : List Str)
    (hlen : cells.length = sp.layout.length) (hf : Fits sp.layout (sp.aligns.zip cells) = true) :
    sp.layout.map (fun f => slice f (rstrip (renderLabelled sp cells))) = cells ∧
    asString (strip (sliceFrom 60 (rstrip (renderLabelled sp cells)))) = sp.label :=
  Records.header_record_roundtrip sp hsp cells hlen hf

/-! ### Observation records: value, LLI and SNR of the k-th 16-character column -/

theorem obs3_ok : (List.range 41).all Records.obs3Ok = true :=
  List.all_eq_true.mpr fun n _ => Records.obs3Ok_all n

/-- the three texts the parser cuts out of observation field `k` are the standard's value / LLI / SNR columns -/
theorem triple_slices (line : Str) (n k : Nat) :
    let f := Midgard.Rinex3Obs.obsField (ljust (16 * n) (sliceFrom 3 line)) k
    [strip (Text.slice 0 14 f), strip (Text.slice 14 15 f), strip (Text.slice 15 16 f)] =
      (obsTriple k (3 + 16 * k)).map (fun g => FixedCol.slice g line) :=
  Records.triple_slices line n k

theorem obs_record (n : Nat) (hn : n ≤ 40) (sat : Str) (cells : List Str) (hlen : cells.length = 3 * n)
    (hf : Fits (obs3 n).layout ((obs3 n).aligns.zip (sat :: cells)) = true) :
    (Midgard.Rinex3Obs.obsTriples n (sliceFrom 3 (rstrip (renderCells (obs3 n) (sat :: cells))))).flatMap
        (fun t => [strip t.1, strip t.2.1, strip t.2.2]) = cells ∧
    strip (Text.slice 0 3 (rstrip (renderCells (obs3 n) (sat :: cells)))) = sat :=
  Records.obs_record n hn sat cells hlen hf

/-- with `_float` on top: the parsed (value, LLI, SNR) of every observation type are `_float` of the
printed cells — blank or zero cells are absent, trailing blanks of the line may be stripped, a line
may end after the last non-blank field (the bound `n ≤ 40` of the standard is not used) -/
theorem obs_record_values (n : Nat) (hn : n ≤ 40) (sat : Str) (cells : List Str) (hlen : cells.length = 3 * n)
    (hf : Fits (obs3 n).layout ((obs3 n).aligns.zip (sat :: cells)) = true) :
    (Midgard.Rinex3Obs.obsTriples n (sliceFrom 3 (rstrip (renderCells (obs3 n) (sat :: cells))))).flatMap
        (fun t => [floatOpt t.1, floatOpt t.2.1, floatOpt t.2.2]) = cells.map floatOpt :=
  Records.obs_record_values n sat cells hlen hf

/-- RINEX 2: the three texts cut out of the `j`-th 16-character field of an observation line are the
standard's value / LLI / SNR columns of that line -/
theorem triple_slices2 (line : Str) (j : Nat) :
    let w := ljust 16 (Text.slice (16 * j) (16 * j + 16) line)
    [strip (Text.slice 0 14 w), strip (Text.slice 14 15 w), strip (Text.slice 15 16 w)] =
      (obsTriple j (0 + 16 * j)).map (fun g => FixedCol.slice g line) :=
  Midgard.Spec.Rinex2ObsFile.triple_slices2' line j

/-- RINEX 2 observation line of five observations (missing ones as blank cells): the fifteen columns
read back as the cells, also from the right-stripped line -/
theorem obs2_line_record (cells : List Str) (hlen : cells.length = 15)
    (hf : Fits (obs2 5).layout ((obs2 5).aligns.zip cells) = true) :
    (obs2 5).layout.map (fun g => FixedCol.slice g (rstrip (renderCells (obs2 5) cells))) = cells :=
  Midgard.Spec.Rinex2ObsFile.obs2_cells 5 cells hlen hf

/-! ### RINEX 3: all per-record columns keep equal length -/

section Aligned
open Midgard.Rinex3Obs

/-- every column of the three groups, and the row-level columns, have `n` entries -/
def ObsAligned (d : Data) (n : Nat) : Prop :=
  (∀ kn ∈ lensOf d.obs, kn.2 = n) ∧ (∀ kn ∈ lensOf d.lli, kn.2 = n) ∧ (∀ kn ∈ lensOf d.snr, kn.2 = n) ∧
  d.time.length = n ∧ d.epochFlag.length = n ∧ d.clk.length = n ∧ d.station.length = n ∧ d.system.length = n ∧
  d.satellite.length = n ∧ d.satnum.length = n

open Midgard.Spec.Rinex3ObsFile (obsTriples_length)

/-- **Equal column lengths.**  If before an observation record of a kept epoch every column has `n`
entries, the columns are keyed by the file's observation types, and the system's type list is a
duplicate-free part of them, then after the record every column — the system's types *and* the types
not defined for that system, and the row-level columns — has `n + 1` entries.  This is the statement for one record under
explicit hypotheses on the store; for every well-formed file `expected_columns_aligned` below gives the equal lengths. -/
theorem obs_columns_aligned (s s' : State) (v : Values) (e : EpochInfo) (q : Rat) (n : Nat)
    (he : s.cache.epoch = some e) (hq : e.obsSec = some q)
    (hal : ObsAligned s.data n)
    (hkeys : (∀ kn ∈ lensOf s.data.obs, kn.1 ∈ s.obstypesAll) ∧ (∀ kn ∈ lensOf s.data.lli, kn.1 ∈ s.obstypesAll) ∧
             (∀ kn ∈ lensOf s.data.snr, kn.1 ∈ s.obstypesAll))
    (hnd : s.obstypesAll.Nodup)
    (htypes : ∀ sy types, s.metaD.get [key "obstypes", sy] = some (.list types) →
      types.Nodup ∧ ∀ t ∈ types, t ∈ s.obstypesAll)
    (h : parseObservation v s = .ok s') : ObsAligned s'.data (n + 1) := by
  unfold parseObservation at h
  simp only [he, req] at h
  obtain ⟨e', he', h⟩ := bind_ok' h
  simp [pure, Except.pure] at he'
  subst he'
  simp only [hq] at h
  obtain ⟨sat, _, h⟩ := bind_ok' h
  obtain ⟨obs, _, h⟩ := bind_ok' h
  obtain ⟨sy, _, h⟩ := bind_ok' h
  split at h
  case h_2 =>
    obtain ⟨_, habs, _⟩ := bind_ok' h
    exact absurd habs (throw_ne_ok _ _)
  rename_i types hget
  obtain ⟨types', htp, h⟩ := bind_ok' h
  simp [pure, Except.pure] at htp
  subst htp
  obtain ⟨vals, hvals, h⟩ := bind_ok' h
  obtain ⟨d1, hd1, h⟩ := bind_ok' h
  obtain ⟨d2, hd2, h⟩ := bind_ok' h
  split at h
  case h_2 =>
    obtain ⟨_, habs, _⟩ := bind_ok' h
    exact absurd habs (throw_ne_ok _ _)
  obtain ⟨station, _, h⟩ := bind_ok' h
  simp [pure, Except.pure] at h
  subst h
  have hndt := (htypes sy types hget).1
  -- names appended to: the system's types, then the rest
  have hnames : vals.map (·.1) = types := by
    have := Lists.mapM_image _ (fun (x : Str × Option Rat × Option Rat × Option Rat) => x.1) (fun (tf : Str × Str × Str × Str) => tf.1)
      (by
        intro a b hab
        obtain ⟨x1, _, hab⟩ := bind_ok' hab
        obtain ⟨x2, _, hab⟩ := bind_ok' hab
        obtain ⟨x3, _, hab⟩ := bind_ok' hab
        simp [pure, Except.pure] at hab
        rw [← hab]) hvals
    rw [this, List.map_fst_zip (by rw [obsTriples_length]; exact Nat.le_refl _)]
  have hun : (List.map (fun t => (t, (none : Option Rat), (none : Option Rat), (none : Option Rat)))
      (s.obstypesAll.filter fun t => !types.contains t)).map (·.1) = s.obstypesAll.filter fun t => !types.contains t := by
    simp [List.map_map, Function.comp_def]
  obtain rfl := appendAll_ok hd1
  obtain rfl := appendAll_ok hd2
  obtain ⟨a1, a2, a3, a4, a5, a6, a7, a8, a9, a10⟩ := hal
  -- a column under a type of the file grows once: with the system's types or with the rest
  have final : ∀ (d : List (Str × Col)) (A B : List (Str × Option Rat)), A.map (·.1) = types →
      B.map (·.1) = (s.obstypesAll.filter fun t => !types.contains t) →
      (∀ kn ∈ lensOf d, kn.2 = n) → (∀ kn ∈ lensOf d, kn.1 ∈ s.obstypesAll) →
      ∀ kn ∈ lensOf (appendUnder B (appendUnder A d)), kn.2 = n + 1 := by
    intro d A B hA hB hn hk
    rw [appendUnder_appendUnder]
    refine lens_appendUnder hn fun kn hkn => ?_
    rw [List.map_append, hA, hB]
    exact count_types_unused hnd hndt kn.1 (hk kn hkn)
  have hA : ∀ f : Str × Option Rat × Option Rat × Option Rat → Option Rat, (vals.map fun x => (x.1, f x)).map (·.1) = types :=
    fun f => by rw [List.map_map]; exact hnames
  have hB : ∀ f : Str × Option Rat × Option Rat × Option Rat → Option Rat,
      ((List.map (fun t => (t, (none : Option Rat), (none : Option Rat), (none : Option Rat)))
        (s.obstypesAll.filter fun t => !types.contains t)).map fun x => (x.1, f x)).map (·.1) =
      s.obstypesAll.filter fun t => !types.contains t := fun f => by rw [List.map_map]; exact hun
  refine ⟨final _ _ _ (hA _) (hB _) a1 hkeys.1, final _ _ _ (hA _) (hB _) a2 hkeys.2.1,
    final _ _ _ (hA _) (hB _) a3 hkeys.2.2, ?_⟩
  simp [Data.appendRow, Data.appendUnder, a4, a5, a6, a7, a8, a9, a10]

end Aligned

/-! ### Sampling rate: an epoch is kept exactly when it lies on the grid of the rate -/

/-- epochs and rates printed in units of 10⁻⁷ s: the epoch is kept exactly when it is on the grid -/
theorem sampling (a b : Int) (hb : 0 < b) :
    offGrid ((a : Rat) / 10000000) ((b : Rat) / 10000000) = false ↔ b ∣ a :=
  offGrid_units a b hb

/-- a decimated epoch adds no row (RINEX 3) -/
theorem decimated_epoch_adds_nothing3 (v : Values) (s : Midgard.Rinex3Obs.State) (e : EpochInfo)
    (he : s.cache.epoch = some e) (hd : e.obsSec = none) : Midgard.Rinex3Obs.parseObservation v s = .ok s := by
  simp [Midgard.Rinex3Obs.parseObservation, he, hd, req, bind, Except.bind, pure, Except.pure]

/-- … and none in RINEX 2 -/
theorem decimated_epoch_adds_nothing2 (v : Values) (s : Midgard.Rinex2Obs.State) (e : EpochInfo)
    (he : s.cache.epoch = some e) (hd : e.obsSec = none) : Midgard.Rinex2Obs.parseObservation v s = .ok s := by
  simp [Midgard.Rinex2Obs.parseObservation, he, hd, req, bind, Except.bind, pure, Except.pure]

example : offGrid (60780 + 3 / 10) (1 / 10) = false ∧ offGrid (60780 + 3 / 10 + 1 / 10000000) (1 / 10) = true ∧
    offGrid 30 30 = false ∧ offGrid 45 30 = true := by decide +kernel

/-! ### `_float`: blank or zero means absent -/

theorem floatOpt_blank (s : Str) (h : isBlank s = true) : floatOpt s = .ok none := by
  simp [floatOpt, h, pure, Except.pure]

theorem floatOpt_value (s : Str) (q : Rat) (hb : isBlank s = false) (hp : parseFloat s = some q) :
    floatOpt s = .ok (if q = 0 then none else some q) := by
  simp [floatOpt, hb, hp, pure, Except.pure]

example : (floatOpt "         0.000".toList).toOption = some none ∧ (floatOpt "          .000".toList).toOption = some none ∧
    (floatOpt "  23629347.915".toList).toOption = some (some (23629347915 / 1000)) ∧
    (floatOpt "         -.353".toList).toOption = some (some (-353 / 1000)) ∧
    (floatOpt "              ".toList).toOption = some none ∧ (floatOpt []).toOption = some none ∧
    (floatOpt "0".toList).toOption = some none := by
  -- a literal is `String.ofList` of its characters: no need to decode them
  repeat rw [String.toList_ofList]
  decide +kernel

/-! ### RINEX 2: an all-blank line inside an epoch is an observation line of five missing values -/

/-- after `read_data`'s `rstrip` such a line is empty; its label is `False` (not an observation line) … -/
theorem blank_line_label : Midgard.Rinex2Obs.obsLabel [] = "False" := Midgard.Spec.Rinex2ObsFile.label_nil

/-- … so it reaches `_parse_observation_epoch`, which hands it to `_parse_observation` with five blank
fields as long as satellites of the epoch are outstanding, and ignores it otherwise -/
theorem blank_line_is_observation (s : Midgard.Rinex2Obs.State) (d : LabelDef)
    (hd : Midgard.Generated.Rinex2ObsCols.records.find? (·.label == "False") = some d) :
    Midgard.Rinex2Obs.parseObservationEpoch (d.values []) s =
      if (s.cache.satList.getD []) ≠ [] then Midgard.Rinex2Obs.parseObservation Midgard.Rinex2Obs.blankObsValues s
      else .ok s := by
  obtain rfl := Option.some.inj (hd.symm.trans Midgard.Spec.Rinex2ObsFile.records_def.2)
  rw [Midgard.Spec.Rinex2ObsFile.blank_line_fx]
  by_cases h : s.cache.satList.getD [] = []
  · rw [if_pos h, if_neg (fun hn => hn h)]
  · rw [if_neg h, if_pos h]
    rfl

/-- five missing observations: `_parse_observation` on blank fields appends five `NaN` triples -/
example : (Midgard.Rinex2Obs.parseObservation Midgard.Rinex2Obs.blankObsValues
      { metaD := [([key "num_obstypes"], .int 7)],
        cache := { epoch := some ⟨[], 0, some 0, 0, none⟩, satList := some ["G01".toList] } }).toOption.map
      (fun s => (s.cache.obsValues, s.cache.satList)) =
    some (some [none, none, none, none, none], some ["G01".toList]) := by
  decide +kernel

/-! ### RINEX 2: two-digit years take the century of TIME OF FIRST OBS -/

example : zfill 2 "5".toList = "05".toList ∧ parseInt? ("20".toList ++ zfill 2 "5".toList) = some 2005 ∧
    parseInt? ("19".toList ++ zfill 2 "99".toList) = some 1999 := by decide +kernel

/-! ### Worked files (non-vacuity of the state machines)

Two files given as their text lines and parsed by evaluation; the statements for every well-formed file model follow
in the sections on the file level. -/

/-- RINEX 2, seven types (two lines per satellite), the second line of the first satellite all blank:
two rows, `S1` of G07 absent, values of R21 in their own columns -/
def tiny2 : List Str := [
  "     2.11           OBSERVATION DATA    M (MIXED)           RINEX VERSION / TYPE",
  "TRDS                                                        MARKER NAME",
  "     7    C1    P2    L1    L2    D1    S1    S2            # / TYPES OF OBSERV",
  "  2018     2     1     0     0    0.0000000     GPS         TIME OF FIRST OBS",
  "                                                            END OF HEADER",
  " 18  2  1  0  0 30.0000000  0  2G07R21",
  "  24236245.742    24236247.152   127362289.44018  99243378.71651      2293.062",
  "",
  "  21119353.719                   110982860.19619                     -1784.992",
  "        49.300          38.000"].map String.toList

def tiny2Out : Option (List Str × List Str × Option Col × Option Col × Option Col) :=
  match Midgard.Rinex2Obs.parseLines none tiny2 with
  | .ok s => some (s.data.time, s.data.satellite, (s.data.obs.find? (·.1 == "S1".toList)).map (·.2),
      (s.data.obs.find? (·.1 == "P2".toList)).map (·.2), (s.data.lli.find? (·.1 == "L1".toList)).map (·.2))
  | _ => none

/-- the body of `tiny2Out` with the lines as an argument (`tiny2Out = out2Of tiny2` by definition) -/
def out2Of (lines : List Str) : Option (List Str × List Str × Option Col × Option Col × Option Col) :=
  match Midgard.Rinex2Obs.parseLines none lines with
  | .ok s => some (s.data.time, s.data.satellite, (s.data.obs.find? (·.1 == "S1".toList)).map (·.2),
      (s.data.obs.find? (·.1 == "P2".toList)).map (·.2), (s.data.lli.find? (·.1 == "L1".toList)).map (·.2))
  | _ => none

example : tiny2Out.map (·.1) = some ["2018-02-01T00:00:30.0000000".toList, "2018-02-01T00:00:30.0000000".toList] ∧
    tiny2Out.map (·.2.1) = some ["G07".toList, "R21".toList] ∧
    tiny2Out.map (·.2.2.1) = some (some [none, some (493 / 10)]) ∧
    tiny2Out.map (·.2.2.2.1) = some (some [some (24236247152 / 1000), none]) ∧
    tiny2Out.map (·.2.2.2.2) = some (some [some 1, some 1]) := by
  -- stated through `out2Of` so that the characters of the lines stand in the goal before anything is evaluated
  have h : tiny2Out = out2Of tiny2 := rfl
  rw [h, tiny2]
  simp only [List.map_cons, List.map_nil]
  repeat rw [String.toList_ofList]
  decide +kernel

/-- RINEX 3, two systems with different type lists, a decimated epoch in between (sampling rate 30 s) -/
def tiny3 : List Str := [
  "     3.03           OBSERVATION DATA    M                   RINEX VERSION / TYPE",
  "trds                                                        MARKER NAME",
  "G    2 C1C L1C                                              SYS / # / OBS TYPES",
  "E    1 C5X                                                  SYS / # / OBS TYPES",
  "  2018     2     1     0     0    0.0000000     GPS         TIME OF FIRST OBS",
  "                                                            END OF HEADER",
  "> 2018  2  1  0  0  0.0000000  0  2",
  "G07  23494924.453   123466751.004 7",
  "E08  26016567.422",
  "> 2018  2  1  0  0 15.0000000  0  1",
  "G07  23494925.453   123466752.004 7",
  "> 2018  2  1  0  0 30.0000000  0  1",
  "E08          .000 5"].map String.toList

def tiny3Out : Option (List Str × List Str × Option Col × Option Col × Option Col) :=
  match Midgard.Rinex3Obs.parseLines (some 30) tiny3 with
  | .ok s => some (s.data.time, s.data.satellite, (s.data.obs.find? (·.1 == "C1C".toList)).map (·.2),
      (s.data.obs.find? (·.1 == "C5X".toList)).map (·.2), (s.data.snr.find? (·.1 == "L1C".toList)).map (·.2))
  | _ => none

/-- the body of `tiny3Out` with the lines as an argument (`tiny3Out = out3Of tiny3` by definition) -/
def out3Of (lines : List Str) : Option (List Str × List Str × Option Col × Option Col × Option Col) :=
  match Midgard.Rinex3Obs.parseLines (some 30) lines with
  | .ok s => some (s.data.time, s.data.satellite, (s.data.obs.find? (·.1 == "C1C".toList)).map (·.2),
      (s.data.obs.find? (·.1 == "C5X".toList)).map (·.2), (s.data.snr.find? (·.1 == "L1C".toList)).map (·.2))
  | _ => none

example : tiny3Out.map (·.1.length) = some 3 ∧
    tiny3Out.map (·.2.1) = some ["G07".toList, "E08".toList, "E08".toList] ∧
    tiny3Out.map (·.2.2.1) = some (some [some (23494924453 / 1000), none, none]) ∧
    tiny3Out.map (·.2.2.2.1) = some (some [none, some (26016567422 / 1000), none]) ∧
    tiny3Out.map (·.2.2.2.2) = some (some [some 7, none, none]) := by
  have h : tiny3Out = out3Of tiny3 := rfl
  rw [h, tiny3]
  simp only [List.map_cons, List.map_nil]
  repeat rw [String.toList_ofList]
  decide +kernel

/-! ### RINEX 3: the file level

`Spec/Rinex3ObsFile.lean`: an abstract file `F` (header records in file order incl. `SYS / # / OBS TYPES` with its
continuation lines, epochs with flag and receiver clock offset — event epochs with their special records included, which
the parser ignores —, one record per satellite with value / LLI / SSI per type of its system, blank = missing; every line
as formatted, right-stripped or filled to 80 columns), its writer `render`, the decidable `wf`, and `expected rate F`: the
header handlers applied to the header's *values* (an error if they reject them), then one column per observation type of the
file with one entry per (kept epoch, satellite) in file order.
The proof takes the header as a fold of handlers and the epoch groups as a fold of rows (`ChainParser.readData_header`,
`readData_blocks`). -/

section File3
open Midgard.Spec.Rinex3ObsFile Midgard.Rinex3Obs

/-- **File-level round trip (RINEX 3).**  `read_data` on the lines of a rendered well-formed file returns exactly
`expected rate F` — the error of the header handlers where they reject the header's values (`wf` checks that the cells fit
their columns, not that a number field holds a number), otherwise the state with: the header dictionary as the handlers build
it from the header's cells, every observation type of the file as a column with one entry per (epoch on the sampling grid,
satellite) in file order — value, LLI, SSI printed in the satellite's record for the types of its system (blank or zero =
absent), absent for the types the system does not have — and epoch string, flag, receiver clock offset, station, system,
satellite, satellite number per row; all columns of equal length.
The header part is proved at value level: every handler of the plain record kinds (`SYS / PHASE SHIFT` with its continuation
lines and the GLONASS slot / bias records included) writes only `meta` keys the data section does not read, `MARKER NAME` sets
the station, and a `SYS / # / OBS TYPES` record with its continuation lines declares its types in order for its system. -/
theorem file_roundtrip3 (rate : Option Rat) (F : File) (hwf : F.wf = true) :
    readData headerParser obsParser resetCache (fileLines F) true 0 { rate := rate } = expected rate F :=
  file_roundtrip rate F hwf

/-- what the data section finds in the header state of a well-formed file: the list of all types, the sampling rate,
the marker name, the type list of every declared system, empty columns -/
theorem header_state3 (rate : Option Rat) (F : File) (hwf : F.wf = true) (H : State) (hH : headerState rate F.hdr = .ok H) :
    H.obstypesAll = allTypes F.hdr ∧ H.rate = rate ∧
    (∃ m, markerOf F.hdr = some m ∧ H.metaD.get [key "marker_name"] = some (.text m)) ∧
    (∀ st ∈ sysTypes F.hdr, H.metaD.get [key "obstypes", st.1] = some (.list st.2)) ∧
    H.data = expectedData rate { F with epochs := [] } H.data := by
  have h := hdrFacts rate F hwf H hH
  exact ⟨h.htypes, h.hrate, h.hmarker, h.hsys, h.hdata⟩

/-- the text of a rendered well-formed file splits into the rendered lines (no cell contains a line break) -/
theorem lines_of_render3 (F : File) (hwf : F.wf = true) : ChainParser.fileLines (render F) = fileLines F :=
  fileLines_joinLines _ (nonl_fileLines F hwf)

/-- **`Rinex3Parser(text of F, sampling_rate).parse()`** is `expected rate F` followed by the post-processors -/
theorem parse_render3 (rate : Option Rat) (F : File) (hwf : F.wf = true) :
    parseText rate (render F) = match expected rate F with
      | .ok s => finish s
      | .error e => .error e := by
  unfold parseText parseLines
  rw [lines_of_render3 F hwf, file_roundtrip rate F hwf]
  cases expected rate F <;> rfl

/-- the columns of `expected` all have one entry per row -/
theorem expected_columns_aligned (rate : Option Rat) (F : File) (d0 : Data) :
    let d := expectedData rate F d0
    (∀ kc ∈ d.obs ++ d.lli ++ d.snr, kc.2.length = (rows rate F).length) ∧
    d.time.length = (rows rate F).length ∧ d.epochFlag.length = (rows rate F).length ∧ d.clk.length = (rows rate F).length ∧
    d.station.length = (rows rate F).length ∧ d.system.length = (rows rate F).length ∧
    d.satellite.length = (rows rate F).length ∧ d.satnum.length = (rows rate F).length := by
  refine ⟨?_, by simp [expectedData], by simp [expectedData], by simp [expectedData], by simp [expectedData],
    by simp [expectedData], by simp [expectedData], by simp [expectedData]⟩
  intro kc hkc
  simp only [expectedData, column, List.mem_append, List.mem_map] at hkc
  rcases hkc with (⟨t, _, rfl⟩ | ⟨t, _, rfl⟩) | ⟨t, _, rfl⟩ <;> simp

/-- **The post-processors keep every row.**  After `_remove_empty_systems`, `_remove_empty_obstype_fields` and
`_time_system_correction` the row-level columns (epoch, flag, clock offset, station, system, satellite, number) and
the header position are unchanged, and the observation / LLI / SSI columns are the parsed ones minus the types
whose observation column is empty or absent in every row (`deadTypes`) — no value moves, no row is lost. -/
theorem postprocessors_keep_rows (s s' : State) (h : finish s = .ok s') :
    s'.data.obs = s.data.obs.filter (fun kc => !(deadTypes s.data).contains kc.1) ∧
    s'.data.lli = s.data.lli.filter (fun kc => !(deadTypes s.data).contains kc.1) ∧
    s'.data.snr = s.data.snr.filter (fun kc => !(deadTypes s.data).contains kc.1) ∧
    rowCols s'.data = rowCols s.data ∧ s'.data.timeMicros = s.data.timeMicros ∧ s'.data.pos = s.data.pos := by
  unfold finish at h
  split at h
  · simp at h
  · split at h
    · simp at h
    · have hd : ∀ s1 : State, timeSystemCorrection s1 = .ok s' → s'.data = s1.data := by
        intro s1 h1
        unfold timeSystemCorrection at h1
        split at h1
        · simp only [pure, Except.pure, Except.ok.injEq] at h1
          rw [← h1]; split <;> rfl
        · exact absurd h1 (throw_ne_ok _ _)
      cases ht : timeSystemCorrection (removeEmptyObstypeFields (removeEmptySystems s)) with
      | error e => simp [ht] at h
      | ok s2 =>
        simp only [ht, Outcome.ok.injEq] at h
        subst h
        rw [hd _ ht]
        exact foldl_dropType (deadTypes (removeEmptySystems s).data) (removeEmptySystems s).data

/-- a small file: two systems with different type lists, a blank observation, a zero observation, epoch flag 1, an
event epoch (flag 4) with two special records -/
def tinyF : File :=
  let c (t : String) (v : Option Rat) : Cell := ⟨t.toList, v⟩
  let i (t : String) (v : Int) : IntCell := ⟨t.toList, v⟩
  { hdr := [.plain "VER3" ["3.04".toList, "O".toList, "M".toList], .marker "trds".toList,
            .sysObs "G".toList "2".toList [["C1C".toList, "L1C".toList]], .sysObs "E".toList "1".toList [["C5X".toList]],
            .plain "TFIRST" ["2018".toList, "2".toList, "1".toList, "0".toList, "0".toList, "0.0000000".toList, "GPS".toList]],
    epochs := [
      { year := i "2018" 2018, month := i "2" 2, day := i "1" 1, hour := i "0" 0, minute := i "0" 0, second := ⟨"0.0000000".toList, 0⟩,
        flag := i "0" 0, numSat := "2".toList, clk := c "" none, special := [],
        sats := [⟨"G07".toList, [⟨c "23494924.453" (some (23494924453 / 1000)), c "" none, c "" none⟩, ⟨c "" none, c "" none, c "7" (some 7)⟩]⟩,
                 ⟨"E08".toList, [⟨c ".000" none, c "0" none, c "5" (some 5)⟩]⟩] },
      { year := i "2018" 2018, month := i "2" 2, day := i "1" 1, hour := i "0" 0, minute := i "0" 0, second := ⟨"15.0000000".toList, 15⟩,
        flag := i "1" 1, numSat := "1".toList, clk := c "-.000000123456" (some (-123456 / 1000000000000)), special := [],
        sats := [⟨"E08".toList, [⟨c "26016567.422" (some (26016567422 / 1000)), c "" none, c "" none⟩]⟩] },
      { year := i "2018" 2018, month := i "2" 2, day := i "1" 1, hour := i "0" 0, minute := i "0" 0, second := ⟨"20.0000000".toList, 20⟩,
        flag := i "4" 4, numSat := "2".toList, clk := c "" none,
        special := [("COM", ["2018 antenna moved".toList]), ("MNAME", ["NEW1".toList])], sats := [] }],
    style := .stripped }

example : tinyF.wf = true := by decide +kernel

example : (rows none tinyF).length = 3 ∧ (rows (some 30) tinyF).length = 2 ∧
    ((expected (some 30) tinyF).toOption.map fun s => s.data.satellite) = some ["G07".toList, "E08".toList] ∧
    ((expected (some 30) tinyF).toOption.map fun s => s.data.epochFlag) = some [0, 0] ∧
    ((expected none tinyF).toOption.map fun s => s.data.obs) =
      some [("C1C".toList, [some (23494924453 / 1000), none, none]), ("L1C".toList, [none, none, none]),
        ("C5X".toList, [none, none, some (26016567422 / 1000)])] := by
  decide +kernel

end File3

/-! ### RINEX 2: the file level

`Spec/Rinex2ObsFile.lean` gives the abstract RINEX 2 file (header records incl. `# / TYPES OF OBSERV` continuation,
epochs with flag, satellite-list continuation lines beyond 12 satellites, five observations per line, all-blank
lines), its writer, `wf` and `expected`.  The statement `wf F → readData … (fileLines F) = expected rate F` is proved
(`file_roundtrip2` below, with its parts); the driver evaluates this instance on every generated file (`c11 file2`), the
rendered text is compared byte for byte with the independent writer and `expected` with the real parser.  One instance
(`tiny2F`: seven types = two lines per satellite, the second line of the first satellite all blank) closes the section. -/

section File2
open Midgard.Spec.Rinex2ObsFile Midgard.Rinex2Obs
open Midgard.Spec.Rinex3ObsFile (Cell IntCell Obs)

/-- **RINEX 2: the lines of one satellite.**  With `n = num_obstypes` observation types, the satellite's observations
come five per line (the last line filled up with blank fields; all-blank lines included): processing the lines of the
satellite in a kept epoch collects the values in the cache as long as fewer than `n` are there, and the line that
completes them appends exactly one row — the first `n` values under the `n` types, the satellite taken from the head
of the epoch's satellite list, its number `int(sat[1:])` — removes the satellite from the list and clears the cache. -/
theorem obs_lines2 (types : List Str) (m : Str) (e : EpochInfo) (obs : List Midgard.Spec.Rinex3ObsFile.Obs)
    (hl : types.length = obs.length) (hpos : obs ≠ []) (s : State) (sat : Str) (rest : List Str)
    (hs : s.cache.satList = some (sat :: rest)) (hne : sat ≠ []) (num : Int) (hnum : pyInt (sat.drop 1) = .ok num)
    (hc : SatCtx types m s) (h0 : Holds [] s) :
    (fivesOf (triples obs)).foldlM (fun st five => lineFx e five st) s =
      match rowData s.data types obs e (lower m) sat num with
      | .ok d => .ok (doneSat s d rest)
      | .error err => .error err :=
  sat_fives types m e obs hl hpos s sat rest hs hne num hnum hc h0

/-- a line of a kept epoch whose five 16-character fields hold the values `five` has the effect `lineFx` -/
theorem obs_line2 (v : Values) (s : State) (e : EpochInfo) (q : Rat) (five : List Triple)
    (he : s.cache.epoch = some e) (hq : e.obsSec = some q)
    (hv : (fieldsWithPrefix v "obs_").mapM (fun f => tripleOf f.2) = .ok five) :
    parseObservation v s = lineFx e five s :=
  parseObservation_five v s e q five he hq hv

/-- **RINEX 2: the satellite list** of an epoch record or of a continuation line: the identifiers printed three
columns each (the last character visible), followed by any number of blanks (trailing blanks stripped or not), are
read back in order, a blank system as `G`, a blank tens digit as `0` -/
theorem sats_list2 (sats : List Str) (ws : Str) (hs : ∀ s ∈ sats, Sat3 s) (hb : isBlank ws = true) :
    satsOf (sats.flatten ++ ws) = .ok (sats.map normSat) :=
  satsOf_sats sats ws hs hb

/-- **RINEX 2: from the text of an observation line to its five values.**  The fields the parser cuts from a rendered
line with `m ≤ 5` observations (as formatted, right-stripped or filled to 80 columns; the last line of a satellite
may be short) `_float` to the observations' value / LLI / signal strength (blank or zero = absent), followed by
`5 - m` absent ones. -/
theorem obs_text2 (st : Midgard.Spec.Rinex3ObsFile.Style) (c : List Midgard.Spec.Rinex3ObsFile.Obs) (hm : c.length ≤ 5)
    (h : c.all Midgard.Spec.Rinex3ObsFile.Obs.wf = true) :
    (fieldsWithPrefix (obsDef.values (rstrip (Midgard.Spec.Rinex3ObsFile.styled st (obsLine c)))) "obs_").mapM
      (fun f => tripleOf f.2) = .ok (pad5 (triples c)) :=
  obs_text_values st c hm h

/-- **RINEX 2: the label heuristic on observation lines.**  A rendered, right-stripped observation line that is not all
blank is labelled an observation line: the decimal point of the first value stands in column 11 or the first 16
columns are blank; no letter in columns 33 and 61; a digit in column 35 is never followed by a blank or the end of the
line (right-aligned numbers). -/
theorem label_of_obs_line2 (c : List Midgard.Spec.Rinex3ObsFile.Obs) (h : c.all Midgard.Spec.Rinex3ObsFile.Obs.wf = true)
    (hs : c.all obsShape = true) (hnb : rstrip (obsLine c) ≠ []) : obsLabel (rstrip (obsLine c)) = "True" :=
  obs_label c h hs hnb

/-- **RINEX 2: all rendered lines of one satellite** of a kept epoch (five observations per line, short last line,
all-blank lines — which are labelled epoch lines and reach `_parse_observation` through `_parse_observation_epoch`)
append exactly one row, remove the satellite from the epoch's list and clear the cache. -/
theorem sat_lines2 (st : Midgard.Spec.Rinex3ObsFile.Style) (types : List Str) (m : Str) (e : EpochInfo) (q : Rat)
    (hq : e.obsSec = some q) (obs : List Midgard.Spec.Rinex3ObsFile.Obs) (hl : types.length = obs.length) (hpos : obs ≠ [])
    (hwf : obs.all Midgard.Spec.Rinex3ObsFile.Obs.wf = true) (hsh : obs.all obsShape = true)
    (s : State) (he : s.cache.epoch = some e) (sat : Str) (rest : List Str) (hs : s.cache.satList = some (sat :: rest))
    (hne : sat ≠ []) (num : Int) (hnum : pyInt (sat.drop 1) = .ok num) (hc : SatCtx types m s) (h0 : Holds [] s) :
    Midgard.Spec.Rinex2ObsFile.runObs ((chunks 5 obs.length obs).map fun c => Midgard.Spec.Rinex3ObsFile.styled st (obsLine c)) s =
      match rowData s.data types obs e (lower m) sat num with
      | .ok d => .ok (doneSat s d rest)
      | .error err => .error err :=
  sat_lines_run st types m e q hq obs hl hpos hwf hsh s he sat rest hs hne num hnum hc h0

/-- **RINEX 2: the epoch record.**  From the rendered record (as formatted, right-stripped or filled to 80 columns) the
parser — which cuts the fields raw, three columns per integer — stores: the epoch string with the four-digit year (century
of `TIME OF FIRST OBS` in front of the two printed digits), seconds of day (absent when the sampling rate decimates the
epoch), flag, receiver clock offset, the printed satellite count, and the satellites printed on the record itself in
order (blank system = `G`, blank tens digit = `0`); the record is labelled a non-observation line. -/
theorem epoch_line2 (st : Midgard.Spec.Rinex3ObsFile.Style) (e : Midgard.Spec.Rinex2ObsFile.Epoch) (n : Nat)
    (hwf : e.wf n = true) (k : Nat) (s : State) (t : Str) (y : Int)
    (hfirst : s.metaD.get [key "time_first_obs"] = some (.text t)) (hyear : pyInt (t.take 2 ++ zfill 2 e.yy.text) = .ok y) :
    parseLine obsParser (rstrip (Midgard.Spec.Rinex3ObsFile.styled st (Midgard.Spec.Rinex2ObsFile.epochLine e))) k s =
      .ok (afterEpoch s (info2 s.rate y e) (digitsVal e.numSat : Int) ((ids12 e).map normSat)) :=
  epoch_line_fx st e (epochOk_of_wf n e hwf) k s t y hfirst hyear

/-- **RINEX 2: a continuation record of the satellite list** (32 blanks, up to 12 satellites) is labelled a
non-observation line and appends its satellites to the epoch's list. -/
theorem cont_line2 (st : Midgard.Spec.Rinex3ObsFile.Style) (c : List Str) (hne : c ≠ []) (hl : c.length ≤ 12)
    (h : ∀ s ∈ c, SatOk s) (hs : SysStyle c) (n : Nat) (s : State) (old : List Str) (hold : s.cache.satList = some old) :
    parseLine obsParser (rstrip (Midgard.Spec.Rinex3ObsFile.styled st (contLine c))) n s = .ok (afterCont s (old ++ c.map normSat)) :=
  cont_line_fx st c hne hl h hs n s old hold

/-- **RINEX 2: the end marker** "the next line is an epoch record" (digit in column 3, blank in column 4), evaluated on
the lines as written: true for an epoch record, false for an observation line (right-aligned numbers: a digit is never
followed by a blank) and for a continuation record. -/
theorem end_marker2 (st : Midgard.Spec.Rinex3ObsFile.Style) :
    (∀ (e : Midgard.Spec.Rinex2ObsFile.Epoch), EpochOk e → isEnd (Midgard.Spec.Rinex3ObsFile.styled st (Midgard.Spec.Rinex2ObsFile.epochLine e) ++ ['\n']) = true) ∧
    (∀ (c : List Midgard.Spec.Rinex3ObsFile.Obs), c.all Midgard.Spec.Rinex3ObsFile.Obs.wf = true →
      isEnd (Midgard.Spec.Rinex3ObsFile.styled st (obsLine c) ++ ['\n']) = false) ∧
    (∀ (c : List Str), c ≠ [] → c.length ≤ 12 → (∀ s ∈ c, SatOk s) →
      isEnd (Midgard.Spec.Rinex3ObsFile.styled st (contLine c) ++ ['\n']) = false) :=
  ⟨fun e h => epochLine_end st e h, fun c h => obsLine_not_end st c h, fun c hne hl h => contLine_not_end st c hne hl h⟩

/-- **RINEX 2: one epoch group** — epoch record, continuation records, five observations per line for every satellite —
adds one row per satellite in order (none when the sampling rate decimates the epoch); `dataOf2` is the closed form of
the columns. -/
theorem block_run2' (st : Midgard.Spec.Rinex3ObsFile.Style) (ts : List Str) (hnd : ts.Nodup) (m t : Str) (H : State)
    (hH : HF ts m t H) (e : Midgard.Spec.Rinex2ObsFile.Epoch) (he : EpochWf ts e) (y : Int)
    (hy : pyInt (t.take 2 ++ zfill 2 e.yy.text) = .ok y) (rows : List Row) :
    ∃ c, Midgard.Spec.Rinex2ObsFile.runObs ((blockLinesR e).map (Midgard.Spec.Rinex3ObsFile.styled st))
        (mk2 H (dataOf2 ts (lower m) rows H.data) {}) =
      .ok (mk2 H (dataOf2 ts (lower m) (rows ++ if Midgard.Spec.Rinex2ObsFile.kept H.rate e then e.sats.map (rowOfSat (info2 H.rate y e)) else []) H.data) c) :=
  block_run2 st ts hnd m t H hH e he y hy rows

/-- **RINEX 2: the data section.**  `read_data` over the rendered epoch groups (group boundaries found by the end
marker) ends with one row per (kept epoch, satellite) in file order and an empty cache. -/
theorem blocks_run2' (st : Midgard.Spec.Rinex3ObsFile.Style) (ts : List Str) (hnd : ts.Nodup) (m t : Str) (H : State)
    (hH : HF ts m t H) (eps : List Midgard.Spec.Rinex2ObsFile.Epoch) (rows : List Row) (hw : ∀ e ∈ eps, EpochWf ts e)
    (hy : ∀ e ∈ eps, ∃ y, pyInt (t.take 2 ++ zfill 2 e.yy.text) = .ok y) :
    readData headerParser obsParser resetCache ((eps.flatMap blockLinesR).map (Midgard.Spec.Rinex3ObsFile.styled st)) false 0
        (mk2 H (dataOf2 ts (lower m) rows H.data) {}) =
      .ok (mk2 H (dataOf2 ts (lower m) (rows ++ rowsOf2 H.rate t eps) H.data) {}) :=
  blocks_run2 st ts hnd m t H hH eps rows hw hy

/-- **File-level round trip (RINEX 2).**  `read_data` on the lines of a rendered well-formed file returns exactly
`expected rate F` (the handlers' error where they reject the header's values; `parse_result2` below takes their success as a
hypothesis): header records line by line = the registered handler called with the printed cells (the parser's wider
`RINEX VERSION / TYPE` and `# / TYPES OF OBSERV` fields included), `END OF HEADER` ends the header group, every epoch record
starts a group (end marker "digit in column 3, blank in column 4"), satellite-list continuation records extend the list,
five observations per line are collected until `num_obstypes` are there (all-blank lines through `_parse_observation_epoch`),
and the data are one column per observation type with one entry per (epoch on the sampling grid, satellite) in file order,
four-digit years, satellites named with system `G` and tens digit `0` where blank.
The header part is proved at value level: every handler of the fifteen plain record kinds writes only `meta` keys the data
section does not read, `MARKER NAME` sets the station, the first `# / TYPES OF OBSERV` record sets `num_obstypes` and starts the
type list, its continuation records append to it, and `TIME OF FIRST OBS` with a year ≥ 10 stores a time string that starts
with two digits, so that the century in front of every epoch's two printed digits is a readable year. -/
theorem file_roundtrip2 (rate : Option Rat) (F : Midgard.Spec.Rinex2ObsFile.File) (hwf : F.wf = true) :
    readData headerParser obsParser resetCache (Midgard.Spec.Rinex2ObsFile.fileLines F) true 0 { rate := rate } =
      Midgard.Spec.Rinex2ObsFile.expected rate F :=
  file2_of_facts rate F hwf (facts2_of_wf rate F hwf)

/-- what the data section finds in the header state of a well-formed RINEX 2 file: `num_obstypes` = the number of types, the
type list in file order, a marker name, a `TIME OF FIRST OBS` string whose first two characters in front of every epoch's
two-digit year read as an integer, the sampling rate, and empty columns (one per type) -/
theorem header_state2 (rate : Option Rat) (F : Midgard.Spec.Rinex2ObsFile.File) (hwf : F.wf = true) (H : State)
    (hH : Midgard.Spec.Rinex2ObsFile.headerState rate F.hdr = .ok H) :
    ∃ m t, H.metaD.get [key "num_obstypes"] = some (.int ((types F.hdr).length : Int)) ∧
      H.metaD.get [key "obstypes"] = some (.list (types F.hdr)) ∧
      H.metaD.get [key "marker_name"] = some (.text m) ∧ H.metaD.get [key "time_first_obs"] = some (.text t) ∧
      H.rate = rate ∧ (∀ e ∈ F.epochs, ∃ y, pyInt (t.take 2 ++ zfill 2 e.yy.text) = .ok y) ∧
      H.data = dataOf2 (types F.hdr) (lower m) [] H.data := by
  obtain ⟨m, t, f⟩ := facts2_of_wf rate F hwf H hH
  exact ⟨m, t, f.hf.hnum, f.hf.htyp, f.hf.hmark, f.hf.hfirst, f.hrate, f.hyears, f.hdata⟩

/-- the header test `hdrOk2` (evaluated by the driver on every generated file) holds for every well-formed file -/
theorem hdr_ok2 (rate : Option Rat) (F : Midgard.Spec.Rinex2ObsFile.File) (hwf : F.wf = true) : hdrOk2 rate F = true := by
  unfold hdrOk2
  cases hH : headerState rate F.hdr with
  | error e => rfl
  | ok H =>
    obtain ⟨m, t, f⟩ := facts2_of_wf rate F hwf H hH
    simp only [Bool.and_eq_true, beq_iff_eq]
    refine ⟨⟨⟨⟨⟨f.hrate, f.hf.hnum⟩, f.hf.htyp⟩, by rw [f.hf.hmark]⟩, ?_⟩, ?_⟩
    · rw [f.hf.hfirst]
      simp only
      rw [List.all_eq_true]
      intro e he
      obtain ⟨y, hy⟩ := f.hyears e he
      rw [hy]
    · exact f.hdata.trans rfl

/-- **RINEX 2: the plain header records** (all kinds but `MARKER NAME`, `TIME OF FIRST OBS`, `# / TYPES OF OBSERV`) leave the
`meta` keys the data section reads, the sampling rate and the columns as they are -/
theorem plain_header_record2 (k : String) (hk : plainKinds2.any (·.1 == k) = true) (cells : List Str) (s s' : State)
    (h : handle (handlerOf k) (valuesOf k cells) s = .ok s') : Frame2 s s' :=
  plain_frame2 k hk cells s s' h

/-- the text of a rendered well-formed RINEX 2 file splits into the rendered lines -/
theorem lines_of_render2 (F : Midgard.Spec.Rinex2ObsFile.File) (hwf : F.wf = true) :
    ChainParser.fileLines (Midgard.Spec.Rinex2ObsFile.render F) = Midgard.Spec.Rinex2ObsFile.fileLines F :=
  Midgard.Spec.Rinex3ObsFile.fileLines_joinLines _ (nonl_fileLines2 F hwf)

/-- **`Rinex2Parser(text of F, sampling_rate).parse()`** is `expected rate F` followed by the post-processors -/
theorem parse_render2 (rate : Option Rat) (F : Midgard.Spec.Rinex2ObsFile.File) (hwf : F.wf = true) :
    parseText rate (Midgard.Spec.Rinex2ObsFile.render F) = match Midgard.Spec.Rinex2ObsFile.expected rate F with
      | .ok s => finish s
      | .error e => .error e := by
  unfold parseText parseLines
  rw [lines_of_render2 F hwf, file_roundtrip2 rate F hwf]
  cases Midgard.Spec.Rinex2ObsFile.expected rate F <;> rfl

/-- **The RINEX 2 post-processors** (`_remove_empty_obstype_fields`, `_get_obstypes_dict`, `_time_system_correction`) keep every
row: the row-level columns and the header position are unchanged, the observation / LLI / SSI columns are the parsed ones
minus the types whose observation column is empty or absent in every row (`deadTypes`), and — when a type survives — every
system that has a row finds exactly the surviving types (`liveTypes`: the header's list with the dead ones removed) under
`meta["obstypes"][system]`. -/
theorem postprocessors_keep_rows2 (s s' : State) (h : finish s = .ok s') :
    s'.data.obs = s.data.obs.filter (fun kc => !(Midgard.Spec.Rinex3ObsFile.deadTypes s.data).contains kc.1) ∧
    s'.data.lli = s.data.lli.filter (fun kc => !(Midgard.Spec.Rinex3ObsFile.deadTypes s.data).contains kc.1) ∧
    s'.data.snr = s.data.snr.filter (fun kc => !(Midgard.Spec.Rinex3ObsFile.deadTypes s.data).contains kc.1) ∧
    rowCols s'.data = rowCols s.data ∧ s'.data.timeMicros = s.data.timeMicros ∧ s'.data.pos = s.data.pos ∧
    (liveTypes s ≠ [] → ∀ sy ∈ s.data.system, s'.metaD.get [key "obstypes", sy] = some (.list (liveTypes s))) := by
  unfold finish at h
  split at h
  · simp at h
  · split at h
    · simp at h
    · have hd : ∀ s1 : State, timeSystemCorrection s1 = .ok s' → s'.data = s1.data ∧ s'.metaD = s1.metaD := by
        intro s1 h1
        unfold timeSystemCorrection at h1
        split at h1
        · simp only [pure, Except.pure, Except.ok.injEq] at h1
          rw [← h1]; split <;> exact ⟨rfl, rfl⟩
        · exact absurd h1 (throw_ne_ok _ _)
      cases ht : timeSystemCorrection (getObstypesDict (removeEmptyObstypeFields s)) with
      | error e => simp [ht] at h
      | ok s2 =>
        simp only [ht, Outcome.ok.injEq] at h
        subst h
        obtain ⟨hdat, hmet⟩ := hd _ ht
        have hfold := foldl_dropType (Midgard.Spec.Rinex3ObsFile.deadTypes s.data) s.data
        obtain ⟨h1, h2, h3, h4, h5, h6⟩ := hfold
        have hdata : s2.data = (Midgard.Spec.Rinex3ObsFile.deadTypes s.data).foldl (fun d t => d.dropType t) s.data := by rw [hdat]; rfl
        rw [hdata]
        refine ⟨h1, h2, h3, h4, h5, h6, ?_⟩
        intro hlive sy hsy
        rw [hmet]
        have hsys : (removeEmptyObstypeFields s).data.system = s.data.system := by
          have := h4
          simp only [rowCols, Prod.mk.injEq] at this
          exact this.2.2.2.2.1
        have hty : (removeEmptyObstypeFields s).metaD.get [key "obstypes"] = some (.list (liveTypes s)) := by
          show (s.metaD.set [key "obstypes"] (.list (liveTypes s))).get [key "obstypes"] = _
          exact get_set_same _ _ _
        exact getObstypesDict_meta _ _ hty hlive sy (by rw [hsys]; exact hsy)

/-- **`Rinex2Parser(text of F, sampling_rate).parse()` end to end**: when the header handlers accept the header
(`expected rate F = .ok s`) and the post-processors run through (`finish s = .ok s'`), parsing the rendered text delivers `s'` -/
theorem parse_result2 (rate : Option Rat) (F : Midgard.Spec.Rinex2ObsFile.File) (hwf : F.wf = true) (s s' : State)
    (he : Midgard.Spec.Rinex2ObsFile.expected rate F = .ok s) (hf : finish s = .ok s') :
    parseText rate (Midgard.Spec.Rinex2ObsFile.render F) = .ok s' := by
  rw [parse_render2 rate F hwf, he]
  exact hf

def tiny2F : Midgard.Spec.Rinex2ObsFile.File :=
  let c (t : String) (v : Option Rat) : Cell := ⟨t.toList, v⟩
  let i (t : String) (v : Int) : IntCell := ⟨t.toList, v⟩
  let b : Obs := ⟨c "" none, c "" none, c "" none⟩
  let o (t : String) (v : Rat) : Obs := ⟨c t (some v), c "" none, c "" none⟩
  { hdr := [("VER2", ["2.11".toList, "O".toList, "M".toList]), ("MNAME", ["TRDS".toList]),
            ("TYPES2", ["7", "C1", "P2", "L1", "L2", "D1", "S1", "S2", "", ""].map String.toList),
            ("TFIRST", ["2018", "2", "1", "0", "0", "0.0000000", "GPS"].map String.toList)],
    epochs := [
      { yy := i "18" 18, month := i "2" 2, day := i "1" 1, hour := i "0" 0, minute := i "0" 0, second := ⟨"30.0000000".toList, 30⟩,
        flag := i "0" 0, numSat := "2".toList, clk := c "" none,
        sats := [⟨"G07".toList, [o "24236245.742" (24236245742 / 1000), o "24236247.152" (24236247152 / 1000), b, b, b, b, b]⟩,
                 ⟨"R21".toList, [o "21119353.719" (21119353719 / 1000), b, b, b, o "-1784.992" (-1784992 / 1000), o "49.300" (493 / 10), b]⟩] }],
    style := .stripped }

example : tiny2F.wf = true ∧ hdrOk2 none tiny2F = true ∧
    (readData headerParser obsParser resetCache (Midgard.Spec.Rinex2ObsFile.fileLines tiny2F) true 0 {}).toOption =
      (Midgard.Spec.Rinex2ObsFile.expected none tiny2F).toOption ∧
    ((Midgard.Spec.Rinex2ObsFile.expected none tiny2F).toOption.map fun s => (s.data.satellite, s.data.time)) =
      some (["G07".toList, "R21".toList], ["2018-02-01T00:00:30.0000000".toList, "2018-02-01T00:00:30.0000000".toList]) := by
  have hwf : tiny2F.wf = true := by decide +kernel
  exact ⟨hwf, hdr_ok2 none tiny2F hwf, congrArg Except.toOption (file_roundtrip2 none tiny2F hwf), by decide +kernel⟩

/-- the same file through the post-processors: the types without a value in any row (`L1`, `L2`, `S2`) are gone, both systems
find the surviving types, both rows are kept -/
example : (match Midgard.Spec.Rinex2ObsFile.expected none tiny2F with
    | .ok s => (match finish s with
      | .ok s' => some (s'.data.obs.map (·.1), s'.metaD.get [key "obstypes", "R".toList], s'.data.satellite.length)
      | _ => none)
    | _ => none) =
    some (["C1", "P2", "D1", "S1"].map String.toList, some (.list (["C1", "P2", "D1", "S1"].map String.toList)), 2) := by
  decide +kernel

/-- the conjuncts `typesRecsOk` and `tfirstOk` of `wf` are needed: with a second first `# / TYPES OF OBSERV` record the parser
restarts its type list (the header test fails: the list is not the file's), with a one-digit year in `TIME OF FIRST OBS` the
century in front of an epoch's two digits is unreadable -/
example :
    let two : Midgard.Spec.Rinex2ObsFile.File := { tiny2F with hdr := tiny2F.hdr.take 3 ++
      [("TYPES2", ["2", "C5", "L5", "", "", "", "", "", "", ""].map String.toList)] ++ tiny2F.hdr.drop 3 }
    let y5 : Midgard.Spec.Rinex2ObsFile.File := { tiny2F with hdr := tiny2F.hdr.take 3 ++
      [("TFIRST", ["5", "2", "1", "0", "0", "0.0000000", "GPS"].map String.toList)] }
    two.wf = false ∧ hdrOk2 none two = false ∧ y5.wf = false ∧ hdrOk2 none y5 = false := by
  decide +kernel

end File2

end Midgard.Props.C11

#print axioms Midgard.Props.C11.header_cols_cover_spec
#print axioms Midgard.Props.C11.record_cols_cover_spec
#print axioms Midgard.Props.C11.handlers_as_modelled
#print axioms Midgard.Props.C11.specs_ok
#print axioms Midgard.Props.C11.header_record_roundtrip
#print axioms Midgard.Props.C11.floatOpt_blank
#print axioms Midgard.Props.C11.floatOpt_value
#print axioms Midgard.Props.C11.blank_line_label
#print axioms Midgard.Props.C11.blank_line_is_observation
#print axioms Midgard.Props.C11.obs3_ok
#print axioms Midgard.Props.C11.triple_slices
#print axioms Midgard.Props.C11.obs_record
#print axioms Midgard.Props.C11.obs_record_values
#print axioms Midgard.Props.C11.triple_slices2
#print axioms Midgard.Props.C11.obs2_line_record
#print axioms Midgard.Props.C11.sampling
#print axioms Midgard.Props.C11.decimated_epoch_adds_nothing3
#print axioms Midgard.Props.C11.decimated_epoch_adds_nothing2
#print axioms Midgard.Props.C11.obs_columns_aligned
#print axioms Midgard.Props.C11.file_roundtrip3
#print axioms Midgard.Props.C11.header_state3
#print axioms Midgard.Props.C11.lines_of_render3
#print axioms Midgard.Props.C11.parse_render3
#print axioms Midgard.Props.C11.expected_columns_aligned
#print axioms Midgard.Props.C11.postprocessors_keep_rows
#print axioms Midgard.Props.C11.obs_lines2
#print axioms Midgard.Props.C11.obs_line2
#print axioms Midgard.Props.C11.sats_list2
#print axioms Midgard.Props.C11.obs_text2
#print axioms Midgard.Props.C11.label_of_obs_line2
#print axioms Midgard.Props.C11.sat_lines2
#print axioms Midgard.Props.C11.epoch_line2
#print axioms Midgard.Props.C11.cont_line2
#print axioms Midgard.Props.C11.end_marker2
#print axioms Midgard.Props.C11.block_run2'
#print axioms Midgard.Props.C11.blocks_run2'
#print axioms Midgard.Props.C11.file_roundtrip2
#print axioms Midgard.Props.C11.header_state2
#print axioms Midgard.Props.C11.hdr_ok2
#print axioms Midgard.Props.C11.plain_header_record2
#print axioms Midgard.Props.C11.lines_of_render2
#print axioms Midgard.Props.C11.parse_render2
#print axioms Midgard.Props.C11.postprocessors_keep_rows2
#print axioms Midgard.Props.C11.parse_result2
