/-
C12 — RINEX navigation files are parsed into exactly the ephemerides they contain.

Property theorems about `Model/RinexNav.lean` at the tables regenerated from rinex3_nav / rinex2_nav /
rinex212_nav (`Generated/RinexNavCols.lean`), compared with `Spec/RinexNav.lean` (RINEX 3.04 / 2.11).

§§1–5 state the clauses of the property one by one and are not used below (except `record_names_distinct`).  The whole-file
result is §6 (reading: `file_records_v3`, `file_records_v2`) + §8 / §9 (post-processing: `post_record`, `post_record_v2`) + §7 /
§10 (dispatcher, bytes: `parseNavText_render3`, `parseNavText_render2`); it reads a line back through `lineValues_rendered`
(`Proofs/RinexNavRecord.lean`), not through `nav_record`.
-/
import Midgard.Proofs.Decimal
import Midgard.Proofs.OptionMapM
import Midgard.Proofs.RinexNavFile
import Midgard.Proofs.RinexNavPost

namespace Midgard.Props.C12
open Midgard.RinexNav Midgard.Generated.RinexNav Midgard.FixedCol Midgard.Text Midgard.Decimal

/-! ## 1. Table obligations -/

/-- every record line of the three parsers has a sorted, non-overlapping layout -/
theorem layouts_sorted : ((v3Lines ++ v2Lines ++ v212Lines).all fun l => Sorted l.fields) = true := by
  decide +kernel

/-- a standard field lies inside the code's columns of the same name.  (A test of its own beside `FixedCol.Covers`: it compares
the names and asks containment only; `Covers`, which the read-back lemma `read_rendered` takes, has no names and lets the wider
field reach only into columns the narrower layout leaves blank: `Proofs/RinexNavRecord.lean`.) -/
def fieldCovers (f sf : Field) : Bool := (f.name == sf.name) && decide (f.start ≤ sf.start) && decide (sf.stop ≤ f.stop)

def layoutCovers : Layout → Layout → Bool
  | [], [] => true
  | f :: fs, sf :: sfs => fieldCovers f sf && layoutCovers fs sfs
  | _, _ => false

def recordCovers (code : List LineDef) (spec : List (Nat × Layout)) : Bool :=
  decide (code.length = spec.length) &&
    spec.all fun (n, sl) => match code.find? (fun (l : LineDef) => l.num = n) with
      | some l => layoutCovers l.fields sl
      | Option.none => false

/-- **columns = standard**: line n of a record is cut, field by field and under the same name, at
columns that contain the standard's 19-character column (and, sorted by `layouts_sorted`, nothing of
the neighbouring field): RINEX 3.04 for rinex3_nav, RINEX 2.11 for rinex2_nav and rinex212_nav -/
theorem cols_cover_spec :
    recordCovers v3Lines Midgard.Spec.RinexNav.v3Record = true ∧
    recordCovers v2Lines Midgard.Spec.RinexNav.v2Record = true ∧
    recordCovers v212Lines Midgard.Spec.RinexNav.v2Record = true := by
  decide +kernel

theorem header_sat_sys : v3VersionType.find? (·.name = "sat_sys") = some ⟨"sat_sys", 40, 41⟩ := by
  decide +kernel

def nodupS : List String → Bool
  | [] => true
  | a :: rest => !rest.contains a && nodupS rest

def fieldNames (ls : List LineDef) : List String := ls.flatMap fun l => l.fields.map (·.name)

/-- **renaming is unambiguous** (not: total — `gnss_l2p_flag` has a specific name for G and J only): the field names of a record
(37 in the RINEX 3 table, 36 in the RINEX 2 ones) are distinct, each general field is one of them and has at most one specific name
per system, and no specific name collides with a record field or with a specific name of another general field -/
theorem rename_total :
    nodupS (fieldNames v3Lines) = true ∧ nodupS (fieldNames v2Lines) = true ∧ nodupS (fieldNames v212Lines) = true ∧
    ([v3, v2, v212].all fun T =>
      (T.sysnames.all fun (field, per) =>
        (fieldNames T.lines).contains field && nodupS (per.map (·.1)) &&
        per.all fun (_, n) => !((fieldNames T.lines).contains n) &&
          (T.sysnames.all fun (field', per') => field' == field || !((per'.map (·.2)).contains n)))) = true := by
  decide +kernel

/-- BeiDou: 14 s and 1356 weeks, every other supported system 0 (for every system text: `offsets_only_beidou`) -/
theorem bds_shift : ([v3, v2, v212].all fun T =>
    lookupI T.secOffset "C" == 14 && lookupI T.weekOffset "C" == 1356 &&
    (["G", "E", "J", "I"].all fun s => lookupI T.secOffset s == 0 && lookupI T.weekOffset s == 0)) = true := by
  decide +kernel

/-! ## 2. One record line -/

/-- whatever clean 19-character (or shorter) texts are printed in the columns of line
`n` come back under the line's field names — also when the line lost its trailing blanks, and with no
separator between the columns (a sign may abut the previous field) -/
theorem nav_record (ld : LineDef) (cells : List (Align × Str))
    (hs : Sorted ld.fields = true) (hf : Fits ld.fields cells = true) :
    (lineValues ld (renderA ld.fields cells)).map (·.2) = cells.map (·.2) ∧
    (lineValues ld (renderA ld.fields cells)).map (·.1) = ld.fields.map (·.name) := by
  constructor
  · unfold lineValues
    have := slice_renderA_rstrip ld.fields cells hs hf
    simpa [sliceAll, List.map_map, Function.comp_def] using this
  · exact sliceAll_names _ _

theorem float_blank (t : Str) (h : isBlank t = true) : floatField t = some 0 := by
  simp [floatField, h]

/-- **`D` and `d` exponents denote the same number as `e`**: writing the exponent letter `e` of a text as
`D` or `d` does not change `_float` (upper-case `E`: `floatField_num19` for printed reals, and the `example` below) -/
theorem exponent_letters (t : Str) :
    floatField (replaceChar 'e' 'D' t) = floatField t ∧ floatField (replaceChar 'e' 'd' t) = floatField t := by
  have key : ∀ x : Char, x = 'D' ∨ x = 'd' →
      replaceChar 'd' 'e' (replaceChar 'D' 'e' (replaceChar 'e' x t)) = replaceChar 'd' 'e' (replaceChar 'D' 'e' t) := by
    intro x hx
    simp only [replaceChar, List.map_map]
    apply List.map_congr_left
    intro c _
    rcases hx with rfl | rfl
    · by_cases h : c = 'e'
      · subst h; decide
      · simp [Function.comp, h]
    · by_cases h : c = 'e'
      · subst h; decide
      · simp [Function.comp, h]
  constructor
  · unfold floatField
    rw [isEmpty_replaceChar, isBlank_replaceChar _ _ (by decide) (by decide), key 'D' (Or.inl rfl)]
  · unfold floatField
    rw [isEmpty_replaceChar, isBlank_replaceChar _ _ (by decide) (by decide), key 'd' (Or.inr rfl)]

example : floatField "-.292934515480D+01".toList = some (-2.92934515480) ∧
    floatField "0.130985863507d-04".toList = floatField "0.130985863507E-04".toList ∧
    floatField "".toList = some 0 := by decide +kernel

/-! ## 3. GLONASS / SBAS records are skipped without shifting anything -/

/-- a record whose first line carries system `R` or `S` leaves the columns (and the
epoch list) exactly as they were, however many lines it has (`addRecord_skipSystem` of `Proofs/RinexNavRecord.lean`) -/
theorem skip_glo_sbas (T : Tables) (st : St) (l1 : Str) (rest : List Str) (ld1 : LineDef)
    (hld : T.lines.find? (fun (l : LineDef) => l.num = 1) = some ld1)
    (hnoalpha : ((get (lineValues ld1 l1) "sat_clock_drift").getLast?.map isAlpha).getD false = false)
    (hsys : get (lineValues ld1 l1) "system" = ['R'] ∨ get (lineValues ld1 l1) "system" = ['S']) :
    addRecord T Option.none st (l1 :: rest) = some st :=
  Spec.RinexNavFile.addRecord_skipSystem T st l1 rest ld1 hld hnoalpha hsys

/-! ## 4. Week cross-over -/

/-- the resolved instant differs from the printed one by whole weeks and lies within
half a week of the record epoch — for every record separately, in both directions -/
theorem crossover (toc t : Rat) :
    (∃ k : Int, towards toc t = t - (k : Rat) * 604800) ∧
    towards toc t - toc ≤ 302400 ∧ toc - towards toc t ≤ 302400 := by
  refine ⟨⟨roundHalfEven ((t - toc) / week), rfl⟩, ?_⟩
  have h := rhe_near ((t - toc) / week)
  unfold towards
  have hw : week = 604800 := rfl
  rw [hw] at h ⊢
  constructor <;> grind

/-- a value already within half a week is left alone -/
theorem crossover_id (toc t : Rat) (h1 : t - toc < 302400) (h2 : toc - t < 302400) : towards toc t = t := by
  have h := rhe_near ((t - toc) / week)
  have hw : week = 604800 := rfl
  rw [hw] at h
  have a1 : (t - toc) / 604800 < 1 / 2 := by grind
  have a2 : -(1 / 2 : Rat) < (t - toc) / 604800 := by grind
  have hk1 : ((roundHalfEven ((t - toc) / 604800) : Int) : Rat) < 1 := by grind
  have hk2 : (-1 : Rat) < ((roundHalfEven ((t - toc) / 604800) : Int) : Rat) := by grind
  have a' : roundHalfEven ((t - toc) / 604800) < 1 := by exact_mod_cast hk1
  have b : ((-1 : Int) : Rat) < ((roundHalfEven ((t - toc) / 604800) : Int) : Rat) := by simpa using hk2
  have b' := Rat.intCast_lt_intCast.mp b
  have hz : roundHalfEven ((t - toc) / 604800) = 0 := by omega
  unfold towards
  rw [hw, hz]
  simp only [Rat.intCast_zero, Rat.zero_mul]
  grind

/-! ## 5. All columns have equal length -/

/-- length of column `k` (0 when the column does not exist yet) -/
def len (d : Cols) (k : String) : Nat := ((col d k).map List.length).getD 0

theorem len_append (d : Cols) (k : String) (v : Cell) (k' : String) :
    len (append d k v) k' = len d k' + (if k' = k then 1 else 0) := by
  unfold len
  rw [col_append]
  split
  · cases col d k' <;> simp
  · rfl

theorem len_foldl_append (kvs : List (String × Cell)) : ∀ (d : Cols) (k' : String),
    len (kvs.foldl (fun d kv => append d kv.1 kv.2) d) k' = len d k' + (kvs.map (·.1)).count k' := by
  induction kvs with
  | nil => intro d k'; simp
  | cons kv rest ih =>
    intro d k'
    simp only [List.foldl_cons, List.map_cons]
    rw [ih, len_append, List.count_cons]
    by_cases h : k' = kv.1
    · subst h; simp; omega
    · have h' : ¬ (kv.1 == k') = true := by simpa using fun e => h e.symm
      simp [h, h']

/-- names appended by the orbit lines `(i, line)` (record line number `i + 2`) -/
def keysOfLines (T : Tables) (nl : List (Nat × Str)) : List String :=
  nl.flatMap fun il => match T.lines.find? (fun (l : LineDef) => l.num = il.1 + 2) with
    | some ld => ld.fields.map (·.name)
    | Option.none => []

open Midgard.Spec.RinexNavFile in
theorem linesKv_keys (T : Tables) (nl : List (Nat × Str)) (kv : List (String × Cell))
    (h : linesKv T nl = some kv) : kv.map (·.1) = keysOfLines T nl := by
  obtain ⟨rows, hrows, rfl⟩ := Option.map_eq_some_iff.mp h
  rw [List.map_flatten, keysOfLines, List.flatMap_def]
  refine congrArg _ (mapM_image _ _ _ (fun il r hr => ?_) hrows)
  unfold lineKvAt at hr
  cases hf : T.lines.find? (fun (l : LineDef) => l.num = il.1 + 2) with
  | none =>
    rw [hf] at hr
    cases hr
    rfl
  | some ld =>
    rw [hf] at hr
    exact lineKv_keys ld il.2 r hr

/-- every name a kept record appends: the epoch line's columns, then the orbit lines' -/
def recordKeys (T : Tables) (clock : List String) (nl : List (Nat × Str)) : List String :=
  ["system", "satellite"] ++ clock ++ keysOfLines T nl

theorem keysOfLines_eq (T : Tables) (nl : List (Nat × Str)) :
    keysOfLines T nl = (nl.map (·.1)).flatMap fun i => match T.lines.find? (fun (l : LineDef) => l.num = i + 2) with
      | some ld => ld.fields.map (·.name)
      | Option.none => [] := by
  simp [keysOfLines, List.flatMap_map]

theorem keysOfLines_zip (T : Tables) (rest : List Str) :
    keysOfLines T ((List.range rest.length).zip rest) = keysOfIdx T rest.length := by
  rw [keysOfLines_eq, List.map_fst_zip (by simp)]
  rfl

def nodupL : List String → Bool
  | [] => true
  | a :: rest => !rest.contains a && nodupL rest

theorem count_of_nodupL (l : List String) (h : nodupL l = true) (k : String) :
    l.count k = if k ∈ l then 1 else 0 := by
  induction l with
  | nil => simp
  | cons a rest ih =>
    simp only [nodupL, Bool.and_eq_true, Bool.not_eq_eq_eq_not, Bool.not_true] at h
    have hna : a ∉ rest := by simpa using h.1
    rw [List.count_cons, ih h.2]
    by_cases hk : k = a
    · subst hk; simp [hna]
    · have h' : ¬ (a == k) = true := by simpa using fun e => hk e.symm
      simp [hk, h']

theorem record_names_distinct :
    nodupL (recordNames v3) = true ∧ nodupL (recordNames v2) = true ∧ nodupL (recordNames v212) = true := by
  decide +kernel

open Midgard.Spec.RinexNavFile in
theorem addRecord_len (T : Tables) (v2 : Option Str) (st st' : St) (l1 : Str) (rest : List Str)
    (h : addRecord T v2 st (l1 :: rest) = some st') :
    st' = st ∨ ∀ k', len st'.data k' = len st.data k' +
      (recordKeys T clockNames ((List.range rest.length).zip rest)).count k' := by
  cases hfind : T.lines.find? (fun (l : LineDef) => l.num = 1) with
  | none => simp only [addRecord, hfind, Option.some.injEq] at h; exact Or.inl h.symm
  | some ld1 =>
    cases hhead : headOf v2 (lineValues ld1 l1) with
    | none => simp [addRecord, hfind, hhead] at h
    | some hd =>
      cases hd with
      | skipHeaderLine => simp only [addRecord, hfind, hhead, Option.some.injEq] at h; exact Or.inl h.symm
      | skipSystem => simp only [addRecord, hfind, hhead, Option.some.injEq] at h; exact Or.inl h.symm
      | ok e clock =>
        right
        rw [addRecord_ok T v2 st l1 rest ld1 e clock hfind hhead] at h
        obtain ⟨kv, hkv, rfl⟩ := Option.map_eq_some_iff.mp h
        intro k'
        show len (pushRow _ _) k' = _
        rw [pushRow, len_foldl_append, List.map_append, linesKv_keys T _ kv hkv, recordKeys,
          ← head_clock_names v2 _ e clock hhead]
        simp [List.map_map, Function.comp_def]

/-- **one record, one value per column**: a record either leaves the columns untouched (GLONASS/SBAS,
stray header line) or makes every column grow by the number of times its name occurs among the
record's field names (`addRecord_len` with the names of the clock columns left open) -/
theorem record_appends (T : Tables) (v2 : Option Str) (st st' : St) (l1 : Str) (rest : List Str)
    (h : addRecord T v2 st (l1 :: rest) = some st') :
    st' = st ∨ ∃ clock : List String, ∀ k', len st'.data k' = len st.data k' +
      (recordKeys T clock ((List.range rest.length).zip rest)).count k' :=
  (addRecord_len T v2 st st' l1 rest h).imp_right fun hk => ⟨clockNames, hk⟩

/-- **all columns have equal length**: a supported record with its seven orbit lines adds exactly one
value to each of the record's 31 columns and none to any other; a skipped record (GLONASS, SBAS) adds
nothing — so columns that were equally long stay equally long, in each of the three parsers -/
theorem columns_equal_length (T : Tables) (hT : nodupL (recordNames T) = true)
    (v2 : Option Str) (st st' : St) (l1 : Str) (rest : List Str) (hrest : rest.length = 7)
    (h : addRecord T v2 st (l1 :: rest) = some st') :
    st' = st ∨ ∀ k, len st'.data k = len st.data k + (if k ∈ recordNames T then 1 else 0) := by
  refine (addRecord_len T v2 st st' l1 rest h).imp_right fun hk k => ?_
  rw [hk k, recordKeys, keysOfLines_zip, hrest, ← count_of_nodupL _ hT k]
  rfl

/-! ## 6. Whole files: record splitting and accumulation -/

section File
open Midgard.Spec.RinexNavFile

/-- for every abstract RINEX 3 navigation file `f` — header lines, then any sequence of
navigation records of G / E / C / J / I (eight lines each, values in any of the `D d E e` spellings, blank
fields, lines cut after the last value, spare columns on the last line) and GLONASS / SBAS records with
*any* number of orbit lines in between, at the start or at the end — whose values fit their columns
(`f.wf`), reading the rendered text (`accumV3`: line splitting, header / data split, record splitting,
`addRecord` per record) delivers the header's satellite-system letter, and columns to which every supported
record, in file order, has appended exactly its 31 values (`kvOf`: system, satellite, three clock values,
26 orbit values under the standard's slot names, each the number printed in its column), together with
the record epochs; the skipped records contribute nothing. -/
theorem file_records_v3 (f : NavFile) (hwf : f.wf = true) :
    accumV3 v3 (render3 f) = some ([f.satSys], expectedState f.items) := by
  obtain ⟨_, h1, _, h2, _, _, _, h3, hh, hitems⟩ := navFile_wf_fields f hwf
  have hlines : fileLines3 f = hdrLines (firstPre f) f.hlines ++ (f.items.map itemLines3).flatten := by
    rw [fileLines3, headerLines_eq]
  unfold accumV3 render3
  rw [hlines, splitHeader_rendered (firstPre f) f.hlines _ (length_firstPre f h1 h2 h3) hh (hlines ▸ okText_fileLines3 f hwf)]
  simp only
  rw [splitV3_groups _ (by
    intro g hg
    simp only [List.mem_map] at hg
    obtain ⟨it, hit, rfl⟩ := hg
    exact item_group it (hitems it hit))]
  rw [supported_fold f.items hitems]
  simp only [Option.bind_eq_bind, Option.bind_some, Option.pure_def, hdrLines, List.cons_append, satSys_header f hwf]
  rfl

/-- the whole parser on a rendered file: the post-processing applied to exactly the per-record columns -/
theorem parse_v3_of_records (f : NavFile) (hwf : f.wf = true) :
    parseV3 v3 (render3 f) = postV3 v3 [f.satSys] (expectedState f.items) := by
  unfold parseV3
  rw [file_records_v3 f hwf]
  rfl

/-- the same for RINEX 2 GPS navigation files (both 2.x parsers' tables): header, then
GPS records of eight lines each (`I2,1X,I2.2,…,F5.1,3D19.12` / `3X,4D19.12`, two-digit years 80–99 ↦ 19yy,
00–79 ↦ 20yy) — reading the rendered text appends, record after record in file order, exactly the
record's 31 values, with the four-digit year in the record epoch -/
theorem file_records_v2 (T : Tables) (hT : T = v2 ∨ T = v212) (f : NavFile) (hwf : f.wf2 = true) :
    accumV2 T "G" (render2 f) = some (expectedState f.items) := by
  rcases hT with rfl | rfl
  · exact accumV2_render2 _ v2_lines.1 f hwf
  · exact accumV2_render2 _ v2_lines.2 f hwf

def navOnly (items : List Item) : List Item := (supported items).map Item.nav

theorem supported_navOnly (items : List Item) : supported (navOnly items) = supported items := by
  unfold navOnly
  induction supported items with
  | nil => rfl
  | cons r rs ih => simp [supported, ih]

theorem navOnly_wf (f : NavFile) (hwf : f.wf = true) : ({ f with items := navOnly f.items } : NavFile).wf = true := by
  simp only [NavFile.wf, Bool.and_eq_true, List.all_eq_true] at hwf ⊢
  refine ⟨hwf.1, ?_⟩
  intro it hit
  simp only [navOnly, List.mem_map] at hit
  obtain ⟨r, hr, rfl⟩ := hit
  exact hwf.2 _ ((mem_supported r f.items).mp hr)

/-- **skipped records are invisible (file level)**: deleting every GLONASS / SBAS record from a well-formed
file — wherever it stands and however many lines it has — does not change what the reader returns; in
particular the record that follows a skipped one is read from its own first line -/
theorem skipped_invisible (f : NavFile) (hwf : f.wf = true) :
    accumV3 v3 (render3 f) = accumV3 v3 (render3 { f with items := navOnly f.items }) := by
  rw [file_records_v3 f hwf, file_records_v3 _ (navOnly_wf f hwf)]
  simp [expectedState, expectedData, supported_navOnly]

theorem kvOf_keys (r : NavRec) : (kvOf r).map (·.1) = recordNames v3 := by
  rw [kvOf_eq]
  simp [orbitKv, navRows, recordNames, keysOfIdx, clockNames]
  decide +kernel

theorem col_pushRow (kv : List (String × Cell)) (hnd : nodupL (kv.map (·.1)) = true) (k : String) : ∀ (d : Cols),
    col (pushRow d kv) k = match (kv.find? (·.1 = k)).map (·.2) with
      | some v => some ((col d k).getD [] ++ [v])
      | Option.none => col d k := by
  induction kv with
  | nil => intro d; rfl
  | cons x kv ih =>
    intro d
    simp only [List.map_cons, nodupL, Bool.and_eq_true, Bool.not_eq_eq_eq_not, Bool.not_true] at hnd
    have hx : x.1 ∉ kv.map (·.1) := by simpa using hnd.1
    show col (pushRow (append d x.1 x.2) kv) k = _
    rw [ih hnd.2, col_append]
    by_cases hk : x.1 = k
    · subst hk
      have hnone : (kv.find? (fun y => decide (y.1 = x.1))) = Option.none := by
        rw [List.find?_eq_none]
        intro y hy
        simp only [decide_eq_true_eq]
        intro e
        exact hx (by rw [← e]; exact List.mem_map_of_mem hy)
      simp [hnone]
    · have hk' : ¬ k = x.1 := fun e => hk e.symm
      simp [hk, hk']

theorem valOf_eq (r : NavRec) (k : String) :
    valOf r k = if k ∈ recordNames v3 then some (valD r k) else Option.none := by
  rw [← kvOf_keys r]
  unfold valD valOf
  cases hf : (kvOf r).find? (fun y => decide (y.1 = k)) with
  | none =>
    rw [if_neg]; rfl
    intro hmem
    obtain ⟨x, hx, rfl⟩ := List.mem_map.mp hmem
    exact absurd (decide_eq_true rfl) (List.find?_eq_none.mp hf x hx)
  | some y =>
    rw [if_pos]; rfl
    have hy : y.1 = k := by simpa using List.find?_some hf
    exact hy ▸ List.mem_map_of_mem (List.mem_of_find?_eq_some hf)

theorem col_pushRow_kvOf (r : NavRec) (d : Cols) (k : String) :
    col (pushRow d (kvOf r)) k =
      if k ∈ recordNames v3 then some ((col d k).getD [] ++ [valD r k]) else col d k := by
  have hnd : nodupL ((kvOf r).map (·.1)) = true := by rw [kvOf_keys]; exact record_names_distinct.1
  have hv := valOf_eq r k
  unfold valOf at hv
  rw [col_pushRow (kvOf r) hnd k d, hv]
  by_cases hk : k ∈ recordNames v3 <;> simp only [hk, if_true, if_false]

theorem col_foldl_pushRow (k : String) : ∀ (rs : List NavRec) (d : Cols),
    col (rs.foldl (fun d r => pushRow d (kvOf r)) d) k =
      if k ∈ recordNames v3 ∧ rs ≠ [] then some ((col d k).getD [] ++ rs.map fun r => valD r k) else col d k := by
  intro rs
  induction rs with
  | nil => intro d; simp
  | cons r rs ih =>
    intro d
    rw [List.foldl_cons, ih, col_pushRow_kvOf]
    by_cases hk : k ∈ recordNames v3
    · by_cases hrs : rs = [] <;> simp [hk, hrs]
    · simp [hk]

/-- **one entry per supported record, in file order, in every column**: column `k` of the columns read
from a file holds, for each supported record in file order, the value that record prints for `k` (as `Rows`, the form the
post-processing takes: `rows_expected`) -/
theorem expectedData_col (items : List Item) (k : String) (hk : k ∈ recordNames v3) :
    col (expectedData items) k = if supported items = [] then Option.none
      else some ((supported items).filterMap fun r => valOf r k) := by
  have hv : (fun r => valOf r k) = fun r => some (valD r k) := by
    funext r
    rw [valOf_eq, if_pos hk]
  rw [expectedData, col_foldl_pushRow, hv, List.filterMap_eq_map']
  by_cases hs : supported items = [] <;> simp [hk, hs, col]

/-! ### the hypotheses are satisfiable -/

def demoRow (k : Nat) : Row4 :=
  ⟨.sci 'D' true false (1000000000000 + k) 0, .sci 'E' false true 250000000000 1, .blank, .sci 'e' true false 0 0, k % 2 == 0⟩

def demoRec (sys : Char) (prn : Nat) : NavRec :=
  ⟨sys, prn, prn % 2 == 0, 2021, 3, 10, 12, 0, 0, .sci 'D' true true 1234567890123 (-4), .blank, .sci 'd' true false 0 0,
   demoRow 1, demoRow 2, demoRow 3, demoRow 4, demoRow 5, demoRow 6,
   ⟨.sci 'D' true false 3024000000000 5, .sci 'D' true false 4000000000000 0, [.blank], true⟩⟩

def demoSkip (sys : Char) (n : Nat) : SkipRec :=
  ⟨sys, 7, 2021, 3, 10, 11, 45, 0, .sci 'D' true false 1000000000000 (-5), .sci 'D' true false 0 0, .sci 'D' true false 5000000000000 4,
   (List.range n).map fun k => ([Num19.sci 'D' true (k % 2 == 1) 7100000000000 3, .blank, .sci 'E' false false 5 (-2)], k % 2 == 0)⟩

/-- a mixed RINEX 3 file: GLONASS record (3 orbit lines) first, GPS, SBAS (1 line), BeiDou with the same
printed epoch as the GPS record, Galileo, GLONASS (4 lines) last -/
def demoNav : NavFile :=
  { version := "     3.04".toList, ftype := "N: GNSS NAV DATA".toList, satSys := 'M', sysText := ": MIXED".toList,
    hlines := [⟨"verif".toList, "PGM / RUN BY / DATE".toList⟩, ⟨"    18".toList, "LEAP SECONDS".toList⟩],
    items := [.skip (demoSkip 'R' 3), .nav (demoRec 'G' 5), .skip (demoSkip 'S' 1), .nav (demoRec 'C' 12),
              .nav (demoRec 'E' 1), .skip (demoSkip 'R' 4)] }

theorem demoNav_wf : demoNav.wf = true := by
  unfold demoNav
  -- the kernel reads a string literal as `String.ofList [...]`; without this step it decodes the literals' bytes
  repeat rw [String.toList_ofList]
  decide +kernel

example : demoNav.wf = true := demoNav_wf

example : (accumV3 v3 (render3 demoNav)).map (fun x => (x.1, x.2.epochs.map (·.sat), col x.2.data "crs", col x.2.data "delta_n")) =
    some (['M'], ["G05".toList, "C12".toList, "E01".toList], some [.num (-2.5), .num (-2.5), .num (-2.5)],
      some [.num 0, .num 0, .num 0]) := by
  rw [file_records_v3 demoNav demoNav_wf]
  decide +kernel

def demoRec99 : NavRec := { demoRec 'G' 5 with year := 1999 }

/-- a RINEX 2 GPS file with a 1999 and a 2021 record -/
def demoNav2 : NavFile :=
  { version := "     2.11".toList, ftype := "N: GPS NAV DATA".toList, satSys := 'x', sysText := [],
    hlines := [⟨"verif".toList, "PGM / RUN BY / DATE".toList⟩],
    items := [Item.nav demoRec99, Item.nav (demoRec 'G' 31)] }

theorem demoNav2_wf : demoNav2.wf2 = true := by
  unfold demoNav2
  repeat rw [String.toList_ofList]
  decide +kernel

example : demoNav2.wf2 = true := demoNav2_wf

example : (accumV2 v2 "G" (render2 demoNav2)).map (fun st => st.epochs.map (fun e => (e.sat, e.year))) =
    some [("G05".toList, 1999), ("G31".toList, 2021)] := by
  rw [file_records_v2 v2 (Or.inl rfl) demoNav2 demoNav2_wf]
  decide +kernel

end File

/-! ## 7. The dispatcher `rinex_nav`: the parser is chosen by the text that is in the file; systems no RINEX 2 parser accepts; the
offset tables; text mode on a text without carriage returns (used in §10) -/

section Dispatch
open Midgard.Spec.RinexNavFile

/-- the dispatcher's choice for a rendered RINEX 3 file is decided by the version token
printed in columns 1–20 of its first line — by the text that is in the file, and by nothing else -/
theorem dispatch_render3 (f : NavFile) (hwf : f.wf = true) (k : Nat) (v : Str)
    (hver : f.version = blanks k ++ v) (hv : Token v = true) (hlen : k + v.length < 20) :
    dispatch (render3 f) = classify v := by
  have hfl : fileLines3 f = (ljust 20 f.version ++ (ljust 20 f.ftype ++ f.satSys :: ljust 19 f.sysText ++ versionLabel)) ::
      (f.hlines.map hline ++ [blanks 60 ++ endLabel] ++ (f.items.map itemLines3).flatten) := by
    simp [fileLines3, headerLines, List.append_assoc]
  have hnl := okText_fileLines3 f hwf
  unfold render3
  rw [hfl] at hnl ⊢
  exact dispatch_joinLines _ _ _ hnl k v hver hv hlen

theorem dispatch_render2 (f : NavFile) (hwf : f.wf2 = true) (k : Nat) (v : Str)
    (hver : f.version = blanks k ++ v) (hv : Token v = true) (hlen : k + v.length < 20) :
    dispatch (render2 f) = classify v := by
  have hfl : fileLines2 f = (ljust 20 f.version ++ (ljust 40 f.ftype ++ versionLabel)) ::
      (f.hlines.map hline ++ [blanks 60 ++ endLabel] ++ ((supported f.items).map navLines2).flatten) := by
    simp [fileLines2, headerLines2, List.append_assoc]
  have hnl := okText_fileLines2 f hwf
  unfold render2
  rw [hfl] at hnl ⊢
  exact dispatch_joinLines _ _ _ hnl k v hver hv hlen

/-- `parsers.parse_file("rinex_nav", path)` on a rendered RINEX 3.x file — whatever the
file is called, whatever was parsed before (the model has no state) — is the RINEX 3 post-processing of exactly
the records of the file -/
theorem parseNav_render3 (f : NavFile) (hwf : f.wf = true) (k : Nat) (v : Str)
    (hver : f.version = blanks k ++ v) (hv : Token v = true) (hlen : k + v.length < 20) (h3 : v.head? = some '3')
    (ext2 ext212 : List (String × String)) (name : Str) :
    parseNav v3 v2 v212 ext2 ext212 name (render3 f) =
      (postV3 v3 [f.satSys] (expectedState f.items)).map fun d => (NavParser.rinex3, d) := by
  unfold parseNav
  rw [dispatch_render3 f hwf k v hver hv hlen]
  have hc : classify v = some .rinex3 := by
    unfold classify
    simp [h3]
  rw [hc, parse_v3_of_records f hwf]

/-- a rendered RINEX 2.x GPS file is read by `rinex212_nav` exactly when its version token is `2.12`, else by `rinex2_nav`, and
yields the RINEX 2 post-processing of exactly the records of the file — under a name that stands for GPS by the rule of the parser
that is chosen -/
theorem parseNav_render2_name (f : NavFile) (hwf : f.wf2 = true) (k : Nat) (v : Str)
    (hver : f.version = blanks k ++ v) (hv : Token v = true) (hlen : k + v.length < 20) (h2 : v.head? = some '2')
    (name : Str)
    (hn : (if v = "2.12".toList then systemOfName212 v212SysExt name else systemOfName2 v2SysExt name) = some "G") :
    parseNav v3 v2 v212 v2SysExt v212SysExt name (render2 f) =
      if v = "2.12".toList then (postV2 v212 "G" (expectedState f.items)).map fun d => (NavParser.rinex212, d)
      else (postV2 v2 "G" (expectedState f.items)).map fun d => (NavParser.rinex2, d) := by
  unfold parseNav
  rw [dispatch_render2 f hwf k v hver hv hlen]
  unfold classify
  by_cases h : v = "2.12".toList
  · rw [if_pos h] at hn
    simp only [if_true, h, hn, Option.bind_some, parseV2, file_records_v2 v212 (Or.inr rfl) f hwf]
    rfl
  · rw [if_neg h] at hn
    simp only [h2, if_true, h, if_false, hn, Option.bind_some, parseV2, file_records_v2 v2 (Or.inl rfl) f hwf]
    rfl

/-- a rendered RINEX 2.x GPS file under a name that stands for GPS by both parsers' rules is read by `rinex212_nav` exactly when
its version token is `2.12`, else by `rinex2_nav` (`parseNav_render2_name` with both name hypotheses) -/
theorem parseNav_render2 (f : NavFile) (hwf : f.wf2 = true) (k : Nat) (v : Str)
    (hver : f.version = blanks k ++ v) (hv : Token v = true) (hlen : k + v.length < 20) (h2 : v.head? = some '2')
    (name : Str) (hn2 : systemOfName2 v2SysExt name = some "G") (hn212 : systemOfName212 v212SysExt name = some "G") :
    parseNav v3 v2 v212 v2SysExt v212SysExt name (render2 f) =
      if v = "2.12".toList then (postV2 v212 "G" (expectedState f.items)).map fun d => (NavParser.rinex212, d)
      else (postV2 v2 "G" (expectedState f.items)).map fun d => (NavParser.rinex2, d) :=
  parseNav_render2_name f hwf k v hver hv hlen h2 name (by split <;> assumption)

example : demoNav.version = blanks 5 ++ "3.04".toList ∧ Token "3.04".toList = true ∧ 5 + "3.04".toList.length < 20 ∧
    "3.04".toList.head? = some '3' := by decide
example : demoNav2.version = blanks 5 ++ "2.11".toList ∧ Token "2.11".toList = true ∧ "2.11".toList.head? = some '2' := by decide
example : systemOfName2 v2SysExt "brdc1660.21n".toList = some "G" ∧ systemOfName212 v212SysExt "brdc1660.21n".toList = some "G" ∧
    systemOfName212 v212SysExt "VRF100NOR_R_20190010000_01D_GN.rnx".toList = some "G" ∧
    systemOfName2 v2SysExt "VRF100NOR_R_20190010000_01D_GN.rnx".toList = Option.none := by decide +kernel

/-- text mode changes nothing in a text without carriage returns -/
theorem universalNewlines_id (t : Str) (h : ∀ c ∈ t, c ≠ '\r') : universalNewlines t = t := by
  unfold universalNewlines
  induction t with
  | nil => rfl
  | cons c rest ih =>
    have hc : c ≠ '\r' := h c (by simp)
    simp only [unlAux, hc, if_false, Bool.false_eq_true, and_false]
    rw [ih (fun d hd => h d (by simp [hd]))]

/-- **unsupported, stated**: a RINEX 2.x navigation file whose name stands for a system outside C E G I J M (GLONASS
`.yyg`, any other letter of a long name) is refused whatever it contains: the post-processing never returns columns -/
theorem v2_other_system_refused (T : Tables) (system : String) (hs : ¬ system ∈ ["C", "E", "G", "I", "J", "M"]) (st : St) :
    postV2 T system st = Option.none := by
  unfold postV2
  by_cases he : st.data.isEmpty = true
  · simp [he]
  · have hc : (["C", "E", "G", "I", "J", "M"].contains system) = false := by
      simpa using hs
    have htc : ∀ (d : Cols), timeCorrection T system st.epochs d = Option.none := by
      intro d
      unfold timeCorrection
      simp only [hc, Bool.not_false, if_true]
      rfl
    simp only [he, Bool.false_eq_true, if_false, htc]
    rfl

theorem glonass_v2_refused (T : Tables) (text : Str) : parseV2 T "R" text = Option.none := by
  unfold parseV2
  cases accumV2 T "R" text with
  | none => rfl
  | some st => exact v2_other_system_refused T "R" (by decide) st

/-- on a file without carriage returns the driver's text-mode entry point is `parseNav` itself -/
theorem parseNavText_eq (T3 T2 T212 : Tables) (e2 e212 : List (String × String)) (name t : Str) (h : ∀ c ∈ t, c ≠ '\r') :
    parseNavText T3 T2 T212 e2 e212 name t = parseNav T3 T2 T212 e2 e212 name t := by
  unfold parseNavText
  rw [universalNewlines_id t h]

/-- **the BeiDou shift is applied to exactly the records of system C**: for EVERY system text `s` (not only the five
supported letters) the second / week offsets the time correction adds to a record of system `s` are 14 s / 1356 weeks
when `s = "C"` and 0 otherwise, in all three parsers' tables -/
theorem offsets_only_beidou (T : Tables) (hT : T = v3 ∨ T = v2 ∨ T = v212) (s : String) :
    lookupI T.secOffset s = (if s = "C" then 14 else 0) ∧ lookupI T.weekOffset s = (if s = "C" then 1356 else 0) := by
  have hmem : T ∈ [v3, v2, v212] := by rcases hT with rfl | rfl | rfl <;> simp
  obtain ⟨h1, h2, h3, h4⟩ := offsets_table T hmem
  exact ⟨lookupI_single _ _ _ h1 h2 s, lookupI_single _ _ _ h3 h4 s⟩

end Dispatch

open Midgard.Spec.RinexNavFile

/-! ## 8. The post-processing, record by record -/

theorem col_setCol (d : Cols) (k : String) (vs : List Cell) (k' : String) :
    col (setCol d k vs) k' = if k' = k then some vs else col d k' := by
  unfold setCol
  split
  · rename_i h
    have hf : (fun (x : String × List Cell) => if x.1 = k then (x.1, vs) else (x.1, x.2)) =
        fun x => (x.1, if x.1 = k then vs else x.2) := by
      funext x; split <;> rfl
    rw [hf, col_map_vals (fun key old => if key = k then vs else old)]
    by_cases hk : k' = k
    · subst hk
      cases hc : col d k' with
      | none => rw [(col_eq_none_iff d k').mp hc] at h; exact absurd h (by decide)
      | some old => simp
    · simp [hk]
  · have := col_eq_none_iff d k
    rw [col_append_one]
    grind

theorem col_delCol (d : Cols) (k k' : String) : col (delCol d k) k' = if k' = k then Option.none else col d k' := by
  unfold delCol
  induction d with
  | nil => grind [col]
  | cons p rest ih => grind [col]

/-- columns whose rows are functions of the records `rs`, one row per record -/
def Rows (rs : List NavRec) (d : Cols) (sem : String → Option (NavRec → Cell)) : Prop :=
  ∀ k, col d k = (sem k).map fun f => rs.map f

section
variable {rs : List NavRec} {d : Cols} {sem : String → Option (NavRec → Cell)}

theorem rows_col (h : Rows rs d sem) {k : String} {f : NavRec → Cell} (hs : sem k = some f) : col d k = some (rs.map f) := by
  rw [h k, hs]
  rfl

theorem rows_setCol (h : Rows rs d sem) (n : String) (f : NavRec → Cell) :
    Rows rs (setCol d n (rs.map f)) fun k => if k = n then some f else sem k := by
  intro k
  rw [col_setCol]
  by_cases hk : k = n
  · simp only [hk, if_true, Option.map_some]
  · simp only [hk, if_false]
    exact h k

theorem rows_delCol (h : Rows rs d sem) (n : String) :
    Rows rs (delCol d n) fun k => if k = n then Option.none else sem k := by
  intro k
  rw [col_delCol]
  by_cases hk : k = n
  · simp only [hk, if_true, Option.map_none]
  · simp only [hk, if_false]
    exact h k

theorem rows_congr (h : Rows rs d sem) {sem' : String → Option (NavRec → Cell)} (e : ∀ k, sem k = sem' k) :
    Rows rs d sem' :=
  fun k => (h k).trans (by rw [e k])

end

/-- the values of the specific column `n`: the record's value for the systems that use the name `n`, `None` elsewhere -/
def maskCol (per : List (String × String)) (n : String) (sys vals : List Cell) : List Cell :=
  (sys.zip vals).map fun (s, v) => if ((per.filter (·.2 = n)).map (·.1)).contains (asString (cellStr s)) then v else .none

/-- the specific names of a general field, in order of first appearance -/
def newNames (per : List (String × String)) : List String :=
  per.foldl (fun acc (_, n) => if acc.contains n then acc else acc ++ [n]) []

/-- one round of `_rename_fields_based_on_system` -/
def renStep (d : Cols) (field : String) (per : List (String × String)) : Option Cols :=
  (col d "system").bind fun sys => (col d field).bind fun vals =>
    some (delCol ((newNames per).foldl (fun d n => setCol d n (maskCol per n sys vals)) d) field)

theorem rename3_cons (field : String) (per : List (String × String)) (rest : SysNames) (d : Cols) :
    rename3 ((field, per) :: rest) d = (renStep d field per).bind (rename3 rest) := by
  rfl

theorem rename3_nil (d : Cols) : rename3 [] d = some d := rfl

theorem mem_newNames (per : List (String × String)) (n : String) : n ∈ newNames per ↔ n ∈ per.map (·.2) := by
  unfold newNames
  have key : ∀ (per : List (String × String)) (acc : List String),
      n ∈ per.foldl (fun acc (x : String × String) => if acc.contains x.2 then acc else acc ++ [x.2]) acc ↔
        n ∈ acc ∨ n ∈ per.map (·.2) := by
    intro per
    induction per with
    | nil => intro acc; simp
    | cons x per ih =>
      intro acc
      rw [List.foldl_cons, ih, List.map_cons, List.mem_cons]
      by_cases hc : acc.contains x.2 = true
      · have hx : x.2 ∈ acc := List.contains_iff_mem.mp hc
        rw [if_pos hc]
        constructor
        · rintro (h | h)
          · exact Or.inl h
          · exact Or.inr (Or.inr h)
        · rintro (h | h | h)
          · exact Or.inl h
          · exact Or.inl (h ▸ hx)
          · exact Or.inr h
      · rw [if_neg hc, List.mem_append, List.mem_singleton, or_assoc]
  simpa using key per []

theorem col_foldl_setCol (g : String → List Cell) (ns : List String) : ∀ (d : Cols) (k : String),
    col (ns.foldl (fun d n => setCol d n (g n)) d) k = if k ∈ ns then some (g k) else col d k := by
  induction ns with
  | nil => intro d k; simp
  | cons n ns ih =>
    intro d k
    simp only [List.foldl_cons, ih, col_setCol, List.mem_cons]
    by_cases h1 : k ∈ ns
    · simp [h1]
    · by_cases h2 : k = n
      · subst h2; simp [h1]
      · simp [h1, h2]

theorem maskCol_map (per : List (String × String)) (n : String) (rs : List NavRec) (sf vf : NavRec → Cell) :
    maskCol per n (rs.map sf) (rs.map vf) =
      rs.map fun r => if ((per.filter (·.2 = n)).map (·.1)).contains (asString (cellStr (sf r))) then vf r else .none := by
  unfold maskCol
  rw [List.zip_map', List.map_map]
  rfl

theorem renStep_rows (rs : List NavRec) (d : Cols) (sem : String → Option (NavRec → Cell)) (field : String)
    (per : List (String × String)) (h : Rows rs d sem) (hs : (sem "system").isSome = true) (hf : (sem field).isSome = true) :
    ∃ d', renStep d field per = some d' ∧ Rows rs d' (semStep sem field per) := by
  obtain ⟨sf, hsf⟩ := Option.isSome_iff_exists.mp hs
  obtain ⟨vf, hvf⟩ := Option.isSome_iff_exists.mp hf
  have hr : renStep d field per = some (delCol ((newNames per).foldl
      (fun d n => setCol d n (maskCol per n (rs.map sf) (rs.map vf))) d) field) := by
    simp only [renStep, rows_col h hsf, rows_col h hvf, Option.bind_some]
  refine ⟨_, hr, ?_⟩
  intro k
  rw [col_delCol, col_foldl_setCol (fun n => maskCol per n (rs.map sf) (rs.map vf))]
  unfold semStep
  by_cases hk : k = field
  · simp [hk]
  · simp only [hk, if_false]
    by_cases hm : k ∈ per.map (·.2)
    · rw [if_pos ((mem_newNames per k).mpr hm), if_pos hm]
      simp only [hsf, hvf, Option.map_some, maskCol_map]
    · rw [if_neg (fun hc => hm ((mem_newNames per k).mp hc)), if_neg hm]
      exact h k

/-- the columns every round reads are there -/
def okRen (sem : String → Option (NavRec → Cell)) : SysNames → Bool
  | [] => true
  | (f, p) :: rest => (sem "system").isSome && (sem f).isSome && okRen (semStep sem f p) rest

theorem rename3_rows (rs : List NavRec) : ∀ (names : SysNames) (d : Cols) (sem : String → Option (NavRec → Cell)),
    Rows rs d sem → okRen sem names = true → ∃ d', rename3 names d = some d' ∧ Rows rs d' (semRename sem names) := by
  intro names
  induction names with
  | nil => intro d sem h _; exact ⟨d, rfl, h⟩
  | cons fp rest ih =>
    obtain ⟨f, p⟩ := fp
    intro d sem h hok
    simp only [okRen, Bool.and_eq_true] at hok
    obtain ⟨d1, hd1, hr1⟩ := renStep_rows rs d sem f p h hok.1.1 hok.1.2
    obtain ⟨d2, hd2, hr2⟩ := ih d1 (semStep sem f p) hr1 hok.2
    exact ⟨d2, by rw [rename3_cons, hd1]; exact hd2, hr2⟩

theorem timeCorrection_rows (T : Tables) (fileSys : String) (rs : List NavRec) (d : Cols)
    (sem : String → Option (NavRec → Cell)) (sf : NavRec → Cell) (toeQ ttxQ wkQ : NavRec → Rat)
    (h : Rows rs d sem) (hfs : ["C", "E", "G", "I", "J", "M"].contains fileSys = true)
    (hsys : sem "system" = some sf) (htoe : sem "toe" = some fun r => Cell.num (toeQ r))
    (httx : sem "transmission_time" = some fun r => Cell.num (ttxQ r))
    (hwk : sem "gnss_week" = some fun r => Cell.num (wkQ r)) :
    ∃ d', timeCorrection T fileSys (rs.map epochOf) d = some d' ∧
      Rows rs d' (semTime T fileSys sem sf toeQ ttxQ wkQ) := by
  unfold timeCorrection
  simp only [hfs, Bool.not_true, Bool.false_eq_true, if_false, rows_col h hsys, rows_col h htoe, rows_col h httx,
    rows_col h hwk, Option.bind_eq_bind, Option.bind_some,
    Option.pure_def, List.length_map, and_self, decide_true, List.zip_map']
  have hm : ∀ (off : Cell × Cell → Int) (q : NavRec → Rat),
      List.mapM (fun (x : Cell × Cell) => Option.map (fun y => y + ((off x : Int) : Rat)) (cellNum x.snd))
        (rs.map fun r => (sf r, Cell.num (q r))) =
          some (rs.map fun r => q r + ((off (sf r, Cell.num (q r)) : Int) : Rat)) := by
    intro off q
    rw [mapM_eq_some_map _ (fun x => (cellNum x.2).getD 0 + ((off x : Int) : Rat))]
    · simp [List.map_map, cellNum, Function.comp_def]
    · intro x hx
      simp only [List.mem_map] at hx
      obtain ⟨r, _, rfl⟩ := hx
      simp [cellNum]
  simp only [hm, Option.bind_some]
  refine ⟨_, rfl, ?_⟩
  simp only [List.zip_map', List.map_map, Function.comp_def]
  -- four columns set, in the order in which `semTime` asks for them
  refine rows_congr (rows_setCol (rows_setCol (rows_setCol (rows_setCol h "time" _) "gnss_week" _) "toe" _)
    "transmission_time" _) fun k => ?_
  unfold semTime
  simp

theorem rows_expected (items : List Item) (hne : supported items ≠ []) :
    Rows (supported items) (expectedData items) sem0 := by
  intro k
  rw [expectedData, col_foldl_pushRow, sem0]
  by_cases hk : k ∈ recordNames v3 <;> simp [hk, hne, col]

theorem lnavOk_rows (rs : List NavRec) (d : Cols) (sem : String → Option (NavRec → Cell)) (sf iodeF : NavRec → Cell)
    (h : Rows rs d sem) (hs : sem "system" = some sf) (hi : sem "iode" = some iodeF) :
    lnavOk d = rs.all (lnavRow sf iodeF) := by
  unfold lnavOk
  simp only [rows_col h hs, rows_col h hi, List.zip_map', List.all_map]
  rfl

theorem okRen_v3 : okRen sem0 v3.sysnames = true := by decide +kernel

/-- the time correction and the LNAV test on columns that are rows of the records `rs`, when the columns they read
are still the record's own values -/
theorem post_tail (T : Tables) (fileSys : String) (rs : List NavRec) (d1 : Cols) (sem : String → Option (NavRec → Cell))
    (hr1 : Rows rs d1 sem) (hfs : ["C", "E", "G", "I", "J", "M"].contains fileSys = true)
    (hfix : ∀ k ∈ ["system", "toe", "transmission_time", "gnss_week", "iode"], sem k = sem0 k) :
    ∃ d, Rows rs d (semTime T fileSys sem (fun r => Cell.str [r.sys]) (fun r => r.o3.a.val) (fun r => r.o7.a.val)
        (fun r => r.o5.c.val)) ∧
      ((timeCorrection T fileSys (rs.map epochOf) d1).bind fun d => if lnavOk d then some d else Option.none) =
        if rs.all (lnavRow (fun r => Cell.str [r.sys]) (fun r => Cell.num r.o1.a.val)) then some d else Option.none := by
  obtain ⟨s1, s2, s3, s4, s5⟩ := sem0_fixed
  obtain ⟨d2, hd2, hr2⟩ := timeCorrection_rows T fileSys rs d1 sem (fun r => Cell.str [r.sys]) (fun r => r.o3.a.val)
    (fun r => r.o7.a.val) (fun r => r.o5.c.val) hr1 hfs ((hfix _ (by simp)).trans s1) ((hfix _ (by simp)).trans s2)
    ((hfix _ (by simp)).trans s3) ((hfix _ (by simp)).trans s4)
  refine ⟨d2, hr2, ?_⟩
  have hl := lnavOk_rows rs d2 _ _ _ hr2
    ((semTime_other (by decide)).trans ((hfix _ (by simp)).trans s1))
    ((semTime_other (by decide)).trans ((hfix _ (by simp)).trans s5))
  rw [hd2, Option.bind_some, hl]

theorem expectedData_ne (items : List Item) (hne : supported items ≠ []) : (expectedData items).isEmpty = false := by
  have := rows_expected items hne "system"
  cases hd : expectedData items with
  | nil => rw [hd] at this; simp [col, sem0, recordNames] at this
  | cons _ _ => rfl

/-- for every RINEX 3 file content (any supported records, at least one) and every admissible
satellite-system letter of the header, the post-processing (`_rename_fields_based_on_system`,
`_time_system_correction`, `_determine_message_type`) returns columns whose row `i` is a function of record `i`
alone: column `k` is `rs.map (f k)` with `f = postSem fileSys` — or it refuses the file, exactly when some GPS / QZSS
record has a non-integral IODE. -/
theorem post_record (items : List Item) (fileSys : Str) (hne : supported items ≠ [])
    (hfs : ["C", "E", "G", "I", "J", "M"].contains (asString fileSys) = true) :
    ∃ d, Rows (supported items) d (postSem (asString fileSys)) ∧
      postV3 v3 fileSys (expectedState items) =
        if (supported items).all (lnavRow (fun r => Cell.str [r.sys]) (fun r => Cell.num r.o1.a.val)) then some d
        else Option.none := by
  obtain ⟨d1, hd1, hr1⟩ := rename3_rows (supported items) v3.sysnames (expectedData items) sem0
    (rows_expected items hne) okRen_v3
  obtain ⟨d, hr, hd⟩ := post_tail v3 (asString fileSys) (supported items) d1 _ hr1 hfs sem_fixed3
  refine ⟨d, hr, ?_⟩
  unfold postV3
  simp only [expectedState, expectedData_ne items hne, Bool.false_eq_true, if_false, hd1, Option.bind_eq_bind,
    Option.bind_some, Option.pure_def]
  exact hd

/-- **the BeiDou corrections are applied to exactly the BeiDou records**: in the rows of `post_record`, the record
epoch is the printed civil epoch plus 14 s and the week is the printed week plus 1356 for a record of system `C` in a
mixed or BeiDou file, and exactly the printed values for every other record (and in every single-system file of
another system) -/
theorem post_record_beidou (fs : String) :
    postSem fs "time" = some (fun r => Cell.time (epochSeconds (decide (fs = "M" ∨ fs = "C")) (epochOf r) +
      (((if decide (fs = "M" ∨ fs = "C") = true then (if asString [r.sys] = "C" then 14 else 0) else 0 : Int)) : Rat))) ∧
    postSem fs "gnss_week" = some (fun r => Cell.num (r.o5.c.val +
      (((if decide (fs = "M" ∨ fs = "C") = true then (if asString [r.sys] = "C" then 1356 else 0) else 0 : Int)) : Rat))) := by
  have hs := fun s => (offsets_only_beidou v3 (Or.inl rfl) s).1
  have hw := fun s => (offsets_only_beidou v3 (Or.inl rfl) s).2
  constructor
  · show some _ = some _
    congr 1
    funext r
    simp only [cellStr, hs]
  · show some _ = some _
    congr 1
    funext r
    simp only [cellStr, hw]

/-- what became of the general columns: gone; the system-specific ones carry the record's value for the systems that
use the name and `None` for the others (three of the eleven specific names, the others alike) -/
theorem post_record_renamed (fs : String) :
    postSem fs "gnss_tgd_bgd" = Option.none ∧
    postSem fs "tgd_b1_b3" = some (fun r => if ["C"].contains (asString [r.sys]) then Cell.num r.o6.c.val else Cell.none) ∧
    postSem fs "tgd" = some (fun r => if ["G", "J", "I"].contains (asString [r.sys]) then Cell.num r.o6.c.val else Cell.none) ∧
    postSem fs "crs" = some (fun r => Cell.num r.o1.b.val) := by
  refine ⟨rfl, rfl, rfl, rfl⟩

example : supported demoNav.items ≠ [] ∧ ["C", "E", "G", "I", "J", "M"].contains (asString [demoNav.satSys]) = true := by
  decide

/-! ## 9. The RINEX 2.x post-processing, record by record -/

/-- one round of `_rename_fields_based_on_system` of rinex2_nav / rinex212_nav -/
def renStep2 (system : String) (d : Cols) (field : String) (per : List (String × String)) : Cols :=
  match col d field with
  | Option.none => d
  | some vals =>
    match per.find? (·.1 = system) with
    | Option.none => delCol d field
    | some (_, n) => if n = field then d else delCol (setCol d n vals) field

theorem rename2_cons (field : String) (per : List (String × String)) (rest : SysNames) (system : String) (d : Cols) :
    rename2 ((field, per) :: rest) system d = rename2 rest system (renStep2 system d field per) := by
  rfl

theorem renStep2_rows (rs : List NavRec) (d : Cols) (sem : String → Option (NavRec → Cell)) (system field : String)
    (per : List (String × String)) (h : Rows rs d sem) :
    Rows rs (renStep2 system d field per) (semStep2 sem system field per) := by
  unfold renStep2 semStep2
  rw [h field]
  cases sem field with
  | none => exact h
  | some vf =>
    simp only [Option.map_some]
    cases per.find? (fun x => decide (x.1 = system)) with
    | none => exact rows_delCol h field
    | some sn =>
      simp only
      split
      · exact h
      · exact rows_delCol (rows_setCol h sn.2 vf) field

theorem rename2_rows (rs : List NavRec) (system : String) : ∀ (names : SysNames) (d : Cols)
    (sem : String → Option (NavRec → Cell)), Rows rs d sem →
    Rows rs (rename2 names system d) (semRename2 sem system names) := by
  intro names
  induction names with
  | nil => intro d sem h; exact h
  | cons fp rest ih =>
    obtain ⟨f, p⟩ := fp
    intro d sem h
    rw [rename2_cons]
    exact ih _ _ (renStep2_rows rs d sem system f p h)

/-- the columns the time correction and the LNAV test read are, after `rename2`, still the record's own values -/
def Sem2Ok (T : Tables) (system : String) : Prop :=
  semRename2 sem0 system T.sysnames "system" = some (fun r => Cell.str [r.sys]) ∧
  semRename2 sem0 system T.sysnames "toe" = some (fun r => Cell.num r.o3.a.val) ∧
  semRename2 sem0 system T.sysnames "transmission_time" = some (fun r => Cell.num r.o7.a.val) ∧
  semRename2 sem0 system T.sysnames "gnss_week" = some (fun r => Cell.num r.o5.c.val) ∧
  postSem2 T system "system" = some (fun r => Cell.str [r.sys]) ∧
  postSem2 T system "iode" = some (fun r => Cell.num r.o1.a.val)

/-- whatever the system of the file: these columns are outside the rename table -/
theorem sem2Ok_any (T : Tables) (hT : T = v2 ∨ T = v212) (s : String) : Sem2Ok T s := by
  have hmem : T ∈ [v3, v2, v212] := by rcases hT with rfl | rfl <;> simp
  have keep := fun k hk => semRename2_other k s T.sysnames sem0 (untouched T hmem k hk)
  have post : ∀ k, k ∉ ["transmission_time", "toe", "gnss_week", "time"] →
      postSem2 T s k = semRename2 sem0 s T.sysnames k := fun _ hk => semTime_other hk
  obtain ⟨h1, h2, h3, h4, h5⟩ := sem0_fixed
  exact ⟨(keep _ (by simp)).trans h1, (keep _ (by simp)).trans h2, (keep _ (by simp)).trans h3,
    (keep _ (by simp)).trans h4, ((post _ (by decide)).trans (keep _ (by simp))).trans h1,
    ((post _ (by decide)).trans (keep _ (by simp))).trans h5⟩

/-- the same for the five supported systems; the membership hypothesis is not used -/
theorem sem2Ok_all (T : Tables) (hT : T = v2 ∨ T = v212) (s : String) (hs : s ∈ ["C", "E", "G", "I", "J"]) : Sem2Ok T s :=
  sem2Ok_any T hT s

/-- the RINEX 2.x post-processing for every system the time correction accepts -/
theorem post_record_v2_any (T : Tables) (hT : T = v2 ∨ T = v212) (system : String)
    (hfs : ["C", "E", "G", "I", "J", "M"].contains system = true) (items : List Item) (hne : supported items ≠ []) :
    ∃ d, Rows (supported items) d (postSem2 T system) ∧
      postV2 T system (expectedState items) =
        if (supported items).all (lnavRow (fun r => Cell.str [r.sys]) (fun r => Cell.num r.o1.a.val)) then some d
        else Option.none := by
  have hmem : T ∈ [v3, v2, v212] := by rcases hT with rfl | rfl <;> simp
  obtain ⟨d, hr, hd⟩ := post_tail T system (supported items) _ _
    (rename2_rows (supported items) system T.sysnames (expectedData items) sem0 (rows_expected items hne)) hfs
    (fun k hk => semRename2_other k system T.sysnames sem0 (untouched T hmem k hk))
  refine ⟨d, hr, ?_⟩
  unfold postV2
  simp only [expectedState, expectedData_ne items hne, Bool.false_eq_true, if_false, Option.bind_eq_bind,
    Option.pure_def]
  exact hd

/-- the RINEX 2.x post-processing (`rename2` for the one system of the file, time-system correction,
LNAV test; both 2.x tables, the five single-system letters — `post_record_v2_any` also admits `M`) returns columns whose row `i` is `postSem2 T system k` of record `i`
alone — or refuses the file exactly when a GPS / QZSS record has a non-integral IODE -/
theorem post_record_v2 (T : Tables) (hT : T = v2 ∨ T = v212) (system : String) (hs : system ∈ ["C", "E", "G", "I", "J"])
    (items : List Item) (hne : supported items ≠ []) :
    ∃ d, Rows (supported items) d (postSem2 T system) ∧
      postV2 T system (expectedState items) =
        if (supported items).all (lnavRow (fun r => Cell.str [r.sys]) (fun r => Cell.num r.o1.a.val)) then some d
        else Option.none := by
  refine post_record_v2_any T hT system ?_ items hne
  simp only [List.mem_cons, List.not_mem_nil, or_false] at hs
  rcases hs with rfl | rfl | rfl | rfl | rfl <;> decide

/-- RINEX 2.x GPS files, on one general column: `gnss_tgd_bgd` is gone, its values stand under the GPS name `tgd`, the Galileo
name `bgd_e1_e5a` does not appear, and the week is not shifted (the other four general columns alike) -/
theorem post_record_v2_gps (T : Tables) (hT : T = v2 ∨ T = v212) :
    postSem2 T "G" "gnss_tgd_bgd" = Option.none ∧
    postSem2 T "G" "tgd" = some (fun r => Cell.num r.o6.c.val) ∧
    postSem2 T "G" "bgd_e1_e5a" = Option.none ∧
    postSem2 T "G" "gnss_week" = some (fun r => Cell.num (r.o5.c.val + ((0 : Int) : Rat))) := by
  rcases hT with rfl | rfl <;> exact ⟨rfl, rfl, rfl, rfl⟩

/-- the executable form the driver evaluates (`postRows3` / `postRows2` → `semCols`) holds, under every name of its key
list, exactly the rows of `post_record` / `post_record_v2` -/
theorem col_semCols (sem : String → Option (NavRec → Cell)) (rs : List NavRec) (k : String) : ∀ (keys : List String),
    col (semCols keys sem rs) k = if k ∈ keys then (sem k).map (fun f => rs.map f) else Option.none := by
  intro keys
  induction keys with
  | nil => rfl
  | cons k0 ks ih =>
    unfold semCols at ih ⊢
    by_cases h0 : k0 = k
    · subst h0
      cases hs : sem k0 with
      | none =>
        simp only [List.filterMap_cons, hs, Option.map_none, ih, List.mem_cons, true_or, if_true]
        split <;> rfl
      | some f => simp [hs, col]
    · have h0' : ¬ k = k0 := fun e => h0 e.symm
      cases hs : sem k0 with
      | none => simp only [List.filterMap_cons, hs, Option.map_none, ih, List.mem_cons, h0', false_or]
      | some f => simp only [List.filterMap_cons, hs, Option.map_some, col, h0, if_false, ih, List.mem_cons, h0', false_or]

/-- **no stray column**: a name outside the key list the driver evaluates (`outKeys v3`: the record's 31 names, the
eleven system-specific names, `time`) is not a column of the post-processed data, whatever the records -/
theorem post_record_keys (fs k : String) (hk : ¬ k ∈ outKeys v3) : postSem fs k = Option.none := by
  unfold outKeys at hk
  rw [mem_dedupS] at hk
  simp only [List.mem_append, not_or] at hk
  obtain ⟨⟨hrec, hspec⟩, htime⟩ := hk
  have hfields : ∀ fp ∈ v3.sysnames, fp.1 ∈ recordNames v3 := by decide +kernel
  have h4 : "transmission_time" ∈ recordNames v3 ∧ "toe" ∈ recordNames v3 ∧ "gnss_week" ∈ recordNames v3 := by decide +kernel
  have k1 : ¬ k = "transmission_time" := fun e => hrec (e ▸ h4.1)
  have k2 : ¬ k = "toe" := fun e => hrec (e ▸ h4.2.1)
  have k3 : ¬ k = "gnss_week" := fun e => hrec (e ▸ h4.2.2)
  have k4 : ¬ k = "time" := by simpa using htime
  unfold postSem semTime
  simp only [k1, k2, k3, k4, if_false]
  rw [semRename_other k v3.sysnames sem0 (by
    intro fp hfp
    refine ⟨fun e => hrec (e ▸ hfields fp hfp), fun hm => hspec ?_⟩
    simp only [List.mem_flatMap]
    exact ⟨fp, hfp, hm⟩)]
  unfold sem0
  simp [hrec]

/-! ## 10. Text mode: the bytes of a rendered file (it contains no carriage return) -/

/-- `parseNav_render3` for the text-mode entry point (universal newlines, then
`parseNav`): a rendered file contains no carriage return (`render3_noCR`). -/
theorem parseNavText_render3 (f : NavFile) (hwf : f.wf = true) (k : Nat) (v : Str)
    (hver : f.version = blanks k ++ v) (hv : Token v = true) (hlen : k + v.length < 20) (h3 : v.head? = some '3')
    (ext2 ext212 : List (String × String)) (name : Str) :
    parseNavText v3 v2 v212 ext2 ext212 name (render3 f) =
      (postV3 v3 [f.satSys] (expectedState f.items)).map fun d => (NavParser.rinex3, d) := by
  rw [parseNavText_eq _ _ _ _ _ _ _ (render3_noCR f hwf)]
  exact parseNav_render3 f hwf k v hver hv hlen h3 ext2 ext212 name

/-- `parseNav_render2` for the text-mode entry point. -/
theorem parseNavText_render2 (f : NavFile) (hwf : f.wf2 = true) (k : Nat) (v : Str)
    (hver : f.version = blanks k ++ v) (hv : Token v = true) (hlen : k + v.length < 20) (h2 : v.head? = some '2')
    (name : Str) (hn2 : systemOfName2 v2SysExt name = some "G") (hn212 : systemOfName212 v212SysExt name = some "G") :
    parseNavText v3 v2 v212 v2SysExt v212SysExt name (render2 f) =
      if v = "2.12".toList then (postV2 v212 "G" (expectedState f.items)).map fun d => (NavParser.rinex212, d)
      else (postV2 v2 "G" (expectedState f.items)).map fun d => (NavParser.rinex2, d) := by
  rw [parseNavText_eq _ _ _ _ _ _ _ (render2_noCR f hwf)]
  exact parseNav_render2 f hwf k v hver hv hlen h2 name hn2 hn212

/-- the hypotheses are satisfiable: `demoNav`, `demoNav2` -/
example : parseNavText v3 v2 v212 v2SysExt v212SysExt "x.rnx".toList (render3 demoNav) =
    (postV3 v3 [demoNav.satSys] (expectedState demoNav.items)).map fun d => (NavParser.rinex3, d) :=
  parseNavText_render3 demoNav demoNav_wf 5 "3.04".toList (hver := by decide) (hv := by decide) (hlen := by decide)
    (h3 := by decide) _ _ _

example : parseNavText v3 v2 v212 v2SysExt v212SysExt "brdc1660.21n".toList (render2 demoNav2) =
    (postV2 v2 "G" (expectedState demoNav2.items)).map fun d => (NavParser.rinex2, d) := by
  have := parseNavText_render2 demoNav2 demoNav2_wf 5 "2.11".toList (hver := by decide) (hv := by decide) (hlen := by decide)
    (h2 := by decide) "brdc1660.21n".toList (hn2 := by decide +kernel) (hn212 := by decide +kernel)
  rw [this, if_neg (by decide)]

end Midgard.Props.C12

#print axioms Midgard.Props.C12.layouts_sorted
#print axioms Midgard.Props.C12.cols_cover_spec
#print axioms Midgard.Props.C12.header_sat_sys
#print axioms Midgard.Props.C12.rename_total
#print axioms Midgard.Props.C12.bds_shift
#print axioms Midgard.Props.C12.nav_record
#print axioms Midgard.Props.C12.float_blank
#print axioms Midgard.Props.C12.exponent_letters
#print axioms Midgard.Props.C12.skip_glo_sbas
#print axioms Midgard.Props.C12.crossover
#print axioms Midgard.Props.C12.crossover_id
#print axioms Midgard.Props.C12.len_append
#print axioms Midgard.Props.C12.len_foldl_append
#print axioms Midgard.Props.C12.linesKv_keys
#print axioms Midgard.Props.C12.keysOfLines_eq
#print axioms Midgard.Props.C12.keysOfLines_zip
#print axioms Midgard.Props.C12.count_of_nodupL
#print axioms Midgard.Props.C12.record_names_distinct
#print axioms Midgard.Props.C12.addRecord_len
#print axioms Midgard.Props.C12.record_appends
#print axioms Midgard.Props.C12.columns_equal_length
#print axioms Midgard.Props.C12.file_records_v3
#print axioms Midgard.Props.C12.parse_v3_of_records
#print axioms Midgard.Props.C12.file_records_v2
#print axioms Midgard.Props.C12.supported_navOnly
#print axioms Midgard.Props.C12.navOnly_wf
#print axioms Midgard.Props.C12.skipped_invisible
#print axioms Midgard.Props.C12.demoNav_wf
#print axioms Midgard.Props.C12.demoNav2_wf
#print axioms Midgard.Props.C12.kvOf_keys
#print axioms Midgard.Props.C12.col_pushRow
#print axioms Midgard.Props.C12.valOf_eq
#print axioms Midgard.Props.C12.col_pushRow_kvOf
#print axioms Midgard.Props.C12.col_foldl_pushRow
#print axioms Midgard.Props.C12.expectedData_col
#print axioms Midgard.Props.C12.dispatch_render3
#print axioms Midgard.Props.C12.dispatch_render2
#print axioms Midgard.Props.C12.parseNav_render3
#print axioms Midgard.Props.C12.parseNav_render2_name
#print axioms Midgard.Props.C12.parseNav_render2
#print axioms Midgard.Props.C12.universalNewlines_id
#print axioms Midgard.Props.C12.v2_other_system_refused
#print axioms Midgard.Props.C12.glonass_v2_refused
#print axioms Midgard.Props.C12.parseNavText_eq
#print axioms Midgard.Props.C12.offsets_only_beidou
#print axioms Midgard.Props.C12.parseNavText_render3
#print axioms Midgard.Props.C12.parseNavText_render2
#print axioms Midgard.RinexNav.col_append
#print axioms Midgard.RinexNav.col_append_one
#print axioms Midgard.Props.C12.col_setCol
#print axioms Midgard.Props.C12.col_delCol
#print axioms Midgard.Props.C12.rename3_cons
#print axioms Midgard.Props.C12.rename3_nil
#print axioms Midgard.Props.C12.mem_newNames
#print axioms Midgard.Props.C12.col_foldl_setCol
#print axioms Midgard.Props.C12.rows_col
#print axioms Midgard.Props.C12.rows_setCol
#print axioms Midgard.Props.C12.rows_delCol
#print axioms Midgard.Props.C12.rows_congr
#print axioms Midgard.Props.C12.maskCol_map
#print axioms Midgard.Props.C12.renStep_rows
#print axioms Midgard.Props.C12.rename3_rows
#print axioms Midgard.Props.C12.timeCorrection_rows
#print axioms Midgard.Props.C12.rows_expected
#print axioms Midgard.Props.C12.lnavOk_rows
#print axioms Midgard.Props.C12.okRen_v3
#print axioms Midgard.Props.C12.post_tail
#print axioms Midgard.Props.C12.expectedData_ne
#print axioms Midgard.Props.C12.post_record
#print axioms Midgard.Props.C12.post_record_beidou
#print axioms Midgard.Props.C12.post_record_renamed
#print axioms Midgard.Props.C12.rename2_cons
#print axioms Midgard.Props.C12.renStep2_rows
#print axioms Midgard.Props.C12.rename2_rows
#print axioms Midgard.Props.C12.sem2Ok_any
#print axioms Midgard.Props.C12.sem2Ok_all
#print axioms Midgard.Props.C12.post_record_v2_any
#print axioms Midgard.Props.C12.post_record_v2
#print axioms Midgard.Props.C12.post_record_v2_gps
#print axioms Midgard.Props.C12.col_semCols
#print axioms Midgard.Props.C12.semRename_other
#print axioms Midgard.Props.C12.post_record_keys
