/-
C13 — SP3 orbit files are parsed into exactly the positions, clocks and epochs given.

Property theorems about `Model/Sp3.lean` at the tables regenerated from `midgard/parsers/sp3.py`
(`Generated/Sp3Cols.lean`), compared with `Spec/Sp3.lean` (SP3-c / SP3-d).

§§1–5 state the clauses of the property one by one; of them the whole-file result (§6 `file_roundtrip`, §8 the bytes) uses
`cols_eq_spec`, `pos_record`, `sigma_code` and `block_entries`.  It reads a header line back through `headerLine_rendered`
(`Proofs/Sp3Header.lean`), not through `header_fields` / `header_first_wins`.
-/
import Midgard.Generated.Sp3Cols
import Midgard.Model.Sp3Adv
import Midgard.Proofs.Sp3File

namespace Midgard.Props.C13
open Midgard.Sp3 Midgard.Generated.Sp3 Midgard.FixedCol Midgard.Text Midgard.Decimal

/-! ## 1. Table obligations -/

theorem layouts_sorted : Sorted recP = true ∧ Sorted recV = true ∧ (headerDefs.all fun d => Sorted d.fields) = true := by
  decide +kernel

/-- **columns = standard**: every header and record table of the parser is the standard's -/
theorem cols_eq_spec :
    recP = Midgard.Spec.Sp3.recP ∧ recV = Midgard.Spec.Sp3.recV ∧
    headerDefs = [⟨"#c", Midgard.Spec.Sp3.firstLine, .string⟩, ⟨"#d", Midgard.Spec.Sp3.firstLine, .string⟩,
                  ⟨"##", Midgard.Spec.Sp3.secondLine, .string⟩, ⟨"%c", Midgard.Spec.Sp3.percentC, .string⟩,
                  ⟨"%f", Midgard.Spec.Sp3.percentF, .float⟩] ∧
    epochFields = [Option.none, some "year", some "month", some "day", some "hour", some "minute", some "second"] := by
  decide +kernel

/-- **unit factors**: kilometres ↦ metres ×1000, microseconds ↦ seconds ×10⁻⁶, millimetres ×10⁻³,
picoseconds ×10⁻¹², the speed of light 299 792 458 m/s — and `_parse_position` refers to exactly
these (each once, `constant.c` twice) -/
theorem unit_factors :
    factors = ⟨1000, mkRat 1 1000000, mkRat 1 1000, mkRat 1 1000000000000, 299792458⟩ ∧
    unitsUsed.length = 6 ∧ unitsUsed.count "constant.c" = 2 ∧
    (["Unit.kilometer2meter", "Unit.microsecond2second", "Unit.millimeter2meter", "Unit.picosecond2second"].all
      fun u => unitsUsed.count u == 1) = true := by
  decide +kernel

/-! ## 2. One position record -/

/-- the entry `pos_record` promises, in terms of the parsed numbers; `Spec.Sp3File.expectedEntry` is the same in terms of an
abstract record (`pos_line`) -/
def expectedEntry (F : Factors) (basePos baseClk : Rat) (e : Epoch) (sat : Str) (x y z clk : Rat)
    (codes : List (Option Nat)) (clkCode : Option Nat) : Entry :=
  ⟨e, sat,
   [x, y, z].map (fun q => if q = 0 then Option.none else some (q * F.km2m)),
   (if clk = 999999.999999 then Option.none else some (clk * F.us2s * F.c)),
   codes.map (fun c => c.map fun k => basePos ^ k * F.mm2m),
   clkCode.map (fun k => baseClk ^ k * (F.ps2s * F.c)),
   sat.take 1⟩

/-- accuracy column ↦ sigma: blank ↦ NaN, code `k` ↦ `base^k · unit` -/
def sigmaOf (base unit : Rat) (t : Str) : Option (Option Rat) :=
  if t.isEmpty then some Option.none
  else (parseFloat t).bind fun code => (powCode base code).map fun p => some (p * unit)

theorem sigma_blank (base unit : Rat) : sigmaOf base unit [] = some Option.none := rfl

theorem sigma_code (base unit : Rat) (t : Str) (k : Nat) (hne : t ≠ []) (h : parseFloat t = some (k : Rat)) :
    sigmaOf base unit t = some (some (base ^ k * unit)) := by
  unfold sigmaOf
  have : t.isEmpty = false := by cases t <;> simp_all
  simp [this, h, powCode_nat]

/-- from the field texts of a `P` line to the delivered entry — kilometres ×1000,
microseconds × 10⁻⁶ × c, `0.000000` ↦ NaN, `999999.999999` ↦ NaN, blank accuracy code ↦ NaN,
code `k` ↦ `base^k` millimetres / picoseconds -/
theorem pos_record (F : Factors) (m : Meta) (e : Epoch) (vs : List (String × Str)) (v : Str)
    (basePos baseClk x y z clk : Rat) (codes : List (Option Nat)) (clkCode : Option Nat)
    (hv : mget m "version" = some (.str v)) (hva : v ≠ ['a'])
    (hbp : mget m "base_posvel" = some (.num basePos)) (hbc : mget m "base_clkrate" = some (.num baseClk))
    (hx : parseFloat (get vs "pos_x") = some x) (hy : parseFloat (get vs "pos_y") = some y)
    (hz : parseFloat (get vs "pos_z") = some z) (hc : parseFloat (get vs "clk_bias") = some clk)
    (hs : ["sig_pos_x", "sig_pos_y", "sig_pos_z"].map (fun k => sigmaOf basePos F.mm2m (get vs k)) =
          codes.map (fun c => some (c.map fun k => basePos ^ k * F.mm2m)))
    (hsc : sigmaOf baseClk (F.ps2s * F.c) (get vs "sig_clk_bias") = some (clkCode.map fun k => baseClk ^ k * (F.ps2s * F.c)))
    (hlen : codes.length = 3) :
    parsePosition F m e vs = some (expectedEntry F basePos baseClk e (get vs "sat") x y z clk codes clkCode) := by
  match codes, hlen with
  | [c1, c2, c3], _ =>
    simp only [List.map_cons, List.map_nil, List.cons.injEq, and_true] at hs
    obtain ⟨h1, h2, h3⟩ := hs
    unfold sigmaOf at h1 h2 h3 hsc
    unfold parsePosition positionCore
    simp only [hv, hbp, hbc, hva, if_false, List.mapM_cons, List.mapM_nil, hx, hy, hz, hc, Option.pure_def,
      Option.bind_eq_bind, Option.bind_some, Option.map_some, h1, h2, h3, hsc, expectedEntry, List.map_cons, List.map_nil]

/-- a concrete record with all three sentinels (base 1.25 / 1.025) -/
example :
    parsePosition factors [("version", .str ['d']), ("base_posvel", .num 1.25), ("base_clkrate", .num 1.025)]
      ⟨2016, 3, 1, 0, 0, 0⟩
      (sliceAll recP "PG04  25398.213954      0.000000   4188.487313 999999.999999  7     4".toList) =
    some ⟨⟨2016, 3, 1, 0, 0, 0⟩, "G04".toList, [some 25398213.954, Option.none, some 4188487.313], Option.none,
          [some ((1.25 : Rat) ^ 7 / 1000), Option.none, some ((1.25 : Rat) ^ 4 / 1000)], Option.none, ['G']⟩ := by
  rw [String.toList_ofList, String.toList_ofList]
  decide +kernel

/-! ## 3. Blocks: one entry per `P` record, in file order, with the epoch of the enclosing `*` line -/

/-- the entries a list of block lines contributes -/
def entriesOf (F : Factors) (m : Meta) (recP : Layout) (e : Epoch) (ls : List Str) : List Entry :=
  ls.filterMap fun l => if l.take 1 = ['P'] then parsePosition F m e (sliceAll recP l) else Option.none

theorem fold_stepLine (F : Factors) (m : Meta) (recP : Layout) (e : Epoch) (ls : List Str) :
    ∀ acc : List Entry,
      (∀ l ∈ ls, l.take 1 = ['P'] → (parsePosition F m e (sliceAll recP l)).isSome = true) →
      ls.foldlM (stepLine F m recP (some e) false) acc = some (acc ++ entriesOf F m recP e ls) := by
  induction ls with
  | nil => intro acc _; simp [entriesOf]
  | cons l ls ih =>
    intro acc hok
    simp only [List.foldlM_cons]
    by_cases hp : l.take 1 = ['P']
    · have := hok l (by simp) hp
      obtain ⟨en, hen⟩ := Option.isSome_iff_exists.mp this
      have hstep : stepLine F m recP (some e) false acc l = some (acc ++ [en]) := by
        simp [stepLine, hp, hen]
      rw [hstep]
      simp only [Option.bind_eq_bind, Option.bind_some]
      rw [ih (acc ++ [en]) (fun l' h' => hok l' (by simp [h']))]
      simp [entriesOf, hp, hen]
    · have hstep : stepLine F m recP (some e) false acc l = some acc := by
        simp [stepLine, hp]
      rw [hstep]
      simp only [Option.bind_eq_bind, Option.bind_some]
      rw [ih acc (fun l' h' => hok l' (by simp [h']))]
      simp [entriesOf, hp]

/-- a block `* epoch` followed by `P`, `V`, `EP`, `EV` … lines and empty lines adds
exactly one entry per `P` line, in order, each carrying the epoch of that `*` line; everything else is ignored.
(`hfresh`: the epoch is not already present — duplicate epochs are outside "well-formed".) -/
theorem block_entries (F : Factors) (m : Meta) (ef : List (Option String)) (recP : Layout) (acc : List Entry)
    (l1 : Str) (rest : List Str) (e : Epoch)
    (hstar : l1.take 1 = ['*']) (he : parseDate ef (strip l1) = some e)
    (hfresh : acc.any (·.epoch = e) = false)
    (hok : ∀ l ∈ rest, l.take 1 = ['P'] → (parsePosition F m e (sliceAll recP l)).isSome = true) :
    parseBlock F m ef recP acc (l1 :: rest) = some (acc ++ entriesOf F m recP e rest) ∧
    ∀ en ∈ entriesOf F m recP e rest, en.epoch = e := by
  constructor
  · unfold parseBlock
    simp only [hstar, if_true, he, Option.map_some]
    cases rest with
    | nil => simp [entriesOf]
    | cons l2 more =>
      -- the epoch is new, so the block's second line is treated like every later one
      have h2 : stepLine F m recP (some e) true acc l2 = stepLine F m recP (some e) false acc l2 := by
        simp [stepLine, hfresh]
      rw [← fold_stepLine F m recP e (l2 :: more) acc hok, List.foldlM_cons, ← h2]
      rfl
  · intro en hen
    simp only [entriesOf, List.mem_filterMap] at hen
    obtain ⟨l, _, hl⟩ := hen
    by_cases hp : l.take 1 = ['P']
    · simp only [hp, if_true] at hl
      -- `parsePosition` copies the epoch it is given
      unfold parsePosition at hl
      obtain ⟨t, _, ht⟩ := Option.map_eq_some_iff.mp hl
      rw [← ht]
    · simp [hp] at hl

/-! ## 4. Header -/

/-- **first occurrence wins** for `%c` (the continuation line's file type is `cc`) and for `%f` (the
base is already known) -/
theorem header_first_wins :
    let lines := ["%c M  cc GPS ccc cccc cccc cccc cccc ccccc ccccc ccccc ccccc",
                  "%c cc cc ccc ccc cccc cccc cccc cccc ccccc ccccc ccccc ccccc",
                  "%f  1.2500000  1.025000000  0.00000000000  0.000000000000000",
                  "%f  0.0000000  0.000000000  0.00000000000  0.000000000000000"].map String.toList
    lines.foldlM (headerLine headerDefs) [] =
      some [("file_type", .str ['M']), ("time_sys", .str "GPS".toList), ("base_posvel", .num 1.25),
            ("base_clkrate", .num 1.025)] := by
  -- the kernel reads a string literal as `String.ofList [...]`; without these steps it decodes the literals' bytes
  simp only [List.map_cons, List.map_nil]
  repeat rw [String.toList_ofList]
  decide +kernel

/-- a `#c`/`#d`, `##`, `%c` line delivers each field as the stripped text of its
standard columns — whatever clean texts are printed there -/
theorem header_fields (d : HeaderDef) (hd : d ∈ headerDefs) (cells : List (Align × Str))
    (hf : Fits d.fields cells = true) :
    (sliceAll d.fields (renderA d.fields cells)).map (·.2) = cells.map (·.2) := by
  have hs : Sorted d.fields = true := by
    have := layouts_sorted.2.2
    rw [List.all_eq_true] at this
    exact this d hd
  exact sliceAll_renderA d.fields cells hs hf

/-! ## 5. Dataset epoch -/

/-- the epoch `as_dataset` builds (whole seconds + the 7-digit fraction as a
fraction of a second) is exactly the file's epoch — in particular within 10⁻⁷ s -/
theorem dataset_epoch (e : Epoch) : datasetSeconds e = fileSeconds e := by
  unfold datasetSeconds fileSeconds
  have h : e.sec7 = 10000000 * (e.sec7 / 10000000) + e.sec7 % 10000000 := by omega
  have hq : ((e.sec7 : Int) : Rat) = (10000000 : Rat) * ((e.sec7 / 10000000 : Int) : Rat) + ((e.sec7 % 10000000 : Int) : Rat) := by
    conv => lhs; rw [h]
    simp [Rat.intCast_add, Rat.intCast_mul]
  simp only [Rat.intCast_add]
  rw [hq]
  grind

/-! ## 6. Whole files: `parseFile (render F) = F` -/

section File
open Midgard.Spec.Sp3File Midgard.Spec.NumText

theorem sigma_codeText (base unit : Rat) (c : Option Nat) :
    sigmaOf base unit (codeText c) = some (c.map fun k => base ^ k * unit) := by
  cases c with
  | none => rfl
  | some k => exact sigma_code base unit _ k (natDigits_ne_nil' k) (parseFloat_natDigits k)

/-- **a rendered position record parses to the entry the property names** (`pos_record`) — for every record whose values
fit their columns, with or without the accuracy/flag columns, padded to 80 columns or not -/
theorem pos_line (F : Factors) (h : Header) (hv : h.version = 'c' ∨ h.version = 'd') (e : Epoch) (r : PosRec)
    (hr : r.wf = true) :
    parsePosition F (expectedMeta h) e (sliceAll Midgard.Spec.Sp3.recP (rstrip (posLine r))) =
      some (Midgard.Spec.Sp3File.expectedEntry F h e r) := by
  rw [pos_fields r hr, ← meta4_eq]
  obtain ⟨mv, mp, mc⟩ := meta4_lookup h
  have hva : [h.version] ≠ ['a'] := by rcases hv with e | e <;> rw [e] <;> decide
  obtain ⟨gs, gx, gy, gz, gc, g1, g2, g3, g4⟩ := pos_gets r
  rw [pos_record F (meta4 h) e _ [h.version] (basePosVal h) (baseClkVal h) (decVal 6 r.x) (decVal 6 r.y) (decVal 6 r.z)
    (decVal 6 r.clk) [(r.acc.getD noAcc).sx, (r.acc.getD noAcc).sy, (r.acc.getD noAcc).sz] (r.acc.getD noAcc).sclk
    (hv := mv) (hva := hva) (hbp := mp) (hbc := mc)
    (hx := by rw [gx, parseFloat_fmtDec]) (hy := by rw [gy, parseFloat_fmtDec]) (hz := by rw [gz, parseFloat_fmtDec])
    (hc := by rw [gc, parseFloat_fmtDec])
    (hs := by simp only [List.map_cons, List.map_nil, g1, g2, g3, sigma_codeText])
    (hsc := by rw [g4, sigma_codeText]) (hlen := rfl), gs]
  rfl

/-- the epoch-line field list of the standard (what `cols_eq_spec` says the parser's list is) -/
def specEpochFields : List (Option String) :=
  [Option.none, some "year", some "month", some "day", some "hour", some "minute", some "second"]

theorem filterMap_inert (F : Factors) (m : Meta) (L : Layout) (e : Epoch) (tl : List Str) (h : ∀ l ∈ tl, Inert l) :
    entriesOf F m L e tl = [] := by
  unfold entriesOf
  rw [List.filterMap_eq_nil_iff]
  intro l hl
  simp [(h l hl).1]

/-- the entries a block's record lines contribute: one per position record, none for V / EP / EV lines, blank
lines or for a trailer of inert lines -/
theorem entriesOf_body (F : Factors) (h : Header) (hv : h.version = 'c' ∨ h.version = 'd') (e : Epoch)
    (recs : List PosRec) (hrecs : ∀ r ∈ recs, r.wf = true) (tl : List Str) (htl : ∀ l ∈ tl, Inert l) :
    entriesOf F (expectedMeta h) Midgard.Spec.Sp3.recP e ((recs.flatMap recLines).map rstrip ++ tl) =
      recs.map (Midgard.Spec.Sp3File.expectedEntry F h e) := by
  induction recs with
  | nil => simpa using filterMap_inert F _ _ e tl htl
  | cons r rs ih =>
    have ih' := ih (fun r' hr' => hrecs r' (by simp [hr']))
    have hex : entriesOf F (expectedMeta h) Midgard.Spec.Sp3.recP e ((r.extras.map extraLine).map rstrip) = [] := by
      apply filterMap_inert
      intro l hl
      simp only [List.map_map, List.mem_map, Function.comp] at hl
      obtain ⟨x, hx, rfl⟩ := hl
      exact inert_extra x (extras_ok r (hrecs r (by simp)) x hx)
    unfold entriesOf at ih' hex ⊢
    simp only [List.flatMap_cons, recLines, List.map_append, List.map_cons, List.cons_append, List.append_assoc,
      List.filterMap_cons, head_posLine, if_true, pos_line F h hv e r (hrecs r (by simp)), List.filterMap_append, hex,
      List.nil_append, List.map_cons, List.cons.injEq, true_and]
    simpa [List.filterMap_append] using ih'

/-- **one epoch block of a rendered file**: `* epoch` line, its position records with their V / EP / EV
and blank lines, possibly the closing `EOF` — exactly one entry per position record, in order, each with the
block's epoch and the values the property names -/
theorem block_ok (F : Factors) (h : Header) (hv : h.version = 'c' ∨ h.version = 'd') (acc : List Entry)
    (b : EpochBlock) (hb : ∀ r ∈ b.recs, r.wf = true) (tl : List Str) (htl : ∀ l ∈ tl, Inert l)
    (hfresh : acc.any (·.epoch = b.epoch) = false) :
    parseBlock F (expectedMeta h) specEpochFields Midgard.Spec.Sp3.recP acc ((blockLines b).map rstrip ++ tl) =
      some (acc ++ b.recs.map (Midgard.Spec.Sp3File.expectedEntry F h b.epoch)) := by
  have hform : (blockLines b).map rstrip ++ tl =
      rstrip (epochLine b.epoch) :: ((b.recs.flatMap recLines).map rstrip ++ tl) := by
    rw [blockLines_map_rstrip, List.cons_append]
  rw [hform]
  have := (block_entries F (expectedMeta h) specEpochFields Midgard.Spec.Sp3.recP acc (rstrip (epochLine b.epoch))
    ((b.recs.flatMap recLines).map rstrip ++ tl) b.epoch (star_epochLine b.epoch) (parseDate_epochLine b.epoch) hfresh
    (by
      intro l hl hp
      rcases body_lines _ _ l hl with ⟨r, hr, rfl⟩ | ⟨r, hr, x, hx, rfl⟩ | h'
      · rw [pos_line F h hv b.epoch r (hb r hr)]; rfl
      · exact absurd hp (inert_extra x (extras_ok r (hb r hr) x hx)).1
      · exact absurd hp (htl l h').1)).1
  rw [this, entriesOf_body F h hv b.epoch b.recs hb tl htl]

/-- all epoch blocks of a rendered file, the `EOF` line attached to the last: the entries of the blocks, block after block -/
theorem blocks_fold (F : Factors) (h : Header) (hv : h.version = 'c' ∨ h.version = 'd') (eps : List EpochBlock) :
    ∀ (acc : List Entry), eps ≠ [] → (∀ b ∈ eps, ∀ r ∈ b.recs, r.wf = true) → distinct (eps.map (·.epoch)) = true →
      (∀ b ∈ eps, acc.any (·.epoch = b.epoch) = false) →
      (attachLast (eps.map fun b => (blockLines b).map rstrip) [rstrip eofLine]).foldlM
          (parseBlock F (expectedMeta h) specEpochFields Midgard.Spec.Sp3.recP) acc =
        some (acc ++ eps.flatMap fun b => b.recs.map (Midgard.Spec.Sp3File.expectedEntry F h b.epoch)) := by
  induction eps with
  | nil => intro acc hne; exact absurd rfl hne
  | cons b rest ih =>
    intro acc _ hwf hd hfresh
    have heof : ∀ l ∈ [rstrip eofLine], Inert l := by
      intro l hl
      rw [List.mem_singleton.mp hl]
      exact inert_eof
    -- the last block carries the `EOF` line; an earlier one leaves entries among which the later epochs are still absent
    cases rest with
    | nil =>
      simp only [List.map_cons, List.map_nil, attachLast, List.foldlM_cons, List.foldlM_nil, List.flatMap_cons,
        List.flatMap_nil, List.append_nil]
      rw [block_ok F h hv acc b (hwf b (by simp)) _ heof (hfresh b (by simp))]
      rfl
    | cons b' rest' =>
      rw [List.map_cons, distinct_cons] at hd
      have hb0 := block_ok F h hv acc b (hwf b (by simp)) [] (by simp) (hfresh b (by simp))
      simp only [List.append_nil] at hb0
      have ih' := ih (acc ++ b.recs.map (Midgard.Spec.Sp3File.expectedEntry F h b.epoch)) (by simp)
        (fun x hx => hwf x (by simp [hx])) hd.2
        (by
          intro x hx
          rw [List.any_append, hfresh x (by simp [hx])]
          have hne : b.epoch ≠ x.epoch := fun e0 => hd.1 (e0 ▸ List.mem_map_of_mem hx)
          simpa using epoch_expected F h b.epoch b.recs x.epoch hne)
      simp only [List.map_cons, attachLast, List.foldlM_cons, hb0, Option.bind_eq_bind, Option.bind_some] at ih' ⊢
      rw [ih']
      simp [List.append_assoc]

/-- the file theorem at the standard's tables, for whatever unit factors: the parser's own tables and factors enter
`file_roundtrip` through `cols_eq_spec` only -/
theorem file_roundtrip_spec (F : Factors) (f : File) (hwf : f.wf = true) :
    parseFile F specDefs specEpochFields Midgard.Spec.Sp3.recP (Midgard.Spec.Sp3File.render f) =
      some ⟨expectedMeta f.hdr, expectedEntries F f⟩ := by
  obtain ⟨hh, hrecs, hdist⟩ := (File.wf_iff f).mp hwf
  have hv : f.hdr.version = 'c' ∨ f.hdr.version = 'd' := by
    have := hh
    simp only [Header.wf, Bool.and_eq_true, Bool.or_eq_true, beq_iff_eq] at this
    exact this.1.1.1.1.1.1.1.1.1
  unfold parseFile Midgard.Spec.Sp3File.render
  rw [Printable.splitOn_joinLines_ok _ (okText_fileLines f hwf)]
  simp only [List.reverse_append, List.reverse_cons, List.reverse_nil, List.nil_append, List.cons_append,
    List.reverse_reverse]
  have hlines : (fileLines f).map rstrip =
      (headerLines f.hdr).map rstrip ++ ((f.epochs.map fun b => (blockLines b).map rstrip)).flatten ++ [rstrip eofLine] := by
    simp [fileLines, List.map_append, List.map_flatten, List.map_map, Function.comp_def]
  -- header lines, then groups each opened by a `*` line and free of further ones: `splitBlocksAux` cuts exactly there
  have hsplit := splitBlocks_file ((headerLines f.hdr).map rstrip) (f.epochs.map fun b => (blockLines b).map rstrip)
    [rstrip eofLine] (by simp [headerLines]) (headerLines_not_star f.hdr)
    (by intro x hx; rw [List.mem_singleton.mp hx]; exact inert_eof.2)
    (by
      intro bl hbl
      simp only [List.mem_map] at hbl
      obtain ⟨b, hb, rfl⟩ := hbl
      refine ⟨rstrip (epochLine b.epoch), (b.recs.flatMap recLines).map rstrip, blockLines_map_rstrip b, star_epochLine _, ?_⟩
      intro x hx
      rcases body_lines b.recs [] x (by simpa using hx) with ⟨r, _, rfl⟩ | ⟨r, hr, y, hy, rfl⟩ | h'
      · exact not_star_posLine r
      · exact (inert_extra y (extras_ok r (hrecs b hb r hr) y hy)).2
      · simp at h')
  rw [hlines, hsplit]
  cases hep : f.epochs with
  | nil =>
    simp only [List.map_nil, attachLast]
    have := header_fold f.hdr hh [rstrip eofLine] (by
      intro l hl m
      rw [List.mem_singleton.mp hl]
      exact headerLine_eof m)
    simp [this, expectedEntries, hep]
  | cons b rest =>
    have hm := header_fold f.hdr hh [] (by simp)
    have hb := blocks_fold F f.hdr hv (b :: rest) [] (by simp)
      (fun x hx r hr => hrecs x (by rw [hep]; exact hx) r hr) (by rw [← hep]; exact hdist) (by simp)
    rw [List.append_nil] at hm
    simp only [List.map_cons, attachLast, hm, Option.bind_eq_bind, Option.bind_some] at hb ⊢
    rw [hb]
    simp [expectedEntries, hep]

/-- for every abstract SP3-c/d file `f` — header fields, any number of `+`/`++`/`%i`/comment
lines, epochs each with its position records (with or without accuracy codes and flags, sentinel values
included, padded or not) followed by V / EP / EV lines and blank lines (any number of blanks, also none; so
also directly before `EOF`) — whose values fit their columns (`f.wf`), parsing
the rendered text gives exactly the header fields of `f` and one entry per position record in file order,
each with the epoch of its enclosing epoch line and the values `pos_record` names. -/
theorem file_roundtrip (f : File) (hwf : f.wf = true) :
    parseFile factors headerDefs epochFields recP (Midgard.Spec.Sp3File.render f) =
      some ⟨expectedMeta f.hdr, expectedEntries factors f⟩ := by
  obtain ⟨hrecP, _, hdefs, hef⟩ := cols_eq_spec
  rw [hrecP, show headerDefs = specDefs from hdefs, show epochFields = specEpochFields from hef]
  exact file_roundtrip_spec factors f hwf

/-- the lengths of the seven columns of `parser.data` -/
def columnLengths (es : List Entry) : List Nat :=
  [(es.map (·.epoch)).length, (es.map (·.sat)).length, (es.map (·.pos)).length, (es.map (·.clk)).length,
   (es.map (·.posSigma)).length, (es.map (·.clkSigma)).length, (es.map (·.system)).length]

/-- the seven columns delivered for a well-formed rendered file
(time, satellite, sat_pos, sat_clock_bias, sat_pos_sigma, sat_clock_bias_sigma, system) all have as many
rows as the file has position records; positions and position sigmas have three components in every row -/
theorem all_columns_equal_length (f : File) (hwf : f.wf = true) :
    ∃ p, parseFile factors headerDefs epochFields recP (Midgard.Spec.Sp3File.render f) = some p ∧
      (∀ n ∈ columnLengths p.entries, n = (f.epochs.map (·.recs.length)).sum) ∧
      ∀ en ∈ p.entries, en.pos.length = 3 ∧ en.posSigma.length = 3 := by
  refine ⟨_, file_roundtrip f hwf, ?_, ?_⟩
  · intro n hn
    simp only [columnLengths, List.length_map, List.mem_cons, List.not_mem_nil, or_false, or_self] at hn
    rw [hn, length_expectedEntries]
  · intro en hen
    simp only [expectedEntries, List.mem_flatMap, List.mem_map] at hen
    obtain ⟨b, _, r, _, rfl⟩ := hen
    simp [Midgard.Spec.Sp3File.expectedEntry]

/-- a 2-epoch × 3-satellite SP3-d file, epochs 0.5 s apart: a position sentinel (`0.000000`), a clock
sentinel (`999999.999999`), one record without accuracy columns, one with blank codes and flags, a V and
an EP line, the second record padded to 80 columns, an empty line and a line of three blanks after the last
record of each epoch (the second one directly before `EOF`) -/
def demoFile : File :=
  let a1 : Acc := ⟨some 7, some 6, some 4, some 137, [[], [], [], []]⟩
  let a2 : Acc := ⟨some 10, Option.none, some 8, Option.none, [['E'], ['P'], [], ['P']]⟩
  let recs (k : Int) : List PosRec := [
    ⟨"G01".toList, 10138887745 + k, -20456557725, -13455830128, 13095853, some a1, false, [(.vel, "G01  1234.5".toList)]⟩,
    ⟨"E02".toList, 0, 13338131173, -6326904893, 999999999999, some a2, true, [(.ep, "E02  55 55 55 222".toList)]⟩,
    ⟨"C03".toList, 1061483783, -15622426751, -21452532447, -30693182, Option.none, false, [(.blank, []), (.blank, "   ".toList)]⟩]
  { hdr := { version := 'd',
             line1 := ["P", "2016", "3", "1", "0", "0", "0.00000000", "2", "ORBIT", "IGb08", "HLM", "IGS"].map String.toList,
             line2 := ["1886", "172800.00000000", "0.50000000", "57448", "0.0000000000000"].map String.toList,
             satLines := [(.plus, "    3   G01E02C03  0  0".toList), (.plusplus, "         7  6  4".toList)],
             fileType := ['M'], timeSys := "GPS".toList, basePos := 12500000, baseClk := 1025000000,
             tailLines := [(.pci, "    0    0".toList), (.comment, " demo".toList)] },
    epochs := [⟨⟨2016, 3, 1, 0, 0, 0⟩, recs 0⟩, ⟨⟨2016, 3, 1, 0, 0, 5000000⟩, recs 1000⟩] }

theorem demoFile_wf : demoFile.wf = true := by
  unfold demoFile
  simp only [List.map_cons, List.map_nil]
  repeat rw [String.toList_ofList]
  decide +kernel

/-- the hypotheses of `file_roundtrip` are satisfiable -/
example : demoFile.wf = true := demoFile_wf

/-- the rendered demo file has two empty lines and two lines of three blanks -/
example : (fileLines demoFile).count [] = 2 ∧ (fileLines demoFile).count "   ".toList = 2 ∧
    (fileLines demoFile).getLast? = some eofLine ∧ ((fileLines demoFile).reverse.drop 1).head? = some "   ".toList := by
  unfold fileLines headerLines percentCTail percentCCont percentFTail percentFCont
  repeat rw [String.toList_ofList]
  decide +kernel

example : ((parseFile factors headerDefs epochFields recP (Midgard.Spec.Sp3File.render demoFile)).map
      fun p => p.entries.map (·.epoch.sec7)) = some [0, 0, 0, 5000000, 5000000, 5000000] := by
  rw [file_roundtrip demoFile demoFile_wf]
  decide +kernel

example : ((parseFile factors headerDefs epochFields recP (Midgard.Spec.Sp3File.render demoFile)).map
      fun p => (p.entries.map (·.pos)).take 2) =
    some [[some 10138887.745, some (-20456557.725), some (-13455830.128)], [Option.none, some 13338131.173, some (-6326904.893)]] := by
  rw [file_roundtrip demoFile demoFile_wf]
  decide +kernel

end File

/-! ## 7. Empty lines -/

/-- an empty line (what is left of a whitespace-only line after `rstrip`) is no record: it changes nothing -/
theorem stepLine_blank (F : Factors) (m : Meta) (recP : Layout) (e? : Option Epoch) (second : Bool) (acc : List Entry) :
    stepLine F m recP e? second acc [] = some acc := by
  simp [stepLine]

/-- **empty lines are skipped**: the lines of an epoch block after its second line can be interleaved with any
number of empty lines (also at the end of the file) without changing what is read -/
theorem blank_lines_skipped (F : Factors) (m : Meta) (recP : Layout) (e? : Option Epoch) (ls : List Str) :
    ∀ acc : List Entry, ls.foldlM (stepLine F m recP e? false) acc =
      (ls.filter fun l => !l.isEmpty).foldlM (stepLine F m recP e? false) acc := by
  induction ls with
  | nil => intro acc; rfl
  | cons l ls ih =>
    intro acc
    cases l with
    | nil =>
      simp only [List.foldlM_cons, stepLine_blank, Option.bind_eq_bind, Option.bind_some, List.filter_cons, List.isEmpty_nil,
        Bool.not_true, Bool.false_eq_true, if_false]
      exact ih acc
    | cons c cs =>
      simp only [List.foldlM_cons, List.filter_cons, List.isEmpty_cons, Bool.not_false, if_true, Option.bind_eq_bind]
      cases stepLine F m recP e? false acc (c :: cs) with
      | none => rfl
      | some a => simp only [Option.bind_some]; exact ih a

/-! ## 8. Text mode: the bytes on disk -/

/-- text mode (universal newlines) changes nothing in a text without carriage returns -/
theorem universalNewlines_id (t : Str) (h : ∀ c ∈ t, c ≠ '\r') : universalNewlines t = t := by
  unfold universalNewlines
  induction t with
  | nil => rfl
  | cons c rest ih =>
    have hc : c ≠ '\r' := h c (by simp)
    have ih' := ih (fun d hd => h d (by simp [hd]))
    by_cases hn : c = '\n'
    · subst hn
      simp only [universalNewlinesAux, hc, if_false, if_true, Bool.false_eq_true, ih']
    · simp only [universalNewlinesAux, hc, hn, if_false, ih']

/-- on a file without carriage returns the text-level entry point of the adversarial files is `parseFile` itself,
so `file_roundtrip` speaks about the bytes on disk -/
theorem parseFileText_eq (F : Factors) (defs : List HeaderDef) (epochFields : List (Option String)) (recP : Layout)
    (t : Str) (h : ∀ c ∈ t, c ≠ '\r') : parseFileText F defs epochFields recP t = parseFile F defs epochFields recP t := by
  unfold parseFileText
  rw [universalNewlines_id t h]

open Midgard.Spec.Sp3File Midgard.Spec.NumText

/-- `file_roundtrip` for the text-level entry point (universal newlines, then
`parseFile`): a rendered file contains no carriage return (`render_noCR`). -/
theorem file_roundtrip_text (f : File) (hwf : f.wf = true) :
    parseFileText factors headerDefs epochFields recP (Midgard.Spec.Sp3File.render f) =
      some ⟨expectedMeta f.hdr, expectedEntries factors f⟩ := by
  rw [parseFileText_eq _ _ _ _ _ (render_noCR f hwf)]
  exact file_roundtrip f hwf

/-- the hypothesis is satisfiable (`demoFile_wf`) and the text entry point delivers the file -/
example : parseFileText factors headerDefs epochFields recP (Midgard.Spec.Sp3File.render demoFile) =
    some ⟨expectedMeta demoFile.hdr, expectedEntries factors demoFile⟩ :=
  file_roundtrip_text demoFile demoFile_wf

/-! ## 9. Velocity and correlation records are not delivered -/

/-- a position record without the V / EP / EV (and blank) lines that follow it -/
def stripRec (r : PosRec) : PosRec := { r with extras := [] }

/-- the file with every V / EP / EV line (and every blank line after a record) deleted -/
def stripExtras (F : File) : File :=
  { F with epochs := F.epochs.map fun b => { b with recs := b.recs.map stripRec } }

theorem stripRec_wf (r : PosRec) (h : r.wf = true) : (stripRec r).wf = true := by
  simp only [PosRec.wf, Bool.and_eq_true] at h ⊢
  exact ⟨h.1, by simp [stripRec]⟩

theorem stripExtras_wf (F : File) (hwf : F.wf = true) : (stripExtras F).wf = true := by
  obtain ⟨hh, hrecs, hd⟩ := (File.wf_iff F).mp hwf
  refine (File.wf_iff _).mpr ⟨hh, ?_, ?_⟩
  · intro b hb r hr
    simp only [stripExtras, List.mem_map] at hb
    obtain ⟨b0, hb0, rfl⟩ := hb
    simp only [List.mem_map] at hr
    obtain ⟨r0, hr0, rfl⟩ := hr
    exact stripRec_wf r0 (hrecs b0 hb0 r0 hr0)
  · simpa [stripExtras, List.map_map, Function.comp_def] using hd

theorem expectedMeta_stripExtras (F : File) : expectedMeta (stripExtras F).hdr = expectedMeta F.hdr := rfl

theorem expectedEntries_stripExtras (Fa : Factors) (F : File) :
    expectedEntries Fa (stripExtras F) = expectedEntries Fa F := by
  simp only [expectedEntries, stripExtras, List.flatMap_map, List.map_map]
  rfl

/-- deleting every velocity (`V`) and correlation (`EP`, `EV`) record from a
well-formed file — wherever it stands after a position record — does not change what the parser returns:
these records are not delivered, and they do not disturb the position records around them -/
theorem extras_invisible (F : File) (hwf : F.wf = true) :
    parseFile factors headerDefs epochFields recP (render F) =
      parseFile factors headerDefs epochFields recP (render (stripExtras F)) := by
  rw [file_roundtrip F hwf, file_roundtrip _ (stripExtras_wf F hwf), expectedEntries_stripExtras,
    expectedMeta_stripExtras]

/-- a position + velocity file (`pv_flag` V: every P record followed by its V record, possibly
with EP / EV records) yields exactly `expectedEntries factors F`: one entry per P record with epoch, position,
clock and the four sigmas.  `Entry` has no velocity or clock-rate component and `expectedEntries` does not look at
`PosRec.extras`: V, EP and EV records are **not delivered** by the parser (`_parse_velocity` returns at once, the
label `E` has no table entry) — the number of entries is the number of P records. -/
theorem pv_file_delivers (F : File) (hwf : F.wf = true) :
    ∃ p, parseFile factors headerDefs epochFields recP (render F) = some p ∧
      p.entries = expectedEntries factors (stripExtras F) ∧
      p.entries.length = (F.epochs.map (·.recs.length)).sum := by
  refine ⟨_, file_roundtrip F hwf, (expectedEntries_stripExtras factors F).symm, length_expectedEntries factors F⟩

/-- `demoFile` has a V line, an EP line and two blank lines per epoch; deleting them leaves a well-formed file with the same entries -/
example : (demoFile.epochs.flatMap fun b => b.recs.flatMap (·.extras)).length = 8 ∧
    ((stripExtras demoFile).epochs.flatMap fun b => b.recs.flatMap (·.extras)).length = 0 ∧
    (stripExtras demoFile).wf = true :=
  ⟨by decide +kernel, by decide +kernel, stripExtras_wf demoFile demoFile_wf⟩

example : parseFile factors headerDefs epochFields recP (render demoFile) =
    parseFile factors headerDefs epochFields recP (render (stripExtras demoFile)) :=
  extras_invisible demoFile demoFile_wf

end Midgard.Props.C13

#print axioms Midgard.Props.C13.layouts_sorted
#print axioms Midgard.Props.C13.cols_eq_spec
#print axioms Midgard.Props.C13.unit_factors
#print axioms Midgard.Props.C13.sigma_blank
#print axioms Midgard.Props.C13.sigma_code
#print axioms Midgard.Props.C13.pos_record
#print axioms Midgard.Props.C13.fold_stepLine
#print axioms Midgard.Props.C13.block_entries
#print axioms Midgard.Props.C13.header_first_wins
#print axioms Midgard.Props.C13.header_fields
#print axioms Midgard.Props.C13.dataset_epoch
#print axioms Midgard.Props.C13.sigma_codeText
#print axioms Midgard.Props.C13.pos_line
#print axioms Midgard.Props.C13.filterMap_inert
#print axioms Midgard.Props.C13.entriesOf_body
#print axioms Midgard.Props.C13.block_ok
#print axioms Midgard.Props.C13.blocks_fold
#print axioms Midgard.Props.C13.file_roundtrip_spec
#print axioms Midgard.Props.C13.file_roundtrip
#print axioms Midgard.Props.C13.all_columns_equal_length
#print axioms Midgard.Props.C13.demoFile_wf
#print axioms Midgard.Props.C13.universalNewlines_id
#print axioms Midgard.Props.C13.parseFileText_eq
#print axioms Midgard.Props.C13.file_roundtrip_text
#print axioms Midgard.Props.C13.stepLine_blank
#print axioms Midgard.Props.C13.blank_lines_skipped
#print axioms Midgard.Props.C13.stripRec_wf
#print axioms Midgard.Props.C13.stripExtras_wf
#print axioms Midgard.Props.C13.expectedMeta_stripExtras
#print axioms Midgard.Props.C13.expectedEntries_stripExtras
#print axioms Midgard.Props.C13.extras_invisible
#print axioms Midgard.Props.C13.pv_file_delivers
