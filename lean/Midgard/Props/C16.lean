/-
C16 — Parsing is a pure function of file and arguments; every listed plug-in resolves.

For *every* history of operations over any number of parser instances, what the owner of one instance observes is what
it would observe if the events of all other instances had never happened (`noninterference`), provided the operations are
`NonInterfering`: no file writes, cells that results depend on are never written, an invariant of the process-wide state
is kept.  Each mechanism behind a process-wide cell the library has is shown harmless on a world of its own — a memo
table and the plug-in registry are one-cell worlds that are `NonInterfering` with no relevant cell
(`memo_world_noninterfering`, `registry_world_noninterfering`), the `parser_cache` list is irrelevant for headers whose
first line names its system and leaks otherwise (`parser_cache_leak_witness`), which is why the decorator keeps it on
the instance.  `framed_noninterfering` derives `NonInterfering` from per-operation read and write sets (`Framed`).  The
obligations over the tables regenerated from the source say that every written process-wide cell is of one of the
covered mechanisms (memo, registry, or a trusted sink) and that every listed plug-in resolves.

Trusted, not proved: that the `ast` extraction finds every process-wide cell, that each real operation is `NonInterfering`
as its mechanism's one-cell world is, and that the mechanisms compose (no theorem instantiates `noninterference` over the
regenerated table) — validated on every run by the history exploration of harness/c16.py against parses in fresh interpreters.
-/
import Midgard.Proofs.Purity

namespace Midgard.Props.C16
open Midgard.Purity Midgard.Generated.ParserEffects

section generic
variable {Id Loc Cell Val Path Bytes Op Obs : Type} [DecidableEq Id]

/-- **Non-interference.**  For every history `h` (any number of instances, any interleaving of
constructions, parses and mutations of results) and every instance `i`: what the owner of `i`
observes — every value returned to it, in order — is exactly what it observes when only its own
events are run from the initial world. -/
theorem noninterference {sem : Sem Loc Cell Val Path Bytes Op Obs} {rel : Cell → Prop}
    {Good : (Cell → Val) → Prop} (H : NonInterfering sem rel Good)
    (w : World Id Loc Cell Val Path Bytes) (hw : Good w.shared) (h : List (Event Id Op)) (i : Id) :
    obsOf i (run sem w h).2 = obsOf i (run sem w (purge i h)).2 :=
  (unwinding H (· = i) h w w ⟨rfl, fun _ _ => rfl, fun _ _ => rfl, hw, hw⟩).1 i rfl

/-- … and the instance ends in the same state (its `data`/`meta` are what a lone parse leaves). -/
theorem instance_state_independent {sem : Sem Loc Cell Val Path Bytes Op Obs} {rel : Cell → Prop}
    {Good : (Cell → Val) → Prop} (H : NonInterfering sem rel Good)
    (w : World Id Loc Cell Val Path Bytes) (hw : Good w.shared) (h : List (Event Id Op)) (i : Id) :
    (run sem w h).1.inst i = (run sem w (purge i h)).1.inst i :=
  (unwinding H (· = i) h w w ⟨rfl, fun _ _ => rfl, fun _ _ => rfl, hw, hw⟩).2.2.1 i rfl

/-- The shape the harness checks: if the only events of instance `i` in a history are
`construct` then `parse`, the parse returns what it returns in a fresh world (a fresh interpreter)
where nothing else ever ran. -/
theorem fresh_parse {sem : Sem Loc Cell Val Path Bytes Op Obs} {rel : Cell → Prop}
    {Good : (Cell → Val) → Prop} (H : NonInterfering sem rel Good)
    (w : World Id Loc Cell Val Path Bytes) (hw : Good w.shared) (h : List (Event Id Op)) (i : Id)
    (construct parse : Op) (hi : purge i h = [⟨i, construct⟩, ⟨i, parse⟩]) :
    obsOf i (run sem w h).2 = obsOf i (run sem w [⟨i, construct⟩, ⟨i, parse⟩]).2 := by
  rw [noninterference H w hw h i, hi]

/-- Parsing never modifies a file: after any history the file system is the initial one. -/
theorem files_unchanged {sem : Sem Loc Cell Val Path Bytes Op Obs} {rel : Cell → Prop}
    {Good : (Cell → Val) → Prop} (H : NonInterfering sem rel Good) :
    ∀ (h : List (Event Id Op)) (w : World Id Loc Cell Val Path Bytes), (run sem w h).1.files = w.files := by
  intro h
  induction h with
  | nil => intro w; rfl
  | cons e h ih =>
    intro w
    simp only [run]
    rw [ih]; simp [step, H.files_kept]

/-- **From frames to non-interference.**  If every operation stays inside its frame (`Framed`) and no cell that
some operation reads is written by any operation, the operations are `NonInterfering` (relevant cells = the cells
read; no invariant needed).  A cell that is written but never read ("reset before use") may be written freely. -/
theorem framed_noninterfering {sem : Sem Loc Cell Val Path Bytes Op Obs} {reads writes : Op → Cell → Prop}
    (F : Framed sem reads writes) (hdisj : ∀ op op' c, reads op c → ¬ writes op' c) :
    NonInterfering sem (fun c => ∃ op, reads op c) (fun _ => True) where
  files_kept := F.files_kept
  good_step := fun _ _ _ _ _ => trivial
  rel_kept := by
    intro op fs l s c _ hc
    obtain ⟨op', hr⟩ := hc
    exact F.writes_only op fs l s c (hdisj op' op c hr)
  reads_sound := by
    intro op fs l s s' _ _ h
    exact F.reads_only op fs l s s' (fun c hc => h c ⟨op, hc⟩)

/-- … hence, for every history over any number of instances, every instance's owner sees what it sees alone. -/
theorem frame_noninterference {sem : Sem Loc Cell Val Path Bytes Op Obs} {reads writes : Op → Cell → Prop}
    (F : Framed sem reads writes) (hdisj : ∀ op op' c, reads op c → ¬ writes op' c)
    (w : World Id Loc Cell Val Path Bytes) (h : List (Event Id Op)) (i : Id) :
    obsOf i (run sem w h).2 = obsOf i (run sem w (purge i h)).2 :=
  noninterference (framed_noninterfering F hdisj) w trivial h i

end generic

section memo
variable {α β : Type} [DecidableEq α]

/-- A memoised deterministic function returns the function's value whatever earlier calls (of any
instance) left in the table, and leaves the table sound: `lru_cache`s and `_CONVERSION_HOPS` cannot
be noticed. -/
theorem memo_transparent (f : α → β) (cache : List (α × β)) (x : α) (h : CacheSound f cache) :
    (memoCall f cache x).1 = f x ∧ CacheSound f (memoCall f cache x).2 := by
  unfold memoCall
  cases hl : cache.lookup x with
  | none =>
    refine ⟨rfl, ?_⟩
    intro p hp
    simp at hp
    rcases hp with rfl | hp
    · rfl
    · exact h p hp
  | some v =>
    exact ⟨h (x, v) (Lists.lookup_mem hl), h⟩

/-- eviction (a bounded `lru_cache` dropping entries) keeps the table sound -/
theorem memo_evict_sound (f : α → β) (cache cache' : List (α × β)) (h : CacheSound f cache)
    (hs : ∀ p ∈ cache', p ∈ cache) : CacheSound f cache' := fun p hp => h p (hs p hp)

/-- **A memo table is an admissible read-and-written cell.**  The world whose process-wide state is the memo table
of a function of its arguments satisfies `NonInterfering` with *no* relevant cell and the invariant `CacheSound`:
by `noninterference`, whatever other instances called before, a call returns what it returns alone. -/
theorem memo_world_noninterfering {Loc Path Bytes : Type} (f : α → β) :
    NonInterfering (memoSem (Loc := Loc) (Path := Path) (Bytes := Bytes) f) (fun _ => False)
      (fun s => CacheSound f (s ())) :=
  cell_noninterfering (memoCall f) f (CacheSound f) (fun s x h => (memo_transparent f s x h).1)
    (fun s x h => (memo_transparent f s x h).2)

end memo

section registry
variable {N P : Type} [DecidableEq N]

/-- **`plugins.get` is independent of the loading history.**  Whatever plug-ins earlier calls (of
any parser, writer or dataset) loaded, and in whatever order, `get n` returns what the source file
of `n` defines, and leaves the registry sound. -/
theorem registry_get_independent (defn : N → Option P) (closure : N → List N) (reg : List (N × P))
    (n : N) (h : RegSound defn reg) :
    (regGet defn closure reg n).1 = defn n ∧ RegSound defn (regGet defn closure reg n).2 := by
  unfold regGet regLoad
  cases hl : reg.lookup n with
  | some v =>
    simp
    exact ⟨by rw [hl]; exact (h (n, v) (Lists.lookup_mem hl)).symm, h⟩
  | none =>
    simp only [Option.isSome_none, Bool.false_eq_true, if_false]
    exact regImport_spec defn closure reg n h

/-- **`plugins.exists` is a pure question.**  It answers whether the source defines the plug-in and
leaves the registry sound — in particular a name that is not a plug-in leaves no entry behind. -/
theorem registry_exists_sound (defn : N → Option P) (closure : N → List N) (reg : List (N × P))
    (n : N) (h : RegSound defn reg) :
    (regExists defn closure reg n).1 = (defn n).isSome ∧ RegSound defn (regExists defn closure reg n).2 := by
  have := registry_get_independent defn closure reg n h
  exact ⟨by simp [regExists, this.1], this.2⟩

/-- **Every listed name resolves**, after any history of `get`/`load`/`exists` questions (all of
which keep the registry sound): a name `names()` lists — a key of the registry — is found by `get`. -/
theorem registry_listed_resolve (defn : N → Option P) (closure : N → List N) (reg : List (N × P))
    (h : RegSound defn reg) : ∀ k ∈ regKeys reg, (regGet defn closure reg k).1.isSome = true := by
  intro k hk
  simp only [regKeys, List.mem_map] at hk
  obtain ⟨⟨k', v⟩, hmem, rfl⟩ := hk
  rw [(registry_get_independent defn closure reg k' h).1, h (k', v) hmem]
  rfl

/-- **The registry is an admissible read-and-written cell.**  The world whose process-wide state is the plug-in
registry satisfies `NonInterfering` with no relevant cell and the invariant `RegSound`: by `noninterference`,
whatever other parsers, writers or datasets loaded before, `get` returns what it returns alone. -/
theorem registry_world_noninterfering {Loc Path Bytes : Type} (defn : N → Option P) (closure : N → List N) :
    NonInterfering (regSem (Loc := Loc) (Path := Path) (Bytes := Bytes) defn closure) (fun _ => False)
      (fun s => RegSound defn (s ())) :=
  cell_noninterfering (regGet defn closure) defn (RegSound defn)
    (fun s n h => (registry_get_independent defn closure s n h).1)
    (fun s n h => (registry_get_independent defn closure s n h).2)

end registry

/-
Full statement (false of the `shared` mechanism, see `parser_cache_leak_witness`):
  ∀ pre lines, (parseHeader .shared pre lines).1 = (parseHeader .shared [] lines).1
-/
/-- **The shared list is irrelevant for well-formed headers** (mechanism `shared`): whatever earlier
parses of any instance and any file left in the function-level list, a header whose first
`SYS / # / OBS TYPES` line names its system is parsed as with an empty list — every continuation
line resolves to an entry of its own file; and the list only grows by the lines of this file.
For headers that *start* with a continuation line the statement is false (`parser_cache_leak_witness`). -/
theorem parser_cache_irrelevant_partial (pre lines : List ObsLine) (h : wfHeader lines = true) :
    (parseHeader .shared pre lines).1 = (parseHeader .shared [] lines).1 ∧
    (parseHeader .shared pre lines).2 = pre ++ (parseHeader .shared [] lines).2 := by
  have := parseFrom_prefix pre lines [] h
  simpa [parseHeader] using this

/-- The leak of the shared list: a header starting with a continuation line raises in a fresh
interpreter and is silently attributed to the *other file's* system after any other parse. -/
theorem parser_cache_leak_witness :
    (parseHeader .shared [] [⟨[], ["C1C".toList]⟩]).1 = none ∧
    (parseHeader .shared [⟨"G".toList, ["L1C".toList]⟩] [⟨[], ["C1C".toList]⟩]).1
      = some [("G".toList, ["C1C".toList])] := by
  decide +kernel

/-- **The list on the instance** (mechanism `local`, the decorator of midgard): for *every* header, well-formed or not, the
result does not depend on what other parses left behind, and the process-wide list is untouched. -/
theorem parser_cache_local (pre pre' lines : List ObsLine) :
    (parseHeader .local pre lines).1 = (parseHeader .local pre' lines).1 ∧
    (parseHeader .local pre lines).2 = pre := by
  simp [parseHeader]

/-- on well-formed headers the two mechanisms agree: keeping the list on the instance changes no result that does
not depend on the history under `shared` -/
theorem parser_cache_repair_conservative (pre lines : List ObsLine) (h : wfHeader lines = true) :
    (parseHeader .local pre lines).1 = (parseHeader .shared pre lines).1 := by
  rw [(parser_cache_irrelevant_partial pre lines h).1]
  simp [parseHeader]

/-- Every process-wide cell that is written at run time (found by the `ast` scan of the current
source) is of one of the mechanisms of the cover table: a reviewed memo table or an import-time registry (independence
lemmas above), or a sink, which is trusted never to be read back into a result. -/
theorem effects_covered : ∀ e ∈ effects, (coverOf e).isSome = true :=
  cell_table_obligations.1

/-- **Read-before-write at module, class, function or closure level: exactly zero.**  Among the process-wide cells
of the regenerated table, those that are written at run time *and* read, and are neither a reviewed memo table nor
an import-time registry nor a (trusted) sink, number zero: no parse can read in such a cell what an earlier parse
left there. -/
theorem shared_cells_read_before_write_zero : readBeforeWriteCells.length = 0 :=
  cell_table_obligations.2.1

/-- **No shared object is handed out.**  No mutable object of module, class or closure level is returned, bound to
another name, stored in a container or passed to a call that is not a pure consumer (apart from reviewed entries,
of which there are none): a parser's result (`meta`, `data`, `header`) cannot contain an object that other parses
or the module share. -/
theorem no_shared_cell_escapes : unreviewedEscapes.length = 0 := by
  decide +kernel

/-- **Per-object state is fresh per object** (every class of midgard/parsers): every attribute bound or mutated
through `self` is bound in `__init__` of the class or an ancestor, or created by a named method on first use; none
falls back to a class-level mutable object and none is bound to a shared object. -/
theorem instance_cells_fresh : staleInstanceCells.length = 0 ∧ instanceCells ≠ [] := by
  decide +kernel

/-- the memo rows are function-level cells, every one was reviewed, and no memoised body looks at the file system,
the clock or the environment -/
theorem memo_rows_reviewed :
    ∀ r ∈ cells, r.kind = .lrucache → (r.level = .function ∧ reviewedMemo.contains r.id = true ∧ r.escapeSites = 0) :=
  cell_table_obligations.2.2

/-- No statement in `midgard/parsers` can modify an existing input file. -/
theorem no_file_write_sites : fileWriteSites = [] := by
  decide +kernel

/-- Every listed parser name loads and is a parser class or a parser factory taking
`(file_path, encoding)`; no name is excepted. -/
theorem plugins_resolve :
    ∀ p ∈ parserPlugins, (p.2 = .parserClass ∨ p.2 = .parserFactory) := by
  decide +kernel

/-- every listed writer name loads and is a writer function -/
theorem writers_resolve : ∀ p ∈ writerPlugins, p.2 = .writerFunction := by
  decide +kernel

/-- every listed field type name loads and is a field type class -/
theorem fieldtypes_resolve : ∀ p ∈ fieldTypePlugins, p.2 = .fieldTypeClass := by
  decide +kernel

/-- the library's own `names()` worked for all three packages and listed something; every listed
name is a file of its package -/
theorem plugin_lists_nonempty :
    parserPluginsListError = "" ∧ writerPluginsListError = "" ∧ fieldTypePluginsListError = "" ∧
    parserPlugins ≠ [] ∧ writerPlugins ≠ [] ∧ fieldTypePlugins ≠ [] ∧
    (∀ p ∈ parserPlugins, p.1 ∈ parserPluginsFiles) ∧ (∀ p ∈ writerPlugins, p.1 ∈ writerPluginsFiles) ∧
    (∀ p ∈ fieldTypePlugins, p.1 ∈ fieldTypePluginsFiles) := by
  decide +kernel

/-! ### Non-vacuity: operations over a registry-like constant cell and a sink cell -/

/-- toy operations: `parse` returns file bytes + the constant cell and bumps the sink cell -/
private def toySem : Sem Nat Bool Nat Nat Nat Bool Nat := fun op fs l s =>
  if op then ⟨fs l + s true, l, fun c => if c then s c else s c + 1, fs⟩
  else ⟨0, l + 1, s, fs⟩

example : NonInterfering toySem (fun c => c = true) (fun _ => True) where
  files_kept := by intro op fs l s; cases op <;> rfl
  good_step := by intros; trivial
  rel_kept := by intro op fs l s c _ hc; subst hc; cases op <;> rfl
  reads_sound := by
    intro op fs l s s' _ _ h
    cases op
    · exact ⟨rfl, rfl⟩
    · simp [toySem, h true rfl]

/-- the hypothesis of `parser_cache_irrelevant_partial` is met by a header with a continuation line -/
example : wfHeader [⟨"G".toList, ["C1C".toList]⟩, ⟨[], ["L1C".toList]⟩] = true := by decide

/-- the toy operations stay inside the frame {read: the constant cell `true`; write: the sink cell `false`} -/
example : Framed toySem (fun op c => op = true ∧ c = true) (fun op c => op = true ∧ c = false) where
  files_kept := by intro op fs l s; cases op <;> rfl
  writes_only := by
    intro op fs l s c h
    cases op
    · rfl
    · cases c
      · exact absurd ⟨rfl, rfl⟩ h
      · rfl
  reads_only := by
    intro op fs l s s' h
    cases op
    · exact ⟨rfl, rfl⟩
    · simp [toySem, h true ⟨rfl, rfl⟩]

example : ∀ (op op' : Bool) (c : Bool), (op = true ∧ c = true) → ¬ (op' = true ∧ c = false) := by
  intro _ _ c h h'; rw [h.2] at h'; exact Bool.noConfusion h'.2

example : CacheSound (fun n : Nat => n + 1) [(1, 2), (5, 6)] := by
  intro p hp; simp at hp; rcases hp with rfl | rfl <;> rfl

end Midgard.Props.C16

#print axioms Midgard.Props.C16.noninterference
#print axioms Midgard.Props.C16.instance_state_independent
#print axioms Midgard.Props.C16.fresh_parse
#print axioms Midgard.Props.C16.files_unchanged
#print axioms Midgard.Props.C16.framed_noninterfering
#print axioms Midgard.Props.C16.frame_noninterference
#print axioms Midgard.Props.C16.memo_transparent
#print axioms Midgard.Props.C16.memo_evict_sound
#print axioms Midgard.Props.C16.memo_world_noninterfering
#print axioms Midgard.Props.C16.registry_get_independent
#print axioms Midgard.Props.C16.registry_exists_sound
#print axioms Midgard.Props.C16.registry_listed_resolve
#print axioms Midgard.Props.C16.registry_world_noninterfering
#print axioms Midgard.Props.C16.parser_cache_irrelevant_partial
#print axioms Midgard.Props.C16.parser_cache_leak_witness
#print axioms Midgard.Props.C16.parser_cache_local
#print axioms Midgard.Props.C16.parser_cache_repair_conservative
#print axioms Midgard.Props.C16.effects_covered
#print axioms Midgard.Props.C16.shared_cells_read_before_write_zero
#print axioms Midgard.Props.C16.no_shared_cell_escapes
#print axioms Midgard.Props.C16.instance_cells_fresh
#print axioms Midgard.Props.C16.memo_rows_reviewed
#print axioms Midgard.Props.C16.no_file_write_sites
#print axioms Midgard.Props.C16.plugins_resolve
#print axioms Midgard.Props.C16.writers_resolve
#print axioms Midgard.Props.C16.fieldtypes_resolve
#print axioms Midgard.Props.C16.plugin_lists_nonempty
