/-
C17 — Written files are format-conformant and read back to the same values.

A written line is a list of cells (`Model/WriterCells.lean`); the line layouts, `DATA_TYPES` and the parsers' column tables are
regenerated from the source on every run (`Generated/WriterLayouts`).  The property is stated at four levels.  A cell: every
formatted cell stands in its nominal columns and reads back (`fields_in_columns`, `cell_reads_back`; when a number fits:
`fmtFixed_width`).  A parser column against a writer line: what `line[a:b].strip()` is (`parser_column_reads_cell`, applied to
the STA and TMS tables; the `…_aligned` theorems only decide the table predicate `fieldReads`, whose meaning is its definition).
A whole file through the `np.genfromtxt` model (`gft_file_roundtrip`, `crd_/vel_/clu_file_roundtrip`), the TIMESERIES/DATA
block through the parser model of C14 (`tms_data_block_roundtrip`), csv_ lines and columns (`csv_*`).  And which records are
written (Bernese STA: `sta_records_*`); `writers_assign_nothing_on_inputs`: the regenerated effect table is empty.

Not proved (measured by the correspondence on every run): whole files of sinex_tms (beyond the DATA block), bernese_sta
(beyond the TYPE 002 line) and csv_ (beyond token rows and single columns); the double nearest to the parsed decimal
(`float` is correctly rounded: trusted); NumPy's `genfromtxt`/`savetxt`, pandas' `read_csv` (modelled, probed).
-/
import Midgard.Proofs.Lists
import Midgard.Proofs.Split
import Midgard.Proofs.WriterCells
import Midgard.Proofs.WriterFilesBernese
import Midgard.Proofs.WriterFilesTms
import Midgard.Props.C14
import Midgard.Proofs.WriterCsv
import Midgard.Generated.WriterEffects
import Midgard.Proofs.WriterSta
import Midgard.Proofs.WriterColumns

namespace Midgard.Props.C17
open Midgard.Text Midgard.FixedCol Midgard.WriterCells Midgard.Writers Midgard.Generated.WriterLayouts
open Midgard.WriterFiles

/-- **Every field inside its columns.**  For any line layout and any values that are of the right
kind and no wider than their cells: the line renders, has exactly the nominal width, and the text
found in the nominal columns of each cell is the formatted cell (so every literal separator is in
its own columns as well). -/
theorem fields_in_columns (cells : List Cell) (vals : List Value) (h : allFit cells vals = true) :
    ∃ line, renderCells cells vals = some line ∧ line.length = nominalWidth cells ∧
      (nominal cells).map (fun t => Text.slice t.2.1 t.2.2 line) = cellTexts cells vals :=
  Midgard.Writers.fields_in_columns_aux cells vals h

/-- **Read-back at the nominal columns.**  `line[a:b].strip()` of every cell of a rendered line is
the text of the value, when that text has no outer blanks. -/
theorem readback_nominal (cells : List Cell) (vals : List Value) (h : allFit cells vals = true)
    (hc : allClean cells vals = true) :
    ∃ line, renderCells cells vals = some line ∧
      (nominal cells).map (fun t => strip (Text.slice t.2.1 t.2.2 line)) = valueTexts cells vals := by
  obtain ⟨line, h1, _, h3⟩ := fields_in_columns_aux cells vals h
  refine ⟨line, h1, ?_⟩
  rw [← strip_cellTexts cells vals h hc, ← h3, List.map_map]
  rfl

/-- **A wider parser column reads the same cell.**  If the columns `[a, s)` and `[e, b)` of a line
are blank, `line[a:b].strip()` equals `line[s:e].strip()`. -/
theorem wider_field_reads_cell (line : Str) (a s e b : Nat) (h1 : a ≤ s) (h2 : s ≤ e) (h3 : e ≤ b)
    (hl : isBlank (Text.slice a s line) = true) (hr : isBlank (Text.slice e b line) = true) :
    strip (Text.slice a b line) = strip (Text.slice s e line) :=
  Midgard.Text.strip_slice_wider line a s e b h1 h2 h3 hl hr

/-- **How wide a number prints.**  If `|q|·10^p ≤ 10^(k+p) − 1`, then
`'{:.pf}'.format(q)` has at most `k` integer digits: sign + `k` + point + `p` characters. -/
theorem fmtFixed_fits (q : Rat) (p k : Nat) (hp : 0 < p) (hk : 0 < k)
    (h : (if q < 0 then -q else q) * Decimal.pow10 p ≤ ((10 ^ (k + p) - 1 : Nat) : Rat)) :
    (Decimal.fmtFixedCore q p).length ≤ (if q < 0 then 1 else 0) + k + 1 + p := by
  rw [Decimal.ite_neg_eq_abs, Nat.cast_sub (Nat.one_le_pow _ _ (by norm_num)), Nat.cast_pow, Nat.cast_ofNat, Nat.cast_one] at h
  generalize hs : (if q < 0 then 1 else 0) = s
  have hw : s + (if p = 0 then 0 else p + 1) < s + k + 1 + p := by
    rw [if_neg (Nat.pos_iff_ne_zero.mp hp)]; omega
  rw [← hs] at hw
  rw [← Decimal.length_fmtFixed_eq_iff, ← hs, Decimal.fmtFixed_width q _ p hw, if_neg (Nat.pos_iff_ne_zero.mp hp), hs,
    show s + k + 1 + p - s - (p + 1) + p = k + p by omega]
  linarith

/-- **The property's coordinate domain fits.**  Every coordinate with `|x| ≤ 9 999 999.9999` fits
the `14.4f` cells of SINEX TMS (X, Y, Z) *with a blank to spare* (so adjacent cells stay separated),
and the `14.5f` / `16.5f` cells of the Bernese CRD/VEL lines. -/
theorem coordinate_fits (q : Rat) (hlo : -(99999999999 / 10000 : Rat) ≤ q) (hhi : q ≤ 99999999999 / 10000) :
    fitsCellStrict ⟨none, 14, some 4, .fix⟩ (.num q) = true ∧
    fitsCell ⟨none, 14, some 5, .fix⟩ (.num q) = true ∧
    fitsCell ⟨none, 16, some 5, .fix⟩ (.num q) = true :=
  Decimal.coordinate_fits q hlo hhi

/-- **`fmtFixed_width`, exact.**  Let `s` be the sign column (`1` for `x < 0`, also when the value rounds
to `-0.00`) and `d` the point and decimals (`p + 1`; `0` for `p = 0`).  A cell `'{:w.pf}'` with room for an
integer digit (`w > s + d`) is exactly `w` characters wide iff `|x|·10ᵖ < 10^(w − s − d + p) − 1/2`
(otherwise it is longer: Python never truncates). -/
theorem fmtFixed_width (x : Rat) (w p : Nat)
    (hw : (if x < 0 then 1 else 0) + (if p = 0 then 0 else p + 1) < w) :
    (Decimal.fmtFixed x w p).length = w ↔
      |x| * Decimal.pow10 p < (10 : Rat) ^ (w - (if x < 0 then 1 else 0) - (if p = 0 then 0 else p + 1) + p) - 1 / 2 :=
  Decimal.fmtFixed_width x w p hw

/-- **`parse_fmtFixed`.**  `float('{:w.pf}'.format(x))` (exact) is `x` rounded to `p` decimals: within
`10⁻ᵖ/2`, and `x` itself when `x·10ᵖ` is an integer — for all `w`, `p`, `x`, fitting or overflowing. -/
theorem parse_fmtFixed (x : Rat) (w p : Nat) :
    ∃ v, Decimal.parseFloat (Decimal.fmtFixed x w p) = some v ∧ |v - x| ≤ 1 / 2 / (10 : Rat) ^ p ∧
      (∀ z : Int, x * (10 : Rat) ^ p = (z : Rat) → v = x) :=
  Decimal.parse_fmtFixed x w p

/-- **Every formatted cell reads back** (any alignment, any width, also when it overflows): see
`Writers.ReadsBack` — a number within half a unit of its last printed digit (exactly if it has no more
decimals), an integer exactly, `nan` as `nan`, `-0.0` as zero, clean text as itself. -/
theorem cell_reads_back (spec : Spec) (v : Value) : ReadsBack spec v (fmtValue spec v) := by
  open Midgard.Decimal in
  unfold fmtValue
  cases v with
  | num q =>
    obtain ⟨x, hx, hb, he⟩ := parse_fmtFixedCore q (spec.prec.getD 6)
    refine ⟨x, ?_, hb, he⟩
    rw [← hx]
    exact parseFloat_congr_strip (strip_strip_pad _ _ (clean_fmtFixedCore q _))
  | int i =>
    show parseInt? _ = some i
    rw [← parseInt_fmtInt i]
    exact parseInt_congr_strip (strip_strip_pad _ _ (clean_of_no_space (no_space_fmtInt i)))
  | negz =>
    show parseFloat _ = some 0
    rw [← parseFloat_negz (spec.prec.getD 6)]
    exact parseFloat_congr_strip (strip_strip_pad _ _ (clean_negz _))
  | nan =>
    show strip _ = _
    exact strip_pad_cell _ _ (show Clean "nan".toList = true by decide)
  | str s =>
    intro hc
    exact strip_pad_cell _ _ hc

/-- **Read-back of the values of a line**, for every line layout and all values that fit their cells:
what the reader finds in the nominal columns of each cell is the value (`ReadsBack`). -/
theorem readback_values (cells : List Cell) (vals : List Value) (h : allFit cells vals = true) :
    ∃ line, renderCells cells vals = some line ∧ (nominal cells).length = (cellValues cells vals).length ∧
      ∀ p ∈ (nominal cells).zip (cellValues cells vals),
        ReadsBack p.2.1 p.2.2 (Text.slice p.1.2.1 p.1.2.2 line) := by
  obtain ⟨line, h1, _, h3⟩ := fields_in_columns_aux cells vals h
  rw [cellTexts_eq_map cells vals h] at h3
  obtain ⟨hl, hz⟩ := Lists.zip_of_map_eq _ _ _ _ h3
  refine ⟨line, h1, hl, fun p hp => ?_⟩
  rw [hz p hp]
  exact cell_reads_back p.2.1 p.2.2

/-- **Exact admission condition of a numeric cell** `{:w.pf}` that has room for an integer digit. -/
theorem numeric_cell_accepts (spec : Spec) (x : Rat)
    (hw : (if x < 0 then 1 else 0) + (if spec.prec.getD 6 = 0 then 0 else spec.prec.getD 6 + 1) < spec.width) :
    fitsCell spec (.num x) = true ↔
      |x| * Decimal.pow10 (spec.prec.getD 6) <
        (10 : Rat) ^ (spec.width - (if x < 0 then 1 else 0) - (if spec.prec.getD 6 = 0 then 0 else spec.prec.getD 6 + 1)
          + spec.prec.getD 6) - 1 / 2 :=
  fitsCell_num_iff spec x hw

/-- every numeric cell of every formatted line of the ten writers, and every numeric TIMESERIES/DATA column,
has room for a sign, one integer digit, the point and its decimals (regenerated table) -/
theorem numeric_cells_have_room :
    ((rows.all fun r => (fixSpecs r.cells).all Spec.hasRoom) &&
     (dataTypes.all fun p => p.2.ty != Ty.fix || p.2.hasRoom)) = true := by
  decide +kernel

/-- **Every numeric cell of the regenerated table admits every value below its bound** (sign column
reserved): `|x|·10ᵖ < 10^(w − 1 − d + p) − 1/2` ⇒ the value fits the cell (and then reads back by
`readback_values`). -/
theorem table_cells_accept (r : Row) (hr : r ∈ rows) (sp : Spec) (hsp : sp ∈ fixSpecs r.cells) (x : Rat)
    (h : |x| * Decimal.pow10 (sp.prec.getD 6) <
      (10 : Rat) ^ (sp.width - 1 - (if sp.prec.getD 6 = 0 then 0 else sp.prec.getD 6 + 1) + sp.prec.getD 6) - 1 / 2) :
    fitsCell sp (.num x) = true := by
  have hall := numeric_cells_have_room
  simp only [Bool.and_eq_true, List.all_eq_true] at hall
  exact fitsCell_of_abs_lt sp x (hall.1 r hr sp hsp) h

/-- the specs named in `coordinate_fits` are those of the regenerated tables -/
theorem coordinate_cells_are_those :
    specOf "X" = some ⟨none, 14, some 4, .fix⟩ ∧ specOf "Y" = some ⟨none, 14, some 4, .fix⟩ ∧
    specOf "Z" = some ⟨none, 14, some 4, .fix⟩ ∧
    specOfCell (rowOf "bernese_crd") "x" = some ⟨none, 16, some 5, .fix⟩ ∧
    specOfCell (rowOf "bernese_crd") "y" = some ⟨none, 14, some 5, .fix⟩ ∧
    specOfCell (rowOf "bernese_crd") "z" = some ⟨none, 14, some 5, .fix⟩ := by
  decide +kernel

/-! ### Alignment of writer cells and parser columns (regenerated tables)

The fourth argument of `fieldReads` is the greatest text length the column has to contain; `1000` stands for "the whole
cell" (it exceeds every cell width, and `fieldReads` takes the minimum with the width).  In `tms_ref_coordinate_aligned` the
`1000` of `next … getD 1000` is something else: the stop of the last column, beyond the end of every line. -/

/-- Bernese CRD: every `np.genfromtxt` column of parsers/bernese_crd.py contains the whole cell the
writer puts there and otherwise only blank separators. -/
theorem crd_writer_parser_aligned :
    let L := layoutOfWidths crdParserNames crdParserWidths
    let row := rowOf "bernese_crd"
    L.length = 7 ∧ crdParserSkipHeader = 6 ∧
    (List.zip [("number", true), ("station", false), ("domes", false), ("x", true), ("y", true), ("z", true),
        ("flag", false)] L).all
      (fun p => fieldReads row p.1.1 p.1.2 1000 p.2.start p.2.stop) = true := by
  decide +kernel

/-- Bernese CLU: station column exact; the cluster number is read as long as it has at most 7
digits (it is right-aligned in 16 columns of which the parser reads the last 7). -/
theorem clu_writer_parser_aligned :
    let L := layoutOfWidths cluParserNames cluParserWidths
    let row := rowOf "bernese_clu"
    cluParserSkipHeader = 5 ∧
    (match L with
     | [st, _, cl] => fieldReads row "station" false 1000 st.start st.stop &&
                      fieldReads row "cluster" true 7 cl.start cl.stop
     | _ => false) = true := by
  decide +kernel

/-- SINEX TMS reference coordinate line: the parser's `SinexField` start columns cut the line so
that station, X, Y, Z and system each fall into their own field (the epoch field is read in
`tms_ref_coordinate_columns`). -/
theorem tms_ref_coordinate_aligned :
    let row := rowWith "sinex_tms" "ref_pos.trs.x"
    let starts := tmsRefCoordFields.map (·.2)
    let col (n : String) : Nat := (tmsRefCoordFields.lookup n).getD 0
    let next (n : String) : Nat := ((starts.filter (fun s => col n < s)).head?).getD 1000
    (fieldReads row "self.station.upper()" false 9 (col "site_code") (next "site_code") &&
     fieldReads row "ref_pos.trs.x" true 1000 (col "ref_x") (next "ref_x") &&
     fieldReads row "ref_pos.trs.y" true 1000 (col "ref_y") (next "ref_y") &&
     fieldReads row "ref_pos.trs.z" true 1000 (col "ref_z") (next "ref_z") &&
     fieldReads row "self.dset.meta['ref_frame']" false 1000 (col "system") (next "system")) = true :=
  tms_ref_tables.2

/-- Bernese STA, TYPE 002: station, DOMES, the two epochs, receiver/antenna types, radome, serial
numbers and the three eccentricities are read from the columns the writer fills.  The text lengths are those of real
values (epochs 19 characters, serial numbers 21, …); `sta002Map` of the semantic statements below asks for the greatest
length each column still contains.
The full statement — every column of parsers/bernese_sta.py reads the cell the writer puts there — is false for
`description`/`remark` for the code as it stands: the writer produces the Bernese 5.2 layout (FORMAT VERSION 1.01) while
parsers/bernese_sta.py cuts the 5.4 layout with AZIMUTH and LONG NAME columns; parsers/bernese_sta_v52.py is the parser that
matches. -/
theorem sta_writer_parser_aligned_partial :
    let row := rowWith "bernese_sta" "rcv_serial"
    let f (n : String) : Nat × Nat := ((staParserFields.lookup n).getD (0, 0))
    (fieldReads row "station" false 4 (f "station").1 (f "station").2 &&
     fieldReads row "domes" false 9 (f "domes").1 (f "domes").2 &&
     fieldReads row "date_from" false 19 (f "date_from").1 (f "date_from").2 &&
     fieldReads row "date_to" false 19 (f "date_to").1 (f "date_to").2 &&
     fieldReads row "rcv" false 20 (f "receiver_type").1 (f "receiver_type").2 &&
     fieldReads row "rcv_serial" false 21 (f "receiver_serial_number").1 (f "receiver_serial_number").2 &&
     fieldReads row "ant" false 15 (f "antenna_type").1 (f "antenna_type").2 &&
     fieldReads row "radome" false 4 (f "radome_type").1 (f "radome_type").2 &&
     fieldReads row "ant_serial" false 21 (f "antenna_serial_number").1 (f "antenna_serial_number").2 &&
     fieldReads row "north" true 9 (f "eccentricity_north").1 (f "eccentricity_north").2 &&
     fieldReads row "east" true 9 (f "eccentricity_east").1 (f "eccentricity_east").2 &&
     fieldReads row "up" true 9 (f "eccentricity_up").1 (f "eccentricity_up").2) = true := by
  decide +kernel

/-! ### whole files: `parse (write x) = round_p x` -/

/-- **A file of fixed-width lines is read back cell by cell** — for *every* `np.genfromtxt` parser with a `delimiter`
tuple and *every* writer line whose segments (a cell with the blanks written before it) have the parser's widths
(`lineMatches`, decided on the regenerated tables), every header of exactly `skip_header` lines, any number of lines and
all values within `valsOk` (right kind, no wider than the cell, no outer blanks, no comment marker or line break): the
writer does not raise, and the parser's rows (text-mode reading, line iteration, header skipping, comment cutting, column
cutting, stripping, `float` / `U<n>` conversion) are the written values as the converters read them (`expectField`:
numbers rounded to the printed decimals, integers exactly, NaN as NaN, text cut to the declared length). -/
theorem gft_file_roundtrip (sp : GftSpec) (cells : List Cell) (hm : lineMatches sp cells = true) (hdr : Str)
    (hh : headerOk sp hdr = true) (rowsVals : List (List Value))
    (hv : ∀ vals ∈ rowsVals, valsOk sp cells vals = true) :
    ∃ lines, rowsVals.mapM (renderCells cells) = some lines ∧
      gftParse sp (hdr ++ lines.flatten) =
        rowsVals.map fun vals => List.zipWith expectField sp.dtypes (cellValues cells vals) := by
  exact gft_file_of sp (renderCells cells) _ hdr hh rowsVals fun vals hvals => gftRow_line sp cells hm vals (hv vals hvals)

/-- the Bernese CRD line (regenerated from writers/bernese_crd.py) is cut by the `delimiter` tuple of
parsers/bernese_crd.py (regenerated too) into exactly one cell per column, with only blanks around -/
theorem crd_line_matches_parser : lineMatches crdSpec (rowOf "bernese_crd") = true := by decide +kernel

/-- the CRD line the round-trip theorem is proved for is the one of the regenerated table -/
theorem crd_layout_is : rowOf "bernese_crd" =
    [.fld "number" ⟨some .right, 3, none, .any⟩, .lit "  ", .fld "station" ⟨none, 4, none, .any⟩, .lit " ",
     .fld "domes" ⟨none, 9, none, .any⟩, .lit " ", .fld "x" ⟨none, 16, some 5, .fix⟩, .lit " ",
     .fld "y" ⟨none, 14, some 5, .fix⟩, .lit " ", .fld "z" ⟨none, 14, some 5, .fix⟩, .lit " ",
     .fld "flag" ⟨some .right, 4, none, .any⟩, .lit "\n"] := crd_row_is

/-- **Bernese CRD, file level: `bernese_crd parser (bernese_crd writer x) = round₅ x`.**  For all header texts, all
station lists and both settings of `write_nan_site_coord` within `crdInRange` (decidable; evaluated by the driver on every
generated case): the writer produces a file, and parsers/bernese_crd.py (`np.genfromtxt` with its regenerated
parameters, then `_remove_blank_entries`) holds exactly one record per written station, in the written order: the running
number, the upper-case station code, the DOMES number, the three coordinates as `float` reads them (`readBack 5`: the
value rounded to 5 decimals, NaN for NaN) and the flag `A`. -/
theorem crd_file_roundtrip (texts : List Str) (writeNan : Bool) (sts : List Station)
    (h : crdInRange texts writeNan sts = true) :
    ∃ file, crdFile texts writeNan sts = some file ∧ crdParse file = (xyzEntries writeNan sts).map crdRecord := by
  obtain ⟨hh, he⟩ := (crdInRange_iff _ _ _).mp h
  refine gft_file_records crdSpec "bernese_crd" texts (fun e => renderNamed (rowOf "bernese_crd") (crdEnv e)) crdRecord _ hh
    fun e hem => ?_
  have hok := he e hem
  simp only [crdEntryOk, Bool.and_eq_true, Bool.not_eq_true', List.isEmpty_eq_false_iff] at hok
  rw [renderNamed_of_envValues _ _ _ (crd_envValues e)]
  obtain ⟨body, row, h1, h2, h3, h4, h5⟩ := gftRow_line crdSpec _ crd_line_matches_parser _ hok.1
  have hv := hok.1
  simp only [valsOk, Bool.and_eq_true] at hv
  refine ⟨body, row, h1, h2, h3, h4, h5.trans (crd_record e hv.1.1), ?_⟩
  rw [crd_station_idx]
  simp [crdRecord, hok.2]

/-- **Explicit bounds put an input inside the range of `crd_file_roundtrip`** (the property's quantifier): header texts
without line breaks; at most 999 stations; for every station that has coordinates a code of 1–4 characters (in upper
case) and a DOMES number of at most 9 characters (`textOk`: no outer blanks, no `#`, no line break); coordinates that are
numbers up to ±9 999 999.9999, NaN or `-0.0` (`coordOk`). -/
theorem crd_range_sufficient (solution stamp datum epoch : Str) (writeNan : Bool) (sts : List Station)
    (hh : ∀ t ∈ [solution, stamp, datum, epoch], t.all (· != '\n') = true ∧ t.all (· != '\r') = true)
    (hn : sts.length ≤ 999)
    (hs : ∀ st ∈ sts, ∀ x y z, st.xyz = some (x, y, z) →
      textOk 4 (upper st.key) ∧ upper st.key ≠ [] ∧ textOk 9 (st.domes.getD []) ∧ coordOk x ∧ coordOk y ∧ coordOk z) :
    crdInRange [solution, stamp, datum, epoch] writeNan sts = true := by
  -- `rfl`: with the four texts as variables the header still renders — every field of the table takes a text
  refine (crdInRange_iff _ _ _).mpr ⟨header_ok crdSpec _ _ hh rfl header_tables.1, fun e he => ?_⟩
  obtain ⟨hmem, hnum, hxyz⟩ := mem_xyzEntries writeNan sts e he
  obtain ⟨a, b, c, d, f, g⟩ := hs e.2.1 hmem _ _ _ hxyz
  exact crdEntryOk_of e (by omega) a b c d f g

/-- the VEL line the round-trip theorem is proved for is the one of the regenerated table -/
theorem vel_layout_is : rowOf "bernese_vel" =
    [.fld "number" ⟨some .right, 3, none, .any⟩, .lit "  ", .fld "station" ⟨none, 4, none, .any⟩, .lit " ",
     .fld "domes" ⟨none, 9, none, .any⟩, .lit " ", .fld "x" ⟨none, 16, some 5, .fix⟩, .lit " ",
     .fld "y" ⟨none, 14, some 5, .fix⟩, .lit " ", .fld "z" ⟨none, 14, some 5, .fix⟩, .lit " ",
     .fld "flag" ⟨some .right, 4, none, .any⟩, .lit " ", .fld "plate" ⟨some .right, 7, none, .any⟩, .lit "\n"] := vel_row_is

/-- **Bernese VEL, file level.**  The library has no parser for *.VEL; its CRD parser reads the file (same header
height, same first seven columns; the plate column lies beyond the `delimiter` widths and is ignored).  For all inputs
within `velInRange` (as `crdInRange`, every written station with a tectonic plate of `plate_def` or none): the VEL writer
produces a file, and the CRD parser holds one record per written station, in order: running number, code, DOMES, the three
velocity components rounded to 5 decimals (NaN as NaN), flag `A`. -/
theorem vel_file_roundtrip (texts : List Str) (writeNan : Bool) (sts : List Station)
    (h : velInRange texts writeNan sts = true) :
    ∃ file, velFile texts writeNan sts = some file ∧ crdParse file = (xyzEntries writeNan sts).map crdRecord := by
  obtain ⟨hh, he⟩ := (velInRange_iff _ _ _).mp h
  obtain ⟨hw, hlead, htail, hc1, hc2, hauto⟩ := vel_tables
  refine gft_file_records crdSpec "bernese_vel" texts _ crdRecord _ hh fun e hem => ?_
  have hok := he e hem
  rw [velEntryOk] at hok
  cases hp : velPlate e.2.1 with
  | none => rw [hp] at hok; cases hok
  | some plate =>
    simp only [hp, Bool.and_eq_true, Bool.not_eq_true', List.isEmpty_eq_false_iff] at hok ⊢
    rw [renderNamed_of_envValues _ _ _ (vel_envValues e plate)]
    obtain ⟨body, row, h1, h2, h3, h4, h5⟩ := gftRow_line_prefix crdSpec _ _ 7 hw hlead htail ⟨hc1, hc2⟩ hauto hok.1
    have hv := hok.1
    simp only [valsOk, Bool.and_eq_true] at hv
    refine ⟨body, row, h1, h2, h3, h4, h5.trans (vel_record e plate hv.1.1), ?_⟩
    rw [crd_station_idx]
    simp [crdRecord, hok.2]

/-- the CLU line the round-trip theorem is proved for is the one of the regenerated table -/
theorem clu_layout_is : rowOf "bernese_clu" =
    [.fld "station" ⟨none, 4, none, .any⟩, .lit " ", .fld "cluster" ⟨none, 16, none, .any⟩, .lit "\n"] := clu_row_is

/-- **Bernese CLU, file level: `bernese_clu parser (bernese_clu writer x) = x`.**  For all header texts and all lists of
station codes within `cluInRange` (the header has the 5 lines the parser skips; each code has at most 4 characters in
upper case, is not empty, has no outer blanks, `#` or line break): the writer produces a file and the parser's rows
(`np.genfromtxt` with the regenerated `delimiter=(4, 10, 7)`, `dtype=(U4, U9, f8)`, then the rows `as_dict` keeps) are,
in code-point order of the codes, the upper-case code, an empty DOMES text and cluster 1.0 — although the writer's
16-column cluster cell straddles the parser's `domes` and `cluster` columns. -/
theorem clu_file_roundtrip (texts : List Str) (keys : List Str) (h : cluInRange texts keys = true) :
    ∃ file, cluFile texts keys = some file ∧ cluParse file = (sortBy strLe keys).map cluRecord := by
  obtain ⟨hh, hk⟩ := (cluInRange_iff _ _).mp h
  have hk' : ∀ k ∈ sortBy strLe keys, cluKeyOk k = true := fun k hks => hk k ((sortBy_perm _ _).mem_iff.mp hks)
  refine gft_file_records cluSpec "bernese_clu" texts _ cluRecord _ hh fun k hks => ?_
  obtain ⟨body, h1, h2, h3, h4⟩ := clu_line k (hk' k hks)
  refine ⟨body, _, h1, h2, h3, h4, clu_convert k (hk' k hks), ?_⟩
  have := hk' k hks
  simp only [cluKeyOk, Bool.and_eq_true, Bool.not_eq_true', List.isEmpty_eq_false_iff] at this
  have hi : cluSpec.names.idxOf "station" = 0 := by decide +kernel
  rw [hi]
  simp [cluRecord, this.2]

/-- header texts without line breaks give the headers the parsers skip exactly: VEL (read by the CRD parser, 6 lines) and
CLU (5 lines) — the header half of `velInRange` / `cluInRange` from explicit bounds -/
theorem vel_clu_headers_ok (solution stamp datum : Str) (h1 : noBreaks solution) (h2 : noBreaks stamp) (h3 : noBreaks datum) :
    (∃ hdr, headerText "bernese_vel" [solution, stamp, datum] = some hdr ∧ headerOk crdSpec hdr = true) ∧
    (∃ hdr, headerText "bernese_clu" [solution, stamp] = some hdr ∧ headerOk cluSpec hdr = true) :=
  -- `rfl`: with the texts as variables the header still renders (every field of the header table takes a text)
  ⟨header_ok crdSpec "bernese_vel" [solution, stamp, datum] (by simp [h1, h2, h3]) rfl header_tables.2.1,
    header_ok cluSpec "bernese_clu" [solution, stamp] (by simp [h1, h2]) rfl header_tables.2.2⟩

/-- **`readBack p` is rounding to `p` decimals**: within half a unit of the last printed digit, and the value itself
when it has no more than `p` decimals -/
theorem readback_is_rounding (p : Nat) (q : Rat) :
    ∃ v, readBack p (.num q) = some v ∧ |v - q| ≤ 1 / 2 / Decimal.pow10 p ∧
      ∀ z : Int, q * Decimal.pow10 p = (z : Rat) → v = q :=
  ⟨_, rfl, Decimal.fixedValue_close q p, fun z hz => Decimal.fixedValue_exact q p z hz⟩

/-! ### what a parser column reads of a written line (semantics of the alignment tables) -/

/-- **A parser column reads a writer cell.**  For any line layout `pre ++ fld n sp :: post`, any values of which those up to
this cell fit their widths, and any parser column `[a, b)`: if — checked on the table — every column `≥ a` of the part before
the cell and every column `< b` of the part after it is a literal blank (`blankFrom`, `blankUpTo`), and `[a, b)` contains the
part of the cell its text occupies (right-aligned: from `end − length` to the end; left-aligned: from the start to
`start + length`), then `line[a:b].strip()` is the text of the cell's value — also when the column is narrower than the cell
on its padded side, wider than the cell, or starts inside the separator before it. -/
theorem parser_column_reads_cell (pre post : List Cell) (n : String) (sp : Spec) (vals : List Value) (line : Str) (a b : Nat)
    (hfit : allFit (pre ++ [.fld n sp]) vals = true)
    (hr : renderCells (pre ++ .fld n sp :: post) vals = some line)
    (hpre : blankFrom a 0 pre = true) (hpost : blankUpTo b (nominalWidth pre + sp.width) post = true) :
    ∃ v rest, vals.drop (fieldCount pre) = v :: rest ∧
      (Clean (v.text sp) = true →
       (if padsRight sp v then a + (v.text sp).length ≤ nominalWidth pre + sp.width ∧ nominalWidth pre + sp.width ≤ b
        else a ≤ nominalWidth pre ∧ nominalWidth pre + (v.text sp).length ≤ b) →
       strip (Text.slice a b line) = v.text sp) :=
  column_reads_cell pre post n sp vals line a b hfit hr hpre hpost

/-- the regenerated column tables of both STA parsers against the regenerated TYPE 002 line: every column of
parsers/bernese_sta_v52.py up to `description`, and the first 15 columns (up to the eccentricities) of parsers/bernese_sta.py,
pass the table check of `parser_column_reads_cell` with the text lengths of `sta002Map` (entries: `ColEntry`); 22 is the number
of cells before `remark`. -/
theorem sta_002_tables_read :
    (((sta002Map.map (colEntry sta002Row staV52ParserFields)).all fun e =>
      columnReads sta002Row e.1 e.2.1 e.2.2.1 e.2.2.2.1 e.2.2.2.2) = true ∧
      (∀ e ∈ sta002Map.map (colEntry sta002Row staV52ParserFields), e.1 < 22)) ∧
    ((((sta002Map.take 15).map (colEntry sta002Row staParserFields)).all fun e =>
      columnReads sta002Row e.1 e.2.1 e.2.2.1 e.2.2.2.1 e.2.2.2.2) = true ∧
      (∀ e ∈ (sta002Map.take 15).map (colEntry sta002Row staParserFields), e.1 < 22)) :=
  ⟨sta_tables.1, sta_tables.2.1⟩

/-- **Bernese STA, TYPE 002, line level through parsers/bernese_sta_v52.py**: for all values of a TYPE 002 line of which those
up to `description` fit their cells: every one of the parser's 16 fixed columns (`line.rstrip()[a:b].strip()`), is the text of
the writer cell it belongs to (`sta002Map`: station, DOMES, flag, the two epochs, receiver type / serial number / short
number, antenna type, radome, antenna serial number / short number, the three eccentricities, description) — provided the
text has no outer blanks and at most the length the parser's column still contains (DOMES 9, epochs 20, serial numbers 21,
short numbers 7, eccentricities 9 characters, …), and provided the value is aligned as the cell's spec says
(`padsRight sp v = (sp.align == some Align.right)`): that holds for text in a cell without `>` and for anything in a
cell with `>`, which are all cells of this line a writer fills (its number cells carry `>`). -/
theorem sta_002_columns_v52 (vals : List Value) (line : Str) (hfit : allFit (sta002Row.take 22) vals = true)
    (hr : renderCells sta002Row vals = some line) :
    ∀ m ∈ sta002Map, ∃ n sp v rest, sta002Row[cellIndex sta002Row m.2.1]? = some (.fld n sp) ∧
      vals.drop (fieldCount (sta002Row.take (cellIndex sta002Row m.2.1))) = v :: rest ∧
      (Clean (v.text sp) = true → padsRight sp v = (sp.align == some Align.right) → (v.text sp).length ≤ m.2.2 →
        strip (Text.slice ((staV52ParserFields.lookup m.1).getD (0, 0)).1 ((staV52ParserFields.lookup m.1).getD (0, 0)).2
          (rstrip line)) = v.text sp) :=
  columns_roundtrip sta002Row staV52ParserFields sta002Map 22 sta_tables.1 vals line hfit hr

/-- … and through parsers/bernese_sta.py, for its first 15 columns (station … eccentricities).  The same for all 19 columns is
false for the code as it stands for `azimuth`, `long_name`, `description`, `remark`: that parser cuts the Bernese 5.4 layout, the
writer produces the 5.2 layout. -/
theorem sta_002_columns_54_partial (vals : List Value) (line : Str) (hfit : allFit (sta002Row.take 22) vals = true)
    (hr : renderCells sta002Row vals = some line) :
    ∀ m ∈ sta002Map.take 15, ∃ n sp v rest, sta002Row[cellIndex sta002Row m.2.1]? = some (.fld n sp) ∧
      vals.drop (fieldCount (sta002Row.take (cellIndex sta002Row m.2.1))) = v :: rest ∧
      (Clean (v.text sp) = true → padsRight sp v = (sp.align == some Align.right) → (v.text sp).length ≤ m.2.2 →
        strip (Text.slice ((staParserFields.lookup m.1).getD (0, 0)).1 ((staParserFields.lookup m.1).getD (0, 0)).2
          (rstrip line)) = v.text sp) :=
  columns_roundtrip sta002Row staParserFields (sta002Map.take 15) 22 sta_tables.2.1 vals line hfit hr

/-- the open-ended `remark` column of the 5.2 parser (`line.rstrip()[226:].strip()`) is the remark text (the receiver
firmware), whatever its length.  `226` is copied from the start of `remark` in `staV52ParserFields` (no theorem looks it up there); `sta_002_map_names`
checks it against the writer's line only (blanks from column 226 on, the line at least that wide), and that `16` fields stand
before the remark cell. -/
theorem sta_002_remark_v52 (vals : List Value) (line : Str) (hfit : allFit (sta002Row.take 22) vals = true)
    (hr : renderCells sta002Row vals = some line) :
    ∃ v rest, vals.drop 16 = v :: rest ∧
      (Clean (v.text ⟨none, 0, none, .any⟩) = true → v.okFor ⟨none, 0, none, .any⟩ = true →
        padsRight ⟨none, 0, none, .any⟩ v = false →
        strip (sliceFrom 226 (rstrip line)) = v.text ⟨none, 0, none, .any⟩) := by
  obtain ⟨_, hdrop, hblank, hge, hcount⟩ := sta_tables.2.2
  rw [← List.take_append_drop 22 sta002Row, hdrop] at hr
  have := open_column_reads_cell _ "remark" ⟨none, 0, none, .any⟩ "\n" vals line 226 hfit hr hblank hge (by decide)
  rwa [hcount] at this

/-- the map names the cells it means; the remark cell is the zero-wide cell after the first 22, followed by the newline
only; from column 226 on these 22 cells write blanks only, and they are at least 226 columns wide; they hold 16 fields -/
theorem sta_002_map_names : (sta002Map.all fun m => match sta002Row[cellIndex sta002Row m.2.1]? with
      | some (.fld n _) => n == m.2.1 | _ => false) = true ∧
    sta002Row.drop 22 = [.fld "remark" ⟨none, 0, none, .any⟩, .lit "\n"] ∧
    blankFrom 226 0 (sta002Row.take 22) = true ∧ 226 ≤ nominalWidth (sta002Row.take 22) ∧
    fieldCount (sta002Row.take 22) = 16 := sta_tables.2.2

/-- **SINEX-TMS TIMESERIES/REF_COORDINATE, line level**: every `SinexField` column of the parser's
`timeseries_ref_coordinate` table that belongs to a formatted cell (station, epoch, X, Y, Z, reference frame; `[start, next
start)`, the last one up to the end of the line) reads the text of that cell, for all values that fit their cells and are aligned as the cell's spec says
(`padsRight sp v = (sp.align == some Align.right)`).  That covers the station and epoch texts and the reference frame
(`>6`).  For the numbers X, Y, Z the hypothesis cannot be met — their cells name no alignment and numbers pad on the
left — so for them the statement says nothing; what is proved about them is the table check
`tms_ref_coordinate_aligned` and, for any cell and either padding side, `parser_column_reads_cell`. -/
theorem tms_ref_coordinate_columns (vals : List Value) (line : Str) (hfit : allFit tmsRefRow vals = true)
    (hr : renderCells tmsRefRow vals = some line) :
    ∀ m ∈ tmsRefMap, ∃ n sp v rest, tmsRefRow[cellIndex tmsRefRow m.2.1]? = some (.fld n sp) ∧
      vals.drop (fieldCount (tmsRefRow.take (cellIndex tmsRefRow m.2.1))) = v :: rest ∧
      (Clean (v.text sp) = true → padsRight sp v = (sp.align == some Align.right) → (v.text sp).length ≤ m.2.2 →
        strip (Text.slice
          (((sinexFieldIntervals tmsRefCoordFields (nominalWidth tmsRefRow.dropLast)).lookup m.1).getD (0, 0)).1
          (((sinexFieldIntervals tmsRefCoordFields (nominalWidth tmsRefRow.dropLast)).lookup m.1).getD (0, 0)).2
          (rstrip line)) = v.text sp) :=
  columns_roundtrip tmsRefRow _ tmsRefMap tmsRefRow.length ⟨tms_ref_tables.1.1, tms_ref_tables.1.2.1⟩ vals line
    (by rw [List.take_length]; exact hfit) hr

/-! ### Bernese STA: which TYPE 002 records are written (`Model/WriterSta.lean`) -/

/-- **`_get_object_for_date` returns an entry of the history whose period contains the date** (and `none` exactly in an
interruption of the history: `sta_lookup_complete`) -/
theorem sta_lookup_sound (d : Int) (h : WriterSta.Hist) (e : WriterSta.Entry) (he : WriterSta.objectForDate d h = some e) :
    e ∈ h ∧ e.from_ ≤ d ∧ d < e.to_ :=
  WriterSta.objectForDate_sound d h e he

/-- … and it returns an entry exactly when some entry of the history contains the date -/
theorem sta_lookup_complete (d : Int) (h : WriterSta.Hist) :
    (WriterSta.objectForDate d h).isSome = true ↔ ∃ e ∈ h, e.from_ ≤ d ∧ d < e.to_ := by
  constructor
  · intro hs
    obtain ⟨e, he⟩ := Option.isSome_iff_exists.mp hs
    exact ⟨e, WriterSta.objectForDate_sound d h e he⟩
  · rintro ⟨e, hm, h1, h2⟩
    exact WriterSta.objectForDate_complete d h e hm h1 h2

/-- **Every TYPE 002 record names equipment that is installed at its start**, for all receiver / antenna / eccentricity
histories (in any order, with interruptions, overlaps, open ends) and both settings of `skip_firmware`: the receiver, the
antenna and the eccentricity of the record are entries of the site information whose period contains the record's start;
no record starts inside an interruption of a history. -/
theorem sta_records_equipment_installed (sf : Bool) (rcv ant ecc : WriterSta.Hist) (r : WriterSta.Record)
    (hr : r ∈ WriterSta.staRecords sf rcv ant ecc) :
    (r.rcv ∈ rcv ∧ r.rcv.from_ ≤ r.from_ ∧ r.from_ < r.rcv.to_) ∧
    (r.ant ∈ ant ∧ r.ant.from_ ≤ r.from_ ∧ r.from_ < r.ant.to_) ∧
    (r.ecc ∈ ecc ∧ r.ecc.from_ ≤ r.from_ ∧ r.from_ < r.ecc.to_) :=
  WriterSta.staRecords_sound sf rcv ant ecc r hr

/-- **Every pair of consecutive record dates (equipment changes and ends of entries without successor) at whose start all three kinds of equipment are installed has its
record**, starting and ending at these dates -/
theorem sta_records_complete (sf : Bool) (rcv ant ecc : WriterSta.Hist) (p : Int × Int)
    (hp : p ∈ WriterSta.pairwise (WriterSta.recordDates sf rcv ant ecc))
    (h1 : ∃ e ∈ rcv, e.from_ ≤ p.1 ∧ p.1 < e.to_) (h2 : ∃ e ∈ ant, e.from_ ≤ p.1 ∧ p.1 < e.to_)
    (h3 : ∃ e ∈ ecc, e.from_ ≤ p.1 ∧ p.1 < e.to_) :
    ∃ r ∈ WriterSta.staRecords sf rcv ant ecc, r.from_ = p.1 ∧ r.to_ = p.2 := by
  obtain ⟨e1, m1, a1, b1⟩ := h1
  obtain ⟨e2, m2, a2, b2⟩ := h2
  obtain ⟨e3, m3, a3, b3⟩ := h3
  obtain ⟨r1, hr1⟩ := Option.isSome_iff_exists.mp (WriterSta.objectForDate_complete p.1 rcv e1 m1 a1 b1)
  obtain ⟨r2, hr2⟩ := Option.isSome_iff_exists.mp (WriterSta.objectForDate_complete p.1 ant e2 m2 a2 b2)
  obtain ⟨r3, hr3⟩ := Option.isSome_iff_exists.mp (WriterSta.objectForDate_complete p.1 ecc e3 m3 a3 b3)
  exact ⟨⟨p.1, p.2, r1, r2, r3⟩, (WriterSta.mem_staRecords ..).mpr ⟨hp, hr1, hr2, hr3⟩, rfl, rfl⟩

/-- **Every TYPE 002 record covers a non-empty interval** (the record dates are strictly ascending) -/
theorem sta_records_nonempty_interval (sf : Bool) (rcv ant ecc : WriterSta.Hist) (r : WriterSta.Record)
    (hr : r ∈ WriterSta.staRecords sf rcv ant ecc) : r.from_ < r.to_ :=
  (WriterSta.pairwise_spec _ (WriterSta.pairwise_sortDates _) _ ((WriterSta.mem_staRecords ..).mp hr).1).2.1

/-- **No TYPE 002 record outlasts the entries it names**: midgard's writer closes a record where an entry it names ends
without a successor (the closing dates are record dates), so a record ends no later than its antenna and eccentricity
entries and, without `skip_firmware` (which deliberately merges receiver entries that differ in firmware only), its
receiver entry — also in an interrupted history. -/
theorem sta_records_within_entries (sf : Bool) (rcv ant ecc : WriterSta.Hist) (r : WriterSta.Record)
    (hr : r ∈ WriterSta.staRecords sf rcv ant ecc) :
    r.to_ ≤ r.ant.to_ ∧ r.to_ ≤ r.ecc.to_ ∧ (sf = false → r.to_ ≤ r.rcv.to_) := by
  obtain ⟨⟨hr1, _, hr3⟩, ⟨ha1, _, ha3⟩, ⟨he1, _, he3⟩⟩ := WriterSta.staRecords_sound sf rcv ant ecc r hr
  have key := (WriterSta.pairwise_spec _ (WriterSta.pairwise_sortDates _) _ ((WriterSta.mem_staRecords ..).mp hr).1).2.2
  refine ⟨key _ ?_ ha3, key _ ?_ he3, fun hsf => key _ ?_ hr3⟩
  · exact WriterSta.to_mem_recordDates sf rcv ant ecc ant r.ant ha1 (fun x hx => WriterSta.from_mem_eventDates _ _ _ _ x (Or.inl hx))
      fun x hx => (WriterSta.mem_recordDates ..).mpr (Or.inr (Or.inr (Or.inl hx)))
  · exact WriterSta.to_mem_recordDates sf rcv ant ecc ecc r.ecc he1 (fun x hx => WriterSta.from_mem_eventDates _ _ _ _ x (Or.inr (Or.inl hx)))
      fun x hx => (WriterSta.mem_recordDates ..).mpr (Or.inr (Or.inr (Or.inr hx)))
  · exact WriterSta.to_mem_recordDates sf rcv ant ecc rcv r.rcv hr1
      (fun x hx => WriterSta.from_mem_eventDates _ _ _ _ x (Or.inr (Or.inr ⟨hsf, hx⟩)))
      fun x hx => (WriterSta.mem_recordDates ..).mpr (Or.inr (Or.inl hx))

/-- an interrupted receiver history: no receiver between 100 and 200, the antenna changes at 150 — no record starts at
150, the record of the first receiver ends at 100 where its entry ends, and the record after the interruption names the
second receiver -/
theorem sta_gap_witness :
    (WriterSta.staRecords false [⟨0, 100, 0⟩, ⟨200, 1000, 1⟩] [⟨0, 150, 0⟩, ⟨150, 1000, 0⟩] [⟨0, 1000, 0⟩]).map
      (fun r => (r.from_, r.to_, r.rcv.cls)) = [(0, 100, 0), (200, 1000, 1)] := by
  decide +kernel

/-! ### SINEX TMS: TIMESERIES/DATA through the parser model of C14, and the column tables -/

/-- `tms_data_block_roundtrip` for any rows of format–value pairs that pass `tmsCellsOk`, on their lines `tmsLineOf` -/
theorem tms_block_aux (names : List Str) (rows : List (List (Spec × Value))) (n : Nat) (hn : 0 < n)
    (hrows : ∀ r ∈ rows, tmsCellsOk r = true ∧ r.length = n) (hne : rows ≠ [])
    (hnd : (names.map fun nm => asString (lower nm)).Nodup) (hlen : names.length ≤ n)
    (D : List (String × Midgard.Sinex.Val)) (h : Midgard.Sinex.tmsData names (rows.map tmsLineOf) = some D)
    (j : Nat) (hj : j < names.length) :
    Midgard.Sinex.dget? D (asString (lower names[j])) =
      Midgard.Sinex.tmsCol names[j] (rows.map fun r => (r.map fun sv => sv.2.text sv.1).getD j []) := by
  obtain ⟨recs, h1, h2, h3⟩ := tms_records rows n hn hrows
  have hne' : recs ≠ [] := by
    intro e; subst e; simp at h1
    exact hne h1
  rw [← h1] at h
  rw [Midgard.Props.C14.tms_data_roundtrip names recs n hn h2 hne' hnd hlen D h j hj]
  congr 1
  have : (recs.map fun r => (Midgard.Props.C14.wsTokens r).getD j []) =
      (recs.map Midgard.Props.C14.wsTokens).map fun t => t.getD j [] := by simp [List.map_map, Function.comp_def]
  rw [this, h3, List.map_map]
  rfl

/-- **TIMESERIES/DATA round trip: the sinex_tms parser (file-level model and theorem `tms_data_roundtrip` of C14) applied to
the lines the sinex_tms writer produces.**  For all column lists and all epochs within `tmsRowsInRange` (every column has a
format and a value of the right kind; every value text is a whitespace token; every cell after the first is right-aligned
and leaves a blank — `coordinate_fits` gives that for X/Y/Z up to ±9 999 999.9999, the `12.4f` ENU cells need |v| < 100 000,
see the finding `sinex_tms:column-overflow`): the writer renders every line, and *if* the parser model `tmsData` returns
a dictionary `D` on these lines (that it does is not part of the statement, nor shown by an example), the entry
stored under the lower-cased name of the `j`-th column is the conversion (`tmsCol`: `astype(float)` / `astype(str)`)
of the texts of the `j`-th value of every line, in line order — for number columns the values rounded to the printed
decimals (`tms_float_column_rounded`). -/
theorem tms_data_block_roundtrip (cols : List String) (epochs : List Env) (hr : tmsRowsInRange cols epochs = true)
    (hne : epochs ≠ []) (hc : cols ≠ [])
    (hnd : ((cols.map String.toList).map fun nm => asString (lower nm)).Nodup) :
    ∃ rows lines, epochs.mapM (tmsCells cols) = some rows ∧ epochs.mapM (tmsLine cols) = some lines ∧
      ∀ D, Midgard.Sinex.tmsData (cols.map String.toList) lines = some D →
        ∀ (j : Nat) (hj : j < (cols.map String.toList).length),
          Midgard.Sinex.dget? D (asString (lower (cols.map String.toList)[j])) =
            Midgard.Sinex.tmsCol (cols.map String.toList)[j]
              (rows.map fun r => (r.map fun sv => sv.2.text sv.1).getD j []) := by
  obtain ⟨rows, h1, h2, h3⟩ := tms_rows_exist cols epochs hr
  refine ⟨rows, rows.map tmsLineOf, h1, h2, fun D hD j hj => ?_⟩
  have hn : 0 < cols.length := by cases cols with | nil => exact absurd rfl hc | cons _ _ => simp
  have hrne : rows ≠ [] := by
    intro e; subst e
    exact hne (List.eq_nil_of_length_eq_zero (mapM_forall₂ _ _ _ h1).length_eq)
  exact tms_block_aux (cols.map String.toList) rows cols.length hn h3 hrne hnd (by simp) D hD j hj

/-- a number column reads back as its values rounded to the printed decimals -/
theorem tms_float_column_rounded (name : Str) (p : Nat) (qs : List Rat)
    (hn : Midgard.Sinex.dtypeStr.contains name = false) :
    Midgard.Sinex.tmsCol name (qs.map fun q => Decimal.fmtFixedCore q p) =
      some (.col (qs.map fun q => Midgard.Sinex.Cell.flt (some (Decimal.fixedValue q p)))) := by
  have := Midgard.Props.C14.tmsCol_float name (qs.map fun q => Decimal.fmtFixedCore q p) (qs.map fun q => Decimal.fixedValue q p) hn
    (by simp [List.map_map, Function.comp_def, Decimal.parseFloat_fmtFixedCore])
  simpa [List.map_map, Function.comp_def] using this

/-- every column after the first of `DATA_FIELD_TYPES` is a number cell (right-aligned by default), as the range of
`tms_data_block_roundtrip` needs; the column names are distinct after lower-casing -/
theorem tms_columns_right_aligned :
    ((dataFieldTypes.drop 1).all fun p => match specOf p.1 with
      | some sp => (sp.ty == Ty.fix || sp.ty == Ty.int) && sp.align != some Align.left
      | none => false) = true ∧
    ((dataFieldTypes.map fun p => asString (lower p.1.toList)).Nodup) := tms_tables.2.1

/-- **The writer's field → column table composed with the parser's column → field table is the identity on field names**
(both regenerated: `DATA_FIELD_TYPES` of writers/sinex_tms.py, `field_def` of `SinexTmsParser.as_dataset`): every column
the parser stores as a float field is written by the writer from exactly that field, every plain float field the writer
writes (everything but the time columns and the components of `site_pos` / `dsite_pos`) comes back under its own name, and
no parser key occurs twice. -/
theorem tms_field_tables_agree :
    (tmsParserFieldDef.all fun p => dataFieldTypes.any fun w => w.1.toLower = p.1 && w.2 = p.2) = true ∧
    (dataFieldTypes.all fun w =>
      w.2.startsWith "time." || w.2.startsWith "obs.site_pos." || w.2.startsWith "obs.dsite_pos." ||
      tmsParserFieldDef.lookup w.1.toLower = some w.2) = true ∧
    (tmsParserFieldDef.map (·.1)).Nodup := tms_tables.1

/-- the time columns are written from the UTC representation of the time field (the parser adds them back as UTC) -/
theorem tms_time_columns_are_utc :
    (dataFieldTypes.all fun w => !w.2.startsWith "time." || w.2.startsWith "time.utc.") = true := tms_tables.2.2.1

/-! ### csv_, line level -/

/-- **A csv data line read back.**  For every list of formats (`%s`, `%d`, `%.nf`) and values: the line `np.savetxt` writes,
cut at `,` / `;` (the separator class of parsers/csv_.py), gives as many pieces as values, each piece the text of its value,
and that text reads back (`csvReadsBack`: a number as the value rounded to its decimals, an integer exactly, `nan` as `nan`,
text as itself) — provided no text value contains a separator.  (What the parser then infers per column is the subject of
`csv_int_column` … `csv_text_column`.)  The statement names `splitSep line` as `texts`; its content is the `Forall₂`
relation between the format–value pairs and the pieces. -/
theorem csv_line_roundtrip (fmts : List CsvFmt) (vals : List Value) (line : Str) (h : csvLine fmts vals = some line)
    (hne : vals ≠ []) (hs : ∀ s, Value.str s ∈ vals → ∀ c ∈ s, isCsvSep c = false) :
    ∃ texts, splitSep line = texts ∧
      List.Forall₂ (fun (fv : CsvFmt × Value) t => csvReadsBack fv.1 fv.2 t) (fmts.zip vals) texts := by
  unfold csvLine at h
  split at h
  · cases h
  · rename_i hlen
    obtain ⟨texts, hm, rfl⟩ := Option.map_eq_some_iff.mp h
    have hcells := mapM_forall₂ _ _ texts hm
    have hsep : ∀ t ∈ texts, ∀ c ∈ t, isCsvSep c = false := by
      intro t ht
      obtain ⟨fv, hfv, hc⟩ := forall₂_mem_right hcells t ht
      exact csvCell_noSep _ _ t hc fun s hv => hs s (hv ▸ (List.of_mem_zip hfv).2)
    have htne : texts ≠ [] := by
      intro e
      have hl := hcells.length_eq
      rw [e, List.length_zip, Decidable.not_not.mp hlen, Nat.min_self] at hl
      exact hne (List.eq_nil_of_length_eq_zero hl)
    exact ⟨texts, splitSep_joinWith ',' (by decide) texts htne hsep, hcells.imp fun _ _ hc => csvCell_readsBack _ _ _ hc⟩

/-! ### csv_: the parser model (pandas behaviours P1–P10 of `Model/WriterCsv.lean`, probed on every run) on written files -/

/-- **The token rows of a written file**: a header line and data lines joined with commas from plain tokens (no separator,
`#`, line break or leading blank; no line that is a single blank token) are cut by the parser model into exactly these rows
(text mode, line iteration, comment cutting, separator class, `skipinitialspace`, blank-line skipping). -/
theorem csv_rows_of_written_file (rows : List (List Str)) (hne : ∀ r ∈ rows, r ≠ [])
    (hplain : ∀ r ∈ rows, ∀ t ∈ r, WriterCsv.plainTok t = true)
    (hkeep : ∀ r ∈ rows, ¬ (r.length = 1 ∧ isBlank (r.headD []) = true)) :
    WriterCsv.csvRows ((rows.map fun r => joinWith ',' r ++ ['\n']).flatten) = rows :=
  WriterCsv.csvRows_written ',' (by decide) rows hne hplain hkeep

/-- a `%d` column is read as exactly its integers -/
theorem csv_int_column (is : List Int) (hne : is ≠ []) :
    WriterCsv.inferCol (is.map Decimal.fmtInt) = some (.ints is) := by
  open Midgard.WriterCsv Midgard.Decimal in
  have hna : ∀ t ∈ is.map fmtInt, isNA t = false := by
    intro t ht
    obtain ⟨i, _, rfl⟩ := List.mem_map.mp ht
    exact numeric_not_NA _ (fmtInt_ne_nil i) (fmtInt_chars i).1 (fmtInt_chars i).2
  have h1 : (is.map fmtInt).all isNA = false := by
    cases is with
    | nil => exact absurd rfl hne
    | cons i rest => simp [hna (fmtInt i) (by simp)]
  have h2 : (is.map fmtInt).all (fun t => isNA t || isIntTok t) = true := by
    rw [List.all_eq_true]; intro t ht
    obtain ⟨i, _, rfl⟩ := List.mem_map.mp ht
    simp [isIntTok_fmtInt]
  have h3 : (is.map fmtInt).any isNA = false := by
    rw [List.any_eq_false]; intro t ht; simp [hna t ht]
  unfold inferCol
  simp only [h1, h2, h3, Bool.false_eq_true, if_false, if_true, Option.some.injEq, Col.ints.injEq]
  rw [List.map_map]
  conv => rhs; rw [← List.map_id is]
  apply List.map_congr_left
  intro i _
  simp [parseInt_fmtInt]

/-- a `%.pf` column (`p > 0`, not all NaN) is read as a float column: every value rounded to `p` decimals, NaN for NaN -/
theorem csv_float_column (p : Nat) (hp : 0 < p) (vs : List (Option Rat)) (hsome : ∃ v ∈ vs, v.isSome = true) :
    WriterCsv.inferCol (vs.map (WriterCsv.floatTok p)) =
      some (.floats (vs.map fun v => v.map fun q => Decimal.fixedValue q p)) := by
  open Midgard.WriterCsv Midgard.Decimal in
  obtain ⟨v0, hv0, hs0⟩ := hsome
  obtain ⟨q0, rfl⟩ := Option.isSome_iff_exists.mp hs0
  have hf := floatTok_facts p hp (some q0)
  have hm : floatTok p (some q0) ∈ vs.map (floatTok p) := List.mem_map.mpr ⟨_, hv0, rfl⟩
  have h1 : (vs.map (floatTok p)).all isNA = false :=
    List.all_eq_false.mpr ⟨_, hm, by rw [hf.1]; exact Bool.false_ne_true⟩
  have h2 : (vs.map (floatTok p)).all (fun t => isNA t || isIntTok t) = false :=
    List.all_eq_false.mpr ⟨_, hm, by rw [hf.1, (hf.2 rfl).1]; exact Bool.false_ne_true⟩
  have h3 : (vs.map (floatTok p)).all (fun t => isNA t || isFloatTok t) = true := by
    rw [List.all_eq_true]; intro t ht
    obtain ⟨v, _, rfl⟩ := List.mem_map.mp ht
    cases v with
    | none => simp [floatTok, isNA_nan]
    | some q => simp [((floatTok_facts p hp (some q)).2 rfl).2]
  unfold inferCol
  simp only [h1, h2, h3, Bool.false_eq_true, if_false, if_true, Option.some.injEq, Col.floats.injEq, List.map_map]
  apply List.map_congr_left
  intro v _
  cases v with
  | none => simp [floatTok, isNA_nan]
  | some q =>
    have := (floatTok_facts p hp (some q)).1
    simp only [Function.comp, this, Option.isNone_some, Bool.false_eq_true, if_false]
    simp [floatTok, parseFloat_fmtFixedCore]

/-- a column printed as `nan` throughout is dropped by the parser (by design: `dropna(axis="columns", how="all")`) -/
theorem csv_nan_column_dropped (n : Nat) : WriterCsv.inferCol (List.replicate n "nan".toList) = none := by
  have : (List.replicate n "nan".toList).all WriterCsv.isNA = true := by
    rw [List.all_eq_true]; intro t ht
    rw [(List.mem_replicate.mp ht).2]; decide +kernel
  unfold WriterCsv.inferCol
  rw [if_pos this]

/-- a `%s` column none of whose tokens is an NA token and one of whose tokens is no number (nor `True`/`False`) is read as
exactly its texts.  (A text column of numbers only is read as numbers — P2 — and one containing `NA`, `null`, … loses
them — P5: both outside the range.) -/
theorem csv_text_column (toks : List Str) (hna : ∀ t ∈ toks, WriterCsv.isNA t = false)
    (hx : ∃ t ∈ toks, WriterCsv.isFloatTok t = false ∧ WriterCsv.isIntTok t = false ∧ WriterCsv.isBoolTok t = false) :
    WriterCsv.inferCol toks = some (.strs toks) := by
  obtain ⟨t0, ht0, hf, hi, hb⟩ := hx
  have h1 : toks.all WriterCsv.isNA = false := List.all_eq_false.mpr ⟨t0, ht0, by simp [hna t0 ht0]⟩
  have h2 : toks.all (fun t => WriterCsv.isNA t || WriterCsv.isIntTok t) = false := List.all_eq_false.mpr ⟨t0, ht0, by simp [hna t0 ht0, hi]⟩
  have h3 : toks.all (fun t => WriterCsv.isNA t || WriterCsv.isFloatTok t) = false := List.all_eq_false.mpr ⟨t0, ht0, by simp [hna t0 ht0, hf]⟩
  have h4 : toks.all WriterCsv.isBoolTok = false := List.all_eq_false.mpr ⟨t0, ht0, by simp [hb]⟩
  unfold WriterCsv.inferCol
  simp only [h1, h2, h3, h4, Bool.false_eq_true, if_false, Option.some.injEq, WriterCsv.Col.strs.injEq]
  conv => rhs; rw [← List.map_id toks]
  apply List.map_congr_left
  intro t ht
  simp [hna t ht]

/-! ### the writers do not alter what they are given -/

/-- **No writer assigns to, deletes from or calls a mutating method on an object reachable from its arguments or
from a module-level table** — the table is regenerated on every run by a flow-sensitive `ast` taint analysis of the ten
writer modules (translator/extract_writer_effects.py: arguments of the registered function and module-level containers
as roots; aliases, loop variables, `self` attributes and calls inside the module followed; copies are clean).  Soundness
of the analysis is trusted and validated dynamically (every argument and module-level container is digested before and
after every writer call of the correspondence). -/
theorem writers_assign_nothing_on_inputs : Midgard.Generated.WriterEffects.writerEffects = [] := by
  decide +kernel

/-- the analysis had something to look at: each of the ten writers has a registered function, and its dataset or site
information argument is a root -/
theorem writer_effect_roots_cover :
    (["bernese_abb", "bernese_clu", "bernese_crd", "bernese_sta", "bernese_vel", "csv_", "gamit_apr_eq",
      "gamit_station_info", "gipsyx_site_info", "sinex_tms"].all fun w =>
        Midgard.Generated.WriterEffects.writerRoots.any fun r => r.1 = w && (r.2 = "arg:site_info" || r.2 = "arg:dset")) = true := by
  decide +kernel

/-! ### SINEX TMS: blocks, estimate keys, tokens of a data line -/

/-- every combination of optional blocks gives balanced, un-nested `+BLOCK … -BLOCK` markers -/
theorem blocks_balanced (e d r : Bool) : balanced none (tmsMarkers (tmsBlocks e d r)) = true := by
  -- one evaluation for the eight combinations: the kernel computes the markers of each block once
  revert e d r
  decide +kernel

/-- every column the writer can emit has a cell format the model covers -/
theorem tms_columns_have_types : (dataFieldTypes.all fun p => (specOf p.1).isSome) = true := tms_tables.2.2.2

/-- every `DATA_TYPES` format of writers/sinex_tms.py is one the cell model covers (the translator lists the others) -/
theorem data_types_modelled : dataTypesUnmodelled = [] := by
  decide +kernel

/-- the estimate-parameter table has no key twice (a dict literal would silently drop the first
of two equal keys — the `VEL_Y_SIG`/`VEL_Z_SIG` slip) -/
theorem estimate_keys_distinct : (estimateKeys.map (·.1)).Nodup := by
  decide +kernel

/-- a TIMESERIES/DATA line of `k` columns splits into `k` blank-separated tokens when every value
is non-empty, free of blanks and leaves at least one blank in its (right-aligned) cell -/
theorem tms_data_tokens (parts : List (Nat × Str))
    (h : ∀ p ∈ parts, p.2 ≠ [] ∧ (∀ c ∈ p.2, isSpace c = false) ∧ p.2.length < p.1) :
    Text.split (' ' :: (parts.map fun p => rjust p.1 p.2).flatten) = parts.map (·.2) := by
  refine (splitAux_blank_nil (ws := [' ']) (by decide) _).trans ?_
  cases parts with
  | nil => rfl
  | cons p ps =>
    obtain ⟨hne, hns, _⟩ := h p List.mem_cons_self
    exact split_rjust_cells p ps (token_iff.mpr ⟨hne, hns⟩) fun q hq => h q (List.mem_cons_of_mem _ hq)

/-- The overflow the layout allows (finding `sinex_tms:column-overflow:EAST/NORTH/UP`): an east
component of −100 000 m fills its `12.4f` cell, merges with the value before it, and the line
splits into one token fewer than it has columns. -/
theorem tms_overflow_witness :
    ((tmsLine ["YEAR", "EAST"] [("YEAR", .num (4047 / 2)), ("EAST", .num (-100000))]).map
      fun l => (Text.split l).length) = some 1 ∧
    ((tmsLine ["YEAR", "EAST"] [("YEAR", .num (4047 / 2)), ("EAST", .num (-99999))]).map
      fun l => (Text.split l).length) = some 2 := by
  decide +kernel

/-! ### non-vacuity -/

example : ReadsBack ⟨none, 8, some 2, .fix⟩ (.num (-5 / 2)) "   -2.50".toList := by
  have := cell_reads_back ⟨none, 8, some 2, .fix⟩ (.num (-5 / 2))
  have e : fmtValue ⟨none, 8, some 2, .fix⟩ (.num (-5 / 2)) = "   -2.50".toList := by decide +kernel
  rwa [e] at this

example : allFit (rowOf "bernese_crd")
    [.int 1, .str "ADAC".toList, .str "10337M001".toList, .num (191624041921 / 100000),
     .num (-999999999999 / 100000), .num 0, .str ['A']] = true := by
  repeat rw [String.toList_ofList]
  decide +kernel

/-- the range of the CRD round trip is inhabited: header texts as the writer builds them, three stations (one without
coordinates, one NaN, full-width values, empty and 9-character DOMES) -/
example : crdInRange ["NMA solution 20260930".toList, "30-SEP-26 02:09".toList, "IGb14".toList, "2010-01-01 00:00:00".toList] true
    [⟨"adac".toList, some (.num (191624041921 / 100000), .num (-999999999999 / 100000), .num 0), some "10337M001".toList, none⟩,
     ⟨"zimm".toList, some (.nan, .negz, .num (1 / 3)), none, none⟩,
     ⟨"0abi".toList, none, some [], none⟩] = true := by
  repeat rw [String.toList_ofList]
  exact (crdInRange_iff _ _ _).mpr
    ⟨header_ok crdSpec _ _ (by unfold noBreaks; decide +kernel) (by decide +kernel) header_tables.1, by decide +kernel⟩

example : velInRange ["NMA solution 20260930".toList, "30-SEP-26 02:09".toList, "IGb14".toList] false
    [⟨"adac".toList, some (.num (-93 / 5000), .num (47 / 5000), .nan), some "10337M001".toList, some "Eurasian".toList⟩,
     ⟨"zimm".toList, some (.nan, .num 0, .num 0), none, none⟩] = true := by
  repeat rw [String.toList_ofList]
  exact (velInRange_iff _ _ _).mpr
    ⟨header_ok crdSpec _ _ (by unfold noBreaks; decide +kernel) (by decide +kernel) header_tables.2.1, by decide +kernel⟩

example : tmsRowsInRange ["YYYY-MM-DD", "YEAR", "X", "EAST"]
    [[("YYYY-MM-DD", .str "2023-05-22".toList), ("YEAR", .num (202338767 / 100000)), ("X", .num (43312968156 / 10000)),
      ("EAST", .num (-99999))]] = true := by
  repeat rw [String.toList_ofList]
  decide +kernel

example : ∃ line, csvLine [.s, .f 2, .d] [.str "G01".toList, .num (5 / 2), .int 7] = some line := ⟨_, rfl⟩

/-- a TYPE 002 line within the hypotheses of `sta_002_columns_v52` -/
example : allFit (sta002Row.take 22)
    [.str "ARGI".toList, .str "10117M002".toList, .str "001".toList, .str "2008 09 25 00 00 00".toList,
     .str "2016 11 11 00 00 00".toList, .str "LEICA GRX1200GGPRO".toList, .str "356103".toList, .str "356103".toList,
     .str "LEIAT504GG".toList, .str "LEIS".toList, .str "999999".toList, .str "999999".toList, .num 0, .num 0, .num (27 / 5000),
     .str "Argir, Torshavn, FO".toList, .str "6.00".toList] = true := by
  repeat rw [String.toList_ofList]
  decide +kernel

example : WriterCsv.csvParse "date,sat,amp\n2015-10-05 18:07:24,G01,0.12\n2015-10-06 18:07:24,E11,nan\n".toList =
    [("date", .strs ["2015-10-05 18:07:24".toList, "2015-10-06 18:07:24".toList]), ("sat", .strs ["G01".toList, "E11".toList]),
     ("amp", .floats [some (3 / 25), none])] := by
  repeat rw [String.toList_ofList]
  decide +kernel

example : cluInRange ["NMA solution".toList, "30-SEP-26 02:09".toList] ["zimm".toList, "0abi".toList, "ab".toList] = true := by
  repeat rw [String.toList_ofList]
  exact (cluInRange_iff _ _).mpr
    ⟨header_ok cluSpec _ _ (by unfold noBreaks; decide +kernel) (by decide +kernel) header_tables.2.2, by decide +kernel⟩

end Midgard.Props.C17

#print axioms Midgard.Props.C17.fields_in_columns
#print axioms Midgard.Props.C17.readback_nominal
#print axioms Midgard.Props.C17.wider_field_reads_cell
#print axioms Midgard.Props.C17.fmtFixed_fits
#print axioms Midgard.Props.C17.coordinate_fits
#print axioms Midgard.Props.C17.fmtFixed_width
#print axioms Midgard.Props.C17.parse_fmtFixed
#print axioms Midgard.Props.C17.cell_reads_back
#print axioms Midgard.Props.C17.readback_values
#print axioms Midgard.Props.C17.numeric_cell_accepts
#print axioms Midgard.Props.C17.numeric_cells_have_room
#print axioms Midgard.Props.C17.table_cells_accept
#print axioms Midgard.Props.C17.coordinate_cells_are_those
#print axioms Midgard.Props.C17.crd_writer_parser_aligned
#print axioms Midgard.Props.C17.clu_writer_parser_aligned
#print axioms Midgard.Props.C17.tms_ref_coordinate_aligned
#print axioms Midgard.Props.C17.sta_writer_parser_aligned_partial
#print axioms Midgard.Props.C17.gft_file_roundtrip
#print axioms Midgard.Props.C17.crd_line_matches_parser
#print axioms Midgard.Props.C17.crd_layout_is
#print axioms Midgard.Props.C17.crd_file_roundtrip
#print axioms Midgard.Props.C17.crd_range_sufficient
#print axioms Midgard.Props.C17.vel_clu_headers_ok
#print axioms Midgard.Props.C17.readback_is_rounding
#print axioms Midgard.Props.C17.vel_layout_is
#print axioms Midgard.Props.C17.vel_file_roundtrip
#print axioms Midgard.Props.C17.clu_layout_is
#print axioms Midgard.Props.C17.clu_file_roundtrip
#print axioms Midgard.Props.C17.parser_column_reads_cell
#print axioms Midgard.Props.C17.sta_002_tables_read
#print axioms Midgard.Props.C17.sta_002_columns_v52
#print axioms Midgard.Props.C17.sta_002_columns_54_partial
#print axioms Midgard.Props.C17.sta_002_remark_v52
#print axioms Midgard.Props.C17.sta_002_map_names
#print axioms Midgard.Props.C17.tms_ref_coordinate_columns
#print axioms Midgard.Props.C17.sta_lookup_sound
#print axioms Midgard.Props.C17.sta_lookup_complete
#print axioms Midgard.Props.C17.sta_records_equipment_installed
#print axioms Midgard.Props.C17.sta_records_complete
#print axioms Midgard.Props.C17.sta_records_nonempty_interval
#print axioms Midgard.Props.C17.sta_records_within_entries
#print axioms Midgard.Props.C17.sta_gap_witness
#print axioms Midgard.Props.C17.tms_block_aux
#print axioms Midgard.Props.C17.tms_data_block_roundtrip
#print axioms Midgard.Props.C17.tms_float_column_rounded
#print axioms Midgard.Props.C17.tms_columns_right_aligned
#print axioms Midgard.Props.C17.csv_line_roundtrip
#print axioms Midgard.Props.C17.tms_field_tables_agree
#print axioms Midgard.Props.C17.csv_rows_of_written_file
#print axioms Midgard.Props.C17.csv_int_column
#print axioms Midgard.Props.C17.csv_float_column
#print axioms Midgard.Props.C17.csv_nan_column_dropped
#print axioms Midgard.Props.C17.csv_text_column
#print axioms Midgard.Props.C17.tms_time_columns_are_utc
#print axioms Midgard.Props.C17.writers_assign_nothing_on_inputs
#print axioms Midgard.Props.C17.writer_effect_roots_cover
#print axioms Midgard.Props.C17.blocks_balanced
#print axioms Midgard.Props.C17.tms_columns_have_types
#print axioms Midgard.Props.C17.data_types_modelled
#print axioms Midgard.Props.C17.estimate_keys_distinct
#print axioms Midgard.Props.C17.tms_data_tokens
#print axioms Midgard.Props.C17.tms_overflow_witness
