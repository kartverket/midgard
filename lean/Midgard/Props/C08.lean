/-
C08 — Caching is invisible: results depend on current values, not on call history.

Three machines: the process-wide function caches (`Model/CacheMachine.lean`, namespace `C08`), the per-object caches
of position arrays (`Model/ObjCache.lean`, namespace `C08.Obj`) and the `to_system` cache of `PosVel` / Kepler objects
(`Model/PosCache.lean`, namespace `C08.PosVel`).  The first two have their mechanism flags and tables regenerated from
the source on every run (`Generated/CacheMech.lean`); the third has no flags and is tied to the real objects by
`./check C07`.
-/
import Midgard.Proofs.CacheMachine
import Midgard.Proofs.ObjCache
import Midgard.Proofs.PosCacheProofs
import Midgard.Generated.CacheMech

namespace Midgard.Props.C08
open Midgard.CacheMachine

/-! ### The refinement: for every operation sequence the cached machine is indistinguishable
from the machine without any cache -/

theorem refines_from {fl : Flags} (hg : fl.good) (ops : List Op) :
    ∀ {s : State} {r : RefState}, Sim fl s r →
      (run fl s ops).2.map Out.visible = (refRun fl.copyOut r ops).2.map Out.visible := by
  induction ops with
  | nil => intro s r _; rfl
  | cons op ops ih =>
    intro s r hs
    obtain ⟨h1, h2⟩ := sim_step hg hs op
    simp only [run, refRun, List.map_cons]
    rw [h2, ih h1]

/-- **Caching is invisible.**  With a mechanism that keys on shape and on everything else the
result depends on, never freezes its argument, and hands out copies (or read-only results), every
sequence of creating arrays, calling cached functions, writing into returned results and
changing argument arrays — of any length, with any cache capacity (so also across evictions) —
produces exactly the outputs of the cache-free reference. -/
theorem refines {fl : Flags} (hg : fl.good) (ops : List Op) :
    (run fl {} ops).2.map Out.visible = (refRun fl.copyOut {} ops).2.map Out.visible :=
  refines_from hg ops (sim_init fl)

/-- in the reference every call returns the term of the *current* argument … -/
theorem ref_call_current (w : Bool) (r : RefState) (fn a : Nat) (arr : Arr) (h : r.arrs[a]? = some arr) :
    (refStep w r (.call fn a)).2 = .result (.app fn arr.val arr.shape arr.tag) arr.writable false := by
  simp [refStep, h]

/-- … and no step of the reference makes an argument array read-only -/
theorem ref_never_freezes (w : Bool) (r : RefState) (op : Op) (hw : ∀ a ∈ r.arrs, a.writable = true) :
    ∀ a ∈ (refStep w r op).1.arrs, a.writable = true := by
  cases op with
  | create v sh tag =>
    intro a ha; simp only [refStep] at ha
    rcases List.mem_append.mp ha with ha | ha
    · exact hw a ha
    · simp at ha; subst ha; rfl
  | call fn a => simp only [refStep]; split <;> exact hw
  | write k j => simp only [refStep]; split <;> exact hw
  | mutate a v =>
    simp only [refStep]
    split
    · exact hw
    · rename_i arr harr
      intro x hx
      rcases List.mem_or_eq_of_mem_set hx with hx | hx
      · exact hw x hx
      · subst hx; simpa using hw arr (List.mem_of_getElem? harr)

/-! ### The source has that mechanism -/

theorem mech_trs2llh : Generated.CacheMech.trs2llh.good := by decide
theorem mech_llh2trs : Generated.CacheMech.llh2trs.good := by decide
theorem mech_enu2trs : Generated.CacheMech.enu2trs.good := by decide
theorem mech_trs2enu : Generated.CacheMech.trs2enu.good := by decide
theorem mech_toScale : Generated.CacheMech.toScale.good := by decide

/-- the arrays handed out by the cached formats / properties of time objects (shared by all equal time objects) are made
read-only in place, member by member for tuple results (`gps_ws`) -/
theorem mech_time_results_frozen : Generated.CacheMech.timeResultsFrozenInPlace = true := by decide

-- `Generated.CacheMech.keyCopied` (HashArray copies a writable argument, which `Entry` of the model relies on: "the key
-- as it was when inserted") is regenerated as well, but no theorem reads it

/-- the process-wide caches under midgard/math and midgard/data are exactly the known ones: a new
`lru_cache` is a new obligation -/
theorem caches_known : Generated.CacheMech.cachedCallables =
    ["_time.TimeArray._jd_delta", "_time.TimeArray.day", "_time.TimeArray.doy", "_time.TimeArray.hour",
     "_time.TimeArray.jd_frac", "_time.TimeArray.jd_int", "_time.TimeArray.minute", "_time.TimeArray.mjd_frac", "_time.TimeArray.mjd_int",
     "_time.TimeArray.month", "_time.TimeArray.sec_of_day", "_time.TimeArray.second", "_time.TimeArray.year",
     "_time.TimeBase._to_scale", "_time.TimeBase.plot_fields", "_time.TimeBase.to_format",
     "_time.TimeDateTime._dt2jd", "_time.TimeDateTime._jd2dt", "_time.TimeDecimalYear._dy2jd",
     "_time.TimeDecimalYear._jd2dy", "_time.TimeDecimalYear._year2days", "_time.TimeDeltaArray.plot_fields",
     "_time.TimeStr._dt2str", "_time.TimeStr._str2dt", "_time.TimeYyDddSssss._jd2yds", "_time.TimeYyDddSssss._yds2jd",
     "_time.TimeYyyyDddSssss._jd2yds", "_time.TimeYyyyDddSssss._yds2jd", "rotation.enu2trs", "rotation.trs2enu",
     "transformation._llh2trs", "transformation._trs2llh"] := rfl

/-- of the self-keyed caches on the time classes, only these read the receiver's format without
keying it: the two `plot_fields` (lists of field names, no time values).  `min` / `max` / `mean` must not be among
them (their result carries the receiver's format: cached, `t_jd.max` followed by an equal-epoch `t_datetime.max`
returns a jd-format time), nor `to_scale`. -/
theorem fmt_dependent_known : Generated.CacheMech.fmtDependentSelfKeyed =
    ["TimeBase.plot_fields", "TimeDeltaArray.plot_fields"] := rfl

/-! ### The flags `keyShape`, `keyTag`, `copyOut`, `freezeArg` are necessary: model witnesses -/

/-- the mechanism of the source (the value of `Generated.CacheMech.trs2llh`), which each witness changes in one flag -/
def goodCopy : Flags := ⟨true, true, true, false, false, 128⟩

/-- key without shape: a (3,) and a (1,3) array of equal bytes share an entry — the second call
returns the result computed for the first shape -/
theorem witness_key_without_shape :
    (run { goodCopy with keyShape := false } {} [.create 7 .s3 0, .create 7 .s13 0, .call 0 0, .call 0 1]).2.map Out.visible
      ≠ (refRun true {} [.create 7 .s3 0, .create 7 .s13 0, .call 0 0, .call 0 1]).2.map Out.visible := by
  decide +kernel

/-- key without tag (`to_scale` ignoring the receiver's format) -/
theorem witness_key_without_tag :
    (run { goodCopy with keyTag := false } {} [.create 7 .s3 1, .create 7 .s3 2, .call 0 0, .call 0 1]).2.map Out.visible
      ≠ (refRun true {} [.create 7 .s3 1, .create 7 .s3 2, .call 0 0, .call 0 1]).2.map Out.visible := by
  decide +kernel

/-- results handed out without copy and not frozen: writing into one corrupts the next call -/
theorem witness_result_aliased :
    (run { goodCopy with copyOut := false } {} [.create 7 .s3 0, .call 0 0, .write 0 99, .call 0 0]).2.map Out.visible
      ≠ (refRun false {} [.create 7 .s3 0, .call 0 0, .write 0 99, .call 0 0]).2.map Out.visible := by
  decide +kernel

/-- the caller's array made read-only by the call -/
theorem witness_argument_frozen :
    (run { goodCopy with freezeArg := true } {} [.create 7 .s3 0, .call 0 0, .mutate 0 8]).2.map Out.visible
      ≠ (refRun true {} [.create 7 .s3 0, .call 0 0, .mutate 0 8]).2.map Out.visible := by
  decide +kernel

/-! ### Non-vacuity: a history with hits, eviction (capacity 2), writes and mutations -/

example : (run ⟨true, true, true, false, false, 2⟩ {}
      [.create 1 .s3 0, .create 2 .s3 0, .create 3 .s3 0, .call 0 0, .call 0 0, .write 1 5, .call 0 1, .call 0 2,
       .call 0 0, .mutate 0 9, .call 0 0]).2
    = [.created, .created, .created, .result (.app 0 1 .s3 0) true false, .result (.app 0 1 .s3 0) true true, .wrote,
       .result (.app 0 2 .s3 0) true false, .result (.app 0 3 .s3 0) true false,
       .result (.app 0 1 .s3 0) true false, .mutated, .result (.app 0 9 .s3 0) true false] := by decide +kernel

end Midgard.Props.C08

/-! ## Second machine: the per-object caches of position arrays

`Model/ObjCache.lean`: memory blocks, row views sharing memory, attached `other`, cached
conversions / derived quantities, `_dependent_objs`, `__setitem__` / `__setattr__` invalidation.
-/

namespace Midgard.Props.C08.Obj
open Midgard.ObjCache

/-- the mechanism of `_position.py`: transitive clearing, row views linked to their parent -/
def good : Flags := ⟨true, true⟩

/-- **One step**: with this mechanism every operation keeps the invariant (cached values
are snapshots of the current contents; objects sharing memory, and objects attached as `other`,
are connected through the dependency lists), and the two reads return what recomputation from the current
contents returns.  (For the other five operations the output equality is definitional: the reference `refStep` is
`step good` on them.) -/
theorem step_current {s : State} (hs : Inv s) (op : Op) :
    (step good s op).2 = (refStep s op).2 ∧ Inv (step good s op).1 := by
  cases op with
  | create vals => exact create_inv hs vals
  | view p rows => exact view_inv hs p rows
  | take p rows => exact take_inv hs p rows
  | setOther p q => exact setOther_inv hs p q
  | setItem p k v => exact setItem_inv hs p k v
  | readConv p => exact readConv_current hs p
  | readDer p => exact readDer_current hs p

/-- what recomputation from the current contents gives at every step of a history.  Not `refRun`: the reference run
never fills `conv`/`der`, so its states differ from the cached run's in the cache fields; `recomputed` reads `refStep`
on the states of the cached run, whose memory and windows are the same -/
def recomputed (s : State) : List Op → List Out
  | [] => []
  | op :: ops => (refStep s op).2 :: recomputed (step good s op).1 ops

theorem run_current {s : State} (hs : Inv s) (ops : List Op) :
    (run good s ops).2 = recomputed s ops ∧ Inv (run good s ops).1 := by
  induction ops generalizing s with
  | nil => exact ⟨rfl, hs⟩
  | cons op ops ih =>
    obtain ⟨h1, h2⟩ := step_current hs op
    simp only [run, recomputed]
    rw [h1, (ih h2).1]
    exact ⟨rfl, (ih h2).2⟩

/-- **Caching is invisible for every history**: after any sequence of creating arrays, taking row
views and copies, attaching / replacing `other`, item assignment (to an array, to a view of it, to
its `other` or a view of that) and reads, every read returns exactly the value recomputed from
the current contents. -/
theorem caching_invisible {s : State} (hs : Inv s) (ops : List Op) : (run good s ops).2 = recomputed s ops :=
  (run_current hs ops).1

theorem caching_invisible_from_start (ops : List Op) : (run good {} ops).2 = recomputed {} ops :=
  caching_invisible inv_empty ops

theorem inv_reachable (ops : List Op) : Inv (run good {} ops).1 :=
  (run_current inv_empty ops).2

/-- the source has that mechanism: the first two flags are the two fields of `good`; the other three are modelled
structurally — a delta is attached to its `ref_pos` like an `other` (`otherDep`), `setOther` on an attached object
clears the dependents first (`setOther_replacing_clears`), and every array on the memory of another is a linked `view` -/
theorem mech_objcache : Generated.CacheMech.objTransitive = true ∧ Generated.CacheMech.objViewsLinked = true ∧
    Generated.CacheMech.objRefPosRegistered = true ∧ Generated.CacheMech.objFinalizeLinked = true ∧
    Generated.CacheMech.objSetattrPropagates = true := by decide

/-! #### The tables of `_position.py`: who writes what -/

section Tables
open Midgard.ObjCache.Table

/-- **Every writer clears**: each method of `_position.py` that changes contents or attributes in place (`__setitem__`,
`__setattr__`, the overridden ndarray methods and the two NumPy hooks — whatever the source has) drops the cache(s) as
its first statement.  A setter that does not is a failed obligation; its name is the row of `Generated.CacheMech.mutators` with `false`. -/
theorem every_writer_clears : ∀ m ∈ Generated.CacheMech.mutators, m.clearsFirst = true := by decide

/-- the two entry points of the object machine (`setItem`, `setOther`) are overridden in `PosBase` (not vacuous: without
the overrides NumPy's own `__setitem__` would change the contents and nothing would be cleared) -/
theorem entry_points_present :
    (⟨"PosBase", "__setitem__", true⟩ : Mutator) ∈ Generated.CacheMech.mutators ∧
    (⟨"PosBase", "__setattr__", true⟩ : Mutator) ∈ Generated.CacheMech.mutators := by decide

/-- the other in-place routes that can be intercepted are intercepted: the ndarray methods `fill`, `sort`, `partition`,
`put`, `setfield`, `byteswap` are overridden on `PosBase`; `__array_wrap__` (called by NumPy on the `out=` array of a
ufunc) and `__array_function__` (`np.copyto`, `np.place`, `np.putmask`, `out=`) drop the caches of the array written
into.  Each of them clears first (`every_writer_clears`); removing one of the overrides is a failed obligation here. -/
theorem inplace_routes_intercepted :
    ∀ m ∈ ["__array_wrap__", "__array_function__", "fill", "sort", "partition", "put", "setfield", "byteswap"],
      (⟨"PosBase", m, true⟩ : Mutator) ∈ Generated.CacheMech.mutators := by decide

/-- **Cache entries are keyed by what they depend on**: every store into a per-object `_cache` happens in a method whose only
parameter besides `self` is (at most) the name of the target system — no entry is computed from another object handed in
as an argument (such an entry could not be invalidated: the argument does not know the object as a dependent). -/
theorem cache_entries_self_keyed : ∀ w ∈ Generated.CacheMech.cacheWrites, w.selfKeyed = true := by decide

/-- **No attribute is stored behind the back of `__setattr__`** (which clears the cache and registers the object as a
dependent of an attached `other` / `ref_pos`), except by `__setattr__` itself and by `clear_cache` resetting `_cache`. -/
theorem only_known_bypasses :
    Generated.CacheMech.attrWrites.filter AttrWrite.bypasses =
      [⟨"PosBase", "__setattr__", "key", "bypass"⟩, ⟨"PosBase", "clear_cache", "'_cache'", "bypass"⟩] := by decide

end Tables

/-- replacing or removing an attachment first drops the caches of everything that depends on the object, as the
code does (the unfolding of `step` for an object that has an `other`) -/
theorem setOther_replacing_clears (s : State) (p : Nat) (q : Option Nat) (po : Obj) (t : Nat) (hp : s.objs[p]? = some po)
    (ht : po.other = some t) :
    (step good s (.setOther p q)).1 =
      (setOtherCore { s with objs := clearCaches s.objs (clearSet good s p) } p q).1 := by
  simp [step, hp, ht]

/-- the model's `setItem` does what `every_writer_clears` reads off the source: the caches of the object written to
are dropped by the step itself, whatever they held -/
theorem setItem_clears_own (s : State) (p k : Nat) (v : Val) (po : Obj) (r : Nat) (hp : s.objs[p]? = some po)
    (hk : po.idx[k]? = some r) :
    ((step good s (.setItem p k v)).1.objs[p]?).map (fun o => (o.conv, o.der)) = some (none, none) := by
  have hlt : p < s.objs.length := (List.getElem?_eq_some_iff.mp hp).1
  have hmem : p ∈ clearSet good s p := (clearSet_closed s p hlt).1
  simp [step, hp, hk, clearCaches, hmem]

/-- without transitive clearing: writing through a view of a view leaves
the grandparent's cached conversion stale -/
theorem witness_not_transitive :
    (run ⟨false, true⟩ {} [.create [1, 2, 3, 4], .readConv 0, .view 0 [0, 1], .view 1 [0], .setItem 2 0 77, .readConv 0]).2
      ≠ recomputed {} [.create [1, 2, 3, 4], .readConv 0, .view 0 [0, 1], .view 1 [0], .setItem 2 0 77, .readConv 0] := by
  decide +kernel

/-- without linking row views to their parent: `s = p[0:2]; s[0] = x` leaves `p.llh` stale -/
theorem witness_views_unlinked :
    (run ⟨true, false⟩ {} [.create [1, 2, 3, 4], .readConv 0, .view 0 [0, 1], .setItem 1 0 77, .readConv 0]).2
      ≠ recomputed {} [.create [1, 2, 3, 4], .readConv 0, .view 0 [0, 1], .setItem 1 0 77, .readConv 0] := by
  decide +kernel

/-- non-vacuity: a history with `other`, views of both, writes through views and re-attachment -/
example : (run good {} [.create [1, 2, 3, 4], .create [9, 9, 9, 9], .setOther 0 (some 1), .readConv 0, .readDer 0,
      .view 0 [0, 1], .readDer 3, .setItem 2 0 5, .readDer 3, .readDer 0, .setItem 3 1 8, .readConv 0, .setOther 0 none,
      .readDer 0]).2
    = [.done, .done, .done, .conv [1, 2, 3, 4], .der [1, 2, 3, 4] [9, 9, 9, 9], .done, .der [1, 2] [9, 9], .done,
       .der [1, 2] [5, 9], .der [1, 2, 3, 4] [5, 9, 9, 9], .done, .conv [1, 8, 3, 4], .done, .bad] := by decide +kernel

/-- **Attachment chains of any depth** (the other of an other; the `ref_pos` of a delta and its own `other`): taking rows
of an object takes the same rows of every object along its chain; the invariant survives whatever the depth.
(`caching_invisible` above is stated for all histories of the machine whose `view` does this.) -/
theorem chain_view_keeps_invariant {s : State} (hs : Inv s) (rows : List Nat) (fuel p : Nat) (objs' : List Obj) (n : Nat)
    (h : pushChain good rows fuel s.objs p = some (objs', n)) : Inv { mems := s.mems, objs := objs' } ∧ n < objs'.length :=
  let r := pushChain_inv rows fuel s hs p objs' n h
  ⟨r.1, r.2.2⟩

/-- non-vacuity, depth 3 (a → b → c): one `view` makes three new objects (3: rows of c, 4: rows of b, 5: rows of a); a write
through the rows of c shows in what b, the rows of b and (nothing cached stale) the rows of a return -/
example : (run good {} [.create [1, 2, 3], .create [4, 5, 6], .create [7, 8, 9], .setOther 0 (some 1), .setOther 1 (some 2),
      .readDer 0, .readDer 1, .view 0 [0, 1], .readDer 5, .readDer 4, .setItem 3 0 77, .readDer 4, .readDer 1, .readDer 5,
      .setItem 4 1 55, .readDer 5, .readDer 0, .readConv 1]).2
    = [.done, .done, .done, .done, .done, .der [1, 2, 3] [4, 5, 6], .der [4, 5, 6] [7, 8, 9], .done, .der [1, 2] [4, 5],
       .der [4, 5] [7, 8], .done, .der [4, 5] [77, 8], .der [4, 5, 6] [77, 8, 9], .der [1, 2] [4, 5], .done,
       .der [1, 2] [4, 55], .der [1, 2, 3] [4, 55, 6], .conv [4, 55, 6]] := by decide +kernel

/-- a cyclic attachment has no finite chain: `view` is refused (the real `p[a:b]` ends in `RecursionError`), nothing changes -/
example : (run good {} [.create [1, 2], .create [3, 4], .setOther 0 (some 1), .setOther 1 (some 0), .view 0 [0], .readDer 0]).2
    = [.done, .done, .done, .done, .bad, .der [1, 2] [3, 4]] := by decide +kernel

end Midgard.Props.C08.Obj

/-! ## PosVel / Kepler-element objects: the `to_system` cache

The store of `Model/PosCache.lean` (property C07, validated against the real `PosVel(...).kepler / .trs` objects by
`./check C07`): objects with a system (`trs` | `kepler`), memory blocks, row views (`_share_memory_with` and the root
linking of `_link_shared_memory`), `_cache[<other system>]`, `convert_to` registering the source as a dependent of the
array it hands out, `__setitem__` with `_clear_dependent_caches`.  Its invariant `WF` holds in every history
(`wf_run`); here the C08 statement is drawn from it: what any history shows is what recomputation from the current
contents shows. -/

namespace Midgard.Props.C08.PosVel
open Midgard.Geo.PosCache

variable {A : Type} [Arr A]

/-- what a history shows: the values of the object every operation hands out (`None` for a write) -/
def observed (st : Store A) : List (Op A) → List (Option A)
  | [] => []
  | op :: ops => (step st op).2.map (contents (step st op).1) :: observed (step st op).1 ops

/-- the same read off the *current contents* only, without looking at any `_cache` -/
def recomputed (st : Store A) : List (Op A) → List (Option A)
  | [] => []
  | op :: ops =>
    (match op with
      | .new _ a => some a
      | .toSys o s => if o < st.n then some (if s = (st.obj o).sys then contents st o else Arr.conv s (contents st o)) else none
      | .view o k => if o < st.n then some (Arr.get k (contents st o)) else none
      | .take o k => if o < st.n then some (Arr.get k (contents st o)) else none
      | .set _ _ _ => none) :: recomputed (step st op).1 ops

/-- **caching is invisible for `PosVel` objects**: from a well-formed store, what any history of constructions,
conversions, views, copies and in-place writes shows is what recomputation from the current contents shows -/
theorem posvel_caching_invisible_from {st : Store A} (wf : WF st) (ops : List (Op A)) :
    observed st ops = recomputed st ops := by
  induction ops generalizing st with
  | nil => rfl
  | cons op ops ih =>
    simp only [observed, recomputed]
    rw [ih (wf_step wf op)]
    congr 1
    cases op with
    | new s a => simp [step, alloc_contents_new]
    | toSys o s =>
      by_cases ho : o < st.n
      · simp only [step, ho, if_true, Option.map_some]
        rw [(toSystem_spec wf ho s).1]
      · simp [step, ho]
    | view o k =>
      by_cases ho : o < st.n
      · simp only [step, ho, if_true, Option.map_some]
        rw [view_contents_new]
      · simp [step, ho]
    | take o k =>
      by_cases ho : o < st.n
      · simp [step, ho, take, alloc_contents_new]
      · simp [step, ho]
    | set o k v =>
      by_cases ho : o < st.n <;> simp [step, ho]

theorem posvel_caching_invisible (a : A) (ops : List (Op A)) : observed (empty a) ops = recomputed (empty a) ops :=
  posvel_caching_invisible_from (wf_empty a) ops

/-- non-vacuity (symbolic values): `orbit = PosVel(L0, 'trs'); k = orbit.kepler; r = orbit[a]; r[b] = L1` (a write through
a row view); `orbit.kepler` is then `trs2kepler` of the contents after the write, not the cached `k` -/
example : (observed (empty (Term.lit 9)) [Op.new .trs (.lit 0), .toSys 0 .kepler, .view 0 "a", .set 2 "b" (.lit 1), .toSys 0 .kepler]).map
      (Option.map Term.render)
    = [some "L0", some "C(k,L0)", some "G(a,L0)", none, some "C(k,P(a,P(b,L1,G(a,L0)),L0))"] := by decide +kernel

end Midgard.Props.C08.PosVel

#print axioms Midgard.Props.C08.refines_from
#print axioms Midgard.Props.C08.refines
#print axioms Midgard.Props.C08.ref_call_current
#print axioms Midgard.Props.C08.ref_never_freezes
#print axioms Midgard.Props.C08.mech_trs2llh
#print axioms Midgard.Props.C08.mech_llh2trs
#print axioms Midgard.Props.C08.mech_enu2trs
#print axioms Midgard.Props.C08.mech_trs2enu
#print axioms Midgard.Props.C08.mech_toScale
#print axioms Midgard.Props.C08.caches_known
#print axioms Midgard.Props.C08.fmt_dependent_known
#print axioms Midgard.Props.C08.witness_key_without_shape
#print axioms Midgard.Props.C08.witness_key_without_tag
#print axioms Midgard.Props.C08.witness_result_aliased
#print axioms Midgard.Props.C08.witness_argument_frozen
#print axioms Midgard.Props.C08.Obj.step_current
#print axioms Midgard.Props.C08.Obj.run_current
#print axioms Midgard.Props.C08.Obj.caching_invisible
#print axioms Midgard.Props.C08.Obj.caching_invisible_from_start
#print axioms Midgard.Props.C08.Obj.inv_reachable
#print axioms Midgard.Props.C08.Obj.mech_objcache
#print axioms Midgard.Props.C08.Obj.witness_not_transitive
#print axioms Midgard.Props.C08.Obj.witness_views_unlinked
#print axioms Midgard.Props.C08.Obj.every_writer_clears
#print axioms Midgard.Props.C08.Obj.entry_points_present
#print axioms Midgard.Props.C08.Obj.cache_entries_self_keyed
#print axioms Midgard.Props.C08.Obj.only_known_bypasses
#print axioms Midgard.Props.C08.Obj.setItem_clears_own
#print axioms Midgard.Props.C08.Obj.chain_view_keeps_invariant
#print axioms Midgard.Props.C08.PosVel.posvel_caching_invisible_from
#print axioms Midgard.Props.C08.PosVel.posvel_caching_invisible
#print axioms Midgard.Props.C08.mech_time_results_frozen
#print axioms Midgard.Props.C08.Obj.setOther_replacing_clears
#print axioms Midgard.Props.C08.Obj.inplace_routes_intercepted
