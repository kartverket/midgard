/-
C01 — Time-scale conversions agree with the defined offsets and are invertible.

Besides the theorems: the routes their statements speak of (`toTai`, `fromTai`, `expectedRoute`); the arithmetic of the model is tied to
the regenerated source with `src_tie_with` (`Proofs/SrcTieCore.lean`), its control flow by the lemmas of `Proofs/TimeSearch.lean`.  `T`, `C`, `G` are the tables regenerated from `/repo` on every run
(`Generated/TimeScaleTables.lean`): the TAI−UTC rows, the TT/TCG constants and the registered
hop set.  All statements are exact over `Rat` for every epoch; floating-point error of the
implementation is measured by the correspondence (harness/c01.py), not proved.
-/
import Midgard.Generated.TimeScaleTables
import Midgard.Spec.TaiUtcPublished
import Midgard.Generated.SourceExprsTime
import Midgard.Proofs.TimeSearch
import Midgard.Proofs.OptionMapM
import Midgard.Proofs.SrcTieCore

namespace Midgard.Props.C01
open Midgard.TimeScale Midgard.TimeArith

abbrev T : List Row := Generated.TimeScale.taiutc
abbrev C : Consts := Generated.TimeScale.consts
abbrev G : List Hop := Generated.TimeScale.hops

/-! ### The tables are the published / defined ones -/

/-- the repository's TAI−UTC table is, row for row, the IERS history (typed independently by
calendar date in `Spec/TaiUtcPublished.lean`) -/
theorem taiutc_eq_published : T = Spec.TaiUtc.rows := by decide +kernel

/-- every data line of `_taiutc.txt` has exactly the five columns -/
theorem taiutc_rows_complete : Generated.TimeScale.rowWidths.all (· == 5) = true := by decide +kernel

/-- sorted, contiguous, non-empty rows, drift ≥ 0, and the row starts are also ascending on the
TAI side -/
theorem taiutc_wf : WF T = true := by decide +kernel

/-- the table covers 1961-01-01 … 9999-12-31 without a gap -/
theorem taiutc_span : (T.head?.map (·.start)) = some (Spec.TaiUtc.jd0h 1961 1 1) ∧
    (T.getLast?.map (·.stop)) = some (Spec.TaiUtc.jd0h 9999 12 31) := by decide +kernel

/-- the defined constants: L_G = 6.969290134e-10, T₀ = 2443144.5003725 (split 2443144 + 0.5003725);
the boundary rounding tolerance is 1e-14 day (0.86 ns) -/
theorem constants_defined : C = ⟨6969290134 / 10^19, 2443144, 5003725 / 10^7, 1 / 10^14⟩ := by decide +kernel

/-- exactly the eight hops of the model are registered, each under the function of that name -/
theorem hops_registered :
    Generated.TimeScale.hopNames =
      [("utc", "tai", "_utc2tai"), ("tai", "utc", "_tai2utc"), ("tai", "tt", "_tai2tt"),
       ("tai", "gps", "_tai2gps"), ("tcg", "tt", "_tcg2tt"), ("gps", "tai", "_gps2tai"),
       ("tt", "tai", "_tt2tai"), ("tt", "tcg", "_tt2tcg")] ∧
    G = [(.utc, .tai), (.tai, .utc), (.tai, .tt), (.tai, .gps), (.tcg, .tt), (.gps, .tai),
         (.tt, .tai), (.tt, .tcg)] := ⟨rfl, rfl⟩

/-- `Unit.seconds2day` is within 2⁻⁶⁹ (one unit in the last place of a double of that size) of 1/86400, and `day2seconds`
is 86400 (the model divides by 86400 exactly) -/
theorem unit_factors : Generated.TimeScale.unit_day2seconds = 86400 ∧
    Generated.TimeScale.unit_seconds2day = Generated.TimeScale.unit_second2day ∧
    (Generated.TimeScale.unit_seconds2day - 1 / 86400) * 2 ^ 69 < 1 ∧
    (1 / 86400 - Generated.TimeScale.unit_seconds2day) * 2 ^ 69 < 1 := by decide +kernel

/-! ### The defining relations -/

/-- TAI−UTC equals the published value in force at that UTC instant: for every two-part date
whose instant lies in row `i`, the conversion adds `offset + (MJD − ref)·rate` seconds of that
row.  Boundaries are `start ≤ u < stop`; the last `tol` = 0.86 ns before `stop` are excluded here
because the code deliberately counts them as on the boundary (rounding guard). -/
theorem utc2tai_defining (j : JD) (i : Nat) (hi : i < T.length)
    (h1 : T[i].start ≤ j.inst) (h2 : j.inst + C.tol < T[i].stop) :
    (utc2tai T C.tol j).inst = j.inst + (T[i].offset + (j.inst - mjd0 - T[i].refMjd) * T[i].rate) / 86400 := by
  have ht : (0 : Rat) ≤ C.tol := by decide +kernel
  rw [utc2tai_inst_row T C.tol j _ (rowAt_utc taiutc_wf C.tol j i hi (by linarith) h2)]
  rfl

/-- TAI − GPS = 19 s -/
theorem gps_tai (j : JD) : (gps2tai j).inst = j.inst + 19 / 86400 ∧ (tai2gps j).inst = j.inst - 19 / 86400 := by
  simp only [gps2tai, tai2gps, JD.inst, gpsTaiDays, secPerDay]; constructor <;> ring

/-- TT − TAI = 32.184 s -/
theorem tt_tai (j : JD) :
    (tai2tt j).inst = j.inst + (32184 / 1000) / 86400 ∧ (tt2tai j).inst = j.inst - (32184 / 1000) / 86400 := by
  simp only [tai2tt, tt2tai, JD.inst, ttTaiDays, secPerDay]; constructor <;> ring

/-- TCG − TT = L_G/(1−L_G) · (TT − T₀) -/
theorem tcg_tt (c : Consts) (j : JD) :
    (tt2tcg c j).inst - j.inst = c.lG / (1 - c.lG) * (j.inst - (c.t0jd1 + c.t0jd2)) := by
  simp only [tt2tcg, tcgDt, JD.inst]; ring

/-- no hop touches the whole-day part `jd1` -/
theorem hop_keeps_jd1 (h : Hop) (f : JD → JD) (hf : hopFn T C h = some f) (j : JD) : (f j).jd1 = j.jd1 :=
  (hop_inst T C h f hf j).1

/-! ### Invertibility A → B → A -/

theorem gps_tai_inverse (j : JD) : tai2gps (gps2tai j) = j ∧ gps2tai (tai2gps j) = j := by
  cases j; simp only [gps2tai, tai2gps, JD.mk.injEq, true_and]; constructor <;> ring

theorem tt_tai_inverse (j : JD) : tt2tai (tai2tt j) = j ∧ tai2tt (tt2tai j) = j := by
  cases j; simp only [tai2tt, tt2tai, JD.mk.injEq, true_and]; constructor <;> ring

theorem tcg_tt_inverse (c : Consts) (hc : c.lG ≠ 1) (j : JD) :
    (tcg2tt c (tt2tcg c j)).inst = j.inst ∧ (tt2tcg c (tcg2tt c j)).inst = j.inst := by
  have h : (1 - c.lG) ≠ 0 := sub_ne_zero.mpr (Ne.symm hc)
  simp only [tt2tcg, tcg2tt, tcgDt, JD.inst]
  constructor <;> field_simp <;> ring

/-- UTC → TAI → UTC returns the same instant, exactly, for every UTC label of the table that
really occurred and is not within the 0.86 ns rounding guard before a boundary (`UtcOK`: all labels except the 0.05 s /
0.1 s skipped by the two negative steps of 1961-08-01 and 1968-02-01, and the last `tol` of every row). -/
theorem tai2utc_utc2tai (j : JD) (hok : UtcOK T C.tol j.inst) :
    (tai2utc T C.tol (utc2tai T C.tol j)).inst = j.inst :=
  tai2utc_utc2tai_inst taiutc_wf (by decide +kernel) j hok

/-- TAI → UTC → TAI returns the same instant, exactly, for every TAI instant of the table that
does not fall inside an inserted step (the exclusion the property grants) nor within the 0.86 ns rounding guard before a boundary. -/
theorem utc2tai_tai2utc (j : JD) (hok : TaiOK T C.tol j.inst) :
    (utc2tai T C.tol (tai2utc T C.tol j)).inst = j.inst :=
  utc2tai_tai2utc_inst taiutc_wf (by decide +kernel) j hok

/-- only the rows ending 1961-08-01 and 1968-02-01 are followed by a negative step; in every other row each label more than
`tol` before the row's end is `UtcOK` (`utcOK_of_step_nonneg`) -/
theorem negative_steps :
    (List.range (T.length - 1)).filter
      (fun i => !decide ((T.getD i default).stop + (T.getD i default).deltaDays (T.getD i default).stop
                  ≤ taiStart (T.getD (i + 1) default))) = [0, 11] := by decide +kernel

/-! ### Routes and path independence -/

/-- the route through the tree of registered hops (hub `tai`, with `tcg` hanging off `tt`) -/
def toTai : Scale → List Hop
  | .utc => [(.utc, .tai)] | .tai => [] | .gps => [(.gps, .tai)] | .tt => [(.tt, .tai)]
  | .tcg => [(.tcg, .tt), (.tt, .tai)]
def fromTai : Scale → List Hop
  | .utc => [(.tai, .utc)] | .tai => [] | .gps => [(.tai, .gps)] | .tt => [(.tai, .tt)]
  | .tcg => [(.tai, .tt), (.tt, .tcg)]
def expectedRoute : Scale → Scale → List Hop
  | .tt, .tcg => [(.tt, .tcg)]
  | .tcg, .tt => [(.tcg, .tt)]
  | a, b => if a = b then [] else toTai a ++ fromTai b

/-- every ordered pair of scales has a route, and it is the tree path (breadth-first search over
the regenerated hop set, evaluated by the kernel for all 25 pairs) -/
theorem route_total (a b : Scale) : route G a b = some (expectedRoute a b) := by
  cases a <;> cases b <;> decide +kernel

theorem route_hops_registered (a b : Scale) : ∀ h ∈ expectedRoute a b, (hopFn T C h).isSome = true := by
  cases a <;> cases b <;> decide +kernel

/-- conversion is defined for every pair and epoch, keeps `jd1`, and acts on the instant as the
composition of the hop relations along the route -/
theorem convert_spec (a b : Scale) (j : JD) :
    ∃ j', convert T C G a b j = some j' ∧ j'.jd1 = j.jd1 ∧ j'.inst = routeI T C (expectedRoute a b) j.inst := by
  obtain ⟨j', h1, h2, h3⟩ := foldlM_route T C (expectedRoute a b) (route_hops_registered a b) j
  exact ⟨j', by simp only [convert, route_total, Option.bind_eq_bind, Option.bind_some]; exact h1, h2, h3⟩

/-- arrays: element `i` of the result is the conversion of element `i` -/
theorem convertArr_get (a b : Scale) (js : List JD) :
    ∃ out, convertArr T C G a b js = some out ∧ out.length = js.length ∧
      ∀ i (h : i < js.length) (h' : i < out.length), convert T C G a b js[i] = some out[i] := by
  -- every epoch converts (`convert_spec`), so the `mapM` is the `map` of the converted epochs
  have hall : ∀ j : JD, convert T C G a b j = some ((convert T C G a b j).getD j) := fun j => by
    obtain ⟨j', hj, -⟩ := convert_spec a b j
    rw [hj]; rfl
  refine ⟨js.map fun j => (convert T C G a b j).getD j, mapM_eq_some_map _ _ js fun j _ => hall j, List.length_map _, ?_⟩
  intro i h h'
  rw [List.getElem_map]
  exact hall _

theorem hopI_gps (x : Rat) : hopI T C (.tai, .gps) (hopI T C (.gps, .tai) x) = x ∧
    hopI T C (.gps, .tai) (hopI T C (.tai, .gps) x) = x :=
  ⟨hopI_cancel rfl rfl x (by rw [(gps_tai_inverse _).1]), hopI_cancel rfl rfl x (by rw [(gps_tai_inverse _).2])⟩

theorem hopI_tt (x : Rat) : hopI T C (.tai, .tt) (hopI T C (.tt, .tai) x) = x ∧
    hopI T C (.tt, .tai) (hopI T C (.tai, .tt) x) = x :=
  ⟨hopI_cancel rfl rfl x (by rw [(tt_tai_inverse _).2]), hopI_cancel rfl rfl x (by rw [(tt_tai_inverse _).1])⟩

theorem lG_ne_one : C.lG ≠ 1 := by decide +kernel

theorem hopI_tcg (x : Rat) : hopI T C (.tcg, .tt) (hopI T C (.tt, .tcg) x) = x ∧
    hopI T C (.tt, .tcg) (hopI T C (.tcg, .tt) x) = x :=
  ⟨hopI_cancel rfl rfl x (tcg_tt_inverse C lG_ne_one _).1, hopI_cancel rfl rfl x (tcg_tt_inverse C lG_ne_one _).2⟩

theorem hopI_utc_of_ok (x : Rat) (hok : UtcOK T C.tol x) : hopI T C (.tai, .utc) (hopI T C (.utc, .tai) x) = x :=
  hopI_cancel rfl rfl x (tai2utc_utc2tai ⟨x, 0⟩ (by simpa [JD.inst] using hok))

theorem hopI_tai_of_ok (x : Rat) (hok : TaiOK T C.tol x) : hopI T C (.utc, .tai) (hopI T C (.tai, .utc) x) = x :=
  hopI_cancel rfl rfl x (utc2tai_tai2utc ⟨x, 0⟩ (by simpa [JD.inst] using hok))

/-! Every route is the way up to the hub `tai` followed by the way down from it (`route_through_hub`), and a way down
followed by the same way up, or the other way round, cancels (`up_down`, `down_up`): that is why all routes agree. -/

theorem expectedRoute_self (a : Scale) : expectedRoute a a = [] := by cases a <;> rfl

-- one `simp only` for the 25 pairs of scales: each pair uses some of its lemmas, and most are closed by it
set_option linter.unusedSimpArgs false in
set_option linter.unnecessarySeqFocus false in
/-- a route is the way to `tai` and the way from it (the direct hops `tt ↔ tcg` save a detour that cancels); only
`utc → utc` is excluded, where the detour would need `UtcOK` -/
theorem route_through_hub (a b : Scale) (h : ¬ (a = .utc ∧ b = .utc)) (x : Rat) :
    routeI T C (expectedRoute a b) x = routeI T C (fromTai b) (routeI T C (toTai a) x) := by
  have g := fun y => hopI_gps y
  have t := fun y => hopI_tt y
  have c := fun y => hopI_tcg y
  cases a <;> cases b <;>
    simp only [expectedRoute, toTai, fromTai, routeI, List.nil_append, List.cons_append, reduceCtorEq, ↓reduceIte,
      (g _).1, (g _).2, (t _).1, (t _).2, (c _).1, (c _).2] <;>
    exact absurd ⟨rfl, rfl⟩ h

/-- down from the hub and up again is the identity (for `utc`: off the inserted steps) -/
theorem up_down (b : Scale) (y : Rat) (h : b = .utc → TaiOK T C.tol y) :
    routeI T C (toTai b) (routeI T C (fromTai b) y) = y := by
  cases b <;> simp only [toTai, fromTai, routeI, (hopI_gps _).2, (hopI_tt _).2, (hopI_tcg _).1]
  exact hopI_tai_of_ok y (h rfl)

/-- up to the hub and down again is the identity (for `utc`: on labels that occurred) -/
theorem down_up (a : Scale) (x : Rat) (h : a = .utc → UtcOK T C.tol x) :
    routeI T C (fromTai a) (routeI T C (toTai a) x) = x := by
  cases a <;> simp only [toTai, fromTai, routeI, (hopI_gps _).1, (hopI_tt _).1, (hopI_tcg _).2]
  exact hopI_utc_of_ok x (h rfl)

/-- **Path independence and invertibility**, all 125 two-hop routes: going A → B → C gives
exactly the instant of A → C (with C = A: the identity).  Hypotheses only where the route passes
through UTC and back: the UTC label must be one that occurred (`h1`), resp. the TAI instant must
not lie inside an inserted step (`h2`). -/
theorem path_independent (a b c : Scale) (x : Rat)
    (h1 : a = .utc → c = .utc → b ≠ .utc → UtcOK T C.tol x)
    (h2 : b = .utc → a ≠ .utc → c ≠ .utc → TaiOK T C.tol (routeI T C (toTai a) x)) :
    routeI T C (expectedRoute b c) (routeI T C (expectedRoute a b) x) = routeI T C (expectedRoute a c) x := by
  by_cases hab : a = b
  · subst hab; rw [expectedRoute_self]; rfl
  by_cases hbc : b = c
  · subst hbc; rw [expectedRoute_self]; rfl
  -- up from `a`, down to `b` and up again (cancels), down to `c`
  rw [route_through_hub a b (fun h => hab (h.1.trans h.2.symm)), route_through_hub b c (fun h => hbc (h.1.trans h.2.symm)),
    up_down b _ fun hb => h2 hb (fun ha => hab (ha.trans hb.symm)) (fun hc => hbc (hb.trans hc.symm))]
  by_cases hac : a = c
  · subst hac
    rw [expectedRoute_self]
    exact down_up a x fun ha => h1 ha ha fun hb => hab (ha.trans hb.symm)
  · exact (route_through_hub a c (fun h => hac (h.1.trans h.2.symm)) x).symm

/-! ### Non-vacuity: the hypotheses are met by concrete epochs -/

-- the fields of `UtcOK` / `TaiOK` after the row index: the index is in the table; the row has started; it has not ended
-- (more than `tol` to go); the next row has not started on the TAI side (row 40 is the last one: there is no next row)
/-- 2017-01-01 0h UTC (the instant of the last leap second boundary) is a real label … -/
example : UtcOK T C.tol (4915509 / 2) :=
  ⟨40, by decide +kernel, by decide +kernel, by decide +kernel, fun h => absurd h (by decide +kernel)⟩
/-- … and so is the last microsecond before it (row 39, offset 36 s) -/
example : UtcOK T C.tol (4915509 / 2 - 1 / 86400000000) :=
  ⟨39, by decide +kernel, by decide +kernel, by decide +kernel, by decide +kernel⟩
/-- TAI 2017-01-01 00:00:37 (the first instant after the inserted second) is not inside a step -/
example : TaiOK T C.tol (4915509 / 2 + 37 / 86400) :=
  ⟨40, by decide +kernel, by decide +kernel, by decide +kernel, fun h => absurd h (by decide +kernel)⟩
example : (utc2tai T C.tol ⟨4915509 / 2, 0⟩).inst - 4915509 / 2 = 37 / 86400 := by decide +kernel
example : (utc2tai T C.tol ⟨4915507 / 2, 86399999999 / 86400000000⟩).inst
    - (4915507 / 2 + 86399999999 / 86400000000) = 36 / 86400 := by decide +kernel

/-! ### The model is the source (regenerated on every run)

`Generated/SourceExprsTime.lean` is written by `translator/extract_exprs.py` from the Python `ast` of `_time.py` in
the tree under test: the arithmetic of `delta_tai_utc` (both branches), of the row starts expressed in TAI, of the
"row has started" test of `_taiutc_idx`, of `delta_tai_tt`, `delta_gps_tai`, `delta_tcg_tt` (both branches each) and
of the eight registered hop functions, statement by statement.  The theorems of this section say that the model
definitions every other theorem of this file is about are *equal* (over ℚ) to those regenerated definitions, with
`Unit.seconds2day = 1/86400`.  The control flow around that arithmetic — the NumPy row selection (`np.sum(… >= 0) - 1`,
`np.maximum`), the route search and `to_scale`'s folding of the hops — is regenerated as well (`Generated/SourceTimeFlow.lean`,
second half of this section).  Hand-modelled and tied by the correspondence only: NumPy's broadcasting of the row test
over arrays of epochs (modelled as `map`; the translator checks the axis pattern `[..., None]` / `axis=-1`), the memoisation of
routes in `_CONVERSION_HOPS` and of results in `lru_cache` (C08). -/
section Source
open Midgard.Generated

/-- `Unit.seconds2day` is the reciprocal of the day length the model divides by -/
def s2d : Rat := 1 / secPerDay

theorem source_delta_tai_utc (r : Row) (mjd : Rat) :
    SrcTime.deltaTaiUtcOfUtcSrc r.offset r.refMjd r.rate mjd s2d = r.deltaAt mjd / secPerDay ∧
    SrcTime.deltaTaiUtcOfTaiSrc r.offset r.refMjd r.rate mjd s2d
      = (0 - (r.offset + (mjd - r.refMjd) * r.rate) / (1 + r.rate / secPerDay)) / secPerDay ∧
    SrcTime.rowStartDeltaSrc r.start r.offset r.refMjd r.rate s2d = r.startDelta := by
  refine ⟨?_, ?_, ?_⟩ <;>
    src_tie_with [SrcTime.deltaTaiUtcOfUtcSrc, SrcTime.deltaTaiUtcOfTaiSrc, SrcTime.rowStartDeltaSrc, Row.deltaAt, Row.startDelta, s2d, secPerDay, mjd0]

theorem source_row_started (r : Row) (tol : Rat) (j : JD) :
    (SrcTime.rowStartedSrc j.jd1 j.jd2 r.start 0 tol = decide (0 ≤ (j.jd1 - r.start) + j.jd2 + tol)) ∧
    (SrcTime.rowStartedSrc j.jd1 j.jd2 r.start r.startDelta tol = decide (0 ≤ (j.jd1 - r.start) + j.jd2 - r.startDelta + tol)) := by
  constructor <;> (simp only [SrcTime.rowStartedSrc, ge_iff_le, decide_eq_decide]; try ring_nf)

theorem source_constant_offsets :
    SrcTime.deltaTaiTtOfTaiSrc s2d = ttTaiDays ∧ SrcTime.deltaTaiTtOfTtSrc s2d = -ttTaiDays ∧
    SrcTime.deltaGpsTaiOfGpsSrc s2d = gpsTaiDays ∧ SrcTime.deltaGpsTaiOfTaiSrc s2d = -gpsTaiDays := by
  refine ⟨?_, ?_, ?_, ?_⟩ <;>
    src_tie_with [SrcTime.deltaTaiTtOfTaiSrc, SrcTime.deltaTaiTtOfTtSrc, SrcTime.deltaGpsTaiOfGpsSrc, SrcTime.deltaGpsTaiOfTaiSrc, ttTaiDays, gpsTaiDays, s2d, secPerDay]

theorem source_delta_tcg_tt (c : Consts) (j : JD) :
    SrcTime.deltaTcgTtOfTtSrc j.jd1 j.jd2 c.t0jd1 c.t0jd2 c.lG = c.lG / (1 - c.lG) * tcgDt c j ∧
    SrcTime.deltaTcgTtOfTcgSrc j.jd1 j.jd2 c.t0jd1 c.t0jd2 c.lG = -(c.lG * tcgDt c j) := by
  refine ⟨?_, ?_⟩ <;> src_tie_with [SrcTime.deltaTcgTtOfTtSrc, SrcTime.deltaTcgTtOfTcgSrc, tcgDt]

/-- the eight registered hops: each keeps `jd1` and adds to `jd2` the delta function the source calls.  Every regenerated hop
takes the four deltas (tai−utc, tai−tt, tcg−tt, gps−tai) and reads one; `x1 … x4` stand for the three it does not read. -/
theorem source_hops (tbl : List Row) (c : Consts) (j : JD) (x1 x2 x3 x4 : Rat) :
    (let r := utc2tai tbl c.tol j; SrcTime.utc2taiSrc j.jd1 j.jd2 (deltaUtc tbl c.tol j) x2 x3 x4 = (r.jd1, r.jd2)) ∧
    (let r := tai2utc tbl c.tol j; SrcTime.tai2utcSrc j.jd1 j.jd2 (deltaTai tbl c.tol j) x2 x3 x4 = (r.jd1, r.jd2)) ∧
    (let r := tai2tt j; SrcTime.tai2ttSrc j.jd1 j.jd2 x1 (SrcTime.deltaTaiTtOfTaiSrc s2d) x3 x4 = (r.jd1, r.jd2)) ∧
    (let r := tt2tai j; SrcTime.tt2taiSrc j.jd1 j.jd2 x1 (SrcTime.deltaTaiTtOfTtSrc s2d) x3 x4 = (r.jd1, r.jd2)) ∧
    (let r := tt2tcg c j; SrcTime.tt2tcgSrc j.jd1 j.jd2 x1 x2 (SrcTime.deltaTcgTtOfTtSrc j.jd1 j.jd2 c.t0jd1 c.t0jd2 c.lG) x4 = (r.jd1, r.jd2)) ∧
    (let r := tcg2tt c j; SrcTime.tcg2ttSrc j.jd1 j.jd2 x1 x2 (SrcTime.deltaTcgTtOfTcgSrc j.jd1 j.jd2 c.t0jd1 c.t0jd2 c.lG) x4 = (r.jd1, r.jd2)) ∧
    (let r := gps2tai j; SrcTime.gps2taiSrc j.jd1 j.jd2 x1 x2 x3 (SrcTime.deltaGpsTaiOfGpsSrc s2d) = (r.jd1, r.jd2)) ∧
    (let r := tai2gps j; SrcTime.tai2gpsSrc j.jd1 j.jd2 x1 x2 x3 (SrcTime.deltaGpsTaiOfTaiSrc s2d) = (r.jd1, r.jd2)) := by
  have h := source_constant_offsets
  have g := source_delta_tcg_tt c j
  refine ⟨?_, ?_, ?_, ?_, ?_, ?_, ?_, ?_⟩ <;>
    src_tie_with [SrcTime.utc2taiSrc, SrcTime.tai2utcSrc, SrcTime.tai2ttSrc, SrcTime.tt2taiSrc, SrcTime.tt2tcgSrc, SrcTime.tcg2ttSrc,
       SrcTime.gps2taiSrc, SrcTime.tai2gpsSrc, utc2tai, tai2utc, tai2tt, tt2tai, tt2tcg, tcg2tt, gps2tai, tai2gps, h.1, h.2.1, h.2.2.1, h.2.2.2, g.1, g.2]

/-! #### Control flow (regenerated on every run by `translator/extract_timeflow.py` → `Generated/SourceTimeFlow.lean`)

The row selection of `_taiutc_idx` (`np.maximum(np.sum(<row has started>, axis=-1) - 1, 0)`, with the arguments each branch of
`delta_tai_utc` passes), the breadth-first search of `_find_conversion_hops` statement by statement, and `to_scale` /
`_to_scale` (own scale, registered direct hop, searched route, fold of the hop functions).  For every table, registry and pair
of scales the regenerated definitions are the model's `rowAt ∘ startedUtc/startedTai`, `bfs` (for every iteration bound), `route`
and `convert` (at the model's bound 64, which `route_bound_suffices` shows is never reached). -/

/-- the four table columns `_taiutc_idx` / `delta_tai_utc` read: start, offset, ref_epoch, factor -/
def rowCols (r : Row) : Rat × Rat × Rat × Rat := (r.start, r.offset, r.refMjd, r.rate)

/-- **row selection**: the row the model looks up (`rowAt` of the number of started rows) is `table[idx]` for the index the
source computes, in both branches of `delta_tai_utc` -/
theorem source_row_selection (tbl : List Row) (tol : Rat) (j : JD) :
    rowAt tbl (startedUtc tbl tol j) = Flow.rowOf tbl (SrcFlow.rowIndexOfUtcSrc (tbl.map rowCols) tol s2d j.jd1 j.jd2) ∧
    rowAt tbl (startedTai tbl tol j) = Flow.rowOf tbl (SrcFlow.rowIndexOfTaiSrc (tbl.map rowCols) tol s2d j.jd1 j.jd2) := by
  have hU : ∀ r : Row, SrcTime.rowStartedSrc j.jd1 j.jd2 r.start (0.0 : Rat) tol
      = decide (0 ≤ (j.jd1 - r.start) + j.jd2 + tol) := by
    intro r
    have h0 : (0.0 : Rat) = 0 := by norm_num
    rw [h0]; exact (source_row_started r tol j).1
  have hT : ∀ r : Row, SrcTime.rowStartedSrc j.jd1 j.jd2 r.start (SrcTime.rowStartDeltaSrc r.start r.offset r.refMjd r.rate s2d) tol
      = decide (0 ≤ (j.jd1 - r.start) + j.jd2 - r.startDelta + tol) := by
    intro r
    rw [(source_delta_tai_utc r 0).2.2]; exact (source_row_started r tol j).2
  constructor
  · simp only [SrcFlow.rowIndexOfUtcSrc, SrcFlow.taiutcIdxSrc, List.map_map, countTrue_map, rowOf_idx, rowAt, startedUtc,
      Function.comp_def, rowCols, hU]
  · simp only [SrcFlow.rowIndexOfTaiSrc, SrcFlow.taiutcIdxSrc, List.map_map, countTrue_map, rowOf_idx, rowAt, startedTai,
      Function.comp_def, rowCols, hT]

/-- **route search**: `_find_conversion_hops` as written in the source is the model's breadth-first search, for every
registry (any set of hops in any registration order), every pair of scales and every bound on the loop iterations -/
theorem source_route_search (g : List Hop) (a b : Scale) (fuel : Nat) :
    SrcFlow.findHopsSrc g a b fuel = if a = b then some [(a, b)] else bfs g b fuel [(a, [])] [] :=
  findHopsSrc_eq g a b fuel

/-- **`to_scale`**: the route it takes is the model's `route`, and what it returns is the model's `convert` (the fold of the
registered hop functions along that route) -/
theorem source_to_scale (tbl : List Row) (c : Consts) (g : List Hop) (a b : Scale) (j : JD) :
    SrcFlow.toScaleRouteSrc g a b 64 = route g a b ∧
    SrcFlow.toScaleSrc g (hopFn tbl c) a b 64 j = convert tbl c g a b j :=
  ⟨toScaleRouteSrc_eq g a b, toScaleSrc_eq tbl c g a b j⟩

/-- the bound of 64 loop iterations is never reached on the registered hop set: with 8 hops the search ends after at most
9 iterations for every pair (the route found with bound 9 is the route found with bound 64) -/
theorem route_bound_suffices (a b : Scale) : SrcFlow.toScaleRouteSrc G a b 9 = SrcFlow.toScaleRouteSrc G a b 64 := by
  cases a <;> cases b <;> decide +kernel

/-! #### The registry: nothing registered lies outside the theorems above

`Generated.SrcFlow.registerSites` lists every `@register_scale(…)` of the package (`ast` of midgard/**/*.py);
`Generated.TimeScale.scaleNames/hopNames` is what the imported module holds. -/

/-- the decorators of the source tree register exactly the five `TimeArray` scales with the eight hops of `hops_registered`,
and the five `TimeDeltaArray` scales with no conversion at all (a duration is never converted between scales: outside the
property); no other module registers a scale (there is no UT1, TDB, … in this tree) -/
theorem registry_complete :
    (SrcFlow.registerSites.filter (fun s => s.2.2.1 == "TimeArray")).map (fun s => (s.2.2.2.1, s.2.2.2.2))
      = [("utc", [("utc", "tai", "_utc2tai")]),
         ("tai", [("tai", "utc", "_tai2utc"), ("tai", "tt", "_tai2tt"), ("tai", "gps", "_tai2gps")]),
         ("tcg", [("tcg", "tt", "_tcg2tt")]), ("gps", [("gps", "tai", "_gps2tai")]),
         ("tt", [("tt", "tai", "_tt2tai"), ("tt", "tcg", "_tt2tcg")])] ∧
    (SrcFlow.registerSites.filter (fun s => s.2.2.1 != "TimeArray")).map (fun s => (s.2.2.1, s.2.2.2.1, s.2.2.2.2))
      = [("TimeDeltaArray", "utc", []), ("TimeDeltaArray", "tai", []), ("TimeDeltaArray", "tcg", []),
         ("TimeDeltaArray", "gps", []), ("TimeDeltaArray", "tt", [])] ∧
    SrcFlow.registerSites.all (fun s => s.1 == "midgard/data/_time.py") = true ∧
    Generated.TimeScale.scaleNames = ["utc", "tai", "tcg", "gps", "tt"] ∧
    Generated.TimeScale.deltaScaleNames = ["utc", "tai", "tcg", "gps", "tt"] ∧
    Generated.TimeScale.deltaHopCount = 0 ∧
    (SrcFlow.registerSites.flatMap (fun s => if s.2.2.1 == "TimeArray" then s.2.2.2.2 else [])).length
      = Generated.TimeScale.hopNames.length ∧
    (∀ h ∈ Generated.TimeScale.hopNames, h ∈ SrcFlow.registerSites.flatMap (fun s => s.2.2.2.2)) := by
  decide +kernel

/-- every registered hop is a hop the model has a function for -/
theorem registry_modelled : ∀ h ∈ G, (hopFn T C h).isSome = true := by decide +kernel

end Source

end Midgard.Props.C01

#print axioms Midgard.Props.C01.taiutc_eq_published
#print axioms Midgard.Props.C01.taiutc_rows_complete
#print axioms Midgard.Props.C01.taiutc_wf
#print axioms Midgard.Props.C01.taiutc_span
#print axioms Midgard.Props.C01.constants_defined
#print axioms Midgard.Props.C01.hops_registered
#print axioms Midgard.Props.C01.unit_factors
#print axioms Midgard.Props.C01.utc2tai_defining
#print axioms Midgard.Props.C01.gps_tai
#print axioms Midgard.Props.C01.tt_tai
#print axioms Midgard.Props.C01.tcg_tt
#print axioms Midgard.Props.C01.hop_keeps_jd1
#print axioms Midgard.Props.C01.gps_tai_inverse
#print axioms Midgard.Props.C01.tt_tai_inverse
#print axioms Midgard.Props.C01.tcg_tt_inverse
#print axioms Midgard.Props.C01.tai2utc_utc2tai
#print axioms Midgard.Props.C01.utc2tai_tai2utc
#print axioms Midgard.Props.C01.negative_steps
#print axioms Midgard.Props.C01.route_total
#print axioms Midgard.Props.C01.route_hops_registered
#print axioms Midgard.Props.C01.convert_spec
#print axioms Midgard.Props.C01.convertArr_get
#print axioms Midgard.Props.C01.hopI_gps
#print axioms Midgard.Props.C01.hopI_tt
#print axioms Midgard.Props.C01.lG_ne_one
#print axioms Midgard.Props.C01.hopI_tcg
#print axioms Midgard.Props.C01.hopI_utc_of_ok
#print axioms Midgard.Props.C01.hopI_tai_of_ok
#print axioms Midgard.Props.C01.expectedRoute_self
#print axioms Midgard.Props.C01.route_through_hub
#print axioms Midgard.Props.C01.up_down
#print axioms Midgard.Props.C01.down_up
#print axioms Midgard.Props.C01.path_independent
#print axioms Midgard.Props.C01.source_delta_tai_utc
#print axioms Midgard.Props.C01.source_row_started
#print axioms Midgard.Props.C01.source_constant_offsets
#print axioms Midgard.Props.C01.source_delta_tcg_tt
#print axioms Midgard.Props.C01.source_hops
#print axioms Midgard.Props.C01.source_row_selection
#print axioms Midgard.Props.C01.source_route_search
#print axioms Midgard.Props.C01.source_to_scale
#print axioms Midgard.Props.C01.route_bound_suffices
#print axioms Midgard.Props.C01.registry_complete
#print axioms Midgard.Props.C01.registry_modelled
