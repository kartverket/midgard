/-
C04 — Time arrays stay element-aligned, immutable and hash-consistent when derived.

Property theorems about `Model/TimeArrayHist.lean`.  `clear` is the mechanism parameter read off
the source by the translator (`Generated/TimeArrayMech.lean`): does `__getitem__` clear the
`_jd*_sliced` side channel once it has been handed over?  Under `HInv`, writing the side channel and clearing it again
restores the parent (`set_back`), so every operation leaves `h ++ new` with `new` good (`Adds`, `step_adds`); invariant
(`inv_step`, `inv_run`), frame (`step_extends`, `array_stable_under_reads`) and hash stability are read off that one fact.
-/
import Midgard.Proofs.TimeArrayLists
import Midgard.Proofs.Lists
import Midgard.Generated.TimeArrayMech

namespace Midgard.Props.C04
open Midgard.TimeArrayHist Midgard.Proofs.TimeArrayLists

/-- the array is element-aligned and carries no left-over side channel -/
def Good (a : Arr) : Prop := a.pending = none ∧ a.vals = a.jd1 ∧ a.jd1 = a.jd2

/-- heap invariant: every array that exists is `Good` -/
def HInv (h : Heap) : Prop := ∀ a ∈ h, Good a

def Out.aligned : Out → Prop
  | .arr o => o.aligned
  | .many os => ∀ o ∈ os, o.aligned
  | .error => True
  | .plain _ => True

/-! ### The source clears the side channel -/

/-- the translator's reading of `__getitem__` in `midgard/data/_time.py` (AST, every run): `_jd1_sliced/_jd2_sliced` are
cleared once they have been handed over; this is the `clear = true` of the theorems below.  The other two flags of
`Generated/TimeArrayMech.lean` are not read: the model assumes both (`finalize` reads the side channel, `getEll` sets it). -/
theorem mechanism_clears : Generated.TimeArrayMech.clearsSideChannel = true := by decide

/-! ### One step: only good arrays are added -/

theorem good_of_getElem? {h : Heap} (hh : HInv h) {t : Nat} {a : Arr} (ha : h[t]? = some a) : Good a :=
  hh a (List.mem_of_getElem? ha)

theorem hinv_append {h new : Heap} (hh : HInv h) (hn : ∀ a ∈ new, Good a) : HInv (h ++ new) :=
  fun a ha => (List.mem_append.mp ha).elim (hh a) (hn a)

theorem good_singleton {r : Arr} (hr : Good r) : ∀ a ∈ [r], Good a :=
  fun _ ha => List.mem_singleton.mp ha ▸ hr

/-- writing the side channel and clearing it again gives back the array -/
theorem set_back {h : Heap} (hh : HInv h) (t : Nat) (a : Arr) (ha : h[t]? = some a) (p : List Nat × List Nat) :
    setAt h t (afterGet true { a with pending := some p }) = h := by
  have hsame : afterGet true { a with pending := some p } = a := by
    obtain ⟨hp, -, -⟩ := good_of_getElem? hh ha
    cases a
    cases hp
    rfl
  rw [hsame]
  exact Lists.set_getElem?_self ha

theorem good_sel {a : Arr} (ha : Good a) (ps : List Nat) (sc : Bool) : Good (a.sel ps sc) :=
  ⟨rfl, rfl, by rw [Arr.sel, ha.2.2]⟩

/-- the outcome of an operation on the heap `h` that left every array as it was, added only good arrays and returned
something aligned -/
def Adds (h : Heap) (r : Res) : Prop := ∃ new, r.heap = h ++ new ∧ (∀ a ∈ new, Good a) ∧ Out.aligned r.out

theorem Adds.nothing {h : Heap} {o : Out} (k : List Hook) (ho : Out.aligned o := by trivial) : Adds h ⟨h, o, k⟩ :=
  ⟨[], (List.append_nil h).symm, nofun, ho⟩

theorem Adds.one {h : Heap} {r : Arr} (hr : Good r) (k : List Hook) : Adds h ⟨h ++ [r], .arr r.obs, k⟩ :=
  ⟨[r], rfl, good_singleton hr, hr.2⟩

theorem Adds.unchanged {h : Heap} {r : Res} (e : r.heap = h ∧ r.out = .error) : Adds h r :=
  ⟨[], by rw [e.1, List.append_nil], nofun, by rw [e.2]; trivial⟩

theorem getIntStep_good {h : Heap} (hh : HInv h) {t : Nat} {a : Arr} (ha : h[t]? = some a) (hs : a.scalar = false) (i : Int) :
    getIntStep true h t i = (h, (normIdx a.jd1.length i).map fun k => a.sel [k] true) := by
  unfold getIntStep
  simp only [ha]
  -- `rw`, not `simp only [hs]`: `set_back` below has to find `{ a with pending := … }` with `a.scalar` still in it
  rw [if_neg (by rw [hs]; exact Bool.false_ne_true)]
  cases normIdx a.jd1.length i with
  | none => rfl
  | some k => simp only [set_back hh t a ha]; rfl

/-- The loop body is the one of `step`, written again: the two are equal by unfolding only, so the lemma is applied with
`exact` / `refine`, not rewritten with. -/
theorem iter_fold {a : Arr} (hs : a.scalar = false) (t : Nat) (ks : List Nat) (hks : ∀ k ∈ ks, k < a.jd1.length) :
    ∀ (g : Heap) (acc : List Obs), HInv g → g[t]? = some a →
      ks.foldl
        (fun (acc : Heap × List Obs) (k : Nat) =>
          match getIntStep true acc.1 t (k : Int) with
          | (h', some r) => (h' ++ [r], acc.2 ++ [r.obs])
          | (h', none) => (h', acc.2))
        (g, acc) = (g ++ ks.map fun k => a.sel [k] true, acc ++ ks.map fun k => (a.sel [k] true).obs) := by
  induction ks with
  | nil => intro g acc _ _; simp
  | cons k ks ih =>
    intro g acc hg hga
    have hn := normIdx_natCast (hks k List.mem_cons_self)
    simp only [List.foldl_cons, getIntStep_good hg hga hs, hn, Option.map_some]
    -- the heap has grown by the element, which leaves `a` where it is
    rw [ih (fun k' hk' => hks k' (List.mem_cons_of_mem _ hk')) _ _
      (hinv_append hg (good_singleton (good_sel (good_of_getElem? hg hga) [k] true)))
      (by rw [List.getElem?_append_left (List.getElem?_eq_some_iff.mp hga).1]; exact hga)]
    simp

/-- an index NumPy refuses after `__getitem__` has sliced the jd parts leaves *nothing* behind: the heap is what
it was (this is what the `finally` is for) -/
theorem getBad_no_trace {h : Heap} (hh : HInv h) (t : Nat) (f : First) :
    (step true h (.getBad t f)).heap = h ∧ (step true h (.getBad t f)).out = .error := by
  simp only [step]
  cases ha : h[t]? with
  | none => exact ⟨rfl, rfl⟩
  | some a =>
    simp only
    split_ifs
    · exact ⟨rfl, rfl⟩
    · exact ⟨rfl, rfl⟩
    · cases f.positions a.jd1.length with
      | none => exact ⟨rfl, rfl⟩
      | some pj => simp only [set_back hh t a ha]; exact ⟨trivial, trivial⟩

/-- **Frame and invariant of one operation** (`clear = true`): every array that existed is exactly what it was
(values, jd parts, format, class, and no side channel), what is added is aligned and free of left-over side channel,
and so is what is returned. -/
theorem step_adds {h : Heap} (hh : HInv h) (op : Op) : Adds h (step true h op) := by
  cases op with
  | getInt t i =>
    simp only [step]
    cases ha : h[t]? with
    | none => simp only [getIntStep, ha]; exact .nothing _
    | some a =>
      by_cases hs : a.scalar = true
      · simp only [getIntStep, ha, hs, if_true]; exact .nothing _
      · rw [getIntStep_good hh ha (Bool.eq_false_iff.mpr hs)]
        cases normIdx a.jd1.length i with
        | none => exact .nothing _
        | some k => exact .one (good_sel (good_of_getElem? hh ha) [k] true) _
  | getSel t s =>
    simp only [step]
    cases ha : h[t]? with
    | none => exact .nothing _
    | some a =>
      have hg := good_of_getElem? hh ha
      simp only [set_back hh t a ha]
      simp only [hg.2.1]
      split_ifs
      · exact .nothing _
      · cases s.positions a.jd1.length with
        | none => exact .nothing _
        | some ps => simp only; exact .one (good_sel hg ps false) _
  | view t =>
    simp only [step]
    cases ha : h[t]? with
    | none => exact .nothing _
    | some a =>
      have hg := good_of_getElem? hh ha
      simp only [finalize_of_none hg.1]
      -- `by exact`: the new array is read off the goal before the proof that it is good is elaborated
      exact .one (by exact ⟨rfl, hg.2⟩) _
  | copy t =>
    simp only [step]
    cases ha : h[t]? with
    | none => exact .nothing _
    | some a => exact .one (by exact ⟨rfl, (good_of_getElem? hh ha).2⟩) _
  | subset t s =>
    simp only [step]
    cases ha : h[t]? with
    | none => exact .nothing _
    | some a =>
      have hg := good_of_getElem? hh ha
      simp only [hg.2.1]
      split_ifs
      · exact .nothing _
      · cases s.positions a.jd1.length with
        | none => exact .nothing _
        | some ps => exact .one (good_sel hg ps false) _
  | insert ta pos tb =>
    simp only [step]
    cases ha : h[ta]? with
    | none => exact .nothing _
    | some a =>
      cases hb : h[tb]? with
      | none => exact .nothing _
      | some b =>
        obtain ⟨-, hv, hj⟩ := good_of_getElem? hh ha
        obtain ⟨-, hv', hj'⟩ := good_of_getElem? hh hb
        simp only [hv, hv', ← hj, ← hj']
        split_ifs
        · exact .nothing _
        · cases insertAt pos a.jd1 b.jd1 with
          | none => exact .nothing _
          | some v => exact .one (by exact ⟨rfl, rfl, rfl⟩) _
  | scale t target =>
    simp only [step]
    cases ha : h[t]? with
    | none => exact .nothing _
    | some a =>
      have hg := good_of_getElem? hh ha
      simp only
      split_ifs
      · exact .one hg _
      · exact .one (by exact ⟨rfl, rfl, hg.2.2⟩) _
  | iter t =>
    simp only [step]
    cases ha : h[t]? with
    | none => exact .nothing _
    | some a =>
      simp only
      split_ifs with hs
      · exact .nothing _
      · have hg := good_of_getElem? hh ha
        have e := iter_fold (Bool.eq_false_iff.mpr hs) t _ (fun k hk => List.mem_range.mp hk) h [] hh ha
        refine ⟨_, congrArg Prod.fst e, fun b hb => ?_, fun o ho => ?_⟩
        · obtain ⟨k, -, rfl⟩ := List.mem_map.mp hb
          exact good_sel hg [k] true
        · obtain ⟨k, -, rfl⟩ := List.mem_map.mp (Eq.mp (congrArg (o ∈ ·) (congrArg Prod.snd e)) ho)
          exact (good_sel hg [k] true).2
  | set t => exact .nothing _
  | getBad t f => exact .unchanged (getBad_no_trace hh t f)
  | getEll t i =>
    simp only [step]
    cases ha : h[t]? with
    | none => exact .nothing _
    | some a =>
      have hg := good_of_getElem? hh ha
      simp only [set_back hh t a ha]
      simp only [hg.2.1]
      split_ifs
      · exact .nothing _
      · cases normIdx a.jd1.length i with
        | none => exact .nothing _
        | some k => simp only; exact .one (good_sel hg [k] true) _
  | same t =>
    simp only [step]
    cases ha : h[t]? with
    | none => exact .nothing _
    | some a => exact .one (good_of_getElem? hh ha) _
  | refused t f =>
    simp only [step]
    cases h[t]? <;> exact .nothing _
  | concat ts ap =>
    simp only [step]
    cases ts.mapM (h[·]?) <;> exact .nothing _

/-- **Invariant step**: with `clear = true` every operation keeps every array of the heap
aligned and free of left-over side channel, and what it returns is aligned. -/
theorem inv_step {h : Heap} (hh : HInv h) (op : Op) :
    HInv (step true h op).heap ∧ Out.aligned (step true h op).out := by
  obtain ⟨new, e, hn, ho⟩ := step_adds hh op
  exact ⟨e ▸ hinv_append hh hn, ho⟩

/-! ### Every reachable state, every operation sequence -/

theorem run_adds {h : Heap} (hh : HInv h) (ops : List Op) :
    ∃ new, (run true h ops).heap = h ++ new ∧ (∀ a ∈ new, Good a) ∧ ∀ o ∈ (run true h ops).outs, Out.aligned o := by
  induction ops generalizing h with
  | nil => exact ⟨[], (List.append_nil h).symm, nofun, nofun⟩
  | cons op ops ih =>
    obtain ⟨n1, e1, g1, o1⟩ := step_adds hh op
    obtain ⟨n2, e2, g2, o2⟩ := ih (e1 ▸ hinv_append hh g1)
    simp only [run]
    exact ⟨n1 ++ n2, by rw [e2, e1, List.append_assoc],
      fun a ha => (List.mem_append.mp ha).elim (g1 a) (g2 a), fun o ho => (List.mem_cons.mp ho).elim (· ▸ o1) (o2 o)⟩

/-- **Invariant for all histories**: starting from any heap of good arrays (freshly constructed ones are: `inv_init`),
after any sequence of operations every array in existence is aligned, and every value ever returned was. -/
theorem inv_run {h : Heap} (hh : HInv h) (ops : List Op) :
    HInv (run true h ops).heap ∧ ∀ o ∈ (run true h ops).outs, Out.aligned o := by
  obtain ⟨new, e, hn, ho⟩ := run_adds hh ops
  exact ⟨e ▸ hinv_append hh hn, ho⟩

theorem fresh_good (base n : Nat) : Good (fresh base n) := ⟨rfl, rfl, rfl⟩

theorem inv_init (specs : List (Nat × Nat)) : HInv (specs.map fun s => fresh s.1 s.2) := by
  intro a ha
  obtain ⟨s, _, rfl⟩ := List.mem_map.mp ha
  exact fresh_good _ _

/-! ### Derived arrays are selected by exactly the same indices -/

/-- `t[sel]` on an aligned array returns the values, `jd1` and `jd2` picked at the *same*
positions `sel` denotes for that length, and the length is the number of selected epochs -/
theorem getSel_is_index {h : Heap} (hh : HInv h) (t : Nat) (s : Sel) (a : Arr) (ha : h[t]? = some a)
    (hs : a.scalar = false) (ps : List Nat) (hps : s.positions a.vals.length = some ps) :
    (step true h (.getSel t s)).out = .arr ⟨pick a.vals ps, pick a.jd1 ps, pick a.jd2 ps, false, a.cls, a.fmt⟩ := by
  obtain ⟨hp, hv, hj⟩ := good_of_getElem? hh ha
  have hps' : s.positions a.jd1.length = some ps := by rw [← hv]; exact hps
  simp [step, ha, hs, hps, hps', finalize, Arr.obs]

theorem subset_is_index {h : Heap} (hh : HInv h) (t : Nat) (s : Sel) (a : Arr) (ha : h[t]? = some a)
    (hs : a.scalar = false) (ps : List Nat) (hps : s.positions a.vals.length = some ps) :
    (step true h (.subset t s)).out = .arr ⟨pick a.vals ps, pick a.jd1 ps, pick a.jd2 ps, false, a.cls, a.fmt⟩ := by
  obtain ⟨hp, hv, hj⟩ := good_of_getElem? hh ha
  have hps' : s.positions a.jd1.length = some ps := by rw [← hv]; exact hps
  simp [step, ha, hs, hps, hps', Arr.obs]

/-- `t[i]` returns the single epoch at position `i` (Python index rules) -/
theorem getInt_is_index {h : Heap} (hh : HInv h) (t : Nat) (i : Int) (a : Arr) (ha : h[t]? = some a)
    (hs : a.scalar = false) (k : Nat) (hk : normIdx a.jd1.length i = some k) :
    (step true h (.getInt t i)).out = .arr ⟨pick a.jd1 [k], pick a.jd1 [k], pick a.jd2 [k], true, a.cls, a.fmt⟩ := by
  simp only [step, getIntStep_good hh ha hs, hk]
  rfl

/-- `t[i, ...]` returns the same single epoch as `t[i]` (made along another route: a 0-d view with the hand-over) -/
theorem getEll_is_getInt {h : Heap} (hh : HInv h) (t : Nat) (i : Int) (a : Arr) (ha : h[t]? = some a)
    (hs : a.scalar = false) (k : Nat) (hk : normIdx a.jd1.length i = some k) :
    (step true h (.getEll t i)).out = (step true h (.getInt t i)).out := by
  obtain ⟨hp, hv, hj⟩ := good_of_getElem? hh ha
  simp [step, getIntStep, ha, hs, hk, finalize, Arr.obs, hv]

/-- what views and copies return: exactly the parent's three lists -/
theorem view_copy_same {h : Heap} (hh : HInv h) (t : Nat) (a : Arr) (ha : h[t]? = some a) :
    (step true h (.view t)).out = .arr a.obs ∧ (step true h (.copy t)).out = .arr a.obs := by
  obtain ⟨hp, _, _⟩ := good_of_getElem? hh ha
  simp [step, ha, finalize_of_none hp, Arr.obs]

/-- `insert(a, pos, b)` splices the epochs of `b` into those of `a` at `pos` — the same splice in values,
`jd1` and `jd2` -/
theorem insert_is_splice {h : Heap} (hh : HInv h) (ta tb : Nat) (pos : Int) (a b : Arr) (ha : h[ta]? = some a)
    (hb : h[tb]? = some b) (hs : a.scalar = false) (l : List Nat) (hl : insertAt pos a.vals b.vals = some l) :
    (step true h (.insert ta pos tb)).out = .arr ⟨l, l, l, false, a.cls, a.fmt⟩ := by
  obtain ⟨_, hv, hj⟩ := good_of_getElem? hh ha
  obtain ⟨_, hv', hj'⟩ := good_of_getElem? hh hb
  have h1 : insertAt pos a.jd1 b.jd1 = some l := by rw [← hv, ← hv']; exact hl
  have h2 : insertAt pos a.jd2 b.jd2 = some l := by rw [← hj, ← hj']; exact h1
  simp [step, ha, hb, hs, hl, h1, h2, Arr.obs]

/-- iteration yields exactly the epochs in order, each one aligned, and does not disturb the array -/
theorem iter_is_elements {h : Heap} (hh : HInv h) (t : Nat) (a : Arr) (ha : h[t]? = some a) (hs : a.scalar = false) :
    (step true h (.iter t)).out = .many ((List.range a.jd1.length).map
      (fun k => ⟨pick a.jd1 [k], pick a.jd1 [k], pick a.jd2 [k], true, a.cls, a.fmt⟩)) := by
  simp only [step, ha, hs, Bool.false_eq_true, if_false]
  exact congrArg Out.many (congrArg Prod.snd (iter_fold hs t _ (fun k hk => List.mem_range.mp hk) h [] hh ha))

/-! ### Heaps that look alike give the same outcome -/

/-- good arrays have no side channel, so good heaps that look alike (`obs`) position by position are the same heap -/
theorem heap_eq_of_obs {h h' : Heap} (hh : HInv h) (hh' : HInv h')
    (hsame : ∀ t : Nat, (h[t]?).map Arr.obs = (h'[t]?).map Arr.obs) : h = h' := by
  apply List.ext_getElem?
  intro t
  have e := hsame t
  cases ha : h[t]? with
  | none => rw [ha] at e; exact (Option.map_eq_none_iff.mp e.symm).symm
  | some a =>
    cases hb : h'[t]? with
    | none => rw [ha, hb] at e; cases e
    | some b =>
      rw [ha, hb] at e
      have p := (good_of_getElem? hh ha).1
      have p' := (good_of_getElem? hh' hb).1
      cases a; cases b; simp_all [Arr.obs]

set_option linter.unusedVariables false in -- `hnoiter`
/-- Two good heaps whose arrays look alike (`obs`) at *every* position give the same result for every operation.  Good
arrays carry no side channel, so the hypotheses make the two heaps equal: what the theorem adds to `inv_run` is only
that `obs` shows everything a good array has.  It does not say that the outcome is independent of the arrays an
operation does not name; `hnoiter` is not used. -/
theorem history_independent {h h' : Heap} (hh : HInv h) (hh' : HInv h') (op : Op)
    (hsame : ∀ t : Nat, (h[t]?).map Arr.obs = (h'[t]?).map Arr.obs) (hnoiter : ∀ t, op ≠ .iter t) :
    (step true h op).out = (step true h' op).out := by
  rw [heap_eq_of_obs hh hh' hsame]

/-! ### Immutability and hash consistency -/

/-- assignments are refused and change nothing -/
theorem set_rejected (clear : Bool) (h : Heap) (t : Nat) : step clear h (.set t) = ⟨h, .error, []⟩ := rfl

/-- any function of the two jd lists takes equal values on arrays with equal jd lists (congruence; `==` and `__hash__` as
the source has them are `pyEq_iff`, `eq_imp_hash_eq`) -/
theorem hash_eq {β} (H : List Nat → List Nat → β) (a b : Arr) (h : a.jd1 = b.jd1 ∧ a.jd2 = b.jd2) :
    H a.jd1 a.jd2 = H b.jd1 b.jd2 := by rw [h.1, h.2]

/-! ### Frame: every operation only appends to the heap -/

theorem step_extends {h : Heap} (hh : HInv h) (op : Op) : ∃ new, (step true h op).heap = h ++ new :=
  (step_adds hh op).imp fun _ hn => hn.1

theorem run_extends {h : Heap} (hh : HInv h) (ops : List Op) : ∃ new, (run true h ops).heap = h ++ new :=
  (run_adds hh ops).imp fun _ hn => hn.1

/-- **An array is never modified by anything done later**: whatever is read, sliced, converted or refused
afterwards, the array at heap position `t` is the array it was -/
theorem array_stable_under_reads {h : Heap} (hh : HInv h) (ops : List Op) (t : Nat) (a : Arr) (ha : h[t]? = some a) :
    (run true h ops).heap[t]? = some a := by
  obtain ⟨new, hn⟩ := run_extends hh ops
  have hlt : t < h.length := by
    by_contra hc; rw [List.getElem?_eq_none (by omega)] at ha; cases ha
  rw [hn, List.getElem?_append_left hlt]; exact ha

/-- the hash of an array (whatever attributes `__hash__` reads) is not changed by anything done later -/
theorem hash_stable_under_reads {β} (H : List AttrVal → β) (reads : List String) {h : Heap} (hh : HInv h)
    (ops : List Op) (t : Nat) (a : Arr) (ha : h[t]? = some a) :
    ((run true h ops).heap[t]?).map (fun x => H (hashKey reads x)) = some (H (hashKey reads a)) := by
  rw [array_stable_under_reads hh ops t a ha]; rfl

/-! ### `__eq__` and `__hash__` as the source has them -/

open Midgard.Generated.TimeArrayMech in
/-- everything `__hash__` reads is something `__eq__` demands to be equal (attribute lists regenerated from the AST) -/
theorem hash_reads_subset : ∀ x ∈ hashReads, x ∈ eqCompares := by decide

open Midgard.Generated.TimeArrayMech in
/-- `__hash__` is an expression of the attributes it reads and of nothing else (no memo, no global) -/
theorem hash_is_pure : hashPure = true := by decide

open Midgard.Generated.TimeArrayMech in
/-- arrays of different scale classes are never equal (`isinstance(other, self.__class__)`): the conversion
caches keyed through `__eq__` cannot confuse scales -/
theorem eq_compares_class : "__class__" ∈ eqCompares := by decide

open Midgard.Generated.TimeArrayMech in
/-- **Equal arrays have equal hashes**, for `__eq__` and `__hash__` as they are in the source and any hash function
of what `__hash__` reads -/
theorem eq_imp_hash_eq {β} (H : List AttrVal → β) (a b : Arr) (h : pyEq eqShapeGuard eqCompares a b = true) :
    H (hashKey hashReads a) = H (hashKey hashReads b) := by
  rw [hashKey_eq_of_pyEq eqShapeGuard eqCompares hashReads hash_reads_subset a b h]

open Midgard.Generated.TimeArrayMech in
/-- what `==` means in the source: same scale class, same shape, same jd parts — not the format, not the stored
values -/
theorem pyEq_iff (a b : Arr) : pyEq eqShapeGuard eqCompares a b = true ↔
    a.cls = b.cls ∧ a.scalar = b.scalar ∧ a.jd1 = b.jd1 ∧ a.jd2 = b.jd2 := by
  simp only [pyEq, eqShapeGuard, eqCompares, List.all_cons, List.all_nil, Arr.attr, Arr.shapeOf, Bool.and_true,
    Bool.and_eq_true, beq_iff_eq]
  simp only [String.reduceEq, if_true, if_false, or_false, AttrVal.nums.injEq, AttrVal.id.injEq,
    AttrVal.shape.injEq]
  constructor
  · rintro ⟨⟨h1, _⟩, h2, ⟨_, h3⟩, ⟨_, h4⟩⟩; exact ⟨h2, h1, h3, h4⟩
  · rintro ⟨h2, h1, h3, h4⟩; exact ⟨⟨h1, by rw [h3]⟩, h2, ⟨h2, h3⟩, ⟨h2, h4⟩⟩

/-! ### Different derivation paths to the same epochs give equal arrays -/

theorem getSel_step {h : Heap} (hh : HInv h) (t : Nat) (s : Sel) (a : Arr) (ha : h[t]? = some a)
    (hs : a.scalar = false) (ps : List Nat) (hps : s.positions a.vals.length = some ps) :
    (step true h (.getSel t s)).heap = h ++ [a.sel ps false] := by
  obtain ⟨hp, hv, hj⟩ := good_of_getElem? hh ha
  have hps' : s.positions a.jd1.length = some ps := by rw [← hv]; exact hps
  have hback := set_back hh t a ha (pick a.jd1 ps, pick a.jd2 ps)
  simp only [step, ha, hps, hps', finalize_handover, hback]
  simp [hs, hv, Arr.sel]

/-- **Selecting twice = selecting once.**  `t[s1][s2]` (slice of slice, mask of slice, …) is the very array
`t[[…]]` with the composed integer list gives — values, jd parts, class and format — so the two are `==` and hash alike. -/
theorem sel_of_sel_eq_direct {h : Heap} (hh : HInv h) (t : Nat) (s1 s2 : Sel) (a : Arr) (ha : h[t]? = some a)
    (hs : a.scalar = false) (ps qs : List Nat) (hps : s1.positions a.vals.length = some ps)
    (hqs : s2.positions ps.length = some qs) :
    ∃ r1 r, (run true h [.getSel t s1, .getSel h.length s2]).heap = h ++ [r1, r] ∧
      (step true h (.getSel t (.idx ((pick ps qs).map Int.ofNat)))).heap = h ++ [r] := by
  obtain ⟨hp, hv, hj⟩ := good_of_getElem? hh ha
  have hin : ∀ p ∈ ps, p < a.jd1.length := hv ▸ positions_lt s1 _ ps hps
  have e1 := getSel_step hh t s1 a ha hs ps hps
  have hh1 : HInv (h ++ [a.sel ps false]) := e1 ▸ (inv_step hh _).1
  have hr1 : (h ++ [a.sel ps false])[h.length]? = some (a.sel ps false) := by simp
  have e2 := getSel_step hh1 h.length s2 _ hr1 rfl qs (by simpa [Arr.sel, pick_length a.jd1 ps hin] using hqs)
  have hcomp : ∀ p ∈ pick ps qs, p < a.vals.length := fun p hp' => hv ▸ hin p (mem_of_mem_pick hp')
  have e3 := getSel_step hh t (.idx ((pick ps qs).map Int.ofNat)) a ha hs (pick ps qs) (idx_positions _ _ hcomp)
  refine ⟨a.sel ps false, _, ?_, e3⟩
  simp only [run, e1, e2, List.append_assoc, List.cons_append, List.nil_append]
  rw [Arr.sel_sel a ps qs false false hin (hj ▸ hin)]

/-- what a copy, a view and the object itself store: the very array, so they are `==` it and hash alike -/
theorem copy_view_eq {h : Heap} (hh : HInv h) (t : Nat) (a : Arr) (ha : h[t]? = some a) :
    (step true h (.copy t)).heap = h ++ [a] ∧ (step true h (.view t)).heap = h ++ [a] ∧ (step true h (.same t)).heap = h ++ [a] := by
  obtain ⟨hp, _, _⟩ := good_of_getElem? hh ha
  simp only [step, ha, finalize_of_none hp]
  cases a; simp_all

/-- converting to another scale and back gives an array `==` the original (possibly in another format: `gps_ws`
comes back as `jd`), hence with the same hash -/
theorem scale_round_trip_eq {h : Heap} (hh : HInv h) (t : Nat) (a : Arr) (ha : h[t]? = some a) (target : Nat)
    (hne : target ≠ a.cls) :
    ∃ r1 r, (run true h [.scale t target, .scale h.length a.cls]).heap = h ++ [r1, r] ∧
      pyEq Midgard.Generated.TimeArrayMech.eqShapeGuard Midgard.Generated.TimeArrayMech.eqCompares r a = true := by
  obtain ⟨hp, hv, hj⟩ := good_of_getElem? hh ha
  refine ⟨{ vals := a.jd1, jd1 := a.jd1, jd2 := a.jd2, scalar := a.scalar, cls := target, fmt := fmtAfterScale a.fmt target },
    { vals := a.jd1, jd1 := a.jd1, jd2 := a.jd2, scalar := a.scalar, cls := a.cls, fmt := fmtAfterScale (fmtAfterScale a.fmt target) a.cls }, ?_, ?_⟩
  · simp only [run, step, ha, hne, if_false]
    simp [Ne.symm hne]
  · rw [pyEq_iff]; exact ⟨rfl, rfl, rfl, rfl⟩

/-! ### The mechanism without the clearing is *not* aligned -/

/-- with `clear = false`: slice, then take a view — the view
carries 5 values but the 2 jd parts of the earlier slice -/
theorem unrepaired_misaligns :
    (run false [fresh 0 5] [.getSel 0 (.slice (some 1) (some 3) 1), .view 0]).outs
      = [.arr ⟨[1, 2], [1, 2], [1, 2], false, 0, 0⟩, .arr ⟨[0, 1, 2, 3, 4], [1, 2], [1, 2], false, 0, 0⟩] := by
  decide +kernel

/-- the clearing has to happen also when NumPy raises: with `clear = false`, an index NumPy refuses after the jd parts were sliced
(`g[2, 3]` on a three-column array) leaves them on `g`, and the next view carries 5 values next to the jd parts of that one epoch -/
theorem unrepaired_refused_index_misaligns :
    (run false [fresh 0 5 2 2] [.getBad 0 (.int 2), .view 0]).outs
      = [.error, .arr ⟨[0, 1, 2, 3, 4], [2], [2], false, 2, 2⟩] := by
  decide +kernel

/-! ### Non-vacuity -/

example : (run true [fresh 0 5] [.getSel 0 (.slice (some 1) (some 3) 1), .view 0, .getInt 0 (-1),
      .getSel 0 (.mask [true, false, true, false, true]), .getSel 0 (.slice none none (-2)), .iter 1]).outs
    = [.arr ⟨[1, 2], [1, 2], [1, 2], false, 0, 0⟩, .arr ⟨[0, 1, 2, 3, 4], [0, 1, 2, 3, 4], [0, 1, 2, 3, 4], false, 0, 0⟩,
       .arr ⟨[4], [4], [4], true, 0, 0⟩, .arr ⟨[0, 2, 4], [0, 2, 4], [0, 2, 4], false, 0, 0⟩,
       .arr ⟨[4, 2, 0], [4, 2, 0], [4, 2, 0], false, 0, 0⟩,
       .many [⟨[1], [1], [1], true, 0, 0⟩, ⟨[2], [2], [2], true, 0, 0⟩]] := by decide +kernel

/-- refused indices, refused NumPy functions, the object itself, plain concatenation, a scale and back: outputs and
`__array_finalize__` calls -/
example : (run true [fresh 0 5 0 1] [.getBad 0 (.int 2), .view 0, .getBad 0 (.sel (.slice (some 1) (some 3) 1)),
      .refused 0 .flatten, .same 0, .concat [0, 1] true, .scale 1 1, .scale 3 0, .getEll 0 (-1)]).hooks
    = [[], [.parent 0 false], [], [.parent 0 false], [], [.parent 1 false], [.plain], [.plain], [.parent 0 true]] := by decide +kernel

/-- the hypotheses of `sel_of_sel_eq_direct` are satisfiable: `t[1:][::2]` and `t[[1, 3, 5]]` are `==` and agree in
everything `__hash__` reads -/
example : let r := run true [fresh 0 6] [.getSel 0 (.slice (some 1) none 1), .getSel 1 (.slice none none 2), .getSel 0 (.idx [1, 3, 5])]
    r.heap[2]? = r.heap[3]? ∧ (r.heap[2]?).map Arr.obs = some ⟨[1, 3, 5], [1, 3, 5], [1, 3, 5], false, 0, 0⟩ := by decide +kernel

/-- `==` holds across formats and fails across scale classes (hypothesis of `eq_imp_hash_eq` is satisfiable, and not trivially) -/
example : pyEq Generated.TimeArrayMech.eqShapeGuard Generated.TimeArrayMech.eqCompares
      { vals := [7], jd1 := [1], jd2 := [1], cls := 2, fmt := 2 } { vals := [1], jd1 := [1], jd2 := [1], cls := 2, fmt := 0 } = true
    ∧ pyEq Generated.TimeArrayMech.eqShapeGuard Generated.TimeArrayMech.eqCompares
      { vals := [1], jd1 := [1], jd2 := [1], cls := 2 } { vals := [1], jd1 := [1], jd2 := [1], cls := 1 } = false := by decide +kernel

end Midgard.Props.C04

#print axioms Midgard.Props.C04.mechanism_clears
#print axioms Midgard.Props.C04.good_of_getElem?
#print axioms Midgard.Props.C04.hinv_append
#print axioms Midgard.Props.C04.good_singleton
#print axioms Midgard.Props.C04.set_back
#print axioms Midgard.Props.C04.good_sel
#print axioms Midgard.Props.C04.Adds.nothing
#print axioms Midgard.Props.C04.Adds.one
#print axioms Midgard.Props.C04.Adds.unchanged
#print axioms Midgard.Props.C04.getIntStep_good
#print axioms Midgard.Props.C04.iter_fold
#print axioms Midgard.Props.C04.step_adds
#print axioms Midgard.Props.C04.inv_step
#print axioms Midgard.Props.C04.run_adds
#print axioms Midgard.Props.C04.inv_run
#print axioms Midgard.Props.C04.fresh_good
#print axioms Midgard.Props.C04.inv_init
#print axioms Midgard.Props.C04.getSel_is_index
#print axioms Midgard.Props.C04.subset_is_index
#print axioms Midgard.Props.C04.getInt_is_index
#print axioms Midgard.Props.C04.getEll_is_getInt
#print axioms Midgard.Props.C04.view_copy_same
#print axioms Midgard.Props.C04.insert_is_splice
#print axioms Midgard.Props.C04.iter_is_elements
#print axioms Midgard.Props.C04.heap_eq_of_obs
#print axioms Midgard.Props.C04.history_independent
#print axioms Midgard.Props.C04.set_rejected
#print axioms Midgard.Props.C04.hash_eq
#print axioms Midgard.Props.C04.step_extends
#print axioms Midgard.Props.C04.run_extends
#print axioms Midgard.Props.C04.getBad_no_trace
#print axioms Midgard.Props.C04.array_stable_under_reads
#print axioms Midgard.Props.C04.hash_stable_under_reads
#print axioms Midgard.Props.C04.hash_reads_subset
#print axioms Midgard.Props.C04.hash_is_pure
#print axioms Midgard.Props.C04.eq_compares_class
#print axioms Midgard.Props.C04.eq_imp_hash_eq
#print axioms Midgard.Props.C04.pyEq_iff
#print axioms Midgard.Props.C04.getSel_step
#print axioms Midgard.Props.C04.sel_of_sel_eq_direct
#print axioms Midgard.Props.C04.copy_view_eq
#print axioms Midgard.Props.C04.scale_round_trip_eq
#print axioms Midgard.Props.C04.unrepaired_misaligns
#print axioms Midgard.Props.C04.unrepaired_refused_index_misaligns
