/-
C14 — SINEX blocks are parsed column-exactly and matrices are rebuilt symmetric.

The property theorems about the executable model `Model/Sinex.lean` / `Model/SinexFile.lean`, instantiated at the
tables regenerated from the source on every run (`Generated/SinexBlocks.lean`) and compared with the independently
typed standard (`Spec/Sinex202.lean`).  What the statements speak of (the abstract SINEX file, the lines of a block,
the site table, …) is defined in `Proofs/Sinex*.lean`, each with the lemmas of its layer.

The file-level theorems of the base, tms and tro parsers speak about a result the parser returned
(`hR : parse… = some R`); that it returns is shown for all-default tables (`base_file_returns`) and for the
discontinuities / events parser (`disc_file_roundtrip`).  Those of sinex_site (`site_file_*`) speak about the loop over
the declared blocks (`hfold`) with `self._sinex.get` as the file delivers it; `parseSite_file` says that this loop,
followed by the reference-frame step, is what `parseSiteFile` returns on the text of the file.

`np.genfromtxt` itself is modelled (see the model's header); that the model is the code is re-established by the
correspondence run of `harness/c14.py`.
-/
import Midgard.Model.SinexFile
import Midgard.Generated.SinexBlocks
import Midgard.Spec.Sinex202
import Midgard.Proofs.FixedCol
import Midgard.Proofs.Decimal
import Midgard.Proofs.Split
import Midgard.Proofs.SinexTables
import Midgard.Proofs.SinexDict
import Midgard.Proofs.SinexTms
import Midgard.Proofs.SinexEpoch
import Midgard.Proofs.SinexMatrix
import Midgard.Proofs.SinexSite
import Midgard.Proofs.SinexScan
import Midgard.Proofs.SinexRecords
import Midgard.Proofs.Lines
import Midgard.Proofs.Lists

namespace Midgard.Props.C14
open Midgard.Sinex Midgard.Generated.Sinex Midgard.FixedCol Midgard.Text Midgard.Decimal
open Midgard.Spec.Sinex (SField SBlock Kind)

/-! ## Obligations on the regenerated tables (evaluated by the kernel) -/

/-- start columns strictly ascending -/
def ascending : List Nat → Bool
  | a :: b :: rest => decide (a < b) && ascending (b :: rest)
  | _ => true

/-- … and the first one after the record's lead character -/
def startsOk (fs : List FieldDef) : Bool :=
  ascending (fs.map (·.start)) && decide (1 ≤ (fs.map (·.start)).headD 1)

/-- the SINEX (80-column) parsers: everything but sinex_tms -/
def snxBlocks : List BlockDef := baseBlocks ++ siteBlocks ++ discBlocks ++ eventsBlocks ++ troBlocks
def snxHeaders : List (List FieldDef) := [baseHeader, siteHeader, discHeader, eventsHeader, troHeader]

/-- every table of every parser has strictly ascending start columns (so that
`np.diff([0] + starts + [81])` has no negative or zero width) -/
theorem starts_sorted : (allBlocks.all fun b => startsOk b.fields) = true ∧
    (allHeaders.all startsOk) = true := by
  decide +kernel

/-- every field of the 80-column parsers begins inside the record (`start ≤ 80`), so the layout cut
by `layoutOf · 81` is sorted: the hypothesis of `block_roundtrip` holds for each of these tables -/
theorem within_80 : (snxBlocks.all fun b => Sorted (layoutOf b.fields 81)) = true ∧
    (snxHeaders.all fun h => Sorted (layoutOf h 81)) = true ∧
    (snxBlocks.all fun b => b.fields.all fun f => decide (f.start ≤ 80)) = true := by
  decide +kernel

def nodup : List (List Nat) → Bool
  | [] => true
  | a :: rest => !rest.contains a && nodup rest

/-- field names stay distinct after NumPy's name validation (otherwise genfromtxt renames silently) -/
theorem names_unique : (allBlocks.all fun b => nodup ((kept b.fields).map fun f => vcodes f.name)) = true ∧
    (allHeaders.all fun h => nodup ((kept h).map fun f => vcodes f.name)) = true := by
  unfold vcodes
  rw [nameCodes_eq_asciiCodes]
  decide +kernel

/-- no table asks for the `dms2rad` converter (the only one the model does not evaluate) and no
table drops a column (`dtype=None`) -/
theorem converters_modelled :
    (allBlocks.all fun b => b.fields.all fun f => f.conv ≠ .dms2rad && f.dtype ≠ .skip) = true := by
  decide +kernel

/-- **columns = standard**: for every block that `Spec/Sinex202.lean` lists — the blocks of SINEX 2.02 except
SITE/GAL_PHASE_CENTER (for which the code declares no fields), the two IGS extensions and the SINEX_TRO blocks — the code
cuts, for each standard field, a column range that contains the standard's columns and nothing of a neighbouring field,
applies the conversion the standard's field kind calls for, and (text) does not truncate. Same for the header line.  The sinex_tms tables are not covered:
their column specification is the harness's (`harness/c14_tms.py`), there is none on the Lean side. -/
theorem cols_cover_spec :
    (Midgard.Spec.Sinex.official.all (blockCovered baseBlocks)) = true ∧
    (Midgard.Spec.Sinex.unofficial.all (blockCovered baseBlocks)) = true ∧
    (Midgard.Spec.Sinex.tro.all (blockCovered troBlocks)) = true ∧
    fieldsCovered baseHeader 81 Midgard.Spec.Sinex.header = true := by
  rw [blockCovered_eq, fieldsCovered_eq]
  decide +kernel

/-- the block tables the site / discontinuities / events parsers use are the base-class tables of
the same marker (so `cols_cover_spec` speaks about them too), and all five parsers share the
base header except sinex_tms -/
theorem concrete_tables_are_base :
    ((siteBlocks ++ discBlocks ++ eventsBlocks).all fun b =>
      (baseBlocks.find? (·.marker = b.marker)).map (·.fields) = some b.fields) = true ∧
    siteHeader = baseHeader ∧ discHeader = baseHeader ∧ eventsHeader = baseHeader ∧ troHeader = baseHeader := by
  decide +kernel

/-! ## One record: the generic block round trip -/

/-- Reading a rendered record: whatever clean texts are placed in the columns of a (sorted) table
come back, field by field — also after the record lost its trailing blanks. -/
theorem block_roundtrip (fs : List FieldDef) (total : Nat) (cells : List (Align × Str))
    (hs : Sorted (layoutOf fs total) = true) (hf : Fits (layoutOf fs total) cells = true) :
    cutLine fs total (renderA (layoutOf fs total) cells) = cells.map (·.2) ∧
    cutLine fs total (rstrip (renderA (layoutOf fs total) cells)) = cells.map (·.2) := by
  constructor
  · exact slice_renderA _ _ hs hf
  · exact slice_renderA_rstrip _ _ hs hf

/-- each value `parseLine` returns for a rendered record is the declared conversion of the text written into its field -/
theorem parseLine_roundtrip (fs : List FieldDef) (total : Nat) (cells : List (Align × Str))
    (hs : Sorted (layoutOf fs total) = true) (hf : Fits (layoutOf fs total) cells = true) :
    parseLine fs total (renderA (layoutOf fs total) cells) =
      ((fs.zip (cells.map (·.2))).filter (·.1.dtype ≠ .skip)).map
        fun (fd, t) => (validName fd.name, convertCell fd t) := by
  unfold parseLine
  rw [(block_roundtrip fs total cells hs hf).1]

/-- text fields: stripped by construction, truncated only beyond the dtype width -/
theorem text_field (name : String) (start k : Nat) (t : Str) (h : t.length ≤ k) :
    convertCell ⟨name, start, .u k, .none⟩ t = .str t := by
  simp [convertCell, List.take_of_length_le h]

/-! ## Converters: epochs, exponents, degrees-minutes-seconds -/

/-- YY:DDD:SSSSS as printed by a conforming writer -/
def epochText (yy ddd s : Nat) : Str :=
  fixedDigits 2 yy ++ ':' :: fixedDigits 3 ddd ++ ':' :: fixedDigits 5 s

theorem fixedDigits2 (n : Nat) : fixedDigits 2 n = [digitChar (n / 10), digitChar n] := rfl
theorem fixedDigits3 (n : Nat) : fixedDigits 3 n = [digitChar (n / 10 / 10), digitChar (n / 10), digitChar n] := rfl
theorem fixedDigits5 (n : Nat) : fixedDigits 5 n =
    [digitChar (n / 10 / 10 / 10 / 10), digitChar (n / 10 / 10 / 10), digitChar (n / 10 / 10), digitChar (n / 10),
     digitChar n] := rfl

/-- **epoch pivot**: a well-formed `YY:DDD:SSSSS` is day `DDD` of the year 20YY (`YY ≤ 50`) or 19YY
(`YY > 50`), plus `SSSSS` seconds -/
theorem epoch_pivot (yy ddd s : Nat) (hy : yy < 100) (hd1 : 1 ≤ ddd) (hd2 : ddd ≤ 366) (hs : s < 86400) :
    convertEpoch? (epochText yy ddd s) =
      some (.dt (jan1 (if yy ≤ 50 then 2000 + yy else 1900 + yy) + ddd - 1) s) := by
  have hnz : ¬ (fixedDigits 3 ddd = ['0', '0', '0']) := fun he => by
    have := eq_zero_of_threeZero ddd (by omega) he; omega
  -- the century `c` followed by the two year digits is the four-digit year `100 c + yy`
  have hcent : ∀ c : Nat, fixedDigits 2 c ++ (fixedDigits 2 yy ++ ':' :: fixedDigits 3 ddd) =
      fixedDigits 4 (c * 100 + yy) ++ ':' :: fixedDigits 3 ddd := fun c => by
    rw [← List.append_assoc, fixedDigits_append 2 c 2 yy (by omega)]
  have e1 : ((s : Nat) : Int) / 86400 = 0 := by omega
  have e2 : ((s : Nat) : Int) % 86400 = s := by omega
  unfold convertEpoch?
  rw [show (epochText yy ddd s).take 2 = fixedDigits 2 yy from rfl, parseInt_fixedDigits_lt (p := 2) (by decide) yy (by omega)]
  simp only [show Text.slice 3 6 (epochText yy ddd s) = fixedDigits 3 ddd from rfl, hnz, and_false, if_false,
    show (epochText yy ddd s).take 6 = fixedDigits 2 yy ++ ':' :: fixedDigits 3 ddd from rfl,
    show (epochText yy ddd s).drop 7 = fixedDigits 5 s from rfl, parseInt_fixedDigits_lt (p := 5) (by decide) s (by omega)]
  have hce : (if ((yy : Nat) : Int) > 50 then ['1', '9'] else ['2', '0']) = fixedDigits 2 (if yy ≤ 50 then 20 else 19) := by
    by_cases hc : yy ≤ 50
    · rw [if_neg (by omega), if_pos hc]; rfl
    · rw [if_pos (by omega), if_neg hc]; rfl
  rw [hce, hcent, strptimeYj_fixed _ ddd (by split <;> omega) (by split <;> omega) hd1 hd2]
  simp only [addSeconds, e1, e2, Int.add_zero]
  by_cases hc : yy ≤ 50 <;> simp only [hc, if_true, if_false] <;> rfl

/-- **open epoch**: `00:000:00000` has no date (`None`) -/
theorem epoch_open : convertCell ⟨"t", 0, .obj, .epoch⟩ "00:000:00000".toList = .none := by
  repeat rw [String.toList_ofList]
  decide +kernel

/-- day 000 of an epoch other than the open one is read as day 001 (what the code does, documented there) -/
example : convertEpoch? "95:000:00000".toList = convertEpoch? "95:001:00000".toList := by
  repeat rw [String.toList_ofList]
  decide +kernel

/-- non-vacuity of `epoch_pivot`: both sides of the pivot -/
example : convertEpoch? "50:001:00000".toList = some (.dt (jan1 2050) 0) ∧
    convertEpoch? "51:366:86399".toList = some (.dt (jan1 1951 + 365) 86399) := by
  repeat rw [String.toList_ofList]
  decide +kernel

/-- **D exponents equal E exponents**: rewriting every `E` of a number as `D` does not change the value -/
theorem exponent_D_eq_E (t : Str) : convertExponent (replaceChar 'E' 'D' t) = convertExponent t := by
  unfold convertExponent
  congr 1
  simp only [replaceChar, List.map_map]
  apply List.map_congr_left
  intro c _
  by_cases h : c = 'E'
  · subst h; decide
  · simp only [Function.comp, h, if_false]

example : convertExponent "-.240960109141758D+07".toList = some (-2409601.09141758) := by
  repeat rw [String.toList_ofList]
  decide +kernel

theorem dmsValue_sign (neg : Bool) (d m s : Rat) :
    dmsValue neg d m s = (if neg then -1 else 1) * ((if d < 0 then -d else d) + m / 60 + s / 3600) := by
  unfold dmsValue
  cases neg <;> simp <;> grind

/-- the sign of a dms value is the one the degree text carries (`neg`), applied to the magnitude
`|d| + m/60 + s/3600` — whatever the sign of `d` itself (the hypothesis is not used); that `-0 30 00.0` comes out
negative is the test vector below -/
theorem dms_sign (neg : Bool) (d m s : Rat) (hd : 0 ≤ d ∨ neg = true) :
    dmsValue neg d m s = (if neg then -1 else 1) * ((if d < 0 then -d else d) + m / 60 + s / 3600) :=
  dmsValue_sign neg d m s

/-- the degree text decides the sign: `-0 30 00.0` is −0.5° -/
example : convertDms2deg "-0 30 00.0".toList = some (-1 / 2) ∧
    convertDms2deg " 0 30 00.0".toList = some (1 / 2) ∧
    convertDms2deg "-12 30 36.0".toList = some (-1251 / 100) := by
  repeat rw [String.toList_ofList]
  decide +kernel

/-- YYYY:DDD:SSSSS as printed by a conforming writer -/
def epoch4Text (y ddd s : Nat) : Str :=
  fixedDigits 4 y ++ ':' :: fixedDigits 3 ddd ++ ':' :: fixedDigits 5 s

/-- **four-digit-year epoch**: a well-formed `YYYY:DDD:SSSSS` (year 1…9999) is day `DDD` of that year plus
`SSSSS` seconds (seconds beyond a day roll over into the next days, as `timedelta` does) -/
theorem epoch4_value (y ddd s : Nat) (hy1 : 1 ≤ y) (hy : y < 10000) (hd1 : 1 ≤ ddd) (hd2 : ddd ≤ 366) (hs : s < 100000) :
    convertYyyy? (epoch4Text y ddd s) = some (addSeconds (jan1 y + ddd - 1) s) := by
  have hne : epoch4Text y ddd s ≠ "0000:000:00000".toList := by
    intro he
    -- the year digits would all be zero
    have hv := digitsVal_fixedDigits 4 y
    rw [show fixedDigits 4 y = (epoch4Text y ddd s).take 4 from rfl, he,
      show digitsVal (("0000:000:00000".toList).take 4) = 0 by decide] at hv
    omega
  unfold convertYyyy?
  simp only [hne, if_false, show (epoch4Text y ddd s).take 8 = fixedDigits 4 y ++ ':' :: fixedDigits 3 ddd from rfl,
    strptimeYj_fixed y ddd hy1 hy hd1 hd2, show (epoch4Text y ddd s).drop 9 = fixedDigits 5 s from rfl,
    parseInt_fixedDigits_lt (p := 5) (by decide) s (by omega)]

/-- **open end**: `0000:000:00000` ("now") is read as the code's far-future stand-in 9999:364:99999,
i.e. 9999-12-31T03:46:39 -/
theorem epoch4_open : convertCell ⟨"t", 0, .obj, .yyyydddsssss⟩ "0000:000:00000".toList =
    .dt (jan1 9999 + 364) 13599 := by
  repeat rw [String.toList_ofList]
  decide +kernel

example : convertYyyy? "2023:142:42765".toList = some (.dt (jan1 2023 + 141) 42765) := by
  repeat rw [String.toList_ofList]
  decide +kernel

/-! ## Matrices: the rebuilt matrix is symmetric -/

/-- **the rebuilt matrix is symmetric**, whichever triangle the block gives -/
theorem matrix_symm (t : Tri) (n : Nat) (M : Matrix) (i j : Nat) (hi : i < n) (hj : j < n) :
    (symmetrize t n M).get i j = (symmetrize t n M).get j i := by
  rw [get_symmetrize t n M i j hi hj, get_symmetrize t n M j i hj hi]
  cases t
  · by_cases h1 : j ≤ i <;> by_cases h2 : i ≤ j <;> simp only [h1, h2, if_true, if_false]
    · rw [Nat.le_antisymm h1 h2]
    · omega
  · by_cases h1 : j ≤ i <;> by_cases h2 : i ≤ j <;> simp only [h1, h2, if_true, if_false]
    · rw [Nat.le_antisymm h1 h2]
    · omega
  · by_cases h : i = j
    · rw [h]
    · simp only [h, Ne.symm h, if_false, Rat.add_comm]

theorem matrix_shape (t : Tri) (n : Nat) (M : Matrix) :
    (symmetrize t n M).length = n ∧ ∀ r ∈ symmetrize t n M, r.length = n := by
  constructor
  · simp [symmetrize]
  · intro r hr
    simp only [symmetrize, List.mem_map, List.mem_range] at hr
    obtain ⟨i, _, rfl⟩ := hr
    simp

/-- a concrete block with omitted elements: upper form, n = 3, `(1,1..3)` and `(2,3)` listed -/
example : matrixOf .upper (some 3) [⟨1, 1, [some 1.5, some 2.5, some 3.5]⟩, ⟨2, 3, [some 4.5, Option.none, Option.none]⟩] =
    some [[1.5, 2.5, 3.5], [2.5, 0, 4.5], [3.5, 4.5, 0]] := by decide +kernel

/-- after all lines are written into the zero matrix, element `(i, j)` holds the
value listed for it (by the last line that lists it) and every element no line lists is zero -/
theorem matrix_entries (n : Nat) (ls : List Run) (hok : ∀ l ∈ ls, l.ok n) :
    ∃ M, fillFrom (zeros n) ls = some M ∧ ∀ i j, M.get i j = (lastCover ls i j).getD 0 := by
  obtain ⟨M, hf, _, hg⟩ := fillFrom_spec n ls (zeros n) (square_zeros n) hok
  exact ⟨M, hf, fun i j => by rw [hg i j, get_zeros]⟩

/-- **the full matrix (lower form)**: listed values at `(row, col+k)` and mirrored, zeros elsewhere -/
theorem matrix_full_lower (n : Nat) (ls : List Run) (hok : ∀ l ∈ ls, l.ok n) :
    ∃ R, (fillFrom (zeros n) ls).map (symmetrize .lower n) = some R ∧
      ∀ i j, i < n → j < n → j ≤ i →
        R.get i j = (lastCover ls i j).getD 0 ∧ R.get j i = (lastCover ls i j).getD 0 := by
  obtain ⟨R, hR, h⟩ := fillFrom_symmetrize .lower n ls hok
  exact ⟨R, hR, fun i j hi hj hji => h i j hi hj (Or.inl ⟨rfl, hji⟩)⟩

/-- **the full matrix (upper form)**: as `matrix_full_lower`, for `i ≤ j` -/
theorem matrix_full_upper (n : Nat) (ls : List Run) (hok : ∀ l ∈ ls, l.ok n) :
    ∃ R, (fillFrom (zeros n) ls).map (symmetrize .upper n) = some R ∧
      ∀ i j, i < n → j < n → i ≤ j →
        R.get i j = (lastCover ls i j).getD 0 ∧ R.get j i = (lastCover ls i j).getD 0 := by
  obtain ⟨R, hR, h⟩ := fillFrom_symmetrize .upper n ls hok
  exact ⟨R, hR, fun i j hi hj hij => h i j hi hj (Or.inr ⟨rfl, hij⟩)⟩

/-- two lines list no common element -/
def Apart (a b : Run) : Prop := ∀ i j, cover a i j = Option.none ∨ cover b i j = Option.none

/-- when no element is listed twice, the element values a block defines (`lastCover`, hence by
`matrix_entries` / `matrixOf_lower` / `matrixOf_upper` the matrix the parser builds) are the same for every order of its
lines — row by row, rows last-to-first, column by column, any other -/
theorem matrix_line_order (ls ls' : List Run) (hperm : ls.Perm ls') (hap : ls.Pairwise Apart) (i j : Nat) :
    lastCover ls i j = lastCover ls' i j := by
  induction hperm with
  | nil => rfl
  | cons x _ ih =>
    simp only [lastCover]
    rw [ih (List.Pairwise.of_cons hap)]
  | swap x y l =>
    simp only [lastCover]
    have hxy : Apart y x := (List.pairwise_cons.mp hap).1 x (by simp)
    cases lastCover l i j with
    | some v => rfl
    | none =>
      simp only [Option.orElse_none]
      rcases hxy i j with h | h <;> simp [h, Option.orElse]
      · cases cover x i j <;> rfl
      · cases cover y i j <;> rfl
  | trans h1 _ ih1 ih2 =>
    rw [ih1 hap]
    apply ih2
    exact h1.pairwise hap (fun {a b} hab => fun i j => (hab i j).symm)

/-! ## Per-site regrouping: no row is lost or duplicated -/

/-- regrouping the rows of a block by site loses and duplicates no row — the rows
found under the block's entry over all sites are a permutation of the ones that were there before
plus the block's rows (as transformed by the parser, e.g. without `site_code` for discontinuities) -/
theorem site_regroup (entry : String) (keyOf : Row → String) (f : Row → Row) (rows : List Row) :
    ∀ T : SiteTable, (allRows entry (regroup false entry keyOf f T rows)).Perm (allRows entry T ++ rows.map f) := by
  induction rows with
  | nil => intro T; simp [regroup_nil]
  | cons r rows ih =>
    intro T
    rw [regroup_cons, List.map_cons]
    refine (ih (addRow false entry T (keyOf r) (f r))).trans ?_
    have h := allRows_addRow entry T (keyOf r) (f r)
    have h2 := List.Perm.append_right (rows.map f) h
    refine h2.trans ?_
    simp [List.append_assoc]

/-- a row stored in append mode is the last one under the key it was stored with -/
theorem addRow_site (entry : String) (T : SiteTable) (key : String) (r : Row) :
    ∃ rows, ((dget? (addRow false entry T key r) key).bind fun s => dget? s entry) = some (rows ++ [r]) := by
  rw [siteGet_addRow, if_pos ⟨rfl, rfl⟩]
  exact ⟨_, rfl⟩

/-! ## Blocks are found whatever their order and whatever lies between them -/

/-- the raw block delivered for any marker is the same for every arrangement of
the same pieces (blocks in any order, foreign blocks and comment lines anywhere between them),
provided each marker occurs once -/
theorem order_independent (segs segs' : List Seg) (hperm : segs.Perm segs')
    (hwf : ∀ s ∈ segs, s.wf) (hdistinct : ((blocksOf segs).map (·.marker)).Nodup) (w : List String) (m : String) :
    (scan (body segs') w .search).map (rawOf · m) = (scan (body segs) w .search).map (rawOf · m) := by
  have hwf' : ∀ s ∈ segs', s.wf := fun s h => hwf s (hperm.mem_iff.mpr h)
  rw [scan_body segs hwf w, scan_body segs' hwf' w, Option.map_some, Option.map_some,
    rawOf_expected_perm segs segs' hperm hdistinct w]

/-! ## Whole files: lines, invisible pieces, the content of a block, `self.data` of the base-class parser -/

theorem splitOn_joinLines (ls : List Str) (last : Str) (h : ∀ l ∈ ls, NoNl l) (hlast : NoNl last) :
    splitOn '\n' (joinLines ls ++ last) = ls ++ [last] := by
  rw [joinLines_eq]
  exact splitOn_joinNl ls last h hlast

/-- **lines of a file**: a text whose lines are each closed by a line feed is read back line by line;
so is a text whose last line is not closed -/
theorem fileLines_joinLines (ls : List Str) (h : ∀ l ∈ ls, NoNl l) : fileLines (joinLines ls) = ls := by
  rw [joinLines_eq]
  exact dropEmptyLast_joinNl ls h

theorem fileLines_unterminated (ls : List Str) (last : Str) (h : ∀ l ∈ ls, NoNl l) (hlast : NoNl last)
    (hne : last ≠ []) : fileLines (joinLines ls ++ last) = ls ++ [last] := by
  unfold fileLines
  rw [splitOn_joinLines ls last h hlast]
  cases last with
  | nil => exact absurd rfl hne
  | cons c r => simp

/-- **reading a file**: the header line is parsed with the header table, and `parse_blocks` delivers
exactly the first block of each declared marker, in file order -/
theorem readRaw_file (tag : Str) (header : List FieldDef) (total : Str → Nat) (blocks : List BlockDef)
    (F : SnxFile) (hwf : F.wf) :
    readRaw tag header total blocks F.text =
      some ⟨headerRow tag header total F.header, expected (blocks.map (·.marker)) F.segs⟩ := by
  unfold readRaw SnxFile.text
  rw [fileLines_joinLines _ hwf.1]
  simp only [SnxFile.lines, findBlocks, scan_body F.segs hwf.2, Option.map_some, headerRow]

/-- **every parser on a well-formed file**: the header row beside what its `assemble` makes of `self._sinex.get`, which
finds the first block of each declared marker -/
theorem parseWith_file (tag : Str) (header : List FieldDef) (total : Str → Nat) (blocks : List BlockDef)
    (assemble : (String → Option RawBlock) → Option Val) (F : SnxFile) (hwf : F.wf) :
    parseWith tag header total blocks assemble F.text =
      (assemble (rawOf (expected (blocks.map (·.marker)) F.segs))).map
        fun v => ⟨headerRow tag header total F.header, v⟩ := by
  unfold parseWith
  rw [readRaw_file _ _ _ _ _ hwf]
  rfl

/-- a parser whose `self.data` is a dictionary (base class, tro, tms) returned on a well-formed file in which a block is
the first of its marker: then `meta` is the header row, `data` is the dictionary the assembly made of `self._sinex.get`,
and that look-up finds the block -/
theorem parseWith_dict_look (tag : Str) (header : List FieldDef) (total : Str → Nat) (blocks : List BlockDef)
    (asm : (String → Option RawBlock) → Option (List (String × Val))) (F : SnxFile) (hwf : F.wf) (R : Result)
    (hR : parseWith tag header total blocks (fun look => (asm look).map .dict) F.text = some R)
    (m : String) (ps c : List Str) (hfb : FirstBlock F.segs m ps c) (hm : m ∈ blocks.map (·.marker)) :
    R.hdr = headerRow tag header total F.header ∧
    ∃ D, R.data = .dict D ∧ asm (rawOf (expected (blocks.map (·.marker)) F.segs)) = some D ∧
      rawOf (expected (blocks.map (·.marker)) F.segs) m = some ⟨m, ps, dataLines c⟩ := by
  rw [parseWith_file _ _ _ _ _ F hwf, Option.map_map] at hR
  obtain ⟨D, hD, rfl⟩ := Option.map_eq_some_iff.mp hR
  exact ⟨rfl, D, rfl, hD, firstBlock_look F.segs m ps c hfb _ hm⟩

/-- two files with the same header line whose bodies are arrangements of the same pieces give the same result; nothing is
asked of the lines of the second arrangement -/
theorem parseWith_perm (tag : Str) (header : List FieldDef) (total : Str → Nat) (blocks : List BlockDef)
    (assemble : (String → Option RawBlock) → Option Val) (h : Str) (segs segs' : List Seg)
    (hperm : segs.Perm segs') (hwf : SnxFile.wf ⟨h, segs⟩) (hdistinct : ((blocksOf segs).map (·.marker)).Nodup) :
    parseWith tag header total blocks assemble (SnxFile.text ⟨h, segs'⟩) =
      parseWith tag header total blocks assemble (SnxFile.text ⟨h, segs⟩) := by
  rw [parseWith_file _ _ _ _ _ _ hwf, parseWith_file _ _ _ _ _ _ (SnxFile.wf_subset hperm.symm.subset hwf),
    rawOf_expected_perm segs segs' hperm hdistinct]

/-- for each of the parsers (base class with any declared blocks, site,
discontinuities, events, tro, tms — all are `parseWith` with their own `assemble`), two files with the same
header line whose bodies are arrangements of the same pieces (blocks in another order, comment lines
and foreign blocks anywhere between them; each marker once) give the same result — header and all
of `data` -/
theorem file_order_independent (tag : Str) (header : List FieldDef) (total : Str → Nat) (blocks : List BlockDef)
    (assemble : (String → Option RawBlock) → Option Val) (h : Str) (segs segs' : List Seg)
    (hperm : segs.Perm segs') (hwf : SnxFile.wf ⟨h, segs⟩) (hnl : ∀ l ∈ body segs', NoNl l)
    (hdistinct : ((blocksOf segs).map (·.marker)).Nodup) :
    parseWith tag header total blocks assemble (SnxFile.text ⟨h, segs'⟩) =
      parseWith tag header total blocks assemble (SnxFile.text ⟨h, segs⟩) :=
  parseWith_perm tag header total blocks assemble h segs segs' hperm hwf hdistinct

/-- an invisible piece taken out of a file (or put in) does not change the result; the declared markers need not be
distinct -/
theorem parseWith_invisible (tag : Str) (header : List FieldDef) (total : Str → Nat) (blocks : List BlockDef)
    (assemble : (String → Option RawBlock) → Option Val) (h : Str) (pre post : List Seg) (s : Seg)
    (hinv : Invisible (blocks.map (·.marker)) pre s) (hwf : SnxFile.wf ⟨h, pre ++ s :: post⟩) :
    parseWith tag header total blocks assemble (SnxFile.text ⟨h, pre ++ s :: post⟩) =
      parseWith tag header total blocks assemble (SnxFile.text ⟨h, pre ++ post⟩) := by
  rw [parseWith_file _ _ _ _ _ _ hwf, parseWith_file _ _ _ _ _ _ (SnxFile.wf_subset (by simp) hwf)]
  congr 2
  funext m
  -- what is found for a marker is the first block of it, whatever else is wanted
  rw [rawOf_expected, rawOf_expected]
  split
  · next hm => exact rawOf_invisible _ pre post s hinv m hm
  · rfl

/-- **invisible pieces**: taking a comment line, a foreign block or the second copy of a block out of a
file (or putting one in) does not change the result of any of the parsers -/
theorem file_invisible (tag : Str) (header : List FieldDef) (total : Str → Nat) (blocks : List BlockDef)
    (assemble : (String → Option RawBlock) → Option Val) (h : Str) (pre post : List Seg) (s : Seg)
    (hw : (blocks.map (·.marker)).Nodup) (hinv : Invisible (blocks.map (·.marker)) pre s)
    (hwf : SnxFile.wf ⟨h, pre ++ s :: post⟩) :
    parseWith tag header total blocks assemble (SnxFile.text ⟨h, pre ++ s :: post⟩) =
      parseWith tag header total blocks assemble (SnxFile.text ⟨h, pre ++ post⟩) :=
  parseWith_invisible tag header total blocks assemble h pre post s hinv hwf

/-- every non-empty table of the 80-column parsers has the lead blank (the empty one is
SITE/GAL_PHASE_CENTER, a TODO in the source); `leadOk` looks at the first start column only, so for the tms
tables, whose total is the length of the longest line, any total (here 200) gives the same answer -/
theorem tables_lead_blank :
    (snxBlocks.all fun b => b.fields.isEmpty || leadOk (layoutOf b.fields 81)) = true ∧
    (tmsBlocks.all fun b => leadOk (layoutOf b.fields 200)) = true := by
  decide +kernel

/-- content lines never close the block or open another one (hypothesis of `Seg.wf`) -/
theorem content_ok (fs : List FieldDef) (total : Nat) (hl : leadOk (layoutOf fs total) = true) (items : List Item)
    (hwf : ∀ i ∈ items, i.wf fs total) :
    ∀ l ∈ content fs total items, startsWith ['-'] l = false ∧ startsWith ['+'] l = false := by
  intro l hmem
  simp only [content, List.mem_map] at hmem
  obtain ⟨i, hi, rfl⟩ := hmem
  -- a record begins with a blank, a comment line with `*`
  have hhead : startsWith [' '] (i.line fs total) = true ∨ startsWith ['*'] (i.line fs total) = true := by
    cases i with
    | record cells =>
      obtain ⟨r, hr⟩ := render_lead _ cells hl (hwf _ hi)
      exact Or.inl (by rw [Item.line, hr]; rfl)
    | comment c => exact Or.inr (hwf _ hi)
  rcases hhead with h | h <;> exact ⟨startsWith_other (by decide) h, startsWith_other (by decide) h⟩

/-- the values of one written record: every text converted by the rule its field declares -/
def convertRow (fs : List FieldDef) (cells : List (Align × Str)) : Row :=
  ((fs.zip (cells.map (·.2))).filter (·.1.dtype ≠ .skip)).map fun (fd, t) => (validName fd.name, convertCell fd t)

/-- **records of a block**: `parse_lines` on the rendered records gives one row per record, in order, each
holding the converted texts that were written -/
theorem parseLines_records (fs : List FieldDef) (total : Nat) (hs : Sorted (layoutOf fs total) = true)
    (hl : leadOk (layoutOf fs total) = true) (recs : List (List (Align × Str)))
    (hf : ∀ c ∈ recs, Fits (layoutOf fs total) c = true) :
    parseLines fs total (recs.map (renderA (layoutOf fs total))) = recs.map (convertRow fs) :=
  parseLines_map fs total _ _ recs
    (fun c hc => by obtain ⟨r, hr⟩ := render_lead _ c hl (hf c hc); simp [dropComment, hr])
    fun c hc => parseLine_roundtrip fs total c hs (hf c hc)

/-- **`self.data` block by block**: when the base-class parser returns, each declared block that is in the
file is stored under its marker with exactly what its factory parser makes of its own raw block,
declared blocks that are not in the file are absent, and nothing else is stored (whatever the order
of the declarations and of the blocks in the file) -/
theorem assembleBase_get (blocks : List BlockDef) (look : String → Option RawBlock) (D : List (String × Val))
    (hnd : (blocks.map (·.marker)).Nodup) (h : assembleBase blocks look = some D) :
    (∀ b ∈ blocks, dget? D b.marker = (look b.marker).bind (blockVal blocks look b)) ∧
    (∀ m, m ∉ blocks.map (·.marker) → dget? D m = Option.none) := by
  obtain ⟨h1, h2⟩ := foldlM_keyed (·.marker) (baseStep blocks look)
    (fun b old => match look b.marker with
      | Option.none => old
      | some r => blockVal blocks look b r)
    (fun acc b acc' hs => by
      cases hl : look b.marker with
      | none =>
        rw [baseStep_none hl] at hs
        cases hs
        exact ⟨rfl, fun _ _ => rfl⟩
      | some r =>
        rw [baseStep_some hl] at hs
        obtain ⟨v, hv, rfl⟩ := Option.map_eq_some_iff.mp hs
        exact ⟨(dget_dset_self _ _ _).trans hv.symm, fun m hm => dget_dset_ne _ _ _ _ (Ne.symm hm)⟩)
    blocks [] D hnd h
  exact ⟨fun b hb => by rw [h1 b hb]; cases look b.marker <;> rfl, fun m hm => by rw [h2 m hm]; rfl⟩

theorem rowsOf_content (b : BlockDef) (total : Nat)
    (hs : Sorted (layoutOf b.fields total) = true) (hl : leadOk (layoutOf b.fields total) = true)
    (items : List Item) (hitems : ∀ i ∈ items, i.wf b.fields total) (m : String) (ps : List Str) :
    rowsOf b total ⟨m, ps, dataLines (content b.fields total items)⟩ = (records items).map (convertRow b.fields) := by
  rw [rowsOf, dataLines_content _ _ hl items hitems]
  exact parseLines_records _ _ hs hl _ (records_fits _ _ items hitems)

/-- **default blocks from the file text**: a base-class parser declaring `blocks` (distinct markers, any
order) reads a file whose body holds — anywhere, between whatever other blocks, comment lines and
foreign blocks — a block `+MARKER … -MARKER` of the declared default block `b` (the first one of
that marker) made of records and comment lines.  Then `data[MARKER]` is the dictionary of `b`'s columns
over exactly the written records, in order, every value being the declared conversion of the text
written into the field's columns; `meta` is the header line read with the header table. -/
theorem base_file_roundtrip (header : List FieldDef) (blocks : List BlockDef) (b : BlockDef)
    (hb : b ∈ blocks) (hkind : b.kind = .dflt) (hnd : (blocks.map (·.marker)).Nodup)
    (hs : Sorted (layoutOf b.fields 81) = true) (hl : leadOk (layoutOf b.fields 81) = true)
    (hd : Str) (pre post : List Seg) (h mk : Str) (ps : List Str) (f : Str) (items : List Item)
    (hmk : asString mk = b.marker) (hfirst : b.marker ∉ (blocksOf pre).map (·.marker))
    (hitems : ∀ i ∈ items, i.wf b.fields 81)
    (hwf : SnxFile.wf ⟨hd, pre ++ Seg.block h mk ps (content b.fields 81 items) f :: post⟩)
    (R : Result)
    (hR : parseBaseFile header blocks
      (SnxFile.text ⟨hd, pre ++ Seg.block h mk ps (content b.fields 81 items) f :: post⟩) = some R) :
    R.hdr = headerRow snxTag header (fun _ => 81) hd ∧
    ∃ D, R.data = .dict D ∧
      dget? D b.marker = some (.dict (columns b.fields ((records items).map (convertRow b.fields)))) := by
  obtain ⟨hhdr, D, hRD, hD, hr⟩ := parseWith_dict_look _ _ _ _ (assembleBase blocks) _ hwf R hR _ ps _
    ⟨pre, post, h, mk, f, rfl, hmk, hfirst⟩ (List.mem_map_of_mem hb)
  refine ⟨hhdr, D, hRD, ?_⟩
  rw [(assembleBase_get blocks _ D hnd hD).1 b hb, hr]
  rw [Option.bind_some, blockVal_dflt hkind, rowsOf_content b 81 hs hl items hitems]

/-- a base-class parser that declares only default block parsers returns on every well-formed file -/
theorem base_file_returns (header : List FieldDef) (blocks : List BlockDef) (hk : ∀ b ∈ blocks, b.kind = .dflt)
    (F : SnxFile) (hwf : F.wf) : ∃ R, parseBaseFile header blocks F.text = some R := by
  unfold parseBaseFile
  rw [parseWith_file _ _ _ _ _ F hwf]
  obtain ⟨D, hD⟩ := Lists.foldlM_total (f := baseStep blocks (rawOf (expected (blocks.map (·.marker)) F.segs))) blocks []
    fun acc b hb => by
      cases hl : rawOf (expected (blocks.map (·.marker)) F.segs) b.marker with
      | none => exact ⟨acc, baseStep_none hl acc⟩
      | some r => exact ⟨_, by rw [baseStep_some hl, blockVal_dflt (hk b hb)]; rfl⟩
  exact ⟨_, by rw [assembleBase, hD]; rfl⟩

def exFields : List FieldDef := [⟨"comment", 1, .u 79, .none⟩]
def exBlock : BlockDef := ⟨"FILE/COMMENT", exFields, .dflt⟩
def exItems : List Item := [.record [(.left, "hello world".toList)], .comment "*remark".toList, .record [(.left, "x".toList)]]
def exPre : List Seg := [.noise "* ----".toList,
  .block "+X/BLOCK".toList "X/BLOCK".toList [] [" foreign".toList] "-X/BLOCK".toList]
def exPost : List Seg := [.block "+FILE/COMMENT".toList "FILE/COMMENT".toList [] [" again".toList] "-FILE/COMMENT".toList,
  .noise "%ENDSNX".toList]
def exFile : SnxFile :=
  ⟨"%=SNX 2.02".toList, exPre ++ Seg.block "+FILE/COMMENT".toList "FILE/COMMENT".toList [] (content exFields 81 exItems)
      "-FILE/COMMENT".toList :: exPost⟩

/-- the hypotheses of `base_file_roundtrip` are satisfiable (`exFile`: a FILE/COMMENT block after a comment line and a
foreign block, followed by a second copy): sorted table, lead blank, marker, first of its marker, items, file -/
example : Sorted (layoutOf exBlock.fields 81) = true ∧ leadOk (layoutOf exBlock.fields 81) = true ∧
    asString "FILE/COMMENT".toList = exBlock.marker ∧ exBlock.marker ∉ (blocksOf exPre).map (·.marker) ∧
    (∀ i ∈ exItems, i.wf exFields 81) ∧ exFile.wf := by
  unfold exFile exPre exPost exItems
  repeat rw [String.toList_ofList]
  refine ⟨by decide +kernel, by decide +kernel, by decide +kernel, by decide +kernel, by decide +kernel, ?_, by decide +kernel⟩
  unfold NoNl
  decide +kernel

/-! ## sinex_tms, one block: TIMESERIES/DATA (whitespace mode) and the fixed-width blocks -/

/-- **whitespace mode**: records of `n > 0` tokens each come back as exactly those tokens, record by
record, whatever the amount of blanks between them -/
theorem wsRows_roundtrip (recs : List (List (Str × Str) × Str)) (n : Nat) (hn : 0 < n)
    (hok : ∀ r ∈ recs, PadsOk r.1 = true ∧ isBlank r.2 = true ∧ r.1.length = n) :
    wsRows (recs.map wsLine) = some (recs.map wsTokens) := by
  have hsplit : (recs.map wsLine).map split = recs.map wsTokens := by
    rw [List.map_map]
    exact List.map_congr_left fun r hr => split_wsLine r (hok r hr).1 (hok r hr).2.1
  have hlen : ∀ t ∈ recs.map wsTokens, t.length = n :=
    List.forall_mem_map.mpr fun r hr => by rw [length_wsTokens, (hok r hr).2.2]
  have hfilter : (recs.map wsTokens).filter (fun r => !r.isEmpty) = recs.map wsTokens :=
    List.filter_eq_self.mpr fun t ht => by
      cases t with
      | nil => exact absurd (hlen _ ht) (Nat.ne_of_lt hn)
      | cons _ _ => rfl
  have hall : ((recs.map wsTokens).all fun r => r.length == ((recs.map wsTokens).headD []).length) = true := by
    rw [List.all_eq_true]
    intro t ht
    cases hrecs : recs.map wsTokens with
    | nil => rw [hrecs] at ht; cases ht
    | cons t0 rest => simp [hlen t ht, hlen t0 (by rw [hrecs]; exact List.mem_cons_self)]
  unfold wsRows
  simp only [hsplit, hfilter, hall, if_true]

/-- **TIMESERIES/DATA column by column**: when `parse_timeseries_data` returns, the entry of the `j`-th
declared column name (lower-cased; names distinct, not more names than data columns) is the conversion of
exactly the `j`-th token of every record, in record order -/
theorem tmsData_get (names : List Str) (lines : List Str) (rows : List (List Str)) (D : List (String × Val))
    (hrows : wsRows lines = some rows) (h : tmsData names lines = some D)
    (hnd : (names.map fun nm => asString (lower nm)).Nodup) (hlen : names.length ≤ (rows.headD []).length)
    (j : Nat) (hj : j < names.length) :
    dget? D (asString (lower names[j])) = tmsCol names[j] (column j rows) := by
  unfold tmsData at h
  rw [hrows, Option.bind_some] at h
  have hlen' : names.length ≤ (wsColumns rows).length := by rw [length_wsColumns]; exact hlen
  have hkeys : ((names.zip (wsColumns rows)).map fun nc => asString (lower nc.1)) =
      names.map fun nm => asString (lower nm) := by
    conv => rhs; rw [← List.map_fst_zip (l₁ := names) (l₂ := wsColumns rows) hlen', List.map_map]
    rfl
  obtain ⟨h1, _⟩ := foldlM_keyed (fun nc : Str × List Str => asString (lower nc.1)) _ (fun nc _ => tmsCol nc.1 nc.2)
    (fun acc nc acc' hs => by
      obtain ⟨v, hv, rfl⟩ := Option.map_eq_some_iff.mp hs
      exact ⟨by rw [dget_dset_self, hv], fun m hm => dget_dset_ne _ _ _ _ (Ne.symm hm)⟩)
    (names.zip (wsColumns rows)) [] D (by rw [hkeys]; exact hnd) h
  have hjc : j < (wsColumns rows).length := by omega
  have hmem : (names[j], (wsColumns rows)[j]) ∈ names.zip (wsColumns rows) :=
    List.mem_iff_getElem.mpr ⟨j, by rw [List.length_zip]; omega, List.getElem_zip⟩
  rw [h1 _ hmem, getElem_wsColumns rows j (by omega)]

/-- a text column keeps its tokens (the float columns: `tmsCol_float`) -/
theorem tmsCol_text (name : Str) (col : List Str) (hn : dtypeStr.contains name = true)
    (hc : ∀ t ∈ col, parseFloat t = Option.none) : tmsCol name col = some (.col (col.map Cell.str)) := by
  have : (col.all fun t => (parseFloat t).isNone) = true := by
    rw [List.all_eq_true]; intro t ht; simp [hc t ht]
  unfold tmsCol
  rw [if_pos hn, if_pos this]

/-- **the whole TIMESERIES/DATA round trip**: `n > 0` tokens per record, any blanks between them -/
theorem tms_data_roundtrip (names : List Str) (recs : List (List (Str × Str) × Str)) (n : Nat) (hn : 0 < n)
    (hok : ∀ r ∈ recs, PadsOk r.1 = true ∧ isBlank r.2 = true ∧ r.1.length = n) (hne : recs ≠ [])
    (hnd : (names.map fun nm => asString (lower nm)).Nodup) (hlen : names.length ≤ n)
    (D : List (String × Val)) (h : tmsData names (recs.map wsLine) = some D) (j : Nat) (hj : j < names.length) :
    dget? D (asString (lower names[j])) = tmsCol names[j] (recs.map fun r => (wsTokens r).getD j []) := by
  have hrows := wsRows_roundtrip recs n hn hok
  have hhead : ((recs.map wsTokens).headD []).length = n := by
    cases recs with
    | nil => exact absurd rfl hne
    | cons r rest => simp [length_wsTokens, (hok r (by simp)).2.2]
  rw [tmsData_get names _ _ D hrows h hnd (by rw [hhead]; exact hlen) j hj]
  simp [column, List.map_map, Function.comp_def]

/-- `appendRows` (the site blocks of sinex_tms) stores the records, in order, after the ones already stored -/
theorem tms_site_rows (D : List (String × Val)) (e : String) (rows : List Row) :
    ∃ old, dget? (appendRows D e rows) e = some (.list (old ++ rows.map rowVal)) := by
  unfold appendRows
  exact ⟨_, dget_dset_self _ _ _⟩

/-- **fixed-width blocks of sinex_tms**: records rendered into the columns of a table whose last field
ends at column `W`, written with or without their trailing blanks (so that the lines have different
lengths), are read back by `SinexTmsParser.parse_lines` — which ends the last field at the length of the
longest line — record by record with the written texts converted.  `hvis`: a record of blank fields written without
its trailing blanks is the empty line, which `parse_lines` drops (G10) -/
theorem tms_block_roundtrip (fs : List FieldDef) (W : Nat) (hne : fs ≠ [])
    (hs : Sorted (layoutOf fs W) = true) (recs : List (Bool × List (Align × Str)))
    (hf : ∀ r ∈ recs, Fits (layoutOf fs W) r.2 = true)
    (hvis : ∀ r ∈ recs, emit r.1 (renderA (layoutOf fs W) r.2) ≠ []) :
    let lines := recs.map fun r => emit r.1 (renderA (layoutOf fs W) r.2)
    parseLines fs (maxChar lines) lines = recs.map fun r => convertRow fs r.2 := by
  intro lines
  refine parseLines_map fs _ _ _ recs (fun r hr => ?_) fun ⟨stripped, cells⟩ hr => ?_
  · cases hl : emit r.1 (renderA (layoutOf fs W) r.2) with
    | nil => exact absurd hl (hvis r hr)
    | cons _ _ => rfl
  have hmax : _ + 1 ≤ maxChar lines :=
    le_maxChar lines (emit stripped (renderA (layoutOf fs W) cells)) (List.mem_map_of_mem (f := fun r => emit r.1 (renderA (layoutOf fs W) r.2)) hr)
  have hl := length_render fs W cells hne hs (hf _ hr)
  have hrs := length_rstrip_le (renderA (layoutOf fs W) cells)
  have hcut := block_roundtrip fs W cells hs (hf _ hr)
  -- the longest line is not longer than `W`, so the last field may as well end at `W`
  have hlenW : (emit stripped (renderA (layoutOf fs W) cells)).length ≤ W := by
    cases stripped <;> simp only [emit, if_true, Bool.false_eq_true, if_false] <;> omega
  simp only [parseLine, convertRow]
  rw [cutLine_total fs (maxChar lines) W _ (by omega) hlenW]
  cases stripped <;> simp only [emit, if_true, Bool.false_eq_true, if_false]
  · rw [hcut.1]
  · rw [hcut.2]

/-- non-vacuity: three tokens after one, three and two blanks, trailing blanks -/
example : wsRows [wsLine ([(" ".toList, "2023-05-22".toList), ("   ".toList, "4331296.8156".toList),
      ("  ".toList, "0.0008".toList)], "  ".toList),
    wsLine ([("  ".toList, "2023-05-23".toList), (" ".toList, "4331296.8147".toList), (" ".toList, "-1e-3".toList)], [])] =
    some [["2023-05-22".toList, "4331296.8156".toList, "0.0008".toList],
      ["2023-05-23".toList, "4331296.8147".toList, "-1e-3".toList]] := by
  repeat rw [String.toList_ofList]
  decide +kernel

example : PadsOk [(" ".toList, "2023-05-22".toList), ("   ".toList, "4331296.8156".toList)] = true ∧
    tmsCol "X".toList ["4331296.8156".toList, "12".toList] = some (.col [.flt (some 4331296.8156), .flt (some 12)]) := by
  constructor
  · decide +kernel
  · exact tmsCol_float _ _ [4331296.8156, 12] (by decide +kernel) (by decide +kernel)

/-! ## Matrix blocks and discontinuities / events at file level -/

/-- **matrix block, lower form, as the parser builds it**: with the size `n` known (from the size block or
guessed), lines inside the matrix give the full symmetric matrix holding the listed values at
`(row, col + k)` and mirrored, zeros elsewhere -/
theorem matrixOf_lower (sizeRows : Option Nat) (lines : List MatLine) (hpos : ∀ l ∈ lines, 0 ≤ l.row ∧ 0 ≤ l.col)
    (hok : ∀ l ∈ lines, (runOf l).ok (matrixSize sizeRows lines)) :
    ∃ R, matrixOf .lower sizeRows lines = some R ∧
      ∀ i j, i < matrixSize sizeRows lines → j < matrixSize sizeRows lines → j ≤ i →
        R.get i j = (lastCover (lines.map runOf) i j).getD 0 ∧ R.get j i = (lastCover (lines.map runOf) i j).getD 0 := by
  obtain ⟨R, hR, h⟩ := matrixOf_stored .lower sizeRows lines hok
  exact ⟨R, hR, fun i j hi hj hji => h i j hi hj (Or.inl ⟨rfl, hji⟩)⟩

theorem matrixOf_upper (sizeRows : Option Nat) (lines : List MatLine) (hpos : ∀ l ∈ lines, 0 ≤ l.row ∧ 0 ≤ l.col)
    (hok : ∀ l ∈ lines, (runOf l).ok (matrixSize sizeRows lines)) :
    ∃ R, matrixOf .upper sizeRows lines = some R ∧
      ∀ i j, i < matrixSize sizeRows lines → j < matrixSize sizeRows lines → i ≤ j →
        R.get i j = (lastCover (lines.map runOf) i j).getD 0 ∧ R.get j i = (lastCover (lines.map runOf) i j).getD 0 := by
  obtain ⟨R, hR, h⟩ := matrixOf_stored .upper sizeRows lines hok
  exact ⟨R, hR, fun i j hi hj hij => h i j hi hj (Or.inr ⟨rfl, hij⟩)⟩

/-- the field table all three matrix blocks share -/
def matrixFields : List FieldDef :=
  [⟨"row_idx", 1, .i8, .none⟩, ⟨"column_idx", 7, .i8, .none⟩, ⟨"value_0", 13, .f8, .none⟩, ⟨"value_1", 35, .f8, .none⟩,
   ⟨"value_2", 57, .f8, .none⟩]

/-- every matrix block of the base class has these fields: so `matLineOf_record` reads the records of `base_file_matrix` -/
theorem matrix_tables : (baseBlocks.all fun b => match b.kind with
    | .matrix _ => decide (b.fields = matrixFields)
    | _ => true) = true := by decide +kernel

/-- a written matrix record is read as the line (row, column, up to three values) of its texts: integers by
`int`, reals by `float`, an empty value field as "no value" -/
theorem matLineOf_record (a0 a1 a2 a3 a4 : Align) (r c v0 v1 v2 : Str) :
    matLineOf (convertRow matrixFields [(a0, r), (a1, c), (a2, v0), (a3, v1), (a4, v2)]) =
      ⟨(parseInt? r).getD (-1), (parseInt? c).getD (-1), [parseFloat v0, parseFloat v1, parseFloat v2]⟩ := by
  have h0 : validName "row_idx" = "row_idx" := validName_id (by decide +kernel)
  have h1 : validName "column_idx" = "column_idx" := validName_id (by decide +kernel)
  have h2 : validName "value_0" = "value_0" := validName_id (by decide +kernel)
  have h3 : validName "value_1" = "value_1" := validName_id (by decide +kernel)
  have h4 : validName "value_2" = "value_2" := validName_id (by decide +kernel)
  simp [matLineOf, convertRow, matrixFields, lookup, convertCell, toInt, cellInt, cellFlt, h0, h1, h2, h3, h4]

/-- **matrix blocks from the file text**: for a declared matrix block — the first of its marker in the file, titled
`+MARKER L|U [type]`, made of records and comment lines — `data[MARKER]` is `{"matrix": M, "type": type}` where
`M` is what `matrixOf` (to which `matrix_symm`, `matrixOf_lower/upper` apply) makes of the written records for
some size (the model takes the number of rows of the size block when `parse_blocks` delivered one, else the largest
index; the statement leaves open which) -/
theorem base_file_matrix (header : List FieldDef) (blocks : List BlockDef) (b : BlockDef) (sz : String)
    (hb : b ∈ blocks) (hkind : b.kind = .matrix sz) (hnd : (blocks.map (·.marker)).Nodup)
    (hs : Sorted (layoutOf b.fields 81) = true) (hl : leadOk (layoutOf b.fields 81) = true)
    (hd : Str) (pre post : List Seg) (h mk : Str) (lu : Str) (typ : List Str) (htyp : typ.length ≤ 1) (f : Str)
    (items : List Item)
    (hmk : asString mk = b.marker) (hfirst : b.marker ∉ (blocksOf pre).map (·.marker))
    (hitems : ∀ i ∈ items, i.wf b.fields 81)
    (hwf : SnxFile.wf ⟨hd, pre ++ Seg.block h mk (lu :: typ) (content b.fields 81 items) f :: post⟩)
    (R : Result)
    (hR : parseBaseFile header blocks
      (SnxFile.text ⟨hd, pre ++ Seg.block h mk (lu :: typ) (content b.fields 81 items) f :: post⟩) = some R) :
    ∃ D M, R.data = .dict D ∧
      dget? D b.marker = some (.dict [("matrix", .mat M), ("type", .cell (.str (typ.headD [])))]) ∧
      ∃ size, matrixOf (triOf lu) size (((records items).map (convertRow b.fields)).map matLineOf) = some M := by
  obtain ⟨_, D, hRD, hD, hr⟩ := parseWith_dict_look _ _ _ _ (assembleBase blocks) _ hwf R hR _ (lu :: typ) _
    ⟨pre, post, h, mk, f, rfl, hmk, hfirst⟩ (List.mem_map_of_mem hb)
  have hget := (assembleBase_get blocks _ D hnd hD).1 b hb
  -- the step of `b` succeeded, so its matrix parser returned a value: the one stored
  obtain ⟨D1, D2, hstep⟩ := Lists.foldlM_steps_some blocks [] D hD b hb
  rw [baseStep_some hr] at hstep
  obtain ⟨v, hv, _⟩ := Option.map_eq_some_iff.mp hstep
  rw [hr, Option.bind_some, hv] at hget
  simp only [blockVal, hkind, matrixVal, rowsOf_content b 81 hs hl items hitems] at hv
  -- one or two title parameters
  match typ, htyp, hv with
  | [], _, hv =>
    obtain ⟨M, hM, rfl⟩ := Option.map_eq_some_iff.mp hv
    exact ⟨D, M, hRD, hget, _, hM⟩
  | [t], _, hv =>
    obtain ⟨M, hM, rfl⟩ := Option.map_eq_some_iff.mp hv
    exact ⟨D, M, hRD, hget, _, hM⟩

/-- **discontinuities / events from the file text**: the parser declaring the single per-site block `b` reads a
file holding that block (first of its marker, anywhere in the body): the result is the site table built
from exactly the written records — every record (without its `site_code`) under the site its `site_code`
names, and over all sites the stored rows are a permutation of the written ones: none lost, none duplicated -/
theorem disc_file_roundtrip (header : List FieldDef) (b : BlockDef) (q : String) (hkind : b.kind = .custom q)
    (hs : Sorted (layoutOf b.fields 81) = true) (hl : leadOk (layoutOf b.fields 81) = true)
    (hd : Str) (pre post : List Seg) (h mk : Str) (ps : List Str) (f : Str) (items : List Item)
    (hmk : asString mk = b.marker) (hfirst : b.marker ∉ (blocksOf pre).map (·.marker))
    (hitems : ∀ i ∈ items, i.wf b.fields 81)
    (hwf : SnxFile.wf ⟨hd, pre ++ Seg.block h mk ps (content b.fields 81 items) f :: post⟩) :
    ∃ T : SiteTable,
      parseDiscFile header [b] (SnxFile.text ⟨hd, pre ++ Seg.block h mk ps (content b.fields 81 items) f :: post⟩) =
        some ⟨headerRow snxTag header (fun _ => 81) hd, siteTableVal T⟩ ∧
      T = regroup false (entryName q) siteKey dropSiteCode [] ((records items).map (convertRow b.fields)) ∧
      (allRows (entryName q) T).Perm (((records items).map (convertRow b.fields)).map dropSiteCode) := by
  refine ⟨_, ?_, rfl, ?_⟩
  · unfold parseDiscFile
    rw [parseWith_file _ _ _ _ _ _ hwf]
    simp only [Option.bind_some, assembleDisc, List.foldlM_cons, List.foldlM_nil, discStep, hkind,
      firstBlock_look _ _ ps _ ⟨pre, post, h, mk, f, rfl, hmk, hfirst⟩ ([b].map (·.marker)) (by simp),
      rowsOf_content b 81 hs hl items hitems, Option.pure_def, Option.bind_eq_bind, Option.map_some]
  · have := site_regroup (entryName q) siteKey dropSiteCode ((records items).map (convertRow b.fields)) []
    simpa [allRows_nil] using this

/-! ## sinex_site (and discontinuities / events, site by site): every block's rows are kept, whatever else is in the file -/

/-- **sinex_site keeps every row of every block**: after all declared blocks are applied, the rows found
under entry `e` (any entry but `site_id`, which holds one record per site) over all sites are a
permutation of the rows that were there plus the rows of the blocks of that entry (antenna rows with the
radome type split off) — whatever other blocks are declared or present -/
theorem site_fold_rows (look : String → Option RawBlock) (e : String) (he1 : e ≠ "site_id") (he2 : e ≠ "file_comment") :
    ∀ (bs : List BlockDef) (st st' : SiteTable × Option Str), bs.foldlM (siteStep look) st = some st' →
      (allRows e st'.1).Perm (allRows e st.1 ++ bs.flatMap (contrib e look)) := by
  refine Lists.foldlM_induct (f := siteStep look) (R := fun bs st st' => (allRows e st'.1).Perm (allRows e st.1 ++ bs.flatMap (contrib e look)))
    (fun _ => by simp) ?_
  intro st b st1 bs st' hstep _ ih
  obtain ⟨e', _, htab, hother⟩ := siteStep_table look st st1 b hstep
  have hs : (allRows e st1.1).Perm (allRows e st.1 ++ contrib e look b) := by
    rw [htab]
    by_cases he : e' = e
    · subst he
      simpa [he1] using site_regroup e' siteKey id (contrib e' look b) st.1
    · rw [allRows_regroup_other _ e e' he, hother e (Ne.symm he) he2, List.append_nil]
  rw [List.flatMap_cons, ← List.append_assoc]
  exact ih.trans (List.Perm.append_right _ hs)

/-- the reference-frame step leaves every row where it is, adding `ref_frame` to solution_estimate rows only -/
theorem allRows_addRefFrame (e : String) (he : e ≠ "solution_estimate") (frame : Option Str) (T : SiteTable) :
    allRows e (addRefFrame frame T) = allRows e T := by
  cases frame with
  | none => rfl
  | some fr =>
    rw [addRefFrame_eq]
    simp only [allRows, List.flatMap_def, List.map_map]
    refine congrArg List.flatten (List.map_congr_left fun kv _ => ?_)
    simp only [Function.comp, frameEntries]
    split
    · rw [dget_map_val (frameRows fr)]
      cases dget? kv.2 e <;> simp [frameRows, he]
    · rfl

/-- in the table `sinex_site` returns (`assembleSite` = `siteTableVal` of it), the rows
under an entry other than `site_id` — receiver, antenna, eccentricity, solution epochs … — over all sites are
a permutation of the rows of the blocks of that entry: none lost, none duplicated, whatever the order
of the blocks in the file and whatever other blocks it holds (solution_estimate: the same before the
reference frame is added to its rows, `site_fold_rows`) -/
theorem site_rows_kept (blocks : List BlockDef) (look : String → Option RawBlock) (e : String)
    (he1 : e ≠ "site_id") (he2 : e ≠ "file_comment") (he3 : e ≠ "solution_estimate") (st : SiteTable × Option Str)
    (h : blocks.foldlM (siteStep look) ([], Option.none) = some st) :
    (allRows e (addRefFrame st.2 st.1)).Perm (blocks.flatMap (contrib e look)) := by
  rw [allRows_addRefFrame e he3]
  have := site_fold_rows look e he1 he2 blocks ([], Option.none) st h
  simpa [allRows_nil] using this

/-- **regrouping, site by site**: after `append`-mode regrouping, site `k` holds what it held plus exactly the
block's rows whose key is `k`, in the block's order -/
theorem entryRows_regroup_false (e : String) (keyOf : Row → String) (f : Row → Row) (rows : List Row) (k : String) :
    ∀ T : SiteTable, entryRows e (regroup false e keyOf f T rows) k =
      entryRows e T k ++ (rows.filter fun r => keyOf r = k).map f := by
  induction rows with
  | nil => intro T; simp [regroup_nil]
  | cons r rows ih =>
    intro T
    rw [regroup_cons, ih, entryRows_addRow]
    by_cases hk : keyOf r = k
    · subst hk
      simp
    · simp [hk, Ne.symm hk]

/-- in `data[site][entry] = row` mode (SITE/ID) the last row of a key wins.  (Stands in this file because the `match` of
its statement is the one the statements of `siteStep_entry` and `site_fold_entry` share with it.) -/
theorem entryRows_regroup_true (e : String) (keyOf : Row → String) (f : Row → Row) (rows : List Row) (k : String) :
    ∀ T : SiteTable, entryRows e (regroup true e keyOf f T rows) k =
      match (rows.filter fun r => keyOf r = k).getLast? with
      | some r => [f r]
      | Option.none => entryRows e T k := by
  intro T
  -- arguments: the step, what is observed, which rows count, what a counting row leaves, the invariant the step keeps
  rw [regroup, Lists.foldl_last_wins (fun T r => addRow true e T (keyOf r) (f r)) (fun T => entryRows e T k)
    (fun r => decide (keyOf r = k)) (fun r => [f r]) (fun _ => True) rows T trivial
    fun T _ r _ => ⟨trivial, by rw [entryRows_addRow]; simp [eq_comm]⟩]
  cases (rows.filter _).getLast? <;> rfl

/-- **discontinuities / events, site by site**: in the table of `disc_file_roundtrip`, site `k` holds exactly the
written records whose (lower-cased) site code is `k`, without that field, in file order -/
theorem disc_site_rows (e : String) (rows : List Row) (k : String) :
    entryRows e (regroup false e siteKey dropSiteCode [] rows) k =
      (rows.filter fun r => siteKey r = k).map dropSiteCode := by
  rw [entryRows_regroup_false]
  simp [entryRows_nil]

theorem siteStep_entry (look : String → Option RawBlock) (e : String) (he2 : e ≠ "file_comment")
    (st st1 : SiteTable × Option Str) (b : BlockDef) (k : String) (hstep : siteStep look st b = some st1) :
    entryRows e st1.1 k =
      if e = "site_id" then
        (match ((contrib e look b).filter fun r => siteKey r = k).getLast? with
         | some r => [r]
         | Option.none => entryRows e st.1 k)
      else entryRows e st.1 k ++ (contrib e look b).filter fun r => siteKey r = k := by
  obtain ⟨e', _, htab, hother⟩ := siteStep_table look st st1 b hstep
  rw [htab]
  by_cases he : e' = e
  · subst he
    by_cases hid : e' = "site_id"
    · simpa [hid] using entryRows_regroup_true "site_id" siteKey id (contrib "site_id" look b) k st.1
    · simpa [hid] using entryRows_regroup_false e' siteKey id (contrib e' look b) k st.1
  · rw [entryRows_regroup_other _ e e' he, hother e (Ne.symm he) he2]
    by_cases hid : e = "site_id" <;> simp [hid]

/-- **sinex_site, site by site** (before the reference-frame step): under every entry but `site_id`, site `k` holds
what it held plus exactly the rows of that entry's blocks whose site code is `k`, in file order; under `site_id` it
holds the last SITE/ID record of that site code -/
theorem site_fold_entry (look : String → Option RawBlock) (e : String) (he2 : e ≠ "file_comment") (k : String) :
    ∀ (bs : List BlockDef) (st st' : SiteTable × Option Str), bs.foldlM (siteStep look) st = some st' →
      entryRows e st'.1 k =
        if e = "site_id" then
          (match ((bs.flatMap (contrib e look)).filter fun r => siteKey r = k).getLast? with
           | some r => [r]
           | Option.none => entryRows e st.1 k)
        else entryRows e st.1 k ++ (bs.flatMap (contrib e look)).filter fun r => siteKey r = k := by
  intro bs
  induction bs with
  | nil =>
    intro st st' h
    cases (Option.some.inj h : st = st')
    by_cases h : e = "site_id" <;> simp [h]
  | cons b rest ih =>
    intro st st' h
    obtain ⟨st1, hstep, h⟩ := Lists.foldlM_cons_some.mp h
    rw [ih st1 st' h, siteStep_entry look e he2 st st1 b k hstep]
    by_cases hid : e = "site_id"
    · simp only [hid, if_true, List.flatMap_cons, List.filter_append, List.getLast?_append]
      cases (List.filter (fun r => decide (siteKey r = k)) (List.flatMap (contrib "site_id" look) rest)).getLast? <;> simp
    · simp only [hid, if_false, List.flatMap_cons, List.filter_append, List.append_assoc]

/-- **the reference-frame step, site by site**: the rows stay where they are; the `solution_estimate` rows of sites
with a four-character key get `ref_frame`, nothing else changes -/
theorem entryRows_addRefFrame (e : String) (frame : Option Str) (T : SiteTable) (k : String) :
    entryRows e (addRefFrame frame T) k =
      match frame with
      | some fr =>
        if k.length = 4 ∧ e = "solution_estimate" then (entryRows e T k).map fun r => dset r "ref_frame" (Cell.str fr)
        else entryRows e T k
      | Option.none => entryRows e T k := by
  cases frame with
  | none => rfl
  | some fr =>
    unfold entryRows
    rw [addRefFrame_eq, dget_map_val (frameEntries fr) T k]
    cases hk : dget? T k with
    | none => simp
    | some entries =>
      simp only [Option.map_some, Option.bind_some]
      by_cases h4 : k.length = 4
      · simp only [h4, true_and, frameEntries, if_true]
        rw [dget_map_val (frameRows fr) entries e]
        cases dget? entries e with
        | none => simp
        | some rows => by_cases h : e = "solution_estimate" <;> simp [h, frameRows]
      · simp [h4, frameEntries]

/-- `parse_file_comment`: a comment `LOCAL_GEODETIC_DATUM:<frame>` gives the stripped frame (other comments are
ignored) -/
theorem refFrame_value (pre post : List Row) (row : Row) (p : Str)
    (hpre : ∀ r ∈ pre, startsWith "LOCAL_GEODETIC_DATUM".toList (cellStr ((r.headD ("", .none)).2)) = false)
    (hpost : ∀ r ∈ post, startsWith "LOCAL_GEODETIC_DATUM".toList (cellStr ((r.headD ("", .none)).2)) = false)
    (hrow : cellStr ((row.headD ("", .none)).2) = "LOCAL_GEODETIC_DATUM".toList ++ ':' :: p) (hp : ∀ c ∈ p, c ≠ ':') :
    refFrame (pre ++ row :: post) = some (some (strip p)) := by
  rw [refFrame_eq, List.foldlM_append, refStep_skip pre _ hpre]
  have hsw : startsWith "LOCAL_GEODETIC_DATUM".toList ("LOCAL_GEODETIC_DATUM".toList ++ ':' :: p) = true :=
    startsWith_append _ _
  have hsplit : splitOn ':' ("LOCAL_GEODETIC_DATUM".toList ++ ':' :: p) = ["LOCAL_GEODETIC_DATUM".toList, p] := by
    unfold splitOn
    rw [splitOnAux_line ':' _ (by decide), splitOnAux_last ':' p hp]
    rfl
  have hstep : refStep Option.none row = some (some (strip p)) := by
    simp only [refStep, hrow, hsw, if_true, hsplit]
  simp only [Option.bind_eq_bind, Option.bind_some, List.foldlM_cons, hstep]
  exact refStep_skip post _ hpost

/-- in `data[site][entry] = row` mode, `rows.length` more rows are stored exactly when the keys of the rows are pairwise
different and none of them was there before; otherwise fewer -/
theorem count_regroup_true (e : String) (keyOf : Row → String) (f : Row → Row) (rows : List Row) :
    ∀ T : SiteTable, SingleInv e T →
      (allRows e (regroup true e keyOf f T rows)).length ≤ (allRows e T).length + rows.length ∧
      ((allRows e (regroup true e keyOf f T rows)).length = (allRows e T).length + rows.length ↔
        ((rows.map keyOf).Nodup ∧ ∀ r ∈ rows, hasE e T (keyOf r) = false)) := by
  induction rows with
  | nil => intro T _; simp [regroup_nil]
  | cons r rows ih =>
    intro T hinv
    rw [regroup_cons]
    obtain ⟨hle, hiff⟩ := ih (addRow true e T (keyOf r) (f r)) (singleInv_addRow_true e _ _ T hinv)
    have hA := length_allRows_addRow_true e (keyOf r) (f r) T hinv
    constructor
    · rw [hA] at hle
      simp only [List.length_cons]
      split at hle <;> omega
    · simp only [List.length_cons, List.map_cons, List.nodup_cons, List.mem_cons, forall_eq_or_imp]
      by_cases hh : hasE e T (keyOf r) = true
      · -- the key is there already: a row is replaced
        rw [hA] at hle
        simp only [hh, if_true] at hle
        constructor
        · intro heq; omega
        · intro ⟨_, hfalse, _⟩; rw [hh] at hfalse; cases hfalse
      · have hh' : hasE e T (keyOf r) = false := by simpa using hh
        rw [hA] at hiff
        simp only [hh', Bool.false_eq_true, if_false] at hiff
        rw [show (allRows e T).length + (rows.length + 1) = (allRows e T).length + 1 + rows.length by omega, hiff]
        simp only [hasE_addRow_true, Bool.or_eq_false_iff, decide_eq_false_iff_not, hh', true_and]
        constructor
        · intro ⟨hnd, hall⟩
          refine ⟨⟨fun hm => ?_, hnd⟩, fun r' hr' => (hall r' hr').1⟩
          simp only [List.mem_map] at hm
          obtain ⟨r', hr', heq⟩ := hm
          exact (hall r' hr').2 heq
        · intro ⟨⟨hnot, hnd⟩, hall⟩
          exact ⟨hnd, fun r' hr' => ⟨hall r' hr', fun heq => hnot (List.mem_map.mpr ⟨r', hr', heq⟩)⟩⟩

/-- **SITE/ID row count**: `sinex_site` returns as many SITE/ID records as were written **if and only if** the
(lower-cased) site codes of the records are pairwise different; otherwise it returns fewer — the known finding
`site:site_id:row-count` is exactly the complement of the hypothesis of `site_file_site_id` -/
theorem site_id_count (rows : List Row) :
    (allRows "site_id" (regroup true "site_id" siteKey id [] rows)).length ≤ rows.length ∧
    ((allRows "site_id" (regroup true "site_id" siteKey id [] rows)).length = rows.length ↔ (rows.map siteKey).Nodup) := by
  have hinv : SingleInv "site_id" [] := fun kv hkv => by simp at hkv
  obtain ⟨h1, h2⟩ := count_regroup_true "site_id" siteKey id rows [] hinv
  simp only [allRows_nil, List.length_nil, Nat.zero_add] at h1 h2
  refine ⟨h1, ?_⟩
  rw [h2]
  simp [hasE_nil]

/-- `SinexSiteParser.parse()` on the text of a file is the loop over the declared blocks the `site_file_*` theorems speak
about, followed by the reference-frame step -/
theorem parseSite_file (header : List FieldDef) (blocks : List BlockDef) (F : SnxFile) (hwf : F.wf) (R : Result)
    (hR : parseSiteFile header blocks F.text = some R) :
    R.hdr = headerRow snxTag header (fun _ => 81) F.header ∧
    ∃ st, blocks.foldlM (siteStep (rawOf (expected (blocks.map (·.marker)) F.segs))) ([], Option.none) = some st ∧
      R.data = siteTableVal (addRefFrame st.2 st.1) := by
  unfold parseSiteFile assembleSite at hR
  rw [parseWith_file _ _ _ _ _ F hwf, Option.map_map] at hR
  obtain ⟨st, hst, rfl⟩ := Option.map_eq_some_iff.mp hR
  exact ⟨rfl, st, hst, rfl⟩

theorem contrib_file (e : String) (b : BlockDef) (q : String) (hk : b.kind = .custom q) (hq : entryName q = e)
    (hna : e ≠ "site_antenna") (hs : Sorted (layoutOf b.fields 81) = true) (hl : leadOk (layoutOf b.fields 81) = true)
    (segs : List Seg) (ps : List Str) (items : List Item) (hitems : ∀ i ∈ items, i.wf b.fields 81)
    (hfb : FirstBlock segs b.marker ps (content b.fields 81 items)) (w : List String) (hw : b.marker ∈ w) :
    contrib e (rawOf (expected w segs)) b = (records items).map (convertRow b.fields) := by
  unfold contrib
  simp only [firstBlock_look segs _ ps _ hfb w hw, hk, hq, if_true, hna, if_false, rowsOf_content b 81 hs hl items hitems]

/-- **SITE/ID at file level**: `sinex_site` (the SITE/ID block the only one stored under `site_id`) reads a file holding a
SITE/ID block (first of its marker, anywhere) whose records have pairwise different (lower-cased) site codes.  Then
in the returned table every written record sits, converted, under `data[site_code.lower()]["site_id"]`. -/
theorem site_file_site_id (pre post : List BlockDef) (b : BlockDef) (q : String)
    (hk : b.kind = .custom q) (hq : entryName q = "site_id")
    (hpre : ∀ b' ∈ pre, OtherEntry "site_id" b') (hpost : ∀ b' ∈ post, OtherEntry "site_id" b')
    (hs : Sorted (layoutOf b.fields 81) = true) (hl : leadOk (layoutOf b.fields 81) = true)
    (segs : List Seg) (ps : List Str) (items : List Item) (hitems : ∀ i ∈ items, i.wf b.fields 81)
    (hfb : FirstBlock segs b.marker ps (content b.fields 81 items))
    (hnd : (((records items).map (convertRow b.fields)).map siteKey).Nodup)
    (st : SiteTable × Option Str)
    (hfold : (pre ++ b :: post).foldlM (siteStep (rawOf (expected ((pre ++ b :: post).map (·.marker)) segs)))
      ([], Option.none) = some st) :
    ∀ r ∈ (records items).map (convertRow b.fields),
      entryRows "site_id" (addRefFrame st.2 st.1) (siteKey r) = [r] := by
  intro r hr
  have hframe : entryRows "site_id" (addRefFrame st.2 st.1) (siteKey r) = entryRows "site_id" st.1 (siteKey r) := by
    rw [entryRows_addRefFrame]
    have : ¬ "site_id" = "solution_estimate" := by decide
    cases st.2 <;> simp [this]
  rw [hframe, site_fold_entry _ "site_id" (by decide) (siteKey r) _ _ st hfold]
  simp only [if_true]
  rw [flatMap_contrib_single "site_id" _ pre post b hpre hpost,
    contrib_file "site_id" b q hk hq (by decide) hs hl segs ps items hitems hfb _ (by simp),
    Lists.filter_key_nodup siteKey _ hnd r hr]
  rfl

/-- **every other site block at file level, site by site, with the reference frame**: under entry `e` (receiver,
eccentricity, solution epochs, solution estimate …; its block the only one of that entry) site `k` holds exactly the
written records whose site code is `k`, in file order; the `solution_estimate` rows of four-character sites carry
`ref_frame` when the parser kept a frame -/
theorem site_file_entry (e : String) (he1 : e ≠ "site_id") (he2 : e ≠ "file_comment") (hna : e ≠ "site_antenna")
    (pre post : List BlockDef) (b : BlockDef) (q : String) (hk : b.kind = .custom q) (hq : entryName q = e)
    (hpre : ∀ b' ∈ pre, OtherEntry e b') (hpost : ∀ b' ∈ post, OtherEntry e b')
    (hs : Sorted (layoutOf b.fields 81) = true) (hl : leadOk (layoutOf b.fields 81) = true)
    (segs : List Seg) (ps : List Str) (items : List Item) (hitems : ∀ i ∈ items, i.wf b.fields 81)
    (hfb : FirstBlock segs b.marker ps (content b.fields 81 items))
    (st : SiteTable × Option Str)
    (hfold : (pre ++ b :: post).foldlM (siteStep (rawOf (expected ((pre ++ b :: post).map (·.marker)) segs)))
      ([], Option.none) = some st) (k : String) :
    entryRows e (addRefFrame st.2 st.1) k =
      match st.2 with
      | some fr =>
        if k.length = 4 ∧ e = "solution_estimate" then
          (((records items).map (convertRow b.fields)).filter fun r => siteKey r = k).map fun r =>
            dset r "ref_frame" (Cell.str fr)
        else ((records items).map (convertRow b.fields)).filter fun r => siteKey r = k
      | Option.none => ((records items).map (convertRow b.fields)).filter fun r => siteKey r = k := by
  have hrows : entryRows e st.1 k = ((records items).map (convertRow b.fields)).filter fun r => siteKey r = k := by
    rw [site_fold_entry _ e he2 k _ _ st hfold]
    simp only [he1, if_false]
    rw [flatMap_contrib_single e _ pre post b hpre hpost,
      contrib_file e b q hk hq hna hs hl segs ps items hitems hfb _ (by simp)]
    simp [entryRows_nil]
  rw [entryRows_addRefFrame, hrows]

/-- **the frame at file level**: with a FILE/COMMENT block declared and present, the frame `sinex_site` keeps is
`parse_file_comment` of that block's written records (`refFrame_value`: the text after `LOCAL_GEODETIC_DATUM:`) -/
theorem site_file_frame (pre post : List BlockDef) (b : BlockDef) (q : String)
    (hk : b.kind = .custom q) (hq : entryName q = "file_comment") (hpost : ∀ b' ∈ post, OtherEntry "file_comment" b')
    (hs : Sorted (layoutOf b.fields 81) = true) (hl : leadOk (layoutOf b.fields 81) = true)
    (segs : List Seg) (ps : List Str) (items : List Item) (hitems : ∀ i ∈ items, i.wf b.fields 81)
    (hfb : FirstBlock segs b.marker ps (content b.fields 81 items))
    (st : SiteTable × Option Str)
    (hfold : (pre ++ b :: post).foldlM (siteStep (rawOf (expected ((pre ++ b :: post).map (·.marker)) segs)))
      ([], Option.none) = some st) :
    refFrame ((records items).map (convertRow b.fields)) = some st.2 := by
  rw [← rowsOf_content b 81 hs hl items hitems b.marker ps]
  exact site_fold_frame _ pre post b q hk hq hpost _ (firstBlock_look segs _ ps _ hfb _ (by simp)) _ st hfold

/-- the declared blocks of `SinexSiteParser` satisfy the table hypotheses of `site_file_site_id` -/
example : ∃ pre post b q, siteBlocks = pre ++ b :: post ∧ b.kind = .custom q ∧ entryName q = "site_id" ∧
    (∀ b' ∈ pre ++ post, OtherEntry "site_id" b') ∧ Sorted (layoutOf b.fields 81) = true ∧ leadOk (layoutOf b.fields 81) = true :=
  ⟨siteBlocks.take 1, siteBlocks.drop 2, siteBlocks[1], "SinexSiteParser.parse_site_id",
    Lists.eq_take_cons_drop siteBlocks 1 (by decide), by decide +kernel⟩

/-- two SITE/ID records with the same site code: one comes back (the finding), with different codes both do -/
example : (allRows "site_id" (regroup true "site_id" siteKey id []
      [[("site_code", .str "ZIMM".toList), ("point_code", .str "A".toList)],
       [("site_code", .str "zimm".toList), ("point_code", .str "B".toList)]])).length = 1 ∧
    (allRows "site_id" (regroup true "site_id" siteKey id []
      [[("site_code", .str "ZIMM".toList), ("point_code", .str "A".toList)],
       [("site_code", .str "ZIM2".toList), ("point_code", .str "B".toList)]])).length = 2 := by
  repeat rw [String.toList_ofList]
  decide +kernel

/-- **discontinuities / events from the file, site by site**: in the table the parser returns for the file of
`disc_file_roundtrip`, site `k` holds exactly the written records whose lower-cased site code is `k` (without
that field), in file order — each record under its own site, no other -/
theorem disc_file_site_rows (b : BlockDef) (q : String) (items : List Item) (k : String) :
    entryRows (entryName q)
      (regroup false (entryName q) siteKey dropSiteCode [] ((records items).map (convertRow b.fields))) k =
      (((records items).map (convertRow b.fields)).filter fun r => siteKey r = k).map dropSiteCode :=
  disc_site_rows _ _ k

/-! ## sinex_tms: one block among the others, and each block from the file text -/

/-- a block parser of sinex_tms touches nothing but its own key (`tmsStep_custom`) -/
theorem tmsStep_key_other (look : String → Option RawBlock) (k : String) (D D' : List (String × Val))
    (b : BlockDef) (hb : OtherKey k b) (h : tmsStep look D b = some D') : dget? D' k = dget? D k := by
  cases hlook : look b.marker with
  | none =>
    simp only [tmsStep, hlook] at h
    rw [← Option.some.inj h]
  | some r =>
    cases hk : b.kind with
    | dflt => simp [tmsStep, hlook, hk] at h
    | matrix _ => simp [tmsStep, hlook, hk] at h
    | custom q =>
      rw [tmsStep_custom look D b q r hlook hk] at h
      obtain ⟨v, _, rfl⟩ := Option.map_eq_some_iff.mp h
      exact dget_dset_ne _ _ _ _ (hb q hk)

/-- **one block among the others**: when `SinexTmsParser` returns, `data[k]` is what the parser of the only block
writing `k` made of it, starting from a `data` that did not have `k` — the blocks declared before and after do
not matter -/
theorem tms_fold_block (look : String → Option RawBlock) (k : String) (pre post : List BlockDef) (b : BlockDef)
    (hpre : ∀ b' ∈ pre, OtherKey k b') (hpost : ∀ b' ∈ post, OtherKey k b') (D0 D : List (String × Val))
    (h : (pre ++ b :: post).foldlM (tmsStep look) D0 = some D) :
    ∃ D1 D2, pre.foldlM (tmsStep look) D0 = some D1 ∧ tmsStep look D1 b = some D2 ∧
      dget? D1 k = dget? D0 k ∧ dget? D k = dget? D2 k :=
  Lists.foldlM_owner (dget? · k) (fun D b D' => tmsStep_key_other look k D D' b) hpre hpost h

theorem tms_block (look : String → Option RawBlock) (pre post : List BlockDef) (b : BlockDef) (q e key : String)
    (hk : b.kind = .custom q) (hq : entryName q = e) (hkey : tmsKey e = key) (r : RawBlock) (hr : look b.marker = some r)
    (hpre : ∀ b' ∈ pre, OtherKey key b') (hpost : ∀ b' ∈ post, OtherKey key b')
    (D : List (String × Val)) (h : assembleTms (pre ++ b :: post) look = some D) :
    ∃ D1 v, pre.foldlM (tmsStep look) [] = some D1 ∧ dget? D1 key = Option.none ∧
      tmsValue e b r D1 = some v ∧ dget? D key = some v := by
  obtain ⟨D1, D2, h1, h2, h3, h4⟩ := tms_fold_block look key pre post b hpre hpost [] D h
  rw [tmsStep_custom look D1 b q r hr hk, hq, hkey] at h2
  obtain ⟨v, hv, rfl⟩ := Option.map_eq_some_iff.mp h2
  exact ⟨D1, v, h1, h3, hv, by rw [h4, dget_dset_self]⟩

/-- **a site block of sinex_tms**: when `SinexTmsParser` returns, the list stored under `site_id`,
`site_receiver` or `site_eccentricity` holds one dictionary per record of that block, in file order, nothing
else — whichever other blocks are declared before or after it and present in the file -/
theorem tms_site_block (look : String → Option RawBlock) (e : String) (he : tmsListEntry e)
    (pre post : List BlockDef) (b : BlockDef) (q : String) (hk : b.kind = .custom q) (hq : entryName q = e)
    (hpre : ∀ b' ∈ pre, OtherEntry e b') (hpost : ∀ b' ∈ post, OtherEntry e b')
    (r : RawBlock) (hr : look b.marker = some r) (D : List (String × Val))
    (h : assembleTms (pre ++ b :: post) look = some D) :
    dget? D e = some (.list ((rowsOfTms b r).map rowVal)) := by
  obtain ⟨D1, v, _, hnone, hv, hget⟩ := tms_block look pre post b q e e hk hq
    (tmsKey_ne (by rcases he with rfl | rfl | rfl <;> decide)) r hr
    (fun b' hb' => (hpre b' hb').otherKey he) (fun b' hb' => (hpost b' hb').otherKey he) D h
  rw [hget, ← hv, tmsValue_list e he, listAt_none hnone]
  rfl

/-- the table of sinex_tms satisfies the hypotheses, shown for `site_receiver` -/
example : ∃ pre post b, tmsBlocks = pre ++ b :: post ∧ b.kind = .custom "SinexTmsParser.parse_site_receiver" ∧
    entryName "SinexTmsParser.parse_site_receiver" = "site_receiver" ∧
    (∀ b' ∈ pre, OtherEntry "site_receiver" b') ∧ (∀ b' ∈ post, OtherEntry "site_receiver" b') :=
  ⟨tmsBlocks.take 2, tmsBlocks.drop 3, tmsBlocks[2], Lists.eq_take_cons_drop tmsBlocks 2 (by decide), by decide +kernel⟩

theorem rowsOfTms_emitted (b : BlockDef) (W : Nat) (recs : List (Bool × List (Align × Str))) (hok : RecsOk b.fields W recs)
    (m : String) (ps : List Str) :
    rowsOfTms b ⟨m, ps, dataLines (emitted b.fields W recs)⟩ = recs.map fun r => convertRow b.fields r.2 := by
  have hdl : dataLines (emitted b.fields W recs) = emitted b.fields W recs :=
    dataLines_eq_self (List.forall_mem_map.mpr fun r hr => emit_lead _ hok.lead r (hok.fits r hr) (hok.vis r hr))
  have := tms_block_roundtrip b.fields W hok.ne hok.sorted recs hok.fits hok.vis
  rw [hdl]
  simp only [rowsOfTms, emitted]
  simpa using this

/-- **site blocks of sinex_tms from the file text**: `SinexTmsParser` (its declared blocks `pre ++ b :: post`, the
block `b` being the only one stored under the list entry `e`) reads a file that holds — anywhere — the block of `b`
(first of its marker) whose records were rendered into the columns of `b`'s table (last field ending at some
column `W`) and written with or without trailing blanks.  Then `data[e]` is the list of one dictionary per
written record, in order, each value the declared conversion of the written text. -/
theorem tms_file_site_block (header : List FieldDef) (preB postB : List BlockDef) (b : BlockDef) (q e : String)
    (he : tmsListEntry e) (hk : b.kind = .custom q) (hq : entryName q = e)
    (hpreB : ∀ b' ∈ preB, OtherEntry e b') (hpostB : ∀ b' ∈ postB, OtherEntry e b')
    (W : Nat) (hne : b.fields ≠ []) (hs : Sorted (layoutOf b.fields W) = true) (hl : leadOk (layoutOf b.fields W) = true)
    (recs : List (Bool × List (Align × Str)))
    (hf : ∀ r ∈ recs, Fits (layoutOf b.fields W) r.2 = true)
    (hvis : ∀ r ∈ recs, emit r.1 (renderA (layoutOf b.fields W) r.2) ≠ [])
    (hd : Str) (pre post : List Seg) (h mk : Str) (ps : List Str) (f : Str)
    (hmk : asString mk = b.marker) (hfirst : b.marker ∉ (blocksOf pre).map (·.marker))
    (hwf : SnxFile.wf ⟨hd, pre ++ Seg.block h mk ps (recs.map fun r => emit r.1 (renderA (layoutOf b.fields W) r.2)) f :: post⟩)
    (R : Result)
    (hR : parseTmsFile header (preB ++ b :: postB)
      (SnxFile.text ⟨hd, pre ++ Seg.block h mk ps (recs.map fun r => emit r.1 (renderA (layoutOf b.fields W) r.2)) f :: post⟩)
        = some R) :
    R.hdr = headerRow tmsTag header (fun l => l.length + 1) hd ∧
    ∃ D, R.data = .dict D ∧ dget? D e = some (.list (recs.map fun r => rowVal (convertRow b.fields r.2))) := by
  obtain ⟨hhdr, D, hRD, hD, hr⟩ := parseWith_dict_look _ _ _ _ (assembleTms _) ⟨hd, _⟩ hwf R hR _ ps (emitted b.fields W recs)
    ⟨pre, post, h, mk, f, rfl, hmk, hfirst⟩ (by simp)
  refine ⟨hhdr, D, hRD, ?_⟩
  rw [tms_site_block _ e he preB postB b q hk hq hpreB hpostB _ hr D hD,
    rowsOfTms_emitted b W recs ⟨hne, hs, hl, hf, hvis⟩, List.map_map]
  rfl

/-- **TIMESERIES/COLUMNS**: `data["timeseries_columns"]` is the table of the block's records, column by column -/
theorem tms_columns_block (look : String → Option RawBlock) (pre post : List BlockDef) (b : BlockDef) (q : String)
    (hk : b.kind = .custom q) (hq : entryName q = "timeseries_columns")
    (hpre : ∀ b' ∈ pre, OtherKey "timeseries_columns" b') (hpost : ∀ b' ∈ post, OtherKey "timeseries_columns" b')
    (r : RawBlock) (hr : look b.marker = some r) (D : List (String × Val))
    (h : assembleTms (pre ++ b :: post) look = some D) :
    dget? D "timeseries_columns" = some (.dict (columns b.fields (rowsOfTms b r))) := by
  obtain ⟨D1, v, _, _, hv, hget⟩ := tms_block look pre post b q _ _ hk hq (tmsKey_ne (by simp)) r hr hpre hpost D h
  rw [hget, ← hv, tmsValue_columns]

/-- **TIMESERIES/REF_COORDINATE** (exactly one record, else `data.item()` raises): `data["ref_coordinate"]` is the
dictionary of that record -/
theorem tms_ref_block (look : String → Option RawBlock) (pre post : List BlockDef) (b : BlockDef) (q : String)
    (hk : b.kind = .custom q) (hq : entryName q = "timeseries_ref_coordinate")
    (hpre : ∀ b' ∈ pre, OtherKey "ref_coordinate" b') (hpost : ∀ b' ∈ post, OtherKey "ref_coordinate" b')
    (r : RawBlock) (hr : look b.marker = some r) (row : Row) (hrows : rowsOfTms b r = [row]) (D : List (String × Val))
    (h : assembleTms (pre ++ b :: post) look = some D) :
    dget? D "ref_coordinate" = some (rowVal row) := by
  obtain ⟨D1, v, _, _, hv, hget⟩ := tms_block look pre post b q _ _ hk hq (if_pos rfl) r hr hpre hpost D h
  rw [hget, ← hv, tmsValue_ref, hrows]

/-- `SinexTmsParser` raises on a REF_COORDINATE block with no or several records -/
theorem tms_ref_block_raises (look : String → Option RawBlock) (pre post : List BlockDef) (b : BlockDef) (q : String)
    (hk : b.kind = .custom q) (hq : entryName q = "timeseries_ref_coordinate")
    (r : RawBlock) (hr : look b.marker = some r) (hrows : (rowsOfTms b r).length ≠ 1) :
    assembleTms (pre ++ b :: post) look = Option.none := by
  cases h : assembleTms (pre ++ b :: post) look with
  | none => rfl
  | some D =>
    -- the step of `b` would have succeeded
    obtain ⟨D1, D2, _, h2, _⟩ := Lists.foldlM_split h
    rw [tmsStep_custom look D1 b q r hr hk, hq, tmsValue_ref] at h2
    split at h2
    · next row heq =>
      rw [heq] at hrows
      exact absurd rfl hrows
    · cases h2

/-- **SITE/ANTENNA**: `data["site_antenna"]` holds one dictionary per record, in order, the antenna field split into
antenna type and radome type (two words, else the parser raises) -/
theorem tms_antenna_block (look : String → Option RawBlock) (pre post : List BlockDef) (b : BlockDef) (q : String)
    (hk : b.kind = .custom q) (hq : entryName q = "site_antenna")
    (hpre : ∀ b' ∈ pre, OtherKey "site_antenna" b') (hpost : ∀ b' ∈ post, OtherKey "site_antenna" b')
    (r : RawBlock) (hr : look b.marker = some r) (D : List (String × Val))
    (h : assembleTms (pre ++ b :: post) look = some D) :
    ∃ rows', (rowsOfTms b r).mapM antennaRowTms = some rows' ∧ dget? D "site_antenna" = some (.list (rows'.map rowVal)) := by
  obtain ⟨D1, v, _, hnone, hv, hget⟩ := tms_block look pre post b q _ _ hk hq (tmsKey_ne (by simp)) r hr hpre hpost D h
  rw [tmsValue_antenna, listAt_none hnone] at hv
  obtain ⟨rows', hm, rfl⟩ := Option.map_eq_some_iff.mp hv
  exact ⟨rows', hm, hget⟩

theorem antennaRowTms_spec (r : Row) (a rad : Str) (h : split (cellStr (lookup r "antenna_type")) = [a, rad]) :
    antennaRowTms r = some ((r.map fun (k, c) => if k = "antenna_type" then (k, Cell.str a) else (k, c)) ++
      [("radome_type", .str rad)]) := by
  simp [antennaRowTms, h]

/-- **FILE/REFERENCE**: `data["file_reference"]` maps the lower-cased first word of each record's first field to its
second field (a later record with the same word replaces the value) -/
theorem tms_file_reference_block (look : String → Option RawBlock) (pre post : List BlockDef) (b : BlockDef) (q : String)
    (hk : b.kind = .custom q) (hq : entryName q = "file_reference")
    (hpre : ∀ b' ∈ pre, OtherKey "file_reference" b') (hpost : ∀ b' ∈ post, OtherKey "file_reference" b')
    (r : RawBlock) (hr : look b.marker = some r) (D : List (String × Val))
    (h : assembleTms (pre ++ b :: post) look = some D) :
    ∃ d, fileRefTms (rowsOfTms b r) = some d ∧ dget? D "file_reference" = some (.dict d) := by
  obtain ⟨D1, v, _, hnone, hv, hget⟩ := tms_block look pre post b q _ _ hk hq (tmsKey_ne (by simp)) r hr hpre hpost D h
  rw [tmsValue_file_reference, dictAt_none hnone] at hv
  obtain ⟨d, hd, rfl⟩ := Option.map_eq_some_iff.mp hv
  -- the entries of `d` have distinct keys, so writing them one by one into the empty dictionary gives `d`
  have hnd : (keys d).Nodup := by
    refine foldlM_step_keys _ (fun acc x D' hx => ?_) _ [] d List.nodup_nil hd
    split at hx
    · cases hx
    · exact ⟨_, _, (Option.some.inj hx).symm⟩
  exact ⟨d, hd, by rw [hget, foldl_dset_append d [] (by simpa using hnd)]; rfl⟩

/-- hypothesis `hfc` of `tms_data_block` / `tms_file_data_roundtrip` for the regenerated table -/
theorem tms_columns_table :
    (tmsBlocks.find? (·.marker = "TIMESERIES/COLUMNS")).map (·.fields) = some tmsColumnsFields := by decide +kernel

/-- the name a COLUMNS record declares: the text of its second field (at most 20 characters are kept); this is the name
expression in the statement of `tms_file_data_roundtrip` -/
theorem columns_name_record (a0 a1 a2 a3 : Align) (c n u d : Str) :
    cellStr (lookup (convertRow tmsColumnsFields [(a0, c), (a1, n), (a2, u), (a3, d)]) "name") = n.take 20 := by
  have h0 : validName "col" = "col" := validName_id (by decide +kernel)
  have h1 : validName "name" = "name" := validName_id (by decide +kernel)
  have h2 : ¬ "col" = "name" := by decide
  simp [convertRow, tmsColumnsFields, lookup, convertCell, cellStr, h0, h1, h2]

/-- **TIMESERIES/DATA, as `SinexTmsParser` stores it**: with the COLUMNS block declared before the DATA block,
`data["timeseries_data"]` is exactly the dictionary `parse_timeseries_data` makes of the DATA lines under the names
of the COLUMNS records — whatever other blocks are declared and present -/
theorem tms_data_block (look : String → Option RawBlock) (preC mid post : List BlockDef) (bc bd : BlockDef) (qc qd : String)
    (hkc : bc.kind = .custom qc) (hqc : entryName qc = "timeseries_columns") (hfc : bc.fields = tmsColumnsFields)
    (hkd : bd.kind = .custom qd) (hqd : entryName qd = "timeseries_data")
    (hpreC : ∀ b' ∈ preC, OtherKey "timeseries_columns" b' ∧ OtherKey "timeseries_data" b')
    (hmid : ∀ b' ∈ mid, OtherKey "timeseries_columns" b' ∧ OtherKey "timeseries_data" b')
    (hpost : ∀ b' ∈ post, OtherKey "timeseries_data" b')
    (rc rd : RawBlock) (hrc : look bc.marker = some rc) (hrd : look bd.marker = some rd) (D : List (String × Val))
    (h : assembleTms (preC ++ bc :: mid ++ bd :: post) look = some D) :
    ∃ d, tmsData ((rowsOfTms bc rc).map fun r => cellStr (lookup r "name")) rd.lines = some d ∧
      dget? D "timeseries_data" = some (.dict d) := by
  have hbcd : OtherKey "timeseries_data" bc := fun q hq => by
    cases hkc.symm.trans hq
    rw [hqc]
    decide
  have hpre : ∀ b' ∈ preC ++ bc :: mid, OtherKey "timeseries_data" b' := by
    intro b' hb'
    simp only [List.mem_append, List.mem_cons] at hb'
    rcases hb' with h1 | rfl | h1
    · exact (hpreC b' h1).2
    · exact hbcd
    · exact (hmid b' h1).2
  rw [show preC ++ bc :: mid ++ bd :: post = (preC ++ bc :: mid) ++ bd :: post by simp] at h
  obtain ⟨D1, v, h1, hnone, hv, hget⟩ := tms_block look (preC ++ bc :: mid) post bd qd _ _ hkd hqd (tmsKey_ne (by simp))
    rd hrd hpre hpost D h
  -- the COLUMNS block was applied before: `D1` holds its table
  have hcols := tms_columns_block look preC mid bc qc hkc hqc (fun b' hb' => (hpreC b' hb').1)
    (fun b' hb' => (hmid b' hb').1) rc hrc D1 h1
  rw [tmsValue_data, tmsNames_columns D1 (rowsOfTms bc rc) (by rw [hcols, hfc]), Option.bind_some, dictAt_none hnone] at hv
  obtain ⟨d, hd, rfl⟩ := Option.map_eq_some_iff.mp hv
  exact ⟨d, hd, by rw [hget, foldl_dset_append d [] (by simpa using tmsData_keys _ rd.lines d hd)]; rfl⟩

/-- `SinexTmsParser` (COLUMNS declared before DATA, each the only block writing its
entry) reads a file that holds — anywhere, in any order, among whatever other blocks and comment lines — a
TIMESERIES/COLUMNS block (first of its marker; records written into the columns of its table, with or without trailing
blanks) and a TIMESERIES/DATA block (first of its marker; every record `n > 0` tokens separated by blanks).  Then
`data["timeseries_data"]` is a dictionary in which the lower-cased name of the `j`-th COLUMNS record holds the `j`-th
token of every DATA record, in record order: as text for the date columns, as `float(token)` otherwise
(`tmsCol`).  A second TIMESERIES/DATA block further down (another station's table appended to the file) is not read
(`file_invisible`): the parser handles one station per file.  `hdlead`: `parse_blocks` keeps only lines that start with a
blank, and `PadsOk` allows the first pad of a record to be empty. -/
theorem tms_file_data_roundtrip (header : List FieldDef) (preC mid post : List BlockDef) (bc bd : BlockDef) (qc qd : String)
    (hkc : bc.kind = .custom qc) (hqc : entryName qc = "timeseries_columns") (hfc : bc.fields = tmsColumnsFields)
    (hkd : bd.kind = .custom qd) (hqd : entryName qd = "timeseries_data")
    (hpreC : ∀ b' ∈ preC, OtherKey "timeseries_columns" b' ∧ OtherKey "timeseries_data" b')
    (hmid : ∀ b' ∈ mid, OtherKey "timeseries_columns" b' ∧ OtherKey "timeseries_data" b')
    (hpost : ∀ b' ∈ post, OtherKey "timeseries_data" b')
    (F : SnxFile) (hwf : F.wf)
    (W : Nat) (crecs : List (Bool × List (Align × Str))) (hcok : RecsOk bc.fields W crecs) (psc : List Str)
    (hfbc : FirstBlock F.segs bc.marker psc (emitted bc.fields W crecs))
    (drecs : List (List (Str × Str) × Str)) (n : Nat) (hn : 0 < n) (hne : drecs ≠ [])
    (hdok : ∀ r ∈ drecs, PadsOk r.1 = true ∧ isBlank r.2 = true ∧ r.1.length = n)
    (hdlead : ∀ r ∈ drecs, startsWith [' '] (wsLine r) = true) (psd : List Str)
    (hfbd : FirstBlock F.segs bd.marker psd (drecs.map wsLine))
    (hnd : ((crecs.map fun r => cellStr (lookup (convertRow bc.fields r.2) "name")).map fun nm => asString (lower nm)).Nodup)
    (hlen : crecs.length ≤ n)
    (R : Result) (hR : parseTmsFile header (preC ++ bc :: mid ++ bd :: post) F.text = some R) :
    R.hdr = headerRow tmsTag header (fun l => l.length + 1) F.header ∧
    ∃ D d, R.data = .dict D ∧ dget? D "timeseries_data" = some (.dict d) ∧
      ∀ (j : Nat) (hj : j < crecs.length),
        dget? d (asString (lower (cellStr (lookup (convertRow bc.fields (crecs[j]).2) "name")))) =
          tmsCol (cellStr (lookup (convertRow bc.fields (crecs[j]).2) "name"))
            (drecs.map fun r => (wsTokens r).getD j []) := by
  obtain ⟨hhdr, D, hRD, hD, hrc⟩ := parseWith_dict_look _ _ _ _ (assembleTms _) F hwf R hR _ psc _ hfbc (by simp)
  have hrd := firstBlock_look F.segs bd.marker psd _ hfbd ((preC ++ bc :: mid ++ bd :: post).map (·.marker)) (by simp)
  rw [dataLines_eq_self (List.forall_mem_map.mpr hdlead)] at hrd
  obtain ⟨d, hd, hget⟩ := tms_data_block _ preC mid post bc bd qc qd hkc hqc hfc hkd hqd hpreC hmid hpost _ _ hrc hrd D hD
  rw [rowsOfTms_emitted bc W crecs hcok, List.map_map] at hd
  refine ⟨hhdr, D, d, hRD, hget, fun j hj => ?_⟩
  have key := tms_data_roundtrip _ drecs n hn hdok hne hnd (by rw [List.length_map]; exact hlen) d hd j
    (by rw [List.length_map]; exact hj)
  rwa [List.getElem_map] at key

/-- the declared blocks of `SinexTmsParser` satisfy the hypotheses of `tms_file_data_roundtrip` -/
example : ∃ preC bc bd, tmsBlocks = preC ++ bc :: [] ++ bd :: [] ∧
    bc.kind = .custom "SinexTmsParser.parse_timeseries_columns" ∧
    entryName "SinexTmsParser.parse_timeseries_columns" = "timeseries_columns" ∧ bc.fields = tmsColumnsFields ∧
    bd.kind = .custom "SinexTmsParser.parse_timeseries_data" ∧ entryName "SinexTmsParser.parse_timeseries_data" = "timeseries_data" ∧
    (∀ b' ∈ preC, OtherKey "timeseries_columns" b' ∧ OtherKey "timeseries_data" b') :=
  ⟨tmsBlocks.take 6, tmsBlocks[6], tmsBlocks[7], by
    -- the table ends with its eighth block
    have h7 : tmsBlocks.drop 7 = [tmsBlocks[7]] := by
      rw [List.drop_eq_getElem_cons (show 7 < tmsBlocks.length by decide),
        List.drop_eq_nil_of_le (show tmsBlocks.length ≤ 7 + 1 by decide)]
    have h6 : tmsBlocks = tmsBlocks.take 6 ++ tmsBlocks[6] :: tmsBlocks.drop 7 := Lists.eq_take_cons_drop tmsBlocks 6 (by decide)
    rw [h7] at h6
    rw [List.append_assoc]
    exact h6, by decide +kernel⟩

/-- **TIMESERIES/COLUMNS from the file**: `data["timeseries_columns"]` is the table of the written records -/
theorem tms_file_columns (header : List FieldDef) (pre post : List BlockDef) (b : BlockDef) (q : String)
    (hk : b.kind = .custom q) (hq : entryName q = "timeseries_columns")
    (hpre : ∀ b' ∈ pre, OtherKey "timeseries_columns" b') (hpost : ∀ b' ∈ post, OtherKey "timeseries_columns" b')
    (F : SnxFile) (hwf : F.wf) (W : Nat) (recs : List (Bool × List (Align × Str))) (hok : RecsOk b.fields W recs)
    (ps : List Str) (hfb : FirstBlock F.segs b.marker ps (emitted b.fields W recs))
    (R : Result) (hR : parseTmsFile header (pre ++ b :: post) F.text = some R) :
    ∃ D, R.data = .dict D ∧
      dget? D "timeseries_columns" = some (.dict (columns b.fields (recs.map fun r => convertRow b.fields r.2))) := by
  obtain ⟨_, D, hRD, hD, hr⟩ := parseWith_dict_look _ _ _ _ (assembleTms _) F hwf R hR _ ps _ hfb (by simp)
  exact ⟨D, hRD, by rw [tms_columns_block _ pre post b q hk hq hpre hpost _ hr D hD, rowsOfTms_emitted b W recs hok]⟩

/-- **TIMESERIES/REF_COORDINATE from the file**: the block holds one record; `data["ref_coordinate"]` is its dictionary -/
theorem tms_file_ref_coordinate (header : List FieldDef) (pre post : List BlockDef) (b : BlockDef) (q : String)
    (hk : b.kind = .custom q) (hq : entryName q = "timeseries_ref_coordinate")
    (hpre : ∀ b' ∈ pre, OtherKey "ref_coordinate" b') (hpost : ∀ b' ∈ post, OtherKey "ref_coordinate" b')
    (F : SnxFile) (hwf : F.wf) (W : Nat) (rec : Bool × List (Align × Str)) (hok : RecsOk b.fields W [rec])
    (ps : List Str) (hfb : FirstBlock F.segs b.marker ps (emitted b.fields W [rec]))
    (R : Result) (hR : parseTmsFile header (pre ++ b :: post) F.text = some R) :
    ∃ D, R.data = .dict D ∧ dget? D "ref_coordinate" = some (rowVal (convertRow b.fields rec.2)) := by
  obtain ⟨_, D, hRD, hD, hr⟩ := parseWith_dict_look _ _ _ _ (assembleTms _) F hwf R hR _ ps _ hfb (by simp)
  exact ⟨D, hRD, tms_ref_block _ pre post b q hk hq hpre hpost _ hr _ (rowsOfTms_emitted b W [rec] hok _ ps) D hD⟩

/-- **SITE/ANTENNA from the file**: one dictionary per written record, in order, the antenna field split in two -/
theorem tms_file_antenna (header : List FieldDef) (pre post : List BlockDef) (b : BlockDef) (q : String)
    (hk : b.kind = .custom q) (hq : entryName q = "site_antenna")
    (hpre : ∀ b' ∈ pre, OtherKey "site_antenna" b') (hpost : ∀ b' ∈ post, OtherKey "site_antenna" b')
    (F : SnxFile) (hwf : F.wf) (W : Nat) (recs : List (Bool × List (Align × Str))) (hok : RecsOk b.fields W recs)
    (ps : List Str) (hfb : FirstBlock F.segs b.marker ps (emitted b.fields W recs))
    (R : Result) (hR : parseTmsFile header (pre ++ b :: post) F.text = some R) :
    ∃ D rows', R.data = .dict D ∧ (recs.map fun r => convertRow b.fields r.2).mapM antennaRowTms = some rows' ∧
      dget? D "site_antenna" = some (.list (rows'.map rowVal)) := by
  obtain ⟨_, D, hRD, hD, hr⟩ := parseWith_dict_look _ _ _ _ (assembleTms _) F hwf R hR _ ps _ hfb (by simp)
  obtain ⟨rows', hm, hget⟩ := tms_antenna_block _ pre post b q hk hq hpre hpost _ hr D hD
  exact ⟨D, rows', hRD, rowsOfTms_emitted b W recs hok _ ps ▸ hm, hget⟩

/-- **FILE/REFERENCE from the file**: the dictionary `parse_file_reference` makes of the written records -/
theorem tms_file_reference (header : List FieldDef) (pre post : List BlockDef) (b : BlockDef) (q : String)
    (hk : b.kind = .custom q) (hq : entryName q = "file_reference")
    (hpre : ∀ b' ∈ pre, OtherKey "file_reference" b') (hpost : ∀ b' ∈ post, OtherKey "file_reference" b')
    (F : SnxFile) (hwf : F.wf) (W : Nat) (recs : List (Bool × List (Align × Str))) (hok : RecsOk b.fields W recs)
    (ps : List Str) (hfb : FirstBlock F.segs b.marker ps (emitted b.fields W recs))
    (R : Result) (hR : parseTmsFile header (pre ++ b :: post) F.text = some R) :
    ∃ D d, R.data = .dict D ∧ fileRefTms (recs.map fun r => convertRow b.fields r.2) = some d ∧
      dget? D "file_reference" = some (.dict d) := by
  obtain ⟨_, D, hRD, hD, hr⟩ := parseWith_dict_look _ _ _ _ (assembleTms _) F hwf R hR _ ps _ hfb (by simp)
  obtain ⟨d, hd, hget⟩ := tms_file_reference_block _ pre post b q hk hq hpre hpost _ hr D hD
  exact ⟨D, d, hRD, rowsOfTms_emitted b W recs hok _ ps ▸ hd, hget⟩

/-- the FILE/REFERENCE dictionary: under `k` stands the second field of the last record whose first field begins with
the word `k` (lower-cased); nothing, if there is no such record -/
theorem fileRefTms_get (rows : List Row) (d : List (String × Val)) (h : fileRefTms rows = some d) (k : String) :
    dget? d k =
      match (rows.filter fun r => ((split (cellStr ((r.getD 0 ("", .none)).2))).head?.map fun w => asString (lower w)) = some k).getLast? with
      | some row => some (.cell ((row.getD 1 ("", .none)).2))
      | Option.none => Option.none := by
  unfold fileRefTms at h
  rw [Lists.foldlM_induct
    (R := fun rows acc d => dget? d k =
      ((rows.filter fun r => decide (((split (cellStr ((r.getD 0 ("", .none)).2))).head?.map fun w => asString (lower w)) = some k)).getLast?.map
        fun row => some (Val.cell ((row.getD 1 ("", .none)).2))).getD (dget? acc k))
    (fun _ => rfl) (fun acc r a1 l d h1 _ ih => by
      refine Lists.last_wins_cons _ _ r l ?_ ih
      split at h1
      · cases h1
      · next w ws hs =>
        cases h1
        rw [dget_dset]
        simp only [hs, List.head?_cons, Option.map_some, Option.some.injEq, decide_eq_true_eq]) rows [] d h]
  cases (rows.filter _).getLast? <;> rfl

/-! ## sinex_tro: what `SinexTropParser` stores under each key -/

def keywordOf (row : Row) : String := asString (cellStr (lookup row "keyword"))
def stationOf (row : Row) : String := asString (cellStr (lookup row "site_name"))
def restOf (row : Row) : Row := row.filter (·.1 ≠ "site_name")

/-- the keys of `self.data` a block of `SinexTropParser` writes: its marker (default parser), the keywords of its
rows (TROP/DESCRIPTION), the station names of its rows (TROP/SOLUTION) -/
def troKeys (look : String → Option RawBlock) (b : BlockDef) : List String :=
  match look b.marker with
  | Option.none => []
  | some r =>
    match b.kind with
    | .dflt => [b.marker]
    | .matrix _ => []
    | .custom q =>
      if entryName q = "trop_description" then (rowsOf b 81 r).map keywordOf
      else if entryName q = "trop_solution" then (rowsOf b 81 r).map stationOf
      else []

/-- a block touches only the keys it writes: the default parser its marker, TROP/DESCRIPTION and TROP/SOLUTION the
keys of their rows (a walk over the branches of `troStep`) -/
theorem troStep_other (look : String → Option RawBlock) (k : String) (D D' : List (String × Val)) (b : BlockDef)
    (hk : k ∉ troKeys look b) (h : troStep look D b = some D') : dget? D' k = dget? D k := by
  unfold troStep at h
  unfold troKeys at hk
  cases hlook : look b.marker with
  | none => simp only [hlook, Option.some.injEq] at h; subst h; rfl
  | some r =>
    simp only [hlook] at h hk
    cases hkind : b.kind with
    | dflt =>
      simp only [hkind, Option.some.injEq] at h
      simp only [hkind, List.mem_cons, List.not_mem_nil, or_false] at hk
      subst h
      exact dget_dset_ne _ _ _ _ (fun e => hk e.symm)
    | matrix _ => simp [hkind] at h
    | custom q =>
      simp only [hkind] at h hk
      by_cases h1 : entryName q = "trop_description"
      · simp only [h1, if_true, Option.some.injEq] at h hk
        subst h
        exact Lists.foldl_preserved troDescStep (dget? · k) _ D fun D r hr =>
          dget_dset_ne _ _ _ _ fun e => hk (e ▸ List.mem_map_of_mem hr)
      · simp only [h1, if_false] at h hk
        by_cases h2 : entryName q = "trop_solution"
        · simp only [h2, if_true, Option.some.injEq] at h hk
          subst h
          exact Lists.foldl_preserved troSolStep (dget? · k) _ D fun D r hr =>
            dget_dset_ne _ _ _ _ fun e => hk (e ▸ List.mem_map_of_mem hr)
        · simp [h2] at h

/-- **one block among the others**, as `tms_fold_block`, from the empty `data` -/
theorem tro_fold_block (look : String → Option RawBlock) (k : String) (pre post : List BlockDef) (b : BlockDef)
    (hpre : ∀ b' ∈ pre, k ∉ troKeys look b') (hpost : ∀ b' ∈ post, k ∉ troKeys look b') (D : List (String × Val))
    (h : assembleTro (pre ++ b :: post) look = some D) :
    ∃ D1 D2, troStep look D1 b = some D2 ∧ dget? D1 k = Option.none ∧ dget? D k = dget? D2 k := by
  obtain ⟨D1, D2, _, h2, h3, h4⟩ := Lists.foldlM_owner (dget? · k) (fun D b D' => troStep_other look k D D' b) hpre hpost h
  exact ⟨D1, D2, h2, h3, h4⟩

/-- **default blocks of sinex_tro** (FILE/REFERENCE, TROP/STA_COORDINATES …): `data[MARKER]` is the column dictionary
of the block's rows, provided no keyword of TROP/DESCRIPTION and no station of TROP/SOLUTION is spelled like the
marker (they share `self.data`) -/
theorem tro_default_block (look : String → Option RawBlock) (pre post : List BlockDef) (b : BlockDef) (hk : b.kind = .dflt)
    (hpre : ∀ b' ∈ pre, b.marker ∉ troKeys look b') (hpost : ∀ b' ∈ post, b.marker ∉ troKeys look b')
    (r : RawBlock) (hr : look b.marker = some r) (D : List (String × Val))
    (h : assembleTro (pre ++ b :: post) look = some D) :
    dget? D b.marker = some (.dict (columns b.fields (rowsOf b 81 r))) := by
  obtain ⟨D1, D2, h2, _, h4⟩ := tro_fold_block look b.marker pre post b hpre hpost D h
  unfold troStep at h2
  simp only [hr, hk, Option.some.injEq] at h2
  rw [h4, ← h2, dget_dset_self]

theorem foldl_desc_get (k : String) (rows : List Row) : ∀ D : List (String × Val),
    dget? (rows.foldl troDescStep D) k =
      match (rows.filter fun r => keywordOf r = k).getLast? with
      | some row => some (.cell (lookup row "value"))
      | Option.none => dget? D k := by
  intro D
  rw [Lists.foldl_last_wins troDescStep (fun D => dget? D k) (fun r => decide (keywordOf r = k))
    (fun row => some (.cell (lookup row "value"))) (fun _ => True) rows D trivial fun D _ r _ => ⟨trivial, by
      rw [show troDescStep D r = dset D (keywordOf r) (.cell (lookup r "value")) from rfl, dget_dset]
      simp⟩]
  cases (rows.filter _).getLast? <;> rfl

/-- **TROP/DESCRIPTION**: `data[keyword]` is the value of the (last) row with that keyword -/
theorem tro_description (look : String → Option RawBlock) (pre post : List BlockDef) (b : BlockDef) (q : String)
    (hk : b.kind = .custom q) (hq : entryName q = "trop_description") (k : String)
    (hpre : ∀ b' ∈ pre, k ∉ troKeys look b') (hpost : ∀ b' ∈ post, k ∉ troKeys look b')
    (r : RawBlock) (hr : look b.marker = some r) (D : List (String × Val))
    (h : assembleTro (pre ++ b :: post) look = some D) (row : Row)
    (hrow : ((rowsOf b 81 r).filter fun r' => keywordOf r' = k).getLast? = some row) :
    dget? D k = some (.cell (lookup row "value")) := by
  obtain ⟨D1, D2, h2, _, h4⟩ := tro_fold_block look k pre post b hpre hpost D h
  unfold troStep at h2
  simp only [hr, hk, hq, if_true, Option.some.injEq] at h2
  rw [h4, ← h2, foldl_desc_get, hrow]

theorem updateRow_same (old new : Row) (hk : keys old = keys new) (hnd : (keys new).Nodup) : updateRow old new = new := by
  rw [updateRow_eq]
  have := foldl_dset_same new [] old hk (by simpa [keys] using hnd)
  simpa using this

theorem updateRow_nil (new : Row) (hnd : (keys new).Nodup) : updateRow [] new = new := by
  rw [updateRow_eq]
  have := foldl_dset_append new [] (by simpa using hnd)
  simpa using this

/-- the station either has no dictionary yet or one with the keys `ks` -/
def RowAt (ks : List String) (D : List (String × Val)) (k : String) : Prop :=
  dget? D k = Option.none ∨ ∃ r, keys r = ks ∧ dget? D k = some (rowVal r)

theorem solStep_get (ks : List String) (hnd : ks.Nodup) (D : List (String × Val)) (row : Row)
    (hrow : keys (restOf row) = ks) (hat : RowAt ks D (stationOf row)) (k : String) :
    dget? (troSolStep D row) k = if stationOf row = k then some (rowVal (restOf row)) else dget? D k := by
  have hupd : updateRow (cellsOf D (stationOf row)) (restOf row) = restOf row := by
    rcases hat with hn | ⟨r, hkr, hr⟩
    · rw [cellsOf_none D _ hn]; exact updateRow_nil _ (by rw [hrow]; exact hnd)
    · rw [cellsOf_rowVal D _ r hr]; exact updateRow_same _ _ (by rw [hkr, hrow]) (by rw [hrow]; exact hnd)
  have hstep : troSolStep D row = dset D (stationOf row) (rowVal (restOf row)) := by
    unfold troSolStep
    simp only
    rw [show asString (cellStr (lookup row "site_name")) = stationOf row from rfl,
      show row.filter (·.1 ≠ "site_name") = restOf row from rfl, hupd]
  rw [hstep]
  by_cases h : stationOf row = k
  · subst h; simp [dget_dset_self]
  · simp only [h, if_false]; exact dget_dset_ne _ _ _ _ h

theorem foldl_sol_get (ks : List String) (hnd : ks.Nodup) (k : String) (rows : List Row) :
    ∀ D : List (String × Val), (∀ row ∈ rows, keys (restOf row) = ks) → (∀ row ∈ rows, RowAt ks D (stationOf row)) →
      dget? (rows.foldl troSolStep D) k =
        match (rows.filter fun r => stationOf r = k).getLast? with
        | some row => some (rowVal (restOf row))
        | Option.none => dget? D k := by
  intro D hkeys hat
  rw [Lists.foldl_last_wins troSolStep (fun D => dget? D k) (fun r => decide (stationOf r = k))
    (fun row => some (rowVal (restOf row))) (fun D => ∀ row ∈ rows, RowAt ks D (stationOf row)) rows D hat (by
      intro D hD r hr
      have hget := solStep_get ks hnd D r (hkeys r hr) (hD r hr)
      refine ⟨fun row hrow => ?_, by rw [hget k]; simp⟩
      unfold RowAt
      rw [hget (stationOf row)]
      by_cases h : stationOf r = stationOf row
      · exact Or.inr ⟨restOf r, hkeys r hr, by simp [h]⟩
      · simp only [h, if_false]
        exact hD row hrow)]
  cases (rows.filter _).getLast? <;> rfl

/-- **TROP/SOLUTION**: `data[station]` is the dictionary of the (last) row of that station, without `site_name` — the
rows of a block all have the fields `ks` of its table; no earlier block wrote a key spelled like one of the
block's stations -/
theorem tro_solution (look : String → Option RawBlock) (pre post : List BlockDef) (b : BlockDef) (q : String)
    (hk : b.kind = .custom q) (hq : entryName q = "trop_solution") (k : String)
    (r : RawBlock) (hr : look b.marker = some r)
    (hpre : ∀ b' ∈ pre, ∀ row ∈ rowsOf b 81 r, stationOf row ∉ troKeys look b')
    (hpost : ∀ b' ∈ post, k ∉ troKeys look b')
    (ks : List String) (hnd : ks.Nodup) (hkeys : ∀ row ∈ rowsOf b 81 r, keys (restOf row) = ks)
    (D : List (String × Val)) (h : assembleTro (pre ++ b :: post) look = some D) (row : Row)
    (hrow : ((rowsOf b 81 r).filter fun r' => stationOf r' = k).getLast? = some row) :
    dget? D k = some (rowVal (restOf row)) := by
  obtain ⟨D1, D2, h1, h2, h3⟩ := Lists.foldlM_split h
  rw [Lists.foldlM_preserved (dget? · k) (fun D b D' => troStep_other look k D D' b) post D2 D hpost h3]
  unfold troStep at h2
  have hne : ¬ "trop_solution" = "trop_description" := by decide
  simp only [hr, hk, hq, hne, if_false, if_true, Option.some.injEq] at h2
  rw [← h2, foldl_sol_get ks hnd k _ D1 hkeys, hrow]
  intro row' hrow'
  left
  rw [Lists.foldlM_preserved (dget? · (stationOf row')) (fun D b D' => troStep_other look _ D D' b) pre [] D1
    (fun b' hb' => hpre b' hb' row' hrow') h1]
  rfl

/-- every record of a table has the same keys: the validated names of the table's fields (towards the hypothesis `hkeys`
of `tro_solution` / `tro_file_solution`, which asks this of the records without `site_name`) -/
theorem keys_convertRow (fs : List FieldDef) (cells : List (Align × Str)) (hlen : cells.length = fs.length) :
    keys (convertRow fs cells) = (kept fs).map fun fd => validName fd.name := by
  have hfst : (fs.zip (cells.map (·.2))).map (·.1) = fs := List.map_fst_zip (by simp [hlen])
  conv => rhs; rw [kept, ← hfst, List.filter_map, List.map_map]
  rw [keys, convertRow, List.map_map]
  rfl

/-- **default blocks of sinex_tro from the file text**: `data[MARKER]` is the column dictionary over exactly the written
records of the first block of that marker -/
theorem tro_file_default (header : List FieldDef) (pre post : List BlockDef) (b : BlockDef) (hk : b.kind = .dflt)
    (hs : Sorted (layoutOf b.fields 81) = true) (hl : leadOk (layoutOf b.fields 81) = true)
    (F : SnxFile) (hwf : F.wf) (ps : List Str) (items : List Item) (hitems : ∀ i ∈ items, i.wf b.fields 81)
    (hfb : FirstBlock F.segs b.marker ps (content b.fields 81 items))
    (hpre : ∀ b' ∈ pre, b.marker ∉ troKeys (rawOf (expected ((pre ++ b :: post).map (·.marker)) F.segs)) b')
    (hpost : ∀ b' ∈ post, b.marker ∉ troKeys (rawOf (expected ((pre ++ b :: post).map (·.marker)) F.segs)) b')
    (R : Result) (hR : parseTroFile header (pre ++ b :: post) F.text = some R) :
    ∃ D, R.data = .dict D ∧
      dget? D b.marker = some (.dict (columns b.fields ((records items).map (convertRow b.fields)))) := by
  obtain ⟨_, D, hRD, hD, hr⟩ := parseWith_dict_look _ _ _ _ (assembleTro _) F hwf R hR _ ps _ hfb (by simp)
  exact ⟨D, hRD, by rw [tro_default_block _ pre post b hk hpre hpost _ hr D hD, rowsOf_content b 81 hs hl items hitems]⟩

/-- **TROP/DESCRIPTION from the file**: `data[keyword]` is the value field of the last written record with that keyword -/
theorem tro_file_description (header : List FieldDef) (pre post : List BlockDef) (b : BlockDef) (q : String)
    (hk : b.kind = .custom q) (hq : entryName q = "trop_description")
    (hs : Sorted (layoutOf b.fields 81) = true) (hl : leadOk (layoutOf b.fields 81) = true)
    (F : SnxFile) (hwf : F.wf) (ps : List Str) (items : List Item) (hitems : ∀ i ∈ items, i.wf b.fields 81)
    (hfb : FirstBlock F.segs b.marker ps (content b.fields 81 items)) (k : String)
    (hpre : ∀ b' ∈ pre, k ∉ troKeys (rawOf (expected ((pre ++ b :: post).map (·.marker)) F.segs)) b')
    (hpost : ∀ b' ∈ post, k ∉ troKeys (rawOf (expected ((pre ++ b :: post).map (·.marker)) F.segs)) b')
    (row : Row) (hrow : (((records items).map (convertRow b.fields)).filter fun r' => keywordOf r' = k).getLast? = some row)
    (R : Result) (hR : parseTroFile header (pre ++ b :: post) F.text = some R) :
    ∃ D, R.data = .dict D ∧ dget? D k = some (.cell (lookup row "value")) := by
  obtain ⟨_, D, hRD, hD, hr⟩ := parseWith_dict_look _ _ _ _ (assembleTro _) F hwf R hR _ ps _ hfb (by simp)
  exact ⟨D, hRD, tro_description _ pre post b q hk hq k hpre hpost _ hr D hD row
    (rowsOf_content b 81 hs hl items hitems b.marker ps ▸ hrow)⟩

/-- **TROP/SOLUTION from the file**: `data[station]` is the dictionary of the last written record of that station,
without `site_name` (the records of the block share the field names `ks` of its table) -/
theorem tro_file_solution (header : List FieldDef) (pre post : List BlockDef) (b : BlockDef) (q : String)
    (hk : b.kind = .custom q) (hq : entryName q = "trop_solution")
    (hs : Sorted (layoutOf b.fields 81) = true) (hl : leadOk (layoutOf b.fields 81) = true)
    (F : SnxFile) (hwf : F.wf) (ps : List Str) (items : List Item) (hitems : ∀ i ∈ items, i.wf b.fields 81)
    (hfb : FirstBlock F.segs b.marker ps (content b.fields 81 items)) (k : String)
    (hpre : ∀ b' ∈ pre, ∀ row ∈ (records items).map (convertRow b.fields),
      stationOf row ∉ troKeys (rawOf (expected ((pre ++ b :: post).map (·.marker)) F.segs)) b')
    (hpost : ∀ b' ∈ post, k ∉ troKeys (rawOf (expected ((pre ++ b :: post).map (·.marker)) F.segs)) b')
    (ks : List String) (hnd : ks.Nodup) (hkeys : ∀ row ∈ (records items).map (convertRow b.fields), keys (restOf row) = ks)
    (row : Row) (hrow : (((records items).map (convertRow b.fields)).filter fun r' => stationOf r' = k).getLast? = some row)
    (R : Result) (hR : parseTroFile header (pre ++ b :: post) F.text = some R) :
    ∃ D, R.data = .dict D ∧ dget? D k = some (rowVal (restOf row)) := by
  obtain ⟨_, D, hRD, hD, hr⟩ := parseWith_dict_look _ _ _ _ (assembleTro _) F hwf R hR _ ps _ hfb (by simp)
  have hrows := rowsOf_content b 81 hs hl items hitems b.marker ps
  exact ⟨D, hRD, tro_solution _ pre post b q hk hq k _ hr (hrows ▸ hpre) hpost ks hnd (hrows ▸ hkeys) D hD row (hrows ▸ hrow)⟩

end Midgard.Props.C14

#print axioms Midgard.Props.C14.starts_sorted
#print axioms Midgard.Props.C14.within_80
#print axioms Midgard.Props.C14.names_unique
#print axioms Midgard.Props.C14.converters_modelled
#print axioms Midgard.Props.C14.cols_cover_spec
#print axioms Midgard.Props.C14.concrete_tables_are_base
#print axioms Midgard.Props.C14.block_roundtrip
#print axioms Midgard.Props.C14.parseLine_roundtrip
#print axioms Midgard.Props.C14.text_field
#print axioms Midgard.Props.C14.fixedDigits2
#print axioms Midgard.Props.C14.fixedDigits3
#print axioms Midgard.Props.C14.fixedDigits5
#print axioms Midgard.Props.C14.epoch_pivot
#print axioms Midgard.Props.C14.epoch_open
#print axioms Midgard.Props.C14.exponent_D_eq_E
#print axioms Midgard.Props.C14.dmsValue_sign
#print axioms Midgard.Props.C14.dms_sign
#print axioms Midgard.Props.C14.epoch4_value
#print axioms Midgard.Props.C14.epoch4_open
#print axioms Midgard.Props.C14.matrix_symm
#print axioms Midgard.Props.C14.matrix_shape
#print axioms Midgard.Props.C14.matrix_entries
#print axioms Midgard.Props.C14.matrix_full_lower
#print axioms Midgard.Props.C14.matrix_full_upper
#print axioms Midgard.Props.C14.matrix_line_order
#print axioms Midgard.Props.C14.site_regroup
#print axioms Midgard.Props.C14.addRow_site
#print axioms Midgard.Props.C14.order_independent
#print axioms Midgard.Props.C14.splitOn_joinLines
#print axioms Midgard.Props.C14.fileLines_joinLines
#print axioms Midgard.Props.C14.fileLines_unterminated
#print axioms Midgard.Props.C14.readRaw_file
#print axioms Midgard.Props.C14.parseWith_file
#print axioms Midgard.Props.C14.parseWith_dict_look
#print axioms Midgard.Props.C14.parseWith_perm
#print axioms Midgard.Props.C14.file_order_independent
#print axioms Midgard.Props.C14.parseWith_invisible
#print axioms Midgard.Props.C14.file_invisible
#print axioms Midgard.Props.C14.tables_lead_blank
#print axioms Midgard.Props.C14.content_ok
#print axioms Midgard.Props.C14.parseLines_records
#print axioms Midgard.Props.C14.assembleBase_get
#print axioms Midgard.Props.C14.rowsOf_content
#print axioms Midgard.Props.C14.base_file_roundtrip
#print axioms Midgard.Props.C14.base_file_returns
#print axioms Midgard.Props.C14.wsRows_roundtrip
#print axioms Midgard.Props.C14.tmsData_get
#print axioms Midgard.Props.C14.tmsCol_text
#print axioms Midgard.Props.C14.tms_data_roundtrip
#print axioms Midgard.Props.C14.tms_site_rows
#print axioms Midgard.Props.C14.tms_block_roundtrip
#print axioms Midgard.Props.C14.matrixOf_lower
#print axioms Midgard.Props.C14.matrixOf_upper
#print axioms Midgard.Props.C14.matrix_tables
#print axioms Midgard.Props.C14.matLineOf_record
#print axioms Midgard.Props.C14.base_file_matrix
#print axioms Midgard.Props.C14.disc_file_roundtrip
#print axioms Midgard.Props.C14.site_fold_rows
#print axioms Midgard.Props.C14.allRows_addRefFrame
#print axioms Midgard.Props.C14.site_rows_kept
#print axioms Midgard.Props.C14.entryRows_regroup_false
#print axioms Midgard.Props.C14.entryRows_regroup_true
#print axioms Midgard.Props.C14.disc_site_rows
#print axioms Midgard.Props.C14.siteStep_entry
#print axioms Midgard.Props.C14.site_fold_entry
#print axioms Midgard.Props.C14.entryRows_addRefFrame
#print axioms Midgard.Props.C14.refFrame_value
#print axioms Midgard.Props.C14.count_regroup_true
#print axioms Midgard.Props.C14.site_id_count
#print axioms Midgard.Props.C14.parseSite_file
#print axioms Midgard.Props.C14.contrib_file
#print axioms Midgard.Props.C14.site_file_site_id
#print axioms Midgard.Props.C14.site_file_entry
#print axioms Midgard.Props.C14.site_file_frame
#print axioms Midgard.Props.C14.disc_file_site_rows
#print axioms Midgard.Props.C14.tmsStep_key_other
#print axioms Midgard.Props.C14.tms_fold_block
#print axioms Midgard.Props.C14.tms_block
#print axioms Midgard.Props.C14.tms_site_block
#print axioms Midgard.Props.C14.rowsOfTms_emitted
#print axioms Midgard.Props.C14.tms_file_site_block
#print axioms Midgard.Props.C14.tms_columns_block
#print axioms Midgard.Props.C14.tms_ref_block
#print axioms Midgard.Props.C14.tms_ref_block_raises
#print axioms Midgard.Props.C14.tms_antenna_block
#print axioms Midgard.Props.C14.antennaRowTms_spec
#print axioms Midgard.Props.C14.tms_file_reference_block
#print axioms Midgard.Props.C14.tms_columns_table
#print axioms Midgard.Props.C14.columns_name_record
#print axioms Midgard.Props.C14.tms_data_block
#print axioms Midgard.Props.C14.tms_file_data_roundtrip
#print axioms Midgard.Props.C14.tms_file_columns
#print axioms Midgard.Props.C14.tms_file_ref_coordinate
#print axioms Midgard.Props.C14.tms_file_antenna
#print axioms Midgard.Props.C14.tms_file_reference
#print axioms Midgard.Props.C14.fileRefTms_get
#print axioms Midgard.Props.C14.troStep_other
#print axioms Midgard.Props.C14.tro_fold_block
#print axioms Midgard.Props.C14.tro_default_block
#print axioms Midgard.Props.C14.foldl_desc_get
#print axioms Midgard.Props.C14.tro_description
#print axioms Midgard.Props.C14.updateRow_same
#print axioms Midgard.Props.C14.updateRow_nil
#print axioms Midgard.Props.C14.solStep_get
#print axioms Midgard.Props.C14.foldl_sol_get
#print axioms Midgard.Props.C14.tro_solution
#print axioms Midgard.Props.C14.keys_convertRow
#print axioms Midgard.Props.C14.tro_file_default
#print axioms Midgard.Props.C14.tro_file_description
#print axioms Midgard.Props.C14.tro_file_solution

-- the lemmas of `Proofs/Sinex*.lean`, module by module
#print axioms Midgard.Sinex.encodeChar_ascii
#print axioms Midgard.Sinex.encode_ascii
#print axioms Midgard.Sinex.nameCodes_of_ascii
#print axioms Midgard.Sinex.nameCodes_eq_asciiCodes
#print axioms Midgard.Sinex.validName_eq
#print axioms Midgard.Props.C14.toList_eq_asciiCodes
#print axioms Midgard.Props.C14.validName_id
#print axioms Midgard.Props.C14.entryName_eq
#print axioms Midgard.Props.C14.fieldsCovered_eq
#print axioms Midgard.Props.C14.blockCovered_eq
#print axioms Midgard.Props.C14.dset_eq_config
#print axioms Midgard.Props.C14.dget_eq_config
#print axioms Midgard.Props.C14.dget_dset
#print axioms Midgard.Props.C14.dget_dset_self
#print axioms Midgard.Props.C14.dget_dset_ne
#print axioms Midgard.Props.C14.dget_map_val
#print axioms Midgard.Props.C14.dset_mid
#print axioms Midgard.Props.C14.keys_dset
#print axioms Midgard.Props.C14.foldl_dset_append
#print axioms Midgard.Props.C14.foldl_dset_same
#print axioms Midgard.Props.C14.updateRow_eq
#print axioms Midgard.Props.C14.cellsOf_rowVal
#print axioms Midgard.Props.C14.cellsOf_none
#print axioms Midgard.Props.C14.baseStep_none
#print axioms Midgard.Props.C14.baseStep_some
#print axioms Midgard.Props.C14.blockVal_dflt
#print axioms Midgard.Props.C14.foldlM_step_keys
#print axioms Midgard.Props.C14.foldlM_keyed
#print axioms Midgard.Props.C14.rawOf_cons
#print axioms Midgard.Props.C14.rawOf_append
#print axioms Midgard.Props.C14.rawOf_isSome
#print axioms Midgard.Props.C14.rawOf_none
#print axioms Midgard.Props.C14.rawOf_perm
#print axioms Midgard.Props.C14.dataLines_eq_self
#print axioms Midgard.Props.C14.expected_nil
#print axioms Midgard.Props.C14.scan_nil_wanted
#print axioms Midgard.Props.C14.scan_collect
#print axioms Midgard.Props.C14.scan_skip
#print axioms Midgard.Props.C14.scan_body
#print axioms Midgard.Props.C14.blocksOf_eq
#print axioms Midgard.Props.C14.blocksOf_append
#print axioms Midgard.Props.C14.rawOf_expected
#print axioms Midgard.Props.C14.blocksOf_perm
#print axioms Midgard.Props.C14.rawOf_expected_perm
#print axioms Midgard.Props.C14.rawOf_invisible
#print axioms Midgard.Props.C14.firstBlock_look
#print axioms Midgard.Props.C14.joinLines_eq
#print axioms Midgard.Props.C14.SnxFile.wf_subset
#print axioms Midgard.Props.C14.render_lead
#print axioms Midgard.Props.C14.dataLines_content
#print axioms Midgard.Props.C14.records_fits
#print axioms Midgard.Props.C14.parseLines_map
#print axioms Midgard.Props.C14.cutLine_total
#print axioms Midgard.Props.C14.layoutOf_last_stop
#print axioms Midgard.Props.C14.length_render
#print axioms Midgard.Props.C14.le_maxChar
#print axioms Midgard.Props.C14.emit_lead
#print axioms Midgard.Props.C14.entryRows_nil
#print axioms Midgard.Props.C14.regroup_nil
#print axioms Midgard.Props.C14.regroup_cons
#print axioms Midgard.Props.C14.siteGet_addRow
#print axioms Midgard.Props.C14.entryRows_addRow
#print axioms Midgard.Props.C14.siteStep_table
#print axioms Midgard.Props.C14.allRows_nil
#print axioms Midgard.Props.C14.allRows_addRow
#print axioms Midgard.Props.C14.allRows_addRow_other
#print axioms Midgard.Props.C14.allRows_regroup_other
#print axioms Midgard.Props.C14.entryRows_regroup_other
#print axioms Midgard.Props.C14.addRefFrame_eq
#print axioms Midgard.Props.C14.siteStep_frame_other
#print axioms Midgard.Props.C14.site_fold_frame
#print axioms Midgard.Props.C14.refFrame_eq
#print axioms Midgard.Props.C14.refStep_skip
#print axioms Midgard.Props.C14.hasE_nil
#print axioms Midgard.Props.C14.length_allRows_addRow_true
#print axioms Midgard.Props.C14.singleInv_addRow_true
#print axioms Midgard.Props.C14.hasE_addRow_true
#print axioms Midgard.Props.C14.contrib_other
#print axioms Midgard.Props.C14.flatMap_contrib_single
#print axioms Midgard.Props.C14.OtherEntry.otherKey
#print axioms Midgard.Props.C14.tmsKey_ne
#print axioms Midgard.Props.C14.dictAt_none
#print axioms Midgard.Props.C14.listAt_none
#print axioms Midgard.Props.C14.tmsStep_custom
#print axioms Midgard.Props.C14.tmsValue_columns
#print axioms Midgard.Props.C14.tmsValue_ref
#print axioms Midgard.Props.C14.tmsValue_antenna
#print axioms Midgard.Props.C14.tmsValue_list
#print axioms Midgard.Props.C14.tmsValue_file_reference
#print axioms Midgard.Props.C14.tmsValue_data
#print axioms Midgard.Props.C14.length_wsTokens
#print axioms Midgard.Props.C14.split_wsLine
#print axioms Midgard.Props.C14.length_wsColumns
#print axioms Midgard.Props.C14.getElem_wsColumns
#print axioms Midgard.Props.C14.tmsCol_float
#print axioms Midgard.Props.C14.tmsData_keys
#print axioms Midgard.Props.C14.tmsNames_columns
#print axioms Midgard.Props.C14.parseDoy_fixed
#print axioms Midgard.Props.C14.eq_zero_of_threeZero
#print axioms Midgard.Props.C14.strptimeYj_fixed
#print axioms Midgard.Props.C14.get_symmetrize
#print axioms Midgard.Props.C14.square_zeros
#print axioms Midgard.Props.C14.get_zeros
#print axioms Midgard.Props.C14.writeLine_spec
#print axioms Midgard.Props.C14.fillFrom_spec
#print axioms Midgard.Props.C14.fillMatrix_eq
#print axioms Midgard.Props.C14.symmetrize_stored
#print axioms Midgard.Props.C14.fillFrom_symmetrize
#print axioms Midgard.Props.C14.matrixOf_stored

-- lemmas of the shared modules `Proofs/Text`, `Lists`, `FixedCol`, `Decimal` these proofs use
#print axioms Midgard.Text.startsWith_cons
#print axioms Midgard.Text.startsWith_other
#print axioms Midgard.Lists.getElem?_splice
#print axioms Midgard.Lists.filter_key_nodup
#print axioms Midgard.FixedCol.slice_to_end
#print axioms Midgard.FixedCol.ofStarts_slice_total
#print axioms Midgard.Decimal.fixedDigits_append
#print axioms Midgard.Lists.foldlM_cons_some
#print axioms Midgard.Lists.foldlM_split
#print axioms Midgard.Lists.foldlM_induct
#print axioms Midgard.Lists.foldlM_preserved
#print axioms Midgard.Lists.foldlM_owner
#print axioms Midgard.Lists.foldlM_steps_some
#print axioms Midgard.Lists.foldlM_total
#print axioms Midgard.Lists.foldl_preserved
#print axioms Midgard.Lists.last_wins_cons
#print axioms Midgard.Lists.foldl_last_wins
