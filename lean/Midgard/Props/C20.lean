/-
C20 — Numeric helpers satisfy their defining identities.

Property theorems (and one helper, `findUnit_mem`).  The statements are about the executable definitions of
`Model/Numeric.lean` (the same terms the driver runs), over `Rat` = `ℚ`, for *all* arguments; only the two
`*_roundtrip_real` theorems are about a specification over `ℝ` (`Proofs/C20Spherical.lean`), which is not executed.
Four definitions that statements use stand in proof modules: `sortedPairs` (C20Scheme: the model's `if assumeSorted then
xs.zip rows else sortBy (xs.zip rows)`), `cubicAt` (C20Spline), `rotSat` and `toM` (C20Dop).
Irrational inputs of the code are parameters of the model and universally quantified here:
`p` (the value of π, any positive rational), `s` (`x.std()`, any non-zero rational), the
cosine/sine pairs of the satellites (arbitrary; the rotation `(c, s)` any point of the unit circle).

Not proved (measured by the correspondence/oracle of harness/c20.py, c20_spatial.py, c20_types.py only): floating-point
error; pint's own factor arithmetic; that SciPy's `interp1d(cubic)`, `InterpolatedUnivariateSpline`,
`BarycentricInterpolator`, `RegularGridInterpolator`, `RectBivariateSpline` compute what `nakSpline`, `barycentric`,
`bilinearAt`, `bicubicAt` specify; that the elimination of `nakMoments` succeeds on valid input; that `np.linalg.inv`,
`statsmodels.OLS` compute the inverse / the least-squares solution the model defines by the adjugate / the normal equations.
The outlier-rejection loop of LinearRegression (`rejectLoop`, `linreg`), `hms_to_rad` (`hmsToRad`) and the argument checks of
`regularGrid` are compared with the code by the correspondence only: the theorems are about `ols`/`fitStats`,
`dmsToDeg`/`degToDms`, `bilinearAt`.
-/
import Midgard.Spec.UnitsSI
import Midgard.Proofs.C20Algebra
import Midgard.Proofs.C20Scheme
import Midgard.Proofs.C20Lagrange
import Midgard.Proofs.C20Linear
import Midgard.Proofs.C20Dop
import Midgard.Proofs.C20Deriv
import Midgard.Proofs.C20Bary
import Midgard.Proofs.C20Nputil
import Midgard.Proofs.C20Spherical
import Midgard.Proofs.C20Spline
import Midgard.Proofs.C20Stats
import Midgard.Proofs.C20Grid
import Midgard.Proofs.C20DerivAll
import Midgard.Proofs.C20Tensor

namespace Midgard.Props.C20
open Midgard.Numeric Midgard.Generated.C20 Midgard.Proofs.C20

/-! ## Unit factors are reciprocal and transitive -/

/-- a2b × b2a = 1 -/
theorem unit_recip (a b : UnitRow) (p : ℚ) (hd : a.dim = b.dim)
    (ha : unitFactor a p ≠ 0) (hb : unitFactor b p ≠ 0) :
    ∃ x y, convRow a b p = some x ∧ convRow b a p = some y ∧ x * y = 1 := by
  refine ⟨_, _, (convRow_eq_some a b p _).mpr ⟨hd, rfl⟩, (convRow_eq_some b a p _).mpr ⟨hd.symm, rfl⟩, ?_⟩
  field_simp

/-- a2b × b2c = a2c -/
theorem unit_trans (a b c : UnitRow) (p x y : ℚ) (hb : unitFactor b p ≠ 0)
    (h1 : convRow a b p = some x) (h2 : convRow b c p = some y) : convRow a c p = some (x * y) := by
  obtain ⟨hab, rfl⟩ := (convRow_eq_some a b p x).mp h1
  obtain ⟨hbc, rfl⟩ := (convRow_eq_some b c p y).mp h2
  refine (convRow_eq_some a c p _).mpr ⟨hab.trans hbc, ?_⟩
  field_simp

/-- obligation on the regenerated table: every factor is positive (so no conversion divides by zero) -/
theorem units_table_positive : ∀ u ∈ units, 0 < u.q := by decide +kernel

/-- obligation on the regenerated table: names are unique (lookup by name is unambiguous) -/
theorem units_table_names_nodup : (units.map (·.name)).Nodup := by decide +kernel

/-- obligation on the regenerated table: every unit of the table whose name the standards define (Spec/UnitsSI.lean)
has exactly the standard's dimension and factor (a standard unit that the table lacks is not an error here) -/
theorem units_table_eq_si : ∀ r ∈ Midgard.Spec.UnitsSI.si, ∀ u ∈ units, u.name = r.name → u = r := by
  -- names are unique, so one lookup per standard unit decides it
  have h : ∀ r ∈ Midgard.Spec.UnitsSI.si, findUnit units r.name = none ∨ findUnit units r.name = some r := by
    decide +kernel
  exact fun r hr u hu hn => eq_of_findUnit units units_table_names_nodup r u hu hn (h r hr)

theorem findUnit_mem (n : String) (u : UnitRow) (h : findUnit units n = some u) : u ∈ units :=
  List.mem_of_find?_eq_some h

/-- reciprocity for every pair of names of the table the library's units were extracted into -/
theorem unit_table_recip (a b : String) (p x : ℚ) (hp : 0 < p) (h : conv a b p = some (some x)) :
    ∃ y, conv b a p = some (some y) ∧ x * y = 1 := by
  obtain ⟨ua, ub, ha, hb, h⟩ := (conv_eq_some a b p _).mp h
  have pa := unitFactor_pos ua p (units_table_positive ua (findUnit_mem a ua ha)) hp
  have pb := unitFactor_pos ub p (units_table_positive ub (findUnit_mem b ub hb)) hp
  have hd : ua.dim = ub.dim := ((convRow_eq_some ua ub p x).mp h).1
  obtain ⟨x', y', h1, h2, h3⟩ := unit_recip ua ub p hd pa.ne' pb.ne'
  obtain rfl := Option.some.inj (h1.symm.trans h)
  exact ⟨y', (conv_eq_some b a p _).mpr ⟨ub, ua, hb, ha, h2⟩, h3⟩

/-- transitivity for every triple of names of the table -/
theorem unit_table_trans (a b c : String) (p x y : ℚ) (hp : 0 < p)
    (h1 : conv a b p = some (some x)) (h2 : conv b c p = some (some y)) :
    conv a c p = some (some (x * y)) := by
  obtain ⟨ua, ub, ha, hb, h1⟩ := (conv_eq_some a b p _).mp h1
  obtain ⟨ub', uc, hb', hc, h2⟩ := (conv_eq_some b c p _).mp h2
  obtain rfl := Option.some.inj (hb.symm.trans hb')
  have pb := unitFactor_pos ub p (units_table_positive ub (findUnit_mem b ub hb)) hp
  exact (conv_eq_some a c p _).mpr ⟨ua, uc, ha, hc, unit_trans ua ub uc p x y pb.ne' h1 h2⟩

/-! ## Degree–minute–second conversion round-trips -/

/-- the sign of the degree field alone decides the sign of the angle (`-0.0, 19, 59.97` is negative) -/
theorem dms_to_deg_sign (p : ℚ) (hp : 0 < p) (d : SF) (m s : ℚ) :
    (dmsToDeg p d m s).val = (if d.neg then -1 else 1) * (d.mag + m / 60 + s / 3600) := by
  simp only [dmsToDeg, dmsToRad, SF_scale_val, SF_ofRat_val]
  rw [degrees_cancel p _ hp.ne']
  ring

/-- `dms_to_deg(*deg_to_dms(x)) = x` for every angle: any magnitude, either sign, including
negative angles below one degree (where the sign lives only in the `-0.0` of the degree field) -/
theorem dms_roundtrip (p : ℚ) (hp : 0 < p) (x : SF) :
    (dmsToDeg p (degToDms p x).1 (degToDms p x).2.1 (degToDms p x).2.2).val = x.val := by
  rw [dms_to_deg_sign p hp, degToDms_fields p hp x]
  have e : (x.mag.floor : ℚ) + ((frac1 x.mag * 60).floor : ℚ) / 60 + frac1 (frac1 x.mag * 60) * 60 / 3600 = x.mag := by
    linear_combination dms_recombine x.mag
  simp only [e]
  rcases x with ⟨n, D⟩
  cases n
  · simp [SF.val]
  · by_cases hD : D = 0 <;> simp [SF.val, hD]

/-- the sign bit itself survives for every non-zero angle -/
theorem dms_roundtrip_signbit (p : ℚ) (hp : 0 < p) (x : SF) (hx : 0 < x.mag) :
    (dmsToDeg p (degToDms p x).1 (degToDms p x).2.1 (degToDms p x).2.2).neg = x.neg := by
  rw [dms_roundtrip_eq p hp x hx]

/-- what `deg_to_dms` returns: whole degrees carrying the sign (`-0.0` below one degree; `+0.0` for
`±0.0`, because `np.sign(±0.0)` is `+0.0`), whole minutes in [0, 60), seconds in [0, 60) -/
theorem dms_fields (p : ℚ) (hp : 0 < p) (x : SF) :
    (degToDms p x).1 = ⟨x.neg && x.mag != 0, (x.mag.floor : ℚ)⟩ ∧
    (∃ k : ℤ, (degToDms p x).2.1 = (k : ℚ) ∧ 0 ≤ k ∧ k < 60) ∧
    0 ≤ (degToDms p x).2.2 ∧ (degToDms p x).2.2 < 60 := by
  rw [degToDms_fields p hp x]
  obtain ⟨h1, h2, h3, h4⟩ := dms_fields_range x.mag
  refine ⟨rfl, ⟨(frac1 x.mag * 60).floor, rfl, ?_, ?_⟩, h3, h4⟩
  · exact_mod_cast h1
  · exact_mod_cast h2

/-! ## Lagrange interpolation -/

/-- reproduces the data at the nodes (whole call: checks, sort, window selection, scaling, product formula) -/
theorem lagrange_nodes (xs : List ℚ) (rows : List (List ℚ)) (dim w : ℕ) (be srt : Bool) (s : ℚ)
    (xnew : List ℚ) (out : List (List ℚ)) (h : lagrange xs rows dim w be srt s xnew = .ok out) (hs : s ≠ 0)
    (i j : ℕ) (hi : i < xs.length) (hj : j < xnew.length) (hx : xnew.getD j 0 = xs.getD i 0) :
    out.getD j [] = (List.range dim).map (fun c => (rows.getD i []).getD c 0) :=
  Proofs.C20.lagrange_nodes xs rows dim w be srt s xnew out h hs i j hi hj hx

/-- invariant under reordering of samples with distinct abscissae: the result is the same, or the error (shape, window,
short, bounds; `hdist` leaves no `.unsorted`) -/
theorem lagrange_perm_invariant (xs xs' : List ℚ) (rows rows' : List (List ℚ)) (dim w : ℕ) (be : Bool) (s : ℚ)
    (xnew : List ℚ) (hl : rows.length = xs.length) (hl' : rows'.length = xs'.length)
    (hperm : (xs.zip rows).Perm (xs'.zip rows'))
    (hdist : strictInc ((sortBy (xs.zip rows)).map (·.1)) = true) :
    lagrange xs' rows' dim w be false s xnew = lagrange xs rows dim w be false s xnew := by
  obtain ⟨hlen, hsort⟩ := sorted_of_perm xs xs' rows rows' hl hl' hperm hdist
  simp only [lagrange, hl, hl', hlen, hsort, Bool.false_eq_true, ↓reduceIte]

/-- reproduces every polynomial of degree below the window size, at every abscissa (also outside
the sample range when `bounds_error=False`) -/
theorem lagrange_polynomial (xs : List ℚ) (rows : List (List ℚ)) (dim w : ℕ) (be srt : Bool) (s : ℚ)
    (xnew : List ℚ) (out : List (List ℚ)) (h : lagrange xs rows dim w be srt s xnew = .ok out) (hs : s ≠ 0)
    (c : ℕ) (hc : c < dim) (P : Polynomial ℚ) (hdeg : P.degree < (w : ℕ))
    (hdata : ∀ i, i < xs.length → (rows.getD i []).getD c 0 = P.eval (xs.getD i 0))
    (j : ℕ) (hj : j < xnew.length) : (out.getD j []).getD c 0 = P.eval (xnew.getD j 0) :=
  lagrange_poly xs rows dim w be srt s xnew out h hs c hc P hdeg hdata j hj

/-- linear in the data (whole call, sorted or unsorted input): if `r₃ = a·r₁ + b·r₂` in component `c`
then so are the results -/
theorem lagrange_linear (xs : List ℚ) (r₁ r₂ r₃ : List (List ℚ)) (dim w : ℕ) (be srt : Bool) (s : ℚ)
    (xnew : List ℚ) (a b : ℚ) (o₁ o₂ o₃ : List (List ℚ))
    (h₁ : lagrange xs r₁ dim w be srt s xnew = .ok o₁)
    (h₂ : lagrange xs r₂ dim w be srt s xnew = .ok o₂)
    (h₃ : lagrange xs r₃ dim w be srt s xnew = .ok o₃)
    (c : ℕ) (hc : c < dim)
    (hcomb : ∀ i, i < xs.length →
      (r₃.getD i []).getD c 0 = a * (r₁.getD i []).getD c 0 + b * (r₂.getD i []).getD c 0)
    (j : ℕ) (hj : j < xnew.length) :
    (o₃.getD j []).getD c 0 = a * (o₁.getD j []).getD c 0 + b * (o₂.getD j []).getD c 0 :=
  Proofs.C20.lagrange_linear xs r₁ r₂ r₃ dim w be srt s xnew a b o₁ o₂ o₃ h₁ h₂ h₃ c hc hcomb j hj

/-- 1- and n-dimensional data alike: component `c` of the result is the interpolation of column `c` alone (kernel
`lagrangeAt`: one abscissa, sorted samples) -/
theorem lagrange_ndim (xs : List ℚ) (rows : List (List ℚ)) (dim w : ℕ) (m s x : ℚ) (c : ℕ) (hc : c < dim) :
    (lagrangeAt xs rows dim w m s x).getD c 0 =
      (lagrangeAt xs (rows.map (fun r => [r.getD c 0])) 1 w m s x).getD 0 0 := by
  rw [lagrangeAt_getD _ _ _ _ _ _ _ _ hc, lagrangeAt_getD _ _ _ _ _ _ _ _ Nat.one_pos]
  congr 1
  rw [← List.map_drop, ← List.map_take, List.map_map]
  apply List.map_congr_left
  intro r _
  simp

/-- the rescaling `(x - mean) / std` has no influence on the value: any non-zero `std`, any `mean` (kernel `lagrangeAt`) -/
theorem lagrange_scale_invariant (xs : List ℚ) (rows : List (List ℚ)) (dim w : ℕ) (m s m' s' x : ℚ)
    (hs : s ≠ 0) (hs' : s' ≠ 0) :
    lagrangeAt xs rows dim w m s x = lagrangeAt xs rows dim w m' s' x := by
  rw [lagrangeAt_unscale _ _ _ _ _ _ _ hs, lagrangeAt_unscale _ _ _ _ _ _ _ hs']

/-- window selection (`startIdx`, on sorted abscissae): the window of `w` consecutive samples chosen for a node contains
that node, and always lies inside the sample range -/
theorem lagrange_window (xs : List ℚ) (w k : ℕ) (hp : xs.Pairwise (· < ·)) (hk : k < xs.length)
    (hw : 1 ≤ w) (hwn : w ≤ xs.length) (x : ℚ) :
    startIdx xs w (xs.getD k 0) ≤ k ∧ k < startIdx xs w (xs.getD k 0) + w ∧
    startIdx xs w x + w ≤ xs.length :=
  ⟨(startIdx_node xs w k hp hk hw hwn).1, (startIdx_node xs w k hp hk hw hwn).2, startIdx_add_le xs w x hwn⟩

/-! ## `interpolate_with_derivative` (Lagrange interpolator; the model's `lagrangeDeriv` unfolds to
`interpDeriv (lagrange …)`, `lagrangeDeriv_eq_interpDeriv`, so the lemmas about `interpDeriv f` apply to it as it stands) -/

/-- the values returned are those of `interpolate` -/
theorem derivative_values (xs : List ℚ) (rows : List (List ℚ)) (dim w : ℕ) (be srt : Bool) (s : ℚ)
    (xnew : List ℚ) (dx : ℚ) (v d : List (List ℚ))
    (h : lagrangeDeriv xs rows dim w be srt s xnew dx = .ok (v, d)) :
    lagrange xs rows dim w be srt s xnew = .ok v := by
  obtain ⟨_, _, h0, _⟩ := interpDeriv_ok h
  exact h0

/-- the derivative returned is the central difference `(f(x+dx) - f(x-dx)) / (2dx)` of the interpolant `f` -/
theorem derivative_is_central_difference (xs : List ℚ) (rows : List (List ℚ)) (dim w : ℕ) (be srt : Bool) (s : ℚ)
    (xnew : List ℚ) (dx : ℚ) (v d : List (List ℚ))
    (h : lagrangeDeriv xs rows dim w be srt s xnew dx = .ok (v, d)) :
    ∃ hi lo, lagrange xs rows dim w be srt s (xnew.map (· + dx)) = .ok hi ∧
      lagrange xs rows dim w be srt s (xnew.map (· - dx)) = .ok lo ∧
      ∀ j c, j < xnew.length → c < dim →
        (d.getD j []).getD c 0 = ((hi.getD j []).getD c 0 - (lo.getD j []).getD c 0) / (2 * dx) := by
  obtain ⟨hi, lo, -, h1, h2, rfl⟩ := interpDeriv_ok h
  refine ⟨hi, lo, h1, h2, fun j c hj hc => ?_⟩
  exact (((lagrange_returns h1).2.2.centralDiff (lagrange_returns h2).2.2).2 j hj).2 c hc

/-- for data on a polynomial of degree below the window size it is the central difference of that polynomial -/
theorem derivative_polynomial (xs : List ℚ) (rows : List (List ℚ)) (dim w : ℕ) (be srt : Bool) (s : ℚ)
    (xnew : List ℚ) (dx : ℚ) (v d : List (List ℚ))
    (h : lagrangeDeriv xs rows dim w be srt s xnew dx = .ok (v, d)) (hs : s ≠ 0)
    (c : ℕ) (hc : c < dim) (P : Polynomial ℚ) (hdeg : P.degree < (w : ℕ))
    (hdata : ∀ i, i < xs.length → (rows.getD i []).getD c 0 = P.eval (xs.getD i 0))
    (j : ℕ) (hj : j < xnew.length) :
    (d.getD j []).getD c 0 = (P.eval (xnew.getD j 0 + dx) - P.eval (xnew.getD j 0 - dx)) / (2 * dx) :=
  have ⟨hp, r⟩ := (lagrange_computes xs rows dim w be srt s).deriv h
  r.sends hp (derivR_sends (lagR_exact hs P hdeg) dx) c hc hdata j hj

/-- … hence the exact derivative `P'(x)` for data on a polynomial of degree ≤ 2 (lines and parabolas),
for every window size, every step `dx ≠ 0`, every abscissa -/
theorem derivative_exact_quadratic (xs : List ℚ) (rows : List (List ℚ)) (dim w : ℕ) (be srt : Bool) (s : ℚ)
    (xnew : List ℚ) (dx : ℚ) (v d : List (List ℚ))
    (h : lagrangeDeriv xs rows dim w be srt s xnew dx = .ok (v, d)) (hs : s ≠ 0) (hdx : dx ≠ 0)
    (c : ℕ) (hc : c < dim) (P : Polynomial ℚ) (hdeg : P.degree ≤ 2)
    (hdata : ∀ i, i < xs.length → (rows.getD i []).getD c 0 = P.eval (xs.getD i 0))
    (j : ℕ) (hj : j < xnew.length) :
    (d.getD j []).getD c 0 = (Polynomial.derivative P).eval (xnew.getD j 0) := by
  have hw := (lagrange_returns (derivative_values xs rows dim w be srt s xnew dx v d h)).1
  rw [derivative_polynomial xs rows dim w be srt s xnew dx v d h hs c hc P
    (lt_of_le_of_lt hdeg (by exact_mod_cast (by omega : 2 < w))) hdata j hj]
  exact central_diff_quadratic P hdeg _ dx hdx

/-- the derivative is linear in the data -/
theorem derivative_linear (xs : List ℚ) (r₁ r₂ r₃ : List (List ℚ)) (dim w : ℕ) (be srt : Bool) (s : ℚ)
    (xnew : List ℚ) (dx a b : ℚ) (v₁ v₂ v₃ d₁ d₂ d₃ : List (List ℚ))
    (h₁ : lagrangeDeriv xs r₁ dim w be srt s xnew dx = .ok (v₁, d₁))
    (h₂ : lagrangeDeriv xs r₂ dim w be srt s xnew dx = .ok (v₂, d₂))
    (h₃ : lagrangeDeriv xs r₃ dim w be srt s xnew dx = .ok (v₃, d₃))
    (c : ℕ) (hc : c < dim)
    (hcomb : ∀ i, i < xs.length →
      (r₃.getD i []).getD c 0 = a * (r₁.getD i []).getD c 0 + b * (r₂.getD i []).getD c 0)
    (j : ℕ) (hj : j < xnew.length) :
    (d₃.getD j []).getD c 0 = a * (d₁.getD j []).getD c 0 + b * (d₂.getD j []).getD c 0 :=
  ((lagrange_computes xs r₁ dim w be srt s).deriv h₁).2.linear ((lagrange_computes xs r₂ dim w be srt s).deriv h₂).2
    ((lagrange_computes xs r₃ dim w be srt s).deriv h₃).2 (derivR_linear lagR_linear dx) a b c hc hcomb j hj

/-! ## Piecewise linear interpolation (`kind="linear"`: SciPy's `interp1d`, modelled — the tie is the
correspondence) -/

/-- reproduces the data at the nodes -/
theorem linear_nodes (xs : List ℚ) (rows : List (List ℚ)) (dim : ℕ) (xnew : List ℚ) (out : List (List ℚ))
    (h : linear xs rows dim xnew = .ok out)
    (hdist : strictInc ((sortBy (xs.zip rows)).map (·.1)) = true)
    (i j : ℕ) (hi : i < xs.length) (hj : j < xnew.length) (hx : xnew.getD j 0 = xs.getD i 0) :
    out.getD j [] = (List.range dim).map (fun c => (rows.getD i []).getD c 0) :=
  Proofs.C20.linear_nodes xs rows dim xnew out h hdist i j hi hj hx

/-- invariant under reordering of the samples -/
theorem linear_perm_invariant (xs xs' : List ℚ) (rows rows' : List (List ℚ)) (dim : ℕ) (xnew : List ℚ)
    (hl : rows.length = xs.length) (hl' : rows'.length = xs'.length)
    (hperm : (xs.zip rows).Perm (xs'.zip rows'))
    (hdist : strictInc ((sortBy (xs.zip rows)).map (·.1)) = true) :
    linear xs' rows' dim xnew = linear xs rows dim xnew := by
  obtain ⟨hlen, hsort⟩ := sorted_of_perm xs xs' rows rows' hl hl' hperm hdist
  simp only [linear, hl, hl', hlen, hsort]

/-- linear in the data -/
theorem linear_linear (xs : List ℚ) (r₁ r₂ r₃ : List (List ℚ)) (dim : ℕ) (xnew : List ℚ) (a b : ℚ)
    (o₁ o₂ o₃ : List (List ℚ))
    (h₁ : linear xs r₁ dim xnew = .ok o₁) (h₂ : linear xs r₂ dim xnew = .ok o₂) (h₃ : linear xs r₃ dim xnew = .ok o₃)
    (c : ℕ) (hc : c < dim)
    (hcomb : ∀ i, i < xs.length →
      (r₃.getD i []).getD c 0 = a * (r₁.getD i []).getD c 0 + b * (r₂.getD i []).getD c 0)
    (j : ℕ) (hj : j < xnew.length) :
    (o₃.getD j []).getD c 0 = a * (o₁.getD j []).getD c 0 + b * (o₂.getD j []).getD c 0 :=
  Proofs.C20.linear_linear xs r₁ r₂ r₃ dim xnew a b o₁ o₂ o₃ h₁ h₂ h₃ c hc hcomb j hj

/-! ## The interpolating polynomial (`kind="barycentric_interpolator"`: SciPy's `BarycentricInterpolator`,
specified by `barycentric` — the Lagrange interpolant over the whole sample set; the tie is the correspondence) -/

/-- reproduces every polynomial of degree below the number of samples, at every abscissa -/
theorem barycentric_polynomial (xs : List ℚ) (rows : List (List ℚ)) (dim : ℕ)
    (xnew : List ℚ) (out : List (List ℚ)) (h : barycentric xs rows dim xnew = .ok out)
    (c : ℕ) (hc : c < dim) (P : Polynomial ℚ) (hdeg : P.degree < (xs.length : ℕ))
    (hdata : ∀ i, i < xs.length → (rows.getD i []).getD c 0 = P.eval (xs.getD i 0))
    (j : ℕ) (hj : j < xnew.length) : (out.getD j []).getD c 0 = P.eval (xnew.getD j 0) := by
  obtain ⟨-, hp, r⟩ := barycentric_returns h
  exact r.sends hp (lagR_exact one_ne_zero P hdeg) c hc hdata j hj

/-- the specification *is* the interpolating polynomial of the samples as given (Mathlib's `Lagrange.interpolate`) -/
theorem barycentric_is_interpolating_polynomial (xs : List ℚ) (rows : List (List ℚ)) (dim : ℕ)
    (xnew : List ℚ) (out : List (List ℚ)) (h : barycentric xs rows dim xnew = .ok out)
    (c : ℕ) (hc : c < dim) (j : ℕ) (hj : j < xnew.length) :
    (out.getD j []).getD c 0 = (Lagrange.interpolate (Finset.range xs.length) (fun i => xs.getD i 0)
      (fun i => (rows.getD i []).getD c 0)).eval (xnew.getD j 0) := by
  have hinj := getD_injOn xs (barycentric_returns h).2.1.nodup
  apply barycentric_polynomial xs rows dim xnew out h c hc _ _ _ j hj
  · have := Lagrange.degree_interpolate_lt (fun i => (rows.getD i []).getD c 0) hinj
    rwa [Finset.card_range] at this
  · intro i hi
    exact (Lagrange.eval_interpolate_at_node (fun i => (rows.getD i []).getD c 0) hinj (Finset.mem_range.mpr hi)).symm

/-- reproduces the data at the nodes -/
theorem barycentric_nodes (xs : List ℚ) (rows : List (List ℚ)) (dim : ℕ)
    (xnew : List ℚ) (out : List (List ℚ)) (h : barycentric xs rows dim xnew = .ok out)
    (i j : ℕ) (hi : i < xs.length) (hj : j < xnew.length) (hx : xnew.getD j 0 = xs.getD i 0) :
    out.getD j [] = (List.range dim).map (fun c => (rows.getD i []).getD c 0) := by
  obtain ⟨hpos, hp, r⟩ := barycentric_returns h
  exact Lists.eq_map_range_of_getD _ dim _ (r.row_len j hj) fun c hc =>
    r.nodes hp (lagR_nodes hpos one_ne_zero) i j c hi hj hc hx

/-- invariant under reordering of the samples -/
theorem barycentric_perm_invariant (xs xs' : List ℚ) (rows rows' : List (List ℚ)) (dim : ℕ)
    (xnew : List ℚ) (hl : rows.length = xs.length) (hl' : rows'.length = xs'.length)
    (hperm : (xs.zip rows).Perm (xs'.zip rows'))
    (hdist : strictInc ((sortBy (xs.zip rows)).map (·.1)) = true) :
    barycentric xs' rows' dim xnew = barycentric xs rows dim xnew := by
  obtain ⟨hlen, hsort⟩ := sorted_of_perm xs xs' rows rows' hl hl' hperm hdist
  simp only [barycentric, hl, hl', hlen, hsort]

/-- linear in the data -/
theorem barycentric_linear (xs : List ℚ) (r₁ r₂ r₃ : List (List ℚ)) (dim : ℕ)
    (xnew : List ℚ) (a b : ℚ) (o₁ o₂ o₃ : List (List ℚ))
    (h₁ : barycentric xs r₁ dim xnew = .ok o₁) (h₂ : barycentric xs r₂ dim xnew = .ok o₂)
    (h₃ : barycentric xs r₃ dim xnew = .ok o₃) (c : ℕ) (hc : c < dim)
    (hcomb : ∀ i, i < xs.length →
      (r₃.getD i []).getD c 0 = a * (r₁.getD i []).getD c 0 + b * (r₂.getD i []).getD c 0)
    (j : ℕ) (hj : j < xnew.length) :
    (o₃.getD j []).getD c 0 = a * (o₁.getD j []).getD c 0 + b * (o₂.getD j []).getD c 0 := by
  exact (barycentric_returns h₁).2.2.linear (barycentric_returns h₂).2.2 (barycentric_returns h₃).2.2 lagR_linear
    a b c hc hcomb j hj

/-- for three or more samples it is the Lagrange interpolator of the library with the window set to all samples -/
theorem barycentric_eq_full_window_lagrange (xs : List ℚ) (rows : List (List ℚ)) (dim : ℕ) (xnew : List ℚ)
    (hn : 3 ≤ xs.length) (hl : rows.length = xs.length) :
    barycentric xs rows dim xnew = lagrange xs rows dim xs.length false false 1 xnew := by
  have hlen : ((sortBy (xs.zip rows)).map (·.1)).length = xs.length := by
    rw [List.length_map, (sortBy_perm _).length_eq]; simp [List.length_zip, hl]
  have h0 : xs.length ≠ 0 := by omega
  have h3 : ¬ xs.length < 3 := by omega
  simp only [barycentric, lagrange, hl, hlen, h0, h3, bne_self_eq_false, Bool.false_eq_true, ↓reduceIte,
    gt_iff_lt, lt_self_iff_false, Bool.false_and]

/-! ## Not-a-knot cubic spline (`kind="cubic"`, `kind="interpolated_univariate_spline"`: SciPy, specified by
`NakEqs` / `pieceEval` / `nakSpline`; the tie is the correspondence.  The model accepts the moments its elimination
returns only when they satisfy `NakEqs`, so the theorems hold for every value it returns) -/

/-- the defining equations determine the spline: two solutions for the same data and strictly increasing nodes
(n ≥ 4) have the same second derivatives at every node -/
theorem spline_unique (n : ℕ) (x y m m' : ℕ → ℚ) (hn : 4 ≤ n) (hx : ∀ i, i + 1 < n → x i < x (i + 1))
    (h : NakEqs n x y m) (h' : NakEqs n x y m') : ∀ i, i < n → m i = m' i :=
  nakEqs_ext n x y y m m' hn hx (fun _ _ => rfl) h h'

/-- reproduces the data at the nodes (whole call: sort, interval search, cubic piece) -/
theorem spline_nodes (xs : List ℚ) (rows : List (List ℚ)) (dim : ℕ) (xnew : List ℚ)
    (out : List (List ℚ)) (h : nakSpline xs rows dim xnew = .ok out)
    (i j c : ℕ) (hi : i < xs.length) (hj : j < xnew.length) (hc : c < dim) (hx : xnew.getD j 0 = xs.getD i 0) :
    (out.getD j []).getD c 0 = (rows.getD i []).getD c 0 := by
  obtain ⟨-, hp, r⟩ := nakSpline_returns h
  exact r.nodes hp nakR_nodes i j c hi hj hc hx

/-- invariant under reordering of the samples -/
theorem spline_perm_invariant (xs xs' : List ℚ) (rows rows' : List (List ℚ)) (dim : ℕ)
    (xnew : List ℚ) (hl : rows.length = xs.length) (hl' : rows'.length = xs'.length)
    (hperm : (xs.zip rows).Perm (xs'.zip rows'))
    (hdist : strictInc ((sortBy (xs.zip rows)).map (·.1)) = true) :
    nakSpline xs' rows' dim xnew = nakSpline xs rows dim xnew := by
  obtain ⟨hlen, hsort⟩ := sorted_of_perm xs xs' rows rows' hl hl' hperm hdist
  simp only [nakSpline, hl, hl', hlen, hsort]

/-- linear in the data (whole call) -/
theorem spline_linear (xs : List ℚ) (r₁ r₂ r₃ : List (List ℚ)) (dim : ℕ) (xnew : List ℚ) (a b : ℚ)
    (o₁ o₂ o₃ : List (List ℚ))
    (h₁ : nakSpline xs r₁ dim xnew = .ok o₁) (h₂ : nakSpline xs r₂ dim xnew = .ok o₂)
    (h₃ : nakSpline xs r₃ dim xnew = .ok o₃) (c : ℕ) (hc : c < dim)
    (hcomb : ∀ i, i < xs.length →
      (r₃.getD i []).getD c 0 = a * (r₁.getD i []).getD c 0 + b * (r₂.getD i []).getD c 0)
    (j : ℕ) (hj : j < xnew.length) :
    (o₃.getD j []).getD c 0 = a * (o₁.getD j []).getD c 0 + b * (o₂.getD j []).getD c 0 := by
  exact (nakSpline_returns h₁).2.2.linear (nakSpline_returns h₂).2.2 (nakSpline_returns h₃).2.2 nakR_linear a b c hc
    hcomb j hj

/-- reproduces every cubic polynomial `c₀ + c₁t + c₂t² + c₃t³` (whole call) -/
theorem spline_reproduces_cubics (xs : List ℚ) (rows : List (List ℚ)) (dim : ℕ) (xnew : List ℚ)
    (out : List (List ℚ)) (h : nakSpline xs rows dim xnew = .ok out) (c : ℕ) (hc : c < dim) (c0 c1 c2 c3 : ℚ)
    (hdata : ∀ i, i < xs.length → (rows.getD i []).getD c 0 = cubicAt c0 c1 c2 c3 (xs.getD i 0))
    (j : ℕ) (hj : j < xnew.length) :
    (out.getD j []).getD c 0 = cubicAt c0 c1 c2 c3 (xnew.getD j 0) := by
  obtain ⟨-, hp, r⟩ := nakSpline_returns h
  exact r.sends hp (nakR_exact c0 c1 c2 c3) c hc hdata j hj

/-- what a successful call returns: for every component, cubic pieces whose second derivatives at the nodes
satisfy the defining equations for the sorted samples (C¹ at interior nodes, not-a-knot at node 1 and n-2) -/
theorem spline_satisfies_defining_equations (xs : List ℚ) (rows : List (List ℚ)) (dim : ℕ) (xnew : List ℚ)
    (out : List (List ℚ)) (h : nakSpline xs rows dim xnew = .ok out) (j c : ℕ) (hj : j < xnew.length) (hc : c < dim) :
    ∃ ms, NakEqs ((sortedPairs xs rows false).map (·.1)).length (fun i => ((sortedPairs xs rows false).map (·.1)).getD i 0)
        (fun i => (((sortedPairs xs rows false).map (·.2)).map (·.getD c 0)).getD i 0) (fun i => ms.getD i 0) ∧
      (out.getD j []).getD c 0 = nakAt ((sortedPairs xs rows false).map (·.1))
        (((sortedPairs xs rows false).map (·.2)).map (·.getD c 0)) ms (xnew.getD j 0) := by
  obtain ⟨hl, -, r⟩ := nakSpline_returns h
  obtain ⟨-, -, ms, hms, he⟩ := r.entry j c hj hc
  rw [← sortedPairs_col xs rows false hl c, ← sortedPairs_fst xs rows false hl] at hms he
  exact ⟨ms, hms, he⟩

/-! ## `interpolate_with_derivative` with the other interpolators (`interpDeriv f`: three calls of the interpolator `f`) -/

/-- spline kinds (`cubic`, `interpolated_univariate_spline`), data on a cubic `c₀ + c₁t + c₂t² + c₃t³`: the derivative
returned is the derivative of the cubic plus `c₃·dx²` — exact for parabolas and lines, for every `dx ≠ 0` -/
theorem spline_derivative_of_cubic (xs : List ℚ) (rows : List (List ℚ)) (dim : ℕ) (xnew : List ℚ) (dx : ℚ) (hdx : dx ≠ 0)
    (v d : List (List ℚ)) (h : interpDeriv (nakSpline xs rows dim) xnew dx = .ok (v, d)) (c : ℕ) (hc : c < dim)
    (c0 c1 c2 c3 : ℚ)
    (hdata : ∀ i, i < xs.length → (rows.getD i []).getD c 0 = cubicAt c0 c1 c2 c3 (xs.getD i 0))
    (j : ℕ) (hj : j < xnew.length) :
    (d.getD j []).getD c 0 = c1 + 2 * c2 * xnew.getD j 0 + 3 * c3 * xnew.getD j 0 * xnew.getD j 0 + c3 * dx * dx := by
  have ⟨hp, r⟩ := (nakSpline_computes xs rows dim).deriv h
  rw [r.sends hp (derivR_sends (nakR_exact c0 c1 c2 c3) dx) c hc hdata j hj]
  exact central_diff_cubic c0 c1 c2 c3 _ dx hdx

/-- … and is linear in the data -/
theorem spline_derivative_linear (xs : List ℚ) (r₁ r₂ r₃ : List (List ℚ)) (dim : ℕ) (xnew : List ℚ) (dx a b : ℚ)
    (v₁ v₂ v₃ d₁ d₂ d₃ : List (List ℚ))
    (h₁ : interpDeriv (nakSpline xs r₁ dim) xnew dx = .ok (v₁, d₁))
    (h₂ : interpDeriv (nakSpline xs r₂ dim) xnew dx = .ok (v₂, d₂))
    (h₃ : interpDeriv (nakSpline xs r₃ dim) xnew dx = .ok (v₃, d₃))
    (c : ℕ) (hc : c < dim)
    (hcomb : ∀ i, i < xs.length →
      (r₃.getD i []).getD c 0 = a * (r₁.getD i []).getD c 0 + b * (r₂.getD i []).getD c 0)
    (j : ℕ) (hj : j < xnew.length) :
    (d₃.getD j []).getD c 0 = a * (d₁.getD j []).getD c 0 + b * (d₂.getD j []).getD c 0 :=
  ((nakSpline_computes xs r₁ dim).deriv h₁).2.linear ((nakSpline_computes xs r₂ dim).deriv h₂).2
    ((nakSpline_computes xs r₃ dim).deriv h₃).2 (derivR_linear nakR_linear dx) a b c hc hcomb j hj

/-- `barycentric_interpolator`, data on a polynomial of degree below the number of samples: the central difference
of that polynomial, hence its derivative for degree ≤ 2 -/
theorem barycentric_derivative_polynomial (xs : List ℚ) (rows : List (List ℚ)) (dim : ℕ) (xnew : List ℚ) (dx : ℚ)
    (v d : List (List ℚ)) (h : interpDeriv (barycentric xs rows dim) xnew dx = .ok (v, d)) (c : ℕ) (hc : c < dim)
    (P : Polynomial ℚ) (hdeg : P.degree < (xs.length : ℕ))
    (hdata : ∀ i, i < xs.length → (rows.getD i []).getD c 0 = P.eval (xs.getD i 0))
    (j : ℕ) (hj : j < xnew.length) :
    (d.getD j []).getD c 0 = (P.eval (xnew.getD j 0 + dx) - P.eval (xnew.getD j 0 - dx)) / (2 * dx) ∧
    (P.degree ≤ 2 → dx ≠ 0 → (d.getD j []).getD c 0 = (Polynomial.derivative P).eval (xnew.getD j 0)) := by
  have ⟨hp, r⟩ := (barycentric_computes xs rows dim).deriv h
  have e := r.sends hp (derivR_sends (lagR_exact one_ne_zero P hdeg) dx) c hc hdata j hj
  exact ⟨e, fun h2 hdx => by rw [e]; exact central_diff_quadratic P h2 _ dx hdx⟩

/-! ## Bilinear interpolation on a grid (`spatial_interpolation.regular_grid_interpolator`: SciPy, specified by
`bilinearAt` / `regularGrid`; the tie is the correspondence) -/

/-- reproduces the grid values at the grid nodes, and every function `c₀ + c₁x + c₂y + c₃xy` everywhere -/
theorem grid_bilinear_nodes_and_exactness (xs ys : List ℚ) (grid : List (List ℚ)) (hx : xs.Pairwise (· < ·))
    (hy : ys.Pairwise (· < ·)) (hnx : 2 ≤ xs.length) (hny : 2 ≤ ys.length) (hg : grid.length = ys.length) :
    (∀ k i, k < ys.length → i < xs.length →
      bilinearAt xs ys grid (xs.getD i 0) (ys.getD k 0) = (grid.getD k []).getD i 0) ∧
    (∀ c0 c1 c2 c3 : ℚ, (∀ k i, k < ys.length → i < xs.length →
        (grid.getD k []).getD i 0 = c0 + c1 * xs.getD i 0 + c2 * ys.getD k 0 + c3 * xs.getD i 0 * ys.getD k 0) →
      ∀ x y, bilinearAt xs ys grid x y = c0 + c1 * x + c2 * y + c3 * x * y) := by
  refine ⟨fun k i hk hi => Tensor.nodes linR_nodes linR_nodes hx hy hg k i hk hi (bilinearAt_tensor xs ys grid _ _ hnx hny),
    fun c0 c1 c2 c3 hdata x y => ?_⟩
  -- affine in `x` for every `y`, affine in `y` for every `x`
  refine Tensor.exact (fun x y => c0 + c1 * x + c2 * y + c3 * x * y) (fun y => ?_) (fun x => ?_) hx hy hg hdata
    (bilinearAt_tensor xs ys grid x y hnx hny)
  · convert linR_exact (c0 + c2 * y) (c1 + c3 * y) using 2
    ring
  · convert linR_exact (c0 + c1 * x) (c2 + c3 * x) using 2
    ring

/-- linear in the grid values -/
theorem grid_bilinear_linear (xs ys : List ℚ) (g₁ g₂ g₃ : List (List ℚ)) (hnx : 2 ≤ xs.length) (hny : 2 ≤ ys.length)
    (l₁ : g₁.length = ys.length) (l₂ : g₂.length = ys.length) (l₃ : g₃.length = ys.length) (a b x y : ℚ)
    (hcomb : ∀ k i, k < ys.length → i < xs.length →
      (g₃.getD k []).getD i 0 = a * (g₁.getD k []).getD i 0 + b * (g₂.getD k []).getD i 0) :
    bilinearAt xs ys g₃ x y = a * bilinearAt xs ys g₁ x y + b * bilinearAt xs ys g₂ x y := by
  exact Tensor.linear linR_linear linR_linear l₁ l₂ l₃ a b hcomb (bilinearAt_tensor xs ys g₁ x y hnx hny)
    (bilinearAt_tensor xs ys g₂ x y hnx hny) (bilinearAt_tensor xs ys g₃ x y hnx hny)

/-! ## Bicubic spline on a grid (`spatial_interpolation.rect_bivariate_spline`: SciPy `RectBivariateSpline`, specified
by `bicubicAt` — the tensor product of not-a-knot splines; the tie is the correspondence) -/

/-- reproduces the grid values at the grid nodes and every tensor cubic `Σ cₐᵦ xᵃ yᵇ` (a, b ≤ 3; written as a cubic in
`x` whose four coefficients are cubics in `y`) everywhere -/
theorem grid_bicubic_nodes_and_exactness (xs ys : List ℚ) (grid : List (List ℚ)) (hx : xs.Pairwise (· < ·))
    (hy : ys.Pairwise (· < ·)) (hnx : 4 ≤ xs.length) (hny : 4 ≤ ys.length) (hg : grid.length = ys.length) :
    (∀ k i v, k < ys.length → i < xs.length → bicubicAt xs ys grid (xs.getD i 0) (ys.getD k 0) = some v →
      v = (grid.getD k []).getD i 0) ∧
    (∀ a0 a1 a2 a3 b0 b1 b2 b3 c0 c1 c2 c3 d0 d1 d2 d3 : ℚ,
      (∀ k i, k < ys.length → i < xs.length → (grid.getD k []).getD i 0 =
        cubicAt (cubicAt a0 a1 a2 a3 (ys.getD k 0)) (cubicAt b0 b1 b2 b3 (ys.getD k 0)) (cubicAt c0 c1 c2 c3 (ys.getD k 0))
          (cubicAt d0 d1 d2 d3 (ys.getD k 0)) (xs.getD i 0)) →
      ∀ x y v, bicubicAt xs ys grid x y = some v →
        v = cubicAt (cubicAt a0 a1 a2 a3 y) (cubicAt b0 b1 b2 b3 y) (cubicAt c0 c1 c2 c3 y) (cubicAt d0 d1 d2 d3 y) x) := by
  refine ⟨fun k i v hk hi h =>
      Tensor.nodes nakR_nodes nakR_nodes hx hy hg k i hk hi (bicubicAt_tensor _ _ _ _ _ _ hx hy hnx hny h),
    fun a0 a1 a2 a3 b0 b1 b2 b3 c0 c1 c2 c3 d0 d1 d2 d3 hdata x y v h => ?_⟩
  refine Tensor.exact (fun x y => cubicAt (cubicAt a0 a1 a2 a3 y) (cubicAt b0 b1 b2 b3 y) (cubicAt c0 c1 c2 c3 y)
    (cubicAt d0 d1 d2 d3 y) x) (fun y => nakR_exact _ _ _ _) (fun x => ?_) hx hy hg hdata
    (bicubicAt_tensor _ _ _ _ _ _ hx hy hnx hny h)
  -- as a function of `y` it is a cubic as well
  convert nakR_exact (cubicAt a0 b0 c0 d0 x) (cubicAt a1 b1 c1 d1 x) (cubicAt a2 b2 c2 d2 x) (cubicAt a3 b3 c3 d3 x) using 2
  unfold cubicAt
  ring

/-! ## `planetary_motion.gsdtime_sun`: the angles that are rational in the date -/

/-- for any constants `c0`, `rate` (those of the source enter only in the `example` at the end of the file): the
mean longitude and the Greenwich sidereal angle lie in [0, 360); the sidereal angle is periodic in the day fraction
with period 1, and from one day to the next (same fraction) both angles advance by `rate`, modulo 360 -/
theorem sun_angles (c0 rate jd frac : ℚ) (k : ℤ) :
    (0 ≤ sunMeanLongitude c0 rate jd ∧ sunMeanLongitude c0 rate jd < 360) ∧
    (0 ≤ gmstAngle c0 rate jd frac ∧ gmstAngle c0 rate jd frac < 360) ∧
    gmstAngle c0 rate jd (frac + k) = gmstAngle c0 rate jd frac ∧
    gmstAngle c0 rate (jd + 1) frac = fmod360 (gmstAngle c0 rate jd frac + rate) ∧
    sunMeanLongitude c0 rate (jd + 1) = fmod360 (sunMeanLongitude c0 rate jd + rate) := by
  refine ⟨fmod360_range _, fmod360_range _, ?_, ?_, ?_⟩
  · unfold gmstAngle
    rw [← fmod360_add_turns (c0 + rate * jd + 360 * frac + 180) k]
    congr 1; ring
  · unfold gmstAngle
    rw [fmod360_fmod360_add]
    congr 1; ring
  · unfold sunMeanLongitude
    rw [fmod360_fmod360_add]
    congr 1; ring

/-! ## `nputil.norm`, `nputil.unit_vector`, `nputil.take` -/

/-- `unit_vector(v)` has norm 1 and `norm(v) · unit_vector(v) = v`, for every non-zero vector of any length
(`n` is the norm: any number with `n² = Σ vᵢ²`) -/
theorem unit_vector_identities (v : List ℚ) (n : ℚ) (hn : n ≠ 0) (h : n * n = normSq v) :
    normSq (unitVector v n) = 1 ∧ (unitVector v n).map (n * ·) = v := by
  constructor
  · unfold unitVector
    rw [normSq_div n, ← h]
    field_simp
  · unfold unitVector
    rw [List.map_map]
    conv_rhs => rw [← List.map_id v]
    apply List.map_congr_left
    intro a _
    simp only [Function.comp, id]
    field_simp

/-- the norm is positive definite and absolutely homogeneous: `‖v‖² ≥ 0`, `= 0` only for the zero vector,
`‖a·v‖² = a²‖v‖²` -/
theorem norm_identities (v : List ℚ) (a : ℚ) :
    0 ≤ normSq v ∧ (normSq v = 0 → ∀ x ∈ v, x = 0) ∧ normSq (v.map (a * ·)) = a * a * normSq v :=
  ⟨normSq_nonneg v, normSq_eq_zero v, normSq_scale a v⟩

/-- `take(v, i)` picks component `i` of every row -/
theorem take_last_axis (rows : List (List ℚ)) (i k : ℕ) (hk : k < rows.length) :
    (takeLast rows i).length = rows.length ∧ (takeLast rows i).getD k 0 = (rows.getD k []).getD i 0 :=
  ⟨takeLast_length rows i, takeLast_getD rows i k hk⟩

/-! ## Dilution of precision -/

/-- GDOP² = PDOP² + TDOP² and PDOP² = HDOP² + VDOP²: immediate from how the five values are read off the diagonal of
`Q` (`dopsOf`); that `Q` is the inverse of `HᵀH` is `dop_inverse` -/
theorem dop_pythagoras (sats : List Sat) (d : Dops) (h : computeDops sats = some d) :
    d.gdop2 = d.pdop2 + d.tdop2 ∧ d.pdop2 = d.hdop2 + d.vdop2 := by
  rw [computeDops_eq] at h
  split at h
  · exact absurd h (by simp)
  · injection h with h
    subst h
    exact dopsOf_pythagoras _

/-- the values do not change when the satellites are reordered -/
theorem dop_perm (l₁ l₂ : List Sat) (hp : l₁.Perm l₂) : computeDops l₁ = computeDops l₂ := by
  rw [computeDops_eq, computeDops_eq, normal_perm l₁ l₂ hp]

/-- the values do not change when all azimuths are rotated by one angle (cosine `c`, sine `s`) -/
theorem dop_az_rotation (c s : ℚ) (h : c ^ 2 + s ^ 2 = 1) (l : List Sat) :
    computeDops (l.map (rotSat c s)) = computeDops l :=
  computeDops_map _ _ (rotSat_row c s) (rot_mul_transpose c s h)
    (fun x => by have := rot_conj_diag c s x; rwa [h, one_mul] at this) l

/-- obligation on the regenerated table: the test with which `compute_dops` refuses a geometry is the documented
one on the condition number, without a finite limit … -/
theorem dop_guard_source : dopGuardSource = "not np.isfinite(np.linalg.cond(Q))" ∧ dopCondLimit = none := by
  decide +kernel

/-- … hence values are returned for every non-singular design, however weak the geometry: `None` exactly when
`det(HᵀH) = 0` -/
theorem dop_refuses_only_singular (cond : ℚ) (sats : List Sat) :
    computeDopsGuarded dopCondLimit cond sats = none ↔ det4 (normal sats) = 0 := by
  rw [dop_guard_source.2]
  simp only [computeDopsGuarded, computeDops_eq]
  split <;> simp_all

/-- the matrix the traces are taken of is the inverse of `HᵀH` -/
theorem dop_inverse (sats : List Sat) (h : det4 (normal sats) ≠ 0) :
    toM (normal sats) * toM (inv4 (normal sats)) = 1 :=
  mul_inv4 _ h

/-! ## Plate motion -/

/-- `v = ω × r` is perpendicular to the position and to the rotation pole -/
theorem plate_perp (w r : V3) : dot3 (cross w r) r = 0 ∧ dot3 (cross w r) w = 0 := by
  constructor <;> (simp only [cross, dot3]; ring)

/-- the speed is `|ω||r| sin θ` (Lagrange's identity); with `plate_perp` this fixes `v` up to the
orientation, which is that of `ω × r` by definition of `cross` -/
theorem plate_speed (w r : V3) :
    dot3 (cross w r) (cross w r) = dot3 w w * dot3 r r - dot3 w r * dot3 w r := by
  simp only [cross, dot3]; ring

/-- `plate_perp` for every plate of every model of the regenerated table and every position -/
theorem plate_table_perp (model plate : String) (p : ℚ) (pos v : V3)
    (h : plateVelocity model plate p pos = some v) :
    dot3 v pos = 0 ∧ ∃ row ∈ poles, row.model = model ∧ row.plate = plate ∧ dot3 v (poleOmega row p) = 0 := by
  unfold plateVelocity at h
  cases hf : findPole poles model plate with
  | none => simp [hf] at h
  | some row =>
    simp only [hf, Option.map_some, Option.some.injEq] at h
    subst h
    have hm : row ∈ poles := List.mem_of_find?_eq_some hf
    have hq := List.find?_some hf
    simp only [Bool.and_eq_true, beq_iff_eq] at hq
    exact ⟨(plate_perp _ _).1, row, hm, hq.1, hq.2, (plate_perp _ _).2⟩

/-! ## Euler pole: spherical ↔ Cartesian (`PlateMotion.to_cartesian` / `to_spherical`) -/

/-- the executed formula of `to_cartesian` (cos/sin of latitude and longitude as parameters on the unit circle):
the rotation rate that `to_spherical` computes from its result is the one put in (squared: `sqrt` is not
modelled), and the result is `3.6 ω` times the vector `(cos lat cos lon, cos lat sin lon, sin lat)` (the second
conjunct only re-brackets the definition; that this vector has norm 1 is `h1`, `h2`, which it does not use) -/
theorem to_cartesian_rate_and_direction (cl sl co so w : ℚ) (h1 : cl ^ 2 + sl ^ 2 = 1) (h2 : co ^ 2 + so ^ 2 = 1) :
    omegaSq (toCartesianQ cl sl co so w) = w * w ∧
    toCartesianQ cl sl co so w = ⟨(w * (3600000 / 1000000)) * (cl * co), (w * (3600000 / 1000000)) * (cl * so),
      (w * (3600000 / 1000000)) * sl⟩ := by
  constructor
  · simp only [omegaSq, toCartesianQ, dot3]
    linear_combination (w ^ 2 * cl ^ 2) * h2 + (w ^ 2) * h1
  · simp only [toCartesianQ]
    congr 1 <;> ring

/-- specification over ℝ (`arctan2 y x = Complex.arg (x + iy)`, unit factors omitted; these definitions are not
executed — the tie to the code is the oracle of harness/c20.py): spherical → Cartesian → spherical is the
identity for ω > 0, latitude in (−π/2, π/2), longitude in (−π, π] -/
theorem spherical_roundtrip_real (lat lon w : ℝ) (hw : 0 < w) (hlat : lat ∈ Set.Ioo (-(Real.pi / 2)) (Real.pi / 2))
    (hlon : lon ∈ Set.Ioc (-Real.pi) Real.pi) :
    Spherical.toSpherical (Spherical.toCartesian lat lon w) = (lat, lon, w) := by
  have hc : 0 < Real.cos lat := Real.cos_pos_of_mem_Ioo hlat
  have hxy : (w * Real.cos lat * Real.cos lon) ^ 2 + (w * Real.cos lat * Real.sin lon) ^ 2 = (w * Real.cos lat) ^ 2 := by
    linear_combination (w * Real.cos lat) ^ 2 * Real.sin_sq_add_cos_sq lon
  have hs1 : Real.sqrt ((w * Real.cos lat * Real.cos lon) ^ 2 + (w * Real.cos lat * Real.sin lon) ^ 2)
      = w * Real.cos lat := by
    rw [hxy, Real.sqrt_sq (le_of_lt (mul_pos hw hc))]
  have hs2 : Real.sqrt ((w * Real.cos lat * Real.cos lon) ^ 2 + (w * Real.cos lat * Real.sin lon) ^ 2
      + (w * Real.sin lat) ^ 2) = w := by
    have : (w * Real.cos lat * Real.cos lon) ^ 2 + (w * Real.cos lat * Real.sin lon) ^ 2 + (w * Real.sin lat) ^ 2
        = w ^ 2 := by
      rw [hxy]
      linear_combination w ^ 2 * Real.sin_sq_add_cos_sq lat
    rw [this, Real.sqrt_sq (le_of_lt hw)]
  have hlat' : lat ∈ Set.Ioc (-Real.pi) Real.pi :=
    ⟨by linarith [hlat.1, Real.pi_pos], by linarith [hlat.2, Real.pi_pos]⟩
  simp only [Spherical.toSpherical, Spherical.toCartesian, hs1, hs2]
  rw [Spherical.atan2_polar w lat hw hlat', Spherical.atan2_polar (w * Real.cos lat) lon (mul_pos hw hc) hlon]

/-- … and Cartesian → spherical → Cartesian is the identity for every vector (also on the axis, at the origin) -/
theorem cartesian_roundtrip_real (x y z : ℝ) :
    Spherical.toCartesian (Spherical.toSpherical (x, y, z)).1 (Spherical.toSpherical (x, y, z)).2.1
      (Spherical.toSpherical (x, y, z)).2.2 = (x, y, z) := by
  simp only [Spherical.toSpherical, Spherical.toCartesian]
  have hr : Real.sqrt (x ^ 2 + y ^ 2 + z ^ 2) = Real.sqrt (Real.sqrt (x ^ 2 + y ^ 2) ^ 2 + z ^ 2) := by
    rw [Real.sq_sqrt (by positivity)]
  rw [hr, Spherical.hyp_cos (Real.sqrt (x ^ 2 + y ^ 2)) z, Spherical.hyp_sin (Real.sqrt (x ^ 2 + y ^ 2)) z,
    Spherical.hyp_cos x y, Spherical.hyp_sin x y]

/-! ## Least squares -/

/-- the fitted line satisfies the normal equations -/
theorem linreg_normal_equations (xs ys : List ℚ) (f : Fit) (hl : xs.length = ys.length)
    (h : ols xs ys = some f) :
    (resid f xs ys).sum = 0 ∧ (List.zipWith (· * ·) xs (resid f xs ys)).sum = 0 := by
  obtain ⟨_, e1, e2⟩ := (ols_eq_some_iff xs ys f).mp h
  rw [sum_resid f xs ys hl, sum_x_resid f xs ys hl]
  exact ⟨by linear_combination -e1, by linear_combination -e2⟩

/-- data on a line are fitted by that line -/
theorem linreg_exact_line (xs : List ℚ) (a b : ℚ)
    (hden : (xs.length : ℚ) * (xs.map (fun x => x * x)).sum - xs.sum * xs.sum ≠ 0) :
    ols xs (xs.map (fun x => a + b * x)) = some ⟨a, b⟩ :=
  (ols_eq_some_iff _ _ _).mpr ⟨hden, by rw [sum_map_line]; ring, by rw [sum_zip_line]; ring⟩

/-! ### statistics of the fit (`rms`, `r_square`, `slope_sigma`, `interception_sigma`: `fitStats`, squares where
the code takes a square root — the textbook expressions in the residuals of the least-squares line) -/

/-- `Σ(y−ȳ)² = Σe² + slope²·Σ(x−x̄)²` for the least-squares line, hence `0 ≤ r_square ≤ 1` -/
theorem linreg_r_square_range (xs ys : List ℚ) (f : Fit) (hl : xs.length = ys.length) (h : ols xs ys = some f) :
    sst ys = ssr f xs ys + f.slope * f.slope * normSq (xs.map (· - mean xs)) ∧
    (sst ys ≠ 0 → 0 ≤ (fitStats f xs ys).rSquare ∧ (fitStats f xs ys).rSquare ≤ 1) := by
  have hd : sst ys = ssr f xs ys + f.slope * f.slope * normSq (xs.map (· - mean xs)) := by
    obtain ⟨hden, e1, e2⟩ := (ols_eq_some_iff xs ys f).mp h
    have hn := length_ne_zero_of_den hden
    -- `ols_eq_some_iff` spells Σx² as `(xs.map (fun x => x * x)).sum`; that is `normSq xs` unfolded
    change _ + normSq xs * _ = _ at e2
    rw [sst_eq, ssr_eq f xs ys hl, normSq_sub_const]
    unfold mean
    rw [← hl, ← e1, ← e2]
    field_simp
    ring
  refine ⟨hd, fun hs => ?_⟩
  have h1 : 0 ≤ ssr f xs ys := normSq_nonneg _
  have h2 : 0 ≤ normSq (xs.map (· - mean xs)) := normSq_nonneg _
  have h3 : 0 ≤ sst ys := normSq_nonneg _
  have hpos : 0 < sst ys := lt_of_le_of_ne h3 (Ne.symm hs)
  have h4 : ssr f xs ys ≤ sst ys := by linarith [mul_nonneg (mul_self_nonneg f.slope) h2]
  rw [fitStats_rSquare]
  constructor
  · have : ssr f xs ys / sst ys ≤ 1 := (div_le_one hpos).mpr h4
    linarith
  · have : 0 ≤ ssr f xs ys / sst ys := div_nonneg h1 h3
    linarith

/-- affine rescaling `y ↦ α + β y` (`β ≠ 0`) of the ordinates: the fitted line is rescaled, the residuals are
multiplied by `β`, and `r_square` does not change -/
theorem linreg_r_square_affine_invariant (xs ys : List ℚ) (f : Fit) (al be : ℚ) (hbe : be ≠ 0)
    (hl : xs.length = ys.length) (h : ols xs ys = some f) :
    ols xs (ys.map (fun y => al + be * y)) = some ⟨al + be * f.icpt, be * f.slope⟩ ∧
    (fitStats ⟨al + be * f.icpt, be * f.slope⟩ xs (ys.map (fun y => al + be * y))).rSquare = (fitStats f xs ys).rSquare ∧
    (fitStats ⟨al + be * f.icpt, be * f.slope⟩ xs (ys.map (fun y => al + be * y))).rms2 = be * be * (fitStats f xs ys).rms2 := by
  refine ⟨?_, ?_, ?_⟩
  · obtain ⟨hden, e1, e2⟩ := (ols_eq_some_iff xs ys f).mp h
    exact (ols_eq_some_iff _ _ _).mpr ⟨hden, by rw [sum_map_line, ← hl]; linear_combination be * e1,
      by rw [sum_zip_affine al be xs ys hl]; linear_combination be * e2⟩
  · obtain ⟨hden, _⟩ := (ols_eq_some_iff xs ys f).mp h
    have hn : (ys.length : ℚ) ≠ 0 := by rw [← hl]; exact length_ne_zero_of_den hden
    rw [fitStats_rSquare, fitStats_rSquare, ssr_affine, sst_affine al be ys hn]
    rw [mul_div_mul_left _ _ (mul_ne_zero hbe hbe)]
  · rw [fitStats_rms2, fitStats_rms2, ssr_affine]
    ring

/-- `r_square = 1` iff every sample lies on the line `f` (ordinates not all equal).  Independently of `f`, `xs`, `ys`:
the statistics of a line `a + b x` on samples `zs` taken from it are `rms = slope_sigma = interception_sigma = 0`,
`r_square = 1` — for fewer than three samples or equal ordinates this rests on `x / 0 = 0` in `ℚ` -/
theorem linreg_r_square_one_iff_on_line (f : Fit) (xs ys : List ℚ) (hs : sst ys ≠ 0) :
    ((fitStats f xs ys).rSquare = 1 ↔ ∀ e ∈ resid f xs ys, e = 0) ∧
    ∀ (zs : List ℚ) (a b : ℚ), fitStats ⟨a, b⟩ zs (zs.map (fun x => a + b * x)) = ⟨0, 1, 0, 0⟩ := by
  refine ⟨?_, stats_exact_line⟩
  rw [← ssr_eq_zero_iff]
  simp only [fitStats_rSquare, sub_eq_self, div_eq_zero_iff, or_iff_left hs]

/-- `rms = 0` iff all residuals vanish; `rms² ≥ 0` -/
theorem linreg_rms_zero_iff (f : Fit) (xs ys : List ℚ) (hn : (xs.length : ℚ) ≠ 0) :
    0 ≤ (fitStats f xs ys).rms2 ∧ ((fitStats f xs ys).rms2 = 0 ↔ ∀ e ∈ resid f xs ys, e = 0) := by
  rw [← ssr_eq_zero_iff]
  simp only [fitStats_rms2, div_eq_zero_iff, or_iff_left hn, and_true]
  exact div_nonneg (normSq_nonneg _) (by positivity)

/-! ## Non-vacuity: concrete instances evaluated by the kernel -/

example : conv "km" "inch" 3 = some (some (5000000 / 127)) := by decide +kernel
example : conv "degree" "mas" 3 = some (some 3600000) := by decide +kernel
example : conv "degree" "second" 3 = some none := by decide +kernel
example : degToDms 3 ⟨true, 1 / 3⟩ = (⟨true, 0⟩, 20, 0) := by decide +kernel
example : degToDms 3 ⟨true, 0⟩ = (⟨false, 0⟩, 0, 0) := by decide +kernel
example : dmsToDeg 3 ⟨true, 0⟩ 19 (3 / 2) = ⟨true, 2283 / 7200⟩ := by decide +kernel
example : lagrange [0, 1, 2, 3] [[0, 0], [1, 1], [4, 8], [9, 27]] 2 3 true false 2 [1 / 2, 2]
    = .ok [[1 / 4, -1 / 4], [4, 8]] := by decide +kernel
example : lagrange [2, 0, 3, 1] [[4], [0], [9], [1]] 1 3 true false 5 [1 / 2] = .ok [[1 / 4]] := by decide +kernel
example : lagrangeDeriv [0, 1, 2, 3, 4] [[1], [2], [5], [10], [17]] 1 3 true false 2 [1, 5 / 2] (1 / 2)
    = .ok ([[2], [29 / 4]], [[2], [5]]) := by decide +kernel      -- y = x² + 1: y' = 2x
example : lagrangeDeriv [0, 1, 2, 3, 4] [[1], [2], [5], [10], [17]] 1 3 true false 2 [1, 4] (1 / 2) = .error .above := by
  decide +kernel
example : barycentric [2, 0, 3, 1] [[8], [0], [27], [1]] 1 [1 / 2, -1] = .ok [[1 / 8], [-1]] := by decide +kernel   -- y = x³
example : barycentric [5] [[7, 8]] 2 [1] = .ok [[7, 8]] := by decide +kernel
example : barycentric [0, 1, 1] [[0], [1], [4]] 1 [1 / 2] = .error .unsorted := by decide +kernel
example : normSq [3, 4] = 25 ∧ unitVector [3, 4] 5 = [3 / 5, 4 / 5] ∧ takeLast [[1, 2, 3], [4, 5, 6]] 1 = [2, 5] := by
  decide +kernel
example : toCartesianQ (3 / 5) (4 / 5) 0 1 2 = ⟨0, 108 / 25, 144 / 25⟩ ∧ omegaSq (toCartesianQ (3 / 5) (4 / 5) 0 1 2) = 4 := by
  decide +kernel
example : nakSpline [0, 1, 2, 3, 5] [[0], [1], [8], [27], [125]] 1 [1 / 2, 4] = .ok [[1 / 8], [64]] := by
  decide +kernel      -- y = x³ is reproduced
example : nakSpline [3, 0, 2, 1, 5] [[1], [0], [0], [1], [0]] 1 [0, 3] = .ok [[0], [1]] := by decide +kernel
example : regularGrid [0, 1, 3] [0, 2] [[0, 1, 3], [4, 7, 13]] [(1 / 2, 1), (3, 2), (4, 1)] = .error .above := by decide +kernel
example : regularGrid [0, 1, 3] [0, 2] [[0, 1, 3], [4, 7, 13]] [(1 / 2, 1), (3, 2)] = .ok [3, 13] := by decide +kernel
example : gmstAngle sunGst0 sunGstRate (57448 - sunEpoch) 0 = 1592289530189 / 10000000000 := by decide +kernel   -- 159.2289530189°: 2016-03-01 0h, the value pinned by the test suite
example : interpDeriv (nakSpline [0, 1, 2, 3, 5] [[0], [1], [8], [27], [125]] 1) [2] (1 / 2) = .ok ([[8]], [[49 / 4]]) := by
  decide +kernel      -- y = x³ at 2: 3·2² + dx² = 12 + 1/4
example : bicubicAt [0, 1, 2, 3] [0, 1, 2, 4] [[0, 0, 0, 0], [0, 1, 8, 27], [0, 2, 16, 54], [0, 4, 32, 108]] (3 / 2) 3
    = some (81 / 8) := by decide +kernel      -- x³·y at (3/2, 3)
example : lagrange [0, 1, 1, 3] [[0], [1], [4], [9]] 1 3 true false 2 [1 / 2] = .error .unsorted := by decide +kernel
example : (computeDops [⟨1/2, 1/2, 1, 0⟩, ⟨1/2, 1/2, 0, 1⟩, ⟨1/2, 1/2, -1, 0⟩, ⟨0, 1, 1, 0⟩, ⟨3/5, 4/5, 0, -1⟩]).isSome = true := by
  decide +kernel
example : computeDops [⟨1, 0, 1, 0⟩, ⟨1, 0, 1, 0⟩, ⟨1, 0, 1, 0⟩, ⟨1, 0, 1, 0⟩] = none := by decide +kernel
example : (plateVelocity "itrf2014" "eura" 3 ⟨1, 2, 3⟩).isSome = true := by decide +kernel
example : linear [2, 0, 3, 1] [[4], [0], [9], [1]] 1 [1 / 2, 2] = .ok [[1 / 2], [4]] := by decide +kernel
example : ols [0, 1, 2, 3] [1, 3, 5, 8] = some ⟨4 / 5, 23 / 10⟩ := by decide +kernel
example : fitStats ⟨4 / 5, 23 / 10⟩ [0, 1, 2, 3] [1, 3, 5, 8] = ⟨3 / 40, 529 / 535, 3 / 100, 21 / 200⟩ := by decide +kernel

end Midgard.Props.C20

#print axioms Midgard.Props.C20.unit_recip
#print axioms Midgard.Props.C20.unit_trans
#print axioms Midgard.Props.C20.units_table_positive
#print axioms Midgard.Props.C20.units_table_names_nodup
#print axioms Midgard.Props.C20.units_table_eq_si
#print axioms Midgard.Props.C20.findUnit_mem
#print axioms Midgard.Props.C20.unit_table_recip
#print axioms Midgard.Props.C20.unit_table_trans
#print axioms Midgard.Props.C20.dms_roundtrip
#print axioms Midgard.Props.C20.dms_roundtrip_signbit
#print axioms Midgard.Props.C20.dms_fields
#print axioms Midgard.Props.C20.dms_to_deg_sign
#print axioms Midgard.Props.C20.lagrange_nodes
#print axioms Midgard.Props.C20.lagrange_perm_invariant
#print axioms Midgard.Props.C20.lagrange_polynomial
#print axioms Midgard.Props.C20.lagrange_linear
#print axioms Midgard.Props.C20.lagrange_ndim
#print axioms Midgard.Props.C20.lagrange_scale_invariant
#print axioms Midgard.Props.C20.lagrange_window
#print axioms Midgard.Props.C20.derivative_values
#print axioms Midgard.Props.C20.derivative_is_central_difference
#print axioms Midgard.Props.C20.derivative_polynomial
#print axioms Midgard.Props.C20.derivative_exact_quadratic
#print axioms Midgard.Props.C20.derivative_linear
#print axioms Midgard.Props.C20.linear_nodes
#print axioms Midgard.Props.C20.linear_perm_invariant
#print axioms Midgard.Props.C20.linear_linear
#print axioms Midgard.Props.C20.barycentric_is_interpolating_polynomial
#print axioms Midgard.Props.C20.barycentric_nodes
#print axioms Midgard.Props.C20.barycentric_perm_invariant
#print axioms Midgard.Props.C20.barycentric_linear
#print axioms Midgard.Props.C20.barycentric_polynomial
#print axioms Midgard.Props.C20.barycentric_eq_full_window_lagrange
#print axioms Midgard.Props.C20.spline_nodes
#print axioms Midgard.Props.C20.spline_perm_invariant
#print axioms Midgard.Props.C20.spline_unique
#print axioms Midgard.Props.C20.spline_linear
#print axioms Midgard.Props.C20.spline_reproduces_cubics
#print axioms Midgard.Props.C20.spline_satisfies_defining_equations
#print axioms Midgard.Props.C20.spline_derivative_of_cubic
#print axioms Midgard.Props.C20.spline_derivative_linear
#print axioms Midgard.Props.C20.barycentric_derivative_polynomial
#print axioms Midgard.Props.C20.grid_bilinear_nodes_and_exactness
#print axioms Midgard.Props.C20.grid_bilinear_linear
#print axioms Midgard.Props.C20.grid_bicubic_nodes_and_exactness
#print axioms Midgard.Props.C20.sun_angles
#print axioms Midgard.Props.C20.unit_vector_identities
#print axioms Midgard.Props.C20.norm_identities
#print axioms Midgard.Props.C20.take_last_axis
#print axioms Midgard.Props.C20.dop_pythagoras
#print axioms Midgard.Props.C20.dop_perm
#print axioms Midgard.Props.C20.dop_az_rotation
#print axioms Midgard.Props.C20.dop_guard_source
#print axioms Midgard.Props.C20.dop_refuses_only_singular
#print axioms Midgard.Props.C20.dop_inverse
#print axioms Midgard.Props.C20.plate_perp
#print axioms Midgard.Props.C20.plate_speed
#print axioms Midgard.Props.C20.plate_table_perp
#print axioms Midgard.Props.C20.to_cartesian_rate_and_direction
#print axioms Midgard.Props.C20.spherical_roundtrip_real
#print axioms Midgard.Props.C20.cartesian_roundtrip_real
#print axioms Midgard.Props.C20.linreg_normal_equations
#print axioms Midgard.Props.C20.linreg_exact_line
#print axioms Midgard.Props.C20.linreg_r_square_range
#print axioms Midgard.Props.C20.linreg_r_square_affine_invariant
#print axioms Midgard.Props.C20.linreg_r_square_one_iff_on_line
#print axioms Midgard.Props.C20.linreg_rms_zero_iff
