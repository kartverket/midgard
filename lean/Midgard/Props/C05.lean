/-
C05 — Geocentric ↔ geodetic conversion is exact and keeps its ellipsoid.

The statements of the property, about the definitions of `Model/Geodetic.lean`, `Model/GeoSelect.lean` and `Model/EllArith.lean` (the
terms the compiled driver runs at `Float`/`Rat`), instantiated at `ℝ` through `Proofs/GeoReal.lean`:
* the ellipsoid parameters are consistent (`b = a(1 − f)`, `e² = 2f − f²`, `1 − e² = (1 − f)²`: the two conversion directions are on
  the same ellipsoid); every registered ellipsoid (regenerated table) has `a > 0` and `f_inv > 1`;
* `llh2trs` is the normal parametrisation: `llh2trs(φ, λ, h) = foot(φ, λ) + h · n̂(φ, λ)` with the foot point on the ellipsoid and `n̂`
  parallel to the ellipsoid's gradient there — so "(φ, λ, h) is the point whose ellipsoid normal at distance h is the input" *is*
  "`llh2trs (φ, λ, h) = input`";
* structure of `trs2llh`: longitude, pole branch, southern hemisphere by reflection, dependence on `x² + y²` and `|z|` only; the
  one-step Halley scheme is exact on the sphere and on the ellipsoid surface (`h = 0`);
* at every height: sign and range of the latitude, longitude exact, equatorial plane and ±180° meridian exact, the round-trip error of
  the one-step scheme in closed form (the tangential offset `R`), its third-order vanishing in the height, and both accuracy clauses in
  exact arithmetic: `|R| < 1e-6 m` within 100 km of the ellipsoid (`near_surface_accuracy`), `|R| < 2 mm` for `0 ≤ h ≤ 50 000 km`
  (`far_field_accuracy`), for every ellipsoid over `ℝ` with `6 371 000 ≤ a ≤ 6 378 140 m`, `0 ≤ e² ≤ 0.0067` (the rational parameters of
  every registered ellipsoid lie in this range; no theorem casts the table to `ℝ`).  The clauses bound `R` at the point of geodetic
  `(φ, h)`; that `|R|` is the length of `llh2trs (trs2llh v) − v` is `roundtrip_error_closed_form`, under its own hypotheses; the two
  are not composed into one theorem;
* the ellipsoid attribute flow: if every constructor call found in `_position.py` forwards the ellipsoid (decided over the table
  regenerated from the source on every run) then every sequence of conversions / slices / subsets / arithmetic / copies keeps the
  ellipsoid the position was created with, every conversion in it is evaluated on that ellipsoid, and cached answers are current;
* the model is the source: the arithmetic of `_llh2trs`, `_trs2llh`, the ellipsoid parameters and the branch selection, regenerated
  from the Python source on every run, equal the model's (`source_*`); an explicit `ellipsoid` argument decides.

Not proved (measured against an mpmath reference by harness/c05.py): agreement to 1e-8 m of the floating-point result
with the algorithm's exact-arithmetic result, and every other floating-point effect.
-/
import Midgard.Proofs.GeoAccuracy
import Midgard.Proofs.GeoSurface
import Midgard.Proofs.GeoThirdOrder
import Midgard.Proofs.GeoNear
import Midgard.Proofs.GeoFar
import Midgard.Proofs.SourceTie
import Midgard.Proofs.EllFlow
import Midgard.Generated.Ellipsoids
import Midgard.Generated.EllipsoidFlow
import Midgard.Generated.TrsSelect

namespace Midgard.Props.C05
open Midgard.Geo

section Params
variable {K : Type} [Field K]

/-- the two conversion directions use `e²` resp. `(1 − f)²`: they are on the same ellipsoid -/
theorem ellipsoid_params (E : Ellipsoid K) (ha : E.a ≠ 0) :
    E.b = E.a * (1 - E.f) ∧ E.e2 = 2 * E.f - E.f ^ 2 ∧ 1 - E.e2 = (1 - E.f) ^ 2 := by
  refine ⟨rfl, ?_, ?_⟩ <;> simp only [Ellipsoid.e2, Ellipsoid.b] <;> field_simp <;> ring

theorem flattening (a v : K) : (Ellipsoid.mk a (some v)).f = 1 / v ∧ (Ellipsoid.mk a none).f = 0 :=
  ⟨rfl, rfl⟩

theorem sphere_f_zero (a : K) (ha : a ≠ 0) :
    (Ellipsoid.mk a none).f = 0 ∧ (Ellipsoid.mk a none).b = a ∧ (Ellipsoid.mk a none).e2 = 0 := by
  refine ⟨rfl, ?_, ?_⟩
  · simp [Ellipsoid.b, Ellipsoid.f]
  · simp only [Ellipsoid.e2, Ellipsoid.b, Ellipsoid.f]; field_simp; ring

end Params

/-- every registered ellipsoid (table regenerated from `ellipsoid.py`) has a positive semi-major
axis and `f_inv > 1` or `f_inv = ∞` — hence `0 ≤ f < 1`, `b > 0`, `0 ≤ e² < 1`, the hypotheses of the
theorems below —, the default ellipsoid of `PositionArray.__new__` is the first entry, and the names of the table are pairwise
different (a name stands for one ellipsoid) -/
theorem registered_ellipsoids_wellformed :
    (∀ r ∈ Midgard.Generated.Ellipsoids.table,
      0 < r.2.a ∧ ∀ v ∈ r.2.fInv, 1 < v) ∧
    (Midgard.Generated.Ellipsoids.table.head?.map (·.1)) = some Midgard.Generated.Ellipsoids.defaultName ∧
    (Midgard.Generated.Ellipsoids.table.map (·.1)).Nodup := by
  decide +kernel

/-! ## `llh2trs` is the normal parametrisation of space around the ellipsoid -/

section Normal

/-- **the normal parametrisation**: the point at height `h` is the point at height 0 (the foot
point) plus `h` times the unit vector `n̂ = (cos φ cos λ, cos φ sin λ, sin φ)` -/
theorem llh2trs_normal (E : Ellipsoid ℝ) (cl sl co so h : ℝ) :
    llh2trsCS E cl sl co so h =
      V3.add (llh2trsCS E cl sl co so 0) (V3.smul h (normalCS cl sl co so)) := by
  apply V3.ext' <;> simp only [llh2trsCS, V3.add, V3.smul, normalCS] <;> ring

theorem foot_on_ellipsoid (E : Ellipsoid ℝ) (ha : E.a ≠ 0) (hf : E.f ≠ 1) (cl sl co so : ℝ)
    (hl : cl ^ 2 + sl ^ 2 = 1) (ho : co ^ 2 + so ^ 2 = 1) :
    let P := llh2trsCS E cl sl co so 0
    (P.x ^ 2 + P.y ^ 2) / E.a ^ 2 + P.z ^ 2 / E.b ^ 2 = 1 := by
  intro P
  have hpos := radicand_pos E.f cl sl hf hl
  have hd : Real.sqrt (cl * cl + (1 - E.f) * (1 - E.f) * (sl * sl)) ^ 2
      = cl * cl + (1 - E.f) * (1 - E.f) * (sl * sl) := Real.sq_sqrt hpos.le
  have hd0 : Real.sqrt (cl * cl + (1 - E.f) * (1 - E.f) * (sl * sl)) ≠ 0 :=
    (Real.sqrt_pos.mpr hpos).ne'
  have h1f : (1 - E.f) ≠ 0 := sub_ne_zero.mpr (Ne.symm hf)
  have e1 : (P.x ^ 2 + P.y ^ 2) / E.a ^ 2 + P.z ^ 2 / E.b ^ 2
      = (cl ^ 2 * (co ^ 2 + so ^ 2) + (1 - E.f) ^ 2 * sl ^ 2)
        / Real.sqrt (cl * cl + (1 - E.f) * (1 - E.f) * (sl * sl)) ^ 2 := by
    simp only [P, llh2trsCS, Ellipsoid.b, trig_sqrt]
    generalize Real.sqrt (cl * cl + (1 - E.f) * (1 - E.f) * (sl * sl)) = d at hd0
    field_simp
    ring
  rw [e1, ho, hd, div_eq_one_iff_eq hpos.ne']
  ring

/-- `n̂` is parallel to the gradient `(x/a², y/a², z/b²)` of the ellipsoid's quadric at the foot
point, i.e. it is the ellipsoid normal there -/
theorem normal_parallel_gradient (E : Ellipsoid ℝ) (ha : E.a ≠ 0) (hf : E.f ≠ 1) (cl sl co so : ℝ) :
    let P := llh2trsCS E cl sl co so 0
    V3.cross ⟨P.x / E.a ^ 2, P.y / E.a ^ 2, P.z / E.b ^ 2⟩ (normalCS cl sl co so) = V3.zero :=
  Geo.normal_parallel_gradient E ha hf cl sl co so

end Normal

section Structure

theorem trs2llh_lon (E : Ellipsoid ℝ) (v : V3 ℝ) : (trs2llh E v).lon = Trig.atan2 v.y v.x := rfl

/-- latitude and height depend on `x² + y²` and `|z|` (and the sign of `z`) only: the problem is
rotationally symmetric about the z axis -/
theorem trs2llh_rot_z (E : Ellipsoid ℝ) (x y x' y' z : ℝ) (h : x * x + y * y = x' * x' + y' * y') :
    (trs2llh E ⟨x, y, z⟩).lat = (trs2llh E ⟨x', y', z⟩).lat ∧
    (trs2llh E ⟨x, y, z⟩).h = (trs2llh E ⟨x', y', z⟩).h := by
  simp only [trs2llh, h, and_self]

/-- the southern hemisphere is the mirror image of the northern one:
`trs2llh (x, y, −z) = (−lat, lon, h)` -/
theorem trs2llh_reflect_z (E : Ellipsoid ℝ) (x y z : ℝ) :
    (trs2llh E ⟨x, y, -z⟩).lat = -(trs2llh E ⟨x, y, z⟩).lat ∧
    (trs2llh E ⟨x, y, -z⟩).h = (trs2llh E ⟨x, y, z⟩).h := by
  simp only [trs2llh, absOf_neg, signOf_neg, mul_neg, and_self]

/-- the pole branch: within `p² ≤ a²·1e-32` of the axis the latitude is `±π/2` and the height is
`|z| − b` -/
theorem trs2llh_pole (E : Ellipsoid ℝ) (x y z : ℝ) (hp : x * x + y * y ≤ E.a * E.a * 1e-32) :
    (trs2llh E ⟨x, y, z⟩).lat = Real.pi / 2 * signOf z ∧ (trs2llh E ⟨x, y, z⟩).h = absOf z - E.b := by
  rw [Acc.trs2llh_on_axis E ⟨x, y, z⟩ hp]
  exact ⟨rfl, rfl⟩

/-- `llh2trsCS` at latitude `π/2` (`cos = 0`, `sin = 1`), longitude `0` and height `z − b` is `(0, 0, z)`: what `trs2llh_pole` returns for a
point of the axis with `z > 0` converts back to it (the south pole and the other longitudes: `pole_roundtrip_signed`) -/
theorem pole_roundtrip (E : Ellipsoid ℝ) (hf : E.f < 1) (z : ℝ) :
    llh2trsCS E 0 1 1 0 (z - E.b) = ⟨0, 0, z⟩ := by
  have h := Geo.pole_roundtrip_signed E hf z 1 1 0 (one_mul 1)
  rwa [one_mul] at h

end Structure

/-! ## the one-step Halley scheme is exact on the sphere (every height) and on the ellipsoid (`h = 0`)

The surface case rests on `Geo.halley_exact_on_surface` (Proofs/GeoSurface.lean): for `p = a cos β`, `|z| = b sin β` the single
Halley step returns `s1/cc = tan β / (1 − f)`, `cc > 0`, and the height formula gives exactly `0`. -/

section Surface

/-- **the sphere (f = 0): the one-step scheme is exact at every height** — for every point off the axis
(`p > 0`, any `|z| ≥ 0`) the tangent of the latitude is `|z| / p` (geocentric = geodetic latitude), and the
height formula gives exactly the distance from the centre minus the radius -/
theorem halley_exact_on_sphere (E : Ellipsoid ℝ) (ha : 0 < E.a) (hf : E.fInv = none)
    (p z : ℝ) (hp : 0 < p) (hz : 0 ≤ z) :
    let sc := halley E p z
    sc.1 * p = sc.2 * z ∧ 0 < sc.2 ∧
      halleyHeight E p z sc.1 sc.2 = Real.sqrt (p * p + z * z) - E.a := by
  intro sc
  have ha0 : E.a ≠ 0 := ha.ne'
  have hf0 : E.f = 0 := by simp [Ellipsoid.f, hf]
  have he2 : E.e2 = 0 := by
    simp only [Ellipsoid.e2, Ellipsoid.b, hf0]; field_simp; ring
  set s0 := z / E.a with hs0
  set pn := p / E.a with hpn
  have hpn0 : 0 < pn := div_pos hp ha
  have hs00 : 0 ≤ s0 := div_nonneg hz ha.le
  set r := Real.sqrt (pn * pn + s0 * s0) with hr
  have hrpos : 0 < r := Real.sqrt_pos.2 (by positivity)
  have hr2 : r * r = pn * pn + s0 * s0 := Real.mul_self_sqrt (by positivity)
  have hs1 : sc.1 = s0 * pn * r ^ 6 := by
    simp only [sc, halley, trig_sqrt, cube, he2]
    rw [show (1 : ℝ) - 0 = 1 by ring, Real.sqrt_one]
    simp only [one_mul, ← hs0, ← hpn, ← hr]
    ring
  have hcc : sc.2 = pn * pn * r ^ 6 := by
    simp only [sc, halley, trig_sqrt, cube, he2]
    rw [show (1 : ℝ) - 0 = 1 by ring, Real.sqrt_one]
    simp only [one_mul, ← hs0, ← hpn, ← hr]
    ring
  have hpa : p = E.a * pn := by rw [hpn]; field_simp
  have hza : z = E.a * s0 := by rw [hs0]; field_simp
  clear_value r pn s0
  refine ⟨?_, ?_, ?_⟩
  · rw [hs1, hcc, hpa, hza]; ring
  · rw [hcc]; positivity
  · simp only [halleyHeight, trig_sqrt, hs1, hcc, he2]
    have h1 : (1 - 0) * (s0 * pn * r ^ 6 * (s0 * pn * r ^ 6)) + pn * pn * r ^ 6 * (pn * pn * r ^ 6) = (pn * r ^ 7) ^ 2 := by
      have : r ^ 14 = r ^ 12 * (r * r) := by ring
      calc _ = pn ^ 2 * r ^ 12 * (pn * pn + s0 * s0) := by ring
        _ = pn ^ 2 * r ^ 12 * (r * r) := by rw [hr2]
        _ = _ := by ring
    have h2 : s0 * pn * r ^ 6 * (s0 * pn * r ^ 6) + pn * pn * r ^ 6 * (pn * pn * r ^ 6) = (pn * r ^ 7) ^ 2 := by
      rw [← h1]; ring
    rw [h1, h2, Real.sqrt_sq (by positivity)]
    have hdist : Real.sqrt (p * p + z * z) = E.a * r := by
      have h3 : p * p + z * z = (E.a * r) ^ 2 := by
        rw [hpa, hza]
        calc _ = E.a ^ 2 * (pn * pn + s0 * s0) := by ring
          _ = E.a ^ 2 * (r * r) := by rw [hr2]
          _ = _ := by ring
      rw [h3]
      exact Real.sqrt_sq (by positivity)
    rw [hdist]
    have hne : pn * r ^ 7 ≠ 0 := by positivity
    rw [div_eq_iff hne]
    have h4 : p * (pn * pn * r ^ 6) + z * (s0 * pn * r ^ 6) = E.a * pn * r ^ 6 * (r * r) := by
      rw [hpa, hza, hr2]; ring
    rw [h4]; ring

/-- **the sphere: the full round trip is the identity at every height** (over the reals): for every point off the
polar axis beyond the pole-branch threshold, `llh2trs (trs2llh v) = v` -/
theorem sphere_roundtrip (E : Ellipsoid ℝ) (ha : 0 < E.a) (hf : E.fInv = none) (v : V3 ℝ)
    (hoff : ¬ v.x * v.x + v.y * v.y ≤ E.a * E.a * 1e-32) :
    llh2trs E (trs2llh E v) = v := by
  have hf0 : E.f = 0 := by simp [Ellipsoid.f, hf]
  have he2 : E.e2 = 0 := by rw [(ellipsoid_params E ha.ne').2.1, hf0]; ring
  have hp := Real.sqrt_pos.2 (off_axis_pos hoff)
  obtain ⟨h1, h2, -⟩ := halley_exact_on_sphere E ha hf _ (absOf v.z) hp (absOf_nonneg _)
  refine Acc.roundtrip_of_offset_zero E ha (by rw [hf0]; norm_num) v hoff h2 ?_
  show offsetAt E _ _ _ _ = 0
  simp only [offsetAt, he2, zero_mul, zero_div, add_zero]
  rw [show absOf v.z * _ - _ * _ = 0 by linarith only [h1], zero_div]

/-- **on the ellipsoid surface the full round trip is the identity** (over the reals, every ellipsoid with `a > 0`,
`f < 1`): for every point of the ellipsoid off the pole branch, `llh2trs (trs2llh v) = v` -/
theorem surface_roundtrip (E : Ellipsoid ℝ) (ha : 0 < E.a) (hf1 : E.f < 1) (v : V3 ℝ)
    (hon : (v.x * v.x + v.y * v.y) / (E.a * E.a) + (v.z * v.z) / (E.b * E.b) = 1)
    (hoff : ¬ v.x * v.x + v.y * v.y ≤ E.a * E.a * 1e-32) :
    llh2trs E (trs2llh E v) = v :=
  Geo.surface_roundtrip E ha hf1 v hon hoff

/-- the registered table does contain such an ellipsoid (the hypotheses are satisfiable on the regenerated data) -/
example : ∃ e ∈ Midgard.Generated.Ellipsoids.table, e.2.fInv = none ∧ 0 < e.2.a := by decide +kernel

end Surface

/-! ## every height: sign of the latitude, longitude, special sets, and the round-trip error in closed form

`Acc.Mild E` is `a > 0 ∧ 0 ≤ f ≤ 1/3` (met by the rational parameters of all registered ellipsoids, `registered_ellipsoids_mild`);
the hypothesis `hdeep` excludes only the ball of radius `e²(1−f)a` (≈ 43 km for the Earth, 0 for the sphere) around the centre,
where the published one-step scheme is singular. -/

section EveryHeight
open Midgard.Geo.Acc

/-- every registered ellipsoid satisfies the hypotheses of this section (exact rationals of the regenerated table) -/
theorem registered_ellipsoids_mild :
    ∀ r ∈ Midgard.Generated.Ellipsoids.table, 0 < r.2.a ∧ 0 ≤ r.2.f ∧ r.2.f ≤ 1 / 3 := by
  decide +kernel

/-- numerator and denominator of the one-step latitude are positive at every height -/
theorem halley_positive (E : Ellipsoid ℝ) (hE : Mild E) (p z : ℝ) (hp : 0 < p) (hz : 0 ≤ z)
    (hdeep : (E.e2 * (1 - E.f) * E.a) ^ 2 < (1 - E.f) ^ 2 * (p * p) + z * z) :
    0 < (halley E p z).2 ∧ 0 ≤ (halley E p z).1 ∧ (0 < z → 0 < (halley E p z).1) :=
  halley_pos E hE p z hp hz hdeep

/-- **southern / northern hemisphere and equator are exact in sign at every height**: the latitude returned by
`trs2llh` is positive for `z > 0`, negative for `z < 0`, exactly `0` for `z = 0`, and within `[−π/2, π/2]` — pole
branch and Halley branch alike -/
theorem lat_sign_every_height (E : Ellipsoid ℝ) (hE : Mild E) (v : V3 ℝ)
    (hdeep : (E.e2 * (1 - E.f) * E.a) ^ 2 < (1 - E.f) ^ 2 * (v.x * v.x + v.y * v.y) + v.z * v.z) :
    (0 < v.z → 0 < (trs2llh E v).lat ∧ (trs2llh E v).lat ≤ Real.pi / 2) ∧
    (v.z < 0 → (trs2llh E v).lat < 0 ∧ -(Real.pi / 2) ≤ (trs2llh E v).lat) ∧
    (v.z = 0 → (trs2llh E v).lat = 0) :=
  trs2llh_lat_sign E hE v hdeep

theorem equator_exact (E : Ellipsoid ℝ) (hE : Mild E) (x y : ℝ)
    (hoff : ¬ x * x + y * y ≤ E.a * E.a * 1e-32)
    (hdeep : (E.e2 * (1 - E.f) * E.a) ^ 2 < (1 - E.f) ^ 2 * (x * x + y * y)) :
    (trs2llh E ⟨x, y, 0⟩).lat = 0 ∧ (trs2llh E ⟨x, y, 0⟩).h = Real.sqrt (x * x + y * y) - E.a :=
  trs2llh_equator E hE x y hoff hdeep

theorem meridian180_exact (E : Ellipsoid ℝ) (x z : ℝ) (hx : x < 0) (v : V3 ℝ) :
    (trs2llh E ⟨x, 0, z⟩).lon = Real.pi ∧ -Real.pi < (trs2llh E v).lon ∧ (trs2llh E v).lon ≤ Real.pi :=
  ⟨trs2llh_meridian180 E x z hx, trs2llh_lon_range E v⟩

theorem roundtrip_lon_exact (E : Ellipsoid ℝ) (ha : 0 < E.a) (hf0 : 0 ≤ E.f) (hf1 : E.f < 1) (g : LLH ℝ)
    (hlon : g.lon ∈ Set.Ioc (-Real.pi) Real.pi) (hcos : 0 < Real.cos g.lat) (hh : -E.a < g.h) :
    (trs2llh E (llh2trs E g)).lon = g.lon :=
  roundtrip_lon E ha hf0 hf1 g hlon hcos hh

/-- The round-trip error of the one-step scheme *in closed form* —
`llh2trs (trs2llh v) − v` is the vector `(x·k, y·k, −c)` whose length is exactly `|R|`,
`R = tangentialOffset E p z = (z·cc − p·s1)/D + e²·a·s1·cc/(D·W)` with `(s1, cc) = halley E p z`, `D = √(s1²+cc²)`,
`W = √((1−e²)s1²+cc²)`: the longitude and the height formula contribute no error at all, the whole error is the
tangential offset caused by the latitude error of the single Halley step. -/
theorem roundtrip_error_closed_form (E : Ellipsoid ℝ) (hE : Mild E) (v : V3 ℝ)
    (hoff : ¬ v.x * v.x + v.y * v.y ≤ E.a * E.a * 1e-32) (hz : 0 < v.z)
    (hdeep : (E.e2 * (1 - E.f) * E.a) ^ 2 < (1 - E.f) ^ 2 * (v.x * v.x + v.y * v.y) + v.z * v.z) :
    ∃ k : ℝ, ∃ c : ℝ,
      llh2trs E (trs2llh E v) = ⟨v.x * (1 + k), v.y * (1 + k), v.z - c⟩ ∧
      (v.x * k) ^ 2 + (v.y * k) ^ 2 + c ^ 2 = (tangentialOffset E (Real.sqrt (v.x * v.x + v.y * v.y)) v.z) ^ 2 :=
  roundtrip_residual E hE v hoff hz hdeep

/-- the southern half space (`z < 0`): the mirror image of `roundtrip_error_closed_form` — same `R` (evaluated at `|z| = −z`),
`z` component `v.z + c` -/
theorem roundtrip_error_south (E : Ellipsoid ℝ) (hE : Mild E) (v : V3 ℝ)
    (hoff : ¬ v.x * v.x + v.y * v.y ≤ E.a * E.a * 1e-32) (hz : v.z < 0)
    (hdeep : (E.e2 * (1 - E.f) * E.a) ^ 2 < (1 - E.f) ^ 2 * (v.x * v.x + v.y * v.y) + v.z * v.z) :
    ∃ k : ℝ, ∃ c : ℝ,
      llh2trs E (trs2llh E v) = ⟨v.x * (1 + k), v.y * (1 + k), v.z + c⟩ ∧
      (v.x * k) ^ 2 + (v.y * k) ^ 2 + c ^ 2 = (tangentialOffset E (Real.sqrt (v.x * v.x + v.y * v.y)) (-v.z)) ^ 2 :=
  roundtrip_residual_south E hE v hoff hz hdeep

theorem equator_roundtrip_exact (E : Ellipsoid ℝ) (hE : Mild E) (x y : ℝ)
    (hoff : ¬ x * x + y * y ≤ E.a * E.a * 1e-32)
    (hdeep : (E.e2 * (1 - E.f) * E.a) ^ 2 < (1 - E.f) ^ 2 * (x * x + y * y)) :
    llh2trs E (trs2llh E ⟨x, y, 0⟩) = ⟨x, y, 0⟩ :=
  equator_roundtrip E hE x y hoff hdeep

/-- `tangentialOffset` is the model function the driver executes (`c05 f toffset`), at `ℝ` -/
theorem tangentialOffset_is_model (E : Ellipsoid ℝ) (p z : ℝ) :
    tangentialOffset E p z = offsetAt E p z (halley E p z).1 (halley E p z).2 := rfl

/-- **at the exact geodetic latitude the tangential offset vanishes** (one direction: no theorem says that a zero of the offset is
the exact latitude) -/
theorem offset_zero_at_true_latitude (E : Ellipsoid ℝ) (he0 : 0 ≤ E.e2) (he1 : E.e2 < 1) (s c h k : ℝ)
    (hsc : s ^ 2 + c ^ 2 = 1) (hk : 0 < k) :
    let N := E.a / Real.sqrt (1 - E.e2 * s ^ 2)
    offsetAt E ((N + h) * c) ((N * (1 - E.e2) + h) * s) (k * s) (k * c) = 0 :=
  offsetAt_true_latitude E he0 he1 s c h k hsc hk

/-- The start value `T₀ = s0/c0` of the scheme at the point with geodetic `(φ, h)` differs from the exact tangent of the reduced
latitude by exactly `e²·h·tan φ / (q·(N + h))`.  The statement is an identity of real numbers: `((N q² + h)s/a) / (q·((N + h)c/a))` is
`s0/c0` of `halley` (Model/Geodetic.lean) at `p = (N + h)c`, `z = (N q² + h)s`, `q = ec`; this identification is by reading, no theorem
states it. -/
theorem start_value_error_exact (a q N h s c : ℝ) (ha : a ≠ 0) (hq : q ≠ 0) (hc : c ≠ 0) (hNh : N + h ≠ 0) :
    ((N * q ^ 2 + h) * s / a) / (q * ((N + h) * c / a)) - q * (s / c) = (1 - q ^ 2) * h * s / (q * (N + h) * c) :=
  start_value_error a q N h s c ha hq hc hNh

/-- The Halley / third-order property, explicit (`e²` is `E.e2` here; in the identities and bounds of `Proofs/Geo{Cofactors,ThirdOrder,OffsetCore,Bound,Near,Far}.lean` the letter `e` stands for it, `e = 1 − q²`).  With `P = p/a`, `S = |z|/a`, `q = √(1−e²)`,
`A = √(q²P² + S²)` (`A = q` exactly on the ellipsoid), `(s1, cc) = halley E p z`, `M = P·s1 − S·cc`, `W² = q²s1² + cc²`:
`(e²·s1·cc)² − M²·W² = −e¹⁰·P⁸·S⁴·(A − q)³·HH A P q/16` with an explicit polynomial `HH` (`Proofs/GeoCofactors.lean`,
cofactors found with sympy; the identity is checked by `ring` in `Proofs/GeoThirdOrder.lean`).  Since `R·D·W·(e²·s1·cc + M·W) = a·((e²·s1·cc)² − M²·W²)`
(definition of `tangentialOffset`, `W = √(…)`), the round-trip error `|R|` carries the factor `e¹⁰·(A − q)³`: it vanishes
to third order in the height-like quantity `A − q` and to high order in the eccentricity. -/
theorem halley_third_order (E : Ellipsoid ℝ) (he1 : E.e2 ≤ 1) (p z : ℝ) :
    let q := Real.sqrt (1 - E.e2)
    let P := p / E.a
    let S := z / E.a
    let A := Real.sqrt (q * P * (q * P) + S * S)
    let sc := halley E p z
    (E.e2 * sc.1 * sc.2) ^ 2 - (P * sc.1 - S * sc.2) ^ 2 * (q ^ 2 * (sc.1 * sc.1) + sc.2 * sc.2)
      = -(E.e2 ^ 5 * P ^ 8 * (S * S) ^ 2 * (A - q) ^ 3 * HH A P q / 16) := by
  intro q P S A sc
  obtain ⟨hAA, hE, hs1, hcc⟩ := Acc.halley_normalised E he1 p z
  have hM : P * sc.1 - S * sc.2 = (1 - q ^ 2) * P ^ 2 * S * K0 A P q / 2 := by
    rw [hs1, hcc]; exact M_as_cofactor q P S A
  have := third_order q P S A sc.1 sc.2 hAA hs1 hcc hM
  rw [← hE] at this
  exact this

/-- the rational parameters of every registered ellipsoid are inside the parameter range of `near_surface_accuracy` -/
theorem registered_ellipsoids_in_range :
    ∀ r ∈ Midgard.Generated.Ellipsoids.table,
      6371000 ≤ r.2.a ∧ r.2.a ≤ 6378140 ∧ 0 ≤ r.2.e2 ∧ r.2.e2 ≤ 67 / 10000 := by
  decide +kernel

/-- **the accuracy clause near the surface**: for every ellipsoid with `6 371 000 ≤ a ≤ 6 378 140 m` and
`0 ≤ e² ≤ 0.0067` (the range of the registered table: `registered_ellipsoids_in_range`), every geodetic latitude with
`s = sin φ ≥ 0`, `c = cos φ > 0` and every height `|h| ≤ 100 km`, the tangential offset `R` of the one-step algorithm at
the point `p = (N + h)c`, `z = (N(1 − e²) + h)s` is below `1e-6 m`.  What `R` measures is said by `roundtrip_error_closed_form`
(for `v` with `Mild E`, off the pole branch and the deep core, `|R|` at `(√(x² + y²), z)` is the distance between
`llh2trs (trs2llh v)` and `v`; southern hemisphere: `roundtrip_error_south`); this theorem and that one are not composed.
Exact real arithmetic; IEEE rounding stays measured.  The far clause is `far_field_accuracy`. -/
theorem near_surface_accuracy (E : Ellipsoid ℝ) (ha : 6371000 ≤ E.a) (ha' : E.a ≤ 6378140) (he0 : 0 ≤ E.e2)
    (he : E.e2 ≤ 0.0067) (s c h : ℝ) (hsc : s ^ 2 + c ^ 2 = 1) (hc : 0 < c) (hs : 0 ≤ s) (hh : |h| ≤ 100000) :
    |tangentialOffset E ((E.a / Real.sqrt (1 - E.e2 * s ^ 2) + h) * c)
        ((E.a / Real.sqrt (1 - E.e2 * s ^ 2) * (1 - E.e2) + h) * s)| < 1e-6 :=
  tangentialOffset_within_100km E ha ha' he0 he s c h hsc hc hs hh

/-- the same in the scheme's own normalised quantities: `|A − q| ≤ 0.0162` (`A = √(q²(p/a)² + (z/a)²)`, `q = √(1 − e²)`) -/
theorem near_surface_accuracy_box (E : Ellipsoid ℝ) (ha : 0 < E.a) (ha' : E.a ≤ 6378140) (he0 : 0 ≤ E.e2) (he : E.e2 ≤ 0.0067)
    (p z : ℝ) (hp : 0 < p) (hz : 0 ≤ z)
    (hnear : |Real.sqrt (Real.sqrt (1 - E.e2) * (p / E.a) * (Real.sqrt (1 - E.e2) * (p / E.a)) + z / E.a * (z / E.a))
              - Real.sqrt (1 - E.e2)| ≤ 0.0162) :
    |tangentialOffset E p z| < 1e-6 :=
  tangentialOffset_near E ha ha' he0 he p z hp hz hnear

/-- **the accuracy clause far from the surface**: for every ellipsoid with `6 371 000 ≤ a ≤ 6 378 140 m`,
`0 ≤ e² ≤ 0.0067` (the range of the registered table), every latitude with `s = sin φ ≥ 0`, `c = cos φ > 0` and every height
`0 ≤ h ≤ 50 000 km` the tangential offset `R` at the point of geodetic `(φ, h)` (what it measures: see `near_surface_accuracy`) is
below `2 mm`.  (Heights `−100 km ≤ h < 0` are in `near_surface_accuracy` only.)
Chain: third-order identity → `offset_core2` (Cauchy–Schwarz lower bound of `D·W`) → cofactor bounds in the scaled
variables `x = 1/A`, `t = P/A` on two altitude boxes (`A ∈ [1.0128, 4]`, `[4, 8.86]`) → a one-dimensional inequality in
`t` on 10 + 18 sub-intervals (Proofs/GeoFar*.lean); for `q ≤ A ≤ q + 0.0162` the near bound is used (`Acc.tangentialOffset_above`).  The corner sums of the monomial tables of the cofactor remainders
and the table of sub-intervals (the decidable `CellsOk`) are checked by kernel evaluation of rational arithmetic
(`decide +kernel`); the tables were computed with sympy. -/
theorem far_field_accuracy (E : Ellipsoid ℝ) (ha : 6371000 ≤ E.a) (ha' : E.a ≤ 6378140) (he0 : 0 ≤ E.e2)
    (he : E.e2 ≤ 0.0067) (s c h : ℝ) (hsc : s ^ 2 + c ^ 2 = 1) (hc : 0 < c) (hs : 0 ≤ s) (hh0 : 0 ≤ h) (hh1 : h ≤ 50000000) :
    |tangentialOffset E ((E.a / Real.sqrt (1 - E.e2 * s ^ 2) + h) * c)
        ((E.a / Real.sqrt (1 - E.e2 * s ^ 2) * (1 - E.e2) + h) * s)| < 2e-3 :=
  tangentialOffset_nonneg_height E ha ha' he0 he s c h hsc hc hs hh0 hh1

/-- the same in the scheme's normalised quantities: `1.0128 ≤ A ≤ 8.86` -/
theorem far_field_accuracy_box (E : Ellipsoid ℝ) (ha : 0 < E.a) (ha' : E.a ≤ 6378140) (he0 : 0 ≤ E.e2) (he : E.e2 ≤ 0.0067)
    (p z : ℝ) (hp : 0 < p) (hz : 0 ≤ z)
    (hAlo : 1.0128 ≤ Real.sqrt (Real.sqrt (1 - E.e2) * (p / E.a) * (Real.sqrt (1 - E.e2) * (p / E.a)) + z / E.a * (z / E.a)))
    (hAhi : Real.sqrt (Real.sqrt (1 - E.e2) * (p / E.a) * (Real.sqrt (1 - E.e2) * (p / E.a)) + z / E.a * (z / E.a)) ≤ 8.86) :
    |tangentialOffset E p z| < 2e-3 :=
  tangentialOffset_far E ha ha' he0 he p z hp hz hAlo hAhi

/-- a latitude and a height that meet the two non-trivial hypotheses on `s`, `c`, `h` of `near_surface_accuracy` (`s = 3/5`, `c = 4/5`,
`h = 50 km`; the ellipsoid hypotheses are met by the rational parameters of every registered ellipsoid,
`registered_ellipsoids_in_range`) -/
example : ((3:ℝ) / 5) ^ 2 + (4 / 5) ^ 2 = 1 ∧ |(50000 : ℝ)| ≤ 100000 := by
  constructor
  · norm_num
  · rw [abs_of_pos (by norm_num)]; norm_num

/-- the hypotheses are satisfiable: the unit sphere, the point (1, 0, 1) -/
example : Mild (⟨1, none⟩ : Ellipsoid ℝ) ∧
    ((⟨1, none⟩ : Ellipsoid ℝ).e2 * (1 - (⟨1, none⟩ : Ellipsoid ℝ).f) * 1) ^ 2
      < (1 - (⟨1, none⟩ : Ellipsoid ℝ).f) ^ 2 * ((1:ℝ) * 1 + 0 * 0) + 1 * 1 := by
  refine ⟨⟨by norm_num, by simp [Ellipsoid.f], by simp [Ellipsoid.f]⟩, ?_⟩
  simp [Ellipsoid.e2, Ellipsoid.b, Ellipsoid.f]

end EveryHeight

section Flow

/-- **ell_flow**: if every constructor call forwards the ellipsoid, every operation sequence keeps
the ellipsoid the position was created with -/
theorem ell_flow (tbl : List Site) (h : ∀ s ∈ tbl, s.fwd = Fwd.keep) :
    ∀ (ops : List Op) (p : PosTag), (run tbl p ops).ell = p.ell := by
  intro ops
  induction ops with
  | nil => intro p; rfl
  | cons o os ih =>
    intro p
    simp only [run]
    rw [ih (step tbl p o), step_keeps tbl h p o]

/-- the hypothesis of `ell_flow`, decided on the table regenerated from `_position.py` on every
run: every constructor call of a position object inside `PositionArray` / `PosVelArray` forwards
`ellipsoid`, and `__array_finalize__` copies it -/
theorem sites_forward :
    (∀ s ∈ Midgard.Generated.EllipsoidFlow.sites, s.fwd = Fwd.keep) ∧
    Midgard.Generated.EllipsoidFlow.finalizeCopies = true := by
  decide +kernel

/-- the table is not vacuous: every operation of the machine resolves to at least one extracted
constructor call on each class it applies to -/
theorem sites_cover_ops :
    ∀ c ∈ [PCls.position, PCls.posvel],
    ∀ o ∈ [Op.convert, Op.sliceRow, Op.subset, Op.addDelta, Op.deepcopy, Op.posOf, Op.emptyFrom, Op.insert],
      o.applies c = true →
      ∀ m ∈ o.method, (resolve Midgard.Generated.EllipsoidFlow.sites c m).isEmpty = false := by
  decide +kernel

/-- the property's second half for midgard as it is: through every conversion, slice, subset,
arithmetic result and copy a position keeps the ellipsoid it was created with -/
theorem ell_flow_midgard (ops : List Op) (p : PosTag) :
    (run Midgard.Generated.EllipsoidFlow.sites p ops).ell = p.ell ∧
    ∀ e ∈ convertedOn Midgard.Generated.EllipsoidFlow.sites p ops, e = p.ell :=
  ⟨ell_flow _ sites_forward.1 ops p, conversions_on_creation_ellipsoid _ sites_forward.1 ops p⟩

end Flow

/-! ## arithmetic: which operand a sum / difference takes its ellipsoid from

`Generated/EllipsoidArith.lean` is the `isinstance` chain of every binary operator of the four position classes and
the factories they call, read off `_position.py` on every run (`translator/extract_c05.py`); `binop` evaluates an
operation over those tables with Python's operator protocol.  `arith_spec`: for operands of one family the result is
what the property asks — a position result is on the ellipsoid of the *position operand* in every operand order,
whatever ellipsoid the difference's `ref_pos` lives on. -/

section Arith
open Midgard.Generated.EllipsoidArith

theorem arith_spec (plus : Bool) (l r : Operand) :
    wellTyped l r = true → binop branches factories plus true l r = specBinop plus l r :=
  arith_table plus true l r

theorem arith_other_system (plus : Bool) (l r : Operand) :
    wellTyped l r = true → binop branches factories plus false l r = .typeError :=
  arith_table plus false l r

/-- `pos ± delta` is a position on the ellipsoid of `pos`, wherever the difference's `ref_pos` lives -/
theorem pos_pm_delta (plus : Bool) (p : PosPart) (c : ACls) (ref : PosPart)
    (h : wellTyped (.pos p) (.delta c ref) = true) :
    binop branches factories plus true (.pos p) (.delta c ref) = .value (.pos p) (.lr plus) := by
  rw [arith_spec _ _ _ h]; rfl

/-- `delta ± pos` (the difference on the *left*) is a position on the ellipsoid of `pos` -/
theorem delta_pm_pos (plus : Bool) (p : PosPart) (c : ACls) (ref : PosPart)
    (h : wellTyped (.delta c ref) (.pos p) = true) :
    binop branches factories plus true (.delta c ref) (.pos p) = .value (.pos p) (.lr plus) := by
  rw [arith_spec _ _ _ h]; rfl

/-- `pos − pos` is a difference whose `ref_pos` is the left position (with its ellipsoid); `pos + pos` is a TypeError -/
theorem pos_minus_pos (p q : PosPart) (h : wellTyped (.pos p) (.pos q) = true) :
    binop branches factories false true (.pos p) (.pos q) = .value (.delta p.cls.deltaOf p) (.lr false) ∧
    binop branches factories true true (.pos p) (.pos q) = .typeError := by
  rw [arith_spec _ _ _ h, arith_spec _ _ _ h]; exact ⟨rfl, rfl⟩

/-- `delta ± delta` refers to what the left difference referred to -/
theorem delta_pm_delta (plus : Bool) (c d : ACls) (ref ref' : PosPart)
    (h : wellTyped (.delta c ref) (.delta d ref') = true) :
    binop branches factories plus true (.delta c ref) (.delta d ref') = .value (.delta d ref) (.lr plus) := by
  rw [arith_spec _ _ _ h]; rfl

/-- **every history keeps the ellipsoid**, for midgard as it is (tables regenerated from `_position.py`): through every sequence of
conversions / slices / subsets / copies, sums and differences with differences that refer to positions on arbitrary other ellipsoids
(standing on either side), item assignments and explicit re-tags `pos.ellipsoid = E'`, a position is on the ellipsoid it was created
with or that was assigned last, and no step of such a history fails -/
theorem history_keeps_ellipsoid_midgard (ops : List HOp) (p : PosTag) :
    ∃ q, hrun Midgard.Generated.EllipsoidFlow.sites branches factories p ops = some q ∧ q.ell = tagAfter p.ell ops :=
  history_keeps_ellipsoid _ sites_forward.1 ops p

/-- `PosBase.__setattr__` / `__setitem__` drop the cached conversions on every attribute / item assignment (read off the
source on every run) -/
theorem assignments_clear_cache : setattrClearsCache = true ∧ setitemClearsCache = true := by decide

/-- **no conversion is answered from a stale cache**: with the invalidation above, in every history every conversion is
answered on the ellipsoid the object carries at that moment (created with, or assigned last) and from its current values —
also for *convert, re-tag, convert again* and *convert, write into the position, convert again* -/
theorem answers_current (sites : List Site) :
    ∀ (ops : List HOp) (p : PosTag),
      ∀ a ∈ hanswered sites branches factories setattrClearsCache setitemClearsCache p none ops, a.on = a.tag ∧ a.current = true := by
  rw [assignments_clear_cache.1, assignments_clear_cache.2]
  intro ops
  induction ops with
  | nil => intro p a ha; simp [hanswered] at ha
  | cons o os ih =>
    intro p a ha
    unfold hanswered at ha
    cases hst : hstep sites branches factories p o with
    | none => simp [hst] at ha
    | some p' =>
      simp only [hst] at ha
      cases o with
      | un u =>
        cases u <;> simp only [List.mem_cons] at ha <;>
          first
            | exact ih p' a ha
            | (rcases ha with rfl | ha
               · exact ⟨rfl, rfl⟩
               · exact ih p' a ha)
      | withDelta _ _ _ => exact ih p' a ha
      | retag _ => simpa using ih p' a (by simpa using ha)
      | poke => simpa using ih p' a (by simpa using ha)

/-- the constructor calls *outside* `_position.py` (fieldtypes `_prepend_empty` / `_append_empty`, dataset, math — table
regenerated on every run): none builds a position from a position without forwarding `ellipsoid`, and the fieldtype
sites are there (the table is not vacuous) -/
theorem external_sites_forward :
    (∀ s ∈ externalSites, s.2.2 = ExtFwd.keep ∨ s.2.2 = ExtFwd.fresh) ∧
    (externalSites.filter (fun s => s.2.2 == ExtFwd.keep)).length ≥ 4 := by
  decide +kernel

/-- `x += d`, `x -= d` are `x + d`, `x - d` (PosBase) -/
theorem inplace_delegates : inplaceDelegates = true := by decide

/-- the hypotheses are satisfiable: a position on ellipsoid 1 and a difference that refers to a position on ellipsoid 6 -/
example : wellTyped (.pos ⟨.position, some 1⟩) (.delta .posDelta ⟨.position, some 6⟩) = true ∧
    binop branches factories true true (.delta .posDelta ⟨.position, some 6⟩) (.pos ⟨.position, some 1⟩)
      = .value (.pos ⟨.position, some 1⟩) (.lr true) := by decide

end Arith

/-! ## The model is the source (regenerated on every run)

`Generated/SourceExprs.lean` is written by `translator/extract_exprs.py` from the Python `ast` of the tree under test: the arithmetic of the
functions named below, statement by statement.  The theorems of this section say that the hand-written model definitions are, over the reals,
*equal* to those regenerated definitions (composed with the hand-modelled branch selection where the source has control flow); what the tie
tactic accepts as equal: Proofs/SourceTie.lean, SrcTieCore.lean. -/
section Source
open Midgard.Generated
-- `src_tie` tries `rfl` first and falls back to unfold-and-compare: where `rfl` closes the goal the linters would flag the
-- fallback as unused
set_option linter.unusedTactic false
set_option linter.unreachableTactic false
set_option linter.unusedSimpArgs false
set_option linter.unnecessarySeqFocus false

theorem source_ellipsoid_parameters (E : Ellipsoid ℝ) :
    Src.ellBsrc E.a E.f = E.b ∧ Src.ellE2src E.a E.b = E.e2 ∧ Src.ellEpsSrc E.e2 = E.eps := by
  refine ⟨?_, ?_, ?_⟩ <;> src_tie [Src.ellBsrc, Src.ellE2src, Src.ellEpsSrc, Ellipsoid.b, Ellipsoid.e2, Ellipsoid.eps]
theorem source_llh2trs (E : Ellipsoid ℝ) (cl sl co so h : ℝ) :
    llh2trsCS E cl sl co so h =
      (let t := Src.llh2trsSrc E.a E.f cl sl co so h; (⟨t.1, t.2.1, t.2.2⟩ : V3 ℝ)) := by
  src_tie [Src.llh2trsSrc, llh2trsCS]
theorem source_trs2llh (E : Ellipsoid ℝ) (v : V3 ℝ) :
    trs2llh E v =
      (let p2 := Src.p2Src v.x v.y
       let absz := absOf v.z
       let lh : ℝ × ℝ :=
         if Src.poleTestSrc E.a p2 = true then (Trig.pi / (1 + 1), absz - E.b)
         else
           let p := Trig.sqrt p2
           let sc := Src.halleySrc E.a E.e2 p absz
           (Src.halleyLatSrc sc.1 sc.2, Src.halleyHeightSrc E.a E.e2 p absz sc.1 sc.2)
       (⟨lh.1 * signOf v.z, Src.lonSrc v.x v.y, lh.2⟩ : LLH ℝ)) := by
  have hs : ∀ p z : ℝ, Src.halleySrc E.a E.e2 p z = halley E p z := by
    intro p z; src_tie [Src.halleySrc, halley]
  have hh : ∀ p z s1 cc : ℝ, Src.halleyHeightSrc E.a E.e2 p z s1 cc = halleyHeight E p z s1 cc := by
    intro p z s1 cc; src_tie [Src.halleyHeightSrc, halleyHeight]
  have hl : ∀ s1 cc : ℝ, Src.halleyLatSrc s1 cc = Trig.atan (s1 / cc) := by
    intro s1 cc; src_tie [Src.halleyLatSrc]
  have hp : ∀ x y : ℝ, Src.p2Src x y = x * x + y * y := by
    intro x y; src_tie [Src.p2Src]
  have ho : ∀ x y : ℝ, Src.lonSrc x y = Trig.atan2 y x := by
    intro x y; src_tie [Src.lonSrc]
  have ht : ∀ p2 : ℝ, (Src.poleTestSrc E.a p2 = true) ↔ p2 ≤ E.a * E.a * 1e-32 := by
    intro p2
    first
      | (simp only [Src.poleTestSrc, decide_eq_true_eq])
      | (simp only [Src.poleTestSrc, decide_eq_true_eq]; constructor <;> intro h <;> (first | linarith | nlinarith))
  simp only [hs, hh, hl, hp, ho]
  unfold trs2llh latHeightOf
  by_cases h : v.x * v.x + v.y * v.y ≤ E.a * E.a * 1e-32
  · simp [h, (ht _).2 h]
  · have h' : ¬ (Src.poleTestSrc E.a (v.x * v.x + v.y * v.y) = true) := fun c => h ((ht _).1 c)
    simp [h, h']

/-! ## the selection between pole branch and Halley branch is the source's

`Generated/TrsSelect.lean`: the statements of `_trs2llh` that store into `lat` / `height` (boolean-mask assignments for
arrays, `if pole_idx … else …` for a single position, then `lat *= np.sign(z)`), read off the `ast` on every run by
`translator/extract_c05.py`.  `trs2llhVia prog` runs them per row (the driver does, for the shape at hand); both
programs give the hand-written `trs2llh`, no statement is outside the extractor's fragment, the result columns are
`(lat, lon, height)`. -/
theorem source_branch_selection (E : Ellipsoid ℝ) (v : V3 ℝ) :
    trs2llhVia Midgard.Generated.TrsSelect.prog2d E v = trs2llh E v ∧ trs2llhVia Midgard.Generated.TrsSelect.prog1d E v = trs2llh E v ∧
    selKnown Midgard.Generated.TrsSelect.prog2d = true ∧ selKnown Midgard.Generated.TrsSelect.prog1d = true ∧
    Midgard.Generated.TrsSelect.stackOrder = ["lat", "lon", "height"] ∧ Midgard.Generated.TrsSelect.piIsPi = true := by
  refine ⟨?_, ?_, by decide, by decide, by decide, by decide⟩ <;>
  · unfold trs2llhVia trs2llh latHeightOf
    by_cases h : v.x * v.x + v.y * v.y ≤ E.a * E.a * 1e-32
    · simp [h, runSel, Midgard.Generated.TrsSelect.prog2d, Midgard.Generated.TrsSelect.prog1d, SelMask.holds]
    · simp [h, runSel, Midgard.Generated.TrsSelect.prog2d, Midgard.Generated.TrsSelect.prog1d, SelMask.holds]

/-! ## rules regenerated from the source: the wrappers' ellipsoid argument, `empty_from` of the difference classes -/

/-- **the explicit `ellipsoid=` argument decides** in the public wrappers `transformation.trs2llh` / `llh2trs` (rule
regenerated from their source): given, it is used whatever the array argument carries; not given, the ellipsoid carried
by a position argument is used; for a plain array the default (GRS80); and the kernel is called with the resolved one -/
theorem explicit_ellipsoid_decides :
    (∀ order ∈ [Midgard.Generated.TrsSelect.resolveTrs2llh, Midgard.Generated.TrsSelect.resolveLlh2trs],
      (∀ e c, resolveEllipsoid order (some e) c = some e) ∧
      (∀ c, resolveEllipsoid order none (some c) = some c) ∧
      resolveEllipsoid order none none = some defaultEll) ∧
    Midgard.Generated.TrsSelect.kernelGetsResolved = true := by
  refine ⟨?_, by decide⟩
  intro order ho
  simp only [List.mem_cons, List.mem_nil_iff, or_false] at ho
  rcases ho with rfl | rfl <;> exact ⟨fun _ _ => rfl, fun _ => rfl, rfl⟩

/-- `empty_from` of the difference classes takes the ellipsoid of `other.ref_pos` (regenerated table, not empty) -/
theorem delta_empty_from_forwards :
    (∀ s ∈ Midgard.Generated.EllipsoidArith.deltaEmptyFrom, s.2 = ExtFwd.keep) ∧ Midgard.Generated.EllipsoidArith.deltaEmptyFrom ≠ [] := by decide

end Source

end Midgard.Props.C05

#print axioms Midgard.Props.C05.ellipsoid_params
#print axioms Midgard.Props.C05.flattening
#print axioms Midgard.Props.C05.sphere_f_zero
#print axioms Midgard.Props.C05.registered_ellipsoids_wellformed
#print axioms Midgard.Props.C05.llh2trs_normal
#print axioms Midgard.Props.C05.foot_on_ellipsoid
#print axioms Midgard.Props.C05.normal_parallel_gradient
#print axioms Midgard.Props.C05.trs2llh_lon
#print axioms Midgard.Props.C05.trs2llh_rot_z
#print axioms Midgard.Props.C05.trs2llh_reflect_z
#print axioms Midgard.Props.C05.trs2llh_pole
#print axioms Midgard.Props.C05.pole_roundtrip
#print axioms Midgard.Props.C05.halley_exact_on_sphere
#print axioms Midgard.Props.C05.sphere_roundtrip
#print axioms Midgard.Props.C05.surface_roundtrip
#print axioms Midgard.Props.C05.registered_ellipsoids_mild
#print axioms Midgard.Props.C05.halley_positive
#print axioms Midgard.Props.C05.lat_sign_every_height
#print axioms Midgard.Props.C05.equator_exact
#print axioms Midgard.Props.C05.meridian180_exact
#print axioms Midgard.Props.C05.roundtrip_lon_exact
#print axioms Midgard.Props.C05.roundtrip_error_closed_form
#print axioms Midgard.Props.C05.roundtrip_error_south
#print axioms Midgard.Props.C05.equator_roundtrip_exact
#print axioms Midgard.Props.C05.tangentialOffset_is_model
#print axioms Midgard.Props.C05.offset_zero_at_true_latitude
#print axioms Midgard.Props.C05.start_value_error_exact
#print axioms Midgard.Props.C05.halley_third_order
#print axioms Midgard.Props.C05.registered_ellipsoids_in_range
#print axioms Midgard.Props.C05.near_surface_accuracy
#print axioms Midgard.Props.C05.near_surface_accuracy_box
#print axioms Midgard.Props.C05.far_field_accuracy
#print axioms Midgard.Props.C05.far_field_accuracy_box
#print axioms Midgard.Props.C05.ell_flow
#print axioms Midgard.Props.C05.sites_forward
#print axioms Midgard.Props.C05.sites_cover_ops
#print axioms Midgard.Props.C05.ell_flow_midgard
#print axioms Midgard.Props.C05.arith_spec
#print axioms Midgard.Props.C05.arith_other_system
#print axioms Midgard.Props.C05.pos_pm_delta
#print axioms Midgard.Props.C05.delta_pm_pos
#print axioms Midgard.Props.C05.pos_minus_pos
#print axioms Midgard.Props.C05.delta_pm_delta
#print axioms Midgard.Props.C05.history_keeps_ellipsoid_midgard
#print axioms Midgard.Props.C05.assignments_clear_cache
#print axioms Midgard.Props.C05.answers_current
#print axioms Midgard.Props.C05.external_sites_forward
#print axioms Midgard.Props.C05.inplace_delegates
#print axioms Midgard.Props.C05.source_ellipsoid_parameters
#print axioms Midgard.Props.C05.source_llh2trs
#print axioms Midgard.Props.C05.source_trs2llh
#print axioms Midgard.Props.C05.source_branch_selection
#print axioms Midgard.Props.C05.explicit_ellipsoid_decides
#print axioms Midgard.Props.C05.delta_empty_from_forwards
