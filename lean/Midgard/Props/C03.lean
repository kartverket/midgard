/-
C03 — Time and time-difference arithmetic obeys the affine laws.

The affine laws and the format laws are exact identities over `Rat` about `Model/TimeArith.lean`; the array, heap and
operator-dispatch theorems are about `Model/TimeArrays.lean`.  The rounding-error budget is proved for every rounding
with relative error ≤ u per operation (`result_normalised`, `one_op_error`, `laws_rounded`, `error_budget`); that
NumPy's `+`/`-` on doubles is such a rounding is not proved: the implementation's error is measured by the
correspondence run (harness/c03.py).  The file also holds the definitions its statements need (`resOf`, `srcBinop`).
-/
import Midgard.Generated.SourceExprsTime
import Midgard.Model.TimePurityFlag
import Midgard.Proofs.TimeArrays
import Midgard.Proofs.TimeFloat
import Midgard.Proofs.TimeRound
import Midgard.Proofs.SrcTieCore

namespace Midgard.Props.C03
open Midgard.TimeArith

/-! ### The six affine laws, as instants / durations -/

/-- (t + d) − t = d -/
theorem add_sub_cancel (t d : JD) : (tSubT (tAddD t d) t).inst = d.inst := by
  rw [tSubT_inst, tAddD_inst]; ring

/-- (t − d) + d = t -/
theorem sub_add_cancel (t d : JD) : (tAddD (tSubD t d) d).inst = t.inst := by
  rw [tAddD_inst, tSubD_inst]; ring

/-- (t₂ − t₁) + t₁ = t₂ -/
theorem diff_add (t₁ t₂ : JD) : (dAddT (tSubT t₂ t₁) t₁).inst = t₂.inst := by
  rw [dAddT_inst, tSubT_inst]; ring

/-- t − d = t + (−d), for every duration format (the negated duration is built through the
format's own constructor, so this also covers its floor-normalisation). -/
theorem sub_eq_add_neg (f : DFmt) (t : JD) (v v2 : Rat) :
    (tSubD t (f.toJds v v2)).inst = (tAddD t (dNeg f v v2)).inst := by
  rw [tSubD_inst, tAddD_inst]
  cases f <;> simp only [dNeg, DFmt.toJds, splitFloor, JD.inst, day2sec, day2usec] <;> grind

/-- d₁ + d₂ = d₂ + d₁ (even part by part) -/
theorem delta_add_comm (d e : JD) : dAddD d e = dAddD e d := by
  simp only [dAddD, JD.mk.injEq]; constructor <;> grind

/-- (d₁ + d₂) − d₂ = d₁ -/
theorem delta_add_sub (d e : JD) : (dSubD (dAddD d e) e).inst = d.inst := by
  rw [dSubD_inst, dAddD_inst]; ring

/-- The whole-day part really moves by the whole days of the duration: the law is not only
true of the sum but of the stored parts (a `__sub__` that folds the whole days into the fraction satisfies the law of the
sum and not this one). -/
theorem sub_parts (t d : JD) : (tSubD t d).jd1 = t.jd1 - d.jd1 ∧ (tSubD t d).jd2 = t.jd2 - d.jd2 := by
  simp [tSubD]

/-! ### "identically for every duration format" -/

/-- The constructor of every duration format preserves the value it was given
(in days: `jd`, `days`; `seconds/86400`; microseconds/86400e6 for `timedelta`). -/
theorem toJds_inst (f : DFmt) (v v2 : Rat) :
    (f.toJds v v2).inst =
      match f with
      | .jd => v + v2 | .days => v + v2
      | .seconds => (v + v2) / day2sec
      | .timedelta => (v + v2) / day2usec := by
  cases f <;> simp only [DFmt.toJds, splitFloor, JD.inst, day2sec, day2usec] <;> grind

/-- reading a duration back in the format it was built from returns the value -/
theorem fromJds_toJds (f : DFmt) (v v2 : Rat) (hf : f ≠ .timedelta) :
    f.fromJds (f.toJds v v2) = v + v2 := by
  cases f <;> simp only [DFmt.fromJds, DFmt.toJds, splitFloor, day2sec] <;> grind

/-- the same for `timedelta`, whose values are whole microseconds -/
theorem fromJds_toJds_timedelta (n m : Int) :
    DFmt.fromJds .timedelta (DFmt.toJds .timedelta (n : Rat) (m : Rat)) = ((n + m : Int) : Rat) := by
  simp only [DFmt.fromJds, DFmt.toJds, day2usec]
  have h : ((((n : Rat) + (m : Rat)) / 86400000000).floor : Rat)
      + (((n : Rat) + (m : Rat)) / 86400000000 - ((((n : Rat) + (m : Rat)) / 86400000000).floor : Rat))
      = ((n : Rat) + (m : Rat)) / 86400000000 := by grind
  rw [h]
  have h2 : ((n : Rat) + (m : Rat)) / 86400000000 * 86400000000 = ((n + m : Int) : Rat) := by
    rw [Rat.intCast_add]; grind
  rw [h2, roundHalfEven_int]

/-- every duration constructor normalises: whole-day part is an integer, fraction in [0, 1) -/
theorem toJds_normalised (f : DFmt) (v v2 : Rat) :
    (∃ k : Int, (f.toJds v v2).jd1 = (k : Rat)) ∧ 0 ≤ (f.toJds v v2).jd2 ∧ (f.toJds v v2).jd2 < 1 := by
  cases f
  exacts [splitFloor_normalised v v2, splitFloor_normalised v v2, splitFloor_normalised _ _, ⟨⟨_, rfl⟩, frac_range _⟩]

/-! ### Mixing scales is refused -/

theorem mixed_scale_refused (op : Op) (ka kb : Kind) (sa sb : Scale) (a b : JD) (h : sa ≠ sb) :
    binop op ka sa a kb sb b = .notImplemented := by
  simp [binop, h]

/-- within one scale exactly the six meaningful combinations are computed, with the kinds the
statement names (epoch ± duration → epoch, epoch − epoch → duration, …) -/
theorem same_scale_dispatch (s : Scale) (a b : JD) :
    binop .add .time s a .delta s b = .ok .time (tAddD a b) ∧
    binop .sub .time s a .delta s b = .ok .time (tSubD a b) ∧
    binop .sub .time s a .time s b = .ok .delta (tSubT a b) ∧
    binop .add .delta s a .delta s b = .ok .delta (dAddD a b) ∧
    binop .sub .delta s a .delta s b = .ok .delta (dSubD a b) ∧
    binop .add .delta s a .time s b = .ok .time (dAddT a b) ∧
    binop .add .time s a .time s b = .notImplemented ∧
    binop .sub .delta s a .time s b = .notImplemented := by
  simp [binop]

/-! ### Non-vacuity: concrete operands -/

example : (tSubD ⟨2458000.5, 1/4⟩ (DFmt.toJds .days (13/4) 0)) = ⟨2457997.5, 0⟩ := by decide +kernel
example : DFmt.toJds .seconds (-43200) 0 = ⟨-1, 1/2⟩ := by decide +kernel
example : roundHalfEven (5/2) = 2 ∧ roundHalfEven (7/2) = 4 ∧ roundHalfEven (-5/2) = -2 := by decide +kernel

/-! ### Scalar *and array* operands: the laws hold element by element under NumPy broadcasting

`Model/TimeArrays.lean`: an operand is a scalar or a one-dimensional array, `binopV` is the operator on such operands
(`binopV_scalar`: on scalars it is `binop`).  A successful operation has the broadcast length and its element `i` is the scalar
operation on the elements `i` of the operands, a one-element operand being stretched (`binopV_elementwise`); the six laws
follow for every element of every compatible combination of shapes (array ± scalar, array ± array, length-1 arrays). -/

/-- an operator on scalar/array operands either refuses (scale guard / kinds, exactly as on scalars), or fails with NumPy's
shape error exactly when the shapes are incompatible, or returns the broadcast length with the scalar operator applied
element by element -/
theorem binopV_elementwise (op : Op) (ka kb : Kind) (s : Scale) (a b : Val) :
    match binopFn op ka kb with
    | none => binopV op ka s a kb s b = .notImplemented
    | some (k, f) =>
      (¬ (a.size = b.size ∨ a.size = 1 ∨ b.size = 1) → binopV op ka s a kb s b = .shapeError) ∧
      ((a.size = b.size ∨ a.size = 1 ∨ b.size = 1) → ∃ v, binopV op ka s a kb s b = .ok k v ∧
        v.size = (if a.size = 1 then b.size else a.size) ∧
        ∀ i, i < v.size → binop op ka s (a.getB i) kb s (b.getB i) = .ok k (v.getB i)) := by
  cases hf : binopFn op ka kb with
  | none => simp [binopV, hf]
  | some kf =>
    obtain ⟨k, f⟩ := kf
    simp only
    constructor
    · intro hn
      have : broadcast2 f a b = none := by
        cases hb : broadcast2 f a b with
        | none => rfl
        | some v => exact absurd (broadcast2_spec f a b v hb).1 hn
      simp [binopV, hf, this]
    · intro hc
      obtain ⟨v, hv⟩ := Option.isSome_iff_exists.mp ((broadcast2_isSome f a b).mpr hc)
      obtain ⟨_, hsz, hget⟩ := broadcast2_spec f a b v hv
      refine ⟨v, by simp [binopV, hf, hv], hsz, ?_⟩
      intro i hi
      rw [binop_binopFn, hf, hget i (Or.inl hi)]
      simp

/-- mixing scales is refused for every shape of operands -/
theorem mixed_scale_refused_arrays (op : Op) (ka kb : Kind) (sa sb : Scale) (a b : Val) (h : sa ≠ sb) :
    binopV op ka sa a kb sb b = .notImplemented := by
  simp [binopV, h]

/-- (t + d) − t = d, element by element -/
theorem add_sub_cancel_arrays (s : Scale) (t d x r : Val)
    (h1 : binopV .add .time s t .delta s d = .ok .time x) (h2 : binopV .sub .time s x .time s t = .ok .delta r) :
    ∀ i, i < r.size → (r.getB i).inst = (d.getB i).inst := by
  intro i hi
  rw [broadcast2_comp_left tAddD tSubT t d t x r (binopV_ok rfl h1) (binopV_ok rfl h2) i hi]
  exact add_sub_cancel _ _

/-- (t − d) + d = t, element by element -/
theorem sub_add_cancel_arrays (s : Scale) (t d x r : Val)
    (h1 : binopV .sub .time s t .delta s d = .ok .time x) (h2 : binopV .add .time s x .delta s d = .ok .time r) :
    ∀ i, i < r.size → (r.getB i).inst = (t.getB i).inst := by
  intro i hi
  rw [broadcast2_comp_left tSubD tAddD t d d x r (binopV_ok rfl h1) (binopV_ok rfl h2) i hi]
  exact sub_add_cancel _ _

/-- (t₂ − t₁) + t₁ = t₂, element by element -/
theorem diff_add_arrays (s : Scale) (t₁ t₂ x r : Val)
    (h1 : binopV .sub .time s t₂ .time s t₁ = .ok .delta x) (h2 : binopV .add .delta s x .time s t₁ = .ok .time r) :
    ∀ i, i < r.size → (r.getB i).inst = (t₂.getB i).inst := by
  intro i hi
  rw [broadcast2_comp_left tSubT dAddT t₂ t₁ t₁ x r (binopV_ok rfl h1) (binopV_ok rfl h2) i hi]
  exact diff_add _ _

/-- t − d = t + (−d), element by element, for any array `nd` holding the negated durations (e.g. built by the format's own
constructor from the negated values: `sub_eq_add_neg`, `toJds_inst`) -/
theorem sub_eq_add_neg_arrays (s : Scale) (t d nd r₁ r₂ : Val) (hsz : nd.size = d.size)
    (hneg : ∀ i, (nd.getB i).inst = -(d.getB i).inst)
    (h1 : binopV .sub .time s t .delta s d = .ok .time r₁) (h2 : binopV .add .time s t .delta s nd = .ok .time r₂) :
    r₁.size = r₂.size ∧ ∀ i, i < r₁.size → (r₁.getB i).inst = (r₂.getB i).inst := by
  obtain ⟨_, z1, g1⟩ := broadcast2_spec _ _ _ _ (binopV_ok rfl h1)
  obtain ⟨_, z2, g2⟩ := broadcast2_spec _ _ _ _ (binopV_ok rfl h2)
  have hz : r₁.size = r₂.size := by rw [z1, z2, hsz]
  refine ⟨hz, fun i hi => ?_⟩
  rw [g1 i (Or.inl hi), g2 i (Or.inl (hz ▸ hi))]
  have := hneg i
  rw [tSubD_inst, tAddD_inst]
  linarith

/-- `d + e` and `e + d` are the same result, refusal and shape error included: broadcasting is symmetric and `dAddD` commutes -/
theorem binopV_add_delta_comm (sd se : Scale) (d e : Val) :
    binopV .add .delta se e .delta sd d = binopV .add .delta sd d .delta se e := by
  have e1 : dAddD = fun x y => dAddD y x := funext fun x => funext fun y => delta_add_comm x y
  by_cases h : sd = se
  · subst h
    simp only [binopV, binopFn]
    rw [← broadcast2_swap dAddD d e, ← e1]
  · simp [binopV, h, Ne.symm h]

/-- d₁ + d₂ = d₂ + d₁ for every shape: the other order succeeds as well and gives the same array -/
theorem delta_add_comm_arrays (s : Scale) (d e r : Val) (h1 : binopV .add .delta s d .delta s e = .ok .delta r) :
    ∃ r', binopV .add .delta s e .delta s d = .ok .delta r' ∧ r'.size = r.size ∧ ∀ i, i < r.size → r'.getB i = r.getB i := by
  exact ⟨r, by rw [binopV_add_delta_comm, h1], rfl, fun _ _ => rfl⟩

/-- (d₁ + d₂) − d₂ = d₁, element by element -/
theorem delta_add_sub_arrays (s : Scale) (d e x r : Val)
    (h1 : binopV .add .delta s d .delta s e = .ok .delta x) (h2 : binopV .sub .delta s x .delta s e = .ok .delta r) :
    ∀ i, i < r.size → (r.getB i).inst = (d.getB i).inst := by
  intro i hi
  rw [broadcast2_comp_left dAddD dSubD d e e x r (binopV_ok rfl h1) (binopV_ok rfl h2) i hi]
  exact delta_add_sub _ _

example : binopV .add .time .utc (.array [⟨2458000, 1/4⟩, ⟨2458001, 1/2⟩]) .delta .utc (.scalar ⟨3, 1/4⟩)
    = .ok .time (.array [⟨2458003, 1/2⟩, ⟨2458004, 3/4⟩]) := by decide +kernel
example : binopV .add .time .utc (.array [⟨1, 0⟩, ⟨2, 0⟩, ⟨3, 0⟩]) .delta .utc (.array [⟨1, 0⟩, ⟨2, 0⟩]) = .shapeError := by
  decide +kernel

/-! ### `ops_pure`: no operator and no constructor writes to an object that existed before the call

Operands and caller arrays live on a heap of buffers (contents + `writeable` flag).  The operators and the duration
constructors only *allocate*: the heap after the call is the heap before it with the new buffers appended
(`List.IsPrefix`) — contents and flags of every earlier buffer are untouched; what is stored reads back as the value the
array model computes (`binopH_refines`).  The constructor model has a switch `writes` for a `seconds` format that
rescales its argument in place; the check instantiates it with the `ast` scan of the tree under test
(`Generated/TimePurity.lean`), which must find no in-place operation on a parameter outside the deepcopy `memo` protocol
and the HDF5 writer. -/

/-- regenerated table: no such operation in `_time.py`; the only flag writes *freeze* (`writeable = False`), and they are the
six writes in three functions (`_read_only`, `TimeBase.__new__`, `TimeBase.__array_finalize__`) that protect a time object's own storage -/
theorem no_inplace_on_operands :
    srcWrites = false ∧
    (Midgard.Generated.TimePurity.inplace.filter (fun e => e.kind == "flags")).all (fun e => e.detail == "False") = true ∧
    (Midgard.Generated.TimePurity.inplace.filter (fun e => e.kind == "flags")).map (fun e => (e.fn, e.target))
      = [("_read_only", "value.flags.writeable"), ("TimeBase.__new__", "jd1.flags.writeable"),
         ("TimeBase.__new__", "jd2.flags.writeable"), ("TimeBase.__array_finalize__", "self.flags.writeable"),
         ("TimeBase.__array_finalize__", "self.jd1.flags.writeable"), ("TimeBase.__array_finalize__", "self.jd2.flags.writeable")] := by
  decide +kernel

/-- **`ops_pure`** (frame condition): for every heap, operator and pair of operand objects — scalars or arrays, any shapes,
any scales — every buffer that existed before `a ± b` has the same contents and the same flag afterwards; likewise for every
duration constructor as the tree under test is written (`srcWrites`) -/
theorem ops_pure (h : Heap) :
    (∀ (op : Op) (a b : Obj) (i : Nat), i < h.length → (binopH h op a b).1[i]? = h[i]?) ∧
    (∀ (f : DFmt) (s : Scale) (val : Part) (val2 : Option Part) (i : Nat), i < h.length →
      (ctorH srcWrites h f s val val2).1[i]? = h[i]?) := by
  constructor
  · intro op a b i hi; exact prefix_getElem? (binopH_prefix h op a b) i hi
  · intro f s val val2 i hi
    rw [no_inplace_on_operands.1]
    exact prefix_getElem? (ctorH_prefix h f s val val2) i hi

/-- the operators on the heap compute the array model's value: the stored result reads back as it -/
theorem ops_refine (h : Heap) (op : Op) (a b : Obj) (va vb : Val)
    (ha : h.readVal a.p1 a.p2 = some va) (hb : h.readVal b.p1 b.p2 = some vb) (k : Kind) (v : Val)
    (hv : binopV op a.kind a.scale va b.kind b.scale vb = .ok k v) :
    ∃ o, (binopH h op a b).2 = .ok o ∧ o.kind = k ∧ o.scale = a.scale ∧ (binopH h op a b).1.readVal o.p1 o.p2 = some v := by
  have := binopH_refines h op a b va vb ha hb
  rw [hv] at this
  exact this

/-- the switch matters: with an in-place rescaling the caller's array is changed (buffer 0: 86400 s → 1) -/
theorem inplace_ctor_mutates :
    (ctorH true [⟨[86400], true⟩] .seconds .utc (.ref 0) none).1[0]? = some ⟨[1], true⟩ ∧
    (ctorH false [⟨[86400], true⟩] .seconds .utc (.ref 0) none).1[0]? = some ⟨[86400], true⟩ ∧
    (ctorH true [⟨[86400], true⟩] .seconds .utc (.ref 0) none).2 = (ctorH false [⟨[86400], true⟩] .seconds .utc (.ref 0) none).2 := by
  decide +kernel

/-! #### The epoch constructors `Time(val, val2, fmt=…)`: fresh storage, no aliasing

`ctorTimeH aliases split`: the constructor on the heap, for any per-element `_to_jds` arithmetic `split`.  A `_to_jds` that
returned its arguments un-copied would make the caller's buffers the object's `jd1`/`jd2` (and `TimeBase.__new__` would freeze
them); the `return` class of the regenerated table says whether the tree under test has one. -/

/-- regenerated table: no `_to_jds` / `to_jds` of `_time.py` returns a parameter or a view of one -/
theorem no_aliasing_constructor : srcAliases = false := by decide +kernel

/-- **`ops_pure` for the epoch constructors**, as the tree under test is written: every buffer that existed before
`Time(val, val2)` has the same contents and flag afterwards, and the new object is independent of all of them — whatever the
caller later writes into any of its arrays, the epoch reads the same -/
theorem epoch_ctor_pure (split : Rat → Rat → JD) (h : Heap) (s : Scale) (val : Part) (val2 : Option Part) :
    (∀ i, i < h.length → (ctorTimeH srcAliases split h s val val2).1[i]? = h[i]?) ∧
    (∀ o, (ctorTimeH srcAliases split h s val val2).2 = .ok o → ∀ (a : Nat) (f : List Rat → List Rat), a < h.length →
      ((ctorTimeH srcAliases split h s val val2).1.write a f).readVal o.p1 o.p2
        = (ctorTimeH srcAliases split h s val val2).1.readVal o.p1 o.p2) := by
  rw [no_aliasing_constructor]
  refine ⟨fun i hi => prefix_getElem? (ctorTimeH_prefix split h s val val2) i hi, ?_⟩
  intro o ho a f ha
  obtain ⟨h1, h2⟩ := ctorTimeH_fresh split h s val val2 o ho
  exact readVal_write_fresh _ h.length a ha f o.p1 o.p2 h1 h2

/-- the switch matters: with a `_to_jds` that hands canonical input on, `Time(jd1, val2=jd2)` of two caller arrays leaves both
read-only, the epoch *is* those arrays, and a later change of the caller's fraction array changes the epoch -/
theorem aliasing_ctor_shares :
    let h : Heap := [⟨[4916001 / 2], true⟩, ⟨[1 / 4], true⟩]
    let r := ctorTimeH true splitMidnight h .utc (.ref 0) (some (.ref 1))
    r.1 = [⟨[4916001 / 2], false⟩, ⟨[1 / 4], false⟩] ∧ r.2 = .ok ⟨.time, .utc, .ref 0, .ref 1⟩ ∧
    r.1.readVal (.ref 0) (.ref 1) = some (.array [⟨4916001 / 2, 1 / 4⟩]) ∧
    (r.1.write 1 (fun _ => [1 / 2])).readVal (.ref 0) (.ref 1) = some (.array [⟨4916001 / 2, 1 / 2⟩]) ∧
    (ctorTimeH false splitMidnight h .utc (.ref 0) (some (.ref 1))).1
      = h ++ [⟨[4916001 / 2], false⟩, ⟨[1 / 4], false⟩] := by
  decide +kernel

/-- the per-element splits of the heap model are the source's `TimeJD._to_jds` / `TimeMJD._to_jds` (regenerated) -/
theorem source_epoch_split (v v2 : Rat) :
    Midgard.Generated.SrcTime.jdToJdsSrc v v2 = ((splitMidnight v v2).jd1, (splitMidnight v v2).jd2) ∧
    Midgard.Generated.SrcTime.mjdToJdsSrc v v2 (4800001 / 2) = ((splitMjd v v2).jd1, (splitMjd v v2).jd2) := by
  have h5 : (0.5 : Rat) = 1 / 2 := by norm_num
  constructor <;>
    simp only [Midgard.Generated.SrcTime.jdToJdsSrc, Midgard.Generated.SrcTime.mjdToJdsSrc, splitMidnight, splitMjd,
      Midgard.Generated.SrcTime.HasFloor.floor, h5]

/-! #### Refusal survives Python's operator dispatch (reflected methods, plain numbers, `sum`)

`pyBinop reflRefuses`: `a.__add__(b)`, then — for operands of different classes — `b.__radd__(a)`, then `TypeError`.  The
switch is read off the regenerated operator table of the tree under test. -/

/-- regenerated table: `+`/`-` are defined by `TimeArray` and `TimeDeltaArray` only, and their `__radd__`, `__rsub__`,
`__iadd__`, `__isub__` are stubs that return `NotImplemented`; no scale class overrides any of them -/
theorem reflected_ops_refuse :
    srcReflRefuses = true ∧
    Midgard.Generated.TimePurity.operators.length = 12 := by decide +kernel

/-- **mixing scales is refused by the whole `+` / `-` expression**, for every operator, every pair of kinds, every pair of
different scales and every value on either side — scalars, arrays, zero durations, all-zero and empty arrays included -/
theorem mixed_scale_refused_dispatch (op : Op) (ka kb : Kind) (sa sb : Scale) (va vb : Val) (h : sa ≠ sb) :
    pyBinop srcReflRefuses op (.obj ka sa va) (.obj kb sb vb) = .typeError := by
  rw [reflected_ops_refuse.1]
  simp [pyBinop, mixed_scale_refused_arrays op ka kb sa sb va vb h, reflected, h]

/-- a plain number on either side (`d + 0`, `0 + d`, `t - 0`, …) never yields a value: `AttributeError` from the scale guard
when it is on the right, `TypeError` when it is on the left; hence `sum([d₁, d₂, …])` (which starts from the plain 0) fails
at its first step -/
theorem plain_operand_refused (op : Op) (k : Kind) (s : Scale) (v : Val) (z : Bool) (ds : List Operand) :
    pyBinop srcReflRefuses op (.obj k s v) (.plain z) = .attributeError ∧
    pyBinop srcReflRefuses op (.plain z) (.obj k s v) = .typeError ∧
    pySum srcReflRefuses (.obj k s v :: ds) = some .typeError := by
  rw [reflected_ops_refuse.1]
  refine ⟨rfl, by simp [pyBinop, reflected], ?_⟩
  have h0 : pyBinop true .add (.plain true) (.obj k s v) = .typeError := by simp [pyBinop, reflected]
  simp only [pySum, h0]
  induction ds with
  | nil => rfl
  | cons d rest ih => simpa [List.foldl_cons] using ih

/-- within one scale the dispatch changes nothing: the value is the array model's -/
theorem same_scale_dispatch_value (b : Bool) (op : Op) (ka kb : Kind) (s : Scale) (va vb v : Val) (k : Kind)
    (h : binopV op ka s va kb s vb = .ok k v) : pyBinop b op (.obj ka s va) (.obj kb s vb) = .ok k s v := by
  simp [pyBinop, h]

/-- the switch matters: a `__radd__` that lets the start value of `sum()` through by `not np.any(other)` also lets a zero
duration of another scale through — `TimeDelta(0, utc) + TimeDelta(1.5 d, gps)` is then the GPS duration (and an all-zero
or empty array on the left does the same), while a non-zero left operand is still refused -/
theorem lenient_radd_mixes_scales :
    pyBinop false .add (.obj .delta .utc (.scalar ⟨0, 0⟩)) (.obj .delta .gps (.scalar ⟨1, 1 / 2⟩)) = .ok .delta .gps (.scalar ⟨1, 1 / 2⟩) ∧
    pyBinop false .add (.obj .delta .utc (.array [⟨0, 0⟩, ⟨-1, 1⟩])) (.obj .delta .gps (.scalar ⟨1, 1 / 2⟩)) = .ok .delta .gps (.scalar ⟨1, 1 / 2⟩) ∧
    pyBinop false .add (.obj .time .utc (.array [])) (.obj .delta .gps (.scalar ⟨1, 1 / 2⟩)) = .ok .delta .gps (.scalar ⟨1, 1 / 2⟩) ∧
    pyBinop false .add (.obj .delta .utc (.scalar ⟨1, 0⟩)) (.obj .delta .gps (.scalar ⟨1, 1 / 2⟩)) = .typeError ∧
    pySum false [.obj .delta .utc (.scalar ⟨1, 0⟩), .obj .delta .utc (.scalar ⟨2, 1 / 4⟩)] = some (.ok .delta .utc (.scalar ⟨3, 1 / 4⟩)) := by
  decide +kernel

/-! ### "to better than 1 ns for durations up to decades": the rounding-error budget

`Proofs/TimeFloat.lean`: `Rounding` = any rounding function with relative error ≤ `u` per operation that returns multiples of
1/2 up to 2⁵² unchanged (IEEE doubles: u = 2⁻⁵³); `flPw R σ` = the model's operators (`pw_ops`) with both result parts
rounded.  `Stored B1 B2 j`: day part a multiple of 1/2 with |jd1| ≤ B1, fraction part |jd2| ≤ B2 — the shape of what the
constructors store (`toJds_normalised`: integer, [0, 1); epochs: C02); a hypothesis of the theorems below, met in the `example`
after them. -/

/-- **normalisation invariant of every operation**: results are stored values again; in exact arithmetic the bounds add
(one operation on constructed operands: |jd2| < 2; after n operations: < n + 1), with rounding the fraction bound is inflated
by (1 + u); the day part is computed without any rounding -/
theorem result_normalised (R : Rounding) {σ B1 B2 C1 C2 : Rat} (hσ : σ = 1 ∨ σ = -1) {a b : JD}
    (ha : Stored B1 B2 a) (hb : Stored C1 C2 b) (hB : B1 + C1 ≤ 2 ^ 52) :
    Stored (B1 + C1) ((1 + R.u) * (B2 + C2)) (flPw R σ a b) ∧ (flPw R σ a b).jd1 = (pw σ a b).jd1 ∧
    Stored (B1 + C1) (B2 + C2) (pw σ a b) := by
  refine ⟨flPw_stored R hσ ha hb hB, flPw_jd1 R hσ ha hb hB, ?_⟩
  have := flPw_stored Rounding.exact hσ ha hb hB
  rw [flPw_exact] at this
  have hu : Rounding.exact.u = 0 := rfl
  simpa [hu] using this

/-- the six operators are `pw (±1)`, and rounding nothing gives the exact model -/
theorem float_model_is_model (a b : JD) :
    tAddD a b = flPw Rounding.exact 1 a b ∧ dAddD a b = flPw Rounding.exact 1 a b ∧ dAddT a b = flPw Rounding.exact 1 a b ∧
    tSubD a b = flPw Rounding.exact (-1) a b ∧ tSubT a b = flPw Rounding.exact (-1) a b ∧
    dSubD a b = flPw Rounding.exact (-1) a b := by
  simpa [flPw_exact] using pw_ops a b

/-- one operation: the computed instant differs from the exact one by at most u·(|jd2| + |jd2'|) — 2u for constructed operands -/
theorem one_op_error (R : Rounding) {σ : Rat} (hσ : σ = 1 ∨ σ = -1) {a b : JD}
    (ha : Stored (2 ^ 50) 1 a) (hb : Stored (2 ^ 50) 1 b) :
    |(flPw R σ a b).inst - (pw σ a b).inst| ≤ 2 * R.u := by
  have := flPw_err R hσ ha hb (by norm_num)
  linarith

/-- **the six laws in rounded arithmetic**: for stored operands with |jd1| ≤ 2⁵⁰ days (the property asks for 40 000 days
around epochs of 2.5 million) and fraction parts of size ≤ 1, each law holds to 6u days, i.e. 5.8·10⁻¹¹ s for doubles -/
theorem laws_rounded (R : Rounding) (hu : R.u ≤ 1 / 2) {t t₂ d e : JD}
    (ht : Stored (2 ^ 50) 1 t) (ht₂ : Stored (2 ^ 50) 1 t₂) (hd : Stored (2 ^ 50) 1 d) (he : Stored (2 ^ 50) 1 e) :
    |(flPw R (-1) (flPw R 1 t d) t).inst - d.inst| ≤ 6 * R.u ∧          -- (t + d) − t = d
    |(flPw R 1 (flPw R (-1) t d) d).inst - t.inst| ≤ 6 * R.u ∧          -- (t − d) + d = t
    |(flPw R 1 (flPw R (-1) t₂ t) t).inst - t₂.inst| ≤ 6 * R.u ∧        -- (t₂ − t₁) + t₁ = t₂
    |(flPw R (-1) t d).inst - (flPw R 1 t ⟨-d.jd1, -d.jd2⟩).inst| ≤ 6 * R.u ∧   -- t − d = t + (−d)
    flPw R 1 d e = flPw R 1 e d ∧                                         -- d₁ + d₂ = d₂ + d₁
    |(flPw R (-1) (flPw R 1 d e) e).inst - d.inst| ≤ 6 * R.u := by       -- (d₁ + d₂) − d₂ = d₁
  have p1 : (1 : Rat) = 1 ∨ (1 : Rat) = -1 := Or.inl rfl
  have m1 : (-1 : Rat) = 1 ∨ (-1 : Rat) = -1 := Or.inr rfl
  refine ⟨flPw_two_ops R hu p1 m1 ht hd ht (by ring), flPw_two_ops R hu m1 p1 ht hd hd (by ring),
    flPw_two_ops R hu m1 p1 ht₂ ht ht (by ring), ?_, ?_, flPw_two_ops R hu p1 m1 hd he he (by ring)⟩
  · have hn : Stored (2 ^ 50) 1 (⟨-d.jd1, -d.jd2⟩ : JD) := by
      obtain ⟨⟨k, hk⟩, h1, h2⟩ := hd
      exact ⟨⟨-k, by simp [hk]; ring⟩, by simpa using h1, by simpa using h2⟩
    have e1 := one_op_error R m1 ht hd
    have e2 := one_op_error R p1 ht hn
    have hsame : (pw (-1) t d).inst = (pw 1 t ⟨-d.jd1, -d.jd2⟩).inst := by simp only [pw, JD.inst]; ring
    have := abs_sub_le (flPw R (-1) t d).inst (pw (-1) t d).inst (flPw R 1 t ⟨-d.jd1, -d.jd2⟩).inst
    rw [hsame, abs_sub_comm (pw 1 t ⟨-d.jd1, -d.jd2⟩).inst] at this
    have hu0 := R.u_nonneg
    rw [hsame] at e1
    linarith
  · simp only [flPw, JD.mk.injEq]
    constructor <;> (congr 1; ring)

/-- 6u days at u = 2⁻⁵³ in seconds: below the nanosecond of the statement, with a factor 17 to spare -/
theorem error_budget : 6 * ((1 : Rat) / 2 ^ 53) * 86400 < 1 / 10 ^ 9 ∧ (2 : Rat) ^ 50 > 2500000 + 40000 :=
  ⟨budget_below_ns, by norm_num⟩

/-- the hypotheses are met: a constructed epoch and a constructed 40 000-day duration are `Stored (2⁵⁰) 1` -/
example : Stored (2 ^ 50) 1 (⟨2458000, 1/4⟩ : JD) ∧ Stored (2 ^ 50) 1 (DFmt.toJds .days (-40000 + 1/3) 0) :=
  ⟨⟨⟨4916000, by norm_num⟩, by norm_num, by norm_num⟩, by
    have h : DFmt.toJds .days (-40000 + 1/3) 0 = ⟨-40000, 1/3⟩ := by decide +kernel
    rw [h]; exact ⟨⟨-80000, by norm_num⟩, by norm_num, by norm_num⟩⟩

/-! ### The model is the source (regenerated on every run)

`Generated/SourceExprsTime.lean` is written by `translator/extract_exprs.py` from the Python `ast` of `_time.py` in
the tree under test: for each of the four operator methods and each kind of right-hand operand the branch the method
takes (which parts each result part is built from, what kind of object it returns, or `NotImplemented`), the scale
guard, and `_to_jds`/`_from_jds` of the duration formats jd, days, seconds.  The theorems of this section say that
the model's `binop`, `DFmt.toJds`, `DFmt.fromJds` are *equal* to those regenerated definitions.  Hand-modelled and
tied by the correspondence only: the `timedelta` format (CPython's timedelta arithmetic) and NumPy broadcasting
(`broadcast2`, run against the real operators on scalar / length-1 / length-n / mismatching operands). -/
section Source
open Midgard.Generated

/-- the model's result of an operator as the generated definitions express it -/
def resOf : Res → Option (Bool × Rat × Rat)
  | .notImplemented => none
  | .ok .time j => some (false, j.jd1, j.jd2)
  | .ok .delta j => some (true, j.jd1, j.jd2)

/-- what the source returns for an operator and operand kinds (equal scales) -/
def srcBinop (op : Op) (ka kb : Kind) (a b : JD) : Option (Bool × Rat × Rat) :=
  match op, ka, kb with
  | .add, .time, .delta => SrcTime.timeAddDeltaSrc a.jd1 a.jd2 b.jd1 b.jd2
  | .add, .time, .time => SrcTime.timeAddTimeSrc a.jd1 a.jd2 b.jd1 b.jd2
  | .sub, .time, .delta => SrcTime.timeSubDeltaSrc a.jd1 a.jd2 b.jd1 b.jd2
  | .sub, .time, .time => SrcTime.timeSubTimeSrc a.jd1 a.jd2 b.jd1 b.jd2
  | .add, .delta, .delta => SrcTime.deltaAddDeltaSrc a.jd1 a.jd2 b.jd1 b.jd2
  | .add, .delta, .time => SrcTime.deltaAddTimeSrc a.jd1 a.jd2 b.jd1 b.jd2
  | .sub, .delta, .delta => SrcTime.deltaSubDeltaSrc a.jd1 a.jd2 b.jd1 b.jd2
  | .sub, .delta, .time => SrcTime.deltaSubTimeSrc a.jd1 a.jd2 b.jd1 b.jd2

/-- equal scales: the dispatch and the part-by-part arithmetic of all eight operator branches are the source's -/
theorem source_binop (op : Op) (ka kb : Kind) (s : Scale) (a b : JD) :
    resOf (binop op ka s a kb s b) = srcBinop op ka kb a b := by
  cases op <;> cases ka <;> cases kb <;>
    src_tie_with [binop, ne_eq, not_true_eq_false, if_false, resOf, srcBinop, tAddD, tSubD, tSubT, dAddD, dSubD, dAddT,
      SrcTime.timeAddDeltaSrc, SrcTime.timeAddTimeSrc, SrcTime.timeSubDeltaSrc, SrcTime.timeSubTimeSrc, SrcTime.deltaAddDeltaSrc,
      SrcTime.deltaAddTimeSrc, SrcTime.deltaSubDeltaSrc, SrcTime.deltaSubTimeSrc, Option.some.injEq, true_and]

/-- different scales: every method's first statement refuses (the four guarded entry points of the source) -/
theorem source_binop_mixed (a b : JD) :
    SrcTime.timeAddMixedSrc a.jd1 a.jd2 b.jd1 b.jd2 = none ∧ SrcTime.timeSubMixedSrc a.jd1 a.jd2 b.jd1 b.jd2 = none ∧
    SrcTime.deltaAddMixedSrc a.jd1 a.jd2 b.jd1 b.jd2 = none ∧ SrcTime.deltaSubMixedSrc a.jd1 a.jd2 b.jd1 b.jd2 = none ∧
    (∀ op ka kb sa sb, sa ≠ sb → binop op ka sa a kb sb b = .notImplemented) := by
  exact ⟨rfl, rfl, rfl, rfl, fun op ka kb sa sb h => mixed_scale_refused op ka kb sa sb a b h⟩

/-- the duration formats: `_to_jds` / `_from_jds` of jd, days, seconds (Unit.second2day = 1/86400, Unit.day2second = 86400) -/
theorem source_duration_formats (v v2 : Rat) (j : JD) :
    (let r := DFmt.toJds .jd v v2; SrcTime.deltaJdToJdsSrc v v2 (1 / day2sec) = (r.jd1, r.jd2)) ∧
    (let r := DFmt.toJds .days v v2; SrcTime.deltaDayToJdsSrc v v2 (1 / day2sec) = (r.jd1, r.jd2)) ∧
    (let r := DFmt.toJds .seconds v v2; SrcTime.deltaSecToJdsSrc v v2 (1 / day2sec) = (r.jd1, r.jd2)) ∧
    SrcTime.deltaJdFromJdsSrc day2sec j.jd1 j.jd2 = DFmt.fromJds .jd j ∧
    SrcTime.deltaDayFromJdsSrc day2sec j.jd1 j.jd2 = DFmt.fromJds .days j ∧
    SrcTime.deltaSecFromJdsSrc day2sec j.jd1 j.jd2 = DFmt.fromJds .seconds j := by
  have hdiv : ∀ x : Rat, x * (1 / day2sec) = x / day2sec := fun x => by ring
  refine ⟨?_, ?_, ?_, ?_, ?_, ?_⟩ <;>
    src_tie_with [DFmt.toJds, DFmt.fromJds, splitFloor, SrcTime.deltaJdToJdsSrc, SrcTime.deltaDayToJdsSrc, SrcTime.deltaSecToJdsSrc,
       SrcTime.deltaJdFromJdsSrc, SrcTime.deltaDayFromJdsSrc, SrcTime.deltaSecFromJdsSrc, SrcTime.HasFloor.floor, hdiv]

end Source

end Midgard.Props.C03

#print axioms Midgard.Props.C03.add_sub_cancel
#print axioms Midgard.Props.C03.sub_add_cancel
#print axioms Midgard.Props.C03.diff_add
#print axioms Midgard.Props.C03.sub_eq_add_neg
#print axioms Midgard.Props.C03.delta_add_comm
#print axioms Midgard.Props.C03.delta_add_sub
#print axioms Midgard.Props.C03.sub_parts
#print axioms Midgard.Props.C03.toJds_inst
#print axioms Midgard.Props.C03.fromJds_toJds
#print axioms Midgard.Props.C03.fromJds_toJds_timedelta
#print axioms Midgard.Props.C03.toJds_normalised
#print axioms Midgard.Props.C03.mixed_scale_refused
#print axioms Midgard.Props.C03.same_scale_dispatch
#print axioms Midgard.Props.C03.binopV_elementwise
#print axioms Midgard.Props.C03.mixed_scale_refused_arrays
#print axioms Midgard.Props.C03.add_sub_cancel_arrays
#print axioms Midgard.Props.C03.sub_add_cancel_arrays
#print axioms Midgard.Props.C03.diff_add_arrays
#print axioms Midgard.Props.C03.sub_eq_add_neg_arrays
#print axioms Midgard.Props.C03.binopV_add_delta_comm
#print axioms Midgard.Props.C03.delta_add_comm_arrays
#print axioms Midgard.Props.C03.delta_add_sub_arrays
#print axioms Midgard.Props.C03.no_inplace_on_operands
#print axioms Midgard.Props.C03.ops_pure
#print axioms Midgard.Props.C03.ops_refine
#print axioms Midgard.Props.C03.inplace_ctor_mutates
#print axioms Midgard.Props.C03.no_aliasing_constructor
#print axioms Midgard.Props.C03.epoch_ctor_pure
#print axioms Midgard.Props.C03.aliasing_ctor_shares
#print axioms Midgard.Props.C03.source_epoch_split
#print axioms Midgard.Props.C03.reflected_ops_refuse
#print axioms Midgard.Props.C03.mixed_scale_refused_dispatch
#print axioms Midgard.Props.C03.plain_operand_refused
#print axioms Midgard.Props.C03.same_scale_dispatch_value
#print axioms Midgard.Props.C03.lenient_radd_mixes_scales
#print axioms Midgard.Props.C03.result_normalised
#print axioms Midgard.Props.C03.float_model_is_model
#print axioms Midgard.Props.C03.one_op_error
#print axioms Midgard.Props.C03.laws_rounded
#print axioms Midgard.Props.C03.error_budget
#print axioms Midgard.Props.C03.source_binop
#print axioms Midgard.Props.C03.source_binop_mixed
#print axioms Midgard.Props.C03.source_duration_formats
