/-
C07 — Orbit state ↔ Keplerian elements conversion is invertible and consistent.

Theorems about the definitions of `Model/Kepler.lean` (the terms the compiled driver runs) instantiated at `ℝ`, with
`arctan2 y x := arg (x + iy)`, and — last section — about the object store of `Model/PosCache.lean`.

Both inverses: `trs2kepler (kepler2trs k) = k` for a bound inclined orbit with its angles in the principal ranges
(`trs2kepler_kepler2trs`, read off the two-body relations `KepInv.kepler2trs_invariants` of a `kepler2trs` output), and
`kepler2trs (trs2kepler s) = s` for a bound, inclined state (`kepler2trs_trs2kepler`; proved in `Proofs/KeplerInverse.lean`
as `kepler2trs_trs2kepler_of_bound`, which does not need the non-circularity the statements here assume).  For *every* state the returned angles lie in the
code's principal ranges (`principal_ranges`; lemmas in `Proofs/KeplerRanges.lean`); Kepler's equation and the half-angle
relation of the true anomaly.  The `source_*` theorems tie the model definitions to the arithmetic regenerated from the
Python `ast`.  Objects (`Proofs/PosCacheProofs.lean`): in every history of `PosVel(...)` constructions, conversions, row
views, row copies and in-place writes, `to_system` hands out the conversion of the *current* contents (`cache_coherent`),
and an array handed out earlier is not changed by a write to its source (`kept_conversion_unchanged`).

Not proved (decided by the correspondence/oracle of harness/c07.py over the stated element ranges):
that libm's `arctan2` agrees with the real `arg` to rounding and the resulting `< 1e-8` bound of
the IEEE evaluation.
-/
import Midgard.Proofs.SourceTie
import Midgard.Proofs.KeplerInverse
import Midgard.Proofs.PosCacheProofs
import Midgard.Generated.KeplerShape

namespace Midgard.Props.C07
open Midgard.Geo

/-! ## mean and true anomaly -/

section Anomalies

/-- **Kepler's equation** `M = E − e sin E` is the definition of `meanAnomaly` (`KeplerPosVel.M`) -/
theorem kepler_equation (e E : ℝ) : meanAnomaly e E = E - e * Real.sin E := rfl

/-- **the half-angle relation** `tan(f/2) = √((1+e)/(1−e)) tan(E/2)`, in the form free of singularities:
`sin f / (1 + cos f) = √(1 − e²)/(1 − e) · sin E / (1 + cos E)` cross-multiplied -/
theorem true_anomaly_half_angle (e E : ℝ) (he0 : 0 ≤ e) (he1 : e < 1) :
    Real.sin (trueAnomaly e E) * ((1 - e) * (1 + Real.cos E))
      = Real.sqrt (1 - e * e) * Real.sin E * (1 + Real.cos (trueAnomaly e E)) := by
  obtain ⟨hc, hs⟩ := KepInv.trueAnomaly_xy e E he0 he1
  rw [(KepInv.fac_spec he0 he1).1]
  linear_combination Real.sin (trueAnomaly e E) * hc - (1 + Real.cos (trueAnomaly e E)) * hs

/-- `√(1 − e²)/(1 − e) = √((1 + e)/(1 − e))` for `0 ≤ e < 1`: the factor of the half-angle relation -/
theorem half_angle_factor (e : ℝ) (he0 : 0 ≤ e) (he1 : e < 1) :
    Real.sqrt (1 - e * e) / (1 - e) = Real.sqrt ((1 + e) / (1 - e)) := by
  have h1 : 0 < 1 - e := by linarith
  have h2 : 1 - e * e = (1 + e) / (1 - e) * (1 - e) ^ 2 := by field_simp; ring
  rw [h2, Real.sqrt_mul (by positivity), Real.sqrt_sq h1.le]
  field_simp

end Anomalies

/-! ## elements → state → elements -/

/-- **`trs2kepler ∘ kepler2trs = id`** over ℝ for every bound (`0 < e < 1`, `a > 0`), inclined
(`0 < i < π`) orbit with the node and the eccentric anomaly in `arctan2`'s principal range `(−π, π]` and the
argument of perigee in `[0, 2π)`: the elements returned by `trs2kepler` are exactly the elements the state
was built from — in particular every returned angle is the principal-range representative.
What remains unproved for the code is only the IEEE evaluation. -/
theorem trs2kepler_kepler2trs (GM : ℝ) (k : Kep ℝ) (hGM : 0 < GM) (ha : 0 < k.a) (he0 : 0 < k.e) (he1 : k.e < 1)
    (hi0 : 0 < k.i) (hi1 : k.i < Real.pi) (hO : k.Omega ∈ Set.Ioc (-Real.pi) Real.pi)
    (hE : k.E ∈ Set.Ioc (-Real.pi) Real.pi) (hw0 : 0 ≤ k.omega) (hw1 : k.omega < 2 * Real.pi) :
    trs2kepler GM (kepler2trs GM k) = k := by
  have H := KepInv.kepler2trs_invariants GM k hGM ha he0.le he1
  obtain ⟨a, e, i, Om, om, E⟩ := k
  simp only at ha he0 he1 hi0 hi1 hO hE hw0 hw1 H
  generalize kepler2trs GM ⟨a, e, i, Om, om, E⟩ = S at H ⊢
  obtain ⟨hfac', hfac, hfacpos⟩ := KepInv.fac_spec he0.le he1
  obtain ⟨hXf, hYf⟩ := KepInv.trueAnomaly_xy e E he0.le he1
  generalize Real.sqrt ((1 - e) * (1 + e)) = fac at hfac' hfac hfacpos H hYf
  generalize hgd : Real.sqrt (GM * a) = g at H
  have hgpos : 0 < g := hgd ▸ Real.sqrt_pos.mpr (mul_pos hGM ha)
  have hg : g ^ 2 = GM * a := hgd ▸ Real.sq_sqrt (mul_pos hGM ha).le
  have hrpos : 0 < a * (1 - e * Real.cos E) := mul_pos ha (one_sub_mul_cos_pos he0.le he1 E)
  have hhu : (V3.cross S.p S.v).sdiv (fac * g)
      = KepInv.wHat (Real.cos Om) (Real.sin Om) (Real.cos i) (Real.sin i) := by
    rw [H.cross, V3.sdiv_smul (mul_pos hfacpos hgpos).ne']
  -- the elements that do not involve the true anomaly; `ha_rec` … `hu_pair` are spelled as the `simp only [trs2kepler, …]`
  -- below leaves the fields (which is why `rw [H.visViva]` stands between the two `simp only`s)
  have ha_rec : 1 / ((1 + 1) / (a * (1 - e * Real.cos E)) - GM * (2 / (a * (1 - e * Real.cos E)) - 1 / a) / GM) = a :=
    KepInv.semi_major_recovered GM a _ _ hGM.ne' ha.ne' hrpos.ne' rfl
  have he_rec : Real.sqrt (1 - fac * g * (fac * g) / GM / a) = e :=
    KepInv.eccentricity_recovered GM a e _ hGM.ne' ha.ne' he0.le (by
      rw [show fac * g * (fac * g) = fac ^ 2 * g ^ 2 by ring, hfac, hg]; ring)
  have hE_rec : Trig.atan2 (g * e * Real.sin E)
      (a * a * Real.sqrt (GM / cube a) * (1 - a * (1 - e * Real.cos E) / a)) = E := by
    -- with `n = √(GM/a³)`: `a² n = √(GM a)`, and `1 − a(1 − e cos E)/a = e cos E`
    rw [KepInv.sq_mul_meanMotion GM a ha, mul_div_cancel_left₀ _ ha.ne', hgd,
      show g * (1 - (1 - e * Real.cos E)) = g * e * Real.cos E by ring]
    exact atan2_pos_mul (g * e) E (mul_pos hgpos he0) hE
  obtain ⟨hi_rec, hO_rec⟩ := KepInv.atan2_wHat hi0 hi1 hO
  -- argument of latitude `u ≡ ω + f`, with `(X, Y) = ‖r‖ (cos f, sin f)`
  generalize hfd : trueAnomaly e E = f at hXf hYf
  have hvega : Trig.atan2 (Real.sqrt (1 - e * e) * Real.sin E) (Real.cos E - e) = f := hfd
  have hX : a * (Real.cos E - e) = a * (1 - e * Real.cos E) * Real.cos f := by
    linear_combination a * hXf
  have hY : a * fac * Real.sin E = a * (1 - e * Real.cos E) * Real.sin f := by
    linear_combination a * hYf
  have hu_pair : Trig.atan2 S.p.z (-S.p.x * -(Real.cos Om * Real.sin i) + S.p.y * (Real.sin Om * Real.sin i))
      = Trig.atan2 (Real.sin i * (a * (1 - e * Real.cos E)) * Real.sin (om + f))
          (Real.sin i * (a * (1 - e * Real.cos E)) * Real.cos (om + f)) := by
    rw [H.latZ, H.latX, hX, hY, Real.sin_add, Real.cos_add]
    congr 1 <;> ring
  obtain ⟨⟨n, hn⟩, hu_lo, hu_hi⟩ := atan2_pos_mul_mod (Real.sin i * (a * (1 - e * Real.cos E))) (om + f)
    (mul_pos (Real.sin_pos_of_pos_of_lt_pi hi0 hi1) hrpos)
  simp only [trs2kepler, H.radius, H.crossNorm, hhu, H.dot, trig_sqrt, trig_sin, trig_cos, trig_pi]
  rw [H.visViva]
  simp only [ha_rec, he_rec, hE_rec, hvega, KepInv.wHat, hi_rec, hO_rec, hu_pair]
  rw [wrap_sub_eq ⟨hu_lo, hu_hi⟩ (hfd ▸ trueAnomaly_mem_Ioc e E) hw0 hw1 hn]

/-! ### The model is the source (regenerated on every run)

`Generated/SourceExprs.lean` is written by `translator/extract_exprs.py` from the Python `ast` of the tree under
test: the arithmetic of the functions named below, statement by statement.  The theorems of this section say that the
hand-written model definitions every other theorem of this file is about are, over the reals, *equal* to those
regenerated definitions (composed with the hand-modelled branch selection where the source has control flow).  A
change of the source arithmetic therefore breaks one of these (unless it is an algebraic identity over ℝ, which the
fallback of the `src_tie` tactic — unfold, compare component by component with `ring_nf` — accepts). -/
section Source
open Midgard.Generated
-- `src_tie` tries several closing tactics in turn; the ones after the successful one trip these linters
set_option linter.unusedTactic false
set_option linter.unreachableTactic false
set_option linter.unusedSimpArgs false
set_option linter.unnecessarySeqFocus false

theorem source_kepler2trs (GM : ℝ) (k : Kep ℝ) :
    kepler2trs GM k =
      (let o := Src.kepler2trsOrbSrc k.a k.e k.E GM
       let pqw := Src.kepler2trsPqwSrc R1 R3 k.Omega k.i k.omega
       (⟨pqw.mulVec o.1, pqw.mulVec o.2⟩ : V6 ℝ)) := by
  src_tie [kepler2trs, kepler2trsCore, Src.kepler2trsOrbSrc, Src.kepler2trsPqwSrc, R1, R3, R1cs, R3cs]
theorem source_trs2kepler (GM : ℝ) (w : V6 ℝ) :
    trs2kepler GM w =
      (let h := V3.cross w.p w.v
       let hu := h.sdiv h.norm
       let s := Src.trs2keplerSrc w.p.norm w.v.norm h.norm hu.x hu.y hu.z (V3.dot w.p w.v) GM w.p.x w.p.y w.p.z
       let omega0 := s.2.2.2.2.1
       (⟨s.1, s.2.1, s.2.2.1, s.2.2.2.1, if omega0 < 0 then omega0 + (1 + 1) * Trig.pi else omega0, s.2.2.2.2.2⟩ : Kep ℝ)) := by
  src_tie [trs2kepler, Src.trs2keplerSrc]
/-- the two `np.einsum` contractions of `trs2kepler` (one state: `"i, i"`; array: `"ij, ij->i"`, one row), expanded
from their subscripts by `translator/extract_kepler.py`, are the model's `r · v` -/
theorem source_einsum (p v : V3 ℝ) :
    KepSrc.einsumStateSrc p v = V3.dot p v ∧ KepSrc.einsumRowSrc p v = V3.dot p v := by
  refine ⟨?_, ?_⟩ <;> simp only [KepSrc.einsumStateSrc, KepSrc.einsumRowSrc, V3.dot]

/-- the `omega` wrap as read from the source — the scalar branch `if omega < 0: omega += 2 * np.pi` and one element of
the mask assignment `omega[omega < 0] += 2 * np.pi` — is the wrap of the model -/
theorem source_omega_wrap (omega : ℝ) :
    KepSrc.omegaWrapScalarSrc omega = (if omega < 0 then omega + (1 + 1) * Trig.pi else omega) ∧
    KepSrc.omegaWrapMaskSrc omega = (if omega < 0 then omega + (1 + 1) * Trig.pi else omega) := by
  refine ⟨?_, ?_⟩ <;> simp only [KepSrc.omegaWrapScalarSrc, KepSrc.omegaWrapMaskSrc] <;> norm_num

/-- `PQW @ column` written out from the `@` of the source and the `hstack` order are the model's `mulVec` pair -/
theorem source_assemble (m : M3 ℝ) (r v : V3 ℝ) : KepSrc.assembleSrc m r v = ⟨m.mulVec r, m.mulVec v⟩ := by
  simp only [KepSrc.assembleSrc, KepSrc.rotateSrc, M3.mulVec, V3.dot]

/-- **`trs2kepler` of the model is the source, end to end**: arithmetic (`extract_exprs.py`), the einsum contraction
and the `omega` wrap (`extract_kepler.py`); what stays hand-modelled is `nputil.norm`, `np.cross`,
`nputil.unit_vector` and `np.stack(...).T` (the order of the six outputs is read by `extract_exprs.py`) -/
theorem source_trs2kepler_full (GM : ℝ) (w : V6 ℝ) :
    trs2kepler GM w =
      (let h := V3.cross w.p w.v
       let hu := h.sdiv h.norm
       let s := Src.trs2keplerSrc w.p.norm w.v.norm h.norm hu.x hu.y hu.z (KepSrc.einsumRowSrc w.p w.v) GM w.p.x w.p.y w.p.z
       (⟨s.1, s.2.1, s.2.2.1, s.2.2.2.1, KepSrc.omegaWrapMaskSrc s.2.2.2.2.1, s.2.2.2.2.2⟩ : Kep ℝ)) := by
  rw [source_trs2kepler]
  simp only [(source_einsum _ _).2, (source_omega_wrap _).2]

/-- **`kepler2trs` of the model is the source, end to end** -/
theorem source_kepler2trs_full (GM : ℝ) (k : Kep ℝ) :
    kepler2trs GM k =
      (let o := Src.kepler2trsOrbSrc k.a k.e k.E GM
       KepSrc.assembleSrc (Src.kepler2trsPqwSrc R1 R3 k.Omega k.i k.omega) o.1 o.2) := by
  rw [source_kepler2trs]
  simp only [source_assemble]

theorem source_anomalies (e E : ℝ) :
    Src.meanAnomalySrc e E = meanAnomaly e E ∧ Src.trueAnomalySrc e E = trueAnomaly e E := by
  refine ⟨?_, ?_⟩ <;> src_tie [Src.meanAnomalySrc, Src.trueAnomalySrc, meanAnomaly, trueAnomaly]

end Source

/-! ## state → elements → state -/
section StateToElements

/-- **`kepler2trs ∘ trs2kepler = id`** over ℝ: converting the elements back reproduces position and velocity, for
every state with `r ≠ 0` that is bound (`v² < 2 GM / |r|`), inclined (`h = r × v` not along the z axis; this also
says `h ≠ 0`) and non-circular (the eccentricity `trs2kepler` returns is positive; see `noncircular_iff` and
`kepler2trs_trs2kepler_of_dot_ne` for conditions on the state alone). -/
theorem kepler2trs_trs2kepler (GM : ℝ) (s : V6 ℝ) (hGM : 0 < GM) (hr : s.p.norm2 ≠ 0)
    (hbound : s.v.norm2 < 2 * GM / s.p.norm)
    (hincl : (V3.cross s.p s.v).x ^ 2 + (V3.cross s.p s.v).y ^ 2 ≠ 0)
    (hecc : 0 < (trs2kepler GM s).e) :
    kepler2trs GM (trs2kepler GM s) = s :=
  KepInv.kepler2trs_trs2kepler GM s ⟨hGM, hr, hbound, hincl, hecc⟩

/-- non-circular, as a condition on the state: `|h|² < GM a` -/
theorem noncircular_iff (GM : ℝ) (s : V6 ℝ) (hGM : 0 < GM) (ha : 0 < (trs2kepler GM s).a) :
    0 < (trs2kepler GM s).e ↔ (V3.cross s.p s.v).norm2 < GM * (trs2kepler GM s).a :=
  KepInv.e_pos_iff GM s hGM ha

-- `hdot` is not needed: `KepInv.kepler2trs_trs2kepler_of_bound` holds for circular orbits too
set_option linter.unusedVariables false in
/-- the same without the condition on the returned eccentricity; the hypothesis `r · v ≠ 0` (the state is not at
perigee or apogee — in particular the orbit is not circular) is carried by the statement and not needed -/
theorem kepler2trs_trs2kepler_of_dot_ne (GM : ℝ) (s : V6 ℝ) (hGM : 0 < GM) (hr : s.p.norm2 ≠ 0)
    (hbound : s.v.norm2 < 2 * GM / s.p.norm)
    (hincl : (V3.cross s.p s.v).x ^ 2 + (V3.cross s.p s.v).y ^ 2 ≠ 0) (hdot : V3.dot s.p s.v ≠ 0) :
    kepler2trs GM (trs2kepler GM s) = s :=
  KepInv.kepler2trs_trs2kepler_of_bound GM s ⟨hGM, hr, hbound, hincl⟩

/-- the hypotheses hold for `GM = 1`, `r = (1, 0, 0)`, `v = (0, 1/2, 1/2)` (`a = 2/3`, `e = 1/2`, `i = π/4`) -/
example : kepler2trs (1 : ℝ) (trs2kepler 1 ⟨⟨1, 0, 0⟩, ⟨0, 1 / 2, 1 / 2⟩⟩) = ⟨⟨1, 0, 0⟩, ⟨0, 1 / 2, 1 / 2⟩⟩ :=
  have h := KepInv.regular_example
  kepler2trs_trs2kepler 1 _ h.hGM h.hr h.bound h.inclined h.noncircular

end StateToElements

/-! ## principal ranges of the elements `trs2kepler` returns -/
section Ranges

/-- for every state (no hypothesis): `0 ≤ i ≤ π`, `Ω ∈ (−π, π]`, `ω ∈ [0, 2π)` (after the code's `omega < 0` wrap),
`E ∈ (−π, π]`, `e ≥ 0` -/
theorem principal_ranges (GM : ℝ) (w : V6 ℝ) :
    0 ≤ (trs2kepler GM w).i ∧ (trs2kepler GM w).i ≤ Real.pi ∧
    -Real.pi < (trs2kepler GM w).Omega ∧ (trs2kepler GM w).Omega ≤ Real.pi ∧
    0 ≤ (trs2kepler GM w).omega ∧ (trs2kepler GM w).omega < 2 * Real.pi ∧
    -Real.pi < (trs2kepler GM w).E ∧ (trs2kepler GM w).E ≤ Real.pi ∧
    0 ≤ (trs2kepler GM w).e := by
  simp only [trs2kepler, trig_sqrt, trig_sin, trig_cos, trig_pi]
  refine ⟨(atan2_nonneg_iff _ _).2 (Real.sqrt_nonneg _), (atan2_mem_Ioc _ _).2,
    (atan2_mem_Ioc _ _).1, (atan2_mem_Ioc _ _).2, ?_, ?_,
    (atan2_mem_Ioc _ _).1, (atan2_mem_Ioc _ _).2, Real.sqrt_nonneg _⟩
  · exact (wrap_range (atan2_mem_Ioc _ _) (atan2_mem_Ioc _ _)).1
  · exact (wrap_range (atan2_mem_Ioc _ _) (atan2_mem_Ioc _ _)).2

/-- a bound orbit (negative energy: `v² < 2 GM / r`) has a positive semi-major axis and, when the angular
momentum does not vanish, an eccentricity below 1 -/
theorem bound_orbit (GM : ℝ) (w : V6 ℝ) (hGM : 0 < GM) (hr : 0 < w.p.norm)
    (hbound : w.v.norm * w.v.norm < 2 * GM / w.p.norm) (hh : (V3.cross w.p w.v).norm ≠ 0) :
    0 < (trs2kepler GM w).a ∧ (trs2kepler GM w).e < 1 :=
  ⟨trs2kepler_bound GM w hGM hr hbound, trs2kepler_e_lt_one GM w hGM (trs2kepler_bound GM w hGM hr hbound) hh⟩

/-- the hypotheses of `bound_orbit` hold for `GM = 1`, `r = (1, 0, 0)`, `v = (0, 1, 0)` -/
example : 0 < (trs2kepler (1 : ℝ) ⟨⟨1, 0, 0⟩, ⟨0, 1, 0⟩⟩).a ∧ (trs2kepler (1 : ℝ) ⟨⟨1, 0, 0⟩, ⟨0, 1, 0⟩⟩).e < 1 := by
  obtain ⟨h1, h2, h3⟩ := circular_hyps
  simp only at h1 h2 h3
  exact bound_orbit 1 _ one_pos (by rw [h1]; exact one_pos) (by rw [h1, h2]; norm_num) (by rw [h3]; exact one_ne_zero)

/-- `KeplerPosVel.f` is in `(−π, π]`, positive on the ascending half of the orbit (`sin E > 0`) and negative on the
descending half (`sin E < 0`) -/
theorem true_anomaly_range_and_sign (e E : ℝ) (he0 : 0 ≤ e) (he1 : e < 1) :
    trueAnomaly e E ∈ Set.Ioc (-Real.pi) Real.pi ∧ (0 < Real.sin E → 0 < trueAnomaly e E) ∧
      (Real.sin E < 0 → trueAnomaly e E < 0) :=
  ⟨trueAnomaly_mem_Ioc e E, fun h => trueAnomaly_pos he0 he1 h, fun h => trueAnomaly_neg he0 he1 h⟩

end Ranges

/-! ## the conversion cache of `PosVel` objects in every history -/
section Cache
open Midgard.Geo.PosCache
variable {A : Type} [Arr A]

/-- **cache coherence**: after every history `ops` of constructions, conversions, views, row copies and in-place
writes (started from the empty store), `objs[o].to_system(s)` hands out an object that holds the conversion of
the *current* contents of `objs[o]` (the object itself for its own system), and asking changes the contents
of no object. -/
theorem cache_coherent (a : A) (ops : List (Op A)) (o : Nat) (s : Sys) (ho : o < (run (empty a) ops).n) :
    contents (toSystem (run (empty a) ops) o s).1 (toSystem (run (empty a) ops) o s).2 =
      (if s = ((run (empty a) ops).obj o).sys then contents (run (empty a) ops) o
       else Arr.conv s (contents (run (empty a) ops) o)) ∧
    ∀ j, j < (run (empty a) ops).n →
      contents (toSystem (run (empty a) ops) o s).1 j = contents (run (empty a) ops) j :=
  toSystem_spec (wf_run (wf_empty a) ops) ho s

/-- an array handed out as a conversion keeps its values when the array it was converted from is written to
(`k = orbit.kepler; orbit[key] = v`: `k` is unchanged) — it lives on a memory block of its own -/
theorem kept_conversion_unchanged (a : A) (ops : List (Op A)) (o c : Nat) (key : String) (v : A)
    (ho : o < (run (empty a) ops).n) (hc : ((run (empty a) ops).obj o).cache = some c) :
    contents (setItem (run (empty a) ops) o key v) c = contents (run (empty a) ops) c :=
  have ⟨_, _, _, _, hbuf⟩ := (wf_run (wf_empty a) ops).cache_ok o ho c hc
  setItem_contents_other _ o key v hbuf

/-- a write changes no object that lives on another memory block -/
theorem write_is_local (st : Store A) (o j : Nat) (key : String) (v : A)
    (h : (st.obj j).buf ≠ (st.obj o).buf) : contents (setItem st o key v) j = contents st j :=
  setItem_contents_other st o key v h

/-- a view holds the rows cut out of its parent -/
theorem view_holds_rows (st : Store A) (o : Nat) (key : String) :
    contents (view st o key).1 (view st o key).2 = Arr.get key (contents st o) :=
  view_contents_new o key

/-- a conversion handed out before a write, on symbolic values: `orbit = PosVel(L0, 'trs'); k = orbit.kepler;
orbit[:] = L1; k.trs` is `kepler2trs(trs2kepler(L0))` (not `L1`), and `orbit.kepler` is `trs2kepler` of
`orbit` after the write -/
example :
    let st := run (empty (Term.lit 0)) [Op.new .trs (.lit 0), .toSys 0 .kepler, .set 0 "a" (.lit 1)]
    st.n = 2 ∧ contents (toSystem st 1 .trs).1 (toSystem st 1 .trs).2 = Term.conv .trs (Term.conv .kepler (.lit 0)) ∧
      contents (toSystem st 0 .kepler).1 (toSystem st 0 .kepler).2 = Term.conv .kepler (Term.put "a" (.lit 1) (.lit 0)) := by
  refine ⟨rfl, rfl, rfl⟩

end Cache

end Midgard.Props.C07

#print axioms Midgard.Props.C07.kepler_equation
#print axioms Midgard.Props.C07.true_anomaly_half_angle
#print axioms Midgard.Props.C07.half_angle_factor
#print axioms Midgard.Props.C07.trs2kepler_kepler2trs
#print axioms Midgard.Props.C07.source_kepler2trs
#print axioms Midgard.Props.C07.source_trs2kepler
#print axioms Midgard.Props.C07.source_anomalies
#print axioms Midgard.Props.C07.principal_ranges
#print axioms Midgard.Props.C07.bound_orbit
#print axioms Midgard.Props.C07.true_anomaly_range_and_sign
#print axioms Midgard.Props.C07.cache_coherent
#print axioms Midgard.Props.C07.kept_conversion_unchanged
#print axioms Midgard.Props.C07.write_is_local
#print axioms Midgard.Props.C07.view_holds_rows
#print axioms Midgard.Props.C07.kepler2trs_trs2kepler
#print axioms Midgard.Props.C07.noncircular_iff
#print axioms Midgard.Props.C07.kepler2trs_trs2kepler_of_dot_ne
#print axioms Midgard.Props.C07.source_einsum
#print axioms Midgard.Props.C07.source_omega_wrap
#print axioms Midgard.Props.C07.source_assemble
#print axioms Midgard.Props.C07.source_trs2kepler_full
#print axioms Midgard.Props.C07.source_kepler2trs_full
