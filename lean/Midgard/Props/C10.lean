/-
C10 — Writing a Dataset to disk and reading it back is the identity.

Property theorems about the attribute codec (`Model/H5Attr.lean`, its stored text `Model/H5AttrText.lean`), write / read over
an abstract tree of HDF5 groups with the two memos `id ↦ field name`, `field name ↦ object` (`Model/H5Dataset.lean`; with the
user-registered `time` attribute of positions `Model/H5Time.lean`), meta information and `vars` (`Model/H5Meta.lean`) and bit
patterns (`Model/H5Bits.lean`).

Two models of the store: `writeDS` / `readBack`, and `writeDSX` / `readBackX` with the `time` attribute (names with `X`), which is
the first when no `time` is attached (`time_attribute_conservative`).  Three hypotheses "a dataset that can be written":
`WritableS` (one array may be held by several fields: the hypothesis of the theorems), `Writable` (`WritableS` and pairwise
different array objects, `writable_imp_writableS`: the stricter predicate the driver also evaluates, for the coverage counts)
and `WritableX` (`WritableS`, and what is attached as `time` is a time).  The strongest theorem is `read_write_time`
(`roundTrip_coreX`, `Proofs/H5RoundTrip.lean`); `read_write` (`roundTrip_coreS`) is its case with no `time` attached.

`WritableS h d ℓ` is a decidable predicate of the model (`Model/H5Dataset.lean`; the driver evaluates it on every generated
dataset).  Under it `readBack` of the written file is `restrict d ℓ` over a heap in which the array objects are renumbered by a
map `φ`: the renumbering is the model's `id()`, object numbers are allocation order.  `φ` is a total function; outside the
reachable objects the theorems say nothing about it.

Not covered by `WritableS` (so outside the theorems): attachments of the plain classes, cyclic references, a delta
without `ref_pos`.
-/
import Midgard.Proofs.H5Consequences
import Midgard.Proofs.H5PlainWrite

namespace Midgard.Props.C10
open Midgard.H5Attr Midgard.H5 Midgard.Dataset

/-- `decode_h5attr (encode_h5attr m) = m` for every meta tree that can be saved -/
theorem decode_encode (m : Meta) (a : Attr) (h : encode m = some a) : decode a = some m :=
  Midgard.H5Attr.decode_encode m a h

/-- only a bare `None` cannot be saved -/
theorem savable (m : Meta) (h : m ≠ .atom .none) : (encode m).isSome = true := by
  cases m with
  | atom x => cases x <;> simp [encode] at h ⊢
  | _ => simp [encode]

/-- strings are opaque to the codec: a string is stored and returned as it is, also when it spells
`nan`, `inf` or a Python literal -/
theorem strings_untouched (s : String) :
    (encode (.atom (.str s))).bind decode = some (.atom (.str s)) ∧
    (encode (.list [.atom (.str s), .atom .nan])).bind decode = some (.list [.atom (.str s), .atom .nan]) := by
  constructor
  · simp [encode, decode]
  · simp only [encode, Option.bind_some, decode]
    exact evalAst_toAst _

/-- **the codec at the level of the stored text**: `"<tag> " + str(data)` / `"str " + data`, split again at the first blank
(`attr.partition(" ")`), the empty-container spellings (`if not attr or attr == "<tag>()"`), a text whose first word is no
tag returned as it is — `decodeText (encodeText m) = m` for every meta tree that can be saved, given that CPython's `str()`
and `ast.parse` are inverse on literals (`Printer`: the trusted part, a hypothesis of the theorem) -/
theorem text_decode_encode {render : Ast → List Char} {parse : List Char → Option Ast} (P : Printer render parse)
    (m : Meta) (a : TAttr) (h : encodeText render m = some a) : decodeText parse a = some m := by
  -- a container: the empty spelling `<tag>()` is what `str()` prints only for the empty container (`Printer.special`)
  have container : ∀ (tag : String) (m : Meta), tag ∈ containerTags →
      decodeText parse (.text ((tag ++ " ").toList ++ render (toAst m))) = some m := by
    intro tag m htag
    simp only [decodeText, dispatch_tagged tag htag _ (P.nonempty _)]
    by_cases heq : render (toAst m) = (tag ++ "()").toList
    · simp only [heq, if_true]
      exact (P.special _ tag htag heq).symm.trans (evalAst_toAst m)
    · simp only [heq, if_false, P.parse_render, Option.bind_some, evalAst_toAst]
  cases m with
  | atom x =>
    cases x with
    | str s =>
      simp only [encodeText, Option.some.injEq] at h
      subst h
      simp only [decodeText, dispatch_str, String.ofList_toList]
    | none => simp [encodeText] at h
    | int i => simp only [encodeText, Option.some.injEq] at h; subst h; rfl
    | flt q => simp only [encodeText, Option.some.injEq] at h; subst h; rfl
    | nan => simp only [encodeText, Option.some.injEq] at h; subst h; rfl
    | inf => simp only [encodeText, Option.some.injEq] at h; subst h; rfl
    | ninf => simp only [encodeText, Option.some.injEq] at h; subst h; rfl
    | bool b => simp only [encodeText, Option.some.injEq] at h; subst h; rfl
  | list xs =>
    simp only [encodeText, Option.some.injEq] at h
    subst h
    exact container "list" (.list xs) (by simp [containerTags])
  | tuple xs =>
    simp only [encodeText, Option.some.injEq] at h
    subst h
    exact container "tuple" (.tuple xs) (by simp [containerTags])
  | set xs =>
    simp only [encodeText, Option.some.injEq] at h
    subst h
    exact container "set" (.set xs) (by simp [containerTags])
  | dict kvs =>
    simp only [encodeText, Option.some.injEq] at h
    subst h
    exact container "dict" (.dict kvs) (by simp [containerTags])

/-- why strings carry the prefix whatever they spell: the bare texts `list`, `set`, `str` would be decoded as an empty list,
an empty set, an empty string; with the prefix the words come back as they were -/
example : dispatchText "list".toList = .empty "list" ∧ dispatchText "set".toList = .empty "set" ∧
    dispatchText "str".toList = .str [] ∧ dispatchText "str list".toList = .str "list".toList ∧
    dispatchText "nan inf".toList = .str "nan inf".toList := by decide

/-- "Fields below the requested write level, and only those, are omitted": the file written for a
dataset lists, in order, exactly the fields of `restrict d ℓ`, with their types -/
theorem level_filter (h : Heap) (d : DS) (lvl : Nat) (file : File) (hw : writeDS h d lvl = .ok file) :
    file.numObs = d.numObs ∧
    file.members = (restrictFields lvl d.fields).map (fun f => (f.name, fieldType f)) ∧
    file.groups.map (·.1) = (restrictFields lvl d.fields).map Field.name := by
  simp only [writeDS] at hw
  split at hw
  · simp at hw
  · rename_i groups mem memo' hwf
    simp only [Except.ok.injEq] at hw; subst hw
    obtain ⟨a, b⟩ := writeFields_names h lvl d.fields [] _ groups mem memo' hwf
    exact ⟨rfl, b, a⟩

/-- the same inside every collection -/
theorem level_filter_nested (h : Heap) (lvl : Nat) (fs : List Field) (pre : Path) (memo : WMemo)
    (groups : List (String × Grp)) (mem : List (String × Option Kind)) (memo' : WMemo)
    (hw : writeField.writeFields h lvl fs pre memo = .ok (groups, mem, memo')) :
    groups.map (·.1) = (restrictFields lvl fs).map Field.name ∧
    mem = (restrictFields lvl fs).map (fun f => (f.name, fieldType f)) :=
  writeFields_names h lvl fs pre memo groups mem memo' hw

/-- every field of `restrict d ℓ` has level ≥ ℓ -/
theorem restricted_fields_have_level (lvl : Nat) (fs : List Field) :
    ∀ f ∈ restrictFields lvl fs, lvl ≤ Midgard.H5.Field.level f := by
  induction fs with
  | nil =>
    intro f hf
    simp [restrictFields] at hf
  | cons g gs ih =>
    intro f hf
    by_cases hlv : Midgard.H5.Field.level g < lvl
    · rw [restrict_skip hlv] at hf
      exact ih f hf
    · rw [restrict_keep hlv] at hf
      rcases List.mem_cons.mp hf with rfl | hf
      · cases g <;> exact Nat.le_of_not_lt hlv
      · exact ih f hf

/-- an array without references is read back bit for bit -/
theorem array_bit_identical (h : Heap) (u : Option (List String)) (l : Nat) (file : File) (o : Nat) (ob : Obj) (p : Path) (wm : WMemo)
    (g : Grp) (wm' : WMemo) (fw fr : Nat) (s : RSt)
    (hob : h[o]? = some ob) (hk : attrName ob.kind = none)
    (hw : writeArr h u l (fw + 1) o p wm = .ok (g, wm')) :
    wm' = wm ∧ g.attrs.fieldname = p ∧
    ∃ s', readArr file (fr + 1) g s = .ok (s.heap.length, s') ∧ s'.heap = s.heap ++ [ob.strip] := by
  simp only [writeArr, hob, hk, Except.ok.injEq, Prod.mk.injEq] at hw
  obtain ⟨rfl, rfl⟩ := hw
  refine ⟨rfl, rfl, ?_⟩
  have hk' : attrName ob.strip.kind = none := hk
  simp only [readArr, hk', RSt.alloc]
  split <;> exact ⟨_, rfl, rfl⟩

/-- units: `None ↔ ""`, a real unit tuple as it is -/
theorem units_identical (u : Option (List String)) (hu : ∀ us, u = some us → us.any (fun x => !x.isEmpty) = true) :
    readUnit u = u := readUnit_id u hu

/-- **`read (write d ℓ) = restrict d ℓ`**, up to the numbering `φ` of the array objects (`id()` in the
code): the write succeeds; the read gives the declared number of observations and exactly the fields of
`restrict d ℓ` (order, names, types, units, levels, lengths, nesting) with every array object `o`
replaced by `φ o`; every object reachable from these fields (through `other` / `ref_pos`, to any depth)
is mapped to an object with the same kind, shape and rows whose reference is the image of the old one;
`φ` is injective on the reachable objects (no two objects are merged, no object is duplicated). -/
theorem read_write (h : Heap) (d : DS) (lvl : Nat) (hw : WritableS h d lvl) :
    ∃ (file : File) (h' : Heap) (φ : Nat → Nat), writeDS h d lvl = .ok file ∧
      readBack h d file = .ok (h', { numObs := d.numObs, fields := renameFields φ (restrictFields lvl d.fields) }) ∧
      (∀ x, Reach h (restrictFields lvl d.fields) x → ∃ ob, h[x]? = some ob ∧ h'[φ x]? = some (ob.rename φ)) ∧
      (∀ x y, Reach h (restrictFields lvl d.fields) x → Reach h (restrictFields lvl d.fields) y → φ x = φ y → x = y) :=
  roundTrip_coreS h d lvl hw (Nat.le_refl _) (Nat.le_refl _)

/-- **cross references**: for any two field paths `p`, `q` — the attached object (`other` / `ref_pos`) of
field `p` *is* the array of field `q` after the read iff it was before.  `q` may be an earlier or a later
field, or a field inside a collection at any depth. -/
theorem refs_restored (h : Heap) (d : DS) (lvl : Nat) (hw : WritableS h d lvl) :
    ∃ (file : File) (h' : Heap) (d' : DS), writeDS h d lvl = .ok file ∧ readBack h d file = .ok (h', d') ∧
      ∀ p q : Path,
        (∃ o ob x, leafAt (restrictFields lvl d.fields) p = some o ∧ h[o]? = some ob ∧ ob.ref = some x ∧
          leafAt (restrictFields lvl d.fields) q = some x) ↔
        (∃ o' ob' x', leafAt d'.fields p = some o' ∧ h'[o']? = some ob' ∧ ob'.ref = some x' ∧
          leafAt d'.fields q = some x') :=
  roundTrip_prop h d lvl hw fun h' φ iso p q => iso.refs_paths p q

/-- **shared attachments**: two fields whose arrays each have an attached object share *one* object after
the read iff they shared one before (an anonymous position attached to several fields stays one object;
two equal-looking attachments stay two). -/
theorem sharing_restored (h : Heap) (d : DS) (lvl : Nat) (hw : WritableS h d lvl) :
    ∃ (file : File) (h' : Heap) (d' : DS), writeDS h d lvl = .ok file ∧ readBack h d file = .ok (h', d') ∧
      ∀ (p1 p2 : Path) (o1 o2 x1 x2 : Nat) (ob1 ob2 : Obj),
        leafAt (restrictFields lvl d.fields) p1 = some o1 → leafAt (restrictFields lvl d.fields) p2 = some o2 →
        h[o1]? = some ob1 → h[o2]? = some ob2 → ob1.ref = some x1 → ob2.ref = some x2 →
        ∃ o1' o2' ob1' ob2' x1' x2', leafAt d'.fields p1 = some o1' ∧ leafAt d'.fields p2 = some o2' ∧
          h'[o1']? = some ob1' ∧ h'[o2']? = some ob2' ∧ ob1'.ref = some x1' ∧ ob2'.ref = some x2' ∧
          (x1' = x2' ↔ x1 = x2) :=
  roundTrip_prop h d lvl hw fun h' φ iso p1 p2 _ _ _ _ _ _ a b c e f g => iso.sharing p1 p2 a b c e f g

/-- **every reference topology, chains included**: for every object `z` reachable from the written fields
(a field's array, its attachment, the attachment's attachment, …) that has a reference `y`: after the read
the image of `z` refers to the image of `y`; an object is the array of the field at `q` after the read iff
it was before (so an attachment that was no field is no field); different objects stay different. -/
theorem refs_restored_chains (h : Heap) (d : DS) (lvl : Nat) (hw : WritableS h d lvl) :
    ∃ (file : File) (h' : Heap) (φ : Nat → Nat), writeDS h d lvl = .ok file ∧
      readBack h d file = .ok (h', { numObs := d.numObs, fields := renameFields φ (restrictFields lvl d.fields) }) ∧
      (∀ z y ob, Reach h (restrictFields lvl d.fields) z → h[z]? = some ob → ob.ref = some y →
        ∃ ob', h'[φ z]? = some ob' ∧ ob'.ref = some (φ y) ∧ Reach h (restrictFields lvl d.fields) y) ∧
      (∀ x q, Reach h (restrictFields lvl d.fields) x →
        (leafAt (renameFields φ (restrictFields lvl d.fields)) q = some (φ x) ↔
          leafAt (restrictFields lvl d.fields) q = some x)) ∧
      (∀ x y, Reach h (restrictFields lvl d.fields) x → Reach h (restrictFields lvl d.fields) y → φ x = φ y → x = y) := by
  obtain ⟨file, h', φ, hwr, hrd, iso⟩ := roundTrip_iso h d lvl hw
  exact ⟨file, h', φ, hwr, hrd, fun z y ob hz hob hr => iso.ref hz hob hr, fun x q hx => iso.fieldness hx q, iso.inj⟩

/-- **arrays shared between fields**: for any two field paths `p`, `q` — the fields hold one array object after the read
iff they held one before (an array added to the dataset under two names, in the same or in different collections, at any
depth, is one object again; two equal-looking arrays stay two). -/
theorem field_sharing_restored (h : Heap) (d : DS) (lvl : Nat) (hw : WritableS h d lvl) :
    ∃ (file : File) (h' : Heap) (d' : DS), writeDS h d lvl = .ok file ∧ readBack h d file = .ok (h', d') ∧
      ∀ p q : Path,
        (∃ o, leafAt (restrictFields lvl d.fields) p = some o ∧ leafAt (restrictFields lvl d.fields) q = some o) ↔
        (∃ o', leafAt d'.fields p = some o' ∧ leafAt d'.fields q = some o') :=
  roundTrip_prop h d lvl hw fun h' φ iso p q => iso.field_sharing p q

/-- `Writable` (additionally pairwise different array objects) implies `WritableS` -/
theorem writable_imp_writableS (h : Heap) (d : DS) (lvl : Nat) (hw : Writable h d lvl) : WritableS h d lvl := hw.toS

/-- "Fields below the requested write level, and only those, are omitted", on `restrict`, at every nesting
depth: `restrict d ℓ` has a field at `path` iff `d` has one there and that field and every collection
around it has write level ≥ ℓ (field names unique, as dict keys are) -/
theorem restrict_omits_iff_below_level (lvl : Nat) (fs : List Field) (hn : namesOK fs = true) (p : Path) :
    (findField (restrictFields lvl fs) p).isSome = visible lvl fs p :=
  findField_restrict lvl p fs hn

/-- the same on the dataset read back from the file -/
theorem omitted_iff_below_level (h : Heap) (d : DS) (lvl : Nat) (hw : WritableS h d lvl) (hn : namesOK d.fields = true) :
    ∃ (file : File) (h' : Heap) (d' : DS), writeDS h d lvl = .ok file ∧ readBack h d file = .ok (h', d') ∧
      ∀ p : Path, (findField d'.fields p).isSome = visible lvl d.fields p := by
  refine roundTrip_prop h d lvl hw fun h' φ _ p => ?_
  show (findField (renameFields φ (restrictFields lvl d.fields)) p).isSome = _
  rw [findField_rename, Option.isSome_map, findField_restrict lvl p d.fields hn]

/-- a heap with: an anonymous position shared by two fields (0), a position field `b` that comes *after*
the field `a` that refers to it (1, 2), arrays of a nested collection (3, 4, 6, 9), an anonymous posvel (5)
that is the `ref_pos` of the delta `c.d` and itself refers to the field `c.deep.b2` (a chain), a field below
the level that shares the anonymous position (7), a time (8) -/
def exHeap : Heap :=
  let r3 : Row := [.num 1, .num 2, .num 3]
  let r6 : Row := [.num 1, .num 2, .num 3, .num 4, .num 5, .num 6]
  [ { kind := .position, ndim := 2, cols := 3, rows := [r3, r3] },
    { kind := .position, ndim := 2, cols := 3, rows := [r3, r3], other := some 0 },
    { kind := .position, ndim := 2, cols := 3, rows := [r3, r3], other := some 1 },
    { kind := .float, ndim := 1, cols := 1, rows := [[.num (1/2)], [.nan]] },
    { kind := .posvel, ndim := 2, cols := 6, rows := [r6, r6] },
    { kind := .posvel, ndim := 2, cols := 6, rows := [r6, r6], other := some 4 },
    { kind := .posvelDelta, ndim := 2, cols := 6, rows := [r6, r6], refPos := some 5 },
    { kind := .position, ndim := 2, cols := 3, rows := [r3, r3], other := some 0 },
    { kind := .time, ndim := 1, cols := 1, rows := [[.num 2451545, .num 0], [.num 2451545, .num (1/2)]] },
    { kind := .text, ndim := 1, cols := 1, rows := [[.txt "nan"], [.txt " x"]] } ]

def exFields : List Field :=
  [ .leaf "a" .position 2 2 (some ["meter", "meter", "meter"]) 3,
    .leaf "t" .time 8 2 none 2,
    .coll "c" 2 2 [ .leaf "x" .float 3 2 (some ["byte"]) 3, .leaf "d" .posvelDelta 6 2 none 2,
                    .leaf "y" .text 9 2 none 1, .coll "deep" 2 3 [ .leaf "b2" .posvel 4 2 none 2 ] ],
    .leaf "b" .position 1 2 none 3,
    .leaf "e" .position 7 2 none 1 ]

def exDS : DS := { numObs := 2, fields := exFields }

/-- at level 2 the fields `c.y` and `e` are omitted -/
theorem exRestrict : restrictFields 2 exDS.fields =
    [ .leaf "a" .position 2 2 (some ["meter", "meter", "meter"]) 3,
      .leaf "t" .time 8 2 none 2,
      .coll "c" 2 2 [ .leaf "x" .float 3 2 (some ["byte"]) 3, .leaf "d" .posvelDelta 6 2 none 2,
                      .coll "deep" 2 3 [ .leaf "b2" .posvel 4 2 none 2 ] ],
      .leaf "b" .position 1 2 none 3 ] := by
  simp [exDS, exFields, restrictFields, Midgard.H5.Field.level]

example : Writable exHeap exDS 2 := by
  have h1 : heapOK exHeap = true := by decide +kernel
  simp only [Writable, writableB, exRestrict, h1]
  simp [fieldsOK, namesOK, leafObjs, nodupB, unitOK, objLen, exHeap, exDS, Midgard.Dataset.names, Field.name]

/-- the left-hand side of `refs_restored` is inhabited: `a`'s `other` is the later field `b` -/
example : ∃ o ob x, leafAt (restrictFields 2 exDS.fields) ["a"] = some o ∧ exHeap[o]? = some ob ∧ ob.ref = some x ∧
    leafAt (restrictFields 2 exDS.fields) ["b"] = some x := by
  refine ⟨2, _, 1, ?_, rfl, rfl, ?_⟩ <;> rw [exRestrict] <;> rfl

/-- a chain: field `c.d` (6) → anonymous posvel (5) → field `c.deep.b2` (4); the field `e` is omitted -/
example : Reach exHeap (restrictFields 2 exDS.fields) 4 ∧ Reach exHeap (restrictFields 2 exDS.fields) 5 ∧
    leafAt (restrictFields 2 exDS.fields) ["c", "deep", "b2"] = some 4 ∧ leafAt (restrictFields 2 exDS.fields) ["e"] = none := by
  have h6 : Reach exHeap (restrictFields 2 exDS.fields) 6 := .field (by simp [exRestrict, leafObjs])
  have h5 : Reach exHeap (restrictFields 2 exDS.fields) 5 := .ref (ob := exHeap[6]) h6 rfl rfl
  refine ⟨.ref (ob := exHeap[5]) h5 rfl rfl, h5, ?_, ?_⟩ <;> rw [exRestrict] <;> rfl

/-- a dataset in which two fields hold one array object is not `Writable` (that such a dataset can be `WritableS`, the hypothesis
of the theorems, is shown on `exAliasDS` below) -/
example : ¬ Writable exHeap { numObs := 2, fields := [.leaf "a" .position 2 2 none 3, .leaf "a2" .position 2 2 none 3] } 2 := by
  simp [Writable, writableB, restrictFields, Midgard.H5.Field.level, leafObjs, nodupB]

/-- **floats are read back bit for bit** — the sign of a zero, the payload of a NaN, subnormals: for every object
reachable from the written fields whose rows are given as 64-bit patterns (`bitsRows ws`, the IEEE-754 words of its
doubles), the object read back has exactly these words (`rowsBits`), row by row, column by column.  The word cells are
what the correspondence sends for every numeric array (driver mode `rtbits`). -/
theorem bits_identical (h : Heap) (d : DS) (lvl : Nat) (hw : WritableS h d lvl) :
    ∃ (file : File) (h' : Heap) (φ : Nat → Nat), writeDS h d lvl = .ok file ∧
      readBack h d file = .ok (h', { numObs := d.numObs, fields := renameFields φ (restrictFields lvl d.fields) }) ∧
      ∀ (x : Nat) (ob : Obj) (ws : List (List UInt64)), Reach h (restrictFields lvl d.fields) x → h[x]? = some ob →
        ob.rows = bitsRows ws → ∃ ob', h'[φ x]? = some ob' ∧ rowsBits ob'.rows = ws.map some := by
  obtain ⟨file, h', φ, hwr, hrd, iso⟩ := roundTrip_iso h d lvl hw
  refine ⟨file, h', φ, hwr, hrd, fun x ob ws hx hob hrows => ?_⟩
  obtain ⟨ob0, h0, h1⟩ := iso.img x hx
  rw [hob] at h0
  cases h0
  exact ⟨_, h1, by rw [rename_rows, hrows, rowsBits_bitsRows]⟩

/-- the words are an injective code of the cells: −0.0 (`0x8000000000000000`) and +0.0, two NaNs with different payloads
are different cells -/
example : cellBits (bitsCell 0x8000000000000000) = some 0x8000000000000000 ∧ bitsCell 0x8000000000000000 ≠ bitsCell 0 ∧
    bitsCell 0x7ff8000000000000 ≠ bitsCell 0x7ff8000000000001 := by
  refine ⟨cellBits_bitsCell _, ?_, ?_⟩ <;> decide

/-- **`Meta.read (Meta.write m) = m`**: every key of `dset.meta` comes back with its value, for every nesting of
dicts, lists, tuples, sets, strings, numbers, booleans, NaN and infinities -/
theorem meta_read_write (m : MetaDict) (as : List (String × Attr)) (h : writeMeta m = some as) : readMeta as = some m :=
  readMeta_writeMeta m as h

/-- the group `__meta__` has exactly the keys of the meta as attribute names, and the write succeeds iff no value is a
bare `None` -/
theorem meta_written (m : MetaDict) :
    ((writeMeta m).isSome = metaOK m) ∧ ∀ as, writeMeta m = some as → as.map (·.1) = m.map (·.1) := by
  refine ⟨?_, writeMeta_keys m⟩
  induction m with
  | nil => rfl
  | cons kv r ih =>
    simp only [writeMeta, metaOK, ← ih]
    cases encode kv.2 <;> cases writeMeta r <;> rfl

/-- **`read (write d ℓ) = restrict d ℓ` for the whole dataset**: fields as in `read_write`, and the meta information
and the `vars` come back as they were -/
theorem read_write_full (h : Heap) (d : DSM) (lvl : Nat) (hw : WritableS h d.ds lvl) (hm : metaOK d.info = true) :
    ∃ (fm : FileM) (h' : Heap) (φ : Nat → Nat), writeDSM h d lvl = .ok (some fm) ∧
      readBackM h d fm = .ok (h', { ds := { numObs := d.ds.numObs, fields := renameFields φ (restrictFields lvl d.ds.fields) },
                                    info := d.info, vars := d.vars }) ∧
      (∀ x, Reach h (restrictFields lvl d.ds.fields) x → ∃ ob, h[x]? = some ob ∧ h'[φ x]? = some (ob.rename φ)) ∧
      (∀ x y, Reach h (restrictFields lvl d.ds.fields) x → Reach h (restrictFields lvl d.ds.fields) y → φ x = φ y → x = y) := by
  obtain ⟨file, h', φ, hwr, hrd, himg, hinj⟩ := roundTrip_coreS h d.ds lvl hw (Nat.le_refl _) (Nat.le_refl _)
  obtain ⟨as, has⟩ := writeMeta_isSome d.info hm
  have hv : encode (.dict d.vars) = some (.tagged "dict" (toAst (.dict d.vars))) := rfl
  refine ⟨{ file := file, metaAttrs := as, vars := .tagged "dict" (toAst (.dict d.vars)) }, h', φ, ?_, ?_, himg, hinj⟩
  · simp only [writeDSM, hwr, has, hv]
  · have hd : decode (.tagged "dict" (toAst (.dict d.vars))) = some (.dict d.vars) := decode_encode _ _ hv
    simp only [readBackM, readDSM, hd, hrd, readMeta_writeMeta d.info as has]

/-- the hypotheses of `read_write_full` are satisfiable: meta with a string spelling `nan`, a nested dict with a `None`
and a NaN inside, an empty set; `vars` with tricky strings -/
example : metaOK [("k0", .atom (.str "nan")), ("k1", .dict [(.atom (.str "a"), .list [.atom .none, .atom .nan])]),
    ("k2", .set [])] = true := by simp [metaOK, encode]

/-- a bare `None` cannot be saved: `Dataset.write` raises `TypeError` -/
example : writeDSM exHeap { ds := exDS, info := [("k", .atom .none)] } 2 = .ok none ∨
    ∃ e, writeDSM exHeap { ds := exDS, info := [("k", .atom .none)] } 2 = .error e := by
  cases hw : writeDS exHeap exDS 2 with
  | error e => exact Or.inr ⟨e, by simp [writeDSM, hw]⟩
  | ok f => exact Or.inl (by simp [writeDSM, hw, writeMeta, encode])

/-- **one array, two fields — the write step**: a leaf field whose array the memo knows under another field's name
is written as a group without payload that names that field (`same_as`); the memo is unchanged -/
theorem alias_written_once (h : Heap) (lvl : Nat) (nm : String) (k : Kind) (o no : Nat) (u : Option (List String)) (l : Nat)
    (pre : Path) (memo : WMemo) (name : Path) (hm : memo.lookup o = some name) (hne : name ≠ pre ++ [nm]) :
    ∃ a, writeField h lvl (.leaf nm k o no u l) pre memo = .ok (.mk a none [], memo) ∧
      a.sameAs = some name ∧ a.fieldname = pre ++ [nm] ∧ a.unit = u ∧ a.level = l := by
  have hal : aliasOf memo o (pre ++ [nm]) = some name := by
    simp only [aliasOf, hm]
    have : (name == pre ++ [nm]) = false := by simpa using hne
    simp [this]
  exact ⟨{ fieldname := pre ++ [nm], src := o, unit := u, level := l, sameAs := some name }, by simp only [writeField, hal], rfl, rfl, rfl, rfl⟩

/-- **the read step, that field read before**: the field gets the very object the memo holds for the named field -/
theorem alias_read_shares (file : File) (fa d : Nat) (k : Kind) (a : GAttrs) (p : Option Obj) (subs : List (String × Grp))
    (s : RSt) (name : Path) (o : Nat) (ha : a.sameAs = some name) (hm : s.memo.lookup name = some o) :
    readField file fa (d + 1) (some k) (.mk a p subs) s =
      .ok (.leaf (lastName a.fieldname) k o (objLen s.heap o) (readUnit a.unit) a.level, s.set a.fieldname o) := by
  have h1 : resolveAlias file fa a s = .ok (s.set a.fieldname o) := by simp only [resolveAlias, ha, hm]
  have h2 : (s.set a.fieldname o).memo.lookup a.fieldname = some o := by simp [RSt.set]
  simp only [readField, h1, h2]
  rfl

/-- **the read step, that field not read yet**: it is read now (its own group), both names are entered in the memo with
the one new object — so the named field, when its turn comes, is that object too: `readField` first looks its own
name up in the memo, finds the entry made here, and `_read` is not called a second time -/
theorem alias_read_forward (file : File) (fa d : Nat) (k : Kind) (a : GAttrs) (p : Option Obj) (subs : List (String × Grp))
    (s s' : RSt) (name : Path) (g : Grp) (o : Nat) (ha : a.sameAs = some name) (hm : s.memo.lookup name = none)
    (hg : lookupGrp file.groups name = some g) (hr : fieldRead file fa g s = .ok (o, s')) :
    readField file fa (d + 1) (some k) (.mk a p subs) s =
      .ok (.leaf (lastName a.fieldname) k o (objLen s'.heap o) (readUnit a.unit) a.level, (s'.set name o).set a.fieldname o) ∧
    ((s'.set name o).set a.fieldname o).memo.lookup a.fieldname = some o ∧
    (name ≠ a.fieldname → ((s'.set name o).set a.fieldname o).memo.lookup name = some o) := by
  have h1 : resolveAlias file fa a s = .ok ((s'.set name o).set a.fieldname o) := by simp only [resolveAlias, ha, hm, hg, hr]
  have h2 : ((s'.set name o).set a.fieldname o).memo.lookup a.fieldname = some o := by simp [RSt.set]
  refine ⟨?_, h2, ?_⟩
  · simp only [readField, h1, h2]
    rfl
  · intro hne
    simp only [RSt.set, List.lookup]
    have : (name == a.fieldname) = false := by simpa using hne
    simp [this]

/-- **an array held by several fields is stored once** — for *every* heap, dataset and level for which `Dataset.write`
succeeds (no `Writable`): with `C` the memo of `_construct_memo`, every written leaf field's group is (`RepA`) either the
array itself — exactly when `C` names this very field for the array (the last written field that holds it) — or a group
without payload and without sub-groups whose `same_as` is the name `C` has for the array, which is not this field; and
every name `C` has for an array is the full name of a written field holding that same array.  So of the fields that hold
one array exactly one stores it and all others name that one. -/
theorem shared_array_written_once (h : Heap) (d : DS) (lvl : Nat) (file : File) (hw : writeDS h d lvl = .ok file) :
    RepA.RepLA (constructMemo lvl d.fields [] []) (restrictFields lvl d.fields) [] file.groups ∧
    ∀ o name, (constructMemo lvl d.fields [] []).lookup o = some name → (o, name) ∈ leafPaths (restrictFields lvl d.fields) [] := by
  refine ⟨?_, fun o name hl => (constructMemo_top lvl d.fields (o, name)).mp (Lists.lookup_mem hl)⟩
  simp only [writeDS] at hw
  split at hw
  · simp at hw
  · rename_i groups mem memo' hws
    cases hw
    exact (writeFields_repA h lvl _ d.fields [] _ groups mem memo' (Stable.refl _)
      (leafObjs_keys fun e he => (constructMemo_top lvl d.fields e).mpr he) hws).1

def exAliasHeap : Heap :=
  let r3 : Row := [.num 1, .num 2, .num 3]
  [ { kind := .position, ndim := 2, cols := 3, rows := [r3, r3] },
    { kind := .position, ndim := 2, cols := 3, rows := [r3, r3], other := some 0 } ]

def exAliasDS : DS := { numObs := 2, fields := [ .leaf "a" .position 0 2 none 3, .coll "g" 2 3 [ .leaf "b" .position 0 2 none 3 ],
  .leaf "c" .position 1 2 none 3 ] }

/-- the hypothesis `WritableS` holds for a dataset in which the fields `a` and `g.b` hold one array, which is not
`Writable` -/
example : WritableS exAliasHeap exAliasDS 1 ∧ ¬ Writable exAliasHeap exAliasDS 1 := by
  have h1 : heapOK exAliasHeap = true := by decide +kernel
  constructor
  · simp only [WritableS, writableSB, h1, Bool.true_and]
    simp [exAliasDS, restrictFields, Midgard.H5.Field.level, fieldsOK, namesOK, unitOK, objLen,
      exAliasHeap, Midgard.Dataset.names, Field.name]
  · simp [Writable, writableB, exAliasDS, restrictFields, Midgard.H5.Field.level, leafObjs, nodupB]

/-- the left-hand side of `field_sharing_restored` is inhabited -/
example : ∃ o, leafAt (restrictFields 1 exAliasDS.fields) ["a"] = some o ∧
    leafAt (restrictFields 1 exAliasDS.fields) ["g", "b"] = some o := by
  refine ⟨0, ?_, ?_⟩ <;> simp [exAliasDS, restrictFields, Midgard.H5.Field.level, leafAt, findField, getField, Field.name]

/-- `exAliasDS` (fields `a` and `g.b` hold one array, `c.other` is that array), written at level 1
and read back: `a` and `g.b` are one object again and `c.other` is that object -/
theorem alias_example :
    (match writeDS exAliasHeap exAliasDS 1 with
     | .ok file => (match readBack exAliasHeap exAliasDS file with
        | .ok (h', d') => decide (leafAt d'.fields ["a"] = leafAt d'.fields ["g", "b"]) &&
            (match leafAt d'.fields ["c"] with
             | some c => (h'[c]?.bind Obj.ref) == leafAt d'.fields ["a"] && (leafAt d'.fields ["a"]).isSome
             | none => false) && d'.fields.length == 3 && h'.length == 2
        | .error _ => false)
     | .error _ => false) = true := by
  simp [writeDS, writeField, writeField.writeFields, constructMemo, exAliasDS, exAliasHeap, Midgard.H5.Field.level, aliasOf,
    writeArr, attrName, Obj.ref, Kind.hasOther, Kind.isDelta, List.lookup, Obj.strip, Field.name,
    readBack, readDS, readTop, readField, readMembers, resolveAlias, fieldRead, readArr, readRef, refTarget, lookupGrp,
    RSt.alloc, RSt.set, regTop, fieldsDepth, Obj.withRef, lastName, objLen, readUnit, leafAt, findField, getField, Grp.subs]

/-- **the model with the `time` attribute is a conservative extension**: when no object has a `time`, `writeDSX` is
`writeDS` and the file is read by `readBackX` exactly as by `readBack` (same heap, same dataset) — so every theorem of
this file is a theorem about `writeDSX` / `readBackX` on datasets without `time` -/
theorem time_attribute_conservative (h : Heap) (tm : TM) (htm : ∀ o, tmOf tm o = none) (d : DS) (lvl : Nat) :
    writeDSX h tm d lvl = writeDS h d lvl ∧
    ∀ file, writeDS h d lvl = .ok file → (readBackX h d file).map (fun r => (r.1, r.2.2)) = readBack h d file :=
  timeFree_conservative h tm (tmE_none_of_tmOf htm h) d lvl

/-- **the `time` attribute, write step**: a position (or posvel) without `other` whose `time` is an object the memo knows
under `name` (a time field of the dataset, or an anonymous time already written) is written with the reference
`time = name`; nothing is embedded -/
theorem time_written_by_name (h : Heap) (tm : TM) (u : Option (List String)) (l fuel o t : Nat) (p name : Path) (memo : WMemo)
    (ob : Obj) (hob : h[o]? = some ob) (hk : ob.kind.hasOther = true) (hr : ob.ref = none)
    (ht : tmOf tm o = some t) (hm : memo.lookup t = some name) :
    writeArrX h tm u l (fuel + 1) o p memo =
      .ok (.mk { fieldname := p, src := o, unit := u, level := l, tref := some name } (some ob.strip) [], (o, p) :: memo) := by
  have hat : attrName ob.kind = some "other" := attrName_of_hasOther hk
  simp [writeArrX, slotWrite, hob, hat, hr, hk, ht, hm]

/-- **the `time` attribute, read step**: such a group, read when the memo has the object `n` for `name`, gives a new
position whose `time` is that very object -/
theorem time_read_by_name (file : File) (fuel n : Nat) (a : GAttrs) (ob : Obj) (s : RSt) (name : Path)
    (hk : ob.kind.hasOther = true) (ha : a.ref = none) (ht : a.tref = some name) (hm : s.memo.lookup name = some n) :
    ∃ s', readArrX file (fuel + 1) (.mk a (some ob) []) s = .ok (s.heap.length, s') ∧
      s'.heap = s.heap ++ [ob.withRef none] ∧ s'.tm = s.tm ++ [some n] := by
  have hat : attrName ob.kind = some "other" := attrName_of_hasOther hk
  have hd : ob.kind.isDelta = false := by cases hkk : ob.kind <;> simp_all [Kind.hasOther, Kind.isDelta]
  refine ⟨({ s with heap := s.heap ++ [ob.withRef none], tm := s.tm ++ [some n] } : RSt).set a.fieldname s.heap.length, ?_, rfl, rfl⟩
  simp only [readArrX, hat, refTarget, ha, List.lookup, readRef, hk, if_true, refTargetT, ht, hm, hd, Bool.false_and,
    Bool.false_eq_true, if_false, allocX]

/-- **`read (write d ℓ) = restrict d ℓ` with the `time` attribute of positions** (`writeDSX` / `readBackX`, what the driver
runs for datasets with a `time` attached): for every `WritableX h tm d ℓ` the write succeeds; the read gives the fields of
`restrict d ℓ` renumbered by `φ`; every object reachable through `other` / `ref_pos` / `time` is mapped to an object of the
same kind, shape and rows whose `other` / `ref_pos` **and `time`** are the images of the old ones; `φ` is injective on the
reachable objects -/
theorem read_write_time (h : Heap) (tm : TM) (d : DS) (lvl : Nat) (hw : WritableX h tm d lvl) :
    ∃ (file : File) (h' : Heap) (tm' : TM) (φ : Nat → Nat), writeDSX h tm d lvl = .ok file ∧
      readBackX h d file = .ok (h', tm', { numObs := d.numObs, fields := renameFields φ (restrictFields lvl d.fields) }) ∧
      (∀ x, ReachX h tm (restrictFields lvl d.fields) x → ∃ ob, h[x]? = some ob ∧ h'[φ x]? = some (ob.rename φ) ∧
        tmOf tm' (φ x) = (tmE h tm x).map φ) ∧
      (∀ x y, ReachX h tm (restrictFields lvl d.fields) x → ReachX h tm (restrictFields lvl d.fields) y → φ x = φ y → x = y) := by
  obtain ⟨file, s', φ, hwr, hno, hrd, himg, hinj⟩ := roundTrip_coreX h tm d lvl hw (Nat.le_refl _) (Nat.le_refl _)
  exact ⟨file, s'.heap, s'.tm, φ, hwr, by simp only [readBackX, hrd, hno], himg, hinj⟩

/-- **a position's time is again the very field it referred to**: for any two field paths `p`, `q` — the `time` of field
`p` *is* the array of field `q` after the read iff it was before -/
theorem time_restored (h : Heap) (tm : TM) (d : DS) (lvl : Nat) (hw : WritableX h tm d lvl) :
    ∃ (file : File) (h' : Heap) (tm' : TM) (d' : DS), writeDSX h tm d lvl = .ok file ∧ readBackX h d file = .ok (h', tm', d') ∧
      ∀ p q : Path,
        (∃ o t, leafAt (restrictFields lvl d.fields) p = some o ∧ tmE h tm o = some t ∧
          leafAt (restrictFields lvl d.fields) q = some t) ↔
        (∃ o' t', leafAt d'.fields p = some o' ∧ tmOf tm' o' = some t' ∧ leafAt d'.fields q = some t') := by
  obtain ⟨file, h', tm', φ, hwr, hrd, himg, hinj⟩ := read_write_time h tm d lvl hw
  refine ⟨file, h', tm', _, hwr, hrd, fun p q => ?_⟩
  show _ ↔ ∃ o' t', leafAt (renameFields φ (restrictFields lvl d.fields)) p = some o' ∧ tmOf tm' o' = some t' ∧
    leafAt (renameFields φ (restrictFields lvl d.fields)) q = some t'
  simp only [leafAt_rename, Option.map_eq_some_iff]
  constructor
  · rintro ⟨o, t, hp, ht, hq⟩
    obtain ⟨_, _, _, h3⟩ := himg o (.field (leafAt_mem hp))
    exact ⟨φ o, φ t, ⟨o, hp, rfl⟩, by rw [h3, ht]; rfl, ⟨t, hq, rfl⟩⟩
  · rintro ⟨_, t', ⟨o, hp, rfl⟩, ht, ⟨b, hq, hb⟩⟩
    have ho : ReachX h tm (restrictFields lvl d.fields) o := .field (leafAt_mem hp)
    obtain ⟨_, _, _, h3⟩ := himg o ho
    rw [h3] at ht
    obtain ⟨t, hte, rfl⟩ := Option.map_eq_some_iff.mp ht
    cases hinj b t (.field (leafAt_mem hq)) (.time ho hte) hb
    exact ⟨o, _, hp, hte, hq⟩

/-- a heap with a time (0), a position whose `time` is that time (1), a posvel with the same `time` and `other` = the
position (2), an anonymous time (3) attached to a third position (4) -/
def exTimeHeap : Heap :=
  let r3 : Row := [.num 1, .num 2, .num 3]
  let r6 : Row := [.num 1, .num 2, .num 3, .num 4, .num 5, .num 6]
  [ { kind := .time, ndim := 1, cols := 1, rows := [[.num 2451545, .num 0]] },
    { kind := .position, ndim := 2, cols := 3, rows := [r3] },
    { kind := .posvel, ndim := 2, cols := 6, rows := [r6], other := some 1 },
    { kind := .time, ndim := 1, cols := 1, rows := [[.num 2451546, .num 0]] },
    { kind := .position, ndim := 2, cols := 3, rows := [r3] } ]

def exTimeTM : TM := [none, some 0, some 0, none, some 3]

def exTimeDS : DS := { numObs := 1, fields := [ .leaf "p" .position 1 1 none 3, .leaf "t" .time 0 1 none 3,
  .coll "c" 1 3 [ .leaf "v" .posvel 2 1 none 3, .leaf "q" .position 4 1 none 3 ] ] }

example : WritableX exTimeHeap exTimeTM exTimeDS 1 := by
  have h1 : heapOK exTimeHeap = true := by decide +kernel
  have h2 : tmOKB exTimeHeap exTimeTM = true := by decide +kernel
  simp only [WritableX, writableXB, writableSB, h1, h2, Bool.true_and, Bool.and_true]
  simp [exTimeDS, restrictFields, Midgard.H5.Field.level, fieldsOK, namesOK, unitOK, objLen, exTimeHeap,
    Midgard.Dataset.names, Field.name]

/-- the left-hand side of `time_restored` is inhabited: the `time` of `p` is the field `t` -/
example : ∃ o t, leafAt (restrictFields 1 exTimeDS.fields) ["p"] = some o ∧ tmE exTimeHeap exTimeTM o = some t ∧
    leafAt (restrictFields 1 exTimeDS.fields) ["t"] = some t := by
  refine ⟨1, 0, ?_, ?_, ?_⟩
  · simp [exTimeDS, restrictFields, Midgard.H5.Field.level, leafAt, findField, getField, Field.name]
  · simp [tmE, exTimeHeap, exTimeTM, tmOf, Kind.hasOther]
  · simp [exTimeDS, restrictFields, Midgard.H5.Field.level, leafAt, findField, getField, Field.name]

end Midgard.Props.C10

#print axioms Midgard.Props.C10.decode_encode
#print axioms Midgard.Props.C10.savable
#print axioms Midgard.Props.C10.strings_untouched
#print axioms Midgard.Props.C10.level_filter
#print axioms Midgard.Props.C10.level_filter_nested
#print axioms Midgard.Props.C10.restricted_fields_have_level
#print axioms Midgard.Props.C10.array_bit_identical
#print axioms Midgard.Props.C10.units_identical
#print axioms Midgard.Props.C10.read_write
#print axioms Midgard.Props.C10.refs_restored
#print axioms Midgard.Props.C10.sharing_restored
#print axioms Midgard.Props.C10.refs_restored_chains
#print axioms Midgard.Props.C10.restrict_omits_iff_below_level
#print axioms Midgard.Props.C10.omitted_iff_below_level
#print axioms Midgard.Props.C10.exRestrict
#print axioms Midgard.Props.C10.alias_written_once
#print axioms Midgard.Props.C10.alias_read_shares
#print axioms Midgard.Props.C10.alias_read_forward
#print axioms Midgard.Props.C10.alias_example
#print axioms Midgard.Props.C10.meta_read_write
#print axioms Midgard.Props.C10.meta_written
#print axioms Midgard.Props.C10.read_write_full
#print axioms Midgard.Props.C10.bits_identical
#print axioms Midgard.Props.C10.shared_array_written_once
#print axioms Midgard.Props.C10.field_sharing_restored
#print axioms Midgard.Props.C10.writable_imp_writableS
#print axioms Midgard.Props.C10.time_attribute_conservative
#print axioms Midgard.Props.C10.time_written_by_name
#print axioms Midgard.Props.C10.time_read_by_name
#print axioms Midgard.Props.C10.read_write_time
#print axioms Midgard.Props.C10.time_restored
#print axioms Midgard.Props.C10.text_decode_encode
