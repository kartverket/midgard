/-
C15 — ANTEX antenna files are parsed into exactly the calibrations they contain.

Property theorems about `Model/Antex.lean` (the model of the parser), the generated column tables
`Generated/AntexCols.lean`, the ANTEX 1.4 layouts `Spec/Antex14.lean`, and — at file level — the rendered file
models of `Spec/AntexFile.lean`.
Numbers are the exact rationals of the printed decimals; double rounding is measured by the
correspondence (harness/c15.py), not proved.
-/
import Midgard.Proofs.AntexRound

namespace Midgard.Props.C15
open Midgard.Text Midgard.FixedCol Midgard.ChainParser Midgard.Antex Midgard.Decimal
open Midgard.Spec.Antex14 (RecSpec specs renderLabelled findLabel)
open Midgard.Antex.Records (colsInSpec specOk IsRow IsNoazi corrStep SecItem rowsOf runSection)

/-! ### Every column the code reads is a column of the standard's record -/

theorem cols_eq_spec :
    Midgard.Generated.AntexCols.header.all colsInSpec = true ∧
    Midgard.Generated.AntexCols.records.all colsInSpec = true :=
  Records.cols_eq_spec

/-- the handler registered for every label is the one the model dispatches to; in particular the
rows are reset at START OF FREQUENCY and saved at END OF FREQUENCY -/
theorem handlers_as_modelled :
    Midgard.Generated.AntexCols.records.map (fun d => (d.label, d.handler)) =
      [("TYPE / SERIAL NO", "parse_section_string"), ("DAZI", "parse_section_float"),
       ("ZEN1 / ZEN2 / DZEN", "parse_section_float"), ("# OF FREQUENCIES", "parse_num_of_frequencies"),
       ("VALID FROM", "parse_valid_from"), ("VALID UNTIL", "parse_valid_until"),
       ("START OF FREQUENCY", "parse_start_of_frequency"), ("NORTH / EAST / UP", "parse_section_float"),
       ("END OF FREQUENCY", "save_correction"), ("CORRECTION", "parse_correction")] ∧
    Midgard.Generated.AntexCols.header.map (fun d => (d.label, d.handler)) =
      [("ANTEX VERSION / SYST", "parse_string"), ("PCV TYPE / REFANT", "parse_string"), ("COMMENT", "parse_comment")] ∧
    (Midgard.Generated.AntexCols.records.find? (·.label == "CORRECTION")).map (fun d => (d.fields, d.openFields)) =
      some ([], [("values", 0)]) :=
  ⟨rfl, rfl, by decide +kernel⟩

/-! ### Per-record round trip (fixed columns + label) -/

theorem specs_ok : specs.all specOk = true :=
  Records.specs_ok

/-- A record of any ANTEX 1.4 kind whose cells fit their columns and have no
outer blanks is read back cell by cell from the (right-stripped) rendered line, and its label is
recognised by the header parser and by the antenna-section parser. -/
theorem record_roundtrip (sp : RecSpec) (hsp : sp ∈ specs) (cells : List Str)
    (hlen : cells.length = sp.layout.length) (hf : Fits sp.layout (sp.aligns.zip cells) = true) :
    sp.layout.map (fun f => slice f (rstrip (renderLabelled sp cells))) = cells ∧
    labelText (rstrip (renderLabelled sp cells)) = sp.label ∧
    corrLabel (rstrip (renderLabelled sp cells)) = sp.label :=
  Records.record_roundtrip sp hsp cells hlen hf

/-! ### Records the parser does not read (COMMENT, METH / BY / # / DATE, SINEX CODE, START OF ANTENNA,
FREQ RMS brackets …) leave the state untouched wherever they stand in an antenna section -/

theorem rstrip_ne_nil_of_label (sp : RecSpec) (hsp : sp ∈ specs) (cells : List Str) :
    (rstrip (renderLabelled sp cells)).isEmpty = false := by
  obtain ⟨_, _, _, hc, c, r, hl, _⟩ := Records.spec_facts hsp
  unfold renderLabelled
  rw [rstrip_append_of_clean hc (by rw [hl]; simp), hl]
  simp

theorem comments_ignored (sp : RecSpec) (hsp : sp ∈ specs) (cells : List Str)
    (hlen : cells.length = sp.layout.length) (hf : Fits sp.layout (sp.aligns.zip cells) = true)
    (hunread : Midgard.Generated.AntexCols.records.find? (·.label == sp.label) = none)
    (n : Nat) (s : State) :
    parseLine corrParser (rstrip (renderLabelled sp cells)) n s = .ok s :=
  Records.comments_ignored sp hsp cells hlen hf hunread n s

/-- the labels this applies to, on the current tables -/
theorem unread_labels :
    (specs.filter fun sp => (Midgard.Generated.AntexCols.records.find? (·.label == sp.label)).isNone).map (·.label) =
      ["ANTEX VERSION / SYST", "PCV TYPE / REFANT", "COMMENT", "END OF HEADER", "START OF ANTENNA", "END OF ANTENNA",
       "METH / BY / # / DATE", "SINEX CODE", "START OF FREQ RMS", "END OF FREQ RMS"] := by
  decide +kernel

/-! ### The per-antenna cache across frequency sections -/

theorem req_some {α} (a : α) : req (some a) = .ok a :=
  rfl

theorem corrStep_row {c : Cache} {line : Str} {nums : List Rat} (h : IsRow line nums) :
    corrStep c line = .ok { c with azi := some (c.azi.getD [] ++ [nums]) } :=
  Records.corrStep_row h

theorem corrStep_noazi {c : Cache} {line : Str} {nums : List Rat} (h : IsNoazi line nums) :
    corrStep c line = .ok { c with noazi := some nums } :=
  Records.corrStep_noazi h

theorem section_azi (items : List SecItem) :
    ∀ (c : Cache), (∀ i ∈ items, i.Ok) →
      ∃ c', runSection c items = .ok c' ∧
        c'.azi = (if rowsOf items = [] then c.azi else some (c.azi.getD [] ++ rowsOf items)) :=
  Records.section_azi items

/-- Whatever the cache held before (any history of earlier frequency sections,
RMS blocks, comments …), after `START OF FREQUENCY` and the lines of section k the azimuth rows in
the cache — which `save_correction` stores as `azi` of frequency k — are exactly the rows of
section k, in file order; with `nAzi` rows of `nZen` values each that is an `nAzi × nZen` array.
The lines are fed to the handler `parse_correction` directly (`runSection`); `file_roundtrip` takes rendered rows through
`parse_line`. -/
theorem freq_isolated (c0 : Cache) (v : Values) (items : List SecItem) (hok : ∀ i ∈ items, i.Ok) :
    ∃ c', runSection (parseStartOfFrequency v c0) items = .ok c' ∧
      c'.azi = (if rowsOf items = [] then none else some (rowsOf items)) ∧
      ∀ fc, freqCorr c' = .ok fc → fc.azi = (if rowsOf items = [] then none else some (rowsOf items)) :=
  Records.freq_isolated c0 v items hok

theorem grid_size (rows : List (List Rat)) (nAzi nZen : Nat) (hr : rows.length = nAzi)
    (hc : ∀ r ∈ rows, r.length = nZen) : rows.flatten.length = nAzi * nZen := by
  subst hr
  induction rows with
  | nil => simp
  | cons r rest ih =>
    have h1 := hc r (by simp)
    have h2 := ih (fun x hx => hc x (by simp [hx]))
    simp [h1, h2, Nat.succ_mul]; omega

/-! ### Offsets: millimetres to metres -/

theorem neu_scaled (c : Cache) (fc : FreqCorr) (h : freqCorr c = .ok fc) :
    ∃ n e u, c.north = some n ∧ c.east = some e ∧ c.up = some u ∧
      fc.neu = [n / 1000, e / 1000, u / 1000] ∧ c.noazi = some fc.noazi :=
  Records.neu_scaled c fc h

/-! ### Grids from DAZI and ZEN1 / ZEN2 / DZEN -/

theorem roundHalfEven_int (n : Int) : roundHalfEven (n : Rat) = n :=
  rhe_int n

theorem gridCount_nat (n : Nat) : gridCount (n : Rat) = n + 1 := by
  have : ((n : Nat) : Rat) = ((n : Int) : Rat) := by rfl
  unfold gridCount
  rw [this, roundHalfEven_int]
  omega

/-- a zenith grid ZEN1, ZEN1+DZEN, …, ZEN2 with `n+1` angles gives the `n+1` elevations 90 − ZEN1 − k·DZEN -/
theorem elevation_grid (z1 dz : Rat) (n : Nat) (hdz : dz ≠ 0) :
    elevationGrid z1 (z1 + (n : Rat) * dz) dz = (List.range (n + 1)).map fun (k : Nat) => 90 - z1 - dz * (k : Rat) := by
  unfold elevationGrid
  have : (z1 + (n : Rat) * dz - z1) / dz = (n : Rat) := by
    have h1 : z1 + (n : Rat) * dz - z1 = (n : Rat) * dz := by grind
    rw [h1]; exact Rat.mul_div_cancel hdz
  rw [this, gridCount_nat]

/-- DAZI dividing the circle into `n` steps gives the `n+1` azimuths k·DAZI, 0 … 360 -/
theorem azimuth_grid (dazi : Rat) (n : Nat) (hd : dazi ≠ 0) (h : (n : Rat) * dazi = 360) :
    azimuthGrid dazi = (List.range (n + 1)).map fun (k : Nat) => dazi * (k : Rat) := by
  unfold azimuthGrid
  have : 360 / dazi = (n : Rat) := by
    rw [← h]; exact Rat.mul_div_cancel hd
  rw [this, gridCount_nat]

/-! ### Validity dates -/

theorem roundHalfEven_near (x : Rat) :
    ((roundHalfEven x : Int) : Rat) - x ≤ 1 / 2 ∧ x - ((roundHalfEven x : Int) : Rat) ≤ 1 / 2 :=
  rhe_near x

/-- the parsed instant is the printed minute plus the printed seconds, to half a microsecond
(the resolution of `datetime`) -/
theorem valid_dates (mins : Int) (q : Rat) :
    ((validMicros mins q : Int) : Rat) - ((mins : Rat) * 60000000 + q * 1000000) ≤ 1 / 2 ∧
    ((mins : Rat) * 60000000 + q * 1000000) - ((validMicros mins q : Int) : Rat) ≤ 1 / 2 :=
  Records.valid_dates mins q

/-- … and exactly so when the printed seconds are whole microseconds (0.0000000, 59.000000, …) -/
theorem valid_dates_exact (mins k : Int) :
    validMicros mins ((k : Rat) / 1000000) = mins * 60000000 + k := by
  unfold validMicros secondsToMicros
  have : (k : Rat) / 1000000 * 1000000 = (k : Rat) := by grind
  rw [this, roundHalfEven_int]

/-! ### Each receiver antenna frequency and each satellite validity period once -/

/-- a receiver antenna (`sat_code` empty) whose dictionary already holds the frequency is refused by `save_correction`, whatever the
counter says: the check `dictHas antDict (Key.str freq)` stands on the receiver branch for every frequency -/
theorem receiver_frequency_once (s : State) (ant freq : Str)
    (hsat : s.cache.satCode = some []) (hant : s.cache.antennaType = some ant)
    (hfreq : s.cache.freqCode = some freq)
    (hdup : dictHas ((dictGet s.data ant).getD []) (Key.str freq) = true) :
    ∀ s', saveCorrection s ≠ .ok s' := by
  intro s' h
  unfold saveCorrection at h
  simp only [hsat, hant, hfreq, req, bind, Except.bind, pure, Except.pure, ne_eq, not_true_eq_false, if_false] at h
  cases hc : s.cache.counter with
  | none => simp [hc] at h
  | some k =>
    simp only [hc] at h
    -- whichever way the general part and `freqCorr` go, the receiver branch ends in `dictHas … then throw`
    split at h
    · split at h
      · simp at h
      · split at h
        · simp at h
        · simp [throw, throwThe, MonadExcept.throw] at h
    · split at h
      · simp at h
      · simp [throw, throwThe, MonadExcept.throw] at h

/-- a satellite antenna whose dictionary already holds the validity start is refused by `save_correction` at its FIRST frequency
(`hfirst`: the counter is 0): that check stands in `generalInfo`, which runs for the first frequency only; for a later frequency
of the same period the other check applies (the frequency code inside the period's entry) -/
theorem satellite_period_once (s : State) (sc ant : Str) (dt : Int)
    (hsat : s.cache.satCode = some sc) (hsc : sc ≠ []) (hant : s.cache.antennaCode = some ant)
    (hdt : s.cache.validFrom = some dt) (hfirst : s.cache.counter = some 0)
    (hdup : dictHas ((dictGet s.data ant).getD []) (Key.date dt) = true) :
    ∀ s', saveCorrection s ≠ .ok s' := by
  intro s' h
  unfold saveCorrection at h
  simp only [hsat, hant, hsc, hfirst, req, bind, Except.bind, pure, Except.pure, ne_eq, not_false_eq_true, if_true] at h
  cases hf : s.cache.freqCode with
  | none => simp [hf] at h
  | some f =>
    simp only [hf] at h
    unfold generalInfo at h
    simp [hsc, hdt, hdup, req, bind, Except.bind, pure, Except.pure, throw, throwThe, MonadExcept.throw, MonadExceptOf.throw] at h

/-! ### File level

`FileM` (`Spec/AntexFile.lean`) is an ANTEX file as data: header records and comments; antenna sections (receiver or
satellite, any number of validity periods per PRN) with TYPE / SERIAL NO, DAZI, ZEN1 / ZEN2 / DZEN, # OF FREQUENCIES,
optional VALID FROM / VALID UNTIL, frequency sections (offsets, NOAZI row, azimuth rows), each optionally followed by
its `START OF FREQ RMS … END OF FREQ RMS` section, further rms sections after the last frequency section; and lines the
parser does not read (COMMENT, METH / BY / # / DATE, SINEX CODE, blank) in front of any record of an antenna section
and after the last antenna.  `render F` is the file text (ANTEX 1.4 layouts of `Spec/Antex14.lean`), `F.wf` a
decidable well-formedness (cells free of `\n` / `\r`, record cells without outer blanks and fitting their columns; number cells denote
their values; printed dates exist; row values leave a blank in their 8 columns), and `calibrations F` what the file
says: the header fields, and for every antenna in order every frequency stored by `save_correction` from a cache
that holds the antenna's own records and the offsets / NOAZI row / azimuth rows of *that frequency section alone*.
Two conjuncts of `F.wf` carry nothing in the proofs: `isAscii` of the row tokens and the clause of `okText` about non-ASCII
whitespace at the ends of a cell.  They keep the model's `split` / `strip` (ASCII blanks) in step with Python's, which the
correspondence measures. -/

open Midgard.Spec.AntexFile in
/-- For every well-formed abstract ANTEX file `F`, the parser model (ChainParser `read_data` over
the header parser and the repeated antenna-section parser, all handlers, the per-antenna cache) applied to the
rendered text returns exactly what the file says — also when that is "refused" (a repeated receiver frequency or
satellite validity period: both sides are the same `ParserError`). -/
theorem file_roundtrip (F : FileM) (hwf : F.wf = true) : parseText (render F) = calibrations F :=
  File.file_roundtrip F hwf

open Midgard.Spec.AntexFile in
/-- **which characters end a line.**  `read_data` iterates the text-mode file object (`Model/TextLines.lean`): the
lines it sees for a rendered well-formed file are exactly the rendered records — a free-text cell (COMMENT, METH,
SINEX CODE …) may contain form feed, vertical tab, FS/GS/RS, NEL, U+2028/9 (where `str.splitlines()` would cut) and
still stays one line; `FileM.wf` only excludes `\n` and `\r` -/
theorem lines_of_rendered_file (F : FileM) (hwf : F.wf = true) :
    Midgard.TextLines.textLines (render F) = Midgard.Spec.AntexFile.fileLines F :=
  File.fileLines_joinLines _ (File.nonl_file F hwf)

theorem only_newline_and_cr_end_a_line (l : Str) (h : ∀ c ∈ l, Midgard.TextLines.isLineEnd c = false) :
    Midgard.TextLines.textLines (l ++ ['\n']) = [l] := by
  have := File.fileLines_joinLines [l] (by intro x hx; rw [List.mem_singleton.mp hx]; exact h)
  simpa [Midgard.Spec.AntexFile.joinLines] using this

/-- every character on which `str.splitlines()` and text-mode iteration differ stays inside its line -/
example : (Midgard.TextLines.splitlinesOnlyCodes.map Char.ofNat).all
    (fun c => Midgard.TextLines.isSplitlinesOnly c && !Midgard.TextLines.isLineEnd c &&
      decide (Midgard.TextLines.textLines ("ROBOT".toList ++ c :: "PAGE 2\n".toList) = ["ROBOT".toList ++ c :: "PAGE 2".toList])) = true := by
  decide +kernel

example : Midgard.TextLines.textLines "a\r\nb\rc\n\nd".toList = ["a".toList, "b".toList, "c".toList, [], "d".toList] := by
  decide +kernel

open Midgard.Spec.AntexFile in
/-- `FileM.core F` is `F` without its rms sections (wherever they stand) and the lines the parser does not read -/
theorem rms_and_unread_lines_contribute_nothing (F : FileM) :
    calibrations F = calibrations (File.FileM.core F) :=
  (File.calibrations_core F).symm

open Midgard.Spec.AntexFile in
theorem parse_eq_parse_core (F : FileM) (hwf : F.wf = true) (hwf' : (File.FileM.core F).wf = true) :
    parseText (render F) = parseText (render (File.FileM.core F)) := by
  rw [File.file_roundtrip F hwf, File.file_roundtrip _ hwf', File.calibrations_core]

open Midgard.Spec.AntexFile in
/-- **antenna section through `read_data`**: from any state with an empty cache, the lines of one well-formed antenna
section (records, rms sections, unread lines) are consumed as one group; exactly `storeAntenna` is stored and reading
goes on with an empty cache and line number 0 -/
theorem antenna_section (a : AntM) (ha : a.wf = true) (more : List Str) (s : State) (hc : s.cache = {}) (n : Nat) :
    readData headerParser corrParser resetCache (antennaLines a ++ more) false n s =
      match storeAntenna a s with
      | .error e => .error e
      | .ok s' => readData headerParser corrParser resetCache more false 0 s' :=
  File.antenna_group a ha more s hc n

/-- a satellite antenna with two frequencies (azimuth rows), an rms section between them, a comment (containing a form
feed and U+2028, where `str.splitlines()` would cut) and a METH record inside the section, VALID UNTIL …59.9999999 -/
def tinyModel : Midgard.Spec.AntexFile.FileM :=
  let n (t : String) (v : Rat) : Midgard.Spec.AntexFile.NumCell := ⟨t.toList, v⟩
  let i (t : String) (v : Int) : Midgard.Spec.AntexFile.IntCell := ⟨t.toList, v⟩
  let body (bt : String) (b : Rat) : Midgard.Spec.AntexFile.SecM :=
    ⟨n "279.00" 279, n "0.00" 0, n "2319.50" (4639 / 2), [n "-0.80" (-4 / 5), n "-0.90" (-9 / 10)],
     [("0.0".toList, [n "1.00" 1, n "2.00" 2]), ("180.0".toList, [n "3.00" 3, n "4.00" 4]),
      ("360.0".toList, [n "5.00" 5, n bt b])]⟩
  { version := "1.4".toList, satSys := "M".toList, pcvType := "A".toList, refAntenna := [], refSerial := [],
    comments1 := [], comments2 := ["  rendered from a model".toList],
    antennas := [
      { typ := "BLOCK IIA".toList, code := "G01".toList, satCode := "G032".toList, cospar := "1992-079A".toList,
        dazi := n "180.0" 180, zen1 := n "0.0" 0, zen2 := n "1.0" 1, dzen := n "1.0" 1, numFreq := "2".toList,
        validFrom := some ⟨i "1992" 1992, i "11" 11, i "22" 22, i "0" 0, i "0" 0, n "0.0000000" 0, 1047633120⟩,
        validUntil := some ⟨i "2008" 2008, i "10" 10, i "16" 16, i "23" 23, i "59" 59, n "59.9999999" (599999999 / 10000000),
                            1055996639⟩,
        freqs := [⟨"G01".toList, body "6.00" 6, some (body "7.00" 7)⟩, ⟨"G02".toList, body "8.00" 8, none⟩],
        rmsAfter := [("G02".toList, body "9.00" 9)],
        deco := [[], [], [.meth "ROBOT".toList "Geo++ GmbH".toList "1".toList "29-JAN-17".toList], [], [.comment " ROBOT\x0cPAGE 2 \u2028 (form feed and U+2028 inside)".toList]] }],
    trailer := [.blank, .comment "end".toList] }

/- The kernel reads a literal as `String.ofList [...]`: rewriting `"…".toList` with `String.toList_ofList` first spares
it the UTF-8 decoding of every literal. -/
example : tinyModel.wf = true := by
  rw [tinyModel]
  simp only []
  repeat rw [String.toList_ofList]
  decide +kernel

/-- the hypotheses of `file_roundtrip` are satisfiable, and on this file the second frequency holds its own three
rows although an rms section with azimuth rows stands in front of it -/
example : (match Midgard.Spec.AntexFile.calibrations tinyModel with
    | .ok s =>
      (match dictGet s.data "G01".toList with
       | some [(_, .entry e)] =>
         (match dictGet e "G02".toList with
          | some (.freq f) => f.azi
          | _ => none)
       | _ => none)
    | .error _ => none) = some [[1, 2], [3, 4], [5, 8]] := by decide +kernel

/-! ### Non-vacuity and a worked file (record level) -/

example : Fits Midgard.Spec.Antex14.validLayout
    ([Align.right, .right, .right, .right, .right, .right].zip
      ["2008".toList, "10".toList, "16".toList, "23".toList, "59".toList, "59.9999999".toList]) = true := by
  decide +kernel

example : (corrStep {} "    5.0   +0.00   -0.26".toList).toOption.map (·.azi) = some (some [[0, -26 / 100]]) := by
  rw [String.toList_ofList]
  decide +kernel

/-- two frequencies with three azimuth rows each; VALID UNTIL is printed 2008-10-16 23:59 59.9999999 -/
def tinyFile : List Str := [
  "     1.4            M                                       ANTEX VERSION / SYST",
  "A                                                           PCV TYPE / REFANT",
  "                                                            END OF HEADER",
  "                                                            START OF ANTENNA",
  "BLOCK IIA           G01                 G032      1992-079A TYPE / SERIAL NO",
  "   180.0                                                    DAZI",
  "     0.0   1.0   1.0                                        ZEN1 / ZEN2 / DZEN",
  "     2                                                      # OF FREQUENCIES",
  "  1992    11    22     0     0    0.0000000                 VALID FROM",
  "  2008    10    16    23    59   59.9999999                 VALID UNTIL",
  "   G01                                                      START OF FREQUENCY",
  "    279.00      0.00   2319.50                              NORTH / EAST / UP",
  "   NOAZI   -0.80   -0.90",
  "     0.0    1.00    2.00",
  "   180.0    3.00    4.00",
  "   360.0    5.00    6.00",
  "   G01                                                      END OF FREQUENCY",
  "   G02                                                      START OF FREQUENCY",
  "      1.00      2.00      3.00                              NORTH / EAST / UP",
  "   NOAZI    0.10    0.20",
  "     0.0    7.00    8.00",
  "   180.0    9.00   10.00",
  "   360.0   11.00   12.00",
  "   G02                                                      END OF FREQUENCY",
  "                                                            END OF ANTENNA"].map String.toList

def tinyG02 : Option FreqCorr :=
  match parseLines tinyFile with
  | .ok s =>
    match dictGet s.data "G01".toList with
    | some [(_, .entry e)] =>
      match dictGet e "G02".toList with
      | some (.freq f) => some f
      | _ => none
    | _ => none
  | .error _ => none

/-- the body of `tinyG02` with the lines as an argument, so that a statement about `tinyG02` can have its lines rewritten -/
def g02Of (lines : List Str) : Option FreqCorr :=
  match parseLines lines with
  | .ok s =>
    match dictGet s.data "G01".toList with
    | some [(_, .entry e)] =>
      match dictGet e "G02".toList with
      | some (.freq f) => some f
      | _ => none
    | _ => none
  | .error _ => none

example : tinyG02 = some ⟨[1 / 1000, 2 / 1000, 3 / 1000], [1 / 10, 2 / 10], some [[7, 8], [9, 10], [11, 12]]⟩ := by
  show g02Of tinyFile = _
  rw [tinyFile]
  simp only [List.map_cons, List.map_nil]
  repeat rw [String.toList_ofList]
  decide +kernel

end Midgard.Props.C15

#print axioms Midgard.Props.C15.cols_eq_spec
#print axioms Midgard.Props.C15.handlers_as_modelled
#print axioms Midgard.Props.C15.specs_ok
#print axioms Midgard.Props.C15.record_roundtrip
#print axioms Midgard.Props.C15.rstrip_ne_nil_of_label
#print axioms Midgard.Props.C15.comments_ignored
#print axioms Midgard.Props.C15.unread_labels
#print axioms Midgard.Props.C15.req_some
#print axioms Midgard.Props.C15.corrStep_row
#print axioms Midgard.Props.C15.corrStep_noazi
#print axioms Midgard.Props.C15.section_azi
#print axioms Midgard.Props.C15.freq_isolated
#print axioms Midgard.Props.C15.grid_size
#print axioms Midgard.Props.C15.neu_scaled
#print axioms Midgard.Props.C15.roundHalfEven_int
#print axioms Midgard.Props.C15.gridCount_nat
#print axioms Midgard.Props.C15.elevation_grid
#print axioms Midgard.Props.C15.azimuth_grid
#print axioms Midgard.Props.C15.roundHalfEven_near
#print axioms Midgard.Props.C15.valid_dates
#print axioms Midgard.Props.C15.valid_dates_exact
#print axioms Midgard.Props.C15.receiver_frequency_once
#print axioms Midgard.Props.C15.satellite_period_once
#print axioms Midgard.Props.C15.file_roundtrip
#print axioms Midgard.Props.C15.lines_of_rendered_file
#print axioms Midgard.Props.C15.only_newline_and_cr_end_a_line
#print axioms Midgard.Props.C15.rms_and_unread_lines_contribute_nothing
#print axioms Midgard.Props.C15.parse_eq_parse_core
#print axioms Midgard.Props.C15.antenna_section
