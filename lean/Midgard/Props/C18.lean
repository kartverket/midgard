/-
C18 — Site-information history lookup returns the entry valid at the requested date.

Property theorems about the model in `Model/SiteInfo.lean` (Mathlib-free).  `Within k d` is the
property's "the validity interval [installed, removed) contains the date", with an end equal to
`datetime.max` read as plus infinity.

The interval search over any history dict returns an entry whose interval contains the date, and the only one when the
intervals are disjoint (`get_*`).  For the dict `_create_history` builds from the records of a source, `lookup_exact` says
which record answers (the first containing interval in source order, and of the records with that interval the last);
`lookup_sound/_complete/_none/_unique/_overwrite` follow from it, and `answerOf` states the answer of a history module for
one station (`moduleGet1`) on the SSC and SINEX sources (`ssc_*`, `snx_*`).  The other sections: `'last'`, open ends,
the combined query `SiteInfo.get` against the single modules (side condition `Clean`), the forms of the `stations`
argument, the regenerated tables, and queries between in-place updates of the source data.
-/
import Midgard.Proofs.SiteInfoDict
import Midgard.Generated.SiteInfoTables

namespace Midgard.Props.C18
open Midgard.SiteInfo

/-- the date lies in the validity interval `[from, to)`; `to = datetime.max` is the open end -/
def Within (k : Interval) (d : Date) : Prop := k.1 ≤ d ∧ (d < k.2 ∨ k.2 = dmax)

theorem contains_iff (k : Interval) (d : Date) : contains k d = true ↔ Within k d := by
  simp [contains, Within]

/-! ### The interval search `SiteInfoHistoryBase.get(date)` -/

theorem histGet_find {ε} (h : History ε) (d : Date) :
    histGet h d = (h.find? (fun p => contains p.1 d)).map (·.2) := by
  induction h with
  | nil => rfl
  | cons p t ih =>
    obtain ⟨k, e⟩ := p
    simp only [histGet, List.find?_cons]
    by_cases hc : contains k d = true
    · simp [hc]
    · simp [hc, ih]

/-- what is returned is an entry of the history whose interval contains the date -/
theorem get_sound {ε} (h : History ε) (d : Date) (e : ε) :
    histGet h d = some e → ∃ k, (k, e) ∈ h ∧ Within k d := by
  rw [histGet_find]
  intro hg
  obtain ⟨p, hf, rfl⟩ := Option.map_eq_some_iff.1 hg
  exact ⟨p.1, List.mem_of_find?_eq_some hf,
    (contains_iff _ _).1 (List.find?_some (p := fun p : Interval × ε => contains p.1 d) hf)⟩

/-- if some interval contains the date, something is returned -/
theorem get_complete {ε} (h : History ε) (d : Date) :
    (∃ k e, (k, e) ∈ h ∧ Within k d) → (histGet h d).isSome = true := by
  rintro ⟨k, e, hm, hw⟩
  rw [histGet_find, Option.isSome_map, List.find?_isSome]
  exact ⟨(k, e), hm, (contains_iff _ _).2 hw⟩

/-- nothing is returned exactly when the date lies in no interval (a gap, before the first, after the last) -/
theorem get_none_iff {ε} (h : History ε) (d : Date) :
    histGet h d = none ↔ ∀ k e, (k, e) ∈ h → ¬ Within k d := by
  constructor
  · intro hn k e hm hw
    have := get_complete h d ⟨k, e, hm, hw⟩
    simp [hn] at this
  · intro hall
    cases hg : histGet h d with
    | none => rfl
    | some e =>
      obtain ⟨k, hm, hw⟩ := get_sound h d e hg
      exact absurd hw (hall k e hm)

/-- two intervals share no date -/
def Apart (a b : Interval) : Prop := ∀ d, ¬ (Within a d ∧ Within b d)

/-- with pairwise disjoint intervals the entry whose interval contains the date is *the* answer -/
theorem get_unique {ε} (h : History ε) (d : Date) (k : Interval) (e : ε)
    (hdis : h.Pairwise (fun a b => Apart a.1 b.1)) (hm : (k, e) ∈ h) (hw : Within k d) :
    histGet h d = some e := by
  rw [histGet_find, Lists.find?_unique _ h (hdis.imp fun hab hc => hab d ⟨(contains_iff _ _).1 hc.1, (contains_iff _ _).1 hc.2⟩)
    (k, e) hm ((contains_iff _ _).2 hw)]
  rfl

/-! ### `_create_history`: from the records of the source to the history dict -/

/-- the last record of the source with the given `(date_from, date_to)` -/
def latest {ρ} (key : ρ → Interval) (rs : List ρ) (k : Interval) : Option ρ :=
  rs.reverse.find? (fun r => key r = k)

theorem latest_cons {ρ} (key : ρ → Interval) (r : ρ) (t : List ρ) (k : Interval) :
    latest key (r :: t) k = (latest key t k).orElse (fun _ => if key r = k then some r else none) := by
  simp only [latest, List.reverse_cons, List.find?_append]
  cases List.find? (fun r => decide (key r = k)) t.reverse with
  | some x => rfl
  | none => by_cases h : key r = k <;> simp [h]

/-- `history[k0] = v0` seen through the interval search -/
theorem dictSet_find {ε} (h : History ε) (k0 : Interval) (v0 : ε) (d : Date) :
    (dictSet h k0 v0).find? (fun p => contains p.1 d) =
      match h.find? (fun p => contains p.1 d) with
      | some p => some (p.1, if p.1 = k0 then v0 else p.2)
      | none => if contains k0 d then some (k0, v0) else none := by
  rw [dictSet_find_key (fun k => contains k d)]
  cases List.find? (fun p => contains p.1 d) h <;> rfl

/-- for any test `P` on the keys and from any dictionary `h`: the induction over the records needs `h` free -/
theorem createHistory_find_test {ρ} (key : ρ → Interval) (rs : List ρ) (h : History ρ) (P : Interval → Bool) :
    (createHistory key rs h).find? (fun p => P p.1) =
      match h.find? (fun p => P p.1) with
      | some p => some (p.1, (latest key rs p.1).getD p.2)
      | none => (rs.find? (fun r => P (key r))).bind
          (fun r0 => (latest key rs (key r0)).map (fun r => (key r0, r))) := by
  induction rs generalizing h with
  | nil =>
    simp only [createHistory, latest, List.reverse_nil, List.find?_nil, Option.getD_none, Option.bind_none]
    cases hf : List.find? (fun p => P p.1) h <;> rfl
  | cons r t ih =>
    simp only [createHistory]
    rw [ih, dictSet_find_key P]
    cases hf : List.find? (fun p => P p.1) h with
    | some p =>
      simp only [latest_cons]
      by_cases hk : p.1 = key r
      · cases latest key t p.1 <;> simp [hk, Option.orElse]
      · have hk' : ¬ key r = p.1 := fun e => hk e.symm
        cases latest key t p.1 <;> simp [hk, hk', Option.orElse]
    | none =>
      simp only [List.find?_cons]
      by_cases hc : P (key r) = true
      · simp only [hc, if_true, Option.bind_some, latest_cons]
        cases latest key t (key r) <;> simp [Option.orElse]
      · simp only [hc]
        cases hft : List.find? (fun r => P (key r)) t with
        | none => rfl
        | some r0 =>
          have hr0 := List.find?_some hft
          have hne : ¬ key r = key r0 := by intro e; rw [← e] at hr0; exact hc hr0
          simp only [Bool.false_eq_true, if_false, Option.bind_some, latest_cons, hne]
          cases latest key t (key r0) <;> simp [Option.orElse]

/-- the interval search over the dictionary `_create_history` builds, started from a dictionary `h` -/
theorem createHistory_find {ρ} (key : ρ → Interval) (rs : List ρ) (h : History ρ) (d : Date) :
    (createHistory key rs h).find? (fun p => contains p.1 d) =
      match h.find? (fun p => contains p.1 d) with
      | some p => some (p.1, (latest key rs p.1).getD p.2)
      | none => (rs.find? (fun r => contains (key r) d)).bind
          (fun r0 => (latest key rs (key r0)).map (fun r => (key r0, r))) :=
  createHistory_find_test key rs h (fun k => contains k d)

/-- **the interval search, exactly**: the answer for a date is found by taking the first record of the source (in source
order) whose `[date_from, date_to)` contains the date, and then the *last* record of the source with that same
`(date_from, date_to)` — records with equal start *and* end overwrite each other in `history[(date_from, date_to)] = …`
(the later one wins, at the position of the earlier one); records with equal start but different ends are different keys
and the earlier one in source order answers -/
theorem lookup_exact {ρ} (key : ρ → Interval) (rs : List ρ) (d : Date) :
    histGet (createHistory key rs []) d =
      (rs.find? (fun r => contains (key r) d)).bind (fun r0 => latest key rs (key r0)) := by
  rw [histGet_find, createHistory_find]
  simp only [List.find?_nil]
  cases rs.find? (fun r => contains (key r) d) with
  | none => rfl
  | some r0 => simp only [Option.bind_some]; cases latest key rs (key r0) <;> rfl

/-- **lookup, sound**: the record returned for a date is a record of the source and the date lies
in its validity interval -/
theorem lookup_sound {ρ} (key : ρ → Interval) (rs : List ρ) (d : Date) (r : ρ) :
    histGet (createHistory key rs []) d = some r → r ∈ rs ∧ Within (key r) d := by
  rw [lookup_exact]
  intro hg
  obtain ⟨r0, hf, hl⟩ := Option.bind_eq_some_iff.1 hg
  rw [latest] at hl
  have hk : key r = key r0 := by simpa using List.find?_some hl
  have hc : contains (key r0) d = true := List.find?_some (p := fun r => contains (key r) d) hf
  exact ⟨List.mem_reverse.1 (List.mem_of_find?_eq_some hl), (contains_iff _ _).1 (hk ▸ hc)⟩

/-- **lookup, complete**: if the date lies in the interval of some record, a record is returned -/
theorem lookup_complete {ρ} (key : ρ → Interval) (rs : List ρ) (d : Date) (r : ρ)
    (hr : r ∈ rs) (hw : Within (key r) d) :
    (histGet (createHistory key rs []) d).isSome = true := by
  rw [lookup_exact]
  cases hf : rs.find? (fun r => contains (key r) d) with
  | none => exact absurd ((contains_iff _ _).2 hw) (by simpa using List.find?_eq_none.1 hf r hr)
  | some r0 =>
    simp only [Option.bind_some, latest, List.find?_isSome]
    exact ⟨r0, List.mem_reverse.2 (List.mem_of_find?_eq_some hf), by simp⟩

/-- **lookup, gap**: nothing is returned when no record's interval contains the date -/
theorem lookup_none {ρ} (key : ρ → Interval) (rs : List ρ) (d : Date)
    (hgap : ∀ r ∈ rs, ¬ Within (key r) d) :
    histGet (createHistory key rs []) d = none := by
  rw [lookup_exact, List.find?_eq_none.2 fun r hr => by simpa [contains_iff] using hgap r hr]
  rfl

/-- **lookup, unique**: when the records' validity intervals are pairwise disjoint, the lookup returns
exactly the record whose interval contains the date -/
theorem lookup_unique {ρ} (key : ρ → Interval) (rs : List ρ) (d : Date) (r : ρ)
    (hdis : rs.Pairwise (fun a b => Apart (key a) (key b)))
    (hr : r ∈ rs) (hw : Within (key r) d) :
    histGet (createHistory key rs []) d = some r := by
  have hc := (contains_iff _ _).2 hw
  rw [lookup_exact, Lists.find?_unique _ rs (hdis.imp fun hab hc => hab d ⟨(contains_iff _ _).1 hc.1, (contains_iff _ _).1 hc.2⟩) r hr hc]
  refine Lists.find?_unique _ _ (List.pairwise_reverse.2 (hdis.imp fun hab hk => hab d ?_)) r (List.mem_reverse.2 hr) (by simp)
  simp only [decide_eq_true_eq] at hk
  rw [hk.1, hk.2]; exact ⟨hw, hw⟩

/-- what is stored under an interval is the last record of the source with that interval -/
theorem lookup_overwrite {ρ} (key : ρ → Interval) (pre mid post : List ρ) (a b : ρ) (d : Date)
    (hab : key a = key b) (hw : contains (key a) d = true)
    (hpre : ∀ r ∈ pre, contains (key r) d = false) (hpost : ∀ r ∈ post, key r ≠ key a) :
    histGet (createHistory key (pre ++ a :: mid ++ b :: post) []) d = some b := by
  rw [lookup_exact]
  have h1 : (pre ++ a :: mid ++ b :: post).find? (fun r => contains (key r) d) = some a := by
    simp only [List.append_assoc, List.cons_append, List.find?_append]
    have : pre.find? (fun r => contains (key r) d) = none := by
      rw [List.find?_eq_none]; intro x hx; simp [hpre x hx]
    simp [this, hw]
  rw [h1]
  simp only [Option.bind_some, latest, List.reverse_append, List.reverse_cons, List.append_assoc, List.find?_append]
  have : post.reverse.find? (fun r => decide (key r = key b)) = none := by
    rw [List.find?_eq_none]; intro x hx; simp [hab ▸ hpost x (List.mem_reverse.1 hx)]
  simp [this, hab]

/-! ### `'last'` -/

/-- a non-empty history has a last entry; the empty history has none (and does not fail) -/
theorem last_none_iff {ε} (h : History ε) : histLast h = none ↔ h = [] := by
  cases h with
  | nil => simp [histLast]
  | cons p t =>
    obtain ⟨k, e⟩ := p
    simp only [histLast]
    cases histLast t with
    | none => simp
    | some r => obtain ⟨k', e'⟩ := r; simp only; split <;> simp

/-- `'last'` returns an entry of the history, and its `(start, end)` is the greatest -/
theorem last_is_max {ε} (h : History ε) (k : Interval) (e : ε) :
    histLast h = some (k, e) → (k, e) ∈ h ∧ ∀ p ∈ h, keyLe p.1 k = true := by
  induction h generalizing k e with
  | nil => simp [histLast]
  | cons p t ih =>
    obtain ⟨k0, v0⟩ := p
    simp only [histLast]
    cases hl : histLast t with
    | none =>
      simp only [Option.some.injEq, Prod.mk.injEq]
      rintro ⟨rfl, rfl⟩
      have ht : t = [] := (last_none_iff t).1 hl
      subst ht
      exact ⟨by simp, by intro p hp; simp at hp; subst hp; exact keyLe_refl _⟩
    | some r =>
      obtain ⟨k', e'⟩ := r
      obtain ⟨hm', hmax'⟩ := ih k' e' hl
      simp only
      by_cases hle : keyLe k' k0 = true
      · simp only [hle, if_true, Option.some.injEq, Prod.mk.injEq]
        rintro ⟨rfl, rfl⟩
        refine ⟨by simp, ?_⟩
        intro p hp
        rcases List.mem_cons.1 hp with h | h
        · subst h; exact keyLe_refl _
        · exact keyLe_trans _ _ _ (hmax' p h) hle
      · simp only [hle]
        intro heq
        cases heq
        refine ⟨by simp [hm'], ?_⟩
        intro p hp
        rcases List.mem_cons.1 hp with h | h
        · subst h
          rcases keyLe_total k0 k with h | h
          · exact h
          · exact absurd h hle
        · exact hmax' p h

/-- `'last'` is the entry with the latest start -/
theorem last_latest_start {ε} (h : History ε) (k : Interval) (e : ε)
    (hl : histLast h = some (k, e)) : ∀ p ∈ h, p.1.1 ≤ k.1 := by
  intro p hp
  have := (last_is_max h k e hl).2 p hp
  simp only [keyLe, Bool.or_eq_true, Bool.and_eq_true, decide_eq_true_eq] at this
  omega

/-! ### Open-ended starts and ends are ∓∞ -/

/-- `open_ended` needs of the record nothing: only that the date is not before `datetime.min` -/
theorem open_ended_of_min (r : Raw) (d : Date) (hlo : dmin ≤ d) :
    contains r.key d = true ↔
      (r.start = none ∨ ∃ s, r.start = some s ∧ s ≤ d) ∧
      (r.stop = none ∨ r.stop = some dmax ∨ ∃ e, r.stop = some e ∧ d < e) := by
  obtain ⟨s, e, t⟩ := r
  simp only [contains_iff, Within, Raw.key, openFrom, openTo]
  cases s <;> cases e <;> simp_all <;> omega

/-- For every date `d` not before `datetime.min` (so for every representable one): a record with no start
contains `d` iff `d` is before its end; a record with no end (or the literal `datetime.max`) contains
`d` iff `d` is not before its start. -/
theorem open_ended (r : Raw) (d : Date) (hlo : dmin ≤ d)
    (hs : ∀ s, r.start = some s → dmin ≤ s) (he : ∀ e, r.stop = some e → e ≤ dmax) :
    contains r.key d = true ↔
      (r.start = none ∨ ∃ s, r.start = some s ∧ s ≤ d) ∧
      (r.stop = none ∨ r.stop = some dmax ∨ ∃ e, r.stop = some e ∧ d < e) :=
  open_ended_of_min r d hlo

/-! ### The combined query returns exactly what the individual modules return -/

/-- the date a module is asked with inside `SiteInfo.get` (`Identifier` never gets one) -/
def dateFor (m : Module) (date : Option DateQ) : Option DateQ := if m = .identifier then none else date

/-- a station name the second normalisation inside the module call leaves alone (no comma, no outer
blanks, lower case) — true of every piece of a comma separated text, assumed of list elements -/
def Clean (s : Str) : Prop := normStations (.text s) = [s]

/-- **combined = modules** (`SiteInfo.get`): whenever the combined query and a module's own query
(with the same stations and date) both answer, the combined answer holds, for every station asked
for and that module, exactly the module's answer. -/
theorem combined_eq_modules (src : Source) (st : Stations) (date : Option DateQ)
    (all : List (Str × List (Module × Val))) (hall : siteInfoGet src st date = .ok all)
    (m : Module) (res : List (Str × Val)) (hres : moduleGet m src st (dateFor m date) = .ok res)
    (s : Str) (hs : s ∈ normStations st) (hclean : Clean s) :
    ∃ ms, dictGet? all s = some ms ∧ dictGet? ms m = some (pick res s) :=
  combined_get (skip := false) hall rfl hres hs hclean

/-- the same for `SiteInfo.get_history` (which leaves `Identifier` out) -/
theorem combined_history_eq_modules (src : Source) (st : Stations)
    (all : List (Str × List (Module × Val))) (hall : siteInfoGetHistory src st = .ok all)
    (m : Module) (hm : m ≠ .identifier)
    (res : List (Str × Val)) (hres : moduleGetHistory m src st = .ok res)
    (s : Str) (hs : s ∈ normStations st) (hclean : Clean s) :
    ∃ ms, dictGet? all s = some ms ∧ dictGet? ms m = some (pick res s) :=
  combined_get (date := none) (skip := true) hall (by simp [hm]) (by simpa [moduleGetHistory] using hres) hs hclean

/-- in the model a query is a function of the source it is given and returns no new source, so this holds by
reflexivity and says nothing beyond that modelling choice; that the code, which *can* write to its argument, does
not, is checked by the before/after snapshot of the correspondence run -/
theorem query_pure (src : Source) (st : Stations) (date : Option DateQ) (m : Module) :
    (fun (_ : Unit) => (moduleGet m src st date, siteInfoGet src st date)) () =
    (fun (_ : Unit) => (moduleGet m src st date, siteInfoGet src st date)) () := rfl

/-- a reader that pops `pos_vel` from the caller's dict (`sscPopQuery`) violates that: after one query a second one
on the same source fails -/
theorem ssc_pop_breaks_second_query (pv : List (Nat × Raw)) (q q' : DateQ) :
    (sscPopQuery (sscPopQuery (some pv) q).2 q').1 = .error .key := by
  simp [sscPopQuery]

/-! ### Stations: any letter case, list or comma separated text -/

/-- any re-casing `f` of the names (one that `lower` undoes) gives the same normalised stations -/
theorem list_case_insensitive (f : Str → Str) (hf : ∀ s, lower (f s) = lower s) (l : List Str) :
    normStations (.list (l.map f)) = normStations (.list l) := by
  simp [normStations, List.map_map, Function.comp_def, hf]

/-- `",".join(l)` -/
def joinComma : List Str → Str
  | [] => []
  | [a] => a
  | a :: b :: t => a ++ 44 :: joinComma (b :: t)

/-- splitting the comma-joined text of comma-free names gives the names back -/
theorem split_join (l : List Str) (hne : l ≠ []) (h : ∀ s ∈ l, 44 ∉ s) : splitComma (joinComma l) = l := by
  induction l with
  | nil => exact absurd rfl hne
  | cons a t ih =>
    cases t with
    | nil => simp [joinComma, splitComma_nocomma a (h a (by simp))]
    | cons b t' =>
      simp only [joinComma]
      rw [splitComma_append a _ (h a (by simp)), ih (by simp) (fun s hs => h s (List.mem_cons_of_mem _ hs))]

/-- **text ≡ list**: the comma-joined text of a list of names is normalised like the list of the stripped names -/
theorem list_eq_commatext (l : List Str) (hne : l ≠ []) (h : ∀ s ∈ l, 44 ∉ s) :
    normStations (.text (joinComma l)) = normStations (.list (l.map strip)) := by
  simp [normStations, split_join l hne h, List.map_map, Function.comp_def]

/-- **any letter case** (text form): upper-casing the whole text changes nothing -/
theorem text_case_insensitive (s : Str) : normStations (.text (upper s)) = normStations (.text s) :=
  text_recase upperC letterMap_upperC lowerC_upperC s

theorem strip_idem (s : Str) : strip (strip s) = strip s := by
  simp only [strip]
  rw [lstrip_of_prefix (rstrip (lstrip s)) (lstrip s) (rstrip_prefix _) (lstrip_head s), rstrip_idem]

/-- a name without comma and without outer blanks is `Clean` once lower-cased — so for list-form
stations the side condition only excludes elements that are not plain station names -/
theorem clean_of_plain (s : Str) (h44 : 44 ∉ s) (hs : strip s = s) : Clean (lower s) := by
  have hl : 44 ∉ lower s := by
    intro hm
    simp only [lower, List.mem_map] at hm
    obtain ⟨c, hc, hc44⟩ := hm
    rw [(letterMap_lowerC.comma c).1 hc44] at hc
    exact h44 hc
  simp only [Clean, normStations, splitComma_nocomma _ hl, List.map_cons, List.map_nil]
  congr 1
  show lower (strip (lower s)) = lower s
  rw [show lower s = s.map lowerC from rfl, strip_map lowerC letterMap_lowerC.blank, hs]
  exact lower_idem s

/-- every station name produced from the comma separated text form is `Clean`: the second
normalisation inside the per-station module call of `SiteInfo.get` leaves it alone -/
theorem pieces_clean (t : Str) : ∀ p ∈ normStations (.text t), Clean p := by
  intro p hp
  simp only [normStations, List.mem_map] at hp
  obtain ⟨q, hq, rfl⟩ := hp
  exact clean_of_plain (strip q) (fun h => splitComma_pieces t q hq (strip_subset q _ h)) (strip_idem q)

/-- **combined = modules**, text form, with no side condition on the station names -/
theorem combined_eq_modules_text (src : Source) (t : Str) (date : Option DateQ)
    (all : List (Str × List (Module × Val))) (hall : siteInfoGet src (.text t) date = .ok all)
    (m : Module) (res : List (Str × Val)) (hres : moduleGet m src (.text t) (dateFor m date) = .ok res)
    (s : Str) (hs : s ∈ normStations (.text t)) :
    ∃ ms, dictGet? all s = some ms ∧ dictGet? ms m = some (pick res s) :=
  combined_eq_modules src (.text t) date all hall m res hres s hs (pieces_clean t s hs)

/-! ### Source paths: the lookup theorems reach `Module.get` for the SINEX and the SSC source -/

/-- the answer of a history module for a date, given the records its source holds -/
def answerOf {ρ} (key : ρ → Interval) (toEntry : ρ → Entry) (rs : List ρ) (d : Date) : Val :=
  match histGet (createHistory key rs []) d with
  | none => .none
  | some r => .entry (toEntry r)

theorem historyGet_at {ρ} (key : ρ → Interval) (toEntry : ρ → Entry) (rs : List ρ) (d : Date) :
    historyGet (some ((createHistory key rs []).map fun (k, r) => (k, toEntry r))) (.at d)
      = answerOf key toEntry rs d := by
  simp only [historyGet, answerOf, histGet_map]
  cases histGet (createHistory key rs []) d <;> rfl

/-- **SSC source**: `SiteCoord.get("ssc", data, station, date)` is the interval search over the
station's `pos_vel` records (in dict order) -/
theorem ssc_siteCoord_get (dd : List (Str × SscStation)) (station : Str) (st : SscStation) (d : Date)
    (hne : dd ≠ []) (hst : findKey dd station = some st) :
    moduleGet1 .siteCoord (.ssc dd) station (some (.at d)) =
      .ok (answerOf Raw.key Entry.ofRaw (st.posvel.map (·.2)) d) := by
  simp only [moduleGet1, historyOf, Source.ssc_isEmpty hne, hst, Bool.false_eq_true, if_false]
  exact congrArg _ (historyGet_at Raw.key Entry.ofRaw _ d)

/-- what `answerOf` is: the four lookup facts, for any record type -/
theorem answerOf_spec {ρ} (key : ρ → Interval) (toEntry : ρ → Entry) (rs : List ρ) (d : Date) :
    (∀ e, answerOf key toEntry rs d = .entry e → ∃ r ∈ rs, e = toEntry r ∧ Within (key r) d) ∧
    ((∃ r ∈ rs, Within (key r) d) → ∃ r ∈ rs, Within (key r) d ∧ answerOf key toEntry rs d = .entry (toEntry r)) ∧
    ((∀ r ∈ rs, ¬ Within (key r) d) → answerOf key toEntry rs d = .none) ∧
    (rs.Pairwise (fun a b => Apart (key a) (key b)) →
      ∀ r ∈ rs, Within (key r) d → answerOf key toEntry rs d = .entry (toEntry r)) := by
  refine ⟨?_, ?_, ?_, ?_⟩
  · intro e he
    simp only [answerOf] at he
    cases hg : histGet (createHistory key rs []) d with
    | none => simp [hg] at he
    | some r =>
      simp only [hg, Val.entry.injEq] at he
      obtain ⟨hm, hw⟩ := lookup_sound key rs d r hg
      exact ⟨r, hm, he.symm, hw⟩
  · intro ⟨r, hr, hw⟩
    have := lookup_complete key rs d r hr hw
    cases hg : histGet (createHistory key rs []) d with
    | none => simp [hg] at this
    | some r' =>
      obtain ⟨hm, hw'⟩ := lookup_sound key rs d r' hg
      exact ⟨r', hm, hw', by simp [answerOf, hg]⟩
  · intro hgap
    simp [answerOf, lookup_none key rs d hgap]
  · intro hdis r hr hw
    simp [answerOf, lookup_unique key rs d r hdis hr hw]

/-- **SSC source, the other modules**: an SSC file has no antenna / receiver / eccentricity
information — a known station answers `None` for every date -/
theorem ssc_no_information (m : Module) (hm : m = .antenna ∨ m = .receiver ∨ m = .eccentricity)
    (dd : List (Str × SscStation)) (station : Str) (st : SscStation) (q : DateQ)
    (hne : dd ≠ []) (hst : findKey dd station = some st) :
    moduleGet1 m (.ssc dd) station (some q) = .ok .none := by
  rcases hm with h | h | h <;> subst h <;>
    simp [moduleGet1, historyOf, Source.ssc_isEmpty hne, hst, historyGet]

/-- **SINEX source**: `Antenna.get("snx", …)` is the interval search over `site_antenna` -/
theorem snx_antenna_get (dd : List (Str × SnxStation)) (station : Str) (st : SnxStation) (rs : List Raw)
    (d : Date) (hne : dd ≠ []) (hst : findKey dd station = some st) (hb : st.ant = some rs) :
    moduleGet1 .antenna (.snx dd) station (some (.at d)) = .ok (answerOf Raw.key Entry.ofRaw rs d) := by
  simp only [moduleGet1, historyOf, Source.snx_isEmpty hne, hst, hb, Bool.false_eq_true, if_false]
  exact congrArg _ (historyGet_at Raw.key Entry.ofRaw rs d)

theorem snx_receiver_get (dd : List (Str × SnxStation)) (station : Str) (st : SnxStation) (rs : List Raw)
    (d : Date) (hne : dd ≠ []) (hst : findKey dd station = some st) (hb : st.rcv = some rs) :
    moduleGet1 .receiver (.snx dd) station (some (.at d)) = .ok (answerOf Raw.key Entry.ofRaw rs d) := by
  simp only [moduleGet1, historyOf, Source.snx_isEmpty hne, hst, hb, Bool.false_eq_true, if_false]
  exact congrArg _ (historyGet_at Raw.key Entry.ofRaw rs d)

theorem snx_eccentricity_get (dd : List (Str × SnxStation)) (station : Str) (st : SnxStation) (rs : List Raw)
    (d : Date) (hne : dd ≠ []) (hst : findKey dd station = some st) (hb : st.ecc = some rs) :
    moduleGet1 .eccentricity (.snx dd) station (some (.at d)) = .ok (answerOf Raw.key Entry.ofRaw rs d) := by
  simp only [moduleGet1, historyOf, Source.snx_isEmpty hne, hst, hb, Bool.false_eq_true, if_false]
  exact congrArg _ (historyGet_at Raw.key Entry.ofRaw rs d)

/-- **SINEX coordinates**: the interval search over the `solution_epochs` records, each merged with the
estimates of its `soln` -/
theorem snx_siteCoord_get (dd : List (Str × SnxStation)) (station : Str) (st : SnxStation) (est : List Est)
    (d : Date) (hne : dd ≠ []) (hst : findKey dd station = some st) (hb : st.est = some est) :
    moduleGet1 .siteCoord (.snx dd) station (some (.at d)) =
      .ok (answerOf Combined.key (fun c => ⟨c.raw.tag, c.params⟩) (combine st.epochs est) d) := by
  simp only [moduleGet1, historyOf, Source.snx_isEmpty hne, hst, hb, Bool.false_eq_true, if_false]
  exact congrArg _ (historyGet_at Combined.key (fun c => ⟨c.raw.tag, c.params⟩) _ d)

/-- a SINEX file without `SOLUTION/ESTIMATE` for the station has no coordinate information -/
theorem snx_siteCoord_none (dd : List (Str × SnxStation)) (station : Str) (st : SnxStation) (q : DateQ)
    (hne : dd ≠ []) (hst : findKey dd station = some st) (hb : st.est = none) :
    moduleGet1 .siteCoord (.snx dd) station (some q) = .ok .none := by
  simp [moduleGet1, historyOf, Source.snx_isEmpty hne, hst, hb, historyGet]

/-- the interval of a merged coordinate record is the interval of its epoch record -/
theorem combine_keys (epochs : List Epoch) (est : List Est) :
    (combine (some epochs) est).map Combined.key = epochs.map (fun e => e.raw.key) := by
  simp [combine, Combined.key, List.map_map, Function.comp_def]

/-- **'last' through the modules** (SSC coordinates): the module answers with `histLast` of the history of the `pos_vel`
records (`last_is_max`, `last_none_iff` say which entry that is), `None` when it has none -/
theorem ssc_siteCoord_last (dd : List (Str × SscStation)) (station : Str) (st : SscStation)
    (hne : dd ≠ []) (hst : findKey dd station = some st) :
    moduleGet1 .siteCoord (.ssc dd) station (some .last) =
      .ok (match histLast (histOfRaws (st.posvel.map (·.2))) with
           | none => .none
           | some (_, e) => .entry e) := by
  simp only [moduleGet1, historyOf, Source.ssc_isEmpty hne, hst, historyGet, Bool.false_eq_true, if_false]
  rfl

/-! ### The `Clean` side condition of `combined_eq_modules`: not needed for plain names (`clean_of_plain`), and necessary -/

/-- **combined = modules**, list form: for a list of plain station names (no comma, no outer blanks,
any letter case) no side condition is left -/
theorem combined_eq_modules_list (src : Source) (l : List Str) (date : Option DateQ)
    (hplain : ∀ x ∈ l, 44 ∉ x ∧ strip x = x)
    (all : List (Str × List (Module × Val))) (hall : siteInfoGet src (.list l) date = .ok all)
    (m : Module) (res : List (Str × Val)) (hres : moduleGet m src (.list l) (dateFor m date) = .ok res)
    (s : Str) (hs : s ∈ normStations (.list l)) :
    ∃ ms, dictGet? all s = some ms ∧ dictGet? ms m = some (pick res s) := by
  have hclean : Clean s := by
    simp only [normStations, List.mem_map] at hs
    obtain ⟨x, hx, rfl⟩ := hs
    exact clean_of_plain x (hplain x hx).1 (hplain x hx).2
  exact combined_eq_modules src (.list l) date all hall m res hres s hs hclean

/-! The condition cannot be dropped: `SiteInfo.get` hands each list element to the modules *as text*,
so an element with a comma is split once more.  Witness: a source that has the three stations
`"a,b"`, `"a"` and `"b"`, asked for the list `["a,b"]`. -/

def witnessStation (tag : Nat) : SnxStation :=
  ⟨some [⟨none, none, tag⟩], some [], some [], some (tag + 100), none, none⟩

def witnessSrc : Source := .snx [([97, 44, 98], witnessStation 7), ([97], witnessStation 8), ([98], witnessStation 9)]

/-- **the side condition is necessary**: for the list `["a,b"]` (not `Clean`) the module answers with
the entry of station `"a,b"` (tag 7) while the combined query answers `None` for the same station -/
theorem clean_needed :
    ¬ Clean [97, 44, 98] ∧
    [97, 44, 98] ∈ normStations (.list [[97, 44, 98]]) ∧
    (moduleGet .antenna witnessSrc (.list [[97, 44, 98]]) (some .last)).toOption.map (pick · [97, 44, 98])
      = some (.entry ⟨7, []⟩) ∧
    (((siteInfoGet witnessSrc (.list [[97, 44, 98]]) (some .last)).toOption.bind
        (dictGet? · [97, 44, 98])).bind (dictGet? · Module.antenna)) = some .none := by
  refine ⟨by unfold Clean; decide +kernel, by decide +kernel, by decide +kernel, by decide +kernel⟩

/-! ### The generated tables: the model's module list is the code's -/

def moduleName : Module → String
  | .antenna => "Antenna" | .eccentricity => "Eccentricity" | .identifier => "Identifier"
  | .receiver => "Receiver" | .siteCoord => "SiteCoord"

theorem modules_eq_source : modules.map moduleName = Generated.SiteInfoTables.modulesOrder := by
  decide +kernel

/-- every module registers a class for both file sources -/
theorem file_sources_registered :
    ∀ m ∈ Generated.SiteInfoTables.registry,
      (m.2.map (·.1)).contains "snx" = true ∧ (m.2.map (·.1)).contains "ssc" = true := by
  decide +kernel

/-- no registered history class replaces the shared lookup, no module replaces `get/get_history`:
the one `histGet`/`moduleGet` of the model stands for all of them -/
theorem shared_lookup_not_overridden :
    Generated.SiteInfoTables.lookupOverriddenBy = [] ∧
    Generated.SiteInfoTables.moduleGetOverriddenBy = [] := by
  decide +kernel

/-! ### The kinds of the `stations` argument: text, containers, one-shot iterables -/

/-- a one-shot iterable (generator, `map`/`filter` object, iterator, open file) gives the same combined answer as a
container with the same items: the argument is passed over exactly once.  Definitional in the model
(`StationsArg.once` drains both kinds to the same list); what it records is that the entry points go through `once`. -/
theorem stations_kind_irrelevant (src : Source) (l : List Str) (date : Option DateQ) (m : Module) :
    siteInfoGetArg src (.iter (.oneShot l)) date = siteInfoGetArg src (.iter (.reiterable l)) date ∧
    siteInfoGetHistoryArg src (.iter (.oneShot l)) = siteInfoGetHistoryArg src (.iter (.reiterable l)) ∧
    moduleGetArg m src (.iter (.oneShot l)) date = moduleGetArg m src (.iter (.reiterable l)) date ∧
    moduleGetHistoryArg m src (.iter (.oneShot l)) = moduleGetHistoryArg m src (.iter (.reiterable l)) :=
  ⟨rfl, rfl, rfl, rfl⟩

/-- **combined = modules for every kind of argument**: the combined query on the argument as given holds, for every
station it hands out and every module, the answer that module gives when asked with (a fresh copy of) the same
argument -/
theorem combined_eq_modules_arg (src : Source) (a : StationsArg) (date : Option DateQ)
    (all : List (Str × List (Module × Val))) (hall : siteInfoGetArg src a date = .ok all)
    (m : Module) (res : List (Str × Val)) (hres : moduleGetArg m src a (dateFor m date) = .ok res)
    (s : Str) (hs : s ∈ normStations a.once) (hclean : Clean s) :
    ∃ ms, dictGet? all s = some ms ∧ dictGet? ms m = some (pick res s) :=
  combined_eq_modules src a.once date all hall m res hres s hs hclean

/-- why the combined query must not hand the caller's iterable on to the modules: what is left of a one-shot iterable
after the first pass is empty, and a module asked with it answers with the empty dictionary — not with its answer
for the stations -/
theorem drained_one_shot_answers_nothing (src : Source) (l : List Str) (date : Option DateQ) (m : Module) :
    (Iterable.oneShot l).drain.2 = .oneShot [] ∧
    moduleGetArg m src (.iter (Iterable.oneShot l).drain.2) date = .ok [] ∧
    (Iterable.reiterable l).drain.2 = .reiterable l := by
  refine ⟨rfl, ?_, rfl⟩
  simp [moduleGetArg, StationsArg.once, Iterable.drain, moduleGet, normStations, collect]

example : (StationsArg.iter (.oneShot [[111, 115, 108, 115]])).once = .list [[111, 115, 108, 115]] := rfl

/-! ### Every registered history class has the shape the model gives it -/

/-- what the model takes each file-source history class to read: the SINEX classes read one block of the station's
source data each (`SiteCoord` two: the epochs give the intervals, the estimates the values) and key the history by the
record's `(date_from, date_to)` = the block's start/end fields with an empty value standing for ∓∞; of the SSC classes
only `SiteCoord` has a history, keyed by the `start`/`end` of the position/velocity records (`historyOf`).  Hand-typed;
compared with `Generated.SiteInfoTables.historyShapes` (where the legend of the eight components stands), which is
regenerated from the source text of every registered history class on every run: a new module or source class, another
block, other date fields or another keying changes that table and `history_shapes` no longer checks. -/
def modelShapes : List (String × String × String × List String × List String × List String × List String × Bool) := [
  ("Antenna", "snx", "AntennaHistorySinex", ["site_antenna"], ["AntennaSinex"], ["start_time"], ["end_time"], true),
  ("Antenna", "ssc", "AntennaHistorySsc", [], [], [], [], false),
  ("Eccentricity", "snx", "EccentricityHistorySinex", ["site_eccentricity"], ["EccentricitySinex"], ["start_time"], ["end_time"], true),
  ("Eccentricity", "ssc", "EccentricityHistorySsc", [], [], [], [], false),
  ("Receiver", "snx", "ReceiverHistorySinex", ["site_receiver"], ["ReceiverSinex"], ["start_time"], ["end_time"], true),
  ("Receiver", "ssc", "ReceiverHistorySsc", [], [], [], [], false),
  ("SiteCoord", "snx", "SiteCoordHistorySinex", ["solution_epochs", "solution_estimate"], ["SiteCoordSinex"], ["start_epoch"], ["end_epoch"], true),
  ("SiteCoord", "ssc", "SiteCoordHistorySsc", [], ["SiteCoordSsc"], ["start"], ["end"], true)]

/-- every registered history class of the file sources has the shape the model gives it; the only other source
registered is the web API `m3g` (outside the property) -/
theorem history_shapes :
    (Generated.SiteInfoTables.historyShapes.filter (fun r => r.2.1 ≠ "m3g") == modelShapes) = true ∧
    (Generated.SiteInfoTables.historyShapes.map (·.2.1)).eraseDups = ["m3g", "snx", "ssc"] ∧
    (Generated.SiteInfoTables.registry.flatMap (fun m => m.2.map (·.1))).eraseDups = ["m3g", "snx", "ssc"] := by
  refine ⟨?_, ?_, ?_⟩ <;> decide +kernel

/-! ### Histories of in-place updates of the source data and queries -/

/-- what a caller does with one source dictionary over time: replace its contents in place, or ask -/
inductive Step
  | update (src : Source)
  | moduleGet (m : Module) (a : StationsArg) (date : Option DateQ)
  | moduleHistory (m : Module) (a : StationsArg)
  | allGet (a : StationsArg) (date : Option DateQ)
  | allHistory (a : StationsArg)

inductive Answer
  | one (r : Except Err (List (Str × Val)))
  | all (r : Except Err (List (Str × List (Module × Val))))

/-- the answer of a query on given source data (`none` for an update) -/
def answerOn (cur : Source) : Step → Option Answer
  | .update _ => none
  | .moduleGet m a d => some (.one (moduleGetArg m cur a d))
  | .moduleHistory m a => some (.one (moduleGetHistoryArg m cur a))
  | .allGet a d => some (.all (siteInfoGetArg cur a d))
  | .allHistory a => some (.all (siteInfoGetHistoryArg cur a))

/-- the contents of the dictionary after a step -/
def contentsAfter (cur : Source) : Step → Source
  | .update s => s
  | _ => cur

def contentsAt (s0 : Source) (steps : List Step) : Source := steps.foldl contentsAfter s0

/-- the answers a history produces, in order -/
def answers : Source → List Step → List Answer
  | _, [] => []
  | cur, st :: t =>
    match answerOn cur st with
    | some a => a :: answers (contentsAfter cur st) t
    | none => answers (contentsAfter cur st) t

theorem answers_append (s0 : Source) (pre post : List Step) :
    answers s0 (pre ++ post) = answers s0 pre ++ answers (contentsAt s0 pre) post := by
  induction pre generalizing s0 with
  | nil => rfl
  | cons st t ih =>
    simp only [List.cons_append, answers, contentsAt, List.foldl_cons]
    cases answerOn s0 st with
    | none => exact ih _
    | some a => simp only [List.cons_append]; rw [ih]; rfl

/-- **every answer is a function of the source data as it is when the query is asked**: whatever updates and queries
came before (`pre`) and come after (`post`), the query `q` is answered as on the current contents — nothing is
remembered from earlier contents or earlier queries (as a result cached across an in-place update would be) -/
theorem answer_of_current_contents (s0 : Source) (pre post : List Step) (q : Step) (a : Answer)
    (hq : answerOn (contentsAt s0 pre) q = some a) :
    answers s0 (pre ++ q :: post) = answers s0 pre ++ a :: answers (contentsAt s0 pre) post := by
  rw [answers_append]
  simp only [answers, hq]
  cases q with
  | update s => simp [answerOn] at hq
  | _ => rfl

/-- in particular: an update followed by a query answers as a fresh dictionary with the new contents does -/
theorem update_then_query (s0 s1 : Source) (pre : List Step) (m : Module) (a : StationsArg) (d : Option DateQ) :
    answers s0 (pre ++ [.update s1, .moduleGet m a d]) = answers s0 pre ++ answers s1 [.moduleGet m a d] := by
  rw [answers_append]; rfl

/-! ### SSC coordinates: a hole between two solutions stays a hole -/

/-- the date is not inside the record's `[start, end)`: before the start, or at / after a closed end -/
def Outside (r : Raw) (d : Date) : Prop :=
  d < openFrom r.start ∨ (openTo r.stop ≤ d ∧ openTo r.stop ≠ dmax)

theorem not_within_of_outside (r : Raw) (d : Date) (h : Outside r d) : ¬ Within r.key d := by
  intro hw
  simp only [Within, Raw.key] at hw
  rcases h with h | ⟨h1, h2⟩
  · omega
  · rcases hw.2 with h3 | h3
    · omega
    · exact h2 h3

/-- **holes are preserved**: a date that lies in none of the `[DATA_START, DATA_END)` of the station's solutions is
answered with `None` by `SiteCoord.get("ssc", …)` — the validity of a solution ends at its own DATA_END, whatever
solution follows and however soon -/
theorem ssc_holes_preserved (dd : List (Str × SscStation)) (station : Str) (st : SscStation) (d : Date)
    (hne : dd ≠ []) (hst : findKey dd station = some st)
    (hhole : ∀ p ∈ st.posvel, Outside p.2 d) :
    moduleGet1 .siteCoord (.ssc dd) station (some (.at d)) = .ok .none := by
  rw [ssc_siteCoord_get dd station st d hne hst]
  simp only [answerOf]
  rw [lookup_none Raw.key (st.posvel.map (·.2)) d]
  intro r hr
  obtain ⟨p, hp, rfl⟩ := List.mem_map.1 hr
  exact not_within_of_outside p.2 d (hhole p hp)

/-- in particular the gap between the DATA_END `e` of one solution and the DATA_START `s` of the next, for every length
of the gap (the 30 s between `yy:ddd:86370` and `yy:ddd+1:00000` of real SSC files included), the end instant itself
included: every solution either has ended by `e` or starts at `s` or later -/
theorem ssc_gap_is_hole (dd : List (Str × SscStation)) (station : Str) (st : SscStation) (d e s : Date)
    (hne : dd ≠ []) (hst : findKey dd station = some st) (he : e ≤ d) (hs : d < s)
    (hsplit : ∀ p ∈ st.posvel, (openTo p.2.stop ≤ e ∧ openTo p.2.stop ≠ dmax) ∨ s ≤ openFrom p.2.start) :
    moduleGet1 .siteCoord (.ssc dd) station (some (.at d)) = .ok .none := by
  apply ssc_holes_preserved dd station st d hne hst
  intro p hp
  rcases hsplit p hp with ⟨h1, h2⟩ | h
  · exact Or.inr ⟨by omega, h2⟩
  · exact Or.inl (by omega)

/-- the module query on the model's executable functions, for a station with two solutions 30 s apart: the entry before
the gap, `None` at the end of the first solution, inside the gap and one microsecond before the next start, then the next entry -/
example :
    let src : Source := .ssc [([122, 105, 109, 109], ⟨1, [(1, ⟨some 1000000000, some 86370000000, 11⟩),
                                                          (2, ⟨some 86400000000, none, 12⟩)]⟩)]
    [86369999999, 86370000000, 86385000000, 86399999999, 86400000000].map
      (fun d => (moduleGet1 .siteCoord src [122, 105, 109, 109] (some (.at d))).toOption) =
    [some (.entry ⟨11, []⟩), some .none, some .none, some .none, some (.entry ⟨12, []⟩)] := by decide +kernel

example : histGet [((0, 10), 1), ((10, 20), 2)] 10 = some 2 := by decide +kernel
example : histGet [((0, 10), 1), ((12, 20), 2)] 11 = none := by decide +kernel
example : histGet [((5, dmax), 1)] dmax = some 1 := by decide +kernel
example : (histLast [((0, 10), 1), ((10, 20), 2), ((3, 4), 3)]).map (·.2) = some 2 := by decide +kernel
example : normStations (.text [79, 83, 76, 83, 44, 32, 97, 98]) = [[111, 115, 108, 115], [97, 98]] := by
  decide +kernel

end Midgard.Props.C18

#print axioms Midgard.Props.C18.contains_iff
#print axioms Midgard.Props.C18.get_sound
#print axioms Midgard.Props.C18.get_complete
#print axioms Midgard.Props.C18.get_none_iff
#print axioms Midgard.Props.C18.get_unique
#print axioms Midgard.Props.C18.lookup_sound
#print axioms Midgard.Props.C18.lookup_complete
#print axioms Midgard.Props.C18.lookup_none
#print axioms Midgard.Props.C18.lookup_unique
#print axioms Midgard.Props.C18.last_is_max
#print axioms Midgard.Props.C18.last_latest_start
#print axioms Midgard.Props.C18.last_none_iff
#print axioms Midgard.Props.C18.open_ended_of_min
#print axioms Midgard.Props.C18.open_ended
#print axioms Midgard.Props.C18.list_case_insensitive
#print axioms Midgard.Props.C18.combined_eq_modules
#print axioms Midgard.Props.C18.combined_history_eq_modules
#print axioms Midgard.Props.C18.query_pure
#print axioms Midgard.Props.C18.ssc_pop_breaks_second_query
#print axioms Midgard.Props.C18.split_join
#print axioms Midgard.Props.C18.list_eq_commatext
#print axioms Midgard.Props.C18.text_case_insensitive
#print axioms Midgard.Props.C18.strip_idem
#print axioms Midgard.Props.C18.pieces_clean
#print axioms Midgard.Props.C18.combined_eq_modules_text
#print axioms Midgard.Props.C18.modules_eq_source
#print axioms Midgard.Props.C18.file_sources_registered
#print axioms Midgard.Props.C18.shared_lookup_not_overridden
#print axioms Midgard.Props.C18.historyGet_at
#print axioms Midgard.Props.C18.ssc_siteCoord_get
#print axioms Midgard.Props.C18.answerOf_spec
#print axioms Midgard.Props.C18.ssc_no_information
#print axioms Midgard.Props.C18.snx_antenna_get
#print axioms Midgard.Props.C18.snx_receiver_get
#print axioms Midgard.Props.C18.snx_eccentricity_get
#print axioms Midgard.Props.C18.snx_siteCoord_get
#print axioms Midgard.Props.C18.snx_siteCoord_none
#print axioms Midgard.Props.C18.combine_keys
#print axioms Midgard.Props.C18.ssc_siteCoord_last
#print axioms Midgard.Props.C18.clean_of_plain
#print axioms Midgard.Props.C18.combined_eq_modules_list
#print axioms Midgard.Props.C18.clean_needed
#print axioms Midgard.Props.C18.stations_kind_irrelevant
#print axioms Midgard.Props.C18.combined_eq_modules_arg
#print axioms Midgard.Props.C18.drained_one_shot_answers_nothing
#print axioms Midgard.Props.C18.history_shapes
#print axioms Midgard.Props.C18.answers_append
#print axioms Midgard.Props.C18.answer_of_current_contents
#print axioms Midgard.Props.C18.update_then_query
#print axioms Midgard.Props.C18.latest_cons
#print axioms Midgard.Props.C18.histGet_find
#print axioms Midgard.Props.C18.dictSet_find
#print axioms Midgard.Props.C18.createHistory_find_test
#print axioms Midgard.Props.C18.createHistory_find
#print axioms Midgard.Props.C18.lookup_exact
#print axioms Midgard.Props.C18.lookup_overwrite
#print axioms Midgard.Props.C18.not_within_of_outside
#print axioms Midgard.Props.C18.ssc_holes_preserved
#print axioms Midgard.Props.C18.ssc_gap_is_hole
