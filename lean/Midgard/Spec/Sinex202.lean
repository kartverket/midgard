/-
Column layouts of SINEX blocks typed independently of the code:

* official blocks — from "SINEX – Solution (Software/technique) INdependent EXchange Format,
  Version 2.02 (December 01, 2006)", the field tables of each block (Fortran formats
  `1X,A4,1X,A2,…`).  Columns are 0-based here: a field described as starting in (1-based) column
  `c` has `start = c - 1`.
* `SOLUTION/DISCONTINUITY`, `SOLUTION/EVENT` (IGS/EPN conventions, not in 2.02) and the
  SINEX_TRO blocks — from the example records quoted in the parsers' doc strings and
  https://files.igs.org/pub/data/format/sinex_tropo.txt.
* The header line is `%=SNX` + `1X,F4.2,1X,A3,1X,I2.2:I3.3:I5.5,…`.

`kind` says what a well-formed value of the field looks like (used by the independent writer of
the harness and by `kindOk` of `Proofs/SinexTables.lean` to state which conversion the code must apply).

SITE/ID: the standard's 9-character DOMES field (`A9`, columns 9–17) is delivered by midgard as
two fields `domes` (first 5 characters) and `marker` (last 4): the specification follows that
naming but keeps the standard's columns.
SOURCE/ID: the standard gives the comment field as `A68`, which would end in column 99; records
are limited to 80 columns, so 48 is used.
-/
namespace Midgard.Spec.Sinex

inductive Kind
  | text      -- character field, delivered stripped
  | int       -- integer
  | flt       -- fixed-point or E-format real
  | epoch     -- YY:DDD:SSSSS
  | exp       -- real with E or D exponent
  | dms       -- degrees minutes seconds
  | tup       -- blank-separated one-character flags
  | epoch4    -- YYYY:DDD:SSSSS (SINEX-TMS)
  deriving Repr, DecidableEq, Inhabited

structure SField where
  name : String
  start : Nat
  width : Nat
  kind : Kind
  deriving Repr, DecidableEq, Inhabited

structure SBlock where
  marker : String
  fields : List SField
  deriving Repr, DecidableEq, Inhabited

open Kind

def header : List SField := [
  ⟨"snx_version", 6, 4, flt⟩, ⟨"create_agency", 11, 3, text⟩, ⟨"create_epoch", 15, 12, epoch⟩,
  ⟨"data_agency", 28, 3, text⟩, ⟨"start_epoch", 32, 12, epoch⟩, ⟨"end_epoch", 45, 12, epoch⟩,
  ⟨"obs_code", 58, 1, text⟩, ⟨"num_param", 60, 5, int⟩, ⟨"constraint_code", 66, 1, text⟩,
  ⟨"solution_contents", 68, 11, tup⟩]

def siteSoln (tname : String) : List SField := [
  ⟨"site_code", 1, 4, text⟩, ⟨"point_code", 6, 2, text⟩, ⟨"soln", 9, 4, text⟩, ⟨tname, 14, 1, text⟩]

def official : List SBlock := [
  ⟨"FILE/REFERENCE", [⟨"info_type", 1, 18, text⟩, ⟨"info", 20, 60, text⟩]⟩,
  ⟨"FILE/COMMENT", [⟨"comment", 1, 79, text⟩]⟩,
  ⟨"INPUT/HISTORY", [
    ⟨"file_code", 1, 1, text⟩, ⟨"doc_type", 2, 3, text⟩, ⟨"snx_version", 6, 4, flt⟩,
    ⟨"create_agency", 11, 3, text⟩, ⟨"create_epoch", 15, 12, epoch⟩, ⟨"data_agency", 28, 3, text⟩,
    ⟨"start_epoch", 32, 12, epoch⟩, ⟨"end_epoch", 45, 12, epoch⟩, ⟨"obs_code", 58, 1, text⟩,
    ⟨"num_param", 60, 5, int⟩, ⟨"constraint_code", 66, 1, text⟩, ⟨"solution_contents", 68, 11, text⟩]⟩,
  ⟨"INPUT/FILES", [
    ⟨"create_agency", 1, 3, text⟩, ⟨"create_time", 5, 12, epoch⟩, ⟨"filename", 18, 29, text⟩,
    ⟨"description", 48, 32, text⟩]⟩,
  ⟨"INPUT/ACKNOWLEDGEMENTS", [⟨"agency", 1, 3, text⟩, ⟨"description", 5, 75, text⟩]⟩,
  ⟨"NUTATION/DATA", [⟨"nutation_code", 1, 8, text⟩, ⟨"comments", 10, 70, text⟩]⟩,
  ⟨"PRECESSION/DATA", [⟨"precession_code", 1, 8, text⟩, ⟨"comments", 10, 70, text⟩]⟩,
  ⟨"SOURCE/ID", [
    ⟨"source_code", 1, 4, text⟩, ⟨"iers_designation", 6, 8, text⟩, ⟨"icrf_designation", 15, 16, text⟩,
    ⟨"comments", 32, 48, text⟩]⟩,
  ⟨"SITE/ID", [
    ⟨"site_code", 1, 4, text⟩, ⟨"point_code", 6, 2, text⟩, ⟨"domes", 9, 5, text⟩, ⟨"marker", 14, 4, text⟩,
    ⟨"obs_code", 19, 1, text⟩, ⟨"description", 21, 22, text⟩, ⟨"approx_lon", 44, 11, dms⟩,
    ⟨"approx_lat", 56, 11, dms⟩, ⟨"approx_height", 68, 7, flt⟩]⟩,
  ⟨"SITE/DATA", [
    ⟨"solved_site_code", 1, 4, text⟩, ⟨"solved_point_code", 6, 2, text⟩, ⟨"solved_soln", 9, 4, text⟩,
    ⟨"input_site_code", 14, 4, text⟩, ⟨"input_point_code", 19, 2, text⟩, ⟨"input_soln", 22, 4, text⟩,
    ⟨"input_obs_code", 27, 1, text⟩, ⟨"input_start_time", 29, 12, epoch⟩, ⟨"input_end_time", 42, 12, epoch⟩,
    ⟨"input_agency", 55, 3, text⟩, ⟨"input_create_time", 59, 12, epoch⟩]⟩,
  ⟨"SITE/RECEIVER", siteSoln "obs_code" ++ [
    ⟨"start_time", 16, 12, epoch⟩, ⟨"end_time", 29, 12, epoch⟩, ⟨"receiver_type", 42, 20, text⟩,
    ⟨"serial_number", 63, 5, text⟩, ⟨"firmware", 69, 11, text⟩]⟩,
  ⟨"SITE/ANTENNA", siteSoln "obs_code" ++ [
    ⟨"start_time", 16, 12, epoch⟩, ⟨"end_time", 29, 12, epoch⟩, ⟨"antenna_type", 42, 20, text⟩,
    ⟨"serial_number", 63, 5, text⟩]⟩,
  ⟨"SITE/GPS_PHASE_CENTER", [
    ⟨"antenna_type", 1, 20, text⟩, ⟨"serial_number", 22, 5, text⟩,
    ⟨"L1_up_offset", 28, 6, flt⟩, ⟨"L1_north_offset", 35, 6, flt⟩, ⟨"L1_east_offset", 42, 6, flt⟩,
    ⟨"L2_up_offset", 49, 6, flt⟩, ⟨"L2_north_offset", 56, 6, flt⟩, ⟨"L2_east_offset", 63, 6, flt⟩,
    ⟨"calibration_model", 70, 10, text⟩]⟩,
  ⟨"SITE/ECCENTRICITY", siteSoln "obs_code" ++ [
    ⟨"start_time", 16, 12, epoch⟩, ⟨"end_time", 29, 12, epoch⟩, ⟨"vector_type", 42, 3, text⟩,
    ⟨"vector_1", 46, 8, flt⟩, ⟨"vector_2", 55, 8, flt⟩, ⟨"vector_3", 64, 8, flt⟩]⟩,
  ⟨"SATELLITE/ID", [
    ⟨"site_code", 1, 4, text⟩, ⟨"prn", 6, 2, text⟩, ⟨"cospar_id", 9, 9, text⟩, ⟨"obs_code", 19, 1, text⟩,
    ⟨"start_time", 21, 12, epoch⟩, ⟨"end_time", 34, 12, epoch⟩, ⟨"antenna_type", 47, 20, text⟩]⟩,
  ⟨"SATELLITE/PHASE_CENTER", [
    ⟨"site_code", 1, 4, text⟩, ⟨"frequency_code_1", 6, 1, text⟩,
    ⟨"z_offset_1", 8, 6, flt⟩, ⟨"x_offset_1", 15, 6, flt⟩, ⟨"y_offset_1", 22, 6, flt⟩,
    ⟨"frequency_code_2", 29, 1, text⟩,
    ⟨"z_offset_2", 31, 6, flt⟩, ⟨"x_offset_2", 38, 6, flt⟩, ⟨"y_offset_2", 45, 6, flt⟩,
    ⟨"calibration_model", 52, 10, text⟩, ⟨"pvc_type", 63, 1, text⟩, ⟨"pvc_application", 65, 1, text⟩]⟩,
  ⟨"SOLUTION/EPOCHS", siteSoln "obs_code" ++ [
    ⟨"start_epoch", 16, 12, epoch⟩, ⟨"end_epoch", 29, 12, epoch⟩, ⟨"mean_epoch", 42, 12, epoch⟩]⟩,
  ⟨"BIAS/EPOCHS", siteSoln "bias_type" ++ [
    ⟨"start_epoch", 16, 12, epoch⟩, ⟨"end_epoch", 29, 12, epoch⟩, ⟨"weighted_mean_epoch", 42, 12, epoch⟩]⟩,
  ⟨"SOLUTION/STATISTICS", [⟨"info_type", 1, 30, text⟩, ⟨"info", 32, 22, flt⟩]⟩,
  ⟨"SOLUTION/ESTIMATE", [
    ⟨"param_idx", 1, 5, int⟩, ⟨"param_name", 7, 6, text⟩, ⟨"site_code", 14, 4, text⟩,
    ⟨"point_code", 19, 2, text⟩, ⟨"soln", 22, 4, text⟩, ⟨"ref_epoch", 27, 12, epoch⟩, ⟨"unit", 40, 4, text⟩,
    ⟨"constraint", 45, 1, text⟩, ⟨"estimate", 47, 21, exp⟩, ⟨"estimate_std", 69, 11, exp⟩]⟩,
  ⟨"SOLUTION/APRIORI", [
    ⟨"param_idx", 1, 5, int⟩, ⟨"param_name", 7, 6, text⟩, ⟨"site_code", 14, 4, text⟩,
    ⟨"point_code", 19, 2, text⟩, ⟨"soln", 22, 4, text⟩, ⟨"ref_epoch", 27, 12, epoch⟩, ⟨"unit", 40, 4, text⟩,
    ⟨"constraint", 45, 1, text⟩, ⟨"apriori", 47, 21, exp⟩, ⟨"apriori_std", 69, 11, exp⟩]⟩,
  ⟨"SOLUTION/MATRIX_ESTIMATE", [
    ⟨"row_idx", 1, 5, int⟩, ⟨"column_idx", 7, 5, int⟩, ⟨"value_0", 13, 21, flt⟩, ⟨"value_1", 35, 21, flt⟩,
    ⟨"value_2", 57, 21, flt⟩]⟩,
  ⟨"SOLUTION/MATRIX_APRIORI", [
    ⟨"row_idx", 1, 5, int⟩, ⟨"column_idx", 7, 5, int⟩, ⟨"value_0", 13, 21, flt⟩, ⟨"value_1", 35, 21, flt⟩,
    ⟨"value_2", 57, 21, flt⟩]⟩,
  ⟨"SOLUTION/NORMAL_EQUATION_VECTOR", [
    ⟨"param_idx", 1, 5, int⟩, ⟨"param_type", 7, 6, text⟩, ⟨"site_code", 14, 4, text⟩,
    ⟨"point_code", 19, 2, text⟩, ⟨"soln", 22, 4, text⟩, ⟨"ref_epoch", 27, 12, epoch⟩, ⟨"unit", 40, 4, text⟩,
    ⟨"constraint", 45, 1, text⟩, ⟨"value", 47, 21, flt⟩]⟩,
  ⟨"SOLUTION/NORMAL_EQUATION_MATRIX", [
    ⟨"row_idx", 1, 5, int⟩, ⟨"column_idx", 7, 5, int⟩, ⟨"value_0", 13, 21, flt⟩, ⟨"value_1", 35, 21, flt⟩,
    ⟨"value_2", 57, 21, flt⟩]⟩]

/-- not in SINEX 2.02; columns from the IGS/EPN example records -/
def unofficial : List SBlock := [
  ⟨"SOLUTION/DISCONTINUITY", siteSoln "obs_code" ++ [
    ⟨"start_time", 16, 12, epoch⟩, ⟨"end_time", 29, 12, epoch⟩, ⟨"event_code", 42, 1, text⟩,
    ⟨"description", 44, 36, text⟩]⟩,
  ⟨"SOLUTION/EVENT", siteSoln "obs_code" ++ [
    ⟨"start_time", 16, 12, epoch⟩, ⟨"end_time", 29, 12, epoch⟩, ⟨"event_code", 42, 7, text⟩,
    ⟨"description", 51, 29, text⟩]⟩]

/-- SINEX_TRO (Bernese flavour) -/
def tro : List SBlock := [
  ⟨"FILE/REFERENCE", [⟨"info_type", 1, 18, text⟩, ⟨"info", 20, 60, text⟩]⟩,
  ⟨"TROP/DESCRIPTION", [⟨"keyword", 1, 29, text⟩, ⟨"value", 31, 49, text⟩]⟩,
  ⟨"TROP/STA_COORDINATES", [
    ⟨"site_name", 1, 4, text⟩, ⟨"point_code", 6, 2, text⟩, ⟨"soln", 9, 4, text⟩, ⟨"obs_code", 14, 1, text⟩,
    ⟨"sta_x", 16, 12, flt⟩, ⟨"sta_y", 29, 12, flt⟩, ⟨"sta_z", 42, 12, flt⟩, ⟨"system", 55, 6, text⟩,
    ⟨"remark", 62, 5, text⟩]⟩,
  ⟨"TROP/SOLUTION", [
    ⟨"site_name", 1, 4, text⟩, ⟨"epoch", 6, 12, epoch⟩, ⟨"trop_tot", 19, 6, flt⟩, ⟨"trop_tot_std", 26, 6, flt⟩,
    ⟨"trop_gn_tot", 34, 6, flt⟩, ⟨"trop_gn_tot_std", 41, 6, flt⟩, ⟨"trop_ge_tot", 49, 6, flt⟩,
    ⟨"trop_ge_tot_std", 56, 6, flt⟩]⟩]

end Midgard.Spec.Sinex
