/-
SP3-c / SP3-d **files**: an abstract file model, the independent writer that renders it (columns of
`Spec/Sp3.lean`, number formats F14.6 / I2 / I3 / F11.8 of the SP3 documents), the explicit
well-formedness test, and what the property says the parser must deliver for it.

Mathlib-free and executable: the C13 driver renders the harness's file models with `render`, so the
files the real parser is run on are literally `render F`, and answers `wf F`, `expectedMeta F.hdr`, `expectedEntries … F`.
The file-level theorem (`Props/C13.lean`, `file_roundtrip`) is
`wf F → parseFile … (render F) = some ⟨expectedMeta F.hdr, expectedEntries … F⟩`.
-/
import Midgard.Model.Sp3
import Midgard.Spec.Sp3
import Midgard.Spec.NumText

namespace Midgard.Spec.Sp3File
open Midgard.Text Midgard.Decimal Midgard.FixedCol Midgard.Sp3 Midgard.Spec.NumText

/-! ### the abstract file -/

/-- data-section lines that carry no position: velocity records, the EP / EV correlation records, and
blank lines (nothing but blanks, possibly none) -/
inductive ExtraKind | vel | ep | ev | blank
  deriving Repr, DecidableEq, Inhabited

def ExtraKind.tag : ExtraKind → Str
  | .vel => ['V']
  | .ep => ['E', 'P']
  | .ev => ['E', 'V']
  | .blank => []

/-- columns 62–80 of a position record: accuracy exponents (blank = unknown) and the four flags -/
structure Acc where
  sx : Option Nat
  sy : Option Nat
  sz : Option Nat
  sclk : Option Nat
  /-- clock event, clock prediction, manoeuvre, orbit prediction: one character each or blank -/
  flags : List Str
  deriving Repr, DecidableEq, Inhabited

structure PosRec where
  sat : Str
  /-- coordinates in units of 10⁻⁶ km (F14.6); `0` is the "bad or absent" value -/
  x : Int
  y : Int
  z : Int
  /-- clock in units of 10⁻⁶ µs (F14.6); `999999999999` is the "bad or absent" value -/
  clk : Int
  /-- `none`: the record ends after the clock -/
  acc : Option Acc
  /-- `true`: the line is written with all its 80 columns; `false`: trailing blanks removed -/
  pad80 : Bool
  /-- the lines that follow the record before the next one (V, EP, EV, blank lines), each as (kind, rest of the line) -/
  extras : List (ExtraKind × Str)
  deriving Repr, DecidableEq, Inhabited

structure EpochBlock where
  epoch : Epoch
  recs : List PosRec
  deriving Repr, DecidableEq, Inhabited

/-- header lines the parser has no table for: `+ ` satellite lists, `++` accuracy lines, `%i`, `/*` -/
inductive HdrKind | plus | plusplus | pci | comment
  deriving Repr, DecidableEq, Inhabited

def HdrKind.tag : HdrKind → Str
  | .plus => ['+', ' ']
  | .plusplus => ['+', '+']
  | .pci => ['%', 'i']
  | .comment => ['/', '*']

structure Header where
  /-- `c` or `d` -/
  version : Char
  /-- line 1 after the version: pv_flag, year, month, day, hour, minute, second, num_epoch, data_used,
  coord_sys, orb_type, agency — the texts as printed -/
  line1 : List Str
  /-- line 2: gpsweek, gpssec, epoch_interval, mjd_int, mjd_frac -/
  line2 : List Str
  /-- the `+` / `++` lines (any number: 5 + 5, or more with over 85 satellites) -/
  satLines : List (HdrKind × Str)
  fileType : Str
  timeSys : Str
  /-- base for position/velocity accuracy in units of 10⁻⁷ (F10.7), for clock/rate in 10⁻⁹ (F12.9) -/
  basePos : Nat
  baseClk : Nat
  /-- `%i` and comment lines -/
  tailLines : List (HdrKind × Str)
  deriving Repr, DecidableEq, Inhabited

structure File where
  hdr : Header
  epochs : List EpochBlock
  deriving Repr, DecidableEq, Inhabited

/-! ### the writer -/

def R (s : Str) : Align × Str := (Align.right, s)
def Lft (s : Str) : Align × Str := (Align.left, s)

/-- `I2` / `I3` accuracy exponent, blank when unknown -/
def codeText : Option Nat → Str
  | some k => natDigits k
  | Option.none => []

def noAcc : Acc := ⟨Option.none, Option.none, Option.none, Option.none, [[], [], [], []]⟩

def posCells (r : PosRec) : List (Align × Str) :=
  let a := r.acc.getD noAcc
  [Lft r.sat, R (fmtDec 6 r.x), R (fmtDec 6 r.y), R (fmtDec 6 r.z), R (fmtDec 6 r.clk),
   R (codeText a.sx), R (codeText a.sy), R (codeText a.sz), R (codeText a.sclk)] ++ a.flags.map Lft

/-- all 80 columns of a position record -/
def posFull (r : PosRec) : Str := 'P' :: renderFrom 1 Spec.Sp3.recP (posCells r)

def posLine (r : PosRec) : Str := if r.pad80 then posFull r else rstrip (posFull r)

def extraLine (x : ExtraKind × Str) : Str := x.1.tag ++ x.2

def recLines (r : PosRec) : List Str := posLine r :: r.extras.map extraLine

/-- `*  yyyy mm dd hh mm ss.ssssssss` -/
def epochLine (e : Epoch) : Str :=
  ['*', ' ', ' '] ++ rjust 4 (fmtInt e.year) ++ ' ' :: rjust 2 (fmtInt e.month) ++ ' ' :: rjust 2 (fmtInt e.day) ++
    ' ' :: rjust 2 (fmtInt e.hour) ++ ' ' :: rjust 2 (fmtInt e.minute) ++ ' ' :: rjust 11 (fmtDec 8 (e.sec7 * 10))

def blockLines (b : EpochBlock) : List Str := epochLine b.epoch :: b.recs.flatMap recLines

def hdrOther (x : HdrKind × Str) : Str := x.1.tag ++ x.2

/-- the `%c` line with `cc` in columns 7–8 and the standard's filler after the time system -/
def percentCFull : Layout := [⟨"file_type", 3, 5⟩, ⟨"cc", 6, 8⟩, ⟨"time_sys", 9, 12⟩]
def percentCTail : Str := " ccc cccc cccc cccc cccc ccccc ccccc ccccc ccccc".toList
def percentCCont : Str := "%c cc cc ccc ccc cccc cccc cccc cccc ccccc ccccc ccccc ccccc".toList
def percentFTail : Str := "  0.00000000000  0.000000000000000".toList
def percentFCont : Str := "%f  0.0000000  0.000000000  0.00000000000  0.000000000000000".toList

def headerLines (h : Header) : List Str :=
  [ '#' :: renderFrom 1 Spec.Sp3.firstLine ((Lft [h.version] :: h.line1.map R)),
    '#' :: '#' :: renderFrom 2 Spec.Sp3.secondLine (h.line2.map R) ] ++
  h.satLines.map hdrOther ++
  [ '%' :: 'c' :: renderFrom 2 percentCFull [Lft h.fileType, Lft ['c', 'c'], Lft h.timeSys] ++ percentCTail,
    percentCCont,
    '%' :: 'f' :: renderFrom 2 Spec.Sp3.percentF [R (fmtDec 7 h.basePos), R (fmtDec 9 h.baseClk)] ++ percentFTail,
    percentFCont ] ++
  h.tailLines.map hdrOther

def eofLine : Str := ['E', 'O', 'F']

def fileLines (F : File) : List Str := headerLines F.hdr ++ (F.epochs.map blockLines).flatten ++ [eofLine]

/-- every line followed by a newline -/
def joinLines : List Str → Str
  | [] => []
  | l :: ls => l ++ '\n' :: joinLines ls

def render (F : File) : Str := joinLines (fileLines F)

/-! ### well-formedness: values fit their columns -/

/-- printable ASCII -/
def okText (s : Str) : Bool := s.all fun c => decide (32 ≤ c.toNat) && decide (c.toNat < 127)

/-- a text that can stand in a field of width `w`: printable, no outer blanks, not too long -/
def okCell (w : Nat) (s : Str) : Bool := okText s && Clean s && decide (s.length ≤ w)

def okCells : List Nat → List Str → Bool
  | [], [] => true
  | w :: ws, s :: ss => okCell w s && okCells ws ss
  | _, _ => false

def okCode (w : Nat) : Option Nat → Bool
  | some k => decide (k < 10 ^ w)
  | Option.none => true

def Acc.wf (a : Acc) : Bool :=
  okCode 2 a.sx && okCode 2 a.sy && okCode 2 a.sz && okCode 3 a.sclk && okCells [1, 1, 1, 1] a.flags

/-- an F14.6 field holds `-999999.999999 … 9999999.999999` -/
def okF14 (n : Int) : Bool := decide (-1000000000000 < n) && decide (n < 10000000000000)

/-- a V / EP / EV line carries printable text after its tag; a blank line consists of blanks only (any number, also none) -/
def okExtra (x : ExtraKind × Str) : Bool :=
  okText x.2 && (match x.1 with | .blank => x.2.all (· == ' ') | _ => true)

def PosRec.wf (r : PosRec) : Bool :=
  okCell 3 r.sat && okF14 r.x && okF14 r.y && okF14 r.z && okF14 r.clk &&
  (match r.acc with | some a => a.wf | Option.none => true) &&
  r.extras.all okExtra

def distinct : List Epoch → Bool
  | [] => true
  | e :: es => !es.contains e && distinct es

def Header.wf (h : Header) : Bool :=
  (h.version == 'c' || h.version == 'd') &&
  okCells [1, 4, 2, 2, 2, 2, 11, 7, 5, 5, 3, 4] h.line1 &&
  okCells [4, 15, 14, 5, 15] h.line2 &&
  h.satLines.all (fun x => okText x.2) && h.tailLines.all (fun x => okText x.2) &&
  okCell 2 h.fileType && h.fileType != ['c', 'c'] && okCell 3 h.timeSys &&
  decide (h.basePos < 10 ^ 9) && decide (h.baseClk < 10 ^ 11)

/-- **well-formed**: every value fits its columns, texts are printable without outer blanks, the
format version is c or d, the file type is not the filler `cc`, the epochs are pairwise different -/
def File.wf (F : File) : Bool :=
  F.hdr.wf && F.epochs.all (fun b => b.recs.all PosRec.wf) && distinct (F.epochs.map (·.epoch))

/-! ### what the parser must deliver -/

def basePosVal (h : Header) : Rat := decVal 7 h.basePos
def baseClkVal (h : Header) : Rat := decVal 9 h.baseClk

def line1Names : List String :=
  ["pv_flag", "year", "month", "day", "hour", "minute", "second", "num_epoch", "data_used", "coord_sys", "orb_type", "agency"]
def line2Names : List String := ["gpsweek", "gpssec", "epoch_interval", "mjd_int", "mjd_frac"]

/-- header fields: the printed texts under the standard's names, the two bases as numbers -/
def expectedMeta (h : Header) : Meta :=
  ("version", MVal.str [h.version]) :: (line1Names.zip h.line1).map (fun kv => (kv.1, MVal.str kv.2)) ++
  (line2Names.zip h.line2).map (fun kv => (kv.1, MVal.str kv.2)) ++
  [("file_type", .str h.fileType), ("time_sys", .str h.timeSys),
   ("base_posvel", .num (basePosVal h)), ("base_clkrate", .num (baseClkVal h))]

/-- one position record: kilometres ×1000, microseconds × 10⁻⁶ × c, `0.000000` / `999999.999999` ↦ NaN,
accuracy exponent `k` ↦ `base^k` mm / ps, blank ↦ NaN; the epoch is the enclosing block's -/
def expectedEntry (F : Factors) (h : Header) (e : Epoch) (r : PosRec) : Entry :=
  let a := r.acc.getD noAcc
  ⟨e, r.sat,
   [r.x, r.y, r.z].map (fun n => if decVal 6 n = 0 then Option.none else some (decVal 6 n * F.km2m)),
   (if decVal 6 r.clk = 999999.999999 then Option.none else some (decVal 6 r.clk * F.us2s * F.c)),
   [a.sx, a.sy, a.sz].map (fun c => c.map fun k => basePosVal h ^ k * F.mm2m),
   a.sclk.map (fun k => baseClkVal h ^ k * (F.ps2s * F.c)),
   r.sat.take 1⟩

/-- one entry per position record, in file order -/
def expectedEntries (F : Factors) (f : File) : List Entry :=
  f.epochs.flatMap fun b => b.recs.map (expectedEntry F f.hdr b.epoch)

end Midgard.Spec.Sp3File
