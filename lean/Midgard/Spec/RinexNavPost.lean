/-
The RINEX 3 / 2.x post-processing, record by record (Mathlib-free, executable: the C12 driver evaluates it).

`postSem fileSys k` is what `postV3` makes of column `k` for ONE record (theorem `post_record` in `Props/C12.lean`:
`col (postV3 …) k = (supported records).map (postSem fileSys k)`), `postSem2 T system k` the same for the RINEX 2.x
parsers (`post_record_v2`).  The definitions live in the namespace of the property file that proves things about them.
-/
import Midgard.Spec.RinexNavFile
import Midgard.Generated.RinexNavCols

namespace Midgard.Props.C12
open Midgard.RinexNav Midgard.Generated.RinexNav Midgard.FixedCol Midgard.Text Midgard.Decimal
open Midgard.Spec.RinexNavFile

/-- the names of orbit lines `2 … n+1` of the table -/
def keysOfIdx (T : Tables) (n : Nat) : List String :=
  (List.range n).flatMap fun i => match T.lines.find? (fun (l : LineDef) => l.num = i + 2) with
    | some ld => ld.fields.map (·.name)
    | Option.none => []

/-- all 31 column names one record feeds, as the table gives them -/
def recordNames (T : Tables) : List String := ["system", "satellite"] ++ clockNames ++ keysOfIdx T 7

/-- the value a record contributes to column `k` -/
def valOf (r : NavRec) (k : String) : Option Cell := ((kvOf r).find? (·.1 = k)).map (·.2)

/-- the value record `r` prints for column `k` (`None` for a name no record feeds) -/
def valD (r : NavRec) (k : String) : Cell := (valOf r k).getD .none

/-- `valD` without building the record's whole value list for every cell -/
def valFast (r : NavRec) (k : String) : Cell :=
  match k with
  | "system" => .str [r.sys] | "satellite" => .str (satName r.sys r.prn)
  | "sat_clock_bias" => .num r.c1.val | "sat_clock_drift" => .num r.c2.val | "sat_clock_drift_rate" => .num r.c3.val
  | "iode" => .num r.o1.a.val | "crs" => .num r.o1.b.val | "delta_n" => .num r.o1.c.val | "m0" => .num r.o1.d.val
  | "cuc" => .num r.o2.a.val | "e" => .num r.o2.b.val | "cus" => .num r.o2.c.val | "sqrt_a" => .num r.o2.d.val
  | "toe" => .num r.o3.a.val | "cic" => .num r.o3.b.val | "Omega" => .num r.o3.c.val | "cis" => .num r.o3.d.val
  | "i0" => .num r.o4.a.val | "crc" => .num r.o4.b.val | "omega" => .num r.o4.c.val | "Omega_dot" => .num r.o4.d.val
  | "idot" => .num r.o5.a.val | "gnss_data_info" => .num r.o5.b.val | "gnss_week" => .num r.o5.c.val | "gnss_l2p_flag" => .num r.o5.d.val
  | "sv_accuracy" => .num r.o6.a.val | "sv_health" => .num r.o6.b.val | "gnss_tgd_bgd" => .num r.o6.c.val
  | "gnss_iodc_groupdelay" => .num r.o6.d.val
  | "transmission_time" => .num r.o7.a.val | "gnss_interval" => .num r.o7.b.val
  | _ => .none

theorem valFast_eq (r : NavRec) (k : String) : valD r k = valFast r k := by
  unfold valFast
  -- one case per name: `find?` over the 31 pairs of `kvOf r` stops at that name (`rfl`); in the default case `k` differs from all
  -- 31 names (`h1 … h31`), so each comparison `decide (name = k)` of `find?` is `false` and nothing is found
  split
  all_goals first
    | rfl
    | skip
  rename_i h1 h2 h3 h4 h5 h6 h7 h8 h9 h10 h11 h12 h13 h14 h15 h16 h17 h18 h19 h20 h21 h22 h23 h24 h25 h26 h27 h28 h29 h30 h31
  simp only [valD, valOf, kvOf, orbitVals, Spec.RinexNav.orbitNames, List.flatten, List.zip, List.zipWith, List.map, List.append,
    List.cons_append, List.nil_append, List.find?]
  simp only [decide_eq_false (fun e => h1 (Eq.symm e)), decide_eq_false (fun e => h2 (Eq.symm e)), decide_eq_false (fun e => h3 (Eq.symm e)), decide_eq_false (fun e => h4 (Eq.symm e)), decide_eq_false (fun e => h5 (Eq.symm e)), decide_eq_false (fun e => h6 (Eq.symm e)), decide_eq_false (fun e => h7 (Eq.symm e)), decide_eq_false (fun e => h8 (Eq.symm e)), decide_eq_false (fun e => h9 (Eq.symm e)), decide_eq_false (fun e => h10 (Eq.symm e)), decide_eq_false (fun e => h11 (Eq.symm e)), decide_eq_false (fun e => h12 (Eq.symm e)), decide_eq_false (fun e => h13 (Eq.symm e)), decide_eq_false (fun e => h14 (Eq.symm e)), decide_eq_false (fun e => h15 (Eq.symm e)), decide_eq_false (fun e => h16 (Eq.symm e)), decide_eq_false (fun e => h17 (Eq.symm e)), decide_eq_false (fun e => h18 (Eq.symm e)), decide_eq_false (fun e => h19 (Eq.symm e)), decide_eq_false (fun e => h20 (Eq.symm e)), decide_eq_false (fun e => h21 (Eq.symm e)), decide_eq_false (fun e => h22 (Eq.symm e)), decide_eq_false (fun e => h23 (Eq.symm e)), decide_eq_false (fun e => h24 (Eq.symm e)), decide_eq_false (fun e => h25 (Eq.symm e)), decide_eq_false (fun e => h26 (Eq.symm e)), decide_eq_false (fun e => h27 (Eq.symm e)), decide_eq_false (fun e => h28 (Eq.symm e)), decide_eq_false (fun e => h29 (Eq.symm e)), decide_eq_false (fun e => h30 (Eq.symm e)), decide_eq_false (fun e => h31 (Eq.symm e))]
  rfl

/-- the compiled code evaluates `valFast` wherever the definitions say `valD` -/
@[csimp] theorem valD_eq_valFast : @valD = @valFast := by
  funext r k
  exact valFast_eq r k

/-- the columns after reading: column `k` holds `valD r k` for every supported record `r` -/
def sem0 : String → Option (NavRec → Cell) := fun k => if k ∈ recordNames v3 then some (fun r => valD r k) else Option.none

/-- the per-record meaning of one round of renaming -/
def semStep (sem : String → Option (NavRec → Cell)) (field : String) (per : List (String × String)) :
    String → Option (NavRec → Cell) := fun k =>
  if k = field then Option.none
  else if k ∈ per.map (·.2) then
    match sem "system", sem field with
    | some sf, some vf => some fun r =>
        if ((per.filter (·.2 = k)).map (·.1)).contains (asString (cellStr (sf r))) then vf r else .none
    | _, _ => Option.none
  else sem k

/-- the per-record meaning of `rename3` -/
def semRename (sem : String → Option (NavRec → Cell)) : SysNames → (String → Option (NavRec → Cell))
  | [] => sem
  | (f, p) :: rest => semRename (semStep sem f p) rest

/-- the per-record meaning of the time correction: four columns are replaced, every other one is kept -/
def semTime (T : Tables) (fileSys : String) (sem : String → Option (NavRec → Cell)) (sf : NavRec → Cell)
    (toeQ ttxQ wkQ : NavRec → Rat) : String → Option (NavRec → Cell) :=
  let mixed : Bool := decide (fileSys = "M" ∨ fileSys = "C")
  let offS : NavRec → Int := fun r => if mixed then lookupI T.secOffset (asString (cellStr (sf r))) else 0
  let offW : NavRec → Int := fun r => if mixed then lookupI T.weekOffset (asString (cellStr (sf r))) else 0
  let toc : NavRec → Rat := fun r => epochSeconds mixed (epochOf r) + offS r
  let inst : (NavRec → Rat) → NavRec → Cell := fun q r => Cell.time (towards (toc r) ((wkQ r + offW r) * week + (q r + offS r)))
  fun k =>
    if k = "transmission_time" then some (inst ttxQ)
    else if k = "toe" then some (inst toeQ)
    else if k = "gnss_week" then some fun r => Cell.num (wkQ r + offW r)
    else if k = "time" then some fun r => Cell.time (toc r)
    else sem k

/-- the LNAV test of one record: a GPS / QZSS record must carry an integral IODE -/
def lnavRow (sf iodeF : NavRec → Cell) (r : NavRec) : Bool :=
  !(cellStr (sf r) = ['G'] || cellStr (sf r) = ['J']) || ((cellNum (iodeF r)).map isIntegral).getD true

/-- the per-record meaning of the whole RINEX 3 post-processing for a file of satellite system `fileSys` -/
def postSem (fileSys : String) : String → Option (NavRec → Cell) :=
  semTime v3 fileSys (semRename sem0 v3.sysnames) (fun r => Cell.str [r.sys])
    (fun r => r.o3.a.val) (fun r => r.o7.a.val) (fun r => r.o5.c.val)

/-! ### RINEX 2.x: `_rename_fields_based_on_system` renames in place for the one system of the file -/

/-- the per-record meaning of one round of `rename2` -/
def semStep2 (sem : String → Option (NavRec → Cell)) (system field : String) (per : List (String × String)) :
    String → Option (NavRec → Cell) :=
  match sem field with
  | Option.none => sem
  | some vf =>
    match per.find? (·.1 = system) with
    | Option.none => fun k => if k = field then Option.none else sem k
    | some (_, n) => if n = field then sem else fun k => if k = field then Option.none else if k = n then some vf else sem k

/-- the per-record meaning of `rename2` -/
def semRename2 (sem : String → Option (NavRec → Cell)) (system : String) : SysNames → (String → Option (NavRec → Cell))
  | [] => sem
  | (f, p) :: rest => semRename2 (semStep2 sem system f p) system rest

/-- the per-record meaning of the whole RINEX 2.x post-processing for a file of system `system` -/
def postSem2 (T : Tables) (system : String) : String → Option (NavRec → Cell) :=
  semTime T system (semRename2 sem0 system T.sysnames) (fun r => Cell.str [r.sys])
    (fun r => r.o3.a.val) (fun r => r.o7.a.val) (fun r => r.o5.c.val)

/-! ### executable form (the C12 driver): the rows as columns -/

def dedupS : List String → List String
  | [] => []
  | k :: rest => k :: (dedupS rest).filter (· ≠ k)

/-- every name that can be a column after the post-processing: what a record feeds, the specific names of the rename
table, `time` -/
def outKeys (T : Tables) : List String :=
  dedupS (recordNames T ++ (T.sysnames.flatMap fun fp => fp.2.map (·.2)) ++ ["time"])

/-- the columns whose rows are `sem k` of the records -/
def semCols (keys : List String) (sem : String → Option (NavRec → Cell)) (rs : List NavRec) : Cols :=
  keys.filterMap fun k => (sem k).map fun f => (k, rs.map f)

def admissible : List String := ["C", "E", "G", "I", "J", "M"]

/-- what `post_record` says `postV3` returns, computed record by record -/
def postRows3 (fileSys : String) (rs : List NavRec) : Option Cols :=
  if rs.isEmpty || !admissible.contains fileSys then Option.none
  else if rs.all (lnavRow (fun r => Cell.str [r.sys]) (fun r => Cell.num r.o1.a.val)) then
    some (semCols (outKeys v3) (postSem fileSys) rs)
  else Option.none

/-- what `post_record_v2` says `postV2` returns, computed record by record -/
def postRows2 (T : Tables) (system : String) (rs : List NavRec) : Option Cols :=
  if rs.isEmpty || !admissible.contains system then Option.none
  else if rs.all (lnavRow (fun r => Cell.str [r.sys]) (fun r => Cell.num r.o1.a.val)) then
    some (semCols (outKeys T) (postSem2 T system) rs)
  else Option.none

/-- the compiled instance of `post_record` / `post_record_v2`: same columns, name by name -/
def sameCols (keys : List String) (a b : Option Cols) : Bool :=
  match a, b with
  | some d, some e => keys.all (fun k => col d k == col e k) && d.all (fun kv => keys.contains kv.1)
  | Option.none, Option.none => true
  | _, _ => false

end Midgard.Props.C12
