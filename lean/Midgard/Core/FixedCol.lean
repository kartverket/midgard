/-
Fixed-column record layouts (Mathlib-free, executable; lemmas in `Proofs/FixedCol.lean`).

A layout is a list of fields `(name, start, stop)` — the half-open Python column interval
`line[start:stop]`.  Parsers read a field with `line[start:stop].strip()`; `slice` is exactly
that, including lines shorter than `stop` (clipped) or shorter than `start` (empty).

Published API (do not change signatures):

  Field, Layout                 `{ name, start, stop }`, `List Field`
  Field.width
  slice f line                  `line[f.start:f.stop].strip()`
  sliceRaw f line               `line[f.start:f.stop]`
  sliceAll L line               `[(f.name, slice f line) | f ∈ L]`   (the parsers' field dict)
  Align                         `.left` / `.right`
  pad a w v                     `v.ljust(w)` / `v.rjust(w)`
  renderFrom pos L cells        writes cells left to right starting at column `pos`: blanks up to
                                `f.start`, then the cell padded to the field width
  renderA L cells               `renderFrom 0 L cells`   (cells : List (Align × Str))
  render L vs / renderR L vs    all cells left- / right-aligned
  Sorted L                      `start ≤ stop` for each field, `stop ≤ next.start` (decidable Bool)
  SortedFrom pos L              the same, first start ≥ `pos`
  Fits L cells                  same length, each text no wider than its field and `Clean`
  widthsOfStarts starts total   the SINEX/`np.genfromtxt` convention `np.diff(starts ++ [total])`
  ofStarts names starts total   layout with `stop = next start` (last: `total`)

Workhorse lemma (Proofs/FixedCol.lean): `slice_renderA` —
  `SortedFrom 0 L → Fits L cells → L.map (slice · (renderA L cells)) = cells.map (·.2)`,
and `slice_rstrip : slice f (rstrip line) = slice f line` ("trailing blanks stripped").
-/
import Midgard.Core.Text

namespace Midgard.FixedCol
open Midgard.Text

structure Field where
  name : String
  start : Nat
  stop : Nat
  deriving Repr, DecidableEq, Inhabited

abbrev Layout := List Field

def Field.width (f : Field) : Nat := f.stop - f.start

/-- `line[start:stop]` -/
def sliceRaw (f : Field) (line : Str) : Str := Text.slice f.start f.stop line

/-- `line[start:stop].strip()` -/
def slice (f : Field) (line : Str) : Str := strip (sliceRaw f line)

def sliceAll (L : Layout) (line : Str) : List (String × Str) :=
  L.map fun f => (f.name, slice f line)

inductive Align | left | right
  deriving Repr, DecidableEq, Inhabited

def pad (a : Align) (w : Nat) (v : Str) : Str :=
  match a with
  | .left => ljust w v
  | .right => rjust w v

def renderFrom (pos : Nat) : Layout → List (Align × Str) → Str
  | f :: L, (a, v) :: cs => blanks (f.start - pos) ++ pad a f.width v ++ renderFrom f.stop L cs
  | _, _ => []

def renderA (L : Layout) (cells : List (Align × Str)) : Str := renderFrom 0 L cells

def render (L : Layout) (vs : List Str) : Str := renderA L (vs.map fun v => (Align.left, v))

def renderR (L : Layout) (vs : List Str) : Str := renderA L (vs.map fun v => (Align.right, v))

def SortedFrom (pos : Nat) : Layout → Bool
  | [] => true
  | f :: L => decide (pos ≤ f.start) && decide (f.start ≤ f.stop) && SortedFrom f.stop L

def Sorted (L : Layout) : Bool := SortedFrom 0 L

def Fits : Layout → List (Align × Str) → Bool
  | [], [] => true
  | f :: L, (_, v) :: cs => decide (v.length ≤ f.width) && Clean v && Fits L cs
  | _, _ => false

/-- every field ends at or before column `n` -/
def Within (n : Nat) (L : Layout) : Bool := L.all fun f => decide (f.stop ≤ n)

/-- `np.diff(starts ++ [total])` -/
def widthsOfStarts : List Nat → Nat → List Nat
  | [], _ => []
  | [s], total => [total - s]
  | s :: t :: rest, total => (t - s) :: widthsOfStarts (t :: rest) total

/-- the layout `np.genfromtxt(delimiter = widths)` cuts, for fields named `names` starting at
`starts` (ascending), the last one ending at `total` -/
def ofStarts : List String → List Nat → Nat → Layout
  | n :: _, [s], total => [⟨n, s, total⟩]
  | n :: ns, s :: t :: rest, total => ⟨n, s, t⟩ :: ofStarts ns (t :: rest) total
  | _, _, _ => []

end Midgard.FixedCol
