/-
Exact decimal numbers as text (Mathlib-free, executable; lemmas in `Proofs/Decimal.lean`).

Published API (do not change signatures):

  digitChar n / digitVal c          one decimal digit ↔ its character
  natDigits n                       decimal text of a natural number (`str(n)`), `"0"` for 0
  digitsVal s                       value of a digit string read left to right (total; `0` on `""`)
  parseNat? s                       `some` iff `s` is a non-empty all-digit string
  parseInt? s                       `int(s)` on `[+-]digits` with surrounding whitespace stripped
  parseDecimalWith exps s           Python `float(s)` grammar on finite decimals —
                                    `ws [+-] (digits [. digits*] | . digits) [X [+-] digits] ws`
                                    with the exponent letter `X` drawn from `exps` — as the *exact*
                                    rational (no rounding).  `none` on anything else (also on
                                    `inf`/`nan`/underscores, which `float` would accept).
  parseFloat s                      `parseDecimalWith ['e','E']`  (= Python `float`)
  parseDecimal s                    `parseDecimalWith ['e','E','D','d']`
  pow10 k                           `10^k : Rat`
  scale10 q e                       `q · 10^e` for an `Int` exponent
  roundHalfEven q                   nearest integer, ties to even (Python `round`, `format`)
  fmtFixedCore q p                  `'{:.pf}'.format(q)` on the exact value (ties to even; a
                                    negative value that rounds to zero keeps its `-`, as Python)
  fmtFixed q w p                    `'{:w.pf}'.format(q)` (right-justified, never truncated)
  fmtInt i / fmtIntW w i            `'{:d}'`, `'{:wd}'`
  fixedDigits p n                   `'{:0pd}'.format(n % 10^p)` (structurally recursive, proof friendly)

The double nearest to a parsed rational is *not* modelled: the correspondence compares
`float(text)` of the implementation with `float(Fraction)` of the model's exact value (both
correctly rounded), see DESIGN.md §3.
-/
import Midgard.Core.Text

namespace Midgard.Decimal
open Midgard.Text

def digitChar (n : Nat) : Char := Char.ofNat (48 + n % 10)

def digitVal (c : Char) : Nat := c.toNat - 48

/-- `str(n)` -/
def natDigits (n : Nat) : Str :=
  if n < 10 then [digitChar n] else natDigits (n / 10) ++ [digitChar (n % 10)]
decreasing_by omega

/-- left-to-right value of a digit string with a running accumulator -/
def digitsValAux (acc : Nat) : Str → Nat
  | [] => acc
  | c :: rest => digitsValAux (acc * 10 + digitVal c) rest

def digitsVal (s : Str) : Nat := digitsValAux 0 s

def allDigits (s : Str) : Bool := s.all isDigit

def parseNat? (s : Str) : Option Nat :=
  if s.isEmpty || !allDigits s then none else some (digitsVal s)

/-- optional sign: returns (isNegative, rest) -/
def takeSign : Str → Bool × Str
  | '-' :: r => (true, r)
  | '+' :: r => (false, r)
  | s => (false, s)

/-- `int(s)` for plain decimal integers -/
def parseInt? (s : Str) : Option Int :=
  let (neg, r) := takeSign (strip s)
  (parseNat? r).map fun n => if neg then -(n : Int) else (n : Int)

def pow10 (k : Nat) : Rat := ((10 ^ k : Nat) : Rat)

def scale10 (q : Rat) (e : Int) : Rat :=
  if e ≥ 0 then q * pow10 e.toNat else q / pow10 (-e).toNat

/-- mantissa `digits [. digits*] | . digits` → (digit string without the point, number of
fraction digits) -/
def parseMantissa? (m : Str) : Option (Str × Nat) :=
  let ip := m.takeWhile (· ≠ '.')
  let rest := m.dropWhile (· ≠ '.')
  match rest with
  | [] => if ip.isEmpty || !allDigits ip then none else some (ip, 0)
  | _ :: fp =>
    if (ip.isEmpty && fp.isEmpty) || !allDigits ip || !allDigits fp then none
    else some (ip ++ fp, fp.length)

/-- exponent part after the exponent letter: `[+-] digits` -/
def parseExp? (e : Str) : Option Int :=
  let (neg, r) := takeSign e
  (parseNat? r).map fun n => if neg then -(n : Int) else (n : Int)

def parseDecimalWith (exps : List Char) (s : Str) : Option Rat :=
  let (neg, r) := takeSign (strip s)
  let m := r.takeWhile (fun c => !exps.contains c)
  let erest := r.dropWhile (fun c => !exps.contains c)
  match parseMantissa? m with
  | none => none
  | some (ds, k) =>
    let mant : Rat := (digitsVal ds : Rat) / pow10 k
    let e? : Option Int :=
      match erest with
      | [] => some 0
      | _ :: e => parseExp? e
    match e? with
    | none => none
    | some e =>
      let v := scale10 mant e
      some (if neg then -v else v)

/-- Python `float(s)` on finite decimal literals, exact value -/
def parseFloat (s : Str) : Option Rat := parseDecimalWith ['e', 'E'] s

/-- Fortran-tolerant variant: `E e D d` exponents -/
def parseDecimal (s : Str) : Option Rat := parseDecimalWith ['e', 'E', 'D', 'd'] s

/-- nearest integer, ties to even -/
def roundHalfEven (q : Rat) : Int :=
  let f := q.floor
  let r := q - f
  if r < 1 / 2 then f
  else if 1 / 2 < r then f + 1
  else if f % 2 = 0 then f else f + 1

/-- `n` as exactly `p` digits (leading zeros), for `n < 10^p` -/
def fracDigits (p n : Nat) : Str :=
  let d := natDigits n
  List.replicate (p - d.length) '0' ++ d

/-- `'{:.pf}'.format(q)` -/
def fmtFixedCore (q : Rat) (p : Nat) : Str :=
  let a : Rat := if q < 0 then -q else q
  let n : Nat := (roundHalfEven (a * pow10 p)).toNat
  let ip := n / 10 ^ p
  let fp := n % 10 ^ p
  (if q < 0 then ['-'] else []) ++ natDigits ip ++ (if p = 0 then [] else '.' :: fracDigits p fp)

/-- `'{:w.pf}'.format(q)` -/
def fmtFixed (q : Rat) (w p : Nat) : Str := rjust w (fmtFixedCore q p)

/-- exactly `p` digits of `n` (leading zeros; higher digits dropped): `'{:0pd}'.format(n % 10^p)` -/
def fixedDigits : Nat → Nat → Str
  | 0, _ => []
  | p + 1, n => fixedDigits p (n / 10) ++ [digitChar n]

def fmtInt (i : Int) : Str :=
  if i < 0 then '-' :: natDigits i.natAbs else natDigits i.natAbs

def fmtIntW (w : Nat) (i : Int) : Str := rjust w (fmtInt i)

end Midgard.Decimal
