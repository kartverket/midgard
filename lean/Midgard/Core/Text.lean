/-
Python `str` operations on `List Char` (Mathlib-free, executable; lemmas in `Proofs/Text.lean`).

Text is `List Char` throughout the models (easy structural proofs); drivers convert with
`String.toList` / `String.ofList` (`Text.ofString`, `Text.asString`).

Published API (do not change signatures):

  isSpace c                 Python `str.isspace` on ASCII (blank, \t \n \v \f \r, \x1c–\x1f)
  lstrip / rstrip / strip   `s.lstrip()`, `s.rstrip()`, `s.strip()` (whitespace only)
  rstripNl                  `s.rstrip("\r\n")`: removes trailing \n and \r
  ljust w s / rjust w s     `s.ljust(w)`, `s.rjust(w)` (blank fill, never truncates)
  zfill w s                 `s.zfill(w)` (sign aware)
  slice a b s               `s[a:b]`, `0 ≤ a`, `0 ≤ b` (clips on short `s`; empty when `b ≤ a`)
  sliceFrom a s             `s[a:]`
  sliceI a b s              `s[a:b]` with Python negative-index normalisation (`Int` bounds)
  split s                   `s.split()` (runs of whitespace, no empty pieces)
  splitOn c s               `s.split(c)` for a one-character separator
  replaceChar a b s         `s.replace(a, b)` for single characters
  startsWith p s            `s.startswith(p)`
  isBlank s                 every character is whitespace (true for `""`; Python's `isspace()` is
                            `isBlank s && s ≠ []`)
  Clean s                   `s` has no leading/trailing whitespace (`strip s = s`), as a Bool test
  upper / lower             ASCII `s.upper()`, `s.lower()`
  isDigit c                 '0'..'9'
-/
namespace Midgard.Text

abbrev Str := List Char

def ofString (s : String) : Str := s.toList
def asString (s : Str) : String := String.ofList s

/-- Python `str.isspace` restricted to ASCII. -/
def isSpace (c : Char) : Bool :=
  c = ' ' || c = '\t' || c = '\n' || c = '\r' || c.toNat = 11 || c.toNat = 12 ||
  (28 ≤ c.toNat && c.toNat ≤ 31)

def isDigit (c : Char) : Bool := '0' ≤ c && c ≤ '9'

def lstrip (s : Str) : Str := s.dropWhile isSpace

def rstrip (s : Str) : Str := (s.reverse.dropWhile isSpace).reverse

def strip (s : Str) : Str := rstrip (lstrip s)

/-- trailing line terminators removed (`line.rstrip("\r\n")`) -/
def rstripNl (s : Str) : Str := (s.reverse.dropWhile (fun c => c = '\n' || c = '\r')).reverse

def blanks (n : Nat) : Str := List.replicate n ' '

def ljust (w : Nat) (s : Str) : Str := s ++ blanks (w - s.length)

def rjust (w : Nat) (s : Str) : Str := blanks (w - s.length) ++ s

/-- `s.zfill(w)`: zeros are inserted after a leading sign. -/
def zfill (w : Nat) (s : Str) : Str :=
  match s with
  | c :: rest =>
    if c = '+' || c = '-' then c :: (List.replicate (w - s.length) '0' ++ rest)
    else List.replicate (w - s.length) '0' ++ s
  | [] => List.replicate w '0'

/-- `s[a:b]` for non-negative bounds; clipping on short strings is what `take`/`drop` do. -/
def slice (a b : Nat) (s : Str) : Str := (s.take b).drop a

/-- `s[a:]` -/
def sliceFrom (a : Nat) (s : Str) : Str := s.drop a

/-- Python index normalisation for slices: negative counts from the end, then clip to `[0, n]`. -/
def normIdx (n : Nat) (i : Int) : Nat :=
  if i < 0 then (i + n).toNat else min i.toNat n

/-- `s[a:b]` with possibly negative bounds. -/
def sliceI (a b : Int) (s : Str) : Str := slice (normIdx s.length a) (normIdx s.length b) s

def isBlank (s : Str) : Bool := s.all isSpace

/-- no leading and no trailing whitespace -/
def Clean (s : Str) : Bool :=
  match s with
  | [] => true
  | c :: _ => !isSpace c && !isSpace (s.getLast?.getD ' ')

/-- auxiliary of `split`: `cur` is the (reversed) piece being collected -/
def splitAux : Str → Str → List Str
  | [], cur => if cur.isEmpty then [] else [cur.reverse]
  | c :: rest, cur =>
    if isSpace c then
      if cur.isEmpty then splitAux rest [] else cur.reverse :: splitAux rest []
    else splitAux rest (c :: cur)

/-- `s.split()` -/
def split (s : Str) : List Str := splitAux s []

def splitOnAux (sep : Char) : Str → Str → List Str
  | [], cur => [cur.reverse]
  | c :: rest, cur =>
    if c = sep then cur.reverse :: splitOnAux sep rest [] else splitOnAux sep rest (c :: cur)

/-- `s.split(sep)` for a single-character separator (always at least one piece) -/
def splitOn (sep : Char) (s : Str) : List Str := splitOnAux sep s []

def replaceChar (a b : Char) (s : Str) : Str := s.map (fun c => if c = a then b else c)

def startsWith (p s : Str) : Bool := p.isPrefixOf s

def upperChar (c : Char) : Char :=
  if 'a' ≤ c && c ≤ 'z' then Char.ofNat (c.toNat - 32) else c

def lowerChar (c : Char) : Char :=
  if 'A' ≤ c && c ≤ 'Z' then Char.ofNat (c.toNat + 32) else c

def upper (s : Str) : Str := s.map upperChar
def lower (s : Str) : Str := s.map lowerChar

/-- `" ".join(parts)` -/
def joinSp : List Str → Str
  | [] => []
  | [x] => x
  | x :: rest => x ++ ' ' :: joinSp rest

end Midgard.Text
