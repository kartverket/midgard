/-
C15 — model of `midgard.parsers.antex.AntexParser` (on top of `Model/ChainParser.lean`).

The model mirrors the code *after* the `fix:` commits of this property:
  * `parse_correction` converts the azimuth rows to floats,
  * `parse_start_of_frequency` (new handler of "START OF FREQUENCY") drops the rows collected so far,
  * `VALID FROM/UNTIL` add the seconds as seconds,
  * the zenith/azimuth grids are generated by count (`int(round((zen2-zen1)/dzen)) + 1` entries).
Numbers are the exact rationals of the decimal texts (DESIGN.md §3); `float(text)` rounding, the
`* 0.001` of the offsets and `np.radians` are measured by the correspondence.

The `parser_def` dictionaries (columns, strip option, handler names) are the generated tables
`Midgard.Generated.AntexCols.header / records`.
-/
import Midgard.Model.ChainParser
import Midgard.Model.TextLines
import Midgard.Core.Decimal
import Midgard.Generated.AntexCols

namespace Midgard.Antex
open Midgard.Text Midgard.FixedCol Midgard.ChainParser Midgard.Decimal

/-! ### Python dictionaries as association lists (insertion order, update in place) -/

def dictGet {κ α} [BEq κ] (d : List (κ × α)) (k : κ) : Option α := (d.find? (·.1 == k)).map (·.2)

def dictHas {κ α} [BEq κ] (d : List (κ × α)) (k : κ) : Bool := d.any (·.1 == k)

def dictSet {κ α} [BEq κ] : List (κ × α) → κ → α → List (κ × α)
  | [], k, v => [(k, v)]
  | (k', v') :: rest, k, v => if k' == k then (k', v) :: rest else (k', v') :: dictSet rest k v

/-- `d.update(other)` -/
def dictUpdate {κ α} [BEq κ] (d other : List (κ × α)) : List (κ × α) :=
  other.foldl (fun acc (k, v) => dictSet acc k v) d

/-! ### Calendar: `datetime(y, m, d, h, mi)` as minutes since 0001-01-01T00:00 -/

def isLeap (y : Nat) : Bool := y % 4 == 0 && (y % 100 != 0 || y % 400 == 0)

def daysInMonth (y m : Nat) : Nat :=
  if m = 2 then (if isLeap y then 29 else 28)
  else if m = 4 || m = 6 || m = 9 || m = 11 then 30 else 31

def daysBeforeYear (y : Nat) : Nat :=
  let p := y - 1
  p * 365 + p / 4 - p / 100 + p / 400

def daysBeforeMonth (y m : Nat) : Nat :=
  ((List.range (m - 1)).map fun i => daysInMonth y (i + 1)).sum

/-- minutes since 0001-01-01T00:00 of a valid `datetime(y, m, d, h, mi)`; `none` where Python raises
`ValueError` -/
def datetimeMinutes? (y m d h mi : Int) : Option Int :=
  if 1 ≤ y ∧ y ≤ 9999 ∧ 1 ≤ m ∧ m ≤ 12 ∧ 1 ≤ d ∧ d ≤ daysInMonth y.toNat m.toNat ∧ 0 ≤ h ∧ h < 24 ∧ 0 ≤ mi ∧ mi < 60 then
    let days : Nat := daysBeforeYear y.toNat + daysBeforeMonth y.toNat m.toNat + (d.toNat - 1)
    some (((days : Int) * 24 + h) * 60 + mi)
  else none

/-- `timedelta(seconds=float(text))` in microseconds: nearest microsecond, ties to even (the exact
decimal is rounded; a double-rounding tie in the 7th digit is outside the model, see the harness) -/
def secondsToMicros (q : Rat) : Int := roundHalfEven (q * 1000000)

/-! ### State -/

structure Cache where
  antennaType : Option Str := none
  antennaCode : Option Str := none
  satCode : Option Str := none
  cosparId : Option Str := none
  dazi : Option Rat := none
  zen1 : Option Rat := none
  zen2 : Option Rat := none
  dzen : Option Rat := none
  numFreq : Option Str := none
  counter : Option Nat := none
  validFrom : Option Int := none
  validUntil : Option Int := none
  freqCode : Option Str := none
  north : Option Rat := none
  east : Option Rat := none
  up : Option Rat := none
  noazi : Option (List Rat) := none
  azi : Option (List (List Rat)) := none
  deriving Repr, DecidableEq

/-- `tmp[freq]` -/
structure FreqCorr where
  /-- metres -/
  neu : List Rat
  noazi : List Rat
  /-- rows in file order; `none` when the section has no azimuth rows -/
  azi : Option (List (List Rat))
  deriving Repr, DecidableEq

inductive Item
  | text (s : Str)
  /-- a datetime, microseconds since 0001-01-01 -/
  | date (us : Int)
  /-- `datetime.now()` (VALID UNTIL absent) -/
  | now
  /-- a grid in degrees (the code stores radians) -/
  | grid (deg : List Rat)
  | freq (f : FreqCorr)
  deriving Repr, DecidableEq

abbrev Entry := List (Str × Item)

/-- keys of `self.data[ant]`: frequency / field names for receivers, `valid_from` datetimes for satellites -/
inductive Key
  | str (s : Str)
  | date (us : Int)
  deriving Repr, DecidableEq

inductive Val
  | item (i : Item)
  | entry (e : Entry)
  deriving Repr, DecidableEq

abbrev AntDict := List (Key × Val)

structure State where
  /-- `self.meta` text entries in insertion order -/
  metaText : List (String × Str) := []
  /-- `self.meta["comment"]` -/
  comments : Option (List Str) := none
  /-- `self.data` -/
  data : List (Str × AntDict) := []
  cache : Cache := {}
  deriving Repr, DecidableEq

def req {α} : Option α → Except Err α
  | some a => pure a
  | none => throw .other

/-! ### Handlers -/

/-- `cache.update({k: v})` for the text keys the code reads later (other keys are never read) -/
def Cache.setStr (c : Cache) (k : String) (v : Str) : Cache :=
  if k = "antenna_type" then { c with antennaType := some v }
  else if k = "antenna_code" then { c with antennaCode := some v }
  else if k = "sat_code" then { c with satCode := some v }
  else if k = "cospar_id" then { c with cosparId := some v }
  else if k = "frequency_code" then { c with freqCode := some v }
  else c

def Cache.setNum (c : Cache) (k : String) (q : Rat) : Cache :=
  if k = "dazi" then { c with dazi := some q }
  else if k = "zen1" then { c with zen1 := some q }
  else if k = "zen2" then { c with zen2 := some q }
  else if k = "dzen" then { c with dzen := some q }
  else if k = "north" then { c with north := some q }
  else if k = "east" then { c with east := some q }
  else if k = "up" then { c with up := some q }
  else c

/-- `parse_section_string` -/
def parseSectionString (v : Values) (c : Cache) : Cache :=
  v.foldl (fun c (k, s) => c.setStr k s) c

/-- `parse_start_of_frequency`: the frequency code is stored and the correction rows of an earlier
section are dropped -/
def parseStartOfFrequency (v : Values) (c : Cache) : Cache :=
  { parseSectionString v c with noazi := none, azi := none }

/-- `parse_section_float`: every field must convert before the cache is touched -/
def parseSectionFloat (v : Values) (c : Cache) : Except Err Cache := do
  let nums ← v.mapM fun (k, s) => do
    let q ← req (parseFloat s)
    pure (k, q)
  pure (nums.foldl (fun c (k, q) => c.setNum k q) c)

/-- `parse_correction` (`values = line["values"].split()`) -/
def parseCorrection (v : Values) (c : Cache) : Except Err Cache := do
  let line ← req (v.get "values")
  match split line with
  | [] => throw .other
  | first :: rest =>
    let nums ← rest.mapM fun s => req (parseFloat s)
    if first = "NOAZI".toList then pure { c with noazi := some nums }
    else pure { c with azi := some (c.azi.getD [] ++ [nums]) }

/-- `parse_num_of_frequencies` -/
def parseNumOfFrequencies (v : Values) (c : Cache) : Except Err Cache := do
  let n ← req (v.get "num_freq")
  pure { c with numFreq := some n, counter := some 0 }

/-- `datetime(y, m, d, h, mi) + timedelta(seconds=q)` in microseconds since 0001-01-01 -/
def validMicros (mins : Int) (q : Rat) : Int := mins * 60000000 + secondsToMicros q

/-- the datetime of a VALID FROM / VALID UNTIL record -/
def parseValid (v : Values) : Except Err Int := do
  let geti (k : String) : Except Err Int := do
    let s ← req (v.get k)
    req (parseInt? s)
  let y ← geti "year"; let mo ← geti "month"; let d ← geti "day"; let h ← geti "hour"; let mi ← geti "minute"
  let mins ← req (datetimeMinutes? y mo d h mi)
  let s ← req (v.get "second")
  let q ← req (parseFloat s)
  pure (validMicros mins q)

def parseValidFrom (v : Values) (c : Cache) : Except Err Cache := do
  let t ← parseValid v
  pure { c with validFrom := some t }

def parseValidUntil (v : Values) (c : Cache) : Except Err Cache := do
  let t ← parseValid v
  pure { c with validUntil := some t }

/-- number of grid points `int(round(x)) + 1` (`np.arange` of a negative count is empty) -/
def gridCount (x : Rat) : Nat := (roundHalfEven x + 1).toNat

/-- `90 - zen1 - dzen * arange(n)` in degrees -/
def elevationGrid (zen1 zen2 dzen : Rat) : List Rat :=
  (List.range (gridCount ((zen2 - zen1) / dzen))).map fun (k : Nat) => 90 - zen1 - dzen * (k : Rat)

/-- `dazi * arange(n)` in degrees -/
def azimuthGrid (dazi : Rat) : List Rat :=
  (List.range (gridCount (360 / dazi))).map fun (k : Nat) => dazi * (k : Rat)

def mm2m (q : Rat) : Rat := q / 1000

def key (s : String) : Str := s.toList

/-- the general part of `tmp` written with the first frequency of an antenna -/
def generalInfo (c : Cache) (antDict : AntDict) (satCode : Str) : Except Err Entry := do
  let satPart : Entry ←
    if satCode ≠ [] then do
      let dt ← req c.validFrom
      if dictHas antDict (Key.date dt) then throw .notUnique
      let cospar ← req c.cosparId
      let typ ← req c.antennaType
      let vu : Item := match c.validUntil with
        | some u => .date u
        | none => .now
      pure [(key "cospar_id", .text cospar), (key "sat_code", .text satCode), (key "sat_type", .text typ),
            (key "valid_until", vu)]
    else pure []
  let dzen ← req c.dzen
  let elev : Entry ←
    if dzen ≠ 0 then do
      let z1 ← req c.zen1
      let z2 ← req c.zen2
      pure [(key "elevation", .grid (elevationGrid z1 z2 dzen))]
    else pure []
  let dazi ← req c.dazi
  let azim : Entry := if dazi ≠ 0 then [(key "azimuth", .grid (azimuthGrid dazi))] else []
  pure (satPart ++ elev ++ azim)

/-- `np.array(rows)` of rows of different lengths raises `ValueError` (inhomogeneous shape) -/
def rectangular : List (List Rat) → Bool
  | [] => true
  | r :: rest => rest.all (fun x => x.length == r.length)

/-- the frequency part of `tmp` -/
def freqCorr (c : Cache) : Except Err FreqCorr := do
  let n ← req c.north
  let e ← req c.east
  let u ← req c.up
  let noazi ← req c.noazi
  if rectangular (c.azi.getD []) then pure ⟨[mm2m n, mm2m e, mm2m u], noazi, c.azi⟩
  else throw .other

/-- `save_correction` (handler of "END OF FREQUENCY") -/
def saveCorrection (s : State) : Except Err State := do
  let c := s.cache
  let satCode ← req c.satCode
  let ant ← if satCode ≠ [] then req c.antennaCode else req c.antennaType
  let antDict := (dictGet s.data ant).getD []
  let freq ← req c.freqCode
  let counter ← req c.counter
  let general ← if counter = 0 then generalInfo c antDict satCode else pure []
  let fc ← freqCorr c
  let tmp : Entry := (freq, .freq fc) :: general
  let antDict' : AntDict ←
    if satCode ≠ [] then do
      let dt ← req c.validFrom
      let per : Entry := match dictGet antDict (Key.date dt) with
        | some (.entry e) => e
        | _ => []
      if dictHas per freq then throw .notUnique
      pure (dictSet antDict (Key.date dt) (.entry (dictUpdate per tmp)))
    else do
      if dictHas antDict (Key.str freq) then throw .notUnique
      pure (dictUpdate antDict (tmp.map fun (k, i) => (Key.str k, Val.item i)))
  pure { s with data := dictSet s.data ant antDict', cache := { c with counter := some (counter + 1) } }

/-- dispatch on the `__name__` of the handler registered in the `parser_def` -/
def handle (name : String) (v : Values) (s : State) : Except Err State :=
  let onCache (f : Cache → Except Err Cache) : Except Err State := do
    let c ← f s.cache
    pure { s with cache := c }
  if name = "parse_string" then pure { s with metaText := dictUpdate s.metaText v }
  else if name = "parse_comment" then do
    let t ← req (v.get "comment")
    pure { s with comments := some (s.comments.getD [] ++ [t]) }
  else if name = "parse_section_string" then onCache fun c => pure (parseSectionString v c)
  else if name = "parse_start_of_frequency" then onCache fun c => pure (parseStartOfFrequency v c)
  else if name = "parse_section_float" then onCache (parseSectionFloat v)
  else if name = "parse_num_of_frequencies" then onCache (parseNumOfFrequencies v)
  else if name = "parse_valid_from" then onCache (parseValidFrom v)
  else if name = "parse_valid_until" then onCache (parseValidUntil v)
  else if name = "parse_correction" then onCache (parseCorrection v)
  else if name = "save_correction" then saveCorrection s
  else throw .other

/-! ### The two `ParserDef`s of `setup_parser` -/

def isAlpha (c : Char) : Bool := c.isAlpha

/-- `line[60:].strip()` -/
def labelText (line : Str) : String := asString (strip (sliceFrom 60 line))

def headerParser : ParserDef State where
  endMarker := fun line _ _ => Text.slice 60 73 line = "END OF HEADER".toList
  skipLine := fun _ => false
  label := fun line _ => labelText line
  defs := Midgard.Generated.AntexCols.header
  handle := handle

def corrLabel (line : Str) : String :=
  match Text.slice 60 61 line with
  | [c] => if isAlpha c || c = '#' then labelText line else "CORRECTION"
  | _ => "CORRECTION"

def corrParser : ParserDef State where
  endMarker := fun line _ _ => Text.slice 60 74 line = "END OF ANTENNA".toList
  skipLine := fun line => line.isEmpty
  label := fun line _ => corrLabel line
  defs := Midgard.Generated.AntexCols.records
  handle := handle

def resetCache (s : State) : State := { s with cache := {} }

/-- `AntexParser(file).parse()`: `self.meta`, `self.data` -/
def parseLines (lines : List Str) : Except Err State :=
  readData headerParser corrParser resetCache lines true 0 {}

/-- `read_data` iterates the text-mode file object: a line ends at `\n`, `\r` or `\r\n` and nowhere else
(`Model/TextLines.lean`; form feed, vertical tab, FS/GS/RS, NEL, U+2028/9 stay inside their line) -/
def parseText (text : Str) : Except Err State := parseLines (Midgard.TextLines.textLines text)

end Midgard.Antex
