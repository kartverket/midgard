/-
Text-level entry of the SP3 model for files with any line ends (adversarial files of `harness/c13_adv.py`).
Kept apart from `Model/Sp3.lean`: of the C13 proofs only the text-level theorems (`file_roundtrip_text`, `parseFileText_eq`) import it.
-/
import Midgard.Model.Sp3

namespace Midgard.Sp3
open Midgard.Text Midgard.FixedCol

/-- what `open(path, mode="rt")` (universal newlines, `newline=None`) hands to `ChainParser.read_data`:
`\r\n` and a lone `\r` are both read as `\n`.  `afterCR`: the previous character was a `\r`. -/
def universalNewlinesAux : Bool → Str → Str
  | _, [] => []
  | afterCR, c :: rest =>
    if c = '\r' then '\n' :: universalNewlinesAux true rest
    else if c = '\n' then (if afterCR then universalNewlinesAux false rest else '\n' :: universalNewlinesAux false rest)
    else c :: universalNewlinesAux false rest

def universalNewlines (s : Str) : Str := universalNewlinesAux false s

/-- a whole SP3 file as it stands on disk (any line ends): `parseFile` after the text-mode translation
of the line ends.  On a text without `\r` this is `parseFile` itself. -/
def parseFileText (F : Factors) (defs : List HeaderDef) (epochFields : List (Option String)) (recP : Layout)
    (raw : Str) : Option Parsed :=
  parseFile F defs epochFields recP (universalNewlines raw)

example : universalNewlines "a\r\nb\rc\n\r\r\nd".toList = "a\nb\nc\n\n\nd".toList := by decide

end Midgard.Sp3
