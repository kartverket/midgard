/-
C05 — the selection between the pole branch and the Halley branch of `transformation._trs2llh`: the boolean-mask
assignments `lat[~pole_idx] = tmp_lat[~pole_idx]`, `lat[pole_idx] = (pi / 2)[pole_idx]`, … (arrays) resp. the
`if pole_idx: … else: …` (single position), followed by `lat *= np.sign(z)`.  The statements are read off the source by
`translator/extract_c05.py` into `Generated/TrsSelect.lean`; `runSel` executes them for one row, `trs2llhVia` is
`_trs2llh` with that selection.  `Props/C05.source_branch_selection`: it equals the hand-written `trs2llh`.
-/
import Midgard.Model.Geodetic

namespace Midgard.Geo

/-! ### which ellipsoid the public wrappers `trs2llh` / `llh2trs` evaluate on -/

/-- where an ellipsoid can come from: the explicit `ellipsoid=` argument, the `.ellipsoid` carried by the array
argument (a position object), the module default `GRS80` -/
inductive ResSrc | explicitArg | carried | default
  deriving Repr, DecidableEq

/-- the wrapper's rule as an order of preference (read off the source): the first source that is available decides;
`[]` (a rule the extractor does not understand) decides nothing -/
def resolveEllipsoid (order : List ResSrc) (explicit carried : Option Nat) : Option Nat :=
  match order with
  | [] => none
  | .explicitArg :: rest => match explicit with | some e => some e | none => resolveEllipsoid rest explicit carried
  | .carried :: rest => match carried with | some c => some c | none => resolveEllipsoid rest explicit carried
  | .default :: _ => some defaultEll

inductive SelTgt | lat | height
  deriving Repr, DecidableEq

/-- the index of a masked assignment: `pole_idx`, `~pole_idx`, or the whole array / a plain name -/
inductive SelMask | pole | notPole | all
  deriving Repr, DecidableEq

/-- the row values that can be assigned -/
inductive SelVal | zero | tmpLat | tmpHeight | halfPi | poleHeight
  deriving Repr, DecidableEq

inductive SelStmt
  | assign (t : SelTgt) (m : SelMask) (v : SelVal)   -- `t[m] = v[m]`  /  `t = v` inside `if pole_idx` / `else`
  | mulSign (t : SelTgt)                              -- `t *= np.sign(z)`
  | opaque                                            -- a statement the extractor does not understand
  deriving Repr, DecidableEq

def SelMask.holds (m : SelMask) (isPole : Bool) : Bool :=
  match m with
  | .pole => isPole
  | .notPole => !isPole
  | .all => true

/-- does the program stay inside the fragment -/
def selKnown (prog : List SelStmt) : Bool := prog.all (fun s => s != .opaque)

section
variable {α : Type} [Mul α]

/-- value of target `t` for one row after the statements, starting from `cur` -/
def runSel (isPole : Bool) (vals : SelVal → α) (sgn : α) (t : SelTgt) (cur : α) : List SelStmt → α
  | [] => cur
  | .assign t' m v :: rest =>
    runSel isPole vals sgn t (if t' = t ∧ m.holds isPole = true then vals v else cur) rest
  | .mulSign t' :: rest => runSel isPole vals sgn t (if t' = t then cur * sgn else cur) rest
  | .opaque :: rest => runSel isPole vals sgn t cur rest

end

section
variable {α : Type} [Add α] [Sub α] [Mul α] [Div α] [Neg α] [Zero α] [One α]
  [OfScientific α] [LT α] [LE α] [DecidableRel (α := α) (· < ·)] [DecidableRel (α := α) (· ≤ ·)]
  [Trig α]

/-- `_trs2llh` for one row with the selection statements of the source -/
def trs2llhVia (prog : List SelStmt) (E : Ellipsoid α) (v : V3 α) : LLH α :=
  let p2 := v.x * v.x + v.y * v.y
  let absz := absOf v.z
  let isPole : Bool := decide (p2 ≤ E.a * E.a * 1e-32)
  let p := Trig.sqrt p2
  let sc := halley E p absz
  let vals : SelVal → α := fun
    | .zero => 0
    | .tmpLat => Trig.atan (sc.1 / sc.2)
    | .tmpHeight => halleyHeight E p absz sc.1 sc.2
    | .halfPi => Trig.pi / (1 + 1)
    | .poleHeight => absz - E.b
  ⟨runSel isPole vals (signOf v.z) .lat 0 prog, Trig.atan2 v.y v.x, runSel isPole vals (signOf v.z) .height 0 prog⟩

/-- the tangential offset of the point `(p, z)` of the meridian plane from the normal through the latitude whose tangent
is `s1/cc`: the component of `(p, z) − foot(φ)` along the meridian tangent at `φ`,
`(z·cc − p·s1)/D + e²·a·s1·cc/(D·W)`, `D = √(s1² + cc²)`, `W = √((1 − e²)s1² + cc²)`; it vanishes at the true
geodetic latitude (`Props/C05.offset_zero_at_true_latitude`) -/
def offsetAt (E : Ellipsoid α) (p z s1 cc : α) : α :=
  let D := Trig.sqrt (s1 * s1 + cc * cc)
  let W := Trig.sqrt ((1 - E.e2) * (s1 * s1) + cc * cc)
  (z * cc - p * s1) / D + E.e2 * E.a * s1 * cc / (D * W)

/-- the tangential offset `R` of the one-step answer (`Props/C05.roundtrip_error_closed_form`: the distance between
`llh2trs (trs2llh v)` and `v` is exactly `|R|`): `offsetAt` at `(s1, cc) = halley E p z` -/
def tangentialOffsetOf (E : Ellipsoid α) (p z : α) : α :=
  offsetAt E p z (halley E p z).1 (halley E p z).2

end

end Midgard.Geo
