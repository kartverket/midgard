/-
C20 — executable model of midgard's numeric helpers (exact twin over `Rat`, Mathlib-free;
DESIGN.md §3 and §5/C20).

* `midgard/math/unit.py`            — `Unit.<a>2<b>` over the regenerated factor table; `rad_to_dms`,
                                       `dms_to_rad`, `deg_to_dms`, `dms_to_deg`, `hms_to_rad`
* `midgard/math/interpolation.py`   — `lagrange` (checks, sort, window selection, scaled product
                                       formula, `r.T @ y_wd`), `linear` (SciPy `interp1d`, modelled)
* `midgard/gnss/compute_dops.py`    — design matrix, `Q = (HᵀH)⁻¹`, the five traces
* `midgard/math/plate_motion.py`    — `get_velocity` (`ω × r` with the pole converted to rad/yr)
* `midgard/math/linear_regression.py` — ordinary least squares with the RMS outlier rejection loop

Irrational quantities the code obtains from libm enter as *parameters*: `p` stands for the value of π
(the driver is handed the double `math.pi` as an exact rational), `s` for `x.std()`, and the DOP
model receives the four numbers `cos el, sin el, cos az, sin az` per satellite.  The theorems hold
for every value of these parameters (with the side conditions they state).
-/
import Midgard.Generated.C20Tables

namespace Midgard.Numeric
open Midgard.Generated.C20

/-! ## Units (`_convert_units.__call__` / `__getattr__`) -/

/-- factor of a unit to its root unit, for the value `p` of π -/
def unitFactor (u : UnitRow) (p : Rat) : Rat := if u.pi then u.q * p else u.q

/-- `Unit(a, b)` for two table rows: pint raises `DimensionalityError` (→ `UnitError`) across dimensions -/
def convRow (a b : UnitRow) (p : Rat) : Option Rat :=
  if a.dim = b.dim then some (unitFactor a p / unitFactor b p) else none

def findUnit (tbl : List UnitRow) (n : String) : Option UnitRow := tbl.find? (·.name == n)

/-- `Unit.<a>2<b>` / `Unit(a, b)` by name over the regenerated table -/
def conv (a b : String) (p : Rat) : Option (Option Rat) := do
  let ua ← findUnit units a
  let ub ← findUnit units b
  pure (convRow ua ub p)

/-! ## Degrees, minutes, seconds -/

/-- a floating-point number as sign bit and magnitude (so that `-0.0` exists) -/
structure SF where
  neg : Bool
  mag : Rat
  deriving DecidableEq, Repr

def SF.val (x : SF) : Rat := if x.neg then -x.mag else x.mag

/-- the float with value `q`; `negZero` is the sign bit used when `q = 0` -/
def SF.ofRat (q : Rat) (negZero : Bool) : SF :=
  if q < 0 then ⟨true, -q⟩ else if q = 0 then ⟨negZero, 0⟩ else ⟨false, q⟩

/-- Python `x % 1` for a non-negative float -/
def frac1 (x : Rat) : Rat := x - (x.floor : Rat)

/-- `Unit.degrees2radians` -/
def d2r (p : Rat) : Rat := p / 180
/-- `Unit.radians2degrees` -/
def r2d (p : Rat) : Rat := 180 / p

/-- `Unit.rad_to_dms`: `sign = np.sign(radians)` (−1, 0, +1; `np.sign(±0.0) = +0.0`),
`degrees = abs(radians) * radians2degrees`, `minutes = (degrees % 1) * hour2minutes`,
`seconds = (minutes % 1) * minute2seconds`; returns `(sign * floor(degrees), floor(minutes), seconds)`.
The product `sign * floor(degrees)` is `-0.0` for a negative angle below one degree and `+0.0`
for the input `-0.0`. -/
def radToDms (p : Rat) (r : SF) : SF × Rat × Rat :=
  let degrees := r.mag * r2d p
  let minutes := frac1 degrees * 60
  let seconds := frac1 minutes * 60
  (⟨r.neg && r.mag != 0, (degrees.floor : Rat)⟩, (minutes.floor : Rat), seconds)

/-- `Unit.deg_to_dms(x) = rad_to_dms(x * degrees2radians)` -/
def degToDms (p : Rat) (x : SF) : SF × Rat × Rat := radToDms p ⟨x.neg, x.mag * d2r p⟩

/-- `Unit.dms_to_rad`: `sign = np.copysign(1, degrees)`;
`sign * (abs(degrees) + minutes * minutes2hours + seconds * seconds2hours) * degrees2radians` -/
def dmsToRad (p : Rat) (d : SF) (m s : Rat) : SF :=
  let t := d.mag + m * (1 / 60) + s * (1 / 3600)
  let sign : Rat := if d.neg then -1 else 1
  SF.ofRat (sign * t * d2r p) d.neg

/-- `Unit.dms_to_deg = dms_to_rad(...) * radians2degrees` -/
def dmsToDeg (p : Rat) (d : SF) (m s : Rat) : SF :=
  let r := dmsToRad p d m s
  ⟨r.neg, r.mag * r2d p⟩

/-- `Unit.hms_to_rad`: refuses negative hours, otherwise `15 * dms_to_rad` -/
def hmsToRad (p : Rat) (h : SF) (m s : Rat) : Option SF :=
  if h.val < 0 then none else
  let r := dmsToRad p h m s
  some ⟨r.neg, 15 * r.mag⟩

/-! ## Lagrange interpolation (`interpolation.lagrange`) -/

inductive Err
  | shape      -- len(y) != len(x)
  | window     -- window < 3
  | short      -- window > len(x)
  | unsorted   -- "expected x to be a sorted array with unique values"
  | below | above
  | solver     -- (spline model only) the elimination did not return moments satisfying the defining equations
  deriving DecidableEq, Repr

/-- insert a sample into a list sorted by abscissa (before the first larger abscissa) -/
def insertBy {α} (a : Rat × α) : List (Rat × α) → List (Rat × α)
  | [] => [a]
  | b :: l => if a.1 ≤ b.1 then a :: b :: l else b :: insertBy a l

/-- `sort_idxs = np.argsort(x); x, y = x[sort_idxs], y[sort_idxs]` (abscissae are then required
to be distinct, so the order of the sort algorithm on ties is never observable) -/
def sortBy {α} : List (Rat × α) → List (Rat × α)
  | [] => []
  | a :: l => insertBy a (sortBy l)

/-- `all(np.diff(x) > 0)` -/
def strictInc : List Rat → Bool
  | a :: b :: l => a < b && strictInc (b :: l)
  | _ => true

def absR (q : Rat) : Rat := if q < 0 then -q else q

/-- `np.abs(x - x_new).argmin()`: index of the first minimum -/
def argminAbs : List Rat → Rat → Nat
  | [], _ => 0
  | [_], _ => 0
  | a :: b :: l, x =>
    let k := argminAbs (b :: l) x
    if absR ((b :: l).getD k 0 - x) < absR (a - x) then k + 1 else 0

/-- `start = argmin - window // 2`, negative → 0, above `len(x) - window` → `len(x) - window` -/
def startIdx (xs : List Rat) (w : Nat) (x : Rat) : Nat :=
  min (argminAbs xs x - w / 2) (xs.length - w)

/-- `np.prod((x - x_wd[idxs]) / diff_x[idxs, i])`: the i-th Lagrange basis value on the window -/
def basis (xw : List Rat) (i : Nat) (x : Rat) : Rat :=
  (((List.range xw.length).filter (· != i)).map
      (fun j => (x - xw.getD j 0) / (xw.getD i 0 - xw.getD j 0))).prod

def weights (xw : List Rat) (x : Rat) : List Rat :=
  (List.range xw.length).map (fun i => basis xw i x)

def dot (r col : List Rat) : Rat := (List.zipWith (· * ·) r col).sum

/-- `r.T @ y_wd` for one new abscissa: entry `c` is `Σ_i r_i · y_wd[i, c]` (trailing axes of `y`
flattened to `dim` components) -/
def combine (r : List Rat) (rows : List (List Rat)) (dim : Nat) : List Rat :=
  (List.range dim).map (fun c => dot r (rows.map (·.getD c 0)))

def mean (xs : List Rat) : Rat := xs.sum / (xs.length : Rat)

/-- value of the interpolant at one abscissa; `xs`/`rows` sorted, `m`, `s` the scaling
(`x_scaled = (x - _xm) / _xs`) -/
def lagrangeAt (xs : List Rat) (rows : List (List Rat)) (dim w : Nat) (m s x : Rat) : List Rat :=
  let st := startIdx xs w x
  let xw := ((xs.drop st).take w).map (fun v => (v - m) / s)
  let yw := (rows.drop st).take w
  combine (weights xw ((x - m) / s)) yw dim

def minL : List Rat → Rat
  | [] => 0
  | a :: l => l.foldl (fun acc b => if b < acc then b else acc) a
def maxL : List Rat → Rat
  | [] => 0
  | a :: l => l.foldl (fun acc b => if acc < b then b else acc) a

/-- `interpolate(x, y, x_new, kind="lagrange", window=w, bounds_error=…, assume_sorted=…)`;
`s` is the value the code obtained for `x.std()` -/
def lagrange (xs : List Rat) (rows : List (List Rat)) (dim w : Nat) (boundsError assumeSorted : Bool)
    (s : Rat) (xnew : List Rat) : Except Err (List (List Rat)) :=
  if rows.length != xs.length then .error .shape
  else if w < 3 then .error .window
  else if w > xs.length then .error .short
  else
    let pairs := if assumeSorted then xs.zip rows else sortBy (xs.zip rows)
    let sx := pairs.map (·.1)
    let sy := pairs.map (·.2)
    if !strictInc sx then .error .unsorted
    else if boundsError && minL xnew < minL sx then .error .below
    else if boundsError && maxL xnew > maxL sx then .error .above
    else .ok (xnew.map (fun x => lagrangeAt sx sy dim w (mean sx) s x))

/-- `(f(x_new + dx) - f(x_new - dx)) / (2 * dx)`, componentwise -/
def centralDiff (hi lo : List (List Rat)) (dx : Rat) : List (List Rat) :=
  List.zipWith (fun a b => List.zipWith (fun u v => (u - v) / (2 * dx)) a b) hi lo

/-- `interpolate_with_derivative(x, y, x_new, kind="lagrange", dx=dx, window=w, …)`: the interpolator is
built once (argument checks, sort) and called for `x_new`, `x_new + dx`, `x_new - dx` in this order (each
call checks its own bounds); the derivative is the central difference of the interpolant -/
def lagrangeDeriv (xs : List Rat) (rows : List (List Rat)) (dim w : Nat) (boundsError assumeSorted : Bool)
    (s : Rat) (xnew : List Rat) (dx : Rat) : Except Err (List (List Rat) × List (List Rat)) :=
  match lagrange xs rows dim w boundsError assumeSorted s xnew with
  | .error e => .error e
  | .ok v =>
    match lagrange xs rows dim w boundsError assumeSorted s (xnew.map (· + dx)) with
    | .error e => .error e
    | .ok hi =>
      match lagrange xs rows dim w boundsError assumeSorted s (xnew.map (· - dx)) with
      | .error e => .error e
      | .ok lo => .ok (v, centralDiff hi lo dx)

/-- `interpolate(x, y, x_new, kind="barycentric_interpolator")` — specification: SciPy's
`BarycentricInterpolator` evaluates *the* interpolating polynomial through all samples (given in any order,
no bounds check): the Lagrange interpolant whose window is the whole sample set.  Equal abscissae have no
interpolating polynomial (SciPy divides by zero there). -/
def barycentric (xs : List Rat) (rows : List (List Rat)) (dim : Nat) (xnew : List Rat) :
    Except Err (List (List Rat)) :=
  if rows.length != xs.length then .error .shape
  else if xs.length = 0 then .error .short
  else
    let pairs := sortBy (xs.zip rows)
    let sx := pairs.map (·.1)
    let sy := pairs.map (·.2)
    if !strictInc sx then .error .unsorted
    else .ok (xnew.map (fun x => lagrangeAt sx sy dim sx.length (mean sx) 1 x))

/-! ## Piecewise linear interpolation (`interpolation.linear` = SciPy `interp1d(kind="linear")`, modelled) -/

/-- `np.searchsorted(x, v)` (side left): number of abscissae `< v` -/
def searchLeft (xs : List Rat) (v : Rat) : Nat := (xs.filter (· < v)).length

/-- `idx = searchsorted(x, x_new).clip(1, n-1)`; `lo = idx-1`, `hi = idx`;
`y_lo + (y_hi - y_lo) / (x_hi - x_lo) * (x_new - x_lo)` componentwise -/
def linearAt (xs : List Rat) (rows : List (List Rat)) (dim : Nat) (x : Rat) : List Rat :=
  let idx := max 1 (min (searchLeft xs x) (xs.length - 1))
  let xlo := xs.getD (idx - 1) 0
  let xhi := xs.getD idx 0
  let ylo := rows.getD (idx - 1) []
  let yhi := rows.getD idx []
  (List.range dim).map (fun c =>
    (yhi.getD c 0 - ylo.getD c 0) / (xhi - xlo) * (x - xlo) + ylo.getD c 0)

/-- `interpolate(x, y, x_new, kind="linear")`: sorts (`assume_sorted=False`), refuses extrapolation -/
def linear (xs : List Rat) (rows : List (List Rat)) (dim : Nat) (xnew : List Rat) :
    Except Err (List (List Rat)) :=
  if rows.length != xs.length then .error .shape
  else if xs.length < 2 then .error .short
  else
    let pairs := sortBy (xs.zip rows)
    let sx := pairs.map (·.1)
    let sy := pairs.map (·.2)
    if minL xnew < minL sx then .error .below
    else if maxL xnew > maxL sx then .error .above
    else .ok (xnew.map (fun x => linearAt sx sy dim x))

/-! ## Bilinear interpolation on a rectangular grid (`spatial_interpolation.regular_grid_interpolator` = SciPy
`RegularGridInterpolator`, method "linear", after the flips that make both axes increasing) -/

/-- value at `(x, y)`: `grid[k][i]` is the value at `(xs[i], ys[k])`; linear in `x` along every grid row, then
linear in `y` across the rows -/
def bilinearAt (xs ys : List Rat) (grid : List (List Rat)) (x y : Rat) : Rat :=
  (linearAt ys (grid.map (fun row => linearAt xs (row.map (fun v => [v])) 1 x)) 1 y).getD 0 0

/-- `spatial_interpolation.interpolate(grid_x, grid_y, values, x, y, kind="regular_grid_interpolator")` for a list of
positions: a position outside the grid is refused (`interpolate` checks the boundaries itself) -/
def regularGrid (xs ys : List Rat) (grid : List (List Rat)) (pts : List (Rat × Rat)) : Except Err (List Rat) :=
  if grid.length != ys.length || grid.any (fun r => r.length != xs.length) then .error .shape
  else if xs.length < 2 || ys.length < 2 then .error .short
  else if !(strictInc xs && strictInc ys) then .error .unsorted
  else if pts.any (fun p => p.1 < minL xs || p.2 < minL ys) then .error .below
  else if pts.any (fun p => p.1 > maxL xs || p.2 > maxL ys) then .error .above
  else .ok (pts.map (fun p => bilinearAt xs ys grid p.1 p.2))

/-! ## Low-precision solar ephemeris (`planetary_motion.gsdtime_sun`): the two angles that are rational in the
date — the mean longitude `vl` and the Greenwich sidereal angle `gstr`; the constants are read from the source -/

/-- `np.mod(q, 360)` -/
def fmod360 (q : Rat) : Rat := q - 360 * ((q / 360).floor : Rat)

/-- `vl = np.mod(c0 + rate * jd, 360)` -/
def sunMeanLongitude (c0 rate jd : Rat) : Rat := fmod360 (c0 + rate * jd)

/-- `gstr = np.mod(c0 + rate * jd + 360 * frac + 180, 360)` (`jd` whole days since the epoch − 0.5, `frac` the
fraction of the day) -/
def gmstAngle (c0 rate jd frac : Rat) : Rat := fmod360 (c0 + rate * jd + 360 * frac + 180)

/-! ## Not-a-knot cubic spline (`interpolation.cubic` = SciPy `interp1d(kind="cubic")`, and
`interpolation.interpolated_univariate_spline` = FITPACK's interpolating spline of degree 3) — specification

Both SciPy routines return the C² piecewise cubic through the samples whose third derivative is continuous
at the second and at the second-to-last node.  In terms of the second derivatives `m i = s''(x i)` ("moments")
the defining equations are `NakEqs`; `pieceEval` is the cubic on one interval with given end values and end
second derivatives.  The model solves the equations by exact Gaussian elimination and accepts the
solution only when it satisfies `NakEqs` (decidable, in `nakMoments`; otherwise the call ends in `Err.solver`). -/

/-- the defining equations of the not-a-knot cubic spline through `(x i, y i)`, `i < n`, for the moments `m`:
C¹ at every interior node, and third-derivative continuity at node `1` and node `n - 2` -/
def NakEqs (n : Nat) (x y m : Nat → Rat) : Prop :=
  (∀ i, i < n → 1 ≤ i → i + 1 < n →
      (x i - x (i - 1)) * m (i - 1) + 2 * (x (i + 1) - x (i - 1)) * m i + (x (i + 1) - x i) * m (i + 1)
        = 6 * ((y (i + 1) - y i) / (x (i + 1) - x i) - (y i - y (i - 1)) / (x i - x (i - 1)))) ∧
  (m 1 - m 0) * (x 2 - x 1) = (m 2 - m 1) * (x 1 - x 0) ∧
  (m (n - 2) - m (n - 3)) * (x (n - 1) - x (n - 2)) = (m (n - 1) - m (n - 2)) * (x (n - 2) - x (n - 3))

instance (n : Nat) (x y m : Nat → Rat) : Decidable (NakEqs n x y m) := by
  unfold NakEqs; infer_instance

/-- the cubic on `[x0, x1]` with values `y0, y1` and second derivatives `m0, m1` at the ends -/
def pieceEval (x0 x1 y0 y1 m0 m1 x : Rat) : Rat :=
  let h := x1 - x0
  m0 * (x1 - x) * (x1 - x) * (x1 - x) / (6 * h) + m1 * (x - x0) * (x - x0) * (x - x0) / (6 * h)
    + (y0 / h - m0 * h / 6) * (x1 - x) + (y1 / h - m1 * h / 6) * (x - x0)

/-- Gaussian elimination on an augmented matrix (`n` unknowns, rows `a₀ … a_{n-1} | b`), exact over `Rat`;
`none` when the matrix is singular -/
def gaussSolve : Nat → List (List Rat) → Option (List Rat)
  | 0, _ => some []
  | n + 1, rows =>
    match rows.find? (fun r => r.headD 0 != 0) with
    | none => none
    | some p =>
      let pn := p.tail.map (· / p.headD 0)
      let rest := (rows.erase p).map (fun r => List.zipWith (fun a b => a - r.headD 0 * b) r.tail pn)
      match gaussSolve n rest with
      | none => none
      | some sol => some ((pn.getLastD 0 - (List.zipWith (· * ·) pn sol).sum) :: sol)

/-- the augmented matrix of `NakEqs` for sorted abscissae `xs` (length ≥ 4) and ordinates `ys` -/
def nakSystem (xs ys : List Rat) : List (List Rat) :=
  let n := xs.length
  let x := fun i => xs.getD i 0
  let y := fun i => ys.getD i 0
  let row := fun (f : Nat → Rat) (b : Rat) => (List.range n).map f ++ [b]
  let first := row (fun j => if j = 0 then -(x 2 - x 1) else if j = 1 then (x 2 - x 1) + (x 1 - x 0)
      else if j = 2 then -(x 1 - x 0) else 0) 0
  let last := row (fun j => if j = n - 3 then -(x (n - 1) - x (n - 2))
      else if j = n - 2 then (x (n - 1) - x (n - 2)) + (x (n - 2) - x (n - 3))
      else if j = n - 1 then -(x (n - 2) - x (n - 3)) else 0) 0
  let mid := (List.range (n - 2)).map (fun k =>
    let i := k + 1
    row (fun j => if j = i - 1 then x i - x (i - 1) else if j = i then 2 * (x (i + 1) - x (i - 1))
        else if j = i + 1 then x (i + 1) - x i else 0)
      (6 * ((y (i + 1) - y i) / (x (i + 1) - x i) - (y i - y (i - 1)) / (x i - x (i - 1)))))
  first :: mid ++ [last]

/-- value of the spline with moments `ms` at `x` (interval chosen as SciPy's `searchsorted` does; inside the range) -/
def nakAt (xs ys ms : List Rat) (x : Rat) : Rat :=
  let idx := max 1 (min (searchLeft xs x) (xs.length - 1))
  pieceEval (xs.getD (idx - 1) 0) (xs.getD idx 0) (ys.getD (idx - 1) 0) (ys.getD idx 0)
    (ms.getD (idx - 1) 0) (ms.getD idx 0) x

/-- moments of one component: the result of the elimination, accepted only when it satisfies the defining
equations (a decidable check, so every value the model returns is a value of *the* not-a-knot spline) -/
def nakMoments (sx col : List Rat) : Option (List Rat) :=
  match gaussSolve sx.length (nakSystem sx col) with
  | none => none
  | some ms =>
    if NakEqs sx.length (fun i => sx.getD i 0) (fun i => col.getD i 0) (fun i => ms.getD i 0) then some ms else none

/-- `interpolate(x, y, x_new, kind="cubic")` / `kind="interpolated_univariate_spline"` inside the sample range -/
def nakSpline (xs : List Rat) (rows : List (List Rat)) (dim : Nat) (xnew : List Rat) :
    Except Err (List (List Rat)) :=
  if rows.length != xs.length then .error .shape
  else if xs.length < 4 then .error .short
  else
    let pairs := sortBy (xs.zip rows)
    let sx := pairs.map (·.1)
    let sy := pairs.map (·.2)
    if !strictInc sx then .error .unsorted
    else if minL xnew < minL sx then .error .below
    else if maxL xnew > maxL sx then .error .above
    else
      let cols := (List.range dim).map (fun c => sy.map (·.getD c 0))
      if cols.any (fun col => (nakMoments sx col).isNone) then .error .solver
      else .ok (xnew.map (fun x => cols.map (fun col => nakAt sx col ((nakMoments sx col).getD []) x)))

/-- the not-a-knot spline through `(sx i, col i)` (sorted) at one abscissa -/
def nakValue (sx col : List Rat) (x : Rat) : Option Rat :=
  (nakMoments sx col).map (fun ms => nakAt sx col ms x)

/-- `spatial_interpolation.rect_bivariate_spline` = SciPy `RectBivariateSpline` (degree 3 × 3, interpolating) —
specification: the tensor product of not-a-knot splines: along `x` on every grid row, then along `y` through the
row values.  `grid[k][i]` is the value at `(xs[i], ys[k])`, both axes increasing. -/
def bicubicAt (xs ys : List Rat) (grid : List (List Rat)) (x y : Rat) : Option Rat :=
  let vals := grid.map (fun row => nakValue xs row x)
  if vals.any (·.isNone) then none else nakValue ys (vals.map (·.getD 0)) y

/-- `interpolate_with_derivative(x, y, x_new, kind=…, dx=dx)` for any interpolator `f` (the function of `x_new`
the registered interpolator returns): values `f(x_new)`, derivative `(f(x_new + dx) - f(x_new - dx)) / (2 dx)`,
evaluated in this order -/
def interpDeriv (f : List Rat → Except Err (List (List Rat))) (xnew : List Rat) (dx : Rat) :
    Except Err (List (List Rat) × List (List Rat)) :=
  match f xnew with
  | .error e => .error e
  | .ok v =>
    match f (xnew.map (· + dx)) with
    | .error e => .error e
    | .ok hi =>
      match f (xnew.map (· - dx)) with
      | .error e => .error e
      | .ok lo => .ok (v, centralDiff hi lo dx)

/-! ## `midgard.math.nputil`: `norm`, `unit_vector`, `take` along the last axis -/

/-- `norm(v) ** 2` for one vector (the square root itself is a parameter of `unitVector`) -/
def normSq (v : List Rat) : Rat := (v.map (fun a => a * a)).sum

/-- `unit_vector(v) = v / np.linalg.norm(v)`; `n` is the value the code obtained for the norm -/
def unitVector (v : List Rat) (n : Rat) : List Rat := v.map (· / n)

/-- `take(v, i)` on a 2-dimensional array: component `i` of every row (1-dimensional: `List.getD`) -/
def takeLast (rows : List (List Rat)) (i : Nat) : List Rat := rows.map (·.getD i 0)

/-! ## Dilution of precision (`compute_dops`) -/

/-- the four trigonometric values of one satellite as the code obtained them -/
structure Sat where
  ce : Rat   -- cos(el)
  se : Rat   -- sin(el)
  ca : Rat   -- cos(az)
  sa : Rat   -- sin(az)
  deriving DecidableEq, Repr

abbrev Mat4 := Fin 4 → Fin 4 → Rat

/-- row of `H`: `(-cos(el)cos(az), -cos(el)sin(az), -sin(el), 1)` -/
def Sat.row (s : Sat) (i : Fin 4) : Rat :=
  match i with
  | 0 => -s.ce * s.ca
  | 1 => -s.ce * s.sa
  | 2 => -s.se
  | 3 => 1

/-- `Q = H.T @ H` -/
def normal (sats : List Sat) : Mat4 := fun i j => (sats.map (fun s => s.row i * s.row j)).sum

/-- the sixteen entries as data (evaluated once) -/
def table (m : Mat4) : List (List Rat) :=
  (List.finRange 4).map (fun i => (List.finRange 4).map (fun j => m i j))

/-- back to a matrix: `ofTable (table m) = m` (`ofTable_table`) -/
def ofTable (v : List (List Rat)) : Mat4 := fun i j => (v.getD i.val []).getD j.val 0

/-- index of the k-th remaining row/column after deleting `r` -/
def skip (r : Fin 4) (k : Fin 3) : Fin 4 :=
  if k.val < r.val then ⟨k.val, by omega⟩ else ⟨k.val + 1, by omega⟩

def det3 (a : Fin 3 → Fin 3 → Rat) : Rat :=
  a 0 0 * (a 1 1 * a 2 2 - a 1 2 * a 2 1)
  - a 0 1 * (a 1 0 * a 2 2 - a 1 2 * a 2 0)
  + a 0 2 * (a 1 0 * a 2 1 - a 1 1 * a 2 0)

/-- minor: determinant after deleting row `r` and column `c` -/
def minor (m : Mat4) (r c : Fin 4) : Rat := det3 (fun a b => m (skip r a) (skip c b))

def sgn (i j : Fin 4) : Rat := if (i.val + j.val) % 2 = 0 then 1 else -1

def det4 (m : Mat4) : Rat :=
  m 0 0 * minor m 0 0 - m 0 1 * minor m 0 1 + m 0 2 * minor m 0 2 - m 0 3 * minor m 0 3

/-- `np.linalg.inv(Q)` (as the classical adjugate over the determinant) -/
def inv4 (m : Mat4) : Mat4 := fun i j => sgn i j * minor m j i / det4 m

structure Dops where
  gdop2 : Rat
  pdop2 : Rat
  tdop2 : Rat
  hdop2 : Rat
  vdop2 : Rat
  deriving DecidableEq, Repr

/-- squares of the five values: `trace(Q)`, `trace(Q[0:3])`, `Q[3,3]`, `trace(Q[0:2])`, `Q[2,2]` -/
def dopsOf (q : Mat4) : Dops :=
  { gdop2 := q 0 0 + q 1 1 + q 2 2 + q 3 3
    pdop2 := q 0 0 + q 1 1 + q 2 2
    tdop2 := q 3 3
    hdop2 := q 0 0 + q 1 1
    vdop2 := q 2 2 }

/-- `compute_dops`; `none` when `HᵀH` is singular (the code then returns five `None`s) -/
def computeDops (sats : List Sat) : Option Dops :=
  let v := table (normal sats)
  let q := ofTable v
  if det4 q = 0 then none else some (dopsOf (inv4 q))

/-- `compute_dops` with the guard as the source writes it: `lim` is the limit the source puts on the condition
number of `HᵀH` (`Generated.C20.dopCondLimit`, read from the source: `none` = no finite limit), `cond` the value the
code obtained for `np.linalg.cond(Q)` (a parameter) -/
def computeDopsGuarded (lim : Option Rat) (cond : Rat) (sats : List Sat) : Option Dops :=
  match lim with
  | some l => if cond > l then none else computeDops sats
  | none => computeDops sats

/-! ## Plate motion (`PlateMotion.get_velocity`, system "trs") -/

structure V3 where
  x : Rat
  y : Rat
  z : Rat
  deriving DecidableEq, Repr

/-- `np.cross(a, b)` -/
def cross (a b : V3) : V3 := ⟨a.y * b.z - a.z * b.y, a.z * b.x - a.x * b.z, a.x * b.y - a.y * b.x⟩
def dot3 (a b : V3) : Rat := a.x * b.x + a.y * b.y + a.z * b.z

/-- `model.get_pole(plate, unit="radian per year")`: every component times the unit factor -/
def poleOmega (r : PoleRow) (p : Rat) : V3 :=
  let f := if r.upi then r.uq * p else r.uq
  ⟨r.wx * f, r.wy * f, r.wz * f⟩

def findPole (tbl : List PoleRow) (model plate : String) : Option PoleRow :=
  tbl.find? (fun r => r.model == model && r.plate == plate)

/-- `PlateMotion(plate, model).get_velocity(pos)` -/
def plateVelocity (model plate : String) (p : Rat) (pos : V3) : Option V3 :=
  (findPole poles model plate).map (fun r => cross (poleOmega r p) pos)

/-- `PlateMotion.to_cartesian([lat°, lon°, ω °/Myr])` in mas/yr: `cl, sl, co, so` are the values the code obtained
for cos/sin of the latitude and longitude (parameters, like the satellite directions of `compute_dops`); the unit
factors `degree→radian`, `/ 10⁶`, `radian→milliarcsecond` multiply to `3600000 / 10⁶` (π cancels) -/
def toCartesianQ (cl sl co so w : Rat) : V3 :=
  let k : Rat := 3600000 / 1000000
  ⟨w * cl * co * k, w * cl * so * k, w * sl * k⟩

/-- the square of the rotation rate `to_spherical` returns for a Cartesian pole in mas/yr (°/Myr; the square root
is not modelled) -/
def omegaSq (p : V3) : Rat := dot3 p p * (1000000 / 3600000) * (1000000 / 3600000)

/-! ## Linear regression (`LinearRegression`, statsmodels OLS on `[1, x]`) -/

structure Fit where
  icpt : Rat
  slope : Rat
  deriving DecidableEq, Repr

/-- least squares line through the samples (normal equations); `none` when all `x` coincide -/
def ols (xs ys : List Rat) : Option Fit :=
  let n : Rat := (xs.length : Rat)
  let sx := xs.sum
  let sy := ys.sum
  let sxx := (xs.map (fun x => x * x)).sum
  let sxy := (List.zipWith (· * ·) xs ys).sum
  let den := n * sxx - sx * sx
  if den = 0 then none else
  let b := (n * sxy - sx * sy) / den
  some ⟨(sy - b * sx) / n, b⟩

/-- `result.resid` (observed − modelled) -/
def resid (f : Fit) (xs ys : List Rat) : List Rat :=
  List.zipWith (fun x y => y - (f.icpt + f.slope * x)) xs ys

/-- the statistics `LinearRegression` reports for the fit `f` of the samples kept, as squares where the code takes
a square root: `rms²` = Σe²/n, `r_square` = 1 − Σe²/Σ(y−ȳ)² (statsmodels `rsquared`, centred), `slope_sigma²` and
`interception_sigma²` = the diagonal of `scale · (XᵀX)⁻¹` with `scale` = Σe²/(n−2) (statsmodels `bse`²) -/
structure FitStats where
  rms2 : Rat
  rSquare : Rat
  slopeVar : Rat
  icptVar : Rat
  deriving DecidableEq, Repr

/-- residual sum of squares of the line `f` -/
def ssr (f : Fit) (xs ys : List Rat) : Rat := normSq (resid f xs ys)

/-- centred total sum of squares Σ(y−ȳ)² -/
def sst (ys : List Rat) : Rat := normSq (ys.map (· - mean ys))

def fitStats (f : Fit) (xs ys : List Rat) : FitStats :=
  let n : Rat := (xs.length : Rat)
  let e2 := ssr f xs ys
  let den := n * (xs.map (fun x => x * x)).sum - xs.sum * xs.sum
  let scale := e2 / (n - 2)
  ⟨e2 / n, 1 - e2 / sst ys, scale * n / den, scale * (xs.map (fun x => x * x)).sum / den⟩

/-- one pass of `_generate_result_and_reject_outlier`: keep the samples with
`|resid| < factor · rms`, i.e. `resid² · n < factor² · Σ resid²` (`factor ≥ 0`) -/
def rejectOnce (factor : Rat) (xs ys : List Rat) : Option (List Rat × List Rat) :=
  (ols xs ys).map fun f =>
    let r := resid f xs ys
    let ss := (r.map (fun e => e * e)).sum
    let n : Rat := (r.length : Rat)
    let keep := r.map (fun e => decide (e * e * n < factor * factor * ss))
    let sel := fun (l : List Rat) => ((l.zip keep).filter (·.2)).map (·.1)
    (sel xs, sel ys)

def rejectLoop (factor : Rat) : Nat → List Rat → List Rat → Option (List Rat × List Rat)
  | 0, xs, ys => some (xs, ys)
  | k + 1, xs, ys => (rejectOnce factor xs ys).bind fun (a, b) => rejectLoop factor k a b

/-- `LinearRegression(x, y, reject_outlier, outlier_limit_factor, outlier_iteration)` →
the fit and the samples it was computed from -/
def linreg (xs ys : List Rat) (reject : Bool) (factor : Rat) (iter : Nat) :
    Option (Fit × List Rat × List Rat) :=
  if reject then
    (rejectLoop factor iter xs ys).bind fun (a, b) => (ols a b).map fun f => (f, a, b)
  else (ols xs ys).map fun f => (f, xs, ys)

end Midgard.Numeric
