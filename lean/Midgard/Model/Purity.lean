/-
C16 — parsing is a pure function of file and arguments (model).

Three layers, all Mathlib-free and executable where that makes sense:

1. an abstract world `{files, shared cells, per-instance state}` on which *any* program of parser
   operations (construct / parse / mutate-result, folded into one `sem`) runs as a history of
   events, each acting on one instance (`run`, `purge`, `obsOf`);
2. the mechanisms behind the process-wide cells the library really has, each as a small concrete
   state machine whose independence lemma is proved in `Props/C16.lean`:
     * memo tables (`functools.lru_cache`, `_CONVERSION_HOPS`)            — `memoCall`
     * import-time registries (`plugins._PLUGINS`, unit/enum/system tables) — `regLoad`, `regGet`
     * the function-level list of `_parser_rinex.parser_cache`             — `parseHeader`
3. the cover table: which lemma class justifies each cell of `Generated/ParserEffects.effects`.
-/
import Midgard.Generated.ParserEffects

namespace Midgard.Purity

/-! ## 1. Abstract world and histories -/

/-- what one operation returns: the value the caller sees, the new state of the instance it was
invoked on, the new process-wide state and the new file system -/
structure Out (Obs Loc Sh Fs : Type) where
  obs : Obs
  loc : Loc
  shared : Sh
  files : Fs

structure World (Id Loc Cell Val Path Bytes : Type) where
  files : Path → Bytes
  shared : Cell → Val
  inst : Id → Loc

structure Event (Id Op : Type) where
  who : Id
  op : Op

section generic
variable {Id Loc Cell Val Path Bytes Op Obs : Type} [DecidableEq Id]

/-- semantics of an operation (`__init__`, `parse()`, a caller's mutation of a result …): it sees
the files, the state of the instance it is invoked on and the process-wide cells -/
abbrev Sem (Loc Cell Val Path Bytes Op Obs : Type) :=
  Op → (Path → Bytes) → Loc → (Cell → Val) → Out Obs Loc (Cell → Val) (Path → Bytes)

def setInst (f : Id → Loc) (i : Id) (l : Loc) : Id → Loc := fun j => if j = i then l else f j

def step (sem : Sem Loc Cell Val Path Bytes Op Obs) (w : World Id Loc Cell Val Path Bytes)
    (e : Event Id Op) : World Id Loc Cell Val Path Bytes × Obs :=
  let o := sem e.op w.files (w.inst e.who) w.shared
  ({ files := o.files, shared := o.shared, inst := setInst w.inst e.who o.loc }, o.obs)

/-- run a history; the trace lists what every event returned, tagged with its instance -/
def run (sem : Sem Loc Cell Val Path Bytes Op Obs) :
    World Id Loc Cell Val Path Bytes → List (Event Id Op) →
    World Id Loc Cell Val Path Bytes × List (Id × Obs)
  | w, [] => (w, [])
  | w, e :: h =>
    let (w', o) := step sem w e
    let (w'', t) := run sem w' h
    (w'', (e.who, o) :: t)

/-- the events of instance `i` only -/
def purge (i : Id) (h : List (Event Id Op)) : List (Event Id Op) := h.filter (fun e => e.who = i)

/-- what the owner of instance `i` saw, in order -/
def obsOf (i : Id) (t : List (Id × Obs)) : List Obs := (t.filter (fun p => p.1 = i)).map (·.2)

/-- The hypotheses under which other instances cannot be noticed.  `rel` are the process-wide cells
results may depend on; `Good` is an invariant of the process-wide state (sound memo tables, sound
registries). -/
structure NonInterfering (sem : Sem Loc Cell Val Path Bytes Op Obs) (rel : Cell → Prop)
    (Good : (Cell → Val) → Prop) : Prop where
  /-- no operation modifies a file -/
  files_kept : ∀ op fs l s, (sem op fs l s).files = fs
  /-- the invariant of the process-wide state is preserved -/
  good_step : ∀ op fs l s, Good s → Good (sem op fs l s).shared
  /-- no operation changes a cell results may depend on (written cells are never relevant) -/
  rel_kept : ∀ op fs l s c, Good s → rel c → (sem op fs l s).shared c = s c
  /-- results and the instance's next state depend on process-wide state only through `rel` -/
  reads_sound : ∀ op fs l s s', Good s → Good s' → (∀ c, rel c → s c = s' c) →
      (sem op fs l s).obs = (sem op fs l s').obs ∧ (sem op fs l s).loc = (sem op fs l s').loc

/-- **Frames.**  A description of an operation by read and write sets: the process-wide cells its result may depend on
(`reads op`) and the cells it may change (`writes op`).  A cell that an operation re-initialises before it looks at
it ("reset before use") is written, not read: the result does not depend on what the cell held. -/
structure Framed (sem : Sem Loc Cell Val Path Bytes Op Obs) (reads writes : Op → Cell → Prop) : Prop where
  /-- no operation modifies a file -/
  files_kept : ∀ op fs l s, (sem op fs l s).files = fs
  /-- cells outside the write set keep their value -/
  writes_only : ∀ op fs l s c, ¬ writes op c → (sem op fs l s).shared c = s c
  /-- result and next instance state depend on process-wide state through the read set only -/
  reads_only : ∀ op fs l s s', (∀ c, reads op c → s c = s' c) →
      (sem op fs l s).obs = (sem op fs l s').obs ∧ (sem op fs l s).loc = (sem op fs l s').loc

end generic

/-! ## 2a. Memo tables (`functools.lru_cache`, `_CONVERSION_HOPS`) -/

section memo
variable {α β : Type} [DecidableEq α]

/-- a memoised call: hit → stored value, miss → compute and store -/
def memoCall (f : α → β) (cache : List (α × β)) (x : α) : β × List (α × β) :=
  match cache.lookup x with
  | some v => (v, cache)
  | none => (f x, (x, f x) :: cache)

/-- every stored value is the function's value -/
def CacheSound (f : α → β) (cache : List (α × β)) : Prop := ∀ p ∈ cache, p.2 = f p.1

/-- a world whose only process-wide cell is the memo table of `f`; the one operation "call with `x`" returns what
the memoised function returns and leaves the instance alone -/
def memoSem {Loc Path Bytes : Type} (f : α → β) : Sem Loc Unit (List (α × β)) Path Bytes α β :=
  fun x fs l s => ⟨(memoCall f (s ()) x).1, l, fun _ => (memoCall f (s ()) x).2, fs⟩

end memo

/-! ## 2b. Import-time registries (`plugins._PLUGINS[package]`)

`plugins.get(package, n)`: `load` imports module `n` when `n` is not registered yet; importing a
module runs its `@register` decorators and those of the plug-in modules it imports itself
(`closure n`, regenerated by the translator); then the entry is looked up.  `defn n` is what the
source file of `n` registers (`none`: no plug-in in that file → `UnknownPluginError`). -/

section registry
variable {N P : Type} [DecidableEq N]

def regAdd (defn : N → Option P) (reg : List (N × P)) (n : N) : List (N × P) :=
  if (reg.lookup n).isSome then reg else
    match defn n with
    | some p => reg ++ [(n, p)]
    | none => reg

/-- import of module `n`: registers `n` and the plug-in modules it imports -/
def regImport (defn : N → Option P) (closure : N → List N) (reg : List (N × P)) (n : N) : List (N × P) :=
  (closure n ++ [n]).foldl (regAdd defn) reg

/-- `plugins.load` -/
def regLoad (defn : N → Option P) (closure : N → List N) (reg : List (N × P)) (n : N) : List (N × P) :=
  if (reg.lookup n).isSome then reg else regImport defn closure reg n

/-- `plugins.get`: the plug-in found (or `none` = UnknownPluginError) and the registry afterwards -/
def regGet (defn : N → Option P) (closure : N → List N) (reg : List (N × P)) (n : N) :
    Option P × List (N × P) :=
  let reg' := regLoad defn closure reg n
  (reg'.lookup n, reg')

/-- `plugins.exists`: tries to load, answers whether the name is registered afterwards; a name that
is not a plug-in leaves **no** entry behind (`_import_one` raised, nothing was stored) -/
def regExists (defn : N → Option P) (closure : N → List N) (reg : List (N × P)) (n : N) :
    Bool × List (N × P) :=
  let r := regGet defn closure reg n
  (r.1.isSome, r.2)

/-- every registered entry is what its source file defines -/
def RegSound (defn : N → Option P) (reg : List (N × P)) : Prop := ∀ p ∈ reg, defn p.1 = some p.2

def regKeys (reg : List (N × P)) : List N := reg.map (·.1)

/-- a world whose only process-wide cell is the plug-in registry; the one operation "get `n`" returns what
`plugins.get` returns and leaves the instance alone -/
def regSem {Loc Path Bytes : Type} (defn : N → Option P) (closure : N → List N) :
    Sem Loc Unit (List (N × P)) Path Bytes N (Option P) :=
  fun n fs l s => ⟨(regGet defn closure (s ()) n).1, l, fun _ => (regGet defn closure (s ()) n).2, fs⟩

end registry

/-! ## 2c. The function-level list of `_parser_rinex.parser_cache`

`parser_cache(func)` (mechanism `shared`, the code as it was): `func.cache = list()` is created once
per decorated *function*, handed to every call and extended by every call — by every instance, for
every file, never cleared.  Mechanism `local` (the repaired decorator): the list lives on the parser
instance and starts empty.

`parse_sys_obs_types(self, fields, cache)`:
```
satellite_sys = fields["satellite_sys"]; prev_idx = -1
while not satellite_sys: satellite_sys = cache[prev_idx]["satellite_sys"]; prev_idx -= 1   # IndexError
obs_list = self.header.get("obs_types", {}).setdefault(satellite_sys, [])
for f in sorted(type_*): if fields[f]: obs_list.append(fields[f])
```
`parse_phase_shift` resolves its continuation lines the same way
(`next(c for c in cache[::-1] if c["sat_sys"])`). -/

abbrev Str := List Char

/-- the stripped column fields of one `SYS / # / OBS TYPES` line -/
structure ObsLine where
  sys : Str
  types : List Str
  deriving DecidableEq, Repr

/-- `cache[-1], cache[-2], …` until a non-empty system: `none` = IndexError -/
def resolveSys (cache : List ObsLine) (l : ObsLine) : Option Str :=
  if l.sys ≠ [] then some l.sys else (cache.reverse.find? (fun c => c.sys ≠ [])).map (·.sys)

/-- `header["obs_types"]` as an insertion-ordered association list -/
abbrev ObsTypes := List (Str × List Str)

def obsAppend (h : ObsTypes) (sys : Str) (ts : List Str) : ObsTypes :=
  if h.any (fun p => p.1 = sys) then h.map (fun p => if p.1 = sys then (p.1, p.2 ++ ts) else p)
  else h ++ [(sys, ts)]

/-- the header lines of one file, parsed with the cache as it stands; `none` = the parse raised.
Returns the header dictionary and the cache afterwards (the wrapper appends *after* a successful
call). -/
def parseFrom : List ObsLine → ObsTypes → List ObsLine → Option ObsTypes × List ObsLine
  | cache, h, [] => (some h, cache)
  | cache, h, l :: rest =>
    match resolveSys cache l with
    | none => (none, cache)
    | some sys => parseFrom (cache ++ [l]) (obsAppend h sys (l.types.filter (· ≠ []))) rest

inductive CacheMech | shared | «local»
  deriving DecidableEq, Repr

/-- one header parse: `pre` is what earlier parses (any instance, any file) left in the
function-level list -/
def parseHeader (m : CacheMech) (pre : List ObsLine) (lines : List ObsLine) : Option ObsTypes × List ObsLine :=
  match m with
  | .shared => parseFrom pre [] lines
  | .local => ((parseFrom [] [] lines).1, pre)

/-- a continuation line (blank system) only ever follows a line of the same file that names one -/
def wfHeader : List ObsLine → Bool
  | [] => true
  | l :: _ => l.sys ≠ []

/-! ## 3. Cover table: which lemma class answers for which effect cell -/

inductive Cover where
  /-- memo of a deterministic function — `memo_transparent` -/
  | memo
  /-- import-time registration table — `registry_get_independent` -/
  | registry
  /-- written on a parse path, never flows into a result (dependency bookkeeping, active loggers) —
  excluded from `rel` in `noninterference` -/
  | sink
  deriving DecidableEq, Repr

open Midgard.Generated.ParserEffects in
/-- Hand-written: the process-wide cells known to be harmless, by mechanism.  A cell that appears in
`effects` and not here breaks `Props.C16.effects_covered`.  The function-level list of
`parser_cache` is deliberately *not* covered: its independence lemma holds for well-formed headers
only (`parser_cache_irrelevant_partial`), so the repaired decorator keeps the list on the instance. -/
def coverTable : List (String × Cover) := [
  ("midgard.dev.plugins:_PLUGINS", .registry),
  ("midgard.collections.enums:_ENUMS", .registry),
  ("midgard.data._position:_ATTRIBUTES", .registry),
  ("midgard.data._position:_CONVERSIONS", .registry),
  ("midgard.data._position:_FIELDS", .registry),
  ("midgard.data._position:_SYSTEMS", .registry),
  ("midgard.data._position:_UNITS", .registry),
  ("midgard.data._time:_CONVERSIONS", .registry),
  ("midgard.data._time:_FORMATS", .registry),
  ("midgard.data._time:_FORMAT_UNITS", .registry),
  ("midgard.data._time:_SCALES", .registry),
  ("midgard.math.ellipsoid:_ELLIPSOIDS", .registry),
  ("midgard.math.unit:_UNITS", .registry),
  ("midgard.site_info._site_info:ModuleBase.sources", .registry),
  ("midgard.data._position:_CONVERSION_HOPS", .memo),
  ("midgard.data._time:_CONVERSION_HOPS", .memo),
  ("midgard.dev.log:_ACTIVE_LOGGERS", .sink),
  ("midgard.files.dependencies:_CURRENT_DEPENDENCIES", .sink),
  ("midgard.files.dependencies:_DEPENDENCY_CACHE", .sink)]

/-- the cells the three `sink` rows stand for are *trusted*, not proved: written on parse paths, claimed never to
flow into a result (the check lists them as trusted cells in its evidence) -/
def trustedCells : List String := (coverTable.filter fun p => p.2 = .sink).map (·.1)

/-- Hand-written: the memoised functions (`functools.lru_cache` / `cache`) that were looked at: a function of its
(hashable) arguments only, whose values are immutable or handed out read-only (C08 checks that for `data._time`).
A memo that is not listed here - any new `lru_cache` in midgard/parsers, gnss, files, dev or a module a parser
imports - is an uncovered effect and breaks `Props.C16.effects_covered`; so does a listed one whose body starts to
look at the file system, the clock or the environment (`escapeSites` of a memo row). -/
def reviewedMemo : List String := [
  "midgard.data._time:_dt2jd@lru_cache",
  "midgard.data._time:_dt2str@lru_cache",
  "midgard.data._time:_dy2jd@lru_cache",
  "midgard.data._time:_jd2dt@lru_cache",
  "midgard.data._time:_jd2dy@lru_cache",
  "midgard.data._time:_jd2yds@lru_cache",
  "midgard.data._time:_jd_delta@lru_cache",
  "midgard.data._time:_str2dt@lru_cache",
  "midgard.data._time:_to_scale@lru_cache",
  "midgard.data._time:_yds2jd@lru_cache",
  "midgard.data._time:_year2days@lru_cache",
  "midgard.data._time:day@lru_cache",
  "midgard.data._time:doy@lru_cache",
  "midgard.data._time:hour@lru_cache",
  "midgard.data._time:jd_frac@lru_cache",
  "midgard.data._time:jd_int@lru_cache",
  "midgard.data._time:max@lru_cache",
  "midgard.data._time:mean@lru_cache",
  "midgard.data._time:min@lru_cache",
  "midgard.data._time:minute@lru_cache",
  "midgard.data._time:mjd_frac@lru_cache",
  "midgard.data._time:mjd_int@lru_cache",
  "midgard.data._time:month@lru_cache",
  "midgard.data._time:plot_fields@lru_cache",
  "midgard.data._time:sec_of_day@lru_cache",
  "midgard.data._time:second@lru_cache",
  "midgard.data._time:to_format@lru_cache",
  "midgard.data._time:year@lru_cache",
  "midgard.math.rotation:enu2trs@lru_cache",
  "midgard.math.rotation:trs2enu@lru_cache",
  "midgard.math.transformation:_llh2trs@lru_cache",
  "midgard.math.transformation:_trs2llh@lru_cache"]

/-- Hand-written: shared objects that are knowingly handed out (cell id, why that is harmless).  Empty: on the
current tree no mutable object of module, class or closure level is returned, bound to another name, stored in a
container or passed to a call that is not a pure consumer. -/
def escapeReviewed : List (String × String) := []

open Midgard.Generated.ParserEffects in
/-- the cover of a cell: a reviewed `lru_cache` whose body looks at nothing but its arguments is a memo table;
the rest by name -/
def coverOf (id : String) : Option Cover :=
  match cells.find? (fun r => r.id = id) with
  | some r =>
    if r.kind = .lrucache then (if reviewedMemo.contains id && r.escapeSites == 0 then some .memo else none)
    else coverTable.lookup id
  | none => coverTable.lookup id

open Midgard.Generated.ParserEffects in
/-- process-wide cells that are written at run time, read, and of none of the three mechanisms: a parse could read
there what an earlier parse left behind -/
def readBeforeWriteCells : List CellRow :=
  cells.filter fun r => r.level != .instance && decide (r.writeSites > 0) && decide (r.readSites > 0) && (coverOf r.id).isNone

open Midgard.Generated.ParserEffects in
/-- shared objects that leave the module: handed out although nobody reviewed it -/
def unreviewedEscapes : List CellRow :=
  cells.filter fun r => r.kind != .lrucache && decide (r.escapeSites > 0) && !(escapeReviewed.any fun p => p.1 == r.id)

open Midgard.Generated.ParserEffects in
/-- per-object cells that are not fresh per object: the name falls back to a class-level object, the bound value is
a shared object, or nothing creates the attribute -/
def staleInstanceCells : List InstRow :=
  instanceCells.filter fun r => r.shadowsClassCell || r.aliasOfShared || (!r.ctorInit && r.createdIn == "")

end Midgard.Purity
