/-
Executable model of midgard's SINEX parsing (`midgard/parsers/_parser_sinex.py` and the concrete
parsers `sinex_site`, `sinex_discontinuities`, `sinex_events`, `sinex_tro`, `sinex_tms`).

Fully table driven: the `FieldDef`/`BlockDef` tables are regenerated from the source
(`Generated/SinexBlocks.lean`); this file says what the code *does* with such a table.

`np.genfromtxt(lines, delimiter=widths, autostrip=True, usecols=…, converters=…, dtype=…,
comments=None)` is modelled, not verified.  What the model assumes of it (each item is probed against
the real function in every run of `./check C14`, see `harness/c14_tms.py` `GFT`):

* G1  `delimiter = diff([0] + starts + [total])` cuts `line[s_i : s_{i+1}]`, the last field `line[s_last : total]`;
      the 0th piece is dropped (`usecols`)                                   — `layoutOf`, `cutLine`
* G2  a line that ends before a field starts gives the empty text there; nothing shifts
* G3  characters at or beyond `total` are ignored
* G4  `autostrip`: every piece loses leading/trailing ASCII whitespace, inner whitespace stays — `FixedCol.slice`
* G5  `comments=None`: `#` is an ordinary character                          — `dropComment`
* G6  the empty text: `U` ↦ `''`, `i8` ↦ −1, `f8` ↦ nan, converter ↦ its `ValueError` ↦ `None`/nan
* G7  a conversion raising `ValueError` gives the column default (`StringConverter._loose_call`); nothing is raised
* G8  `Uk` keeps the first `k` characters                                    — `convertCell`
* G9  `i8` is `int(text)`, `f8` is `float(text)` (decimal literals; inf/nan/`_`/hex numerals are outside the model)
* G10 one record per non-empty line, in order; no line: an empty array       — `parseLines`
* G11 names go through `NameValidator`                                       — `validName`
* G12 (`sinex_tms`) `total` < last start: the last field is empty, the others unaffected
* W1–W4 (`sinex_tms`, `delimiter=None, dtype=None`): cut at whitespace runs, token-less lines skipped, a line with
      another number of tokens raises, non-numeric columns stay text and decimal tokens read as `float(token)` — `wsRows`
-/
import Midgard.Core.Text
import Midgard.Core.Decimal
import Midgard.Core.FixedCol

namespace Midgard.Sinex
open Midgard.Text Midgard.Decimal Midgard.FixedCol

/-! ### tables -/

inductive DType | u (k : Nat) | i8 | f8 | obj | skip
  deriving Repr, DecidableEq, Inhabited

inductive Conv | none | epoch | exponent | dms2deg | dms2rad | utf8 | tuple | list | yyyydddsssss
  deriving Repr, DecidableEq, Inhabited

/-- `SinexField(name, start_col, dtype, converter)` -/
structure FieldDef where
  name : String
  start : Nat
  dtype : DType
  conv : Conv
  deriving Repr, DecidableEq, Inhabited

inductive ParserKind
  | dflt                          -- `parsing_factory()`
  | matrix (sizeMarker : String)  -- `parsing_matrix_factory(marker, size_marker)`
  | custom (qualname : String)    -- a method of the concrete parser
  deriving Repr, DecidableEq, Inhabited

/-- `SinexBlock(marker, fields, parser)` -/
structure BlockDef where
  marker : String
  fields : List FieldDef
  kind : ParserKind
  deriving Repr, DecidableEq, Inhabited

/-! ### converted values -/

/-- one converted field -/
inductive Cell
  | str (s : Str)
  | int (i : Int)
  | flt (q : Option Rat)            -- `none` = NaN
  | none                            -- Python `None`
  | dt (ord : Int) (sec : Int)      -- `datetime`: proleptic ordinal day, second of day
  | tup (l : List Str)              -- tuple / list of strings
  deriving Repr, DecidableEq, Inhabited

/-! ### fixed-width cutting (`np.genfromtxt` with a list of widths, `autostrip=True`) -/

/-- the layout `delimiter = np.diff([0] + starts + [total])` cuts, *without* the 0th column -/
def layoutOf (fields : List FieldDef) (total : Nat) : Layout :=
  ofStarts (fields.map (·.name)) (fields.map (·.start)) total

/-- genfromtxt is called with `comments=None`: nothing is cut off a record -/
def dropComment (line : Str) : Str := line

/-- the stripped text of every declared field of one line -/
def cutLine (fields : List FieldDef) (total : Nat) (line : Str) : List Str :=
  (layoutOf fields total).map fun f => FixedCol.slice f (dropComment line)

/-! ### converters -/

/-- ordinal (Python `date.toordinal()`) of 1 January of year `y ≥ 1` -/
def jan1 (y : Int) : Int :=
  let p := y - 1
  365 * p + p / 4 - p / 100 + p / 400 + 1

/-- the `%j` directive of `strptime`: 1–3 digits, value 1…366 -/
def parseDoy? (s : Str) : Option Nat :=
  if s.length = 0 ∨ 3 < s.length ∨ !allDigits s then Option.none
  else
    let v := digitsVal s
    if 1 ≤ v ∧ v ≤ 366 then some v else Option.none

/-- `datetime.strptime(s, "%Y:%j")` → ordinal of the date -/
def strptimeYj? (s : Str) : Option Int :=
  let y := s.take 4
  if y.length ≠ 4 ∨ !allDigits y then Option.none
  else match s.drop 4 with
    | ':' :: rest =>
      match parseDoy? rest with
      | some d =>
        let yr : Int := digitsVal y
        if yr < 1 then Option.none else some (jan1 yr + d - 1)
      | Option.none => Option.none
    | _ => Option.none

/-- `date + timedelta(seconds = s)` -/
def addSeconds (ord : Int) (s : Int) : Cell := .dt (ord + s / 86400) (s % 86400)

/-- `SinexParser._convert_epoch` (a `ValueError` is `none`, which genfromtxt turns into `None`) -/
def convertEpoch? (f : Str) : Option Cell :=
  match parseInt? (f.take 2) with
  | Option.none => Option.none
  | some yy =>
    let ce : Str := if yy > 50 then ['1', '9'] else ['2', '0']
    let yearDoy : Str :=
      if f ≠ "00:000:00000".toList ∧ Text.slice 3 6 f = ['0', '0', '0'] then f.take 2 ++ ":001".toList
      else f.take 6
    match strptimeYj? (ce ++ yearDoy) with
    | Option.none => Option.none
    | some ord =>
      match parseInt? (f.drop 7) with
      | Option.none => Option.none
      | some s => some (addSeconds ord s)

/-- `SinexTmsParser._convert_yyyydddsssss` (the ISO text it returns is the same instant) -/
def convertYyyy? (f0 : Str) : Option Cell :=
  let f := if f0 = "0000:000:00000".toList then "9999:364:99999".toList else f0
  match strptimeYj? (f.take 8) with
  | Option.none => Option.none
  | some ord =>
    match parseInt? (f.drop 9) with
    | Option.none => Option.none
    | some s => some (addSeconds ord s)

/-- `float(field.replace("D", "E"))` -/
def convertExponent (f : Str) : Option Rat := parseFloat (replaceChar 'D' 'E' f)

/-- `Unit.dms_to_rad(d, m, s) * radians2degrees` on exact numbers:
`copysign(1, d) · (|d| + m/60 + s/3600)`; the sign is the IEEE sign of `float(d)`, i.e. whether the
degree text carries a `-` (also for `-0`). -/
def dmsValue (negD : Bool) (d m s : Rat) : Rat :=
  let a := (if d < 0 then -d else d) + m / 60 + s / 3600
  if negD then -a else a

def convertDms2deg (f : Str) : Option Rat :=
  match split f with
  | [d, m, s] =>
    match parseFloat d, parseFloat m, parseFloat s with
    | some dv, some mv, some sv => some (dmsValue ((takeSign d).1) dv mv sv)
    | _, _, _ => Option.none
  | _ => Option.none

/-- Python `int(text)` for a column of dtype `i8` (failure ↦ −1) -/
def toInt (t : Str) : Cell := .int ((parseInt? t).getD (-1))

/-- the value genfromtxt stores for one stripped field text -/
def convertCell (fd : FieldDef) (t : Str) : Cell :=
  match fd.conv with
  | .epoch => (convertEpoch? t).getD .none
  | .yyyydddsssss => (convertYyyy? t).getD .none
  | .exponent => .flt (convertExponent t)
  | .dms2deg => .flt (convertDms2deg t)
  | .dms2rad => .flt Option.none          -- needs π; no block uses it (checked on the table)
  | .tuple => .tup (split t)
  | .list => .tup (split t)
  | .utf8 | .none =>
    match fd.dtype with
    | .u k => .str (t.take k)
    | .i8 => toInt t
    | .f8 => .flt (parseFloat t)
    | .obj => .str t
    | .skip => .none

/-- fields with a dtype (genfromtxt `usecols`) -/
def kept (fields : List FieldDef) : List FieldDef := fields.filter (·.dtype ≠ .skip)

/-- NumPy's `NameValidator.deletechars` ``~!@#$%^&*()-=+~\|]}[{';: /?.>,<`` as code points (the
kernel compares `Nat` literals fast, `Char`s slowly) -/
def deleteCodes : List Nat :=
  [126, 33, 64, 35, 36, 37, 94, 38, 42, 40, 41, 45, 61, 43, 92, 124, 93, 125, 91, 123, 39, 59, 58, 32, 47, 63,
   46, 62, 44, 60]

def nameCodes (n : String) : List Nat := n.toList.map Char.toNat

/-- NumPy's `NameValidator` on the code points of a field name: blanks become `_`, punctuation is
deleted -/
def validCodes (cs : List Nat) : List Nat :=
  (cs.map fun k => if k = 32 then 95 else k).filter fun k => !deleteCodes.contains k

def validName (n : String) : String := String.ofList ((validCodes (nameCodes n)).map Char.ofNat)

abbrev Row := List (String × Cell)

/-- one line ↦ one record `name ↦ value` -/
def parseLine (fields : List FieldDef) (total : Nat) (line : Str) : Row :=
  ((fields.zip (cutLine fields total line)).filter (·.1.dtype ≠ .skip)).map
    fun (fd, t) => (validName fd.name, convertCell fd t)

/-- `SinexParser.parse_lines` (`total = 81`) -/
def parseLines (fields : List FieldDef) (total : Nat) (lines : List Str) : List Row :=
  (lines.filter fun l => !(dropComment l).isEmpty).map (parseLine fields total)

/-- `SinexTmsParser.parse_lines`: the last field ends at the longest line's length
(`len(line)` counts the line terminator, which the lines `parse_blocks` collects still carry: `+ 1`) -/
def maxChar (lines : List Str) : Nat := lines.foldl (fun m l => max m (l.length + 1)) 0

/-! ### blocks (`SinexParser.parse_blocks`) -/

structure RawBlock where
  marker : String
  params : List Str
  lines : List Str
  deriving Repr, DecidableEq, Inhabited

inductive Mode
  | search
  | collect (marker : String) (params : List Str) (acc : List Str)   -- `acc` reversed

/-- `none` = the code raises (a `+` line without a marker) -/
def scan : List Str → List String → Mode → Option (List RawBlock)
  | [], _, .search => some []
  | [], _, .collect m p acc => some [⟨m, p, acc.reverse⟩]
  | l :: rest, wanted, .search =>
    if wanted.isEmpty then some []
    else if startsWith ['+'] l then
      match split (strip (l.drop 1)) with
      | [] => Option.none
      | mk :: params =>
        let m := asString mk
        if wanted.contains m then scan rest wanted (.collect m params [])
        else scan rest wanted .search
    else scan rest wanted .search
  | l :: rest, wanted, .collect m p acc =>
    if startsWith ['-'] l then
      (scan rest (wanted.erase m) .search).map (⟨m, p, acc.reverse⟩ :: ·)
    else if startsWith [' '] l then scan rest wanted (.collect m p (l :: acc))
    else scan rest wanted (.collect m p acc)

/-- the raw blocks of a file body (after the header line), first occurrence of each wanted marker -/
def findBlocks (wanted : List String) (body : List Str) : Option (List RawBlock) :=
  scan body wanted .search

/-! ### matrices (`parsing_matrix_factory`) -/

abbrev Matrix := List (List Rat)

def zeros (n : Nat) : Matrix := List.replicate n (List.replicate n 0)

def Matrix.get (M : Matrix) (i j : Nat) : Rat := (M.getD i []).getD j 0

/-- `matrix[r-1:r, c-1:c-1+len(vals)] = vals` on an `n × n` array: NumPy clips the slices and then
broadcasts `vals` into the (possibly empty) target; `none` = "could not broadcast". -/
def writeLine (M : Matrix) (r c : Nat) (vals : List Rat) : Option Matrix :=
  let n := M.length
  if vals.isEmpty then some M
  else if r = 0 ∨ c = 0 then Option.none     -- negative slice starts: outside the model
  else
    let k := min (c - 1 + vals.length) n - min (c - 1) n
    if k = vals.length then
      (if r ≤ n then some (M.set (r - 1) (((M.getD (r - 1) []).take (c - 1)) ++ vals ++
          (M.getD (r - 1) []).drop (c - 1 + vals.length))) else some M)
    else if vals.length = 1 then some M
    else Option.none

structure MatLine where
  row : Int
  col : Int
  vals : List (Option Rat)     -- value_0..2, `none` = NaN
  deriving Repr, DecidableEq, Inhabited

/-- all lines written in file order (later lines overwrite) -/
def fillMatrix (n : Nat) (lines : List MatLine) : Option Matrix :=
  lines.foldlM (fun M l =>
    if l.row < 0 ∨ l.col < 0 then Option.none
    else writeLine M l.row.toNat l.col.toNat (l.vals.filterMap id)) (zeros n)

inductive Tri | lower | upper | unspecified
  deriving Repr, DecidableEq, Inhabited

def triOf (p : Str) : Tri :=
  if upper p = ['L'] then .lower else if upper p = ['U'] then .upper else .unspecified

/-- `tril(M) + tril(M,-1).T`, `triu(M) + triu(M,1).T`, `M + M.T - diag(diag(M))` -/
def symmetrize (t : Tri) (n : Nat) (M : Matrix) : Matrix :=
  (List.range n).map fun i => (List.range n).map fun j =>
    match t with
    | .lower => if j ≤ i then M.get i j else M.get j i
    | .upper => if i ≤ j then M.get i j else M.get j i
    | .unspecified => if i = j then M.get i i else M.get i j + M.get j i

/-- size of the matrix: rows of the size block if that block was read, else the largest row or
column index a line mentions (`max(row_idx.max(), (column_idx + #values - 1).max())`, 0 if none) -/
def matrixSize (sizeRows : Option Nat) (lines : List MatLine) : Nat :=
  match sizeRows with
  | some n => n
  | Option.none =>
    (lines.foldl (fun (m : Int) (l : MatLine) =>
      max m (max l.row (l.col + ((l.vals.filterMap id).length : Int) - 1))) 0).toNat

def matrixOf (t : Tri) (sizeRows : Option Nat) (lines : List MatLine) : Option Matrix :=
  let n := matrixSize sizeRows lines
  (fillMatrix n lines).map (symmetrize t n)

def cellInt : Cell → Int
  | .int i => i
  | _ => -1

def cellFlt : Cell → Option Rat
  | .flt q => q
  | _ => Option.none

def lookup (r : Row) (k : String) : Cell := ((r.find? (·.1 = k)).map (·.2)).getD .none

def matLineOf (r : Row) : MatLine :=
  ⟨cellInt (lookup r "row_idx"), cellInt (lookup r "column_idx"),
   [cellFlt (lookup r "value_0"), cellFlt (lookup r "value_1"), cellFlt (lookup r "value_2")]⟩

/-! ### results -/

inductive Val
  | cell (c : Cell)
  | col (cs : List Cell)
  | mat (m : Matrix)
  | list (vs : List Val)
  | dict (kvs : List (String × Val))
  deriving Inhabited

def rowVal (r : Row) : Val := .dict (r.map fun (k, c) => (k, .cell c))

/-- Python `dict.__setitem__` on an insertion-ordered association list: the (first) entry of the key
is replaced in place, a new key goes to the end.  (Lists built from `[]` by `dset` have distinct keys.) -/
def dset {α} : List (String × α) → String → α → List (String × α)
  | [], k, v => [(k, v)]
  | (k', v') :: rest, k, v => if k' = k then (k', v) :: rest else (k', v') :: dset rest k v

/-- `dict.get(k)` -/
def dget? {α} : List (String × α) → String → Option α
  | [], _ => Option.none
  | (k', v') :: rest, k => if k' = k then some v' else dget? rest k

/-- the default block parser: `{name: data[name]}` — one column per kept field -/
def columns (fields : List FieldDef) (rows : List Row) : List (String × Val) :=
  (kept fields).map fun fd =>
    let k := validName fd.name
    (k, .col (rows.map fun r => lookup r k))

/-! ### per-site regrouping (`sinex_site`, `sinex_discontinuities`, `sinex_events`) -/

def cellStr : Cell → Str
  | .str s => s
  | _ => []

/-- `d["site_code"].lower()` -/
def siteKey (r : Row) : String := asString (lower (cellStr (lookup r "site_code")))

/-- sites ↦ (entry name ↦ rows); `single = true` models `data[site][entry] = row` (SITE/ID),
`false` models `.append(row)` -/
abbrev SiteTable := List (String × List (String × List Row))

def addRow (single : Bool) (entry : String) (T : SiteTable) (key : String) (r : Row) : SiteTable :=
  let site := (dget? T key).getD []
  let old := (dget? site entry).getD []
  dset T key (dset site entry (if single then [r] else old ++ [r]))

def regroup (single : Bool) (entry : String) (keyOf : Row → String) (f : Row → Row)
    (T : SiteTable) (rows : List Row) : SiteTable :=
  rows.foldl (fun T r => addRow single entry T (keyOf r) (f r)) T

/-- `str.rsplit(maxsplit=1)` (whitespace separator) into exactly two parts (`none`: the unpacking
raises) -/
def rsplit1 (s0 : Str) : Option (Str × Str) :=
  let r := (rstrip s0).reverse
  let tail := r.takeWhile (fun c => !isSpace c)
  match r.dropWhile (fun c => !isSpace c) with
  | [] => Option.none
  | rest =>
    let head := (rest.dropWhile isSpace).reverse
    if head.isEmpty then Option.none else some (head, tail.reverse)

end Midgard.Sinex
