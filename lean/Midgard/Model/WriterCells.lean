/-
C17 — cells of a written line (model of Python's `str.format` / f-string cells as the writers use them).

A written line is a list of cells: literal text, or a replacement field with a format spec
`[align][width][.precision][type]` (`s`, `d`, `f` or none).  `fmtValue` mirrors `format(value, spec)`:

  str   `{v:8}` `{v:<20s}` left by default, `{v:>4}` right, `{v:20.20s}` truncated to the precision,
        never truncated by the width;
  int   `{n:>3}` `{n:16}` `{n:8d}` right by default;
  float `{x:16.5f}` `{x:>10.4f}` — `Decimal.fmtFixedCore` on the exact value of the double (ties to
        even), right by default; `nan` prints as `nan`;
  a value whose formatted text is wider than the width pushes everything after it to the right
  (this is the overflow the property is about).

Mathlib-free; imported by Generated/WriterLayouts.lean (and through it by Model/Writers.lean) and the driver.
-/
import Midgard.Core.Text
import Midgard.Core.Decimal
import Midgard.Core.FixedCol

namespace Midgard.WriterCells
open Midgard.Text Midgard.Decimal Midgard.FixedCol

inductive Ty | any | str | int | fix
  deriving DecidableEq, Repr

structure Spec where
  align : Option Align
  width : Nat
  prec : Option Nat
  ty : Ty
  deriving DecidableEq, Repr

inductive Cell where
  | lit (text : String)
  | fld (name : String) (spec : Spec)
  /-- a replacement field whose spec the model does not cover (`e`, datetime `%`, nested spec) -/
  | other (name : String)
  deriving DecidableEq, Repr

/-- the column types the matching `np.genfromtxt` parsers declare: `f8`, `U<n>` -/
inductive Dtype where
  | f8
  | u (n : Nat)
  deriving DecidableEq, Repr

/-- the values a writer formats -/
inductive Value where
  | str (s : Str)
  | int (i : Int)
  | num (q : Rat)
  | nan
  /-- the double `-0.0` (prints with its sign; it has no rational of its own) -/
  | negz
  deriving DecidableEq, Repr

/-- text of the value before padding -/
def Value.text (spec : Spec) : Value → Str
  | .str s => match spec.prec with
    | some p => s.take p
    | none => s
  | .int i => fmtInt i
  | .num q => fmtFixedCore q (spec.prec.getD 6)
  | .nan => "nan".toList
  | .negz => '-' :: fmtFixedCore 0 (spec.prec.getD 6)

/-- default alignment: text left, numbers right -/
def Value.defaultAlign : Value → Align
  | .str _ => .left
  | _ => .right

/-- `format(value, spec)` -/
def fmtValue (spec : Spec) (v : Value) : Str :=
  pad (spec.align.getD v.defaultAlign) spec.width (v.text spec)

/-- a value is acceptable for a spec's type (`{:d}` of a str raises, `{:s}` of a number raises) -/
def Value.okFor (spec : Spec) : Value → Bool
  | .str _ => spec.ty = .any || spec.ty = .str
  | .int _ => spec.ty = .any || spec.ty = .int
  | .num _ => spec.ty = .fix
  | .nan => spec.ty = .fix
  | .negz => spec.ty = .fix

/-- the value's text is no wider than its cell -/
def fitsCell (spec : Spec) (v : Value) : Bool := decide ((v.text spec).length ≤ spec.width)

/-- … and leaves at least one blank on the side it is padded on (needed when cells are adjacent
without a separator and the reader splits on whitespace) -/
def fitsCellStrict (spec : Spec) (v : Value) : Bool := decide ((v.text spec).length < spec.width)

/-- render a line: values are consumed in order by the `fld` cells; `none` when a value is missing or
of the wrong type, or the line contains an unmodelled cell -/
def renderCells : List Cell → List Value → Option Str
  | [], _ => some []
  | .lit t :: cs, vs => (renderCells cs vs).map (t.toList ++ ·)
  | .fld _ spec :: cs, v :: vs =>
    if v.okFor spec then (renderCells cs vs).map (fmtValue spec v ++ ·) else none
  | .fld _ _ :: _, [] => none
  | .other _ :: _, _ => none

/-- nominal columns of a line: every cell occupies exactly its width (literals their length) -/
def nominalFrom (pos : Nat) : List Cell → List (String × Nat × Nat)
  | [] => []
  | .lit t :: cs => nominalFrom (pos + t.toList.length) cs
  | .fld n spec :: cs => (n, pos, pos + spec.width) :: nominalFrom (pos + spec.width) cs
  | .other n :: cs => (n, pos, pos) :: nominalFrom pos cs

def nominal (cells : List Cell) : List (String × Nat × Nat) := nominalFrom 0 cells

/-- total nominal width of a line (without the newline of a trailing literal counted specially) -/
def nominalWidth : List Cell → Nat
  | [] => 0
  | .lit t :: cs => t.toList.length + nominalWidth cs
  | .fld _ spec :: cs => spec.width + nominalWidth cs
  | .other _ :: cs => nominalWidth cs

/-- every value fits its cell, pairwise in order -/
def allFit : List Cell → List Value → Bool
  | [], _ => true
  | .lit _ :: cs, vs => allFit cs vs
  | .fld _ spec :: cs, v :: vs => v.okFor spec && fitsCell spec v && allFit cs vs
  | .fld _ _ :: _, [] => false
  | .other _ :: _, _ => false

/-- the formatted (padded) cells of a line, in order -/
def cellTexts : List Cell → List Value → List Str
  | [], _ => []
  | .lit _ :: cs, vs => cellTexts cs vs
  | .fld _ spec :: cs, v :: vs => fmtValue spec v :: cellTexts cs vs
  | .fld _ _ :: _, [] => []
  | .other _ :: cs, vs => [] :: cellTexts cs vs

/-- the unpadded texts of the values of a line, in order -/
def valueTexts : List Cell → List Value → List Str
  | [], _ => []
  | .lit _ :: cs, vs => valueTexts cs vs
  | .fld _ spec :: cs, v :: vs => v.text spec :: valueTexts cs vs
  | .fld _ _ :: _, [] => []
  | .other _ :: cs, vs => [] :: valueTexts cs vs

/-- the replacement fields of a line with the values they format, in order -/
def cellValues : List Cell → List Value → List (Spec × Value)
  | [], _ => []
  | .lit _ :: cs, vs => cellValues cs vs
  | .fld _ spec :: cs, v :: vs => (spec, v) :: cellValues cs vs
  | .fld _ _ :: _, [] => []
  | .other _ :: _, _ => []

/-- the numeric (`f`) cells of a line -/
def fixSpecs (cells : List Cell) : List Spec :=
  cells.filterMap fun c => match c with
    | .fld _ sp => if sp.ty = .fix then some sp else none
    | _ => none

/-- a numeric cell has room for the sign, at least one integer digit, the point and its decimals -/
def Spec.hasRoom (sp : Spec) : Bool :=
  decide (1 + (if sp.prec.getD 6 = 0 then 0 else sp.prec.getD 6 + 1) < sp.width)

/-- no value text has outer blanks -/
def allClean : List Cell → List Value → Bool
  | [], _ => true
  | .lit _ :: cs, vs => allClean cs vs
  | .fld _ spec :: cs, v :: vs => Clean (v.text spec) && allClean cs vs
  | .fld _ _ :: _, [] => true
  | .other _ :: cs, vs => allClean cs vs

/-- the nominal cell intervals as a FixedCol layout -/
def toLayout (cells : List Cell) : Layout := (nominal cells).map fun (n, a, b) => ⟨n, a, b⟩

/-- the layout `np.genfromtxt(delimiter=widths)` cuts -/
def layoutOfWidths (names : List String) (widths : List Nat) : Layout :=
  let rec go (pos : Nat) : List String → List Nat → Layout
    | n :: ns, w :: ws => ⟨n, pos, pos + w⟩ :: go (pos + w) ns ws
    | _, _ => []
  go 0 names widths

/-- every character of the literals of a line that falls inside `[a, b)` is a blank, and no cell
other than `keep` overlaps `[a, b)` — computed on nominal columns -/
def onlyBlanksAround (cells : List Cell) (keep : String) (a b : Nat) : Bool :=
  let rec go (pos : Nat) : List Cell → Bool
    | [] => true
    | .lit t :: cs =>
      let ok := (t.toList.zipIdx.all fun (c, i) => !(a ≤ pos + i && pos + i < b) || c = ' ' || c = '\n')
      ok && go (pos + t.toList.length) cs
    | .fld n spec :: cs =>
      let overlap := decide (pos < b) && decide (a < pos + spec.width) && decide (0 < spec.width)
      (n = keep || !overlap) && go (pos + spec.width) cs
    | .other _ :: _ => false
  go 0 cells

def specOfCell (cells : List Cell) (name : String) : Option Spec :=
  cells.findSome? fun c => match c with
    | .fld n sp => if n = name then some sp else none
    | _ => none

/-- parser field `[a, b)` reads writer cell `name`: it contains the part of the cell a value of at
most `maxLen` characters occupies (right-aligned: the last `maxLen` columns; left-aligned: the first)
and nothing else that is not blank.  The alignment is the cell's own (`<`/`>` in the spec), else
the default of the value kind: `numeric` values right, text left. -/
def fieldReads (cells : List Cell) (name : String) (numeric : Bool) (maxLen : Nat) (a b : Nat) : Bool :=
  match (nominal cells).find? (fun t => t.1 = name), specOfCell cells name with
  | some (_, s, e), some sp =>
    let rightAligned := match sp.align with
      | some .right => true
      | some .left => false
      | none => numeric
    let lo := if rightAligned then e - min maxLen (e - s) else s
    let hi := if rightAligned then e else s + min maxLen (e - s)
    decide (a ≤ lo) && decide (hi ≤ b) && onlyBlanksAround cells name a b
  | _, _ => false

end Midgard.WriterCells
