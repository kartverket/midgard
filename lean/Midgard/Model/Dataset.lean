/-
C09 — model of `midgard.data.dataset.Dataset` / `collection.Collection` / the eleven
`fieldtypes` / `sigma.SigmaArray` and of the `subset` / `insert` plumbing of
`_position.py` / `_time.py`, as far as it moves *rows* and *object references*.

Concrete side (this file): a heap of array objects (`Obj`: the rows of one NumPy array
object plus its `other` / `ref_pos` references, addressed by allocation index = `id()`),
datasets as a declared `numObs` plus an ordered tree of fields, and every operation
threading the code's `memo` (old id ↦ new id).  Objects are never mutated: every operation
of the code builds new arrays, which is an allocation here.

Time scale / format conversion inside `TimeBase.insert` *is* modelled: a time object carries the tag
`<scale>/<format>` (a time delta `d:<scale>/<format>`), a row of it is `[jd1, jd2, value(s) in the format]`,
and the epoch-by-epoch conversion function of the Time classes is a parameter (`Conv`, a finite table computed
from the real code, like the pint unit factors in `Units`).
What is *not* modelled: conversion between position systems inside `insert` (the generators keep system and
ellipsoid equal), `meta`, the `_<x>_sliced` side channels of integer/slice indexing (C04/C08).
-/
namespace Midgard.Dataset

/-! ### Cells, rows, objects -/

inductive Scalar
  | num (q : Rat)
  | nan
  | txt (s : String)
  | bool (b : Bool)
  deriving DecidableEq, Repr, Inhabited

/-- one row of one array object: all its components (columns; for a time `[jd1, jd2, value(s) in the format]`;
for a sigma array the values followed by the sigmas) -/
abbrev Row := List Scalar

inductive Kind
  | bool | float | text | time | timeDelta | sigma
  | position | posvel | positionDelta | posvelDelta
  deriving DecidableEq, Repr, Inhabited

def Kind.isPlain : Kind → Bool
  | .bool | .float | .text => true
  | _ => false

def Kind.isDelta : Kind → Bool
  | .positionDelta | .posvelDelta => true
  | _ => false

/-- kinds with registered attributes (`_position._ATTRIBUTES`: `other` for `PositionArray` and
`PosVelArray`); only their `subset`/`insert` loop over them -/
def Kind.hasOther : Kind → Bool
  | .position | .posvel => true
  | _ => false

/-- the kind of the `ref_pos` a delta kind carries -/
def Kind.refKind : Kind → Kind
  | .posvelDelta => .posvel
  | _ => .position

/-- An array object.  `ndim`/`cols` are the trailing shape (`data.shape[1:]`), kept because a
0-row array still knows its width. -/
structure Obj where
  kind : Kind
  ndim : Nat
  cols : Nat
  rows : List Row
  other : Option Nat := none
  refPos : Option Nat := none
  /-- `<scale>/<format>` of a time, `d:<scale>/<format>` of a time delta; `""` for every other kind and for the
  transient "empty" arrays of the padding (made in the scale of the field, shown in its format) -/
  tag : String := ""
  deriving DecidableEq, Repr, Inhabited

abbrev Heap := List Obj

/-- What `TimeBase.insert(a, pos, b)` does to one epoch of `b` before splicing: `b = getattr(b, a.scale)`,
`b_formatted = getattr(b, a.fmt)`, `b.jd1`, `b.jd2` — a function `(tag of b, tag of a, row of b) ↦ row`, given as a
finite table computed from the real Time classes (parameter of the model). -/
abbrev Conv := List ((String × String × Row) × Row)

/-- the scale part of a tag -/
def tagScale (t : String) : String := (t.splitOn "/").headD ""

inductive Err
  | index       -- IndexError (bad subset index)
  | value       -- ValueError
  | unit        -- UnitError
  | attribute   -- AttributeError
  | fieldExists -- FieldExistsError
  | fuel        -- the model ran out of recursion fuel (cyclic references; never generated)
  | dangling    -- a reference outside the heap (never generated)
  | unsupported -- outside the modelled fragment (never generated)
  deriving DecidableEq, Repr, Inhabited

/-- heap + the operation's memo -/
structure St where
  heap : Heap
  memo : List (Nat × Nat) := []
  conv : Conv := []
  deriving Repr, Inhabited

abbrev M := Except Err

def St.find (s : St) (k : Nat) : Option Nat := s.memo.lookup k
def St.set (s : St) (k v : Nat) : St := { s with memo := (k, v) :: s.memo }
/-- `memo.pop(k, None)` -/
def St.pop (s : St) (k : Nat) : St := { s with memo := s.memo.filter (fun p => p.1 != k) }
def St.alloc (s : St) (o : Obj) : Nat × St := (s.heap.length, { s with heap := s.heap ++ [o] })

/-! ### NumPy indexing of rows -/

inductive Index
  | mask (m : List Bool)
  | ints (is : List Int)
  deriving DecidableEq, Repr, Inhabited

def pickMask {α} : List Bool → List α → List α
  | b :: bs, x :: xs => if b then x :: pickMask bs xs else pickMask bs xs
  | _, _ => []

/-- Python/NumPy normalisation of one integer index against length `n` -/
def normIdx (n : Nat) (i : Int) : Option Nat :=
  if 0 ≤ i ∧ i < n then some i.toNat
  else if -(n : Int) ≤ i ∧ i < 0 then some (i + n).toNat
  else none

def pickInts {α} (xs : List α) : List Int → Option (List α)
  | [] => some []
  | i :: is =>
    match normIdx xs.length i with
    | none => none
    | some k =>
      match xs[k]?, pickInts xs is with
      | some x, some r => some (x :: r)
      | _, _ => none

/-- `array[idx]` along axis 0 -/
def pick {α} (idx : Index) (xs : List α) : M (List α) :=
  match idx with
  | .mask m => if m.length = xs.length then .ok (pickMask m xs) else .error .index
  | .ints is => match pickInts xs is with
    | some r => .ok r
    | none => .error .index

/-- `len(np.arange(n)[idx])`: the number of selected rows (what `Dataset.subset` declares after
the `fix:`) -/
def Index.count : Index → Nat
  | .mask m => (m.filter id).length
  | .ints is => is.length

/-- `np.insert(a, pos, b, axis=0)` -/
def insertAt {α} (a : List α) (pos : Nat) (b : List α) : List α := a.take pos ++ b ++ a.drop pos

/-! ### Empty values -/

def emptyRow (k : Kind) (cols : Nat) : Row :=
  match k with
  | .bool => List.replicate cols (.bool false)
  | .text => List.replicate cols (.txt "")
  | .float => List.replicate cols .nan
  | .sigma => List.replicate (2 * cols) .nan
  | .time => List.replicate (2 + cols) .nan              -- `datetime.min` (jd1, jd2, value), canonicalised by the harness
  | .timeDelta => List.replicate (2 + cols) (.num 0)     -- `timedelta(0)`
  | .position | .positionDelta => List.replicate 3 .nan
  | .posvel | .posvelDelta => List.replicate 6 .nan

def emptyObj (k : Kind) (ndim cols n : Nat) : Obj :=
  { kind := k, ndim := ndim, cols := cols, rows := List.replicate n (emptyRow k cols) }

/-! ### Object level: `subset` and `insert` with the memo -/

/-- follow one reference with the memo, as the attribute loops of `PositionArray.subset` do:
`if id(attr) in memo: memo[id(attr)] else: new = attr.subset(idx, memo); memo[id(attr)] = new` -/
def viaMemo (rec : Nat → St → M (Nat × St)) (r : Option Nat) (s : St) : M (Option Nat × St) :=
  match r with
  | none => .ok (none, s)
  | some a =>
    match s.find a with
    | some a' => .ok (some a', s)
    | none =>
      match rec a s with
      | .error e => .error e
      | .ok (a', s') => .ok (some a', s'.set a a')

/-- `TimeBase.subset`, `PositionArray.subset`, `PositionDeltaArray.subset`:
memo hit → the object made earlier; else rows `[idx]`, registered attributes (`other`) and
`ref_pos` through the memo, new object, `memo[old] = new`. -/
def subsetObj (idx : Index) : Nat → Nat → St → M (Nat × St)
  | 0, _, _ => .error .fuel
  | fuel + 1, o, s =>
    match s.find o with
    | some o' => .ok (o', s)
    | none =>
      match s.heap[o]? with
      | none => .error .dangling
      | some obj =>
        match pick idx obj.rows with
        | .error e => .error e
        | .ok rows =>
          match (if obj.kind.hasOther then viaMemo (subsetObj idx fuel) obj.other s else .ok (none, s)) with
          | .error e => .error e
          | .ok (oth, s1) =>
            match (if obj.kind.isDelta then viaMemo (subsetObj idx fuel) obj.refPos s1 else .ok (none, s1)) with
            | .error e => .error e
            | .ok (rp, s2) =>
              let (o', s3) := s2.alloc { obj with rows := rows, other := oth, refPos := rp }
              .ok (o', s3.set o o')

/-- `FieldType._subset` of the plain kinds and of sigma: `self.data = self.data[idx]`
(no memo look-up), `memo[old_id] = self.data`. -/
def subsetPlain (idx : Index) (o : Nat) (s : St) : M (Nat × St) :=
  match s.heap[o]? with
  | none => .error .dangling
  | some obj =>
    -- (model guard: the field kind is the kind of its array, as `add` established)
    if !(obj.kind.isPlain || obj.kind == .sigma) then .error .unsupported else
    match pick idx obj.rows with
    | .error e => .error e
    | .ok rows =>
      let (o', s1) := s.alloc { obj with rows := rows }
      .ok (o', s1.set o o')

/-- does `insert(a, …, b)` convert `b` (another scale or format than `a`)?  The padding arrays (tag `""`) are made in
the scale of the field; their rows are the canonical empty row in every format. -/
def needsConv (toTag : String) (ob : Obj) : Bool := !(ob.tag == toTag || ob.tag == "")

/-- every epoch of `b` has an entry in the conversion table (else: outside the modelled fragment) -/
def convertible (cv : Conv) (toTag : String) (ob : Obj) : Bool :=
  !needsConv toTag ob ||
    -- (there is no conversion between the scales of time deltas: `UnknownConversionError`, whatever the rows)
    (!(ob.kind == .timeDelta && tagScale ob.tag != tagScale toTag) &&
     ob.rows.all (fun r => (cv.lookup (ob.tag, toTag, r)).isSome))

/-- the rows of `b` as `insert` splices them into an array with tag `toTag` -/
def convRows (cv : Conv) (toTag : String) (ob : Obj) : List Row :=
  if needsConv toTag ob then ob.rows.map (fun r => (cv.lookup (ob.tag, toTag, r)).getD r) else ob.rows

/-- `TimeBase.insert`, `SigmaArray.insert`, `PositionArray.insert`, `PositionDeltaArray.insert`.
`a`/`b` are object ids; returns the id of the combined object. -/
def insertObj : Nat → Nat → Nat → Nat → St → M (Nat × St)
  | 0, _, _, _, _ => .error .fuel
  | fuel + 1, a, pos, b, s =>
    match s.find a with
    | some r => .ok (r, s)
    | none =>
    match s.find b with
    | some r => .ok (r, s)
    | none =>
    match s.heap[a]?, s.heap[b]? with
    | some oa, some ob =>
      -- (model guard: both arrays are of the same class, as the field types guarantee)
      -- (and: every epoch of `b` that has to be converted to the scale / format of `a` is in the table)
      if oa.kind != ob.kind || !convertible s.conv oa.tag ob then .error .unsupported else
      let rows := insertAt oa.rows pos (convRows s.conv oa.tag ob)
      -- registered attribute `other` (only `PositionArray.insert` has the loop)
      let othR : M (Option Nat × St) :=
        if !oa.kind.hasOther then .ok (none, s) else
        match oa.other, ob.other with
        | none, none => .ok (none, s)
        | ao, bo =>
          match ao.bind s.find with
          | some r => .ok (some r, s)
          | none =>
          match bo.bind s.find with
          | some r => .ok (some r, s)
          | none =>
            match ao, bo with
            | some x, some y =>
              (match insertObj fuel x pos y s with
               | .error e => .error e
               | .ok (r, s') => .ok (some r, s'))
            | none, none => .ok (none, s)
            | none, some y =>
              -- `a` has no such attribute: NaN rows for the rows of `a`, then `insert(empty, pos, b_attr)`
              (match s.heap[y]? with
               | none => .error .dangling
               | some oy =>
                 let (e, s0) := s.alloc (emptyObj oy.kind oy.ndim oy.cols oa.rows.length)
                 match insertObj fuel e pos y s0 with
                 | .error err => .error err
                 | .ok (r, s') => .ok (some r, s'.pop e))
            | some x, none =>
              -- `b` has no such attribute: NaN rows for the rows of `b`, then `insert(a_attr, pos, empty)`
              match s.heap[x]? with
              | none => .error .dangling
              | some ox =>
                let (e, s0) := s.alloc (emptyObj ox.kind ox.ndim ox.cols ob.rows.length)
                match insertObj fuel x pos e s0 with
                | .error err => .error err
                | .ok (r, s') => .ok (some r, s'.pop e)
      match othR with
      | .error e => .error e
      | .ok (oth, s1) =>
        -- `ref_pos` of the delta kinds
        let rpR : M (Option Nat × St) :=
          if !oa.kind.isDelta then .ok (none, s1) else
          match oa.refPos with
          | none => .error .attribute
          | some ra =>
            match s1.find ra with
            | some r => .ok (some r, s1)
            | none =>
              match ob.refPos with
              | none => .error .attribute
              | some rb =>
                match insertObj fuel ra pos rb s1 with
                | .error e => .error e
                | .ok (r, s') => .ok (some r, s'.set ra r)
        match rpR with
        | .error e => .error e
        | .ok (rp, s2) =>
          let (n, s3) := s2.alloc { oa with rows := rows, other := oth, refPos := rp }
          -- (after the `fix:`: the entry for `b` goes under the id `b` had on entry, also when `b` was converted to the
          -- scale of `a` — the converted array is a cached value, not an identity)
          .ok (n, (s3.set a n).set b n)
    | _, _ => .error .dangling

/-- `np.insert` of the plain kinds (`Bool/Float/TextField._extend/_prepend_empty/_append_empty`):
no memo look-up, `memo[old_id] = new`. -/
def insertPlain (a pos : Nat) (brows : List Row) (s : St) : M (Nat × St) :=
  match s.heap[a]? with
  | none => .error .dangling
  | some oa =>
    if !oa.kind.isPlain then .error .unsupported else   -- (model guard, see `subsetPlain`)
    let (n, s1) := s.alloc { oa with rows := insertAt oa.rows pos brows }
    .ok (n, s1.set a n)

/-! ### Fields and datasets -/

/-- `FieldType` instances.  `numObs` is the field's own `num_obs` attribute (used by the code as
the insertion position), `unit` its `_unit`, `level` its write level (1..3). -/
inductive Field
  | leaf (name : String) (kind : Kind) (obj : Nat) (numObs : Nat) (unit : Option (List String)) (level : Nat)
  | coll (name : String) (numObs : Nat) (level : Nat) (fs : List Field)
  deriving Repr, Inhabited

def Field.name : Field → String
  | .leaf n .. => n
  | .coll n .. => n

def Field.isColl : Field → Bool
  | .coll .. => true
  | _ => false

structure DS where
  numObs : Nat
  fields : List Field
  deriving Repr, Inhabited

structure World where
  heap : Heap
  ds : List DS
  deriving Repr, Inhabited

def names (fs : List Field) : List String := fs.map Field.name

def getField (fs : List Field) (n : String) : Option Field := fs.find? (fun f => f.name == n)

/-- `dict[name] = field`: an existing key keeps its position, a new key goes last -/
def setField : List Field → Field → List Field
  | [], f => [f]
  | g :: gs, f => if g.name == f.name then f :: gs else g :: setField gs f

def delField (fs : List Field) (n : String) : List Field := fs.filter (fun f => f.name != n)

def objLen (h : Heap) (o : Nat) : Nat := match h[o]? with
  | some ob => ob.rows.length
  | none => 0

/-- the number of rows of a field as `Collection.__len__` reads it off the *first* field of a
collection: `len(field.data)` of an array; for a collection field `CollectionField._num_rows()` — the
length of the nested collection, or the `num_obs` the field remembers when the nested collection has
no fields (after the `fix:`; before it an empty nested collection in first position made the length 0).
`lenL` is `Collection.__len__`: 0 without fields. -/
def Field.len (h : Heap) : Field → Nat
  | .leaf _ _ o _ _ _ => objLen h o
  | .coll _ no _ fs => if fs.isEmpty then no else lenL fs
where lenL : List Field → Nat
  | [] => 0
  | f :: _ => Field.len h f

def collLen (h : Heap) (fs : List Field) : Nat := Field.len.lenL h fs

/-- `CollectionField._num_rows()`: the length of the collection, or — for a collection without
fields, which has no field to take it from — the `num_obs` the field remembers -/
def collRows (h : Heap) (no : Nat) (fs : List Field) : Nat := if fs.isEmpty then no else collLen h fs

/-! ### `subset` -/

/-- `FieldType.subset(idx, memo)` / `CollectionField._subset`, then `num_obs = len(data)` -/
def subsetField (idx : Index) : Field → St → M (Field × St)
  | .leaf n k o _ u l, s =>
    let r := if k.isPlain || k == .sigma then subsetPlain idx o s else subsetObj idx (s.heap.length + 1) o s
    match r with
    | .error e => .error e
    | .ok (o', s') => .ok (.leaf n k o' (objLen s'.heap o') u l, s')
  | .coll n no l fs, s =>
    match subsetFields fs s with
    | .error e => .error e
    | .ok (fs', s') =>
      if fs'.isEmpty then
        -- `CollectionField.subset` of a collection without fields: `len(np.arange(num_rows)[idx])`
        match pick idx (List.range no) with
        | .error e => .error e
        | .ok sel => .ok (.coll n sel.length l fs', s')
      else .ok (.coll n (collLen s'.heap fs') l fs', s')
where subsetFields : List Field → St → M (List Field × St)
  | [], s => .ok ([], s)
  | f :: fs, s =>
    match subsetField idx f s with
    | .error e => .error e
    | .ok (f', s') =>
      match subsetFields fs s' with
      | .error e => .error e
      | .ok (fs', s'') => .ok (f' :: fs', s'')

/-- `Dataset.subset(idx)` (after the `fix:`: the declared count is the number of selected rows) -/
def dsSubset (idx : Index) (h : Heap) (d : DS) : M (Heap × DS) :=
  match subsetField.subsetFields idx d.fields { heap := h } with
  | .error e => .error e
  | .ok (fs, s) =>
    -- `self._num_obs = len(np.arange(self._num_obs)[idx])`
    match pick idx (List.range d.numObs) with
    | .error e => .error e
    | .ok sel => .ok (s.heap, { numObs := sel.length, fields := fs })

/-! ### `extend` -/

/-- The parameters of the model that are computed from the real code: the pint conversion factors
`Unit(from, to)` as a finite table, and the epoch-by-epoch time scale / format conversion (`Conv`). -/
structure Units where
  table : List (String × String × Rat) := []
  conv : Conv := []
  deriving Repr, Inhabited

def Units.factor (us : Units) (fr to : String) : Option Rat :=
  if fr == to then some 1 else (us.table.find? (fun t => t.1 == fr && t.2.1 == to)).map (·.2.2)

def scaleScalar (f : Rat) : Scalar → Scalar
  | .num q => .num (q * f)
  | x => x

/-- `other.data * factors`: column `j` times `factors[j]` (for sigma: values and sigmas alike) -/
def scaleRow (fs : List Rat) (r : Row) : Row :=
  let n := fs.length
  if n == 0 then r else (r.zipIdx).map (fun (x, i) => scaleScalar (fs.getD (i % n) 1) x)

/-- the unit handling shared by `FloatField._extend` and `SigmaField._extend` -/
def unitFactors (us : Units) (selfU otherU : Option (List String)) : M (List Rat) :=
  match selfU, otherU with
  | none, none => .ok []
  | some su, some ou =>
    match (ou.zip su).mapM (fun (fr, to) => us.factor fr to) with
    | some fs => .ok fs
    | none => .error .unit
  | _, _ => .error .unit

/-- formats that have no value for the empty epoch `datetime.min` (`TimeGPSWeekSec` / `TimeGPSSec._from_jds`: "Julian
Day exceeds the GPS time start date"): a time field in such a format cannot be padded, `insert` of the empty epochs
raises `ValueError` (a refusal; with no row to add nothing is converted and nothing raised) -/
def padRefused (n : Nat) (ob : Obj) : Bool :=
  n != 0 && ob.kind == .time && ["gps_ws", "gps_seconds"].contains ((ob.tag.splitOn "/").getLastD "")

/-- `FieldType.prepend_empty` / `append_empty` (`front = true` is prepend) of `n` rows (after the
`fix:` 352fb79 there is no shortcut for `n = 0`: the array is re-created and the memo consulted
also when nothing is added, which keeps shared objects shared) -/
def padField (front : Bool) (n : Nat) : Field → St → M (Field × St)
  | f, s =>
    match f with
    | .leaf nm k o no u l =>
      let pos := if front then 0 else no
      match s.heap[o]? with
      | none => .error .dangling
      | some ob =>
        -- (model guard; and the refusal to pad a time in a GPS-only format)
        -- (the refusal only arises when the empty epochs are really built: `insert` looks `a` up in the memo first, a
        -- field whose array was already extended under another name is served from the memo and never padded)
        if ob.kind != k || (padRefused n ob && (s.find o).isNone) then
          (if ob.kind != k then .error .unsupported else .error .value) else
        let r : M (Nat × St) :=
          if k.isPlain then insertPlain o pos (List.replicate n (emptyRow k ob.cols)) s
          else if k.isDelta then
            -- `empty_ref_pos`, `empty = PositionDelta(nan, ref_pos=empty_ref_pos)`, both popped afterwards
            let (er, s0) := s.alloc (emptyObj k.refKind 2 (if k == .posvelDelta then 6 else 3) n)
            let (e, s1) := s0.alloc { emptyObj k ob.ndim ob.cols n with refPos := some er }
            match insertObj (s1.heap.length + 1) o pos e s1 with
            | .error err => .error err
            | .ok (r, s') => .ok (r, (s'.pop e).pop er)
          else
            let (e, s1) := s.alloc (emptyObj k ob.ndim ob.cols n)
            match insertObj (s1.heap.length + 1) o pos e s1 with
            | .error err => .error err
            | .ok (r, s') => .ok (r, s'.pop e)
        match r with
        | .error e => .error e
        | .ok (o', s') => .ok (.leaf nm k o' (objLen s'.heap o') u l, s')
    | .coll nm no l fs =>
      match padFields fs s with
      | .error e => .error e
      | .ok (fs', s') => .ok (.coll nm (if fs'.isEmpty then no + n else collLen s'.heap fs') l fs', s')
where padFields : List Field → St → M (List Field × St)
  | [], s => .ok ([], s)
  | f :: fs, s =>
    match padField front n f s with
    | .error e => .error e
    | .ok (f', s') =>
      match padFields fs s' with
      | .error e => .error e
      | .ok (fs', s'') => .ok (f' :: fs', s'')

/-- `FieldType.extend(other_field, memo)` of a leaf: type check, per-type `_extend`,
`num_obs = len(data)` -/
def extendLeaf (us : Units) (nm : String) (k : Kind) (o no : Nat) (u : Option (List String)) (l : Nat)
    (g : Field) (s : St) : M (Field × St) :=
  match g with
  | .coll .. => .error .value
  | .leaf _ k2 o2 _ u2 _ =>
    if k != k2 then .error .value else
    match s.heap[o]?, s.heap[o2]? with
    | some oa, some ob =>
      if oa.kind != k || ob.kind != k then .error .unsupported else   -- (model guard)
      let r : M (Nat × St) :=
        if k.isDelta then insertObj (s.heap.length + 1) o no o2 s
        else if oa.ndim != ob.ndim then .error .value
        else if k == .float then
          match unitFactors us u u2 with
          | .error e => .error e
          | .ok fs => if oa.cols != ob.cols then .error .value else insertPlain o no (ob.rows.map (scaleRow fs)) s
        else if k == .sigma then
          match unitFactors us u u2 with
          | .error e => .error e
          | .ok fs =>
            -- `other.data * factors` is a fresh SigmaArray
            let (t, s0) := s.alloc { ob with rows := ob.rows.map (scaleRow fs) }
            insertObj (s0.heap.length + 1) o no t s0
        else if k.isPlain then
          if oa.cols != ob.cols then .error .value else insertPlain o no ob.rows s
        else insertObj (s.heap.length + 1) o no o2 s
      match r with
      | .error e => .error e
      | .ok (o', s') => .ok (.leaf nm k o' (objLen s'.heap o') u l, s')
    | _, _ => .error .dangling

/-- second loop of `Collection._extend`: `for name in self._fields: if name in only_in_self:
self._fields[name].append_empty(len(other), memo)` (after the `fix:` in field order) -/
def appendLoop (p : String → Bool) (n : Nat) : List Field → St → M (List Field × St)
  | [], s => .ok ([], s)
  | f :: fs, s =>
    let r : M (Field × St) := if p f.name then padField false n f s else .ok (f, s)
    match r with
    | .error e => .error e
    | .ok (f', s') =>
      match appendLoop p n fs s' with
      | .error e => .error e
      | .ok (fs', s'') => .ok (f' :: fs', s'')

/-- membership test of `only_in_self` (`otherLen` is no longer looked at — `fix:` 352fb79 —: the argument is
ignored) -/
def onlyInSelf (selfKeys otherKeys : List String) (_otherLen : Nat) (n : String) : Bool :=
  selfKeys.contains n && !otherKeys.contains n

/-- the tail of `Collection._extend` once the loop over `other` is done -/
def extendFinish (selfKeys otherKeys : List String) (otherLen : Nat) (r : M (List Field × St)) : M (List Field × St) :=
  match r with
  | .error e => .error e
  | .ok (self1, s1) => appendLoop (onlyInSelf selfKeys otherKeys otherLen) otherLen self1 s1

/-- `self._fields[name].extend(other._fields[name], memo)`; for collections
`Collection._extend(other, memo)` (after the `fix:`s: both lengths are taken once, before the
loop; the append loop runs in field order; a collection only in `other` is copied, not shared). -/
def extendField (us : Units) : Field → Field → St → M (Field × St)
  | .leaf nm k o no u l, g, s => extendLeaf us nm k o no u l g s
  | .coll _ _ _ _, .leaf .., _ => .error .value
  | .coll nm no l fs, .coll _ no2 _ gs, s =>
    let selfLen := collRows s.heap no fs
    let otherLen := collRows s.heap no2 gs
    match extendFinish (names fs) (names gs) otherLen (loop1 (names fs) selfLen fs gs s) with
    | .error e => .error e
    | .ok (fs', s') => .ok (.coll nm (if fs'.isEmpty then selfLen + otherLen else collLen s'.heap fs') l fs', s')
where
  /-- the loop over `other._fields.items()`; `acc` is `self._fields` so far -/
  loop1 (selfKeys : List String) (selfLen : Nat) (acc : List Field) : List Field → St → M (List Field × St)
    | [], s => .ok (acc, s)
    | g :: gs, s =>
      let r : M (Field × St) :=
        if !selfKeys.contains g.name || selfLen == 0 then padField true selfLen g s
        else
          match getField acc g.name with
          | none => .error .dangling
          | some f => extendField us f g s
      match r with
      | .error e => .error e
      | .ok (f', s') => loop1 selfKeys selfLen (setField acc f') gs s'

/-- `Collection._extend(other, memo)` with `selfLen = len(self)`, `otherLen = len(other)` -/
def extendFields (us : Units) (selfLen otherLen : Nat) (self other : List Field) (s : St) : M (List Field × St) :=
  extendFinish (names self) (names other) otherLen (extendField.loop1 us (names self) selfLen self other s)

/-- `Dataset.extend(other)` -/
def dsExtend (us : Units) (h : Heap) (d e : DS) : M (Heap × DS) :=
  match extendFields us d.numObs e.numObs d.fields e.fields { heap := h, conv := us.conv } with
  | .error err => .error err
  | .ok (fs, s) => .ok (s.heap, { numObs := d.numObs + e.numObs, fields := fs })

end Midgard.Dataset
