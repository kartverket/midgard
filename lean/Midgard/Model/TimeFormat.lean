/-
C02 — model of the time formats of `midgard.data._time` (the `TimeFormat` subclasses:
`_to_jds` / `_from_jds` of jd, mjd, datetime, gps_ws, gps_seconds, jyear, decimalyear,
yydddsssss, yyyydddsssss, isot, iso, yday, date) and of `TimeArray.jd_int / jd_frac`,
exact twin over `Rat` / `Int` (DESIGN.md §3).

A `datetime` is the integer number of microseconds since 2000-01-01T00:00:00 (which is exactly
what CPython stores); calendar fields come from the proleptic Gregorian algorithms below.
-/
import Midgard.Model.TimeScale

namespace Midgard.TimeFormat
open Midgard.TimeArith (JD Scale roundHalfEven)
open Midgard.TimeScale (Row Consts)

/-! ### Calendar (proleptic Gregorian, days counted from 2000-01-01) -/

/-- day of the 400-year era (counted from March 1 of year-of-era 0) of year-of-era `yoe` (March
based), month `m`, day `d` -/
def doeOfCivil (yoe m d : Int) : Int :=
  let mp := if m > 2 then m - 3 else m + 9
  let doy := (153 * mp + 2) / 5 + d - 1
  yoe * 365 + yoe / 4 - yoe / 100 + doy

/-- days from 1970-01-01 of a civil date (Hinnant, `days_from_civil`); all divisors are positive
literals, for which `Int` division `/` is the floor division -/
def daysFromCivil1970 (y m d : Int) : Int :=
  let y := if m ≤ 2 then y - 1 else y
  let era := y / 400
  let yoe := y - era * 400
  era * 146097 + doeOfCivil yoe m d - 719468

/-- (year-of-era with January/February counted to the next year, month, day) of a day of the era -/
def civilOfDoe (doe : Int) : Int × Int × Int :=
  let yoe := (doe - doe / 1460 + doe / 36524 - doe / 146096) / 365
  let doy := doe - (365 * yoe + yoe / 4 - yoe / 100)
  let mp := (5 * doy + 2) / 153
  let d := doy - (153 * mp + 2) / 5 + 1
  let m := if mp < 10 then mp + 3 else mp - 9
  (if m ≤ 2 then yoe + 1 else yoe, m, d)

/-- civil date of a day number from 1970-01-01 (Hinnant, `civil_from_days`) -/
def civilFromDays1970 (z : Int) : Int × Int × Int :=
  let z := z + 719468
  let era := z / 146097
  let c := civilOfDoe (z - era * 146097)
  (c.1 + era * 400, c.2.1, c.2.2)

def epoch2000 : Int := 10957   -- 2000-01-01 as days from 1970-01-01

/-- days from 2000-01-01 -/
def daysFromCivil (y m d : Int) : Int := daysFromCivil1970 y m d - epoch2000
def civilFromDays (n : Int) : Int × Int × Int := civilFromDays1970 (n + epoch2000)

def usPerDay : Int := 86400000000
def usPerSec : Int := 1000000

/-- a `datetime`: microseconds since 2000-01-01T00:00:00 -/
abbrev DateTime := Int

structure Fields where
  year : Int
  month : Int
  day : Int
  hour : Int
  minute : Int
  second : Int
  micro : Int
  deriving Repr, DecidableEq

def fieldsOf (dt : DateTime) : Fields :=
  let days := (dt / usPerDay)
  let rem := dt - days * usPerDay
  let c := civilFromDays days
  let secs := (rem / usPerSec)
  ⟨c.1, c.2.1, c.2.2, (secs / 3600), ((secs / 60)) % 60, secs % 60, rem - secs * usPerSec⟩

def ofFields (f : Fields) : DateTime :=
  daysFromCivil f.year f.month f.day * usPerDay
    + ((f.hour * 60 + f.minute) * 60 + f.second) * usPerSec + f.micro

/-- day of year, 1-based (`%j`) -/
def dayOfYear (y m d : Int) : Int := daysFromCivil y m d - daysFromCivil y 1 1 + 1

/-! ### Constants of the format classes (`Props.C02.constants` states their values; of them only `julianYear` is compared with a
regenerated value, `Unit.julian_year2day`) -/

def jd2000dt : Rat := 4903089 / 2     -- TimeDateTime._jd2000 = 2451544.5
def mjd0 : Rat := 4800001 / 2         -- TimeMJD._mjd0 = 2400000.5
def jdGps0 : Rat := 4888489 / 2       -- _jd19800106 = 2444244.5
def jd2000noon : Rat := 2451545       -- TimeJulianYear._jd2000
def julianYear : Rat := 1461 / 4      -- Unit.julian_year2day

/-! ### jd / mjd -/

/-- `TimeJD._to_jds(val, val2)` (`val2 = 0` when not given) -/
def jdToJds (v v2 : Rat) : JD :=
  let δ := v - (((v + v2 - 1 / 2).floor : Rat) + 1 / 2)
  ⟨v - δ, v2 + δ⟩

def jdFromJds (j : JD) : Rat := j.jd1 + j.jd2

/-- `TimeMJD._to_jds` -/
def mjdToJds (v v2 : Rat) : JD :=
  let δ := v - (((v + v2 - 1 / 2).floor : Rat) + 1 / 2)
  ⟨mjd0 + v - δ, v2 + δ⟩

def mjdFromJds (j : JD) : Rat := j.jd1 - mjd0 + j.jd2

/-! ### `jd_int`, `jd_frac` (after the `fix:` commit: whole days are found on the day part and the
small rest separately) -/

def jdDelta (j : JD) : Rat :=
  let day : Rat := ((j.jd1 - 1 / 2).floor : Rat)
  let rest := (j.jd1 - 1 / 2 - day) + j.jd2
  j.jd1 - (day + (rest.floor : Rat) + 1 / 2)

def jdInt (j : JD) : Rat := j.jd1 - jdDelta j
def jdFrac (j : JD) : Rat := j.jd2 + jdDelta j

/-! ### datetime -/

/-- `TimeDateTime._dt2jd` -/
def dtToJds (dt : DateTime) : JD :=
  let days := (dt / usPerDay)
  let rem := dt - days * usPerDay
  ⟨jd2000dt + (days : Rat), (rem : Rat) / (usPerDay : Rat)⟩

/-- `TimeDateTime._jd2dt`: `dt2000 + timedelta(days=jd1 - jd2000) + timedelta(days=jd2)`; each
`timedelta` rounds half-even to microseconds -/
def dtFromJds (j : JD) : DateTime :=
  roundHalfEven ((j.jd1 - jd2000dt) * (usPerDay : Rat)) + roundHalfEven (j.jd2 * (usPerDay : Rat))

/-! ### GPS week / seconds -/

structure WeekSec where
  week : Rat
  seconds : Rat
  day : Rat
  deriving Repr, DecidableEq

/-- `TimeGPSWeekSec._to_jds(week, sec)` -/
def wsToJds (week sec : Rat) : JD :=
  let wd : Rat := (((sec + 43200) / 86400).floor : Rat)
  let fracSec := sec + 43200 - wd * 86400
  ⟨week * 7 + wd + jdGps0 - 1 / 2, fracSec / 86400⟩

/-- `TimeGPSWeekSec._from_jds` (`none`: the ValueError before 1980-01-06); after the `fix:` commit the whole days are
found as in `_jd_delta` (day part and small rest separately) -/
def wsFromJds (j : JD) : Option WeekSec :=
  if j.jd1 + j.jd2 < jdGps0 then none else
  let δ := jdDelta j
  let jdI := j.jd1 - δ
  let jdF := j.jd2 + δ
  let w : Rat := (((jdI - jdGps0) / 7).floor : Rat)
  let wd : Rat := ((jdI - jdGps0 - w * 7).floor : Rat)
  some ⟨w, (jdF + wd) * 86400, wd⟩

/-- `TimeGPSSec._to_jds` -/
def gsToJds (v : Rat) : JD :=
  let days := v / 86400
  ⟨jdGps0 + (days.floor : Rat), days - (days.floor : Rat)⟩

def gsFromJds (j : JD) : Option Rat :=
  if j.jd1 + j.jd2 < jdGps0 then none else
  let δ := j.jd1 - (((j.jd1 + j.jd2 - 1 / 2).floor : Rat) + 1 / 2)
  some (((j.jd1 - δ - jdGps0) + (j.jd2 + δ)) * 86400)

/-! ### Julian year -/

/-- `TimeJulianYear._to_jds`: `divmod((val - 2000) * 365.25, 1)` -/
def jyToJds (v : Rat) : JD :=
  let x := (v - 2000) * julianYear
  ⟨jd2000noon + (x.floor : Rat), x - (x.floor : Rat)⟩

def jyFromJds (j : JD) : Rat := 2000 + ((j.jd1 - jd2000noon) + j.jd2) / julianYear

/-! ### Decimal year (variable year length, leap seconds counted for UTC) -/

/-- `jd1` of `Time(datetime(year, 1, 1))` -/
def yearStartJd1 (year : Int) : Rat := jd2000dt + (daysFromCivil year 1 1 : Rat)

/-- `TimeDecimalYear._year2days` -/
def year2days (tbl : List Row) (tol : Rat) (year : Int) (scale : Scale) : Rat :=
  if year = 9999 then 365 else
  let s : JD := ⟨yearStartJd1 year, 0⟩
  let e : JD := ⟨yearStartJd1 (year + 1), 0⟩
  match scale with
  | .utc =>
    let s' := TimeScale.utc2tai tbl tol s
    let e' := TimeScale.utc2tai tbl tol e
    (e'.jd1 - s'.jd1) + (e'.jd2 - s'.jd2)
  | _ => (e.jd1 - s.jd1) + (e.jd2 - s.jd2)

/-- `int()`: truncation towards zero -/
def truncRat (q : Rat) : Int := if 0 ≤ q then q.floor else -((-q).floor)

/-- `TimeDecimalYear._dy2jd` -/
def dyToJds (tbl : List Row) (tol : Rat) (scale : Scale) (v : Rat) : JD :=
  let yearInt := truncRat v
  let frac := v - (yearInt : Rat)
  let jd := yearStartJd1 yearInt + frac * year2days tbl tol yearInt scale
  let jd1 : Rat := (truncRat jd : Rat)
  ⟨jd1, jd - jd1⟩

/-- `TimeDecimalYear._to_jds` with the refusal of `datetime(year_int, 1, 1)` (years 1 … 9999; `none`: ValueError) -/
def dyToJdsG (tbl : List Row) (tol : Rat) (scale : Scale) (v : Rat) : Option JD :=
  if 1 ≤ truncRat v ∧ truncRat v ≤ 9999 then some (dyToJds tbl tol scale v) else none

/-- the year a decimal year is counted in: the year of the (microsecond-rounded) datetime of the epoch -/
def dyYear (j : JD) : Int := (fieldsOf (dtFromJds j)).year

/-- Gregorian leap year -/
def isLeap (y : Int) : Bool := decide (y % 4 = 0 ∧ (y % 100 ≠ 0 ∨ y % 400 = 0))

/-- calendar length of a year in days -/
def yearLen (y : Int) : Int := daysFromCivil (y + 1) 1 1 - daysFromCivil y 1 1

/-- `TimeDecimalYear._jd2dy` -/
def dyFromJds (tbl : List Row) (tol : Rat) (scale : Scale) (j : JD) : Rat :=
  let year := (fieldsOf (dtFromJds j)).year
  let days := j.jd1 - yearStartJd1 year + j.jd2
  (year : Rat) + days / year2days tbl tol year scale

/-! ### Text formats: see `Model/TimeText.lean` (render / parse on `List Char`) -/

end Midgard.TimeFormat
