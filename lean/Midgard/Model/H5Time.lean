/-
C10 — the `time` attribute of positions.

midgard itself registers one attribute, `other`, for `PositionArray` / `PosVelArray` (`_position.register_attribute`);
users of the library register more — typically `time` — and `_write` / `_read` loop over `_attributes()` in registration
order.  The shared object type (`Dataset.Obj`, C09) has room for one reference per class; here a position's `time` is kept
beside the heap, as a list `tm` (`tm[o]` = the time object attached to object `o`), and `writeArrX` / `readArrX` are
`writeArr` / `readArr` with the second turn of the attribute loop.  With no `time` attached anywhere they are the functions
of `Model/H5Dataset.lean` (`Proofs/H5Time.lean`); the round trip with `time` attached is `read_write_time` /
`time_restored` of `Props/C10.lean`, under `WritableX`.
-/
import Midgard.Model.H5Meta

namespace Midgard.H5
open Midgard.Dataset

abbrev TM := List (Option Nat)

/-- `getattr(self, "time", None)` -/
def tmOf (tm : TM) (o : Nat) : Option Nat := (tm[o]?).getD none

/-- one turn of the attribute loop of `_write`, for the attribute `nm` with value `x`: nothing (`None`), a reference by name
(the memo knows the object), or an embedded sub-group written by `rec`.  Result: the name, the sub-groups, the memo -/
def slotWrite (rec : Nat → Path → WMemo → M (Grp × WMemo)) (p : Path) (nm : String) (x : Option Nat) (memo : WMemo) :
    M (Option Path × List (String × Grp) × WMemo) :=
  match x with
  | none => .ok (none, [], memo)
  | some x =>
    match memo.lookup x with
    | some name => .ok (some name, [], memo)
    | none =>
      match rec x (p ++ [nm]) ((x, p ++ [nm]) :: memo) with
      | .error e => .error e
      | .ok (g, memo') => .ok (none, [(nm, g)], memo')

/-- `<array>._write(h5_group, memo)` with `PositionArray._attributes() = ["other", "time"]` -/
def writeArrX (h : Heap) (tm : TM) (u : Option (List String)) (l : Nat) : Nat → Nat → Path → WMemo → M (Grp × WMemo)
  | 0, _, _, _ => .error .fuel
  | fuel + 1, o, p, memo =>
    match h[o]? with
    | none => .error .dangling
    | some ob =>
      let a : GAttrs := { fieldname := p, src := o, unit := u, level := l }
      match attrName ob.kind with
      | none => .ok (.mk a (some ob.strip) [], memo)
      | some nm =>
        -- the attribute of the class (`other` / `ref_pos`), as in `writeArr`
        match slotWrite (writeArrX h tm none 3 fuel) p nm ob.ref memo with
        | .error e => .error e
        | .ok (r1, subs1, memo1) =>
          -- then `time` (positions and posvels only: the classes it is registered for)
          match slotWrite (writeArrX h tm none 3 fuel) p "time" (if ob.kind.hasOther then tmOf tm o else none) memo1 with
          | .error e => .error e
          | .ok (r2, subs2, memo2) =>
            .ok (.mk { a with ref := r1, tref := r2 } (some ob.strip) (subs1 ++ subs2), (o, p) :: memo2)

/-- `FieldType.write` / `CollectionField.write` (as `writeField`, over `writeArrX`) -/
def writeFieldX (h : Heap) (tm : TM) (lvl : Nat) : Field → Path → WMemo → M (Grp × WMemo)
  | .leaf nm _ o _ u l, pre, memo =>
    match aliasOf memo o (pre ++ [nm]) with
    | some name =>
      .ok (.mk { fieldname := pre ++ [nm], src := o, unit := u, level := l, sameAs := some name } none [], memo)
    | none =>
    match writeArrX h tm u l (h.length + 1) o (pre ++ [nm]) memo with
    | .error e => .error e
    | .ok (g, memo') =>
      .ok (g, if (memo'.lookup o).isNone then (o, pre ++ [nm]) :: memo' else memo')
  | .coll nm _ l fs, pre, memo =>
    match writeFieldsX fs (pre ++ [nm]) memo with
    | .error e => .error e
    | .ok (subs, mem, memo') => .ok (.mk { fieldname := [nm], level := l, members := mem } none subs, memo')
where
  writeFieldsX : List Field → Path → WMemo → M (List (String × Grp) × List (String × Option Kind) × WMemo)
    | [], _, memo => .ok ([], [], memo)
    | f :: fs, pre, memo =>
      if Field.level f < lvl then writeFieldsX fs pre memo else
      match writeFieldX h tm lvl f pre memo with
      | .error e => .error e
      | .ok (g, memo1) =>
        match writeFieldsX fs pre memo1 with
        | .error e => .error e
        | .ok (subs, mem, memo2) =>
          let ty : Option Kind := match f with
            | .leaf _ k _ _ _ _ => some k
            | .coll .. => none
          .ok ((f.name, g) :: subs, (f.name, ty) :: mem, memo2)

/-- `Dataset.write` -/
def writeDSX (h : Heap) (tm : TM) (d : DS) (lvl : Nat) : M File :=
  match writeFieldX.writeFieldsX h tm lvl d.fields [] (constructMemo lvl d.fields [] []) with
  | .error e => .error e
  | .ok (groups, mem, _) => .ok { numObs := d.numObs, members := mem, groups := groups }

/-! ### read -/

/-- a new array object with its `time` -/
def allocX (s : RSt) (o : Obj) (t : Option Nat) : Nat × RSt :=
  (s.heap.length, { s with heap := s.heap ++ [o], tm := s.tm ++ [t] })

/-- where `_read` finds the `time` of a group: a reference by name or the embedded sub-group `time` -/
def refTargetT (file : File) (a : GAttrs) (subs : List (String × Grp)) : Option (Path × Option Grp) :=
  match a.tref with
  | some name => some (name, lookupGrp file.groups name)
  | none => match subs.lookup "time" with
    | some g => some (a.fieldname ++ ["time"], some g)
    | none => none

/-- `<Array>._read(h5_group, memo)` with `PositionArray._attributes() = ["other", "time"]` -/
def readArrX (file : File) : Nat → Grp → RSt → M (Nat × RSt)
  | 0, _, _ => .error .fuel
  | fuel + 1, .mk a payload subs, s =>
    match payload with
    | none => .error .dangling
    | some ob =>
      match attrName ob.kind with
      | none =>
        let (o, s1) := allocX s ob none
        .ok (o, if ob.kind == .time || ob.kind == .timeDelta then s1.set a.fieldname o else s1)
      | some nm =>
        match readRef (readArrX file fuel) (refTarget file a subs nm) s with
        | .error e => .error e
        | .ok (r, s1) =>
          match readRef (readArrX file fuel) (if ob.kind.hasOther then refTargetT file a subs else none) s1 with
          | .error e => .error e
          | .ok (t, s2) =>
            if ob.kind.isDelta && r.isNone then .error .unsupported else
            let (o, s3) := allocX s2 (ob.withRef r) t
            .ok (o, s3.set a.fieldname o)

def fieldReadX (file : File) (fa : Nat) (g : Grp) (s : RSt) : M (Nat × RSt) :=
  match s.memo.lookup g.attrs.fieldname with
  | some o => .ok (o, s)
  | none => readArrX file fa g s

def resolveAliasX (file : File) (fa : Nat) (a : GAttrs) (s : RSt) : M RSt :=
  match a.sameAs with
  | none => .ok s
  | some name =>
    match s.memo.lookup name with
    | some o => .ok (s.set a.fieldname o)
    | none =>
      match lookupGrp file.groups name with
      | none => .error .attribute
      | some g =>
        match fieldReadX file fa g s with
        | .error e => .error e
        | .ok (o, s') => .ok ((s'.set name o).set a.fieldname o)

def readFieldX (file : File) (fa : Nat) : Nat → Option Kind → Grp → RSt → M (Field × RSt)
  | 0, _, _, _ => .error .fuel
  | _ + 1, some k, .mk a p subs, s0 =>
    match resolveAliasX file fa a s0 with
    | .error e => .error e
    | .ok s =>
    let r : M (Nat × RSt) := match s.memo.lookup a.fieldname with
      | some o => .ok (o, s)
      | none => readArrX file fa (.mk a p subs) s
    match r with
    | .error e => .error e
    | .ok (o, s') => .ok (.leaf (lastName a.fieldname) k o (objLen s'.heap o) (readUnit a.unit) a.level, s')
  | depth + 1, none, .mk a _ subs, s =>
    match readMembers (readFieldX file fa depth) a.members subs s with
    | .error e => .error e
    | .ok (fs, s') => .ok (.coll (lastName a.fieldname) file.numObs a.level fs, s')

def readTopX (file : File) (fa fd : Nat) : List (String × Option Kind) → RSt → M (List Field × RSt)
  | [], s => .ok ([], s)
  | (nm, ty) :: rest, s =>
    match file.groups.lookup nm with
    | none => .error .attribute
    | some g =>
      match readFieldX file fa fd ty g s with
      | .error e => .error e
      | .ok (f, s1) =>
        match readTopX file fa fd rest (regTop nm f s1) with
        | .error e => .error e
        | .ok (fs, s3) => .ok (f :: fs, s3)

/-- `Dataset.read`: heap, the `time` attributes of its objects, dataset -/
def readBackX (h : Heap) (d : DS) (file : File) : M (Heap × TM × DS) :=
  match readTopX file (h.length + 1) (fieldsDepth d.fields + 1) file.members {} with
  | .error e => .error e
  | .ok (fs, s) => .ok (s.heap, s.tm, { numObs := file.numObs, fields := fs })

/-- every `time` attached to a position / posvel is a time object of the heap -/
def tmOKB (h : Heap) (tm : TM) : Bool :=
  (List.range h.length).all (fun o => match h[o]? with
    | some ob =>
      if ob.kind.hasOther then
        match tmOf tm o with
        | none => true
        | some t => match h[t]? with
          | some tb => tb.kind == .time
          | none => false
      else true
    | none => true)

/-- **"a dataset that can be written"** for the model with the `time` attribute: `WritableS`, and what is attached as
`time` is a time -/
def writableXB (h : Heap) (tm : TM) (d : DS) (lvl : Nat) : Bool := writableSB h d lvl && tmOKB h tm

def WritableX (h : Heap) (tm : TM) (d : DS) (lvl : Nat) : Prop := writableXB h tm d lvl = true

instance (h : Heap) (tm : TM) (d : DS) (lvl : Nat) : Decidable (WritableX h tm d lvl) :=
  inferInstanceAs (Decidable (writableXB h tm d lvl = true))

end Midgard.H5
