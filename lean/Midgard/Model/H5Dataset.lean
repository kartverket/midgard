/-
C10 — model of `Dataset.write` / `Dataset.read` over an abstract HDF5 store.

The file is a tree of groups; a group has the attributes the dataset code writes, at most one array
payload (the HDF5 datasets `<fieldname>` (+ `sigma`) / `jd1`+`jd2` of the group, kept as the rows of
one `Obj`) and named sub-groups.  `write` follows `Dataset.write`, `FieldType.write`,
`CollectionField.write` and the `_write` of the array classes with the memo `id(object) ↦ field
name`; `read` follows `Dataset.read`, `FieldType.read`, `CollectionField.read` and the `_read`s with the
memo `field name ↦ object`.  h5py/HDF5 themselves (that a group gives back what was put into it) are
the modelled-not-verified part; the attribute texts go through `Model/H5Attr.lean`.
-/
import Midgard.Model.DatasetOps
import Midgard.Model.H5Attr

namespace Midgard.H5
open Midgard.Dataset

/-- the attributes of a group that matter for the round trip.  Field names are kept as their dot
separated components (`"c.p1"` is `["c", "p1"]`): the code joins and splits them with `"."`, which is
injective as long as no component contains a dot (field names cannot: a dot makes a collection). -/
structure GAttrs where
  fieldname : Path := []
  unit : Option (List String) := none        -- `unit` (`""` for None, else the encoded tuple)
  level : Nat := 3                           -- `write_level`
  ref : Option Path := none                  -- the `other` / `ref_pos` attribute: a reference by field name
  members : List (String × Option Kind) := []  -- the `fields` dict of a collection (none = collection)
  sameAs : Option Path := none               -- `same_as`: the array of this field is stored in the group of that field
  tref : Option Path := none                 -- the `time` attribute (registered by users of the library) as a reference by name
  src : Nat := 0                             -- *ghost*: the heap id of the array written here (never read)
  deriving Repr, Inhabited

inductive Grp
  | mk (a : GAttrs) (payload : Option Obj) (subs : List (String × Grp))
  deriving Repr, Inhabited

def Grp.attrs : Grp → GAttrs | .mk a _ _ => a
def Grp.payload : Grp → Option Obj | .mk _ p _ => p
def Grp.subs : Grp → List (String × Grp) | .mk _ _ s => s

structure File where
  numObs : Nat := 0
  members : List (String × Option Kind) := []
  groups : List (String × Grp) := []
  deriving Repr, Inhabited

abbrev WMemo := List (Nat × Path)

/-- the one attribute an array class writes: `other` for `PositionArray` / `PosVelArray`
(`_attributes()`), `ref_pos` for the delta classes, nothing for the others -/
def attrName (k : Kind) : Option String :=
  if k.hasOther then some "other" else if k.isDelta then some "ref_pos" else none

def _root_.Midgard.Dataset.Obj.ref (ob : Obj) : Option Nat :=
  if ob.kind.hasOther then ob.other else if ob.kind.isDelta then ob.refPos else none

def _root_.Midgard.Dataset.Obj.strip (ob : Obj) : Obj := { ob with other := none, refPos := none }

def _root_.Midgard.Dataset.Obj.withRef (ob : Obj) (r : Option Nat) : Obj :=
  if ob.kind.hasOther then { ob with other := r } else { ob with refPos := r }

/-! ### write -/

/-- `<array>._write(h5_group, memo)` into a group whose `fieldname` attribute is `p`.
The attribute is written as a reference by name when the object is known to the memo, else as an
embedded sub-group whose `fieldname` is the full name `p + [attr]` (after the `fix:`; it is the name
the memo gets *before* the recursive `_write`); finally `memo[id(self)] = fieldname`. -/
def writeArr (h : Heap) (u : Option (List String)) (l : Nat) : Nat → Nat → Path → WMemo → M (Grp × WMemo)
  | 0, _, _, _ => .error .fuel
  | fuel + 1, o, p, memo =>
    match h[o]? with
    | none => .error .dangling
    | some ob =>
      -- (`unit` and `write_level` are the attributes `FieldType.write` puts on the group of a field;
      -- an embedded group has neither: `none` / 3 stand for "absent")
      let a : GAttrs := { fieldname := p, src := o, unit := u, level := l }
      match attrName ob.kind with
      | none => .ok (.mk a (some ob.strip) [], memo)
      | some nm =>
        match ob.ref with
        | none => .ok (.mk a (some ob.strip) [], (o, p) :: memo)
        | some x =>
          match memo.lookup x with
          | some name => .ok (.mk { a with ref := some name } (some ob.strip) [], (o, p) :: memo)
          | none =>
            match writeArr h none 3 fuel x (p ++ [nm]) ((x, p ++ [nm]) :: memo) with
            | .error e => .error e
            | .ok (g, memo') => .ok (.mk a (some ob.strip) [(nm, g)], (o, p) :: memo')

def Field.level : Field → Nat
  | .leaf _ _ _ _ _ l => l
  | .coll _ _ l _ => l

/-- `same_as = memo.get(id(self.data))`, taken when it is `not None and != fieldname` (`FieldType.write`, after the
`fix:`): the memo of `_construct_memo` names, for an array held by several written fields, the last of them -/
def aliasOf (memo : WMemo) (o : Nat) (p : Path) : Option Path :=
  match memo.lookup o with
  | some name => if name == p then none else some name
  | none => none

/-- `FieldType.write` / `CollectionField.write` of one field into the group `pre + [name]` -/
def writeField (h : Heap) (lvl : Nat) : Field → Path → WMemo → M (Grp × WMemo)
  | .leaf nm _ o _ u l, pre, memo =>
    match aliasOf memo o (pre ++ [nm]) with
    | some name =>
      -- the array is (also) the array of the written field `name`: stored there, this group only says so
      .ok (.mk { fieldname := pre ++ [nm], src := o, unit := u, level := l, sameAs := some name } none [], memo)
    | none =>
    match writeArr h u l (h.length + 1) o (pre ++ [nm]) memo with
    | .error e => .error e
    | .ok (g, memo') =>
      -- `if id(self.data) not in memo: memo[id(self.data)] = fieldname`
      .ok (g, if (memo'.lookup o).isNone then (o, pre ++ [nm]) :: memo' else memo')
  | .coll nm _ l fs, pre, memo =>
    match writeFields fs (pre ++ [nm]) memo with
    | .error e => .error e
    | .ok (subs, mem, memo') => .ok (.mk { fieldname := [nm], level := l, members := mem } none subs, memo')
where
  /-- the loop over the fields of a collection: only `write_level >= lvl` -/
  writeFields : List Field → Path → WMemo → M (List (String × Grp) × List (String × Option Kind) × WMemo)
    | [], _, memo => .ok ([], [], memo)
    | f :: fs, pre, memo =>
      if Field.level f < lvl then writeFields fs pre memo else
      match writeField h lvl f pre memo with
      | .error e => .error e
      | .ok (g, memo1) =>
        match writeFields fs pre memo1 with
        | .error e => .error e
        | .ok (subs, mem, memo2) =>
          let ty : Option Kind := match f with
            | .leaf _ k _ _ _ _ => some k
            | .coll .. => none
          .ok ((f.name, g) :: subs, (f.name, ty) :: mem, memo2)

/-- `Dataset._construct_memo` (after the `fix:`: only the fields that will be written, with their full
names, collections recursively); a later field of the same object wins -/
def constructMemo (lvl : Nat) : List Field → Path → WMemo → WMemo
  | [], _, memo => memo
  | f :: fs, pre, memo =>
    if Field.level f < lvl then constructMemo lvl fs pre memo else
    match f with
    | .leaf nm _ o _ _ _ => constructMemo lvl fs pre ((o, pre ++ [nm]) :: memo)
    | .coll nm _ _ sub => constructMemo lvl fs pre (constructMemo lvl sub (pre ++ [nm]) memo)

/-- `Dataset.write(path, write_level)` -/
def writeDS (h : Heap) (d : DS) (lvl : Nat) : M File :=
  match writeField.writeFields h lvl d.fields [] (constructMemo lvl d.fields [] []) with
  | .error e => .error e
  | .ok (groups, mem, _) => .ok { numObs := d.numObs, members := mem, groups := groups }

/-! ### read -/

structure RSt where
  heap : Heap := []
  memo : List (Path × Nat) := []
  /-- the `time` attribute of the objects made so far (`Model/H5Time.lean`; the functions of this file never look at it) -/
  tm : List (Option Nat) := []
  deriving Repr, Inhabited

def RSt.alloc (s : RSt) (o : Obj) : Nat × RSt := (s.heap.length, { s with heap := s.heap ++ [o], tm := s.tm ++ [none] })
def RSt.set (s : RSt) (k : Path) (v : Nat) : RSt := { s with memo := (k, v) :: s.memo }

/-- `h5_file["a/b/c"]` -/
def lookupGrp : List (String × Grp) → Path → Option Grp
  | _, [] => none
  | gs, n :: rest =>
    match gs.lookup n with
    | none => none
    | some g => if rest.isEmpty then some g else lookupGrp g.subs rest

/-- kinds whose `_read` registers the array it has made in the memo under the group's `fieldname`
(`TimeBase._read`, `PositionArray._read`, `PositionDeltaArray._read`; the plain kinds and sigma do not) -/
def _root_.Midgard.Dataset.Kind.registers (k : Kind) : Bool :=
  k == .time || k == .timeDelta || (attrName k).isSome

/-- where `_read` finds the attribute `nm` of a group: a reference by name (the group of that name,
looked up from the top of the file) or the embedded sub-group `nm`, whose memo name is
`fieldname + [nm]` -/
def refTarget (file : File) (a : GAttrs) (subs : List (String × Grp)) (nm : String) : Option (Path × Option Grp) :=
  match a.ref with
  | some name => some (name, lookupGrp file.groups name)
  | none => match subs.lookup nm with
    | some g => some (a.fieldname ++ [nm], some g)
    | none => none

/-- `if name in memo: memo[name] else: obj = <Array>._read(group, memo); memo[name] = obj` -/
def readRef (rd : Grp → RSt → M (Nat × RSt)) (target : Option (Path × Option Grp)) (s : RSt) : M (Option Nat × RSt) :=
  match target with
  | none => .ok (none, s)
  | some (name, og) =>
    match s.memo.lookup name with
    | some o => .ok (some o, s)
    | none =>
      match og with
      | none => .error .attribute          -- KeyError
      | some g =>
        match rd g s with
        | .error e => .error e
        | .ok (o, s') => .ok (some o, s'.set name o)

/-- `<Array>._read(h5_group, memo)`.  The attribute is a reference by name (looked up from the top of
the file when the memo does not know it yet) or an embedded sub-group (read unless the memo already
knows `fieldname + [attr]`); the array itself is registered under its `fieldname`. -/
def readArr (file : File) : Nat → Grp → RSt → M (Nat × RSt)
  | 0, _, _ => .error .fuel
  | fuel + 1, .mk a payload subs, s =>
    match payload with
    | none => .error .dangling
    | some ob =>
      match attrName ob.kind with
      | none =>
        let (o, s1) := s.alloc ob
        -- `TimeBase._read` registers the object under its field name; the plain kinds do not
        .ok (o, if ob.kind == .time || ob.kind == .timeDelta then s1.set a.fieldname o else s1)
      | some nm =>
        match readRef (readArr file fuel) (refTarget file a subs nm) s with
        | .error e => .error e
        | .ok (r, s1) =>
          if ob.kind.isDelta && r.isNone then .error .unsupported else   -- a delta needs its ref_pos
          let (o, s2) := s1.alloc (ob.withRef r)
          .ok (o, s2.set a.fieldname o)

/-- `unit`: `""` and tuples of empty strings read back as None (`if not any(field._unit)`) -/
def readUnit : Option (List String) → Option (List String)
  | none => none
  | some us => if us.any (fun u => !u.isEmpty) then some us else none

/-- `name.split(".")[-1]` -/
def lastName (p : Path) : String := p.getLastD ""

/-- the loop of `CollectionField.read` over the `fields` attribute: `h5_group[fieldname]` each -/
def readMembers (rd : Option Kind → Grp → RSt → M (Field × RSt)) :
    List (String × Option Kind) → List (String × Grp) → RSt → M (List Field × RSt)
  | [], _, s => .ok ([], s)
  | (nm, ty) :: rest, subs, s =>
    match subs.lookup nm with
    | none => .error .attribute
    | some g =>
      match rd ty g s with
      | .error e => .error e
      | .ok (f, s1) =>
        match readMembers rd rest subs s1 with
        | .error e => .error e
        | .ok (fs, s2) => .ok (f :: fs, s2)

/-- `<FieldType>._read(h5_group, memo).data`: `if name in memo: memo[name] else <Array>._read(h5_group, memo)` -/
def fieldRead (file : File) (fa : Nat) (g : Grp) (s : RSt) : M (Nat × RSt) :=
  match s.memo.lookup g.attrs.fieldname with
  | some o => .ok (o, s)
  | none => readArr file fa g s

/-- the `same_as` part of `FieldType.read` (after the `fix:`): the field named there is read first unless the memo
knows it (`memo[same_as] = <its type>._read(file[same_as], memo).data`), then `memo[fieldname] = memo[same_as]` -/
def resolveAlias (file : File) (fa : Nat) (a : GAttrs) (s : RSt) : M RSt :=
  match a.sameAs with
  | none => .ok s
  | some name =>
    match s.memo.lookup name with
    | some o => .ok (s.set a.fieldname o)
    | none =>
      match lookupGrp file.groups name with
      | none => .error .attribute
      | some g =>
        match fieldRead file fa g s with
        | .error e => .error e
        | .ok (o, s') => .ok ((s'.set name o).set a.fieldname o)

/-- `FieldType.read` / `CollectionField.read`; `fa` bounds the length of reference chains, the second
argument the nesting depth of collections -/
def readField (file : File) (fa : Nat) : Nat → Option Kind → Grp → RSt → M (Field × RSt)
  | 0, _, _, _ => .error .fuel
  | _ + 1, some k, .mk a p subs, s0 =>
    match resolveAlias file fa a s0 with
    | .error e => .error e
    | .ok s =>
    -- `if name in memo: val = memo[name] else: val = <Array>._read(h5_group, memo)`
    let r : M (Nat × RSt) := match s.memo.lookup a.fieldname with
      | some o => .ok (o, s)
      | none => readArr file fa (.mk a p subs) s
    match r with
    | .error e => .error e
    | .ok (o, s') => .ok (.leaf (lastName a.fieldname) k o (objLen s'.heap o) (readUnit a.unit) a.level, s')
  | depth + 1, none, .mk a _ subs, s =>
    match readMembers (readField file fa depth) a.members subs s with
    | .error e => .error e
    | .ok (fs, s') => .ok (.coll (lastName a.fieldname) file.numObs a.level fs, s')

/-- after a top-level field: `memo[fieldname] = field.data` -/
def regTop (nm : String) (f : Field) (s : RSt) : RSt :=
  match f with
  | .leaf _ _ o _ _ _ => s.set [nm] o
  | .coll .. => s

/-- `Dataset.read(path)`: the fields in the order of the `fields` attribute -/
def readTop (file : File) (fa fd : Nat) : List (String × Option Kind) → RSt → M (List Field × RSt)
  | [], s => .ok ([], s)
  | (nm, ty) :: rest, s =>
    match file.groups.lookup nm with
    | none => .error .attribute
    | some g =>
      match readField file fa fd ty g s with
      | .error e => .error e
      | .ok (f, s1) =>
        match readTop file fa fd rest (regTop nm f s1) with
        | .error e => .error e
        | .ok (fs, s3) => .ok (f :: fs, s3)

/-- `Dataset.read`; the two bounds only have to be large enough (`roundTrip_coreS`, `Proofs/H5RoundTrip.lean`; `read_write` is the
case of the bounds `readBack` gives) -/
def readDS (fa fd : Nat) (file : File) : M (Heap × DS) :=
  match readTop file fa fd file.members {} with
  | .error e => .error e
  | .ok (fs, s) => .ok (s.heap, { numObs := file.numObs, fields := fs })

/-- the dataset one expects back: the fields (recursively) whose write level is at least `lvl` -/
def restrictFields (lvl : Nat) : List Field → List Field
  | [] => []
  | f :: fs =>
    if Field.level f < lvl then restrictFields lvl fs else
    match f with
    | .leaf .. => f :: restrictFields lvl fs
    | .coll nm no l sub => .coll nm no l (restrictFields lvl sub) :: restrictFields lvl fs

/-! ### the round trip as the driver runs it, and which datasets "can be written" -/

/-- nesting depth of a field list (a leaf counts 1, a collection 1 + its contents) -/
def fieldsDepth : List Field → Nat
  | [] => 0
  | .leaf .. :: fs => max 1 (fieldsDepth fs)
  | .coll _ _ _ sub :: fs => max (fieldsDepth sub + 1) (fieldsDepth fs)

/-- `Dataset.read` of the file written for `d` out of heap `h`: the two recursion bounds of the model are
the number of objects (no reference chain is longer) and the nesting depth of the collections -/
def readBack (h : Heap) (d : DS) (file : File) : M (Heap × DS) :=
  readDS (h.length + 1) (fieldsDepth d.fields + 1) file

def _root_.Midgard.Dataset.Obj.normal (ob : Obj) : Bool :=
  (ob.kind.hasOther || ob.other.isNone) && (ob.kind.isDelta || ob.refPos.isNone)

/-- one array object: only the attribute of its class is set; a delta has its `ref_pos`; the attached
object is older (objects are immutable: it existed when this one was made) and of a class that
registers itself on `_read` (time, position, posvel and the deltas) -/
def objOK (h : Heap) (o : Nat) (ob : Obj) : Bool :=
  ob.normal && (!ob.kind.isDelta || ob.ref.isSome) &&
  match ob.ref with
  | none => true
  | some x => decide (x < o) && match h[x]? with
    | some t => t.kind.registers
    | none => false

def heapOK (h : Heap) : Bool :=
  (List.range h.length).all (fun o => match h[o]? with
    | some ob => objOK h o ob
    | none => true)

/-- a unit is absent or has a non-empty component (`("", "")` is read back as no unit) -/
def unitOK : Option (List String) → Bool
  | none => true
  | some us => us.any (fun u => !u.isEmpty)

/-- every field has its array, `num_obs` rows as it declares; a collection declares the `num_obs` of the
dataset -/
def fieldsOK (h : Heap) (n : Nat) : List Field → Bool
  | [] => true
  | .leaf _ _ o no u _ :: fs => decide (o < h.length) && no == objLen h o && unitOK u && fieldsOK h n fs
  | .coll _ no _ sub :: fs => no == n && fieldsOK h n sub && fieldsOK h n fs

/-- field names are unique in the dataset and in every collection (they are dict keys) -/
def namesOK : List Field → Bool
  | [] => true
  | .leaf nm .. :: fs => !(names fs).contains nm && namesOK fs
  | .coll nm _ _ sub :: fs => !(names fs).contains nm && namesOK sub && namesOK fs

/-- the array objects of the fields, collections flattened, in field order -/
def leafObjs : List Field → List Nat
  | [] => []
  | .leaf _ _ o _ _ _ :: fs => o :: leafObjs fs
  | .coll _ _ _ sub :: fs => leafObjs sub ++ leafObjs fs

def nodupB : List Nat → Bool
  | [] => true
  | x :: xs => !xs.contains x && nodupB xs

/-- **"a dataset that can be written"** at level `lvl`, as a decidable predicate of the model: the heap is
well formed (`heapOK`), and the fields that will be written are well formed (`fieldsOK`), have unique
names and are pairwise different array objects (so that no field is written as a `same_as` group; `writableSB` below
is the predicate without this clause) -/
def writableB (h : Heap) (d : DS) (lvl : Nat) : Bool :=
  heapOK h && fieldsOK h d.numObs (restrictFields lvl d.fields) && namesOK (restrictFields lvl d.fields) &&
    nodupB (leafObjs (restrictFields lvl d.fields))

def Writable (h : Heap) (d : DS) (lvl : Nat) : Prop := writableB h d lvl = true

/-- **"a dataset that can be written"**, arrays shared between fields included: as `writableB` without the clause
"pairwise different array objects" (since the `fix:` an array held by several fields is stored once) -/
def writableSB (h : Heap) (d : DS) (lvl : Nat) : Bool :=
  heapOK h && fieldsOK h d.numObs (restrictFields lvl d.fields) && namesOK (restrictFields lvl d.fields)

def WritableS (h : Heap) (d : DS) (lvl : Nat) : Prop := writableSB h d lvl = true

instance (h : Heap) (d : DS) (lvl : Nat) : Decidable (WritableS h d lvl) :=
  inferInstanceAs (Decidable (writableSB h d lvl = true))

instance (h : Heap) (d : DS) (lvl : Nat) : Decidable (Writable h d lvl) :=
  inferInstanceAs (Decidable (writableB h d lvl = true))

end Midgard.H5
