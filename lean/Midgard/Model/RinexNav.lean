/-
Executable model of midgard's RINEX navigation parsers (`rinex3_nav.py`, `rinex2_nav.py`,
`rinex212_nav.py`, on top of `_parser_chain.py`).

Table driven: the line-number ↦ column tables, the rename table `SYSNAMES` and the two offset
dictionaries are regenerated from the source (`Generated/RinexNavCols.lean`).

`none` = the real code raises.  Times are exact rational seconds since the GPS epoch
(1980-01-06 00:00:00): `Time(gps_ws)` / `Time(datetime)` constructors are taken as given (C02).
-/
import Midgard.Core.Text
import Midgard.Core.Decimal
import Midgard.Core.FixedCol

namespace Midgard.RinexNav
open Midgard.Text Midgard.Decimal Midgard.FixedCol

/-- one entry of `data_parser.parser_def`: record line number ↦ field layout -/
structure LineDef where
  num : Nat
  fields : Layout
  deriving Repr, DecidableEq, Inhabited

/-- `SYSNAMES`: general field ↦ [(system, specific name)] in dictionary order -/
abbrev SysNames := List (String × List (String × String))

structure Tables where
  lines : List LineDef
  sysnames : SysNames
  secOffset : List (String × Int)     -- SYSTEM_TIME_OFFSET_TO_GPS_SECOND
  weekOffset : List (String × Int)    -- SYSTEM_TIME_OFFSET_TO_GPS_WEEK
  deriving Repr, Inhabited

inductive Cell
  | num (q : Rat)
  | none
  | str (s : Str)
  | time (gpsSeconds : Rat)
  deriving Repr, DecidableEq, Inhabited

abbrev Cols := List (String × List Cell)

/-- `data.setdefault(k, list()).append(v)`: the column of `k` grows by `v`; a new key starts a column
at the end of the dictionary -/
def append : Cols → String → Cell → Cols
  | [], k, v => [(k, [v])]
  | (k', vs) :: rest, k, v => if k' = k then (k', vs ++ [v]) :: rest else (k', vs) :: append rest k v

/-- `data[k]` (`none`: KeyError) -/
def col : Cols → String → Option (List Cell)
  | [], _ => Option.none
  | (k', vs) :: rest, k => if k' = k then some vs else col rest k

def setCol (d : Cols) (k : String) (vs : List Cell) : Cols :=
  if d.any (·.1 = k) then d.map fun (k', old) => if k' = k then (k', vs) else (k', old) else d ++ [(k, vs)]

def delCol (d : Cols) (k : String) : Cols := d.filter (·.1 ≠ k)

/-- `_float`: blank ↦ 0, `D`/`d` exponents ↦ `e`, then Python `float` -/
def floatField (t : Str) : Option Rat :=
  if t.isEmpty || isBlank t then some 0
  else parseFloat (replaceChar 'd' 'e' (replaceChar 'D' 'e' t))

/-- Python `str.isalpha()` of a one-character string, ASCII -/
def isAlpha (c : Char) : Bool := ('a' ≤ c && c ≤ 'z') || ('A' ≤ c && c ≤ 'Z')

def lookupI (t : List (String × Int)) (k : String) : Int := ((t.find? (·.1 = k)).map (·.2)).getD 0

/-! ### calendar: days since 1970-01-01 of a proleptic Gregorian date (Hinnant's `days_from_civil`); `epochSeconds` subtracts `gpsEpochDays` -/

def daysFromCivil (y m d : Int) : Int :=
  let y' := if m ≤ 2 then y - 1 else y
  let era := (if y' ≥ 0 then y' else y' - 399) / 400
  let yoe := y' - era * 400
  let mp := (m + 9) % 12
  let doy := (153 * mp + 2) / 5 + d - 1
  let doe := yoe * 365 + yoe / 4 - yoe / 100 + doy
  era * 146097 + doe - 719468

/-- days from 1970-01-01 to 1980-01-06 -/
def gpsEpochDays : Int := 3657

/-! ### records -/

structure Epoch where
  system : Str
  sat : Str
  year : Int
  month : Int
  day : Int
  hour : Int
  minute : Int
  second : Rat
  deriving Repr, Inhabited, DecidableEq

/-- the fields of one record line, `line[a:b].strip()` each, on the rstripped line -/
def lineValues (ld : LineDef) (line : Str) : List (String × Str) := sliceAll ld.fields (rstrip line)

def get (vs : List (String × Str)) (k : String) : Str := ((vs.find? (·.1 = k)).map (·.2)).getD []

/-- what line 1 decides -/
inductive Head
  | skipHeaderLine          -- a header line in the data section: the record is ignored
  | skipSystem              -- GLONASS / SBAS
  | ok (e : Epoch) (clock : List (String × Rat))

def clockNames : List String := ["sat_clock_bias", "sat_clock_drift", "sat_clock_drift_rate"]

/-- the three clock values of the epoch line, through `_float` -/
def clockOf (vs : List (String × Str)) : Option (List (String × Rat)) :=
  clockNames.mapM fun n => (floatField (get vs n)).map fun q => (n, q)

/-- the civil epoch of a RINEX 3 epoch line (`int()` / `float()` of its fields) -/
def epoch3 (vs : List (String × Str)) : Option Epoch := do
  let sys := get vs "system"
  let y ← parseInt? (get vs "year"); let mo ← parseInt? (get vs "month"); let d ← parseInt? (get vs "day")
  let h ← parseInt? (get vs "hour"); let mi ← parseInt? (get vs "minute"); let s ← parseFloat (get vs "second")
  pure ⟨sys, sys ++ zfill 2 (get vs "sat_num"), y, mo, d, h, mi, s⟩

/-- `Rinex3NavParser._parse_observation_epoch` -/
def head3 (vs : List (String × Str)) : Option Head :=
  if ((get vs "sat_clock_drift").getLast?.map isAlpha).getD false then some .skipHeaderLine
  else if get vs "system" = ['S'] ∨ get vs "system" = ['R'] then some .skipSystem
  else (epoch3 vs).bind fun e => (clockOf vs).map fun cl => .ok e cl

/-- the civil epoch of a RINEX 2 epoch line: two-digit year 80–99 ↦ 19yy, else 20yy -/
def epoch2 (system : Str) (vs : List (String × Str)) : Option Epoch := do
  let yy ← parseInt? (get vs "year")
  let yr4 ← parseInt? ((if 80 ≤ yy ∧ yy ≤ 99 then ['1', '9'] else ['2', '0']) ++ zfill 2 (get vs "year"))
  let mo ← parseInt? (get vs "month"); let d ← parseInt? (get vs "day")
  let h ← parseInt? (get vs "hour"); let mi ← parseInt? (get vs "minute"); let s ← parseFloat (get vs "second")
  let sat := system ++ zfill 2 (get vs "sat")
  pure ⟨sat.take 1, sat, yr4, mo, d, h, mi, s⟩

/-- `Rinex2NavParser._parse_observation_epoch` (`system` comes from the file extension); a group of lines that starts
with an empty line (`not any(line.values())`, e.g. the empty line at the end of a file) is ignored -/
def head2 (system : Str) (vs : List (String × Str)) : Option Head :=
  if ((get vs "sat_clock_drift_rate").head?.map isAlpha).getD false then some .skipHeaderLine
  else if vs.all (fun kv => kv.2.isEmpty) then some .skipHeaderLine     -- an empty line does not start a record
  else (epoch2 system vs).bind fun e => (clockOf vs).map fun cl => .ok e cl

/-- seconds since the GPS epoch of the printed civil epoch.  `frac7` is the 7-digit fraction of
`'{:010.7f}'.format(second)`; the single-system path feeds it to `timedelta(milliseconds=…)`,
the mixed/BeiDou path lets `dateutil` keep its first six digits. -/
def epochSeconds (mixedPath : Bool) (e : Epoch) : Rat :=
  let n : Int := roundHalfEven (e.second * 10000000)
  let ip : Int := n / 10000000
  let frac7 : Int := n % 10000000
  let whole : Int := (daysFromCivil e.year e.month e.day - gpsEpochDays) * 86400 + e.hour * 3600 + e.minute * 60 + ip
  if mixedPath then (whole : Rat) + ((frac7 / 10 : Int) : Rat) / 1000000
  else (whole : Rat) + (frac7 : Rat) / 1000

/-- state while reading the data section: the columns and the epochs of the records kept so far -/
structure St where
  data : Cols
  epochs : List Epoch        -- one per kept record (for the time column)
  deriving Inhabited, DecidableEq

/-- the epoch line handler of the parser version in use -/
def headOf (v2sys : Option Str) (vs : List (String × Str)) : Option Head :=
  match v2sys with
  | some s => head2 s vs
  | Option.none => head3 vs

/-- `_parse_obs_float` on the fields of one orbit line -/
def addLine (ld : LineDef) (d : Cols) (line : Str) : Option Cols :=
  (lineValues ld line).foldlM (fun d (kt : String × Str) => (floatField kt.2).map fun q => append d kt.1 (.num q)) d

/-- lines 2.. of a record, numbered from 0 (record line number `i + 2`) -/
def addLines (T : Tables) (d : Cols) (nl : List (Nat × Str)) : Option Cols :=
  nl.foldlM (fun d (il : Nat × Str) =>
    match T.lines.find? (fun (l : LineDef) => l.num = il.1 + 2) with
    | Option.none => some d
    | some ld => addLine ld d il.2) d

/-- the columns after the epoch line of a kept record -/
def addEpoch (d : Cols) (e : Epoch) (clock : List (String × Rat)) : Cols :=
  clock.foldl (fun d (nq : String × Rat) => append d nq.1 (.num nq.2))
    (append (append d "system" (.str e.system)) "satellite" (.str e.sat))

/-- one record (its lines, in order) appended to the columns.
`v2sys = some s` selects the RINEX 2 epoch line. -/
def addRecord (T : Tables) (v2sys : Option Str) (st : St) (rec : List Str) : Option St :=
  match rec with
  | [] => some st
  | l1 :: rest =>
    match T.lines.find? (fun (l : LineDef) => l.num = 1) with
    | Option.none => some st
    | some ld1 =>
      match headOf v2sys (lineValues ld1 l1) with
      | Option.none => Option.none
      | some .skipHeaderLine => some st
      | some .skipSystem => some st
      | some (.ok e clock) =>
        (addLines T (addEpoch st.data e clock) ((List.range rest.length).zip rest)).map fun d => ⟨d, st.epochs ++ [e]⟩

/-- RINEX 3: a record ends before the next line that starts with a letter -/
def splitV3Aux : List Str → List Str → List (List Str)
  | [], cur => if cur.isEmpty then [] else [cur.reverse]
  | l :: rest, cur =>
    let cur' := l :: cur
    match rest with
    | [] => [cur'.reverse]
    | nxt :: _ => if (nxt.head?.map isAlpha).getD false then cur'.reverse :: splitV3Aux rest [] else splitV3Aux rest cur'

def splitV3 (lines : List Str) : List (List Str) := splitV3Aux lines []

/-- RINEX 2: eight lines per record -/
def splitV2 : Nat → List Str → List (List Str)
  | 0, _ => []
  | fuel + 1, lines => if lines.isEmpty then [] else lines.take 8 :: splitV2 fuel (lines.drop 8)

/-- header: lines up to and including the one with `END OF HEADER` in columns 60–72 -/
def splitHeader (lines : List Str) : List Str × List Str :=
  let isEnd := fun (l : Str) => Text.slice 60 73 (rstrip l) = "END OF HEADER".toList
  let h := lines.takeWhile (fun l => !isEnd l)
  (h ++ (lines.drop h.length).take 1, lines.drop (h.length + 1))

/-- `sat_sys` of the `RINEX VERSION / TYPE` header line (column 40); `_parse_string` overwrites `meta` for every such
line, so the last one of the header counts -/
def satSys (header : List Str) : Str :=
  match header.reverse.find? (fun l => strip ((rstrip l).drop 60) = "RINEX VERSION / TYPE".toList) with
  | some l => strip (Text.slice 40 41 (rstrip l))
  | Option.none => []

/-! ### post-processing -/

def cellNum : Cell → Option Rat
  | .num q => some q
  | _ => Option.none

def cellStr : Cell → Str
  | .str s => s
  | _ => []

/-- `_rename_fields_based_on_system` of rinex3_nav: one column per specific name, `None` for the
records of other systems; the general column disappears -/
def rename3 (names : SysNames) (d : Cols) : Option Cols :=
  names.foldlM (fun d (field, per) => do
    let sys ← col d "system"
    let vals ← col d field
    -- inverted mapping, in order of first appearance of the specific name
    let news : List String := per.foldl (fun acc (_, n) => if acc.contains n then acc else acc ++ [n]) []
    let d' := news.foldl (fun d n =>
      let systems := (per.filter (·.2 = n)).map (·.1)
      setCol d n ((sys.zip vals).map fun (s, v) => if systems.contains (asString (cellStr s)) then v else .none)) d
    pure (delCol d' field)) d

/-- rinex2_nav / rinex212_nav: rename in place for the one system of the file -/
def rename2 (names : SysNames) (system : String) (d : Cols) : Cols :=
  names.foldl (fun d (field, per) =>
    match col d field with
    | Option.none => d
    | some vals =>
      match per.find? (·.1 = system) with
      | Option.none => delCol d field
      | some (_, n) => if n = field then d else delCol (setCol d n vals) field) d

def week : Rat := 604800

/-- the instant `(week, seconds)` moved by whole weeks to the one closest to `toc` -/
def towards (toc t : Rat) : Rat := t - (roundHalfEven ((t - toc) / week) : Rat) * week

/-- `_time_system_correction`: record epoch, toe and transmission time on the GPS scale -/
def timeCorrection (T : Tables) (fileSys : String) (epochs : List Epoch) (d : Cols) : Option Cols := do
  if !(["C", "E", "G", "I", "J", "M"].contains fileSys) then Option.none
  let mixed := fileSys = "M" ∨ fileSys = "C"
  let sys ← col d "system"
  let toe ← col d "toe"
  let ttx ← col d "transmission_time"
  let wk ← col d "gnss_week"
  -- columns of different length (a kept record that lacks orbit lines): `Time(val, val2)` / the NumPy arithmetic of
  -- the week cross-over refuse arrays of different shape
  if !(toe.length = sys.length ∧ ttx.length = sys.length ∧ wk.length = sys.length ∧ epochs.length = sys.length) then Option.none
  let offS := fun (s : Cell) => if mixed then lookupI T.secOffset (asString (cellStr s)) else 0
  let offW := fun (s : Cell) => if mixed then lookupI T.weekOffset (asString (cellStr s)) else 0
  let toc : List Rat := (epochs.zip sys).map fun (e, s) => epochSeconds mixed e + offS s
  let shift := fun (vals : List Cell) => ((sys.zip vals).mapM fun (s, v) => (cellNum v).map fun q => q + offS s)
  let toe' ← shift toe
  let ttx' ← shift ttx
  let wk' ← (sys.zip wk).mapM fun (s, v) => (cellNum v).map fun q => q + offW s
  let inst := fun (secs : List Rat) => ((toc.zip (wk'.zip secs)).map fun (c, w, s) => Cell.time (towards c (w * week + s)))
  let d1 := setCol d "time" (toc.map Cell.time)
  let d2 := setCol d1 "gnss_week" (wk'.map Cell.num)
  pure (setCol (setCol d2 "toe" (inst toe')) "transmission_time" (inst ttx'))

def isIntegral (q : Rat) : Bool := q.den = 1

/-- `_determine_message_type` refuses GPS/QZSS records whose IODE is not integral (`log.fatal`) -/
def lnavOk (d : Cols) : Bool :=
  match col d "system", col d "iode" with
  | some sys, some iode =>
    (sys.zip iode).all fun (s, v) =>
      !(cellStr s = ['G'] || cellStr s = ['J']) || ((cellNum v).map isIntegral).getD true
  | _, _ => true

/-- the lines of the file as Python's text-mode iteration yields them (newline removed) -/
def textLines (text : Str) : List Str :=
  let lines := (splitOn '\n' text)
  match lines.reverse with | [] :: r => r.reverse | _ => lines

/-- RINEX 3, reading: header / data split, record splitting, one `addRecord` per record.
Result: the header's satellite-system letter and the columns with the record epochs. -/
def accumV3 (T : Tables) (text : Str) : Option (Str × St) := do
  let (header, body) := splitHeader (textLines text)
  let st ← (splitV3 body).foldlM (addRecord T Option.none) ⟨[], []⟩
  pure (satSys header, st)

/-- RINEX 3, post-processing of the columns: `_check_nav_message`, renaming, time-system correction,
`_determine_message_type` -/
def postV3 (T : Tables) (sys : Str) (st : St) : Option Cols := do
  if st.data.isEmpty then Option.none            -- `_check_nav_message`
  let d ← rename3 T.sysnames st.data
  let d ← timeCorrection T (asString sys) st.epochs d
  if lnavOk d then pure d else Option.none

/-- a whole RINEX 3 navigation file -/
def parseV3 (T : Tables) (text : Str) : Option Cols := do
  let (sys, st) ← accumV3 T text
  postV3 T sys st

/-- RINEX 2.x, reading: eight lines per record -/
def accumV2 (T : Tables) (system : String) (text : Str) : Option St :=
  let (_, body) := splitHeader (textLines text)
  (splitV2 body.length body).foldlM (addRecord T (some system.toList)) ⟨[], []⟩

def postV2 (T : Tables) (system : String) (st : St) : Option Cols := do
  if st.data.isEmpty then Option.none
  let d := rename2 T.sysnames system st.data
  let d ← timeCorrection T system st.epochs d
  if lnavOk d then pure d else Option.none

/-- a whole RINEX 2.x navigation file of system `system` (from the file name) -/
def parseV2 (T : Tables) (system : String) (text : Str) : Option Cols := do
  let st ← accumV2 T system text
  postV2 T system st

end Midgard.RinexNav
