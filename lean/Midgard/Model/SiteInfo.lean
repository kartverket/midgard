/-
C18 — model of `midgard.site_info` history lookup (DESIGN.md §5/C18).

Mirrors, branch by branch,
  * `SiteInfoHistoryBase.get`                       (`_site_info.py`)
  * `*HistorySinex/_Ssc._process_history/_create_history`  (antenna, receiver, eccentricity, site_coord)
  * `IdentifierSinex/_Ssc._process`                 (identifier.py)
  * `ModuleBase.get / get_history`                  (`_site_info.py`)
  * `SiteInfo.get / get_history`                    (`site_info.py`)
for the two file sources `snx` and `ssc` (the `m3g` web-API source is outside the property).

Dates are integer microseconds since `datetime.min`; `datetime.max` is `dmax`.
Text is a list of code points (`List Nat`); only ASCII letters change case and the ten ASCII
blanks of `isBlank` are stripped (the generators stay inside ASCII; recorded as an assumption).
Python dictionaries are insertion-ordered association lists with `dictSet` as `d[k] = v`.
Every record of the source data carries a numeric `tag` that the harness plants in the real
dictionaries, so "which entry was returned" is observable on both sides.
-/
namespace Midgard.SiteInfo

/-- dates are plain `Int`s (a notation, so that `omega` sees linear integer arithmetic) -/
scoped notation "Date" => Int
/-- `datetime.min` -/
def dmin : Date := 0
/-- `datetime.max` (9999-12-31T23:59:59.999999) in microseconds after `datetime.min` -/
def dmax : Date := 315537897599999999

abbrev Str := List Nat

/-! ### Text: `str.lower`, `str.upper`, `str.strip`, `str.split(",")` on ASCII -/

def lowerC (n : Nat) : Nat := if 65 ≤ n ∧ n ≤ 90 then n + 32 else n
def upperC (n : Nat) : Nat := if 97 ≤ n ∧ n ≤ 122 then n - 32 else n
def lower (s : Str) : Str := s.map lowerC
def upper (s : Str) : Str := s.map upperC

/-- ASCII characters `str.strip()` removes: TAB, LF, VT, FF, CR, FS, GS, RS, US, SPACE -/
def isBlank (n : Nat) : Bool := (9 ≤ n && n ≤ 13) || (28 ≤ n && n ≤ 32)

def lstrip (s : Str) : Str := s.dropWhile isBlank
def rstrip (s : Str) : Str := (s.reverse.dropWhile isBlank).reverse
def strip (s : Str) : Str := rstrip (lstrip s)

/-- `s.split(",")`: always at least one piece -/
def splitComma : Str → List Str
  | [] => [[]]
  | c :: t =>
    match splitComma t with
    | [] => [[c]]            -- unreachable
    | p :: ps => if c = 44 then [] :: p :: ps else (c :: p) :: ps

/-- the `stations` argument: comma separated text or an iterable of names -/
inductive Stations
  | text (s : Str)
  | list (l : List Str)
  deriving Repr, DecidableEq

/-- the normalisation at the top of `ModuleBase.get/get_history` and `SiteInfo.get/get_history` -/
def normStations : Stations → List Str
  | .text s => (splitComma s).map (fun p => lower (strip p))
  | .list l => l.map lower

/-- an iterable of names as Python hands it over: a container whose every `iter()` starts again (list, tuple, set, dict
keys view, numpy array) or a one-shot iterable (generator, `map`/`filter` object, iterator, open file) whose items are
handed out exactly once -/
inductive Iterable
  | reiterable (l : List Str)
  | oneShot (l : List Str)
  deriving Repr, DecidableEq

/-- one pass `[s for s in stations]`: the items, and the iterable as it is afterwards -/
def Iterable.drain : Iterable → List Str × Iterable
  | .reiterable l => (l, .reiterable l)
  | .oneShot l => (l, .oneShot [])

/-- the `stations` argument as the caller gives it (`Union[str, Iterable]`) -/
inductive StationsArg
  | text (s : Str)
  | iter (it : Iterable)
  deriving Repr, DecidableEq

/-- the single pass over the argument at the top of `SiteInfo.get/get_history` and `ModuleBase.get/get_history`
(`[s.lower() for s in stations]` is evaluated once; everything after works on that list) -/
def StationsArg.once : StationsArg → Stations
  | .text s => .text s
  | .iter it => .list it.drain.1

/-! ### Dictionaries -/

/-- `d[k] = v` on an insertion-ordered dict: an existing key keeps its position -/
def dictSet {κ ν} [DecidableEq κ] : List (κ × ν) → κ → ν → List (κ × ν)
  | [], k, v => [(k, v)]
  | (k', v') :: t, k, v => if k' = k then (k', v) :: t else (k', v') :: dictSet t k v

def dictGet? {κ ν} [DecidableEq κ] : List (κ × ν) → κ → Option ν
  | [], _ => none
  | (k', v') :: t, k => if k' = k then some v' else dictGet? t k

def dictHas {κ ν} [DecidableEq κ] (d : List (κ × ν)) (k : κ) : Bool := (dictGet? d k).isSome

/-! ### Histories -/

abbrev Interval := Date × Date

/-- `date_from <= date and (date < date_to or date_to == datetime.max)` (repaired: an end of
`datetime.max` is the open end, so the last representable instant is inside it) -/
def contains (k : Interval) (d : Date) : Bool :=
  decide (k.1 ≤ d) && (decide (d < k.2) || decide (k.2 = dmax))

/-- `self.history` of a history object: dict `(date_from, date_to) → entry` -/
abbrev History (ε : Type) := List (Interval × ε)

/-- the loop of `SiteInfoHistoryBase.get(date)`: first interval (in dict order) containing the date -/
def histGet {ε} : History ε → Date → Option ε
  | [], _ => none
  | (k, e) :: t, d => if contains k d then some e else histGet t d

/-- tuple order of `(date_from, date_to)` -/
def keyLe (a b : Interval) : Bool := decide (a.1 < b.1) || (decide (a.1 = b.1) && decide (a.2 ≤ b.2))

/-- `sorted(self.history.keys())[-1]` with its value (the later of equal keys cannot occur in a dict) -/
def histLast {ε} : History ε → Option (Interval × ε)
  | [] => none
  | (k, e) :: t =>
    match histLast t with
    | none => some (k, e)
    | some (k', e') => if keyLe k' k then some (k, e) else some (k', e')

/-- open-ended start/end: `if self._info["start_time"]: … else: datetime.min` (and `datetime.max`) -/
def openFrom (s : Option Date) : Date := s.getD dmin
def openTo (s : Option Date) : Date := s.getD dmax

/-- one record of a SINEX `SITE/ANTENNA|RECEIVER|ECCENTRICITY` list, of `solution_epochs`, or of an
SSC `pos_vel` dict: start, end (`None` = open) and the planted tag -/
structure Raw where
  start : Option Date
  stop : Option Date
  tag : Nat
  deriving Repr, DecidableEq

def Raw.key (r : Raw) : Interval := (openFrom r.start, openTo r.stop)

/-- `_create_history`: `history[(entry.date_from, entry.date_to)] = entry` for each record in order -/
def createHistory {ρ} (key : ρ → Interval) : List ρ → History ρ → History ρ
  | [], h => h
  | r :: t, h => createHistory key t (dictSet h (key r) r)

/-! ### Source data -/

/-- a `SOLUTION/ESTIMATE` record: soln, parameter name (index into STAX…VELZ), tag -/
structure Est where
  soln : Nat
  pname : Nat
  tag : Nat
  deriving Repr, DecidableEq

/-- a `SOLUTION/EPOCHS` record -/
structure Epoch where
  soln : Nat
  raw : Raw
  deriving Repr, DecidableEq

/-- `source_data[station]` of the `sinex_site` parser: each block may be absent -/
structure SnxStation where
  ant : Option (List Raw)
  rcv : Option (List Raw)
  ecc : Option (List Raw)
  sid : Option Nat
  epochs : Option (List Epoch)
  est : Option (List Est)
  deriving Repr, DecidableEq

/-- `source_data[station]` of the `ssc_site` parser: the station dict (tag) and its `pos_vel` dict
(soln → record, dict order) -/
structure SscStation where
  tag : Nat
  posvel : List (Nat × Raw)
  deriving Repr, DecidableEq

inductive Source
  | snx (d : List (Str × SnxStation))
  | ssc (d : List (Str × SscStation))
  deriving Repr, DecidableEq

def Source.isEmpty : Source → Bool
  | .snx d => d.isEmpty
  | .ssc d => d.isEmpty

inductive Err | missing | key | index
  deriving Repr, DecidableEq

/-- a site-information object as observed: tag of the record it wraps, and for SINEX coordinates the
`param_name → estimate` entries merged into it (dict order) -/
structure Entry where
  tag : Nat
  params : List (Nat × Nat)
  deriving Repr, DecidableEq

def Entry.ofRaw (r : Raw) : Entry := ⟨r.tag, []⟩

inductive Module | antenna | eccentricity | identifier | receiver | siteCoord
  deriving Repr, DecidableEq

/-- `_MODULES` of `site_info.py`, in order -/
def modules : List Module := [.antenna, .eccentricity, .identifier, .receiver, .siteCoord]

/-- the station key the `_process_history` methods use: the lower-case name if it is a key,
else the upper-case name if that is a key -/
def findKey {σ} (d : List (Str × σ)) (station : Str) : Option σ :=
  match dictGet? d station with
  | some v => some v
  | none => dictGet? d (upper station)

/-- history entry with its interval -/
structure HEntry where
  key : Interval
  entry : Entry
  deriving Repr, DecidableEq

/-- `SiteCoordHistorySinex._combine_sinex_block_data` for one epoch record:
`raw.update({estimate["param_name"]: estimate})` for every estimate of the same `soln` -/
def combineParams (soln : Nat) : List Est → List (Nat × Nat) → List (Nat × Nat)
  | [], acc => acc
  | e :: t, acc => combineParams soln t (if e.soln = soln then dictSet acc e.pname e.tag else acc)

structure Combined where
  raw : Raw
  params : List (Nat × Nat)
  deriving Repr, DecidableEq

def Combined.key (c : Combined) : Interval := c.raw.key

def combine (epochs : Option (List Epoch)) (est : List Est) : List Combined :=
  match epochs with
  | none => []
  | some es => es.map (fun e => ⟨e.raw, combineParams e.soln est []⟩)

def histOfRaws (rs : List Raw) : History Entry :=
  (createHistory Raw.key rs []).map (fun (k, r) => (k, Entry.ofRaw r))

def histOfCombined (cs : List Combined) : History Entry :=
  (createHistory Combined.key cs []).map (fun (k, c) => (k, ⟨c.raw.tag, c.params⟩))

/-- `History(station, source_data, source_path).history` for the four history modules:
`none` is Python `None` (the source has no such information), errors are the exceptions raised.
`station` is already lower-case (`self.station = station.lower()`). -/
def historyOf (m : Module) (src : Source) (station : Str) : Except Err (Option (History Entry)) :=
  -- `if source_data: … else: self.history = {}` in `SiteInfoHistoryBase.__init__`
  if src.isEmpty then .ok (some []) else
  match src with
  | .snx d =>
    match findKey d station with
    | none => .error .missing
    | some st =>
      match m with
      | .antenna => match st.ant with | none => .error .missing | some rs => .ok (some (histOfRaws rs))
      | .receiver => match st.rcv with | none => .error .missing | some rs => .ok (some (histOfRaws rs))
      | .eccentricity => match st.ecc with | none => .error .missing | some rs => .ok (some (histOfRaws rs))
      | .siteCoord =>
        match st.est with
        | none => .ok none
        | some est => .ok (some (histOfCombined (combine st.epochs est)))
      | .identifier => .error .key   -- not a history module (never called)
  | .ssc d =>
    match findKey d station with
    | none => .error .missing
    | some st =>
      match m with
      | .siteCoord => .ok (some (histOfRaws (st.posvel.map (·.2))))
      | .identifier => .error .key
      | _ => .ok none

/-- `Identifier*(station, source_data)._info`: the tag of the `site_id` dict (SINEX) or of the copied
station dict (SSC) -/
def identOf (src : Source) (station : Str) : Except Err Nat :=
  match src with
  | .snx d =>
    match findKey d station with
    | none => .error .missing
    | some st => match st.sid with | none => .error .missing | some t => .ok t
  | .ssc d =>
    match findKey d station with
    | none => .error .missing
    | some st => .ok st.tag

/-- the `date` argument -/
inductive DateQ
  | at (d : Date)
  | last
  deriving Repr, DecidableEq

/-- what a query returns for one station -/
inductive Val
  | none                                 -- Python `None`
  | entry (e : Entry)                    -- a site-information object
  | ident (tag : Nat)                    -- an identifier object
  | hist (h : Option (List HEntry))      -- a history object (`history is None` → `none`)
  deriving Repr, DecidableEq

/-- `SiteInfoHistoryBase.get(date)` (repaired: an empty history has no last entry) -/
def historyGet (h : Option (History Entry)) (q : DateQ) : Val :=
  match h with
  | none => .none
  | some h =>
    match q with
    | .last => match histLast h with | none => .none | some (_, e) => .entry e
    | .at d => match histGet h d with | none => .none | some e => .entry e

def histVal (h : Option (History Entry)) : Val :=
  .hist (h.map (fun l => l.map (fun (k, e) => ⟨k, e⟩)))

/-- one station of `ModuleBase.get` -/
def moduleGet1 (m : Module) (src : Source) (station : Str) (date : Option DateQ) : Except Err Val :=
  match m with
  | .identifier => (identOf src station).map Val.ident        -- `date` is ignored
  | _ =>
    match historyOf m src station with
    | .error e => .error e
    | .ok h => match date with | none => .ok (histVal h) | some q => .ok (historyGet h q)

/-- the loop over stations: the first exception aborts; `site_dict[station] = …` -/
def collect (f : Str → Except Err Val) : List Str → List (Str × Val) → Except Err (List (Str × Val))
  | [], acc => .ok acc
  | s :: t, acc => match f s with | .error e => .error e | .ok v => collect f t (dictSet acc s v)

/-- `Module.get(source, source_data, stations, date)` -/
def moduleGet (m : Module) (src : Source) (st : Stations) (date : Option DateQ) :
    Except Err (List (Str × Val)) :=
  collect (fun s => moduleGet1 m src (lower s) date) (normStations st) []

/-- `Module.get_history(source, source_data, stations)`; for `Identifier` the inherited method returns
the identifier object -/
def moduleGetHistory (m : Module) (src : Source) (st : Stations) : Except Err (List (Str × Val)) :=
  moduleGet m src st none

/-- `entry[sta] if sta in entry else None` -/
def pick (entry : List (Str × Val)) (sta : Str) : Val := (dictGet? entry sta).getD .none

/-- the inner loop of `SiteInfo.get` over `_MODULES` for one station: each module is asked with the
single (already normalised) station *as text*, so it is normalised once more -/
def siteModules (src : Source) (sta : Str) (date : Option DateQ) (skipIdent : Bool) :
    List Module → List (Module × Val) → Except Err (List (Module × Val))
  | [], acc => .ok acc
  | m :: t, acc =>
    if skipIdent && m = .identifier then siteModules src sta date skipIdent t acc else
    match moduleGet m src (.text sta) (if m = .identifier then none else date) with
    | .error e => .error e
    | .ok entry => siteModules src sta date skipIdent t (dictSet acc m (pick entry sta))

def siteCollect (f : Str → Except Err (List (Module × Val))) :
    List Str → List (Str × List (Module × Val)) → Except Err (List (Str × List (Module × Val)))
  | [], acc => .ok acc
  | s :: t, acc =>
    -- `site_info.setdefault(sta, {})` then the module loop fills that dict (same keys, same order)
    match f s with
    | .error e => .error e
    | .ok v => siteCollect f t (dictSet acc s v)

/-- `SiteInfo.get(source, source_data, stations, date)` -/
def siteInfoGet (src : Source) (st : Stations) (date : Option DateQ) :
    Except Err (List (Str × List (Module × Val))) :=
  siteCollect (fun s => siteModules src s date false modules []) (normStations st) []

/-- `SiteInfo.get_history(source, source_data, stations)` (skips `Identifier`) -/
def siteInfoGetHistory (src : Source) (st : Stations) :
    Except Err (List (Str × List (Module × Val))) :=
  siteCollect (fun s => siteModules src s none true modules []) (normStations st) []

/-- the public entry points on the argument as given: the iterable is consumed once, by the normalisation; the modules
are then asked station by station with names, never with the caller's iterable -/
def siteInfoGetArg (src : Source) (a : StationsArg) (date : Option DateQ) := siteInfoGet src a.once date
def siteInfoGetHistoryArg (src : Source) (a : StationsArg) := siteInfoGetHistory src a.once
def moduleGetArg (m : Module) (src : Source) (a : StationsArg) (date : Option DateQ) := moduleGet m src a.once date
def moduleGetHistoryArg (m : Module) (src : Source) (a : StationsArg) := moduleGetHistory m src a.once

/-! ### The unrepaired SSC coordinate reader, kept to state the defect (Props: `ssc_pop_breaks_second_query`)

`SiteCoordHistorySsc._create_history` used `raw_info.pop("pos_vel")` on the caller's dictionary:
the first query removes the history from the source, the second raises `KeyError`. -/

/-- station dict state: `pos_vel` present or already popped -/
def sscPopQuery (pv : Option (List (Nat × Raw))) (q : DateQ) : Except Err Val × Option (List (Nat × Raw)) :=
  match pv with
  | none => (.error .key, none)
  | some l => (.ok (historyGet (some (histOfRaws (l.map (·.2)))) q), none)

end Midgard.SiteInfo
