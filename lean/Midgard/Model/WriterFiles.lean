/-
C17 — whole files: what a writer writes (header text + data lines) and how the matching parser of the
library reads it (model).  Mathlib-free; executed by the driver.

  universalNewlines      reading a file in text mode: `\r\n`, `\r` → `\n`
  fileLines              iterating over a text file: pieces that end in `\n` (the last one may not)
  cutWidths              `[line[s] for s in slices]` of numpy's `LineSplitter._variablewidth_splitter`
  gftRow / gftRows       `np.genfromtxt(delimiter=(w1, w2, …), autostrip=…, comments=c, skip_header=k)`: skip `k`
                         lines; cut each line at the comment marker; a line that is empty then is skipped;
                         the rest is cut into the fixed widths (always as many values as widths) and stripped
  convert                `StringConverter._loose_call`: `f8` → `float(text)`, NaN when that raises (also for
                         the text `nan`); `U<n>` → the first `n` characters
  gftParse               the structured array as a list of rows
  crdParse               parsers/bernese_crd.py: `read_data` + `_remove_blank_entries`
  cluParse               parsers/bernese_clu.py (the rows `as_dict` keeps)
  headerOf / crdFile / velFile / cluFile
                         the whole text the writer writes: `_get_header(...)` (regenerated cells; the wall-clock
                         texts are inputs) followed by the data lines

Outside the model (trusted / measured by the correspondence): `float` accepts more texts than `parseFloat`
(`inf`, `1_0`, …) — none of them is produced by a writer; NumPy's array construction from the converted rows.
-/
import Midgard.Model.Writers

namespace Midgard.WriterFiles
open Midgard.Text Midgard.Decimal Midgard.FixedCol Midgard.WriterCells Midgard.Writers
open Midgard.Generated.WriterLayouts

/-- `prevCR`: the character before was a `\r` (already turned into `\n`) -/
def unlAux : Bool → Str → Str
  | _, [] => []
  | prevCR, c :: r =>
    if c = '\r' then '\n' :: unlAux true r
    else if c = '\n' && prevCR then unlAux false r
    else c :: unlAux false r

/-- text mode (`newline=None`): `\r\n` and a lone `\r` are read as `\n` -/
def universalNewlines (s : Str) : Str := unlAux false s

def fileLinesAux : Str → Str → List Str
  | [], cur => if cur.isEmpty then [] else [cur.reverse]
  | c :: rest, cur =>
    if c = '\n' then (c :: cur).reverse :: fileLinesAux rest [] else fileLinesAux rest (c :: cur)

/-- `for line in fid` -/
def fileLines (s : Str) : List Str := fileLinesAux s []

/-- `[line[s] for s in slices]`, `slices` the consecutive intervals of the given widths -/
def cutWidths : List Nat → Str → List Str
  | [], _ => []
  | w :: ws, s => s.take w :: cutWidths ws (s.drop w)

structure GftSpec where
  names : List String
  widths : List Nat
  dtypes : List Dtype
  skip : Nat
  comment : Char
  autostrip : Bool
  deriving Repr, DecidableEq

/-- one line through `LineSplitter` (variable widths): `none` = no values (the line is skipped) -/
def gftRow (sp : GftSpec) (line : Str) : Option (List Str) :=
  let l := line.takeWhile (· ≠ sp.comment)
  if l.isEmpty then none
  else some (if sp.autostrip then (cutWidths sp.widths l).map strip else cutWidths sp.widths l)

def gftRows (sp : GftSpec) (file : Str) : List (List Str) :=
  ((fileLines (universalNewlines file)).drop sp.skip).filterMap (gftRow sp)

/-- a converted value: `f8 none` is NaN -/
inductive FieldVal where
  | f8 (v : Option Rat)
  | u (s : Str)
  deriving DecidableEq, Repr

def convert : Dtype → Str → FieldVal
  | .f8, s => .f8 (parseFloat s)
  | .u n, s => .u (s.take n)

def convertRow (dts : List Dtype) (row : List Str) : List FieldVal := List.zipWith convert dts row

/-- `np.genfromtxt(file, **params)` as rows of converted values -/
def gftParse (sp : GftSpec) (file : Str) : List (List FieldVal) :=
  (gftRows sp file).map (convertRow sp.dtypes)

def crdSpec : GftSpec :=
  ⟨crdParserNames, crdParserWidths, crdParserDtypes, crdParserSkipHeader, crdParserComment, crdParserAutostrip⟩

def cluSpec : GftSpec :=
  ⟨cluParserNames, cluParserWidths, cluParserDtypes, cluParserSkipHeader, cluParserComment, cluParserAutostrip⟩

/-- rows whose `station` value is not the empty text -/
def dropBlankStations (sp : GftSpec) (rows : List (List FieldVal)) : List (List FieldVal) :=
  rows.filter fun r => r[sp.names.idxOf "station"]? != some (.u [])

/-- parsers/bernese_crd.py: `self.data` after `_remove_blank_entries`, row by row -/
def crdParse (file : Str) : List (List FieldVal) := dropBlankStations crdSpec (gftParse crdSpec file)

/-- parsers/bernese_clu.py: the rows `as_dict` keeps (`if not sta: continue`) -/
def cluParse (file : Str) : List (List FieldVal) := dropBlankStations cluSpec (gftParse cluSpec file)

/-! ### a formatted line as the parser's fixed-width splitter sees it

A line is cut into *segments*: each replacement field together with the literal text written since the field
before it; what follows the last field is the tail.  When the segment widths are the parser's `delimiter` widths
and the literals inside the segments are blanks, every parser column holds exactly one writer cell. -/

def segsFrom (pre : Str) : List Cell → List Value → List Str
  | [], _ => []
  | .lit t :: cs, vs => segsFrom (pre ++ t.toList) cs vs
  | .fld _ sp :: cs, v :: vs => (pre ++ fmtValue sp v) :: segsFrom [] cs vs
  | .fld _ _ :: _, [] => []
  | .other _ :: _, _ => []

def tailLitFrom (pre : Str) : List Cell → Str
  | [] => pre
  | .lit t :: cs => tailLitFrom (pre ++ t.toList) cs
  | _ :: cs => tailLitFrom [] cs

/-- nominal widths of the segments -/
def segWidthsFrom (pre : Nat) : List Cell → List Nat
  | [] => []
  | .lit t :: cs => segWidthsFrom (pre + t.toList.length) cs
  | .fld _ sp :: cs => (pre + sp.width) :: segWidthsFrom 0 cs
  | .other _ :: _ => []

/-- the literal text inside the segments consists of blanks (U+0020) only -/
def leadSpacesFrom (pre : Str) : List Cell → Bool
  | [] => true
  | .lit t :: cs => leadSpacesFrom (pre ++ t.toList) cs
  | .fld _ _ :: cs => pre.all (· = ' ') && leadSpacesFrom [] cs
  | .other _ :: _ => false

/-- every value text of a line consists of characters satisfying `P` -/
def textsAll (P : Char → Bool) : List Cell → List Value → Bool
  | [], _ => true
  | .lit _ :: cs, vs => textsAll P cs vs
  | .fld _ spec :: cs, v :: vs => (v.text spec).all P && textsAll P cs vs
  | .fld _ _ :: _, [] => true
  | .other _ :: cs, vs => textsAll P cs vs

/-- a character that neither ends a line nor starts a comment -/
def plainFor (comment : Char) (c : Char) : Bool := c != comment && c != '\n' && c != '\r'

/-- the names of the replacement fields of a line, in order -/
def fieldNames (cells : List Cell) : List String :=
  cells.filterMap fun c => match c with | .fld n _ => some n | _ => none

/-- the positional values of a keyword-formatted line: each field looks its value up by name -/
def envValues (cells : List Cell) (env : Env) : Option (List Value) :=
  (fieldNames cells).mapM fun n => env.lookup n

/-- what a line table has to satisfy so that the fixed-width parser `sp` reads it cell by cell: the segment widths
are the parser's `delimiter` widths, the literal text inside the segments is blank, the line ends with a newline -/
def lineMatches (sp : GftSpec) (cells : List Cell) : Bool :=
  segWidthsFrom 0 cells == sp.widths && leadSpacesFrom [] cells && tailLitFrom [] cells == ['\n'] &&
  sp.comment != ' ' && sp.comment != '\n' && sp.autostrip

/-- **range predicate of a line**: every value is of the right kind and no wider than its cell, texts have no
outer blanks, and no text contains the comment marker or a line break -/
def valsOk (sp : GftSpec) (cells : List Cell) (vals : List Value) : Bool :=
  allFit cells vals && allClean cells vals && textsAll (plainFor sp.comment) cells vals

/-- **range predicate of a header**: exactly `skip_header` complete lines, no carriage return -/
def headerOk (sp : GftSpec) (hdr : Str) : Bool :=
  hdr.count '\n' == sp.skip && hdr.getLast? == some '\n' && hdr.all (· != '\r')

/-! ### whole files -/

/-- the cells of the text `_get_header(...)` of writer `w` returns -/
def headerOf (w : String) : List Cell :=
  match headers.find? (fun r => r.writer = w) with
  | some r => r.cells
  | none => []

/-- the header with its replacement fields filled in order (all of them texts: the `solution` line, the
wall-clock stamp, datum, epoch) -/
def headerText (w : String) (texts : List Str) : Option Str :=
  renderCells (headerOf w) (texts.map Value.str)

def fileOf (header : Option Str) (body : Option (List Str)) : Option Str :=
  match header, body with
  | some h, some b => some (h ++ b.flatten)
  | _, _ => none

/-- everything writers/bernese_crd.py writes; `texts` = solution, stamp, datum, epoch -/
def crdFile (texts : List Str) (writeNan : Bool) (sts : List Station) : Option Str :=
  fileOf (headerText "bernese_crd" texts) (crdBody writeNan sts)

/-- everything writers/bernese_vel.py writes; `texts` = solution, stamp, datum -/
def velFile (texts : List Str) (writeNan : Bool) (sts : List Station) : Option Str :=
  fileOf (headerText "bernese_vel" texts) (velBody writeNan sts)

/-- everything writers/bernese_clu.py writes; `texts` = solution, stamp -/
def cluFile (texts : List Str) (keys : List Str) : Option Str :=
  fileOf (headerText "bernese_clu" texts) (cluBody keys)

/-! ### SINEX-TMS TIMESERIES/DATA lines as lists of cells -/

/-- `t` is a whitespace token: not empty, no blank inside (as `Text.Token` of Proofs/Split.lean) -/
def isToken (t : Str) : Bool := !t.isEmpty && t.all (fun c => !isSpace c)

/-- a data line as cells: `' '` followed by the formatted cells, no separator -/
def tmsLineOf (cells : List (Spec × Value)) : Str := ' ' :: (cells.map fun sv => fmtValue sv.1 sv.2).flatten

def rightAligned (sv : Spec × Value) : Bool := (sv.1.align.getD sv.2.defaultAlign) == Align.right

/-- blanks a cell puts before / after its text -/
def leftBlanks (sv : Spec × Value) : Str :=
  if rightAligned sv then blanks (sv.1.width - (sv.2.text sv.1).length) else []
def rightBlanks (sv : Spec × Value) : Str :=
  if rightAligned sv then [] else blanks (sv.1.width - (sv.2.text sv.1).length)

/-- the cells as (blanks before, token) pairs; `carry` are the blanks left over from what came before -/
def toPads : Str → List (Spec × Value) → List (Str × Str) × Str
  | carry, [] => ([], carry)
  | carry, sv :: rest => ((carry ++ leftBlanks sv, sv.2.text sv.1) :: (toPads (rightBlanks sv) rest).1, (toPads (rightBlanks sv) rest).2)

/-- every value text is a token (not empty, no blank inside); every cell but the first is right-aligned and leaves a
blank (so does any cell before a left-aligned one — there is none after the first) -/
def tmsCellsOk : List (Spec × Value) → Bool
  | [] => true
  | sv :: rest => isToken (sv.2.text sv.1) &&
      rest.all (fun x => isToken (x.2.text x.1) && rightAligned x && decide ((x.2.text x.1).length < x.1.width))


/-- the cells of a data line: spec of each column and the value formatted in it (`none`: unknown column, missing value,
or a value the cell cannot format) -/
def tmsCells (cols : List String) (vals : Env) : Option (List (Spec × Value)) :=
  cols.mapM fun c => do
    let sp ← specOf c
    let v ← vals.lookup c
    if v.okFor sp then pure (sp, v) else none

/-- the range of the TIMESERIES/DATA round trip: every epoch's line has its cells and they are `tmsCellsOk` -/
def tmsRowsInRange (cols : List String) (epochs : List Env) : Bool :=
  epochs.all fun env => match tmsCells cols env with
    | some cells => tmsCellsOk cells
    | none => false

/-! ### csv_ -/

/-- the separator class of parsers/csv_.py: `sep="[\;,\,]"` -/
def isCsvSep (c : Char) : Bool := c == ',' || c == ';'

def splitSepAux : Str → Str → List Str
  | [], cur => [cur.reverse]
  | c :: rest, cur => if isCsvSep c then cur.reverse :: splitSepAux rest [] else splitSepAux rest (c :: cur)

/-- cutting a line at every `,` or `;` (always at least one piece) -/
def splitSep (s : Str) : List Str := splitSepAux s []

/-! ### range predicates of the file-level round trips (decidable; evaluated by the driver on every generated case) -/

/-- the positional values of a CRD line -/
def crdVals (e : XyzEntry) : List Value :=
  [.int (e.1 : Nat), .str (upper e.2.1.key), .str (e.2.1.domes.getD []), e.2.2.1, e.2.2.2.1, e.2.2.2.2, .str ['A']]

def crdEntryOk (e : XyzEntry) : Bool :=
  valsOk crdSpec (rowOf "bernese_crd") (crdVals e) && !(upper e.2.1.key).isEmpty

/-- **range of the Bernese CRD round trip**: the header texts give exactly the header lines the parser skips; every
written station has a non-empty code of at most 4 characters, a DOMES number of at most 9, numbers that fit their
cells (`numeric_cell_accepts`: |x| < 10^9 / 10^7 resp. with the sign), a running number below 1000; no text has
outer blanks, a `#` or a line break -/
def crdInRange (texts : List Str) (writeNan : Bool) (sts : List Station) : Bool :=
  (match headerText "bernese_crd" texts with
   | some h => headerOk crdSpec h
   | none => false) &&
  (xyzEntries writeNan sts).all crdEntryOk

/-- the positional values of a VEL line: those of the CRD line and the plate abbreviation -/
def velVals (e : XyzEntry) (plate : Str) : List Value := crdVals e ++ [.str plate]

def velEntryOk (e : XyzEntry) : Bool :=
  match velPlate e.2.1 with
  | some plate => valsOk crdSpec (rowOf "bernese_vel") (velVals e plate) && !(upper e.2.1.key).isEmpty
  | none => false

/-- **range of the Bernese VEL round trip** (the file is read with the library's CRD parser — there is no VEL parser):
as `crdInRange`, with a known tectonic plate (or none) for every written station -/
def velInRange (texts : List Str) (writeNan : Bool) (sts : List Station) : Bool :=
  (match headerText "bernese_vel" texts with
   | some h => headerOk crdSpec h
   | none => false) &&
  (xyzEntries writeNan sts).all velEntryOk

/-- **range of the Bernese CLU round trip**, per station code: at most 4 characters once in upper case, not empty, no
outer blanks, no `#`, no line break -/
def cluKeyOk (k : Str) : Bool :=
  decide ((upper k).length ≤ 4) && Clean (upper k) && (upper k).all (plainFor '#') && !(upper k).isEmpty

def cluInRange (texts : List Str) (keys : List Str) : Bool :=
  (match headerText "bernese_clu" texts with
   | some h => headerOk cluSpec h
   | none => false) && keys.all cluKeyOk

end Midgard.WriterFiles
