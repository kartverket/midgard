/-
Which characters end a line (used by the ANTEX model, C15; the RINEX models of C11 read with `ChainParser.fileLines`, which
cuts at `\n` only).

`ChainParser.read_data` opens the file in text mode (`files.open(path, mode="rt")`) and iterates the
*file object*.  With universal newlines (the default `newline=None`) a line ends at `\n`, `\r` or `\r\n`
and **nowhere else**.  `str.splitlines()` is a different function: it also breaks at vertical tab, form
feed, FS / GS / RS, NEL (U+0085), LINE SEPARATOR (U+2028) and PARAGRAPH SEPARATOR (U+2029).  A model
of `read_data` has to use `textLines`; `isSplitlinesOnly` names the characters on which the two differ
(generators put them into free-text cells: they must stay inside their line).

Core Lean only, executable (the drivers link it).
-/
import Midgard.Core.Text

namespace Midgard.TextLines
open Midgard.Text

/-- the characters that end a line when a text-mode file object is iterated (universal newlines) -/
def isLineEnd (c : Char) : Bool := c = '\n' || c = '\r'

/-- the characters at which `str.splitlines()` breaks a line -/
def isSplitlinesBreak (c : Char) : Bool :=
  c = '\n' || c = '\r' || c.toNat = 0x0b || c.toNat = 0x0c || c.toNat = 0x1c || c.toNat = 0x1d || c.toNat = 0x1e ||
  c.toNat = 0x85 || c.toNat = 0x2028 || c.toNat = 0x2029

/-- `str.splitlines()` breaks here, iterating a text-mode file does not -/
def isSplitlinesOnly (c : Char) : Bool := isSplitlinesBreak c && !isLineEnd c

/-- the code points of `isSplitlinesOnly` (for generators and `decide` tables) -/
def splitlinesOnlyCodes : List Nat := [0x0b, 0x0c, 0x1c, 0x1d, 0x1e, 0x85, 0x2028, 0x2029]

/-- non-ASCII characters Python's `str.strip()` / `str.split()` / `str.isspace()` treat as whitespace (`Text.isSpace`
is the ASCII part) -/
def isUniSpace (c : Char) : Bool :=
  c.toNat = 0x85 || c.toNat = 0xa0 || c.toNat = 0x1680 || (0x2000 ≤ c.toNat && c.toNat ≤ 0x200a) ||
  c.toNat = 0x2028 || c.toNat = 0x2029 || c.toNat = 0x202f || c.toNat = 0x205f || c.toNat = 0x3000

/-- auxiliary of `textLines`: `cur` is the (reversed) line being collected, `afterCR` says that the previous
character was a `\r` (which has already ended its line: a `\n` directly after it belongs to the same line end) -/
def textLinesAux : Str → Str → Bool → List Str
  | [], cur, _ => if cur.isEmpty then [] else [cur.reverse]
  | c :: rest, cur, afterCR =>
    if c = '\n' then
      if afterCR then textLinesAux rest [] false else cur.reverse :: textLinesAux rest [] false
    else if c = '\r' then cur.reverse :: textLinesAux rest [] true
    else textLinesAux rest (c :: cur) false

/-- the lines `for line in fid` yields for a file opened with `mode="rt"`, without their line ends: a line ends
at `\n`, `\r` or `\r\n`; a final line without line end is a line; no other character ends a line -/
def textLines (text : Str) : List Str := textLinesAux text [] false

end Midgard.TextLines
