/-
C01 — control-flow vocabulary for the *regenerated* transcription of `_find_conversion_hops`, `_taiutc_idx` and the
route selection of `TimeBase._to_scale` (`Generated/SourceTimeFlow.lean`, written by `translator/extract_timeflow.py`
from the Python `ast` on every run).

Nothing here is specific to the time scales: a `for` loop whose body may `return`, a `while` loop over a state with a
bound on the iterations (Lean functions are total; the bound is a parameter of every statement), and the two ways a
Python list is used as a queue.  The generated definitions are built from these and from `List` operations only; the
theorems `source_row_selection`, `source_route_search`, `source_to_scale` (Props/C01) say that they are equal to
the hand-written `rowAt ∘ startedUtc/startedTai`, `bfs` and `route` of `Model/TimeScale.lean` for every table, every
registry and every pair of scales (`bfs` for every bound, `route` at the bound 64 it has in the model).
-/
import Midgard.Model.TimeScale

namespace Midgard.TimeScale.Flow

/-- outcome of a loop body: `return r` or carry on with the new state -/
inductive Step (ρ σ : Type) where
  | ret (r : ρ)
  | next (s : σ)

/-- `for x in xs: body` where the body may `return` -/
def forReturn {α ρ σ : Type} (body : α → σ → Step ρ σ) : List α → σ → Step ρ σ
  | [], st => .next st
  | x :: rest, st =>
    match body x st with
    | .ret r => .ret r
    | .next st' => forReturn body rest st'

/-- `while cond(state): body` where the body may `return`; at most `fuel` iterations.  `none`: the loop ended without
a `return` (the statement after the loop runs — in `_find_conversion_hops` a `raise`) or the bound was reached. -/
def whileReturn {ρ σ : Type} (cond : σ → Bool) (body : σ → Step ρ σ) : Nat → σ → Option ρ
  | 0, _ => none
  | fuel + 1, st =>
    if cond st then
      match body st with
      | .ret r => some r
      | .next st' => whileReturn cond body fuel st'
    else none

/-- `x = q.pop(0)` : the first element and the rest -/
def popFront {α : Type} : List α → Option (α × List α)
  | [] => none
  | x :: rest => some (x, rest)

/-- `x = q.pop()` : the last element and the rest -/
def popBack {α : Type} (l : List α) : Option (α × List α) :=
  match l.getLast? with
  | none => none
  | some x => some (x, l.dropLast)

/-- `np.sum(flags, axis=-1)` of one epoch's row flags -/
def countTrue (flags : List Bool) : Int := ((flags.count true : Nat) : Int)

/-- `table[column][idx]` for an index array element `idx` (NumPy: a negative index counts from the end; the
generated index is clamped at 0 by `np.maximum(…, 0)`, so only `idx ≥ 0` occurs) -/
def rowOf {α : Type} [Inhabited α] (tbl : List α) (idx : Int) : α :=
  tbl.getD idx.toNat (tbl.headD default)

end Midgard.TimeScale.Flow
