/-
C03 — the three switches of the heap and dispatch models (`ctorH writes`, `ctorTimeH aliases`, `pyBinop reflRefuses`), read off
the regenerated tables of in-place operations and operator methods of `_time.py` (`Generated/TimePurity.lean`).  Used by the
theorems (Props/C03 `ops_pure`, `epoch_ctor_pure`, `mixed_scale_refused_dispatch`) and by the compiled driver.
-/
import Midgard.Model.TimeArrays
import Midgard.Generated.TimePurity

namespace Midgard.TimeArith
open Midgard.Generated.TimePurity

/-- does the tree under test contain an in-place operation (`x += …`, `x[…] = …`, `out=x`, a mutating method, an attribute
assignment) on something a function received from its caller — outside the `memo` dictionaries of `subset` / `insert` /
`__deepcopy__` / `_read` and the HDF5 attributes written by `_write` -/
def srcWrites : Bool :=
  inplace.any (fun e => (e.kind == "aug" || e.kind == "store" || e.kind == "out" || e.kind == "call" || e.kind == "attr")
    && e.root != "memo" && e.fn != "TimeBase._write")

/-- does a `_to_jds` / `to_jds` of the tree under test return one of its arguments (or a view of it) un-copied -/
def srcAliases : Bool := inplace.any (fun e => e.kind == "return" && e.detail == "to_jds")

/-- are all reflected / in-place operator methods of the tree under test stubs that return `NotImplemented`, is `+`/`-` only
defined by the two base classes, and does no class take NumPy's ufunc dispatch into its own hands -/
def srcReflRefuses : Bool :=
  operators.all (fun o =>
    (o.1 == "TimeArray" || o.1 == "TimeDeltaArray") &&
    (if o.2.1 == "__add__" || o.2.1 == "__sub__" then o.2.2 == "computes"
     else (o.2.1 == "__radd__" || o.2.1 == "__rsub__" || o.2.1 == "__iadd__" || o.2.1 == "__isub__") && o.2.2 == "refuses"))

end Midgard.TimeArith
