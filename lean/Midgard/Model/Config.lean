/-
C19 — model of `midgard.config.config` (DESIGN.md §5/C19).

Mirrors, branch by branch,
  * `Configuration.update / update_from_dict / update_from_options / update_from_config_section`,
    the `profiles` setter and `_set_sections_for_profiles`        (state machine, §State)
  * `Configuration.get / __getitem__ / exists / master_section / fallback_config / sources`  (§Lookup)
  * `ConfigurationEntry.list / tuple / dict / bool / int` and `_replace` / `entry.replace`  (§Entries)
  * `entry_as_str` / `as_str` with `console.fill` = `textwrap.fill(break_long_words=False,
    break_on_hyphens=False)` and the `ConfigParser` reading of `update_from_file`           (§Text)

Python dictionaries are insertion-ordered association lists (`dset` is `d[k] = v`).  Text is
`String` for names and values and `List Char` inside the text functions.  ASCII only: the
generators stay inside ASCII and the evidence records it as an assumption.
-/
namespace Midgard.Config

/-! ### Dictionaries -/

def dget? {κ ν} [DecidableEq κ] : List (κ × ν) → κ → Option ν
  | [], _ => none
  | (k', v') :: t, k => if k' = k then some v' else dget? t k

def dhas {κ ν} [DecidableEq κ] (d : List (κ × ν)) (k : κ) : Bool := (dget? d k).isSome

/-- `d[k] = v`: an existing key keeps its position -/
def dset {κ ν} [DecidableEq κ] : List (κ × ν) → κ → ν → List (κ × ν)
  | [], k, v => [(k, v)]
  | (k', v') :: t, k, v => if k' = k then (k', v) :: t else (k', v') :: dset t k v

/-! ### State -/

abbrev Profile := Option String

structure Entry where
  value : String
  source : String
  /-- `meta` dict: help text, type hint …; a value may be `None` -/
  metas : List (String × Option String)
  deriving Repr, DecidableEq

abbrev Section := List (String × Entry)
abbrev Sections := List (String × Section)

structure Cfg where
  name : String
  /-- `_profiles`: priority list, `None` is the profile-less level -/
  profiles : List Profile
  /-- `_profile_sections`: the raw entries per profile -/
  profileSections : List (Profile × Sections)
  /-- `_sections`: the flattened view, rebuilt by `_set_sections_for_profiles` -/
  sections : Sections
  master : Option String
  vars : List (String × String)
  updateCount : Nat
  deriving Repr, DecidableEq

def Cfg.new (name : String) : Cfg :=
  { name, profiles := [none], profileSections := [], sections := [], master := none, vars := [], updateCount := 0 }

inductive Err
  | missingSection | missingEntry | missingConfiguration | index | value | recursion | key
  deriving Repr, DecidableEq

/-- the inner two loops of `_set_sections_for_profiles` for one profile's sections -/
def mergeSection (acc : Section) : Section → Section
  | [] => acc
  | (k, e) :: t => mergeSection (dset acc k e) t

def mergeProfile (acc : Sections) : Sections → Sections
  | [] => acc
  | (sname, psec) :: t =>
    -- `self._sections.setdefault(section_name, ConfigurationSection(section_name))`
    let cur := (dget? acc sname).getD []
    mergeProfile (dset acc sname (mergeSection cur psec)) t

/-- `_set_sections_for_profiles`: `for profile in self.profiles[::-1]` -/
def flattenFrom (ps : List (Profile × Sections)) : List Profile → Sections → Sections
  | [], acc => acc
  | p :: t, acc => flattenFrom ps t (mergeProfile acc ((dget? ps p).getD []))

def flatten (profiles : List Profile) (ps : List (Profile × Sections)) : Sections :=
  flattenFrom ps profiles.reverse []

def Cfg.refresh (c : Cfg) : Cfg := { c with sections := flatten c.profiles c.profileSections }

/-- the `profiles` setter (repaired: an empty list is the same as `None`) -/
def Cfg.setProfiles (c : Cfg) (values : Option (List Profile)) : Cfg :=
  let vs := match values with
    | none => [none]
    | some [] => [none]
    | some l => if l.getLast? = some none then l else l ++ [none]
  ({ c with profiles := vs }).refresh

/-- one entry to be written -/
structure Upd where
  sect : String
  key : String
  value : String
  profile : Profile
  source : String
  metas : List (String × Option String)
  allowNew : Bool
  deriving Repr, DecidableEq

/-- `Configuration.update(…, _update_sections=False)`: the check against the *flattened* view when
`allow_new` is false, then the write into `_profile_sections` (the view is not rebuilt here) -/
def Cfg.updateRaw (c : Cfg) (u : Upd) : Except Err Cfg :=
  let check : Except Err Unit :=
    if u.allowNew then .ok () else
    match dget? c.sections u.sect with
    | none => .error .missingSection
    | some s => if dhas s u.key then .ok () else .error .missingEntry
  match check with
  | .error e => .error e
  | .ok () =>
    let source := match u.profile with | none => u.source | some p => s!"{u.source} ({p})"
    let psecs := (dget? c.profileSections u.profile).getD []
    let sec := (dget? psecs u.sect).getD []
    let changed := match dget? sec u.key with | none => true | some e => e.value ≠ u.value
    let sec' := dset sec u.key ⟨u.value, source, u.metas⟩
    .ok { c with
      profileSections := dset c.profileSections u.profile (dset psecs u.sect sec')
      updateCount := if changed then c.updateCount + 1 else c.updateCount }

/-- `Configuration.update(section, key, value, profile=…, source=…, meta=…, allow_new=…)` -/
def Cfg.update (c : Cfg) (u : Upd) : Except Err Cfg :=
  (c.updateRaw u).map Cfg.refresh

/-- `master_section` property -/
def Cfg.masterSection (c : Cfg) : Except Err (String × Section) :=
  match c.master with
  | none => .error .missingSection
  | some m => match dget? c.sections m with
    | none => .error .missingSection
    | some s => .ok (m, s)

/-- the loop of the multi-entry update methods (repaired: the flattened view is rebuilt also when an
entry raises, `try … finally`): returns the state reached and the error, if any, that ended the loop.
`skipMissingEntry` is `update_from_options`' `except MissingEntryError: pass`; the names of the
updates that went through are collected for its return value. -/
def Cfg.updateMany (c : Cfg) (skipMissingEntry : Bool) :
    List (String × Upd) → List String → Cfg × Option Err × List String
  | [], done => (c.refresh, none, done)
  | (tag, u) :: t, done =>
    match c.updateRaw u with
    | .ok c' => Cfg.updateMany c' skipMissingEntry t (done ++ [tag])
    | .error e =>
      if skipMissingEntry && e = .missingEntry then Cfg.updateMany c skipMissingEntry t done
      else (c.refresh, some e, done)

/-- `update_from_dict(cfg_dict, section=None, source="dictionary", allow_new=True)` -/
def Cfg.updateFromDict (c : Cfg) (d : List (String × String)) (sect : Option String) (source : String)
    (allowNew : Bool) : Cfg × Option Err :=
  let sname : Except Err String := match sect with
    | some s => .ok s
    | none => c.masterSection.map (·.1)
  match sname with
  | .error e => (c, some e)
  | .ok s =>
    let r := c.updateMany false (d.map fun (k, v) => (k, ⟨s, k, v, none, source, [], allowNew⟩)) []
    (r.1, r.2.1)

/-! #### `update_from_options` -/

def partitionAt (sep : Char) : List Char → List Char × Bool × List Char
  | [] => ([], false, [])
  | c :: t => if c = sep then ([], true, t) else
    let (a, f, b) := partitionAt sep t
    (c :: a, f, b)

/-- `s.rpartition(sep)` for a one-character separator: `(head, found, tail)`; not found → `("", tail=s)` -/
def rpartitionAt (sep : Char) (s : List Char) : List Char × Bool × List Char :=
  let (a, f, b) := partitionAt sep s.reverse
  if f then (b.reverse, true, a.reverse) else ([], false, s)

/-- one option of the form `--name:section:key=value`; `none` when it is not of the form `--…=…` -/
def parseOption (o : String) : Option (String × String × String × String) :=
  let cs := o.toList
  if cs.take 2 = ['-', '-'] && cs.contains '=' then
    let (k, _, v) := partitionAt '=' (cs.drop 2)
    let (sec, _, key) := rpartitionAt ':' k
    let (nm, _, sec') := rpartitionAt ':' sec
    some (String.ofList nm, String.ofList sec', String.ofList key, String.ofList v)
  else none

/-- the loop of `update_from_options`: the master section is looked up lazily, per option, in the
*current* flattened view (which the loop does not rebuild) -/
def Cfg.optionsLoop (c : Cfg) (profile : Profile) (source : String) (allowNew : Bool) :
    List String → List String → Cfg × Option Err × List String
  | [], done => (c.refresh, none, done)
  | o :: t, done =>
    match parseOption o with
    | none => Cfg.optionsLoop c profile source allowNew t done
    | some (nm, sec, key, v) =>
      if nm ≠ "" && nm ≠ c.name then Cfg.optionsLoop c profile source allowNew t done else
      let sname : Except Err String := if sec = "" then c.masterSection.map (·.1) else .ok sec
      match sname with
      | .error e => (c.refresh, some e, done)
      | .ok s =>
        match c.updateRaw ⟨s, key, v, profile, s!"{source} ({o})", [], allowNew⟩ with
        | .ok c' => Cfg.optionsLoop c' profile source allowNew t (done ++ [o])
        | .error e =>
          if e = .missingEntry then Cfg.optionsLoop c profile source allowNew t done
          else (c.refresh, some e, done)

/-- `update_from_options(options, profile, source, allow_new)`: new state, error, and the options that
were *not* used (`set(options) - updated_options`, as a duplicate-free list in first-occurrence order) -/
def Cfg.updateFromOptions (c : Cfg) (options : List String) (profile : Profile) (source : String)
    (allowNew : Bool) : Cfg × Option Err × List String :=
  let r := c.optionsLoop profile source allowNew options []
  (r.1, r.2.1, (options.filter (fun o => !r.2.2.contains o)).eraseDups)

/-- `update_from_config_section(other_section, section=None, allow_new=True)` -/
def Cfg.updateFromSection (c : Cfg) (otherName : String) (other : Section) (sect : Option String)
    (allowNew : Bool) : Cfg × Option Err :=
  let s := sect.getD otherName
  let r := c.updateMany false (other.map fun (k, e) => (k, ⟨s, k, e.value, none, e.source, e.metas, allowNew⟩)) []
  (r.1, r.2.1)

def Cfg.updateVars (c : Cfg) (d : List (String × String)) : Cfg :=
  { c with vars := d.foldl (fun acc (k, v) => dset acc k v) c.vars }

/-- `del cfg[name]` (`__delitem__` / `__delattr__`): the section is taken out of the *flattened view* only — the
per-profile store keeps it, so it is back after the next update or profile selection; KeyError when the view has no
such section -/
def Cfg.delSection (c : Cfg) (name : String) : Except Err Cfg :=
  if dhas c.sections name then .ok { c with sections := c.sections.filter (fun p => p.1 ≠ name) } else .error .key

/-- `cfg.clear()`: empties the flattened view (not the per-profile store) and the variables -/
def Cfg.clear (c : Cfg) : Cfg := { c with sections := [], vars := [] }

/-! ### Lookup -/

/-- what `cfg[name]` / `cfg.get` hand back -/
inductive Item
  | sect (name : String) (s : Section)
  | entry (key : String) (e : Entry)
  deriving Repr, DecidableEq

/-- `Configuration.__getitem__(key)`; `chain` is the configuration followed by its fallback
configurations (`fallback_config`, that one's fallback, …) -/
def getItem : List Cfg → String → Except Err Item
  | [], _ => .error .missingConfiguration
  | c :: rest, key =>
    match dget? c.sections key with
    | some s => .ok (.sect key s)
    | none =>
      match c.masterSection with
      | .ok (mname, m) =>
        -- `self.master_section[key]`: a missing entry is *not* caught here
        match dget? m key with
        | some e => .ok (.entry key e)
        | none => let _ := mname; .error .missingEntry
      | .error _ =>
        -- `except MissingSectionError: try: return self.fallback_config[key] except MidgardException: raise MissingSectionError`
        match getItem rest key with
        | .ok it => .ok it
        | .error _ => .error .missingSection

/-- `section[key]` -/
def sectionEntry (s : Section) (key : String) : Except Err Entry :=
  match dget? s key with | some e => .ok e | none => .error .missingEntry

/-- `Configuration.get(key, value=None, section=None, default=None)` (repaired: a fallback that lacks
the section no longer hides the default) -/
def get : List Cfg → String → Option String → Option String → Option String → Except Err (String × Entry)
  | [], _, _, _, _ => .error .missingConfiguration
  | c :: rest, key, value, sect, dflt =>
    match value with
    | some v => .ok (key, ⟨v, "method call", []⟩)
    | none =>
      let own : Except Err (String × Entry) :=
        match sect with
        | none => match c.masterSection with
          | .error e => .error e
          | .ok (_, m) => (sectionEntry m key).map (fun e => (key, e))
        | some s => match getItem (c :: rest) s with
          | .error e => .error e
          | .ok (.entry k e) => .ok (k, e)              -- the master section has an entry called `s`
          | .ok (.sect _ sec) => (sectionEntry sec key).map (fun e => (key, e))
      match own with
      | .ok r => .ok r
      | .error err =>
        -- err is MissingSectionError or MissingEntryError (getItem raises nothing else)
        match get rest key none sect none with
        | .ok r => .ok r
        | .error _ =>
          match dflt with
          | none => .error err
          | some d => .ok (key, ⟨d, "default value", []⟩)

/-! #### Lookup together with the configuration the answer is bound to

Every `ConfigurationEntry` keeps a reference to the variable dictionary of the configuration that
created it (`vars_dict=self.vars`; `_vars_dict` is never rebound, `update_vars`/`clear_vars` change it in
place): an entry stored in a configuration is bound to *that* configuration's variables — also when it
is handed out through another configuration's fallback chain —, and the entries `get` builds for an
override (`value=`) or for the supplied default are bound to the variables of the configuration that
was asked.  `getItemAt`/`getAt` are `getItem`/`get` together with the position in the chain
(0 = the configuration asked, 1 = its fallback, 2 = the fallback's fallback …) of the configuration the
answer is bound to; `.replaced` / `.replace()` on the answer use the variables found there. -/

/-- `Configuration.__getitem__(key)` with the position of the answering configuration in the chain -/
def getItemAt : List Cfg → String → Except Err (Nat × Item)
  | [], _ => .error .missingConfiguration
  | c :: rest, key =>
    match dget? c.sections key with
    | some s => .ok (0, .sect key s)
    | none =>
      match c.masterSection with
      | .ok (_, m) =>
        match dget? m key with
        | some e => .ok (0, .entry key e)
        | none => .error .missingEntry
      | .error _ =>
        match getItemAt rest key with
        | .ok r => .ok (r.1 + 1, r.2)
        | .error _ => .error .missingSection

/-- `Configuration.get(key, value, section, default)` with the position of the configuration whose
variable dictionary the returned entry holds: the default is applied by the configuration that was
asked (`self.fallback_config.get(key=key, section=section)` is called *without* the default) -/
def getAt : List Cfg → String → Option String → Option String → Option String →
    Except Err (Nat × String × Entry)
  | [], _, _, _, _ => .error .missingConfiguration
  | c :: rest, key, value, sect, dflt =>
    match value with
    | some v => .ok (0, key, ⟨v, "method call", []⟩)
    | none =>
      let own : Except Err (Nat × String × Entry) :=
        match sect with
        | none => match c.masterSection with
          | .error e => .error e
          | .ok (_, m) => (sectionEntry m key).map (fun e => (0, key, e))
        | some s => match getItemAt (c :: rest) s with
          | .error e => .error e
          | .ok (d, .entry k e) => .ok (d, k, e)
          | .ok (d, .sect _ sec) => (sectionEntry sec key).map (fun e => (d, key, e))
      match own with
      | .ok r => .ok r
      | .error err =>
        match getAt rest key none sect none with
        | .ok r => .ok (r.1 + 1, r.2)
        | .error _ =>
          match dflt with
          | none => .error err
          | some d => .ok (0, key, ⟨d, "default value", []⟩)

/-- the variables (`cfg.vars`, as they are when the entry is looked at) of the configuration at
position `d` of the chain -/
def varsAt (chain : List Cfg) (d : Nat) : List (String × String) :=
  match chain[d]? with
  | some c => c.vars
  | none => []

/-- `Configuration.exists(key, section=None)` -/
def cfgExists (chain : List Cfg) (key : String) (sect : Option String) : Except Err Bool :=
  match chain with
  | [] => .error .missingConfiguration
  | c :: _ =>
    match sect with
    | none => c.masterSection.map (fun (_, m) => dhas m key)
    | some s =>
      match getItem chain s with
      | .error _ => .ok false
      | .ok (.entry _ _) => .ok false
      | .ok (.sect _ sec) => .ok (dhas sec key)

/-- `Configuration.sources` (a set: duplicate-free, order immaterial) -/
def Cfg.sources (c : Cfg) : List String :=
  ((c.sections.flatMap (fun (_, s) => s.map (fun (_, e) => e.source))).filter (· ≠ "")).eraseDups

/-! ### Entries: typed accessors -/

def lowerChar (c : Char) : Char := if 'A' ≤ c ∧ c ≤ 'Z' then Char.ofNat (c.toNat + 32) else c
def lowerStr (s : String) : String := String.ofList (s.toList.map lowerChar)

/-- ASCII characters `str.split()` / `str.strip()` treat as blanks -/
def isBlank (c : Char) : Bool := (9 ≤ c.toNat && c.toNat ≤ 13) || (28 ≤ c.toNat && c.toNat ≤ 32)

/-- `str.split()` (no argument): maximal runs of non-blank characters -/
def splitBlanks : List Char → List Char → List (List Char)
  | [], cur => if cur.isEmpty then [] else [cur.reverse]
  | c :: t, cur =>
    if isBlank c then (if cur.isEmpty then splitBlanks t [] else cur.reverse :: splitBlanks t [])
    else splitBlanks t (c :: cur)

/-- `entry.list` = `self._value.replace(",", " ").split()` (and `.tuple`) -/
def asList (v : String) : List String :=
  (splitBlanks (v.toList.map (fun c => if c = ',' then ' ' else c)) []).map String.ofList

/-- `entry.dict` = `dict(i.partition(":")[::2] for i in self.list)` -/
def asDict (v : String) : List (String × String) :=
  (asList v).foldl (fun acc it =>
    let (a, _, b) := partitionAt ':' it.toList
    dset acc (String.ofList a) (String.ofList b)) []

/-- `_BOOLEAN_STATES`, as the model believes it to be (compared with the regenerated table in Props) -/
def booleanStates : List (String × Bool) :=
  [("0", false), ("1", true), ("false", false), ("true", true), ("no", false), ("yes", true),
   ("off", false), ("on", true)]

/-- `entry.bool` -/
def asBool (v : String) : Except Err Bool :=
  match dget? booleanStates (lowerStr v) with
  | some b => .ok b
  | none => .error .value

def stripBlanks (s : List Char) : List Char :=
  ((s.dropWhile isBlank).reverse.dropWhile isBlank).reverse

/-- digits with single underscores between them (Python integer literal body) -/
def digitsVal : List Char → Bool → Option Nat → Option Nat
  | [], prevUnderscore, acc => if prevUnderscore then none else acc
  | c :: t, prevUnderscore, acc =>
    if c.isDigit then digitsVal t false (some ((acc.getD 0) * 10 + (c.toNat - 48)))
    else if c = '_' then
      (if prevUnderscore || acc.isNone then none else digitsVal t true acc)
    else none

/-- sign handling of `int()`: `(negative, rest)` -/
def splitSign (s : List Char) : Bool × List Char :=
  match s with
  | '-' :: t => (true, t)
  | '+' :: t => (false, t)
  | _ => (false, s)

/-- `entry.int` = `int(self._value)` on ASCII text: blanks around, optional sign, decimal digits with
single underscores -/
def asInt (v : String) : Except Err Int :=
  let sp := splitSign (stripBlanks v.toList)
  match digitsVal sp.2 false none with
  | some n => .ok (if sp.1 then -(n : Int) else n)
  | none => .error .value

/-! ### Entries: `_replace` -/

def isWord (c : Char) : Bool := c.isAlphanum || c = '_'

/-- one match of `\{(\w+)(:[^\{\}]*)?\}` anchored at the head of the text (which starts after the
opening brace): variable name, format spec (without the colon), rest of the text -/
def matchVar (s : List Char) : Option (List Char × Option (List Char) × List Char) :=
  let name := s.takeWhile isWord
  let rest := s.dropWhile isWord
  if name.isEmpty then none else
  match rest with
  | '}' :: r => some (name, none, r)
  | ':' :: r =>
    let spec := r.takeWhile (fun c => c ≠ '{' && c ≠ '}')
    match r.dropWhile (fun c => c ≠ '{' && c ≠ '}') with
    | '}' :: r' => some (name, some spec, r')
    | _ => none
  | _ => none

structure VarMatch where
  name : List Char
  spec : Option (List Char)
  deriving Repr, DecidableEq

/-- the text of the match, `{name}` or `{name:spec}` -/
def VarMatch.expr (m : VarMatch) : List Char :=
  match m.spec with
  | none => '{' :: m.name ++ ['}']
  | some sp => '{' :: m.name ++ ':' :: sp ++ ['}']

/-- `re.finditer(...)`: leftmost, non-overlapping matches in order (fuel = length of the text) -/
def findVars : Nat → List Char → List VarMatch
  | 0, _ => []
  | _, [] => []
  | n + 1, c :: t =>
    if c = '{' then
      match matchVar t with
      | some (name, spec, rest) => ⟨name, spec⟩ :: findVars n rest
      | none => findVars n t
    else findVars n t

def isPrefix : List Char → List Char → Bool
  | [], _ => true
  | _ :: _, [] => false
  | a :: as, b :: bs => a = b && isPrefix as bs

/-- `s.replace(old, new)` for non-empty `old` (fuel = length of the text) -/
def replaceAll (old new : List Char) : Nat → List Char → List Char
  | 0, s => s
  | _, [] => []
  | n + 1, c :: t =>
    if isPrefix old (c :: t) then new ++ replaceAll old new n ((c :: t).drop old.length)
    else c :: replaceAll old new n t

/-- `'{name:spec}'.format(name=text)` for a string argument: `none` outside the modelled subset
(empty spec, `[[fill]<>^][width]`) -/
def formatStr (spec : Option (List Char)) (text : List Char) : Option (List Char) :=
  match spec with
  | none => some text
  | some [] => some text
  | some sp =>
    let parse : Option (Char × Char × List Char) :=
      match sp with
      | f :: a :: r => if a = '<' || a = '>' || a = '^' then some (f, a, r)
                       else if f = '<' || f = '>' || f = '^' then some (' ', f, a :: r) else
                       if f.isDigit then some (' ', '<', sp) else none
      | [a] => if a = '<' || a = '>' || a = '^' then some (' ', a, []) else
               if a.isDigit then some (' ', '<', sp) else none
      | [] => none
    match parse with
    | none => none
    | some (fill, align, w) =>
      if !(w.all Char.isDigit) then none else
      -- a leading zero would select zero padding ('=' alignment): outside the subset
      if w.head? = some '0' then none else
      let width := w.foldl (fun acc c => acc * 10 + (c.toNat - 48)) 0
      let pad := width - text.length
      match align with
      | '<' => some (text ++ List.replicate pad fill)
      | '>' => some (List.replicate pad fill ++ text)
      | _ => some (List.replicate (pad / 2) fill ++ text ++ List.replicate (pad - pad / 2) fill)

inductive RErr | recursion | unsupportedSpec
  deriving Repr, DecidableEq

/-- `_replace(string, replace_vars, default)` (repaired: an unknown variable without a default is
left exactly as it is).  `fuel` bounds the nesting of replacements (Python: recursion limit). -/
def replaceVars (vars : List (String × String)) (dflt : Option String) :
    Nat → List Char → Except RErr (List Char)
  | 0, _ => .error .recursion
  | fuel + 1, s =>
    (findVars s.length s).foldl (fun acc m =>
      match acc with
      | .error e => .error e
      | .ok cur =>
        let repl : Except RErr (Option (List Char)) :=
          match dget? vars (String.ofList m.name) with
          | none => .ok (dflt.map String.toList)
          | some r => (replaceVars vars dflt fuel r.toList).map some
        match repl with
        | .error e => .error e
        | .ok none => .ok cur
        | .ok (some r) =>
          match formatStr m.spec r with
          | none => .error .unsupportedSpec
          | some txt => .ok (replaceAll m.expr txt cur.length cur)) (.ok s)

/-- `entry.replace(default=None, **replace_vars)`: entry variables overlaid with the call's -/
def entryReplace (entryVars callVars : List (String × String)) (dflt : Option String) (v : String) :
    Except RErr String :=
  let vars := callVars.foldl (fun acc (k, x) => dset acc k x) entryVars
  (replaceVars vars dflt 64 v.toList).map String.ofList

/-! #### `.replaced` / `.replace()` on what a lookup hands back -/

/-- `cfg.get(key, value, section, default).replace(default=rdflt, **callVars)` (`.replaced` when both
are empty) -/
def getReplaced (chain : List Cfg) (key : String) (value sect dflt : Option String)
    (callVars : List (String × String)) (rdflt : Option String) :
    Except Err (Nat × String × Entry × Except RErr String) :=
  (getAt chain key value sect dflt).map fun r =>
    (r.1, r.2.1, r.2.2, entryReplace (varsAt chain r.1) callVars rdflt r.2.2.value)

/-- `cfg[section][key].replace(default=rdflt, **callVars)`, the section possibly found through the
fallback chain (`__getitem__`) -/
def itemReplaced (chain : List Cfg) (sect key : String) (callVars : List (String × String))
    (rdflt : Option String) : Except Err (Nat × Entry × Except RErr String) :=
  match getItemAt chain sect with
  | .error e => .error e
  | .ok (_, .entry _ _) => .error .key          -- an entry of the master section: not a section
  | .ok (d, .sect _ sec) =>
    (sectionEntry sec key).map fun e => (d, e, entryReplace (varsAt chain d) callVars rdflt e.value)

/-! ### Text: `entry_as_str`, `as_str`, and reading it back -/

/-- `textwrap` chunks for `break_on_hyphens=False`: maximal runs of blanks / of non-blanks, every
blank already turned into a space by `munge` -/
def chunks : List Char → List (List Char)
  | [] => []
  | c :: t =>
    match chunks t with
    | [] => [[c]]
    | (d :: ds) :: rest => if (c = ' ') = (d = ' ') then (c :: d :: ds) :: rest else [c] :: (d :: ds) :: rest
    | [] :: rest => [c] :: rest

def isSpaceChunk (ch : List Char) : Bool := ch.all (· = ' ')

/-- the inner loop of `_wrap_chunks`: move chunks onto the current line while they fit -/
def takeFit (avail : Nat) : List (List Char) → Nat → List (List Char) → List (List Char) × List (List Char)
  | cur, _, [] => (cur, [])
  | cur, len, ch :: r =>
    if len + ch.length ≤ avail then takeFit avail (cur ++ [ch]) (len + ch.length) r else (cur, ch :: r)

/-- `if self.drop_whitespace and cur_line and cur_line[-1].strip() == '': del cur_line[-1]` -/
def dropTrailingSpace (cur : List (List Char)) : List (List Char) :=
  match cur.getLast? with
  | some ch => if isSpaceChunk ch then cur.dropLast else cur
  | none => cur

/-- one line of `_wrap_chunks`: the chunks that fit, and — `_handle_long_word` with
`break_long_words=False` — a chunk that does not fit an empty line goes on it anyway -/
def lineSplit (avail : Nat) (cs : List (List Char)) : List (List Char) × List (List Char) :=
  let r := takeFit avail [] 0 cs
  match r.1, r.2 with
  | [], ch :: rr => ([ch], rr)
  | _, _ => r

/-- the greedy loop of `TextWrapper._wrap_chunks` (`break_long_words=False`, `drop_whitespace=True`),
lines as lists of chunks: `first` is true while no line has been produced (width `w`, and a leading
blank chunk is kept); later lines hold `w - hang` characters.  Fuel = number of chunks + 1. -/
def wrapChunks (w hang : Nat) : Nat → Bool → List (List Char) → List (List (List Char))
  | 0, _, _ => []
  | _, _, [] => []
  | n + 1, first, ch0 :: r0 =>
    -- drop a leading blank chunk on every line but the first, then fill the line
    let sp := lineSplit (if first then w else w - hang) (if !first && isSpaceChunk ch0 then r0 else ch0 :: r0)
    -- drop a trailing blank chunk
    let cur := dropTrailingSpace sp.1
    if cur.isEmpty then wrapChunks w hang n first sp.2
    else cur :: wrapChunks w hang n false sp.2

/-- the lines as text: `initial_indent=""`, `subsequent_indent=" " * hang` -/
def renderLines (hang : Nat) : List (List (List Char)) → List (List Char)
  | [] => []
  | l :: ls => l.flatten :: ls.map (fun x => List.replicate hang ' ' ++ x.flatten)

/-- `str.expandtabs(8)`: a tab advances to the next multiple of eight columns; the column restarts
after a line break -/
def expandTabs : List Char → Nat → List Char
  | [], _ => []
  | c :: t, col =>
    if c = '\t' then List.replicate (8 - col % 8) ' ' ++ expandTabs t (col + (8 - col % 8))
    else if c = '\n' || c = '\r' then c :: expandTabs t 0
    else c :: expandTabs t (col + 1)

/-- `TextWrapper._munge_whitespace`: expand tabs, then turn each of `\t\n\x0b\x0c\r` and blank into a space -/
def munge (text : List Char) : List Char :=
  (expandTabs text 0).map (fun c => if 9 ≤ c.toNat ∧ c.toNat ≤ 13 then ' ' else c)

/-- `console.fill(text, width=w, hanging=hang, break_long_words=False, break_on_hyphens=False)` as
a list of lines -/
def fill (w hang : Nat) (text : List Char) : List (List Char) :=
  let cs := chunks (munge text)
  renderLines hang (wrapChunks w hang (cs.length + 1) true cs)

def ljust (n : Nat) (s : List Char) : List Char := s ++ List.replicate (n - s.length) ' '

/-- `entry.entry_as_str(width, key_width, metadata=True)` as lines -/
def entryLines (w kw : Nat) (key : String) (e : Entry) : List (List Char) :=
  let first := fill w (kw + 3) (ljust kw key.toList ++ " = ".toList ++ e.value.toList)
  let metas := e.metas.flatMap fun (mk, mv) =>
    let mkey := key.toList ++ ':' :: mk.toList
    match mv with
    | none => fill w (kw + 3) mkey
    | some v => fill w (kw + 3) (ljust kw mkey ++ " = ".toList ++ v.toList)
  if e.metas.isEmpty then first else first ++ metas ++ [[]]

def joinLines : List (List Char) → List Char
  | [] => []
  | [l] => l
  | l :: t => l ++ '\n' :: joinLines t

/-- `section.as_str(…)`: `"[name]\n" + "\n".join(entry strings)`; note that an entry string may itself
be several lines and (with metadata) ends in an empty line -/
def sectionStr (w kw : Nat) (name : String) (s : Section) : List Char :=
  let entries := s.map fun (k, e) => joinLines (entryLines w kw k e)
  if entries.isEmpty then [] else ('[' :: name.toList ++ [']', '\n']) ++ joinLines entries

def joinWith (sep : List Char) : List (List Char) → List Char
  | [] => []
  | [l] => l
  | l :: t => l ++ sep ++ joinWith sep t

/-- `cfg.as_str(width=w, key_width=kw)` -/
def asStr (w kw : Nat) (secs : Sections) : String :=
  String.ofList (joinWith ['\n', '\n', '\n']
    ((secs.map fun (n, s) => sectionStr w kw n s).filter (fun t => !t.isEmpty)))

/-! #### Reading: the `ConfigParser(allow_no_value=True, delimiters=("=",))` subset -/

def splitLines : List Char → List (List Char)
  | [] => [[]]
  | c :: t =>
    match splitLines t with
    | [] => [[c]]
    | l :: ls => if c = '\n' then [] :: l :: ls else (c :: l) :: ls

def rstripBlanks (s : List Char) : List Char := (s.reverse.dropWhile isBlank).reverse

/-- raw parse: sections in file order, each a list of `(option, value lines)`; `none` value = option
without `=` -/
structure RawOpt where
  key : List Char
  value : Option (List (List Char))
  deriving Repr, DecidableEq

structure PState where
  done : List (String × List RawOpt)      -- finished sections, in order
  cur : Option (String × List RawOpt)     -- current section
  opt : Option RawOpt                     -- current option (continuation target)
  indent : Nat
  deriving Repr

inductive IniErr | noSection | duplicateSection | duplicateOption | parsing
  deriving Repr, DecidableEq

def PState.closeOpt (p : PState) : PState :=
  match p.cur, p.opt with
  | some (n, os), some o => { p with cur := some (n, os ++ [o]), opt := none }
  | _, _ => { p with opt := none }

def PState.closeSection (p : PState) : PState :=
  let p := p.closeOpt
  match p.cur with
  | some s => { p with done := p.done ++ [s], cur := none }
  | none => p

/-- `SECTCRE = \[(?P<header>.+)\]` matched at the start of the stripped line: the header is what stands
between the opening bracket and the *last* closing bracket (`.+` is greedy), and it is not empty -/
def sectionName? (stripped : List Char) : Option (List Char) :=
  match stripped with
  | '[' :: body =>
    match body.reverse.dropWhile (· ≠ ']') with
    | _ :: nameRev => if nameRev.isEmpty then none else some nameRev.reverse
    | [] => none
  | _ => none

/-- a section header line `[name]` -/
def sectionLine (p : PState) (name : List Char) (ind : Nat) : Except IniErr PState :=
  let name := String.ofList name
  let p := p.closeSection
  if (p.done.map (·.1)).contains name then .error .duplicateSection
  else .ok { p with cur := some (name, []), opt := none, indent := ind }

/-- an option line `key = value` / `key` -/
def optionLine (lower : Bool) (p : PState) (stripped : List Char) (ind : Nat) : Except IniErr PState :=
  match p.closeOpt.cur with
  | none => .error .noSection
  | some (_, os) =>
    let pr := partitionAt '=' stripped
    let key := if lower then (rstripBlanks pr.1).map lowerChar else rstripBlanks pr.1
    if key.isEmpty then .error .parsing else
    if (os.map (·.key)).contains key then .error .duplicateOption else
    .ok { p.closeOpt with opt := some ⟨key, if pr.2.1 then some [stripBlanks pr.2.2] else none⟩, indent := ind }

/-- a line that is not a continuation: section header or option -/
def headerLine (lower : Bool) (p : PState) (stripped : List Char) (ind : Nat) : Except IniErr PState :=
  match sectionName? stripped with
  | some name => sectionLine p name ind
  | none => optionLine lower p stripped ind

/-- one line of `RawConfigParser._read` -/
def readLine (lower : Bool) (p : PState) (line : List Char) : Except IniErr PState :=
  let stripped := stripBlanks line
  -- full-line comments
  if stripped.head? = some '#' || stripped.head? = some ';' then .ok p else
  if stripped.isEmpty then
    -- `empty_lines_in_values`: an empty line is kept inside a value that has started
    match p.opt with
    | some ⟨k, some vs⟩ => .ok { p with opt := some ⟨k, some (vs ++ [[]])⟩ }
    | _ => .ok p
  else
    let ind := (line.takeWhile isBlank).length
    match p.cur, p.opt with
    | some _, some ⟨k, some vs⟩ =>
      if ind > p.indent then .ok { p with opt := some ⟨k, some (vs ++ [stripped])⟩ }
      else headerLine lower p stripped ind
    | some _, some ⟨_, none⟩ =>
      -- `cursect[optname].append(value)` on the `None` of a valueless option: AttributeError
      -- (MultilineContinuationError from Python 3.13 on); the harness maps both to `ini`
      if ind > p.indent then .error .parsing else headerLine lower p stripped ind
    | _, _ => headerLine lower p stripped ind

def readIniRaw (lower : Bool) (text : String) : Except IniErr (List (String × List RawOpt)) :=
  let r : Except IniErr PState := (splitLines text.toList).foldl (fun acc l => match acc with
    | .error e => .error e
    | .ok p => readLine lower p l) (.ok ⟨[], none, none, 0⟩)
  r.map (fun p => p.closeSection.done)

/-- `'\n'.join(lines).rstrip()` then, in `update_from_file`, `.replace("\n", " ").strip()` (repaired:
the blank a value starting on a continuation line would get is stripped) -/
def joinValue (vs : List (List Char)) : String :=
  String.ofList (stripBlanks ((rstripBlanks (joinLines vs)).map (fun c => if c = '\n' then ' ' else c)))

/-- `cfg_section.partition("__")` -/
def partDunder : List Char → List Char × Bool × List Char
  | [] => ([], false, [])
  | '_' :: '_' :: t => ([], true, t)
  | c :: t => (c :: (partDunder t).1, (partDunder t).2.1, (partDunder t).2.2)

/-- the `meta` dict of one key: `{k.partition(":")[-1]: v for k, v in items if k.startswith(f"{key}:")}`
(a meta key given twice keeps its first position and the last value) -/
def metaOf (opts : List RawOpt) (key : List Char) : List (String × Option String) :=
  (opts.filterMap fun m =>
    if isPrefix (key ++ [':']) m.key then
      some (String.ofList (partitionAt ':' m.key).2.2, m.value.map joinValue)
    else none).foldl (fun acc p => dset acc p.1 p.2) []

/-- the updates one parsed section issues -/
def sectionUpdates (source : String) (allowNew : Bool) (cfgSection : String) (opts : List RawOpt) :
    List (String × Upd) :=
  let pd := partDunder cfgSection.toList
  if pd.1.isEmpty then [] else
  opts.filterMap fun o =>
    if o.key.contains ':' then none else
    some (String.ofList o.key,
      ⟨String.ofList pd.1, String.ofList o.key, (o.value.map joinValue).getD "None",
       if pd.2.1 then some (String.ofList pd.2.2) else none, source, metaOf opts o.key, allowNew⟩)

/-- the entry loop of `update_from_file` over the parsed file: the updates it issues, in order
(without `__replace__` substitution: that is `fileUpdatesR` below) -/
def fileUpdates (source : String) (allowNew : Bool) (raw : List (String × List RawOpt)) :
    List (String × Upd) :=
  raw.flatMap fun so => sectionUpdates source allowNew so.1 so.2

/-- `update_from_file(path)` for a file with the given text (no `__replace__`/`__vars__` sections) -/
def Cfg.updateFromText (c : Cfg) (text source : String) (allowNew caseSensitive : Bool) :
    Except IniErr (Cfg × Option Err) :=
  (readIniRaw (!caseSensitive) text).map fun raw =>
    let r := c.updateMany false (fileUpdates source allowNew raw) []
    (r.1, r.2.1)

/-! #### `update_from_file`: the `DEFAULT` section and the special sections `__replace__` / `__vars__` -/

/-- the value of an option as `ConfigParser` hands it out: the lines joined by newlines, trailing blanks removed -/
def rawValue (vs : List (List Char)) : String := String.ofList (rstripBlanks (joinLines vs))

/-- `[DEFAULT]`: its options are seen in every other section — `opts = section.copy(); opts.update(defaults)`: the section's own
options first (with their own values), then the default options the section does not have — and `sections()` does not list it -/
def applyDefaults (raw : List (String × List RawOpt)) : List (String × List RawOpt) :=
  match dget? raw "DEFAULT" with
  | none => raw
  | some dflt =>
    (raw.filter (fun so => so.1 ≠ "DEFAULT")).map fun so =>
      (so.1, so.2 ++ dflt.filter (fun d => !(so.2.map (·.key)).contains d.key))

/-- `{k: v for k, v in cfg_parser[name].items()}` of a special section; a key without `=` has the value `None` -/
def sectionItems (opts : List RawOpt) : List (String × Option String) :=
  opts.map fun o => (String.ofList o.key, o.value.map rawValue)

def derase {κ ν} [DecidableEq κ] (d : List (κ × ν)) (k : κ) : List (κ × ν) := d.filter (fun p => p.1 ≠ k)

/-- `update_vars` with the items of `__vars__`: a variable set to `None` is from then on unknown to `_replace`
(`replace_vars.get(var) is None`), which is modelled by removing it -/
def Cfg.updateVarsOpt (c : Cfg) (d : List (String × Option String)) : Cfg :=
  { c with vars := d.foldl (fun acc kv => match kv.2 with | some x => dset acc kv.1 x | none => derase acc kv.1) c.vars }

/-- `_replace(text, replace_vars)` with the table of `__replace__` (no default) -/
def replaceIn (rv : List (String × String)) (s : String) : Except RErr String :=
  (replaceVars rv none 64 s.toList).map String.ofList

/-- `_replace(value, replace_vars).replace("\n", " ").strip()` -/
def joinValueR (rv : List (String × String)) (vs : List (List Char)) : Except RErr String :=
  (replaceIn rv (rawValue vs)).map fun s =>
    String.ofList (stripBlanks (s.toList.map (fun c => if c = '\n' then ' ' else c)))

/-- the updates one parsed section issues, with the `__replace__` table applied to keys and values (not to the
metadata); a replacement that raises ends the loop -/
def sectionUpdatesR (rv : List (String × String)) (source : String) (allowNew : Bool) (cfgSection : String)
    (opts : List RawOpt) : List (Except RErr (String × Upd)) :=
  let pd := partDunder cfgSection.toList
  if pd.1.isEmpty then [] else
  opts.filterMap fun o =>
    if o.key.contains ':' then none else
    some (
      match replaceIn rv (String.ofList o.key) with
      | .error e => .error e
      | .ok key =>
        let val : Except RErr String := match o.value with | none => .ok "None" | some vs => joinValueR rv vs
        match val with
        | .error e => .error e
        | .ok value =>
          .ok (key, ⟨String.ofList pd.1, key, value,
            if pd.2.1 then some (String.ofList pd.2.2) else none, source, metaOf opts o.key, allowNew⟩))

def fileUpdatesR (rv : List (String × String)) (source : String) (allowNew : Bool)
    (raw : List (String × List RawOpt)) : List (Except RErr (String × Upd)) :=
  raw.flatMap fun so => sectionUpdatesR rv source allowNew so.1 so.2

/-- the results up to the first one that raised -/
def takeOk {ε α} : List (Except ε α) → List α × Option ε
  | [] => ([], none)
  | .error e :: _ => ([], some e)
  | .ok a :: t => (a :: (takeOk t).1, (takeOk t).2)

inductive FileErr
  | cfg (e : Err)
  | replace (e : RErr)
  deriving Repr, DecidableEq

/-- the `__replace__` table: `{k: v for k, v in cfg_parser["__replace__"].items()}`; keys without value are unknown -/
def replaceTable (raw : List (String × List RawOpt)) : List (String × String) :=
  match dget? raw "__replace__" with
  | some os => (sectionItems os).filterMap (fun kv => kv.2.map (fun v => (kv.1, v)))
  | none => []

/-- `update_from_file(path, allow_new, case_sensitive)` for a file with the given text, with the `DEFAULT` section, the
`__replace__` table and the `__vars__` section (which is applied first, and also when an entry is refused later) -/
def Cfg.updateFromFile (c : Cfg) (text source : String) (allowNew caseSensitive : Bool) :
    Except IniErr (Cfg × Option FileErr) :=
  (readIniRaw (!caseSensitive) text).map fun raw0 =>
    let raw := applyDefaults raw0
    let c1 := match dget? raw "__vars__" with
      | some os => c.updateVarsOpt (sectionItems os)
      | none => c
    let ups := takeOk (fileUpdatesR (replaceTable raw) source allowNew raw)
    let r := c1.updateMany false ups.1 []
    (r.1, match r.2.1 with | some e => some (.cfg e) | none => ups.2.map .replace)

end Midgard.Config
