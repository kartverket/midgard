/-
C10 — model of `midgard.data._h5utils`: the type-tagged literal encoding of meta information
(`encode_h5attr` / `decode_h5attr`, after the `fix:`).

Level of the model: Python's `str(data)` followed by `ast.parse` is represented by the syntax tree
the parser builds (`Ast`); the characters in between — quoting and escaping of strings, digits of
numbers — are CPython's `repr` / tokenizer and are *not* modelled (trusted to be inverse on
literals).  What is modelled is everything `_h5utils` itself decides: the type tag, the special
spellings of empty containers, which Python values `str()` prints as bare names (`nan`, `inf`,
`-inf`, `True`, `False`, `None`) and how the decoder turns those names back into values.
-/
namespace Midgard.H5Attr

/-- atoms of a meta tree -/
inductive Atom
  | int (i : Int)
  | flt (q : Rat)          -- a finite float (its exact value)
  | nan | inf | ninf
  | str (s : String)
  | bool (b : Bool)
  | none
  deriving DecidableEq, Repr, Inhabited

/-- JSON-like meta information: nestings of dicts, lists, tuples, sets over atoms -/
inductive Meta
  | atom (a : Atom)
  | list (xs : List Meta)
  | tuple (xs : List Meta)
  | set (xs : List Meta)
  | dict (kvs : List (Meta × Meta))
  deriving Repr, Inhabited

/-- what `ast.parse(str(data))` yields -/
inductive Ast
  | int (n : Nat)                 -- a non-negative integer literal
  | flt (q : Rat)                 -- a non-negative float literal
  | str (s : String)
  | name (s : String)             -- a bare identifier: nan, inf, True, False, None
  | neg (a : Ast)                 -- unary minus
  | list (xs : List Ast)
  | tuple (xs : List Ast)
  | set (xs : List Ast)           -- a non-empty set display
  | dict (kvs : List (Ast × Ast))
  | call (f : String)             -- `set()` — how `str` prints the empty set
  deriving Repr, Inhabited

/-- `str(atom)` as the parser sees it -/
def atomAst : Atom → Ast
  | .int i => if i < 0 then .neg (.int (-i).toNat) else .int i.toNat
  | .flt q => if q < 0 then .neg (.flt (-q)) else .flt q
  | .nan => .name "nan"
  | .inf => .name "inf"
  | .ninf => .neg (.name "inf")
  | .str s => .str s
  | .bool true => .name "True"
  | .bool false => .name "False"
  | .none => .name "None"

/-- `str(data)` of a nested container, as the parser sees it -/
def toAst : Meta → Ast
  | .atom a => atomAst a
  | .list xs => .list (toAsts xs)
  | .tuple xs => .tuple (toAsts xs)
  | .set xs => match xs with
    | [] => .call "set"
    | _ :: _ => .set (toAsts xs)
  | .dict kvs => .dict (toAstKVs kvs)
where
  toAsts : List Meta → List Ast
    | [] => []
    | x :: xs => toAst x :: toAsts xs
  toAstKVs : List (Meta × Meta) → List (Ast × Ast)
    | [] => []
    | (k, v) :: r => (toAst k, toAst v) :: toAstKVs r

/-- the decoder's evaluation of a parsed literal (after the `fix:`: the names `nan` / `inf` are
replaced by float constants *in the tree*, then `ast.literal_eval`) -/
def evalAst : Ast → Option Meta
  | .int n => some (.atom (.int n))
  | .flt q => some (.atom (.flt q))
  | .str s => some (.atom (.str s))
  | .name s =>
    if s == "nan" then some (.atom .nan)
    else if s == "inf" then some (.atom .inf)
    else if s == "True" then some (.atom (.bool true))
    else if s == "False" then some (.atom (.bool false))
    else if s == "None" then some (.atom .none)
    else none                                   -- literal_eval: malformed node
  | .neg a =>
    match a with
    | .int n => some (.atom (.int (-(n : Int))))
    | .flt q => some (.atom (.flt (-q)))
    | .name s => if s == "inf" then some (.atom .ninf) else if s == "nan" then some (.atom .nan) else none
    | _ => none
  | .list xs => (evalAsts xs).map .list
  | .tuple xs => (evalAsts xs).map .tuple
  | .set xs => (evalAsts xs).map .set
  | .dict kvs => (evalKVs kvs).map .dict
  | .call f => if f == "set" then some (.set []) else none
where
  evalAsts : List Ast → Option (List Meta)
    | [] => some []
    | x :: xs => match evalAst x, evalAsts xs with
      | some a, some r => some (a :: r)
      | _, _ => none
  evalKVs : List (Ast × Ast) → Option (List (Meta × Meta))
    | [] => some []
    | (k, v) :: r => match evalAst k, evalAst v, evalKVs r with
      | some a, some b, some t => some ((a, b) :: t)
      | _, _, _ => none

/-- what is stored in the HDF5 attribute -/
inductive Attr
  | tagged (tag : String) (text : Ast)   -- `"<tag> " + str(data)`
  | strAttr (s : String)                 -- `"str " + data`
  | native (a : Atom)                    -- handed to h5py as it is (numbers, booleans)
  deriving Repr, Inhabited

/-- `encode_h5attr`: dispatch on `type(data).__name__`; `None` (dtype object) cannot be saved -/
def encode : Meta → Option Attr
  | .list xs => some (.tagged "list" (toAst (.list xs)))
  | .tuple xs => some (.tagged "tuple" (toAst (.tuple xs)))
  | .set xs => some (.tagged "set" (toAst (.set xs)))
  | .dict kvs => some (.tagged "dict" (toAst (.dict kvs)))
  | .atom (.str s) => some (.strAttr s)
  | .atom .none => none
  | .atom a => some (.native a)

/-- `decode_h5attr` at the level of tokens: every `_h5attr2<tag>` evaluates the literal (the tag is not looked at), a string and a
native value come back as they are; the split at the first blank and the dispatch on the first word are
`Model/H5AttrText.lean` -/
def decode : Attr → Option Meta
  | .tagged _ t => evalAst t
  | .strAttr s => some (.atom (.str s))
  | .native a => some (.atom a)

/-- the number of nodes of a meta tree -/
def Meta.size : Meta → Nat
  | .atom _ => 1
  | .list xs => 1 + sizes xs
  | .tuple xs => 1 + sizes xs
  | .set xs => 1 + sizes xs
  | .dict kvs => 1 + sizesKV kvs
where
  sizes : List Meta → Nat
    | [] => 0
    | x :: xs => Meta.size x + sizes xs
  sizesKV : List (Meta × Meta) → Nat
    | [] => 0
    | (k, v) :: r => Meta.size k + Meta.size v + sizesKV r

end Midgard.H5Attr
