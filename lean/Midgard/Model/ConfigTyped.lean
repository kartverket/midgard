/-
C19 — model of the typed accessors of `midgard.config.config.ConfigurationEntry` that take arguments or
go through other modules:

  * `as_list / as_tuple (split_re, maxsplit)`, `as_dict (item_split_re, key_value_split_re, maxsplit)`:
    `re.split` with a *character class* as pattern (`[\s,]`, `[:]`, `[^_\w]`, … — every pattern the
    library uses is one), §Classes and §Splitting
  * `float` / `as_float`: the grammar of `float(str)` (blanks around, sign, digits with single
    underscores, point, exponent, `inf` / `infinity` / `nan`), exact value as a rational, §Float
  * `date` / `datetime` (`as_date`, `as_datetime` with the default formats `%Y-%m-%d` and
    `%Y-%m-%d %H:%M:%S`): `datetime.strptime` over the directives of `Model/TimeText.lean` and the
    calendar of `Model/TimeFormat.lean`, §Dates
  * `path` / `as_path`: `os.path.expanduser` for `~` and `~/…` and the normalisation `pathlib.Path`
    applies (POSIX), §Paths
  * `as_enum (name)`: `enums.get_value(name, value)` over the regenerated table of registered
    enumerations, §Enums

ASCII only, like `Model/Config.lean`.
-/
import Midgard.Model.Config
import Midgard.Model.TimeText

namespace Midgard.Config

/-! ### Classes: the `[...]` patterns -/

inductive ClassItem
  | ch (c : Char)
  | range (a b : Char)
  | space          -- `\s`
  | word           -- `\w`
  | digit          -- `\d`
  | notSpace       -- `\S`
  | notWord        -- `\W`
  | notDigit       -- `\D`
  deriving Repr, DecidableEq

structure CharClass where
  neg : Bool
  items : List ClassItem
  deriving Repr, DecidableEq

def ClassItem.has (c : Char) : ClassItem → Bool
  | .ch x => x = c
  | .range a b => a ≤ c && c ≤ b
  | .space => isBlank c
  | .word => isWord c
  | .digit => c.isDigit
  | .notSpace => !isBlank c
  | .notWord => !isWord c
  | .notDigit => !c.isDigit

/-- does the class match the character -/
def CharClass.has (cc : CharClass) (c : Char) : Bool := (cc.items.any (·.has c)) != cc.neg

/-- one atom of a class body: an escape or a plain character; `none` = outside the modelled syntax -/
def classAtom : List Char → Option (ClassItem × List Char)
  | '\\' :: 's' :: r => some (.space, r)
  | '\\' :: 'w' :: r => some (.word, r)
  | '\\' :: 'd' :: r => some (.digit, r)
  | '\\' :: 'S' :: r => some (.notSpace, r)
  | '\\' :: 'W' :: r => some (.notWord, r)
  | '\\' :: 'D' :: r => some (.notDigit, r)
  | '\\' :: c :: r => if c.isAlphanum then none else some (.ch c, r)   -- an escaped punctuation character
  | ['\\'] => none
  | '[' :: _ => none                                                    -- nested set / POSIX class: not modelled
  | c :: r => some (.ch c, r)
  | [] => none

/-- the body of a class up to the closing bracket (fuel = length of the text) -/
def classBody : Nat → List Char → List ClassItem → Option (List ClassItem × List Char)
  | 0, _, _ => none
  | _, [], _ => none
  | n + 1, ']' :: r, acc => if acc.isEmpty then
      (classBody n r [.ch ']'])                                         -- a leading `]` is a literal
    else some (acc.reverse, r)
  | n + 1, s, acc =>
    match classAtom s with
    | none => none
    | some (.ch a, '-' :: r) =>
      -- `a-b` is a range unless the `-` is the last character of the class
      match r with
      | ']' :: _ => classBody n ('-' :: r) (.ch a :: acc)
      | _ =>
        match classAtom r with
        | some (.ch b, r') => if a ≤ b then classBody n r' (.range a b :: acc) else none
        | _ => none
    | some (it, '-' :: r) =>
      -- `\s-x`: "bad character range" unless the `-` closes the class
      match r with
      | ']' :: _ => classBody n ('-' :: r) (it :: acc)
      | _ => none
    | some (it, r) => classBody n r (it :: acc)

/-- a pattern that is exactly one character class: `[...]` or `[^...]` -/
def parseClass? (pat : String) : Option CharClass :=
  match pat.toList with
  | '[' :: '^' :: r =>
    match classBody (r.length + 1) r [] with
    | some (items, []) => some ⟨true, items⟩
    | _ => none
  | '[' :: r =>
    match classBody (r.length + 1) r [] with
    | some (items, []) => some ⟨false, items⟩
    | _ => none
  | _ => none

/-! ### Splitting: `re.split(class, text, maxsplit)` -/

/-- `re.split` for a pattern that matches single characters: the pieces between the matching characters, empty
ones included; `lim = some n`: only the first `n` matching characters split (`maxsplit = n > 0`), the rest of the
text is the last piece -/
def reSplit (isSep : Char → Bool) : Option Nat → List Char → List Char → List (List Char)
  | _, [], cur => [cur.reverse]
  | lim, c :: t, cur =>
    if isSep c && lim != some 0 then cur.reverse :: reSplit isSep (lim.map (· - 1)) t []
    else reSplit isSep lim t (c :: cur)

def limOf (maxsplit : Nat) : Option Nat := if maxsplit = 0 then none else some maxsplit

/-- `entry.as_list(split_re, maxsplit=…)` / `as_tuple`: `[s for s in re.split(split_re, value, maxsplit) if s]` -/
def asListRe (cc : CharClass) (maxsplit : Nat) (v : String) : List String :=
  ((reSplit cc.has (limOf maxsplit) v.toList []).filter (fun p => !p.isEmpty)).map String.ofList

/-- the default pattern `[\s,]` -/
def classSpaceComma : CharClass := ⟨false, [.space, .ch ',']⟩
/-- the default key/value pattern `[:]` -/
def classColon : CharClass := ⟨false, [.ch ':']⟩

/-- `entry.as_dict(item_split_re, key_value_split_re, maxsplit=…)`: every item is split once at the first
key/value separator; an item without one makes the unpacking `for k, v in key_values` raise ValueError -/
def asDictRe (itemCc kvCc : CharClass) (maxsplit : Nat) (v : String) : Except Err (List (String × String)) :=
  (asListRe itemCc maxsplit v).foldl (fun acc it =>
    match acc with
    | .error e => .error e
    | .ok d =>
      match reSplit kvCc.has (some 1) it.toList [] with
      | [k, x] => .ok (dset d (String.ofList k) (String.ofList x))
      | _ => .error .value) (.ok [])

/-! ### Float: `float(value)` -/

inductive FloatVal
  | finite (q : Rat)       -- the exact value of the decimal literal (Python rounds it to the nearest double)
  | inf (neg : Bool)
  | nan
  deriving Repr, DecidableEq

/-- underscores are allowed between two digits only; returns the text without them -/
def dropUnderscores : Option Char → List Char → Option (List Char)
  | _, [] => some []
  | prev, '_' :: t =>
    match prev, t with
    | some p, n :: _ => if p.isDigit && n.isDigit then dropUnderscores (some '_') t else none
    | _, _ => none
  | _, c :: t => (dropUnderscores (some c) t).map (c :: ·)

def lowerList (s : List Char) : List Char := s.map lowerChar

/-- `entry.float` = `float(self._value)` -/
def asFloat (v : String) : Except Err FloatVal :=
  let s := stripBlanks v.toList
  let sp := splitSign s
  let name := lowerList sp.2
  if name = "inf".toList || name = "infinity".toList then .ok (.inf sp.1)
  else if name = "nan".toList then .ok .nan
  else
    match dropUnderscores none s with
    | none => .error .value
    | some t =>
      -- a blank inside the text is refused by the digit checks of the decimal parser
      if t.any isBlank then .error .value else
      match Midgard.Decimal.parseFloat t with
      | some q => .ok (.finite q)
      | none => .error .value

/-! ### Dates: `datetime.strptime(value, "%Y-%m-%d")` and `"%Y-%m-%d %H:%M:%S"` -/

open Midgard.TimeFormat in
/-- `%d`: `3[0-1]|[1-2]\d|0[1-9]|[1-9]| [1-9]` — one or two digits 1 … 31, or a blank and one digit -/
def dayDir (s : List Char) : Option (Int × List Char) :=
  match numDir 1 2 1 31 s with
  | some r => some r
  | none =>
    match s with
    | ' ' :: c :: r => if '1' ≤ c ∧ c ≤ '9' then some (((c.toNat - 48 : Nat) : Int), r) else none
    | _ => none

open Midgard.TimeFormat in
/-- `%Y-%m-%d` → (year, month, day, rest) -/
def ymdDirB (s : List Char) : Option (Int × Int × Int × List Char) :=
  (numDir 4 4 0 9999 s).bind fun y =>
  (litDir '-' y.2).bind fun s1 =>
  (numDir 1 2 1 12 s1).bind fun m =>
  (litDir '-' m.2).bind fun s2 =>
  (dayDir s2).bind fun d =>
  some (y.1, m.1, d.1, d.2)

open Midgard.TimeFormat in
/-- `entry.date` = `datetime.strptime(value, "%Y-%m-%d").date()`: the instant of the day's midnight in microseconds
since 2000-01-01 (the `DateTime` of `Model/TimeFormat.lean`) -/
def asDate (v : String) : Except Err Int :=
  match (ymdDirB v.toList).bind (fun a =>
      if a.2.2.2.isEmpty then mkDateTime a.1 a.2.1 a.2.2.1 0 0 0 0 else none) with
  | some dt => .ok dt
  | none => .error .value

open Midgard.TimeFormat in
/-- `entry.datetime` = `datetime.strptime(value, "%Y-%m-%d %H:%M:%S")` -/
def asDatetime (v : String) : Except Err Int :=
  match (ymdDirB v.toList).bind (fun a =>
      (wsDir a.2.2.2).bind fun s1 =>
      (hmsDir s1).bind fun b =>
      if b.2.2.2.isEmpty then mkDateTime a.1 a.2.1 a.2.2.1 b.1 b.2.1 b.2.2.1 0 else none) with
  | some dt => .ok dt
  | none => .error .value

/-! ### Paths: `pathlib.Path(os.path.expanduser(value) if "~" in value else value)` -/

def splitOnChar (sep : Char) : List Char → List Char → List (List Char)
  | [], cur => [cur.reverse]
  | c :: t, cur => if c = sep then cur.reverse :: splitOnChar sep t [] else splitOnChar sep t (c :: cur)

/-- `posixpath.expanduser(path)` with `$HOME = home`; `none` for `~user…` (looked up in the password database) -/
def expandUser (home : List Char) (p : List Char) : Option (List Char) :=
  match p with
  | '~' :: r =>
    match r with
    | [] | '/' :: _ =>
      let h := (home.reverse.dropWhile (· = '/')).reverse          -- `userhome.rstrip("/")`
      let out := h ++ r
      some (if out.isEmpty then ['/'] else out)
    | _ => none
  | _ => some p

/-- `str(pathlib.PurePosixPath(p))`: empty and `.` components are dropped, exactly two leading slashes are kept,
the empty path is `.` -/
def normPath (p : List Char) : List Char :=
  let lead := (p.takeWhile (· = '/')).length
  let root : List Char := if lead = 0 then [] else if lead = 2 then ['/', '/'] else ['/']
  let parts := (splitOnChar '/' p []).filter (fun x => !x.isEmpty && x != ['.'])
  let body := joinWith ['/'] parts
  if root.isEmpty && body.isEmpty then ['.'] else root ++ body

/-- `str(entry.path)` -/
def asPath (home : String) (v : String) : Option String :=
  let p := v.toList
  (if p.contains '~' then expandUser home.toList p else some p).map (fun q => String.ofList (normPath q))

/-! ### Enums: `enums.get_value(name, value)` -/

inductive EnumErr | unknownEnum | value
  deriving Repr, DecidableEq

/-- `table`: registered enumeration → its `__members__` as (name, name of the member it stands for) — an alias
stands for the member defined first with that value -/
def asEnum (table : List (String × List (String × String))) (enum v : String) : Except EnumErr String :=
  match dget? table enum with
  | none => .error .unknownEnum
  | some members =>
    match dget? members v with
    | some canonical => .ok canonical
    | none => .error .value

end Midgard.Config
