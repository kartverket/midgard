/-
C05 — model of `midgard.math.ellipsoid.Ellipsoid`, of `transformation.trs2llh/_trs2llh`
(one-step Halley scheme, SOFA GC2GDE) and `transformation.llh2trs/_llh2trs` (SOFA GD2GCE),
exactly as coded (branch by branch, same operation order), polymorphic in the number type
(see `Model/Vec3.lean`), and of the *ellipsoid attribute flow* of
`midgard.data._position.PositionArray/PosVelArray` (second half of the property).
-/
import Midgard.Model.Vec3

namespace Midgard.Geo

/-- `ellipsoid.Ellipsoid(name, a, f_inv, …)`; `f_inv = math.inf` (the sphere) is `none`. -/
structure Ellipsoid (α : Type) where
  a : α
  fInv : Option α
  deriving Repr, DecidableEq

section Ell
variable {α : Type} [Add α] [Sub α] [Mul α] [Div α] [Zero α] [One α]

/-- `Ellipsoid.f`: `1 / self.f_inv` (`1 / inf = 0`) -/
def Ellipsoid.f (E : Ellipsoid α) : α :=
  match E.fInv with
  | none => 0
  | some v => 1 / v

/-- `Ellipsoid.b`: `self.a * (1 - self.f)` -/
def Ellipsoid.b (E : Ellipsoid α) : α := E.a * (1 - E.f)

/-- `Ellipsoid.e2`: `1 - self.b ** 2 / self.a ** 2` -/
def Ellipsoid.e2 (E : Ellipsoid α) : α := 1 - (E.b * E.b) / (E.a * E.a)

/-- `Ellipsoid.eps`: `self.e2 / (1 - self.e2)` -/
def Ellipsoid.eps (E : Ellipsoid α) : α := E.e2 / (1 - E.e2)

end Ell

/-- geodetic coordinates, one row of an `(n, 3)` llh array -/
structure LLH (α : Type) where
  lat : α
  lon : α
  h : α
  deriving Repr, DecidableEq

section Llh2Trs
variable {α : Type} [Add α] [Sub α] [Mul α] [Div α] [Neg α] [Zero α] [One α] [Trig α]

/-- `_llh2trs` from the sine/cosine values of latitude and longitude:
```
w  = (1 - f) ** 2
ac = a / sqrt(coslat ** 2 + w * sinlat ** 2)
r  = (ac + height) * coslat
x, y, z = r * coslon, r * sinlon, (w * ac + height) * sinlat
``` -/
def llh2trsCS (E : Ellipsoid α) (cl sl co so h : α) : V3 α :=
  let w := (1 - E.f) * (1 - E.f)
  let ac := E.a / Trig.sqrt (cl * cl + w * (sl * sl))
  let r := (ac + h) * cl
  ⟨r * co, r * so, (w * ac + h) * sl⟩

/-- `transformation.llh2trs` (one row) -/
def llh2trs (E : Ellipsoid α) (g : LLH α) : V3 α :=
  llh2trsCS E (Trig.cos g.lat) (Trig.sin g.lat) (Trig.cos g.lon) (Trig.sin g.lon) g.h

end Llh2Trs

section Trs2Llh
variable {α : Type} [Add α] [Sub α] [Mul α] [Div α] [Neg α] [Zero α] [One α]
  [OfScientific α] [LT α] [LE α] [DecidableRel (α := α) (· < ·)] [DecidableRel (α := α) (· ≤ ·)]
  [Trig α]

/-- numerator and denominator `(s1, cc)` of the tangent of the latitude after the single
Halley step of `_trs2llh`, from `p = sqrt(x² + y²)` and `|z|`:
```
s0 = absz / a ; pn = p / a ; zc = ec * s0
c0 = ec * pn ; a0 = sqrt(c0**2 + s0**2)
d0 = zc * a0**3 + e2 * s0**3 ; f0 = pn * a0**3 - e2 * c0**3
b0 = e4t * s0**2 * c0**2 * pn * (a0 - ec)
s1 = d0 * f0 - b0 * s0 ; cc = ec * (f0**2 - b0 * c0)
``` -/
def halley (E : Ellipsoid α) (p absz : α) : α × α :=
  let e2 := E.e2
  let e4t := e2 * e2 * 1.5
  let ec2 := 1 - e2
  let ec := Trig.sqrt ec2
  let s0 := absz / E.a
  let pn := p / E.a
  let zc := ec * s0
  let c0 := ec * pn
  let a0 := Trig.sqrt (c0 * c0 + s0 * s0)
  let d0 := zc * cube a0 + e2 * cube s0
  let f0 := pn * cube a0 - e2 * cube c0
  let b0 := e4t * (s0 * s0) * (c0 * c0) * pn * (a0 - ec)
  let s1 := d0 * f0 - b0 * s0
  let cc := ec * (f0 * f0 - b0 * c0)
  (s1, cc)

/-- `tmp_height` of `_trs2llh`:
`(p*cc + absz*s1 - a*sqrt(ec2*s1**2 + cc**2)) / sqrt(s1**2 + cc**2)` -/
def halleyHeight (E : Ellipsoid α) (p absz s1 cc : α) : α :=
  (p * cc + absz * s1 - E.a * Trig.sqrt ((1 - E.e2) * (s1 * s1) + cc * cc)) / Trig.sqrt (s1 * s1 + cc * cc)

/-- latitude (before the sign is restored) and height from `p2 = x² + y²` and `|z|`,
including the pole branch `p2 <= a**2 * 1e-32` -/
def latHeightOf (E : Ellipsoid α) (p2 absz : α) : α × α :=
  if p2 ≤ E.a * E.a * 1e-32 then
    (Trig.pi / (1 + 1), absz - E.b)
  else
    let p := Trig.sqrt p2
    let sc := halley E p absz
    (Trig.atan (sc.1 / sc.2), halleyHeight E p absz sc.1 sc.2)

/-- `transformation.trs2llh` (one row): `lon = arctan2(y, x)`, latitude/height from
`latHeightOf`, then `lat *= sign(z)`. -/
def trs2llh (E : Ellipsoid α) (v : V3 α) : LLH α :=
  let lh := latHeightOf E (v.x * v.x + v.y * v.y) (absOf v.z)
  ⟨lh.1 * signOf v.z, Trig.atan2 v.y v.x, lh.2⟩

end Trs2Llh

/-! ### The ellipsoid attribute flow of `PositionArray` / `PosVelArray`

A position object carries an `ellipsoid` attribute.  Every public operation that returns a new
position object builds it either through NumPy's view machinery (`__array_finalize__`, which
copies `obj.ellipsoid`) or through an explicit constructor call inside a method of
`_position.py`.  Whether such a call forwards the ellipsoid is read off the source by
`translator/extract_geodesy.py` into `Generated/EllipsoidFlow.lean`; the machine below replays an
operation sequence against that table. -/

/-- what a constructor call passes on as `ellipsoid` -/
inductive Fwd
  | keep   -- `ellipsoid=<source object>.ellipsoid` (keyword or second positional argument)
  | drop   -- nothing: the constructor's default (GRS80) applies
  | bad    -- something that is not an ellipsoid of the source object
  deriving Repr, DecidableEq

/-- one constructor call found in a method of `PositionArray` / `PosVelArray` -/
structure Site where
  cls : String
  method : String
  fwd : Fwd
  deriving Repr, DecidableEq

/-- operations on a position object that return a position object -/
inductive Op
  | convert      -- `.llh`, `.trs`, `.kepler`, `to_system`          → `convert_to`
  | sliceRow     -- `p[i]`, `p[a:b]`                                   → `__getitem__`
  | fancy        -- `p[[…]]`, `p[mask]`, `p.view()`, `p.copy()`, `copy.copy`, ufuncs → `__array_finalize__`
  | subset       -- `p.subset(idx, memo)`                              → `subset`
  | addDelta     -- `p + δ`, `p - δ`, `δ + p`, `δ - p`                 → `from_position`
  | deepcopy     -- `copy.deepcopy(p)`                                 → `__deepcopy__`
  | posOf        -- `pv.pos` (PosVelArray only; result is a PositionArray) → `pos`
  | emptyFrom    -- `cls.empty_from(p)`                                → `empty_from`
  | insert       -- `cls.insert(p, k, q, memo)` (ellipsoid of `p`)     → `insert`
  deriving Repr, DecidableEq

/-- the kind of position object -/
inductive PCls | position | posvel
  deriving Repr, DecidableEq

def PCls.name : PCls → String
  | .position => "PositionArray"
  | .posvel => "PosVelArray"

/-- the method whose constructor call produces the result of an operation
(`none`: no explicit constructor call — `__array_finalize__` copies the attribute) -/
def Op.method : Op → Option String
  | .convert => some "convert_to"
  | .sliceRow => some "__getitem__"
  | .fancy => none
  | .subset => some "subset"
  | .addDelta => some "from_position"
  | .deepcopy => some "__deepcopy__"
  | .posOf => some "pos"
  | .emptyFrom => some "empty_from"
  | .insert => some "insert"

/-- sites of a method *defined in* a class -/
def sitesOf (tbl : List Site) (cls m : String) : List Site :=
  tbl.filter (fun s => s.cls == cls && s.method == m)

/-- Python attribute lookup: `PosVelArray` inherits from `PositionArray` -/
def resolve (tbl : List Site) (c : PCls) (m : String) : List Site :=
  match c with
  | .position => sitesOf tbl "PositionArray" m
  | .posvel =>
    let own := sitesOf tbl "PosVelArray" m
    if own.isEmpty then sitesOf tbl "PositionArray" m else own

/-- a position object as far as this half of the property is concerned:
its class and the ellipsoid it is tagged with (`none` = something that is not an ellipsoid) -/
structure PosTag where
  cls : PCls
  ell : Option Nat
  deriving Repr, DecidableEq

/-- index of the default ellipsoid `GRS80` in the ellipsoid table (set by the constructor when
no `ellipsoid=` is passed) -/
def defaultEll : Nat := 0

/-- does the operation exist on this class -/
def Op.applies (o : Op) (c : PCls) : Bool :=
  match o, c with
  | .posOf, .position => false
  | _, _ => true

/-- one step: the tag of the result -/
def step (tbl : List Site) (p : PosTag) (o : Op) : PosTag :=
  if !o.applies p.cls then p else
  let cls' := if o == .posOf then PCls.position else p.cls
  match o.method with
  | none => ⟨cls', p.ell⟩
  | some m =>
    let ss := resolve tbl p.cls m
    if ss.all (fun s => s.fwd == .keep) then ⟨cls', p.ell⟩
    else if ss.any (fun s => s.fwd == .bad) then ⟨cls', none⟩
    else ⟨cls', some defaultEll⟩

/-- replay a sequence -/
def run (tbl : List Site) (p : PosTag) : List Op → PosTag
  | [] => p
  | o :: os => run tbl (step tbl p o) os

/-- the ellipsoids on which the conversions of a sequence are *evaluated*
(`trs2llh`/`llh2trs` read `ellipsoid` off their argument) -/
def convertedOn (tbl : List Site) (p : PosTag) : List Op → List (Option Nat)
  | [] => []
  | o :: os =>
    (if o == .convert then [p.ell] else []) ++ convertedOn tbl (step tbl p o) os

end Midgard.Geo
