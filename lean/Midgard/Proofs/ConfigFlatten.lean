/-
C19: the flattened view against the per-profile store (`flatten` = `_set_sections_for_profiles` of `Model/Config.lean`),
described twice because the property needs both.  As lists, for the text round trip (namespace `ConfigText`): a store whose
keys are all new to the view is appended to it.  Looked up, for profile priority (namespace `Props.C19`, that of the
statements): the view holds for `(section, key)` the entry of the first listed profile that defines it, provided the
section names of each profile and the keys of each section are pairwise different (`StoreWF`), which updates keep.
Mathlib-free.
-/
import Midgard.Proofs.ConfigDict

namespace Midgard.Proofs.ConfigText
open Midgard.Config

/-- what profile `p` itself holds: `_profile_sections.get(p, {})` -/
def storeView (ps : List (Profile × Sections)) (p : Profile) : Sections := (dget? ps p).getD []

theorem mergeSection_append (acc s : Section) (h : ((acc ++ s).map (·.1)).Nodup) : mergeSection acc s = acc ++ s := by
  rw [mergeSection_eq_foldl]
  exact foldl_dset_nodup s acc h

theorem mergeProfile_append (acc P : Sections) (h : ((acc ++ P).map (·.1)).Nodup)
    (hin : ∀ ns ∈ P, (ns.2.map (·.1)).Nodup) : mergeProfile acc P = acc ++ P := by
  induction P generalizing acc with
  | nil => simp [mergeProfile]
  | cons ns t ih =>
    obtain ⟨n, s⟩ := ns
    have hk : n ∉ acc.map (·.1) := Lists.not_mem_of_nodup_append_cons (by simpa using h)
    rw [mergeProfile]
    simp only [dget_eq_none acc n hk, Option.getD_none]
    rw [mergeSection_append [] s (by simpa using hin (n, s) (by simp)), dset_of_not_mem acc n _ hk,
      ih (acc ++ [(n, [] ++ s)]) (by simpa using h) (fun x hx => hin x (List.mem_cons_of_mem _ hx))]
    simp

theorem flatten_none (ps : List (Profile × Sections)) (h : ((storeView ps none).map (·.1)).Nodup)
    (hin : ∀ ns ∈ storeView ps none, (ns.2.map (·.1)).Nodup) : flatten [none] ps = storeView ps none := by
  simp only [flatten, List.reverse_cons, List.reverse_nil, List.nil_append, flattenFrom]
  rw [show (dget? ps none).getD [] = storeView ps none from rfl, mergeProfile_append [] _ (by simpa using h) hin]
  rfl

end Midgard.Proofs.ConfigText

namespace Midgard.Props.C19
open Midgard.Config

def KeysNodup {κ ν} (d : List (κ × ν)) : Prop := (d.map (·.1)).Nodup

theorem mergeSection_get (acc S : Section) (hS : KeysNodup S) (k : String) :
    dget? (mergeSection acc S) k = (dget? S k).orElse (fun _ => dget? acc k) := by
  induction S generalizing acc with
  | nil => simp [mergeSection, dget?]
  | cons q t ih =>
    obtain ⟨k0, e0⟩ := q
    simp only [KeysNodup, List.map_cons, List.nodup_cons] at hS
    simp only [mergeSection, ih (dset acc k0 e0) hS.2, dget_dset, dget?]
    by_cases h : k0 = k
    · subst h
      simp [dget_eq_none t k0 hS.1]
    · simp [h]

/-- lookup of `(section, key)` in a sections dict -/
def dget2 (secs : Sections) (s k : String) : Option Entry := (dget? secs s).bind (dget? · k)

theorem mergeProfile_get (acc P : Sections) (hP : KeysNodup P) (hin : ∀ p ∈ P, KeysNodup p.2) (s k : String) :
    dget2 (mergeProfile acc P) s k = (dget2 P s k).orElse (fun _ => dget2 acc s k) := by
  induction P generalizing acc with
  | nil => simp [mergeProfile, dget2, dget?]
  | cons q t ih =>
    obtain ⟨s0, sec0⟩ := q
    simp only [KeysNodup, List.map_cons, List.nodup_cons] at hP
    have hin' : ∀ p ∈ t, KeysNodup p.2 := fun p hp => hin p (List.mem_cons_of_mem _ hp)
    simp only [mergeProfile]
    rw [ih _ hP.2 hin']
    by_cases h : s0 = s
    · subst h
      have hnone : dget? t s0 = none := dget_eq_none t s0 hP.1
      simp only [dget2, hnone, dget_dset, dget?, if_true, Option.bind_some, Option.bind_none, Option.orElse_none]
      rw [mergeSection_get _ _ (hin (s0, sec0) (by simp))]
      cases hacc : dget? acc s0 <;> simp [dget?]
    · simp [dget2, dget_dset, dget?, h]

/-- the entry the profile `p` itself defines for `(s, k)` -/
def profileEntry (ps : List (Profile × Sections)) (p : Profile) (s k : String) : Option Entry :=
  dget2 ((dget? ps p).getD []) s k

/-- first listed profile that defines `(s, k)` -/
def resolve (ps : List (Profile × Sections)) : List Profile → String → String → Option Entry
  | [], _, _ => none
  | p :: t, s, k => (profileEntry ps p s k).orElse (fun _ => resolve ps t s k)

theorem resolve_append (ps : List (Profile × Sections)) (a b : List Profile) (s k : String) :
    resolve ps (a ++ b) s k = (resolve ps a s k).orElse (fun _ => resolve ps b s k) := by
  induction a with
  | nil => simp [resolve]
  | cons p t ih =>
    simp only [List.cons_append, resolve, ih]
    cases profileEntry ps p s k <;> simp

/-- in every profile of the raw store the section names are pairwise different, and so are the keys of every section
(invariant of `dset`-built dicts); of the profile names nothing is asked, `dget?` takes the first that matches -/
def StoreWF (ps : List (Profile × Sections)) : Prop :=
  ∀ q ∈ ps, KeysNodup q.2 ∧ ∀ sec ∈ q.2, KeysNodup sec.2

theorem flattenFrom_get (ps : List (Profile × Sections)) (hwf : StoreWF ps) (l : List Profile)
    (acc : Sections) (s k : String) :
    dget2 (flattenFrom ps l acc) s k = (resolve ps l.reverse s k).orElse (fun _ => dget2 acc s k) := by
  induction l generalizing acc with
  | nil => simp [flattenFrom, resolve]
  | cons p t ih =>
    simp only [flattenFrom, List.reverse_cons, resolve_append, resolve]
    rw [ih]
    have hP := getD_dget_of_forall (P := fun S : Sections => KeysNodup S ∧ ∀ sec ∈ S, KeysNodup sec.2) ps p []
      ⟨List.nodup_nil, fun _ h => nomatch h⟩ hwf
    rw [mergeProfile_get _ _ hP.1 hP.2]
    simp only [profileEntry]
    cases resolve ps t.reverse s k <;> cases dget2 ((dget? ps p).getD []) s k <;> simp

theorem updateRaw_wf (c c' : Cfg) (u : Upd) (hwf : StoreWF c.profileSections) (h : c.updateRaw u = .ok c') :
    StoreWF c'.profileSections ∧ c'.profiles = c.profiles ∧ c'.sections = c.sections := by
  simp only [Cfg.updateRaw] at h
  split at h
  · cases h
  · cases h
    refine ⟨fun q hq => ?_, rfl, rfl⟩
    have hps := getD_dget_of_forall (P := fun S : Sections => KeysNodup S ∧ ∀ sec ∈ S, KeysNodup sec.2)
      c.profileSections u.profile [] ⟨List.nodup_nil, fun _ h => nomatch h⟩ hwf
    rcases mem_dset _ _ _ _ hq with rfl | hq
    · refine ⟨nodup_dset _ _ _ hps.1, fun sec hsec => ?_⟩
      rcases mem_dset _ _ _ _ hsec with rfl | hsec
      · exact nodup_dset _ _ _ (getD_dget_of_forall (P := KeysNodup) _ u.sect [] List.nodup_nil hps.2)
      · exact hps.2 sec hsec
    · exact hwf q hq

/-- the invariant of every history: the store has pairwise different keys at every level below the profiles, and the
flattened view is `flatten` of the store for the current profile list -/
def Good (c : Cfg) : Prop :=
  StoreWF c.profileSections ∧ c.sections = flatten c.profiles c.profileSections

theorem refresh_good (c : Cfg) (hwf : StoreWF c.profileSections) : Good c.refresh := ⟨hwf, rfl⟩

theorem updateMany_good (skip : Bool) (l : List (String × Upd)) (c : Cfg) (done : List String)
    (hwf : StoreWF c.profileSections) : Good (c.updateMany skip l done).1 := by
  induction l generalizing c done with
  | nil => exact refresh_good c hwf
  | cons q t ih =>
    obtain ⟨tag, u⟩ := q
    simp only [Cfg.updateMany]
    cases h : c.updateRaw u with
    | ok c' => exact ih c' _ (updateRaw_wf c c' u hwf h).1
    | error e =>
      simp only
      split
      · exact ih c done hwf
      · exact refresh_good c hwf

theorem optionsLoop_good (profile : Profile) (source : String) (allowNew : Bool) (l : List String)
    (c : Cfg) (done : List String) (hwf : StoreWF c.profileSections) :
    Good (c.optionsLoop profile source allowNew l done).1 := by
  induction l generalizing c done with
  | nil => exact refresh_good c hwf
  | cons o t ih =>
    simp only [Cfg.optionsLoop]
    split
    · exact ih c done hwf
    · split
      · exact ih c done hwf
      · split
        · exact refresh_good c hwf
        · split
          · rename_i c' h; exact ih c' _ (updateRaw_wf c c' _ hwf h).1
          · split
            · exact ih c done hwf
            · exact refresh_good c hwf

end Midgard.Props.C19

#print axioms Midgard.Props.C19.mergeSection_get
#print axioms Midgard.Props.C19.mergeProfile_get
#print axioms Midgard.Props.C19.resolve_append
#print axioms Midgard.Props.C19.flattenFrom_get
#print axioms Midgard.Props.C19.updateRaw_wf
#print axioms Midgard.Props.C19.refresh_good
#print axioms Midgard.Props.C19.updateMany_good
#print axioms Midgard.Props.C19.optionsLoop_good
