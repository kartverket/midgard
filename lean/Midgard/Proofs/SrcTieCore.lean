/-
The tactic behind the `source_*` theorems: equality of a definition regenerated from the Python source
(`Generated/SourceExprs*.lean`) with the hand-written model definition.
-/
import Mathlib.Tactic.NormNum.Basic
import Mathlib.Tactic.Ring

open Lean.Parser.Tactic in
/-- the tie tactic: definitional equality first (the source is what the model mirrors, statement by statement);
otherwise unfold both sides with the definitions given, split pairs (and the records whose `mk.injEq` is given with the
definitions) and compare component by component as expressions over a field (an algebraically equivalent rewrite of the
source is accepted, anything else is not) -/
macro "src_tie_with" "[" ds:simpLemma,* "]" : tactic =>
  `(tactic| first
    | rfl
    | (simp only [$ds,*, Prod.mk.injEq]
       <;> (repeat' constructor)
       <;> ((try norm_num1) <;> (first | rfl | ring_nf))))
