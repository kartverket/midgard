/-
The column store `data["obs" | "cycle_slip" | "signal_strength"]` of both parsers in closed form: one column `f t` per
observation type of a list (`Cols`), so that appending a record and declaring a type are equations between functions of the type.
-/
import Midgard.Spec.Rinex3ObsFile
import Midgard.Proofs.RinexObs

namespace Midgard.Spec.Rinex3ObsFile
open Midgard.Text Midgard.FixedCol Midgard.Decimal Midgard.ChainParser Midgard.RinexObs Midgard.Rinex3Obs

def Cols (all : List Str) (f : Str → Col) : List (Str × Col) := all.map fun t => (t, f t)

def EmptyCols (d : Data) (all : List Str) : Prop :=
  d.obs = Cols all (fun _ => []) ∧ d.lli = Cols all (fun _ => []) ∧ d.snr = Cols all (fun _ => [])

end Midgard.Spec.Rinex3ObsFile

namespace Midgard.RinexObs
open Midgard.Text Midgard.FixedCol Midgard.Decimal Midgard.ChainParser Midgard.RinexObs Midgard.Rinex3Obs
open Midgard.Spec.Rinex3ObsFile

theorem appendUnder_cols (l : List (Str × Option Rat)) (all : List Str) (f : Str → Col) :
    appendUnder l (Cols all f) = Cols all fun t => f t ++ under l t := by
  simp [appendUnder, Cols, List.map_map, Function.comp_def]

theorem any_cols {all : List Str} {t : Str} (ht : t ∈ all) (f : Str → Col) : (Cols all f).any (·.1 == t) = true := by
  simp only [Cols, List.any_map, List.any_eq_true]
  exact ⟨t, ht, by simp⟩

theorem appendAll_cols (all : List Str) (ts : List (Str × Option Rat × Option Rat × Option Rat)) (d : Data)
    (fo fl fs : Str → Col) (ho : d.obs = Cols all fo) (hl : d.lli = Cols all fl) (hs : d.snr = Cols all fs)
    (hx : ∀ x ∈ ts, x.1 ∈ all) :
    appendAll d ts = .ok { d with
      obs := Cols all fun t => fo t ++ under (ts.map fun x => (x.1, x.2.1)) t,
      lli := Cols all fun t => fl t ++ under (ts.map fun x => (x.1, x.2.2.1)) t,
      snr := Cols all fun t => fs t ++ under (ts.map fun x => (x.1, x.2.2.2)) t } := by
  rw [appendAll_eq, List.all_eq_true.mpr fun x h => by simp [Data.hasType, ho, hl, hs, any_cols (hx x h)], if_pos rfl]
  simp only [Data.appendUnder, ho, hl, hs, appendUnder_cols]

theorem find_zip_none {types : List Str} {obs : List Obs} {t : Str} (h : t ∉ types) :
    (types.zip obs).find? (·.1 == t) = none := by
  rw [List.find?_eq_none]
  intro x hx
  have : x.1 ∈ types := (List.of_mem_zip hx).1
  simp only [beq_iff_eq]
  intro e; exact h (e ▸ this)

theorem Cols_congr {all : List Str} {f g : Str → Col} (h : ∀ t ∈ all, f t = g t) : Cols all f = Cols all g :=
  List.map_congr_left fun t ht => by rw [h t ht]

theorem zip_fst_mem {β γ} (types : List Str) (obs : List β) (F : Str × β → γ) :
    ∀ x ∈ (types.zip obs).map (fun to => (to.1, F to)), x.1 ∈ types := by
  intro x hx
  obtain ⟨to, hto, rfl⟩ := List.mem_map.mp hx
  exact (List.of_mem_zip hto).1

/-- what a record's `(type, value)` list puts under column `t`: one entry if the record has the type, none otherwise -/
theorem under_zip (sel : Obs → Option Rat) : ∀ (types : List Str) (obs : List Obs), types.Nodup →
    types.length = obs.length → ∀ (t : Str),
    under ((types.zip obs).map fun to => (to.1, sel to.2)) t =
      if t ∈ types then [((types.zip obs).find? (·.1 == t)).bind fun x => sel x.2] else []
  | [], _, _, _, _ => rfl
  | _ :: _, [], _, hl, _ => by simp at hl
  | n :: ns, o :: os, hnd, hl, t => by
    rw [List.nodup_cons] at hnd
    have ih := under_zip sel ns os hnd.2 (by simpa using hl) t
    simp only [under] at ih
    simp only [List.zip_cons_cons, List.map_cons, under, List.filter_cons, List.find?_cons, List.mem_cons]
    by_cases h : n = t
    · subst h
      simp [hnd.1] at ih
      simp
      exact ih
    · have h' : ¬ t = n := fun e => h e.symm
      have hb : (n == t) = false := by simp [h]
      simp [h, h', hb, ih]

theorem under_none_nodup : ∀ (us : List Str), us.Nodup → (t : Str) →
    under (us.map fun u => (u, (none : Option Rat))) t = if t ∈ us then [none] else [] := by
  intro us
  induction us with
  | nil => intro _ t; rfl
  | cons u us ih =>
    intro hnd t
    rw [List.nodup_cons] at hnd
    have := ih hnd.2 t
    simp only [under] at this ⊢
    simp only [List.map_cons, List.filter_cons]
    by_cases h : u = t
    · subst h
      simp [hnd.1] at this
      simp
      exact this
    · have h' : ¬ t = u := fun e => h e.symm
      simp [h, h', this]

theorem data_eq_empty (d : Data) (all : List Str) (h : EmptyCols d all)
    (hr : rowCols d = ([], [], [], [], [], [], [])) (hm : d.timeMicros = []) :
    d = { d with obs := Cols all (fun _ => []), lli := Cols all (fun _ => []), snr := Cols all (fun _ => []), time := [],
                 timeMicros := [], epochFlag := [], clk := [], station := [], system := [], satellite := [], satnum := [] } := by
  obtain ⟨c1, c2, c3⟩ := h
  simp only [rowCols, Prod.mk.injEq] at hr
  obtain ⟨r1, r2, r3, r4, r5, r6, r7⟩ := hr
  cases d
  simp only at c1 c2 c3 r1 r2 r3 r4 r5 r6 r7 hm
  subst c1 c2 c3 r1 r2 r3 r4 r5 r6 r7 hm
  rfl

theorem addType_nodup {l : List Str} (h : l.Nodup) (t : Str) : (addType l t).Nodup := by
  unfold addType
  cases hc : l.contains t with
  | true => simpa using h
  | false =>
    have hn : t ∉ l := by simpa using hc
    simp only [Bool.false_eq_true, if_false]
    rw [List.nodup_append]
    refine ⟨h, by simp, ?_⟩
    intro a ha b hb
    simp only [List.mem_cons, List.not_mem_nil, or_false] at hb
    subst hb
    intro e; exact hn (e ▸ ha)

theorem foldl_addType_nodup : ∀ (ts acc : List Str), acc.Nodup → (ts.foldl addType acc).Nodup := by
  intro ts
  induction ts with
  | nil => intro acc h; exact h
  | cons t ts ih => intro acc h; exact ih _ (addType_nodup h t)

theorem mem_addType {l : List Str} {t x : Str} (h : x ∈ l ∨ x = t) : x ∈ addType l t := by
  unfold addType
  cases hc : l.contains t with
  | true =>
    simp only [if_true]
    rcases h with h | h
    · exact h
    · subst h; simpa using hc
  | false =>
    simp only [Bool.false_eq_true, if_false, List.mem_append, List.mem_cons, List.not_mem_nil, or_false]
    exact h

theorem mem_foldl_addType : ∀ (ts acc : List Str) (x : Str), x ∈ acc ∨ x ∈ ts → x ∈ ts.foldl addType acc := by
  intro ts
  induction ts with
  | nil => intro acc x h; simpa using h
  | cons t ts ih =>
    intro acc x h
    apply ih
    rcases h with h | h
    · left; exact mem_addType (Or.inl h)
    · rcases List.mem_cons.mp h with rfl | h'
      · left; exact mem_addType (Or.inr rfl)
      · right; exact h'

theorem foldl_addType_self : ∀ (l acc : List Str), (acc ++ l).Nodup → l.foldl addType acc = acc ++ l := by
  intro l
  induction l with
  | nil => intro acc _; simp
  | cons t l ih =>
    intro acc h
    have hnot : acc.contains t = false := by
      have := (List.nodup_append.mp h).2.2
      cases hc : acc.contains t with
      | false => rfl
      | true =>
        have hm : t ∈ acc := by simpa using hc
        exact absurd rfl (this t hm t (by simp))
    have : addType acc t = acc ++ [t] := by unfold addType; rw [hnot]; rfl
    rw [List.foldl_cons, this, ih (acc ++ [t]) (by simpa [List.append_assoc] using h)]
    simp [List.append_assoc]

theorem colSetEmpty_cols (all : List Str) (t : Str) :
    colSetEmpty (Cols all (fun _ => [])) t = Cols (addType all t) (fun _ => []) := by
  unfold colSetEmpty addType
  have hany : (Cols all (fun _ => ([] : Col))).any (·.1 == t) = all.contains t := by
    simp only [Cols, List.any_map, Function.comp_def]
    induction all with
    | nil => rfl
    | cons a all ih => simp only [List.any_cons, List.contains_cons, ih]; rw [Bool.beq_comm]
  rw [hany]
  cases hc : all.contains t with
  | true =>
    simp only [if_true, Cols, List.map_map]
    apply List.map_congr_left
    intro x _
    by_cases hx : x = t <;> simp [hx]
  | false => simp [Cols]

theorem declareType_empty (d : Data) (all : List Str) (t : Str) (h : EmptyCols d all) :
    EmptyCols (d.declareType t) (addType all t) := by
  obtain ⟨h1, h2, h3⟩ := h
  unfold Data.declareType
  refine ⟨?_, ?_, ?_⟩
  · show colSetEmpty d.obs t = _; rw [h1, colSetEmpty_cols]
  · show colSetEmpty d.lli t = _; rw [h2, colSetEmpty_cols]
  · show colSetEmpty d.snr t = _; rw [h3, colSetEmpty_cols]

end Midgard.RinexObs
