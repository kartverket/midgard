/-
C19, text round trip: writing a configuration with `as_str` and reading the text with `update_from_file` gives the
configuration back; the text form does not contain the sources.  Mathlib-free.
-/
import Midgard.Proofs.ConfigStore

namespace Midgard.Proofs.ConfigText
open Midgard.Config

theorem fileUpdates_raw (lower : Bool) (w kw : Nat) (src : String) (allowNew : Bool) (secs : Sections)
    (hsec : ∀ ns ∈ secs, wfSectionB lower w kw ns.1 ns.2 = true) (raw : List (String × List RawOpt))
    (h : raw.map normSec = secs.map (fun ns => (ns.1, flatOpts ns.2))) :
    fileUpdates src allowNew raw = secs.flatMap (fun ns => ns.2.map (updOf src allowNew ns.1)) := by
  rw [fileUpdates_norm, h, List.flatMap_map]
  exact Lists.flatMap_congr fun ns hns => by
    obtain ⟨hn, _, hs, hk⟩ := wfSection_parts (hsec ns hns)
    exact sectionUpdatesN_flatOpts src allowNew ns.1 ns.2 hn (fun ke hke => plainKey_of_wfEntry (hs ke hke)) hk

theorem readIniRaw_empty (lower : Bool) (w kw : Nat) : readIniRaw lower (asStr w kw [] ++ "\n") = .ok [] := by
  have h : (asStr w kw [] ++ "\n").toList = ['\n'] := by
    simp only [asStr, String.toList_append, String.toList_ofList]
    rfl
  rw [readIniRaw_eq, h]
  have hs : splitLines ['\n'] = [[], []] := rfl
  rw [hs, readLines_cons lower _ _ [] _ (readLine_blank lower _), readLines_cons lower _ _ [] _ (readLine_blank lower _)]
  rfl

theorem updateFromText_asStr (c : Cfg) (caseSensitive : Bool) (w kw : Nat) (secs : Sections)
    (hwf : WfText (!caseSensitive) w kw secs = true) (src : String) (allowNew : Bool) :
    c.updateFromText (asStr w kw secs ++ "\n") src allowNew caseSensitive =
      .ok ((c.updateMany false (secs.flatMap fun ns => ns.2.map (updOf src allowNew ns.1)) []).1,
           (c.updateMany false (secs.flatMap fun ns => ns.2.map (updOf src allowNew ns.1)) []).2.1) := by
  obtain ⟨hsec, _⟩ := wfText_parts hwf
  obtain ⟨raw, hraw, hrs⟩ : ∃ raw, readIniRaw (!caseSensitive) (asStr w kw secs ++ "\n") = .ok raw ∧
      raw.map normSec = secs.map (fun ns => (ns.1, flatOpts ns.2)) := by
    cases secs with
    | nil => exact ⟨[], readIniRaw_empty _ w kw, rfl⟩
    | cons a t => exact read_asStr _ w kw (a :: t) (by simp) hwf
  simp only [Cfg.updateFromText, hraw, Except.map,
    fileUpdates_raw (!caseSensitive) w kw src allowNew secs hsec raw hrs]

theorem text_roundtrip_main (caseSensitive : Bool) (w kw : Nat) (secs : Sections)
    (hwf : WfText (!caseSensitive) w kw secs = true) (name src : String) :
    ∃ c', (Cfg.new name).updateFromText (asStr w kw secs ++ "\n") src true caseSensitive = .ok (c', none) ∧
      c'.name = name ∧ c'.profiles = [none] ∧ c'.master = none ∧ c'.vars = [] ∧
      (∀ p, storeView c'.profileSections p = readBack src p secs) ∧
      c'.sections = readBack src none secs := by
  obtain ⟨hsec, hnd⟩ := wfText_parts hwf
  obtain ⟨n, hc, he⟩ := updateMany_ok (secs.flatMap fun ns => ns.2.map (updOf src true ns.1))
    (by intro tu htu
        obtain ⟨ns, _, htu'⟩ := List.mem_flatMap.1 htu
        obtain ⟨ke, _, rfl⟩ := List.mem_map.1 htu'
        rfl) (Cfg.new name) []
  have hstore := store_file src true secs [] [] (fun q => by simp [storeView, readBack_nil, dget?]) (by simpa using hnd)
    fun ns hns => ⟨(wfSection_parts (hsec ns hns)).2.1, (wfSection_parts (hsec ns hns)).2.2.2⟩
  simp only [List.nil_append] at hstore
  refine ⟨_, by rw [updateFromText_asStr _ _ _ _ _ hwf, he], ?_⟩
  rw [hc]
  refine ⟨rfl, rfl, rfl, rfl, hstore, ?_⟩
  show flatten [none] ((secs.flatMap fun ns => ns.2.map (updOf src true ns.1)).foldl (fun ps tu => putU ps tu.2) []) = _
  rw [flatten_none _ (by rw [hstore]; exact readBack_nodup src none secs hnd)
    (by rw [hstore]; exact readBack_inner_nodup src none secs fun ns hns => (wfSection_parts (hsec ns hns)).2.2.2),
    hstore]

/-- `text_roundtrip_plain` of `Props/C19.lean`, where it is said in words -/
theorem text_roundtrip_plain_main (caseSensitive : Bool) (w kw : Nat) (secs : Sections)
    (hwf : WfText (!caseSensitive) w kw secs = true)
    (hplain : ∀ ns ∈ secs, (partDunder ns.1.toList).2.1 = false) (name src : String) :
    ∃ c', (Cfg.new name).updateFromText (asStr w kw secs ++ "\n") src true caseSensitive = .ok (c', none) ∧
      c'.sections = secs.map (fun ns => (ns.1, ns.2.map (fun ke => (ke.1, ⟨ke.2.value, src, ke.2.metas⟩)))) := by
  obtain ⟨c', h1, _, _, _, _, _, h7⟩ := text_roundtrip_main caseSensitive w kw secs hwf name src
  refine ⟨c', h1, ?_⟩
  rw [h7, readBack]
  have hf : secs.filter (fun ns => decide (profileOf ns.1 = none)) = secs := by
    apply List.filter_eq_self.2
    intro ns hns
    simp [profileOf, hplain ns hns]
  rw [hf]
  apply List.map_congr_left
  intro ns hns
  simp only [baseOf, partDunder_plain _ (hplain ns hns), String.ofList_toList, readEntry, sourceFor]

end Midgard.Proofs.ConfigText

namespace Midgard.Props.C19
open Midgard.Config

theorem sectionStr_ignores_source (w kw : Nat) (n : String) (s : Section) (src : String) :
    sectionStr w kw n (s.map (fun ke => (ke.1, (⟨ke.2.value, src, ke.2.metas⟩ : Entry)))) = sectionStr w kw n s := by
  simp only [sectionStr, List.map_map]
  rfl

theorem asStr_ignores_source (w kw : Nat) (secs : Sections) (src : String) :
    asStr w kw (secs.map (fun ns => (ns.1, ns.2.map (fun ke => (ke.1, (⟨ke.2.value, src, ke.2.metas⟩ : Entry)))))) =
      asStr w kw secs := by
  simp only [asStr, List.map_map]
  congr 3
  apply List.map_congr_left
  intro ns _
  exact sectionStr_ignores_source w kw ns.1 ns.2 src

end Midgard.Props.C19

#print axioms Midgard.Props.C19.sectionStr_ignores_source
#print axioms Midgard.Props.C19.asStr_ignores_source
