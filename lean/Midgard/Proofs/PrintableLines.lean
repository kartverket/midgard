/-
Lines of printable text, for the file proofs of SP3 and RINEX navigation (whose writers share `joinLines` and `okText` of
`Spec/Sp3File.lean`): a text built by `joinLines` from printable lines splits back into its lines (`Proofs/Lines.lean`) and
contains no carriage return; `okText` of padded cells, rendered layouts and printed numbers.  Core Lean only.
-/
import Midgard.Spec.Sp3File
import Midgard.Proofs.Lines
import Midgard.Proofs.FixedCol
import Midgard.Proofs.NumText

namespace Midgard.Printable
open Midgard.Text Midgard.Decimal Midgard.FixedCol Midgard.Sp3 Midgard.Spec.NumText
open Midgard.Spec.Sp3File (joinLines okText)

theorem joinLines_eq : joinLines = joinNl := eq_joinNl rfl fun _ _ => rfl

end Midgard.Printable

namespace Midgard.Spec.Sp3File
open Midgard.Text Midgard.Decimal Midgard.FixedCol Midgard.Sp3 Midgard.Spec.NumText

theorem splitOn_joinLines (ls : List Str) (h : ∀ l ∈ ls, ∀ c ∈ l, c ≠ '\n') :
    splitOn '\n' (joinLines ls) = ls ++ [[]] :=
  Printable.joinLines_eq ▸ splitOn_joinNl_closed ls h

end Midgard.Spec.Sp3File

namespace Midgard.Printable
open Midgard.Text Midgard.Decimal Midgard.FixedCol Midgard.Sp3 Midgard.Spec.NumText
open Midgard.Spec.Sp3File (joinLines okText splitOn_joinLines)

theorem okText_append (a b : Str) : okText (a ++ b) = (okText a && okText b) := List.all_append

theorem okText_blanks (n : Nat) : okText (blanks n) = true := by
  simp [okText, blanks]

theorem okText_cons {c : Char} {s : Str} (hc : okText [c] = true) (hs : okText s = true) : okText (c :: s) = true := by
  rw [← List.singleton_append, okText_append, hc, hs]; rfl

theorem okText_rstrip {s : Str} (h : okText s = true) : okText (rstrip s) = true := by
  obtain ⟨ws, hs, _⟩ := rstrip_decomp s
  rw [hs, okText_append, Bool.and_eq_true] at h
  exact h.1

theorem okText_rjust (w : Nat) {s : Str} (h : okText s = true) : okText (rjust w s) = true := by
  rw [rjust, okText_append, okText_blanks, h]; rfl

theorem okText_ljust (w : Nat) {s : Str} (h : okText s = true) : okText (ljust w s) = true := by
  rw [ljust, okText_append, okText_blanks, h]; rfl

theorem okText_renderFrom (L : Layout) (pos : Nat) (cells : List (Align × Str))
    (h : ∀ cell ∈ cells, okText cell.2 = true) : okText (renderFrom pos L cells) = true :=
  List.all_eq_true.mpr (forall_renderFrom (by decide) L pos cells fun cell hc => List.all_eq_true.mp (h cell hc))

theorem okText_numChars {s : Str} (h : ∀ c ∈ s, isNumChar c = true) : okText s = true := by
  rw [okText, List.all_eq_true]
  intro c hc
  have := numChar_range (h c hc)
  simp only [Bool.and_eq_true, decide_eq_true_eq]
  omega

theorem okText_fmtInt (i : Int) : okText (fmtInt i) = true := okText_numChars (fun _ hc => mem_fmtInt hc)
theorem okText_fmtDec (p : Nat) (n : Int) : okText (fmtDec p n) = true := okText_numChars (numChars_fmtDec p n)
theorem okText_natDigits (n : Nat) : okText (natDigits n) = true := okText_numChars (numChars_natDigits n)

theorem okText_fixedDigits (p n : Nat) : okText (fixedDigits p n) = true :=
  okText_numChars (fun c hc => by simp [isNumChar, isDigit_of_mem (allDigits_fixedDigits p n) hc])

theorem okText_no_break {s : Str} (h : okText s = true) : ∀ c ∈ s, c ≠ '\n' ∧ c ≠ '\r' := by
  intro c hc
  have := List.all_eq_true.mp h c hc
  simp only [Bool.and_eq_true, decide_eq_true_eq] at this
  constructor <;> (rintro rfl; revert this; decide)

theorem isSpace_of_okText {c : Char} (h : okText [c] = true) (hc : c ≠ ' ') : isSpace c = false := by
  simp only [okText, List.all_cons, List.all_nil, Bool.and_true, Bool.and_eq_true, decide_eq_true_eq] at h
  cases hs : isSpace c with
  | false => rfl
  | true =>
    -- the codes of `isSpace`: 32, 9, 10, 13, 11, 12, 28 … 31; only 32 is printable
    simp only [isSpace, Bool.or_eq_true, decide_eq_true_eq, Bool.and_eq_true] at hs
    rcases hs with ((((((e | e) | e) | e) | e) | e) | e)
    · exact absurd e hc
    · rw [e] at h; revert h; decide
    · rw [e] at h; revert h; decide
    · rw [e] at h; revert h; decide
    · omega
    · omega
    · omega

theorem splitOn_joinLines_ok (ls : List Str) (h : ∀ l ∈ ls, okText l = true) :
    splitOn '\n' (joinLines ls) = ls ++ [[]] :=
  splitOn_joinLines ls fun l hl c hc => (okText_no_break (h l hl) c hc).1

theorem joinLines_noCR : ∀ (ls : List Str), (∀ l ∈ ls, okText l = true) → ∀ c ∈ joinLines ls, c ≠ '\r'
  | [], _, c, hc => by simp [joinLines] at hc
  | l :: ls, h, c, hc => by
    simp only [joinLines, List.mem_append, List.mem_cons] at hc
    rcases hc with hc | rfl | hc
    · exact (okText_no_break (h l (by simp)) c hc).2
    · decide
    · exact joinLines_noCR ls (fun m hm => h m (by simp [hm])) c hc

end Midgard.Printable
