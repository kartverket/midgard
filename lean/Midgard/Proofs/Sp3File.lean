/-
The lines of a rendered SP3 file below the header (`Proofs/Sp3Header.lean`): the segmentation into the header and the epoch
blocks by `splitBlocksAux`, the epoch line, the position record line, which lines of a block deliver nothing; every rendered
line is printable, hence free of line feeds and carriage returns (line splitting and printable text in general:
`Proofs/PrintableLines.lean`).  Core Lean only.
-/
import Midgard.Proofs.RecordGroups
import Midgard.Proofs.Split
import Midgard.Proofs.Sp3Header

namespace Midgard.Spec.Sp3File
open Midgard.Text Midgard.Decimal Midgard.FixedCol Midgard.Sp3 Midgard.Spec.NumText Midgard.Printable

theorem File.wf_iff (F : File) : F.wf = true ↔
    F.hdr.wf = true ∧ (∀ b ∈ F.epochs, ∀ r ∈ b.recs, r.wf = true) ∧ distinct (F.epochs.map (·.epoch)) = true := by
  simp only [File.wf, Bool.and_eq_true, List.all_eq_true, and_assoc]

theorem extras_ok (r : PosRec) (hr : r.wf = true) : ∀ x ∈ r.extras, okExtra x = true := by
  simp only [PosRec.wf, Bool.and_eq_true, List.all_eq_true] at hr
  exact hr.2

/-- the line opens an epoch block -/
def Star (l : Str) : Prop := l.take 1 = ['*']

theorem splitBlocks_groupsBefore : GroupsBefore Star splitBlocksAux :=
  ⟨rfl, fun _ _ => rfl, fun _ _ _ _ h => if_pos h, fun _ _ _ _ h => if_neg h⟩

/-- `GroupsBefore.groups` for `splitBlocksAux`: the leading lines are the header, the groups the epoch blocks -/
theorem splitBlocks_groups (bs : List (List Str)) (t : List Str) (ht : ∀ x ∈ t, ¬ Star x)
    (hbs : ∀ b ∈ bs, ∃ s body, b = s :: body ∧ Star s ∧ ∀ x ∈ body, ¬ Star x) :
    ∀ (h0 : Str) (body0 : List Str), (∀ x ∈ body0, ¬ Star x) →
      splitBlocksAux (h0 :: body0 ++ bs.flatten ++ t) [] = attachLast ((h0 :: body0) :: bs) t :=
  splitBlocks_groupsBefore.groups bs t ht hbs

theorem star_rstrip (l : Str) : Star (rstrip l) ↔ Star l := take_rstrip (p := ['*']) (by decide) l

theorem token_of_numChars {s : Str} (hne : s ≠ []) (h : ∀ c ∈ s, isNumChar c = true) : Token s = true := by
  unfold Token
  have h1 : s.isEmpty = false := by cases s <;> simp_all
  simp only [h1, Bool.not_false, Bool.true_and, List.all_eq_true, Bool.not_eq_eq_eq_not, Bool.not_true]
  exact fun c hc => isSpace_of_isNumChar (h c hc)

theorem token_fmtInt (i : Int) : Token (fmtInt i) = true :=
  token_of_numChars (fmtInt_ne_nil i) (fun _ hc => mem_fmtInt hc)

theorem token_fmtDec (p : Nat) (n : Int) : Token (fmtDec p n) = true :=
  token_of_numChars (fmtDec_ne_nil p n) (numChars_fmtDec p n)

/-- the epoch line as blank-separated tokens -/
def epochPads (e : Epoch) : List (Str × Str) :=
  [([], ['*']),
   (' ' :: ' ' :: blanks (4 - (fmtInt e.year).length), fmtInt e.year),
   (' ' :: blanks (2 - (fmtInt e.month).length), fmtInt e.month),
   (' ' :: blanks (2 - (fmtInt e.day).length), fmtInt e.day),
   (' ' :: blanks (2 - (fmtInt e.hour).length), fmtInt e.hour),
   (' ' :: blanks (2 - (fmtInt e.minute).length), fmtInt e.minute),
   (' ' :: blanks (11 - (fmtDec 8 (e.sec7 * 10)).length), fmtDec 8 (e.sec7 * 10))]

theorem epochLine_padded (e : Epoch) : epochLine e = padded (epochPads e) := by
  simp [epochLine, epochPads, padded, rjust, List.append_assoc]

theorem epochPads_ok (e : Epoch) : PadsOk (epochPads e) = true := by
  have b2 : ∀ n, isBlank (' ' :: ' ' :: blanks n) = true := by
    intro n
    have := isBlank_cons_blanks n
    simp only [isBlank, List.all_cons, Bool.and_eq_true] at this ⊢
    exact ⟨by decide, this⟩
  have tstar : Token ['*'] = true := by decide
  have bnil : isBlank ([] : Str) = true := rfl
  simp [epochPads, PadsOk, isBlank_cons_blanks, b2, token_fmtInt, token_fmtDec, tstar, bnil]

theorem split_epochLine (e : Epoch) :
    split (epochLine e) = [['*'], fmtInt e.year, fmtInt e.month, fmtInt e.day, fmtInt e.hour, fmtInt e.minute,
      fmtDec 8 (e.sec7 * 10)] := by
  rw [epochLine_padded, split_padded _ (epochPads_ok e)]
  rfl

theorem sec7_back (n : Int) : roundHalfEven (decVal 8 (n * 10) * 10000000) = n := by
  have h : decVal 8 (n * 10) * 10000000 = (n : Rat) := by
    unfold decVal pow10
    rw [Rat.intCast_mul]
    have : ((10 ^ 8 : Nat) : Rat) = 100000000 := by decide +kernel
    rw [this]
    grind
  rw [h, rhe_int]

theorem parseDate_epochLine (e : Epoch) :
    parseDate [Option.none, some "year", some "month", some "day", some "hour", some "minute", some "second"]
      (strip (rstrip (epochLine e))) = some e := by
  unfold parseDate
  rw [split_strip, split_rstrip, split_epochLine]
  simp [parseInt_fmtInt, parseFloat_fmtDec, sec7_back]

theorem star_epochLine (e : Epoch) : Star (rstrip (epochLine e)) := (star_rstrip _).mpr rfl

theorem distinct_cons (e : Epoch) (es : List Epoch) : distinct (e :: es) = true ↔ e ∉ es ∧ distinct es = true := by
  simp [distinct]

theorem rstrip_posLine (r : PosRec) : rstrip (posLine r) = rstrip (posFull r) := by
  unfold posLine
  split
  · rfl
  · exact rstrip_idem _

theorem head_posLine (r : PosRec) : (rstrip (posLine r)).take 1 = ['P'] := by
  rw [rstrip_posLine]
  exact (take_rstrip (p := ['P']) (by decide) _).mpr rfl

theorem acc_wf_of (r : PosRec) (hr : r.wf = true) : (r.acc.getD noAcc).wf = true := by
  simp only [PosRec.wf, Bool.and_eq_true] at hr
  cases ha : r.acc with
  | none => decide
  | some a =>
    have := hr.1.2
    rw [ha] at this
    simpa using this

/-- an F14.6 field: seven integer digits, or a sign and six -/
theorem length_f14 {n : Int} (h : okF14 n = true) : (fmtDec 6 n).length ≤ 14 := by
  simp only [okF14, Bool.and_eq_true, decide_eq_true_eq] at h
  by_cases hn : n < 0
  · have := length_fmtDec_le 6 6 n (by decide) (by omega)
    simp only [hn, if_true] at this
    omega
  · have := length_fmtDec_le 6 7 n (by decide) (by omega)
    simp only [hn, if_false] at this
    omega

theorem clean_codeText (c : Option Nat) : Clean (codeText c) = true := by
  cases c with
  | none => rfl
  | some k => exact clean_of_numChars (numChars_natDigits k)

theorem length_codeText {w : Nat} (hw : 0 < w) {c : Option Nat} (h : okCode w c = true) : (codeText c).length ≤ w := by
  cases c with
  | none => simp [codeText]
  | some k =>
    simp only [okCode, decide_eq_true_eq] at h
    exact (length_natDigits_le_iff w k hw).mpr h

def posTexts (r : PosRec) : List Str :=
  let a := r.acc.getD noAcc
  [r.sat, fmtDec 6 r.x, fmtDec 6 r.y, fmtDec 6 r.z, fmtDec 6 r.clk, codeText a.sx, codeText a.sy, codeText a.sz,
   codeText a.sclk] ++ a.flags

theorem posCells_texts (r : PosRec) : (posCells r).map (·.2) = posTexts r := by
  simp [posCells, posTexts, Lft, R, List.map_map, Function.comp_def]

theorem fits_posCells (r : PosRec) (hr : r.wf = true) : Fits Spec.Sp3.recP (posCells r) = true := by
  have ha := acc_wf_of r hr
  simp only [PosRec.wf, Bool.and_eq_true, okCell, decide_eq_true_eq] at hr
  obtain ⟨⟨⟨⟨⟨⟨⟨⟨_, hsc⟩, hsl⟩, hx⟩, hy⟩, hz⟩, hc⟩, _⟩, _⟩ := hr
  simp only [Acc.wf, Bool.and_eq_true] at ha
  obtain ⟨⟨⟨⟨h1, h2⟩, h3⟩, h4⟩, hfl⟩ := ha
  have hflags := okCells_fits Lft (fun _ => rfl) (Spec.Sp3.recP.drop 9) (r.acc.getD noAcc).flags hfl
  unfold Spec.Sp3.recP at hflags ⊢
  simp only [List.drop_succ_cons, List.drop_zero] at hflags
  simp only [posCells, Lft, R, List.cons_append, List.nil_append, fits_cons_iff, Field.width]
  exact ⟨hsl, hsc, length_f14 hx, clean_of_numChars (numChars_fmtDec _ _), length_f14 hy, clean_of_numChars (numChars_fmtDec _ _),
    length_f14 hz, clean_of_numChars (numChars_fmtDec _ _), length_f14 hc, clean_of_numChars (numChars_fmtDec _ _),
    length_codeText (by decide) h1, clean_codeText _, length_codeText (by decide) h2, clean_codeText _,
    length_codeText (by decide) h3, clean_codeText _, length_codeText (by decide) h4, clean_codeText _, hflags⟩

theorem pos_fields (r : PosRec) (hr : r.wf = true) :
    sliceAll Spec.Sp3.recP (rstrip (posLine r)) = (Spec.Sp3.recP.map (·.name)).zip (posTexts r) := by
  rw [rstrip_posLine, ← posCells_texts]
  have := sliceAll_labelled Spec.Sp3.recP 1 (posCells r) ['P'] [] (by decide +kernel) (fits_posCells r hr) rfl
  simpa [posFull] using this

theorem pos_gets (r : PosRec) :
    let vs := (Midgard.Spec.Sp3.recP.map (·.name)).zip (posTexts r)
    let a := r.acc.getD noAcc
    get vs "sat" = r.sat ∧ get vs "pos_x" = fmtDec 6 r.x ∧ get vs "pos_y" = fmtDec 6 r.y ∧ get vs "pos_z" = fmtDec 6 r.z ∧
    get vs "clk_bias" = fmtDec 6 r.clk ∧ get vs "sig_pos_x" = codeText a.sx ∧ get vs "sig_pos_y" = codeText a.sy ∧
    get vs "sig_pos_z" = codeText a.sz ∧ get vs "sig_clk_bias" = codeText a.sclk := by
  simp [Midgard.Spec.Sp3.recP, posTexts, Midgard.Sp3.get]

theorem okText_codeText (c : Option Nat) : okText (codeText c) = true := by
  cases c with
  | none => rfl
  | some k => exact okText_natDigits k

theorem okText_epochLine (e : Epoch) : okText (epochLine e) = true := by
  have sp : ∀ {s : Str}, okText s = true → okText (' ' :: s) = true := okText_cons rfl
  have hi := fun (w : Nat) (i : Int) => okText_rjust w (okText_fmtInt i)
  simp only [epochLine, okText_append, hi, sp (hi _ _), sp (okText_rjust _ (okText_fmtDec _ _))]
  rfl

theorem okText_posLine (r : PosRec) (hr : r.wf = true) : okText (posLine r) = true := by
  have ha := acc_wf_of r hr
  simp only [PosRec.wf, Bool.and_eq_true, okCell] at hr
  simp only [Acc.wf, Bool.and_eq_true] at ha
  have hfull : okText (posFull r) = true := by
    refine okText_cons rfl (okText_renderFrom _ _ _ ?_)
    intro cell hc
    simp only [posCells, Lft, R, List.cons_append, List.nil_append, List.mem_cons, List.mem_map] at hc
    rcases hc with rfl | rfl | rfl | rfl | rfl | rfl | rfl | rfl | rfl | ⟨t, ht, rfl⟩
    · exact hr.1.1.1.1.1.1.1.1
    · exact okText_fmtDec _ _
    · exact okText_fmtDec _ _
    · exact okText_fmtDec _ _
    · exact okText_fmtDec _ _
    · exact okText_codeText _
    · exact okText_codeText _
    · exact okText_codeText _
    · exact okText_codeText _
    · exact okCells_okText _ _ ha.2 t ht
  unfold posLine
  split
  · exact hfull
  · exact okText_rstrip hfull

theorem okText_hdrOther (x : HdrKind × Str) (h : okText x.2 = true) : okText (hdrOther x) = true := by
  obtain ⟨k, t⟩ := x
  rw [hdrOther, okText_append, h]
  cases k <;> rfl

theorem okText_extraLine (x : ExtraKind × Str) (h : okText x.2 = true) : okText (extraLine x) = true := by
  obtain ⟨k, t⟩ := x
  rw [extraLine, okText_append, h]
  cases k <;> rfl

theorem okText_headerLines (h : Header) (hwf : h.wf = true) : ∀ l ∈ headerLines h, okText l = true := by
  simp only [Header.wf, Bool.and_eq_true, Bool.or_eq_true, beq_iff_eq, okCell, List.all_eq_true] at hwf
  obtain ⟨⟨⟨⟨⟨⟨⟨⟨⟨hv, h1⟩, h2⟩, hsat⟩, htail⟩, hft⟩, _⟩, hts⟩, _⟩, _⟩ := hwf
  obtain ⟨f1, f2, f3, f4, _, _⟩ := fillers
  have hver : okText [h.version] = true := by rcases hv with e | e <;> rw [e] <;> rfl
  intro l hl
  simp only [headerLines, List.mem_append, List.mem_cons, List.mem_map, List.not_mem_nil, or_false] at hl
  -- `e3`, `e4`: substituting would make `subst` evaluate the string literal
  rcases hl with (((rfl | rfl) | ⟨x, hx, rfl⟩) | (rfl | e3 | rfl | e4)) | ⟨x, hx, rfl⟩
  · refine okText_cons rfl (okText_renderFrom _ _ _ ?_)
    intro cell hc
    simp only [Lft, R, List.mem_cons, List.mem_map] at hc
    rcases hc with rfl | ⟨t, ht, rfl⟩
    · exact hver
    · exact okCells_okText _ _ h1 t ht
  · refine okText_cons rfl (okText_cons rfl (okText_renderFrom _ _ _ ?_))
    intro cell hc
    simp only [R, List.mem_map] at hc
    obtain ⟨t, ht, rfl⟩ := hc
    exact okCells_okText _ _ h2 t ht
  · exact okText_hdrOther x (hsat x hx)
  · rw [okText_append, f1, Bool.and_true]
    refine okText_cons rfl (okText_cons rfl (okText_renderFrom _ _ _ ?_))
    intro cell hc
    simp only [Lft, List.mem_cons, List.not_mem_nil, or_false] at hc
    rcases hc with rfl | rfl | rfl
    · exact hft.1.1
    · rfl
    · exact hts.1.1
  · rw [e3]; exact f3
  · rw [okText_append, f2, Bool.and_true]
    refine okText_cons rfl (okText_cons rfl (okText_renderFrom _ _ _ ?_))
    intro cell hc
    simp only [R, List.mem_cons, List.not_mem_nil, or_false] at hc
    rcases hc with rfl | rfl <;> exact okText_fmtDec _ _
  · rw [e4]; exact f4
  · exact okText_hdrOther x (htail x hx)

theorem okExtra_okText {x : ExtraKind × Str} (h : okExtra x = true) : okText x.2 = true := by
  simp only [okExtra, Bool.and_eq_true] at h
  exact h.1

theorem okText_fileLines (f : File) (hwf : f.wf = true) : ∀ l ∈ fileLines f, okText l = true := by
  obtain ⟨hh, hrecs, _⟩ := (File.wf_iff f).mp hwf
  intro l hl
  simp only [fileLines, List.mem_append, List.mem_flatten, List.mem_map, List.mem_singleton] at hl
  rcases hl with (hl | ⟨bl, ⟨b, hb, rfl⟩, hl⟩) | rfl
  · exact okText_headerLines f.hdr hh l hl
  · simp only [blockLines, List.mem_cons, List.mem_flatMap, recLines, List.mem_map] at hl
    rcases hl with rfl | ⟨r, hr, rfl | ⟨x, hx, rfl⟩⟩
    · exact okText_epochLine b.epoch
    · exact okText_posLine r (hrecs b hb r hr)
    · exact okText_extraLine x (okExtra_okText (extras_ok r (hrecs b hb r hr) x hx))
  · rfl

theorem headerLines_not_star (h : Header) : ∀ l ∈ (headerLines h).map rstrip, ¬ Star l := by
  intro l hl
  obtain ⟨l0, hl0, rfl⟩ := List.mem_map.mp hl
  rw [star_rstrip]
  obtain ⟨_, _, _, _, hc5, hf2⟩ := fillers
  have hc : percentCCont.take 1 = ['%'] := by
    have := congrArg (List.take 1) hc5
    rwa [List.take_take] at this
  have hf : percentFCont.take 1 = ['%'] := by
    have := congrArg (List.take 1) hf2
    rwa [List.take_take] at this
  have other : ∀ x : HdrKind × Str, ¬ Star (hdrOther x) := by
    intro x
    obtain ⟨k, t⟩ := x
    cases k <;> simp [Star, hdrOther, HdrKind.tag]
  simp only [headerLines, List.mem_append, List.mem_cons, List.mem_map, List.not_mem_nil, or_false] at hl0
  rcases hl0 with (((rfl | rfl) | ⟨x, _, rfl⟩) | (rfl | e3 | rfl | e4)) | ⟨x, _, rfl⟩
  · simp [Star]
  · simp [Star]
  · exact other x
  · simp [Star]
  · simp [Star, e3, hc]
  · simp [Star]
  · simp [Star, e4, hf]
  · exact other x

/-- no position record, no epoch line (possibly empty: the parser skips empty lines) -/
def Inert (l : Str) : Prop := l.take 1 ≠ ['P'] ∧ ¬ Star l

theorem inert_rstrip (l : Str) : Inert (rstrip l) ↔ Inert l := by
  have hp : (rstrip l).take 1 = ['P'] ↔ l.take 1 = ['P'] := take_rstrip (p := ['P']) (by decide) l
  unfold Inert
  rw [star_rstrip, ne_eq, ne_eq, hp]

theorem inert_extra (x : ExtraKind × Str) (hx : okExtra x = true) : Inert (rstrip (extraLine x)) := by
  rw [inert_rstrip]
  obtain ⟨k, t⟩ := x
  cases k
  case blank =>
    simp only [okExtra, Bool.and_eq_true, List.all_eq_true, beq_iff_eq] at hx
    cases t with
    | nil => exact ⟨by decide, by unfold Star; decide⟩
    | cons c t =>
      have : c = ' ' := hx.2 c (by simp)
      subst this
      exact ⟨by simp [extraLine, ExtraKind.tag], by simp [Star, extraLine, ExtraKind.tag]⟩
  all_goals exact ⟨by simp [extraLine, ExtraKind.tag], by simp [Star, extraLine, ExtraKind.tag]⟩

theorem inert_eof : Inert (rstrip eofLine) := (inert_rstrip _).mpr ⟨by decide, by unfold Star; decide⟩

theorem not_star_posLine (r : PosRec) : ¬ Star (rstrip (posLine r)) := by
  unfold Star
  rw [head_posLine]
  decide

/-! ### no carriage return in a rendered file: the text-level entry point (`parseFileText`, universal newlines first) sees the text itself -/

theorem render_noCR (F : File) (hwf : F.wf = true) : ∀ c ∈ render F, c ≠ '\r' :=
  joinLines_noCR _ (okText_fileLines F hwf)

theorem blockLines_map_rstrip (b : EpochBlock) :
    (blockLines b).map rstrip = rstrip (epochLine b.epoch) :: (b.recs.flatMap recLines).map rstrip := rfl

theorem body_lines (recs : List PosRec) (tl : List Str) (l : Str) (hl : l ∈ (recs.flatMap recLines).map rstrip ++ tl) :
    (∃ r ∈ recs, l = rstrip (posLine r)) ∨ (∃ r ∈ recs, ∃ x ∈ r.extras, l = rstrip (extraLine x)) ∨ l ∈ tl := by
  rcases List.mem_append.mp hl with h | h
  · simp only [List.mem_map, List.mem_flatMap, recLines, List.mem_cons] at h
    obtain ⟨l', ⟨r, hr, hl'⟩, rfl⟩ := h
    rcases hl' with rfl | ⟨x, hx, rfl⟩
    · exact Or.inl ⟨r, hr, rfl⟩
    · exact Or.inr (Or.inl ⟨r, hr, x, hx, rfl⟩)
  · exact Or.inr (Or.inr h)

theorem epoch_expected (F : Factors) (h : Header) (e : Epoch) (recs : List PosRec) (e' : Epoch) (hne : e ≠ e') :
    (recs.map (Midgard.Spec.Sp3File.expectedEntry F h e)).any (·.epoch = e') = false := by
  rw [List.any_eq_false]
  intro en hen
  simp only [List.mem_map] at hen
  obtain ⟨r, _, rfl⟩ := hen
  simpa [Midgard.Spec.Sp3File.expectedEntry] using hne

theorem splitBlocks_file (H : List Str) (bs : List (List Str)) (t : List Str) (hH : H ≠ [])
    (hns : ∀ x ∈ H, ¬ Star x) (ht : ∀ x ∈ t, ¬ Star x)
    (hbs : ∀ b ∈ bs, ∃ s body, b = s :: body ∧ Star s ∧ ∀ x ∈ body, ¬ Star x) :
    splitBlocksAux (H ++ bs.flatten ++ t) [] = attachLast (H :: bs) t := by
  cases H with
  | nil => exact absurd rfl hH
  | cons h0 body0 =>
    exact splitBlocks_groups bs t ht hbs h0 body0 (fun x hx => hns x (by simp [hx]))

theorem length_expectedEntries (F : Factors) (f : File) :
    (expectedEntries F f).length = (f.epochs.map (·.recs.length)).sum := by
  unfold expectedEntries
  induction f.epochs with
  | nil => rfl
  | cons b bs ih => simp [List.flatMap_cons, ih]

end Midgard.Spec.Sp3File

namespace Midgard.Sp3

theorem powCode_nat (b : Rat) (k : Nat) : powCode b (k : Rat) = some (b ^ k) := by
  simp [powCode, Rat.den_natCast, Rat.num_natCast]

end Midgard.Sp3

#print axioms Midgard.Sp3.powCode_nat
#print axioms Midgard.Spec.Sp3File.extras_ok
#print axioms Midgard.Spec.Sp3File.body_lines
#print axioms Midgard.Spec.Sp3File.epoch_expected
#print axioms Midgard.Spec.Sp3File.splitBlocks_file
#print axioms Midgard.Spec.Sp3File.length_expectedEntries
