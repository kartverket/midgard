/-
C15: `LineOk p (line, fx)` — under parser `p` the line has the effect `fx`, does not end its group and holds no line
end — for every kind of line of an antenna section: records of a listed kind, correction rows, comments and the other
unread lines.
-/
import Midgard.Proofs.AntexFile
import Midgard.Proofs.Lists
namespace Midgard.Antex.File
open Midgard.Text Midgard.FixedCol Midgard.ChainParser Midgard.Antex Midgard.Decimal Midgard.Antex.Records
open Midgard.Spec.Antex14 (RecSpec specs renderLabelled renderRow findKind findLabel)
open Midgard.Spec.AntexFile

def cacheFx (f : Cache → Cache) : Fx := fun s => .ok { s with cache := f s.cache }

/-- no character of `s` ends a line of a text-mode file (`\n`, `\r`) -/
def NoNl (s : Str) : Prop := ∀ c ∈ s, Midgard.TextLines.isLineEnd c = false

theorem nonl_okText {s : Str} (h : okText s = true) : NoNl s := by
  intro c hc
  simp only [okText, Bool.and_eq_true, List.all_eq_true, Bool.not_eq_eq_eq_not, Bool.not_true] at h
  exact h.1 c hc

theorem nonl_spec_label (k : String) : NoNl (spec k).label.toList := by
  unfold spec
  cases hk : findKind k with
  | none => exact fun _ h => nomatch h
  | some sp =>
    have := List.all_eq_true.mp specs_table sp (findKind_mem hk)
    rw [Bool.and_eq_true] at this
    intro c hc
    simpa using List.all_eq_true.mp this.2 c hc

theorem nonl_rec (k : String) (cells : List Str) (h : ∀ c ∈ cells, okText c = true) : NoNl (rec k cells) := by
  unfold rec renderLabelled
  refine List.forall_mem_append.mpr ⟨fun c hc => ?_, nonl_spec_label k⟩
  rcases mem_pad (a := .left) hc with rfl | hc
  · rfl
  · exact forall_renderFrom (by decide) _ 0 _ (fun cell hcell => nonl_okText (h cell.2 (List.of_mem_zip hcell).2)) c hc

theorem nonl_renderRow (first : Str) (vals : List Str) (hf : okText first = true) (hv : ∀ v ∈ vals, okText v = true) :
    NoNl (renderRow first vals) := by
  have hr : ∀ v, okText v = true → NoNl (rjust 8 v) := fun v hv c hc =>
    (mem_pad (a := .right) hc).elim (fun e => by rw [e]; rfl) (nonl_okText hv c)
  unfold renderRow
  refine List.forall_mem_append.mpr ⟨hr first hf, fun c hc => ?_⟩
  obtain ⟨cell, hcell, hcc⟩ := List.mem_flatten.mp hc
  obtain ⟨v, hv', rfl⟩ := List.mem_map.mp hcell
  exact hr v (hv v hv') c hcc

def LineOk (p : ParserDef State) (x : Str × Fx) : Prop :=
  (∀ n s, parseLine p (rstrip x.1) n s = x.2 s) ∧ (∀ n nx, p.endMarker (rstrip x.1) n nx = false) ∧ NoNl x.1

def notEnd (k : String) : Bool :=
  match findKind k with
  | some sp => !decide (sp.label.toList.take 14 = "END OF ANTENNA".toList)
  | none => false

theorem notEnd_table : (["SOA", "SOR", "EOR", "COM", "METH", "SINEX", "TYP", "DAZI", "ZEN", "NFREQ", "VFROM", "VUNTIL",
    "SOF", "NEU", "EOF"].all notEnd) = true := by decide +kernel

/-- the list of `notEnd_table` is `corrKinds.map (·.kind)` written out; this `:=` holds by unfolding exactly as long as it is -/
theorem corrKinds_notEnd : (corrKinds.map (·.kind)).all notEnd = true := notEnd_table

theorem lineOk_of_kind {p : ParserDef State} {w : Nat} {m : Str} (hp : Reads p w m) {e : Kind}
    (he : kindOk p.defs e = true) (hne : decide ((spec e.kind).label.toList.take w = m) = false)
    {cells : List Str} (hok : okRec e.kind cells = true) {fx : Fx} (hfx : ∀ s, kindFx e cells s = fx s) :
    LineOk p (rec e.kind cells, fx) := by
  refine ⟨fun n s => ?_, fun n nx => ?_, nonl_rec _ _ (okRec_parts hok).2.2⟩
  · show _ = fx s
    rw [← hfx]
    exact (kind_line hp he hok n).1 s
  · rw [(kind_line hp he hok n).2 nx]
    exact hne

/-- `e` is an entry of `corrKinds` written out (the default tactic finds it there); `Runs.kind` looks the entry up by the name
of the kind -/
theorem lineOk_kind {e : Kind} {cells : List Str} (hok : okRec e.kind cells = true)
    (he : e ∈ corrKinds := by simp only [corrKinds, List.mem_cons, true_or, or_true]) :
    LineOk corrParser (rec e.kind cells, kindFx e cells) := by
  refine lineOk_of_kind corr_reads (List.all_eq_true.mp corrKinds_ok e he) ?_ hok fun _ => rfl
  have hne := List.all_eq_true.mp corrKinds_notEnd e.kind (List.mem_map_of_mem he)
  unfold notEnd at hne
  unfold spec
  cases hk : findKind e.kind with
  | none => rw [hk] at hne; exact absurd hne Bool.false_ne_true
  | some sp =>
    rw [hk, Bool.not_eq_true'] at hne
    exact hne

theorem end_line {p : ParserDef State} {w : Nat} {m : Str} (hp : Reads p w m) (k : String)
    (he : kindOk p.defs ⟨k, none, []⟩ = true) (hok : okRec k [] = true)
    (hm : decide ((spec k).label.toList.take w = m) = true) :
    (∀ n s, parseLine p (rstrip (rec k [])) n s = idFx s) ∧ ∀ n nx, p.endMarker (rstrip (rec k [])) n nx = true :=
  ⟨fun n s => (kind_line hp he hok n).1 s, fun n nx => ((kind_line hp he hok n).2 nx).trans hm⟩

def noaziFx (b : SecM) : Fx := cacheFx fun k => { k with noazi := some (b.noazi.map (·.val)) }
def rowFx (r : Str × List NumCell) : Fx := cacheFx fun k => { k with azi := some (k.azi.getD [] ++ [r.2.map (·.val)]) }

theorem okNum_eq {c : NumCell} (h : okNum c = true) : parseFloat c.text = some c.val := by
  simpa [okNum] using h

theorem okInt_eq {c : IntCell} (h : okInt c = true) : parseInt? c.text = some c.val := by
  simpa [okInt] using h

/-- two kinds with the same columns and alignments accept the same cells (SOF / EOF / SOR / EOR; VFROM / VUNTIL); the equality
of the two table rows is decided at each use -/
theorem okRec_code {k k' : String} {cells : List Str} (h : okRec k cells = true)
    (hcols : (spec k).layout = (spec k').layout ∧ (spec k).aligns = (spec k').aligns := by decide +kernel) :
    okRec k' cells = true := by
  unfold okRec at h ⊢
  rw [← hcols.1, ← hcols.2]
  exact h

theorem parseValid_date (d : DateM) (h : d.wf = true) :
    parseValid ((["year", "month", "day", "hour", "minute", "second"] : List String).zip (dateCells d)) = .ok (dateMicros d) := by
  simp only [DateM.wf, Bool.and_eq_true, beq_iff_eq] at h
  obtain ⟨⟨⟨⟨⟨⟨⟨_, hy⟩, hm⟩, hd⟩, hh⟩, hmi⟩, hs⟩, hmins⟩ := h
  simp [parseValid, dateCells, Values.get, req, bind, Except.bind, pure, Except.pure, okInt_eq hy, okInt_eq hm, okInt_eq hd,
    okInt_eq hh, okInt_eq hmi, okNum_eq hs, hmins, dateMicros]

theorem okRec_date {d : DateM} (h : d.wf = true) : okRec "VFROM" (dateCells d) = true := by
  simp only [DateM.wf, Bool.and_eq_true] at h
  exact h.1.1.1.1.1.1.1

theorem mapM_cells (cells : List NumCell) (h : ∀ c ∈ cells, okNum c = true) :
    (cells.map (·.text)).mapM (fun t => req (parseFloat t)) = .ok (cells.map (·.val)) := by
  rw [List.mapM_map]
  exact Lists.mapM_ok _ _ cells fun c hc => by
    show req (parseFloat c.text) = _
    rw [okNum_eq (h c hc)]
    rfl

theorem row_lineOk (first : Str) (cells : List NumCell) (hft : okText first = true) (hfirst : Token first = true)
    (hlen : first.length ≤ 8) (hc : cells.all okRowVal = true) :
    LineOk corrParser (renderRow first (cells.map (·.text)),
      cacheFx fun k => if first = "NOAZI".toList then { k with noazi := some (cells.map (·.val)) }
        else { k with azi := some (k.azi.getD [] ++ [cells.map (·.val)]) }) := by
  simp only [List.all_eq_true, okRowVal, Bool.and_eq_true, decide_eq_true_eq] at hc
  -- of every value `okRowVal` gives: a number text of at most 7 characters, free of line ends, that denotes the value
  have hv : ∀ v ∈ cells.map (·.text), isNumText v = true ∧ v.length ≤ 7 := fun v hv =>
    let ⟨c, hcm, e⟩ := List.mem_map.mp hv
    e ▸ ⟨(hc c hcm).1.1.2, (hc c hcm).1.2⟩
  have hn : ∀ c ∈ cells, okNum c = true := fun c hcm => (hc c hcm).2
  have ht : ∀ v ∈ cells.map (·.text), okText v = true := fun v hv =>
    let ⟨c, hcm, e⟩ := List.mem_map.mp hv
    e ▸ (hc c hcm).1.1.1.1
  refine ⟨fun n s => ?_, fun n nx => ?_, nonl_renderRow _ _ hft ht⟩
  · exact row_line first _ _ hfirst hlen hv (mapM_cells cells hn) n s
  · rw [rstrip_renderRow first _ hfirst hv]
    exact corr_endMarker_of_tail _ (row_tail_plain first _ hlen (fun v h => (hv v h).1)) n nx

theorem noazi_lineOk (b : SecM) (h : b.noazi.all okRowVal = true) :
    LineOk corrParser (noaziLine b, noaziFx b) := by
  have := row_lineOk "NOAZI".toList b.noazi (hft := by decide) (hfirst := by decide) (hlen := by decide) h
  simpa [noaziLine, noaziFx] using this

theorem azi_lineOk (r : Str × List NumCell) (h : okRow r = true) :
    LineOk corrParser (rowLine r, rowFx r) := by
  simp only [okRow, Bool.and_eq_true, decide_eq_true_eq, bne_iff_ne, ne_eq] at h
  obtain ⟨⟨⟨⟨⟨hft, _⟩, htok⟩, hlen⟩, hne⟩, hvals⟩ := h
  have := row_lineOk r.1 r.2 hft htok hlen hvals
  have hne' : ¬ r.1 = ['N', 'O', 'A', 'Z', 'I'] := by simpa using hne
  simpa [rowLine, rowFx, hne'] using this

theorem blank_lineOk : LineOk corrParser (([] : Str), idFx) := by
  refine ⟨fun n s => ?_, fun n nx => ?_, fun _ h => nomatch h⟩
  · have : rstrip ([] : Str) = [] := rfl
    rw [this]; rfl
  · have : rstrip ([] : Str) = [] := rfl
    rw [this]; rfl

/-! ### comments: any text of at most 60 characters free of `\n` and `\r` (outer blanks allowed) -/

theorem spec_COM : spec "COM" = ⟨"COM", "COMMENT", [⟨"comment", 0, 60⟩], [.left]⟩ := by decide +kernel

theorem com_shape (t : Str) (h : t.length ≤ 60) : rec "COM" [t] = ljust 60 t ++ "COMMENT".toList := by
  unfold rec renderLabelled
  rw [spec_COM]
  have h60 : (ljust 60 t).length = 60 := length_ljust h
  simp only [renderA, renderFrom, List.zip_cons_cons, List.zip_nil_right, pad, Field.width, Nat.sub_self, blanks,
    List.replicate_zero, List.nil_append, List.append_nil, Nat.sub_zero]
  have : ljust 60 (ljust 60 t) = ljust 60 t := by
    unfold ljust at h60 ⊢
    rw [h60]; simp [blanks]
  rw [this]

theorem COM_mem : (⟨"COM", "COMMENT", [⟨"comment", 0, 60⟩], [.left]⟩ : RecSpec) ∈ specs := by decide +kernel

theorem comment_line {p : ParserDef State} {w : Nat} {m : Str} (hp : Reads p w m) (t : Str) (h : t.length ≤ 60) (n : Nat) :
    (∀ s, parseLine p (rstrip (rec "COM" [t])) n s =
      match p.defs.find? (·.label == "COMMENT") with
      | none => .ok s
      | some d => handle d.handler (d.values (rstrip (ljust 60 t ++ "COMMENT".toList))) s) ∧
    ∀ nx, p.endMarker (rstrip (rec "COM" [t])) n nx = decide ("COMMENT".toList.take w = m) := by
  rw [com_shape t h]
  exact labelled_line hp COM_mem (length_ljust h) n

theorem comment_lineOk (t : Str) (ht : okText t = true) (h : t.length ≤ 60) : LineOk corrParser (rec "COM" [t], idFx) := by
  refine ⟨fun n s => ?_, fun n nx => ?_, nonl_rec _ _ (by simpa using ht)⟩
  · rw [(comment_line corr_reads t h n).1 s, show corrParser.defs.find? (·.label == "COMMENT") = none by decide +kernel]
    rfl
  · rw [(comment_line corr_reads t h n).2 nx]
    decide +kernel

theorem inert_lineOk (i : Inert) (h : i.wf = true) : LineOk corrParser (inertLine i, idFx) := by
  cases i with
  | comment t =>
    simp only [Inert.wf, Bool.and_eq_true, decide_eq_true_eq] at h
    exact comment_lineOk t h.1 h.2
  | meth a b c d => exact lineOk_kind (e := ⟨"METH", none, []⟩) h
  | sinex c => exact lineOk_kind (e := ⟨"SINEX", none, []⟩) h
  | blank => exact blank_lineOk

end Midgard.Antex.File
