/-
C19, text round trip: the lines of the whole text `as_str` writes, and what the `ConfigParser` model reads from them,
section by section.  Mathlib-free.
-/
import Midgard.Proofs.ConfigReadDoc
import Midgard.Proofs.Lines

namespace Midgard.Proofs.ConfigText
open Midgard.Config

theorem splitLines_eq_splitOn (t : List Char) : splitLines t = Text.splitOn '\n' t := by
  suffices h : ∃ l ls, splitLines t = l :: ls ∧ ∀ cur, Text.splitOnAux '\n' t cur = (cur.reverse ++ l) :: ls by
    obtain ⟨l, ls, h1, h2⟩ := h
    rw [h1, Text.splitOn, h2]
    rfl
  induction t with
  | nil => exact ⟨[], [], rfl, fun cur => by simp [Text.splitOnAux]⟩
  | cons c r ih =>
    obtain ⟨l, ls, h1, h2⟩ := ih
    by_cases hc : c = '\n'
    · exact ⟨[], l :: ls, by simp [splitLines, h1, hc], fun cur => by simp [Text.splitOnAux, hc, h2]⟩
    · exact ⟨c :: l, ls, by simp [splitLines, h1, hc], fun cur => by simp [Text.splitOnAux, hc, h2]⟩

theorem splitLines_joinNl (ls : List (List Char)) (h : ∀ l ∈ ls, '\n' ∉ l) :
    splitLines (Text.joinNl ls) = ls ++ [[]] := by
  rw [splitLines_eq_splitOn]
  exact Text.splitOn_joinNl_closed ls fun l hl c hc e => h l hl (e ▸ hc)

theorem joinLines_nl (L : List (List Char)) (h : L ≠ []) : joinLines L ++ ['\n'] = Text.joinNl L := by
  induction L with
  | nil => exact absurd rfl h
  | cons l t ih =>
    cases t with
    | nil => simp [joinLines, Text.joinNl]
    | cons l' t' =>
      rw [joinLines_cons2, Text.joinNl, ← ih (by simp)]
      simp

theorem joinLines_join_nl (X : List (List (List Char))) (hX : X ≠ []) (hne : ∀ x ∈ X, x ≠ []) :
    joinLines (X.map joinLines) ++ ['\n'] = Text.joinNl X.flatten := by
  induction X with
  | nil => exact absurd rfl hX
  | cons x t ih =>
    cases t with
    | nil =>
      simp only [List.map_cons, List.map_nil, List.flatten_cons, List.flatten_nil, List.append_nil]
      exact joinLines_nl x (hne x (by simp))
    | cons y t' =>
      have h1 := ih (by simp) (fun z hz => hne z (List.mem_cons_of_mem _ hz))
      have h2 := joinLines_nl x (hne x (by simp))
      simp only [List.map_cons] at h1 ⊢
      rw [joinLines_cons2, List.flatten_cons, Text.joinNl_append, ← h2, ← h1]
      simp

/-- the lines between two section texts: `"\n\n\n".join` -/
def sepLines : List (List (List Char)) → List (List Char)
  | [] => []
  | [L] => L
  | L :: r => L ++ [[], []] ++ sepLines r

theorem sepLines_cons2 (L L' : List (List Char)) (r : List (List (List Char))) :
    sepLines (L :: L' :: r) = L ++ [[], []] ++ sepLines (L' :: r) := rfl

theorem joinWith_cons2 (sep l l' : List Char) (t : List (List Char)) :
    joinWith sep (l :: l' :: t) = l ++ sep ++ joinWith sep (l' :: t) := rfl

theorem joinWith_nl {α} (T : α → List Char) (Lf : α → List (List Char)) (xs : List α) (hx : xs ≠ [])
    (h : ∀ x ∈ xs, T x ++ ['\n'] = Text.joinNl (Lf x)) :
    joinWith ['\n', '\n', '\n'] (xs.map T) ++ ['\n'] = Text.joinNl (sepLines (xs.map Lf)) := by
  induction xs with
  | nil => exact absurd rfl hx
  | cons x t ih =>
    cases t with
    | nil => simpa [joinWith, sepLines] using h x (by simp)
    | cons y t' =>
      have h1 := ih (by simp) (fun z hz => h z (List.mem_cons_of_mem _ hz))
      have h2 := h x (by simp)
      simp only [List.map_cons] at h1 ⊢
      rw [joinWith_cons2, sepLines_cons2, Text.joinNl_append, Text.joinNl_append, ← h1, ← h2]
      simp [Text.joinNl]

theorem noNL_key {lower : Bool} {k : List Char} (hk : KeyOK lower k) : '\n' ∉ k :=
  noNL_of_noBlank fun c hc => (hk.2.1 c hc).1

theorem noNL_firstLine (lower : Bool) (kw : Nat) (key : List Char) (g0 : List (List Char))
    (hk : KeyOK lower key) (hw : ∀ x ∈ g0, ReaderWord x) : '\n' ∉ firstLine kw key g0 := by
  intro h
  simp only [firstLine, List.mem_append, List.mem_cons, List.mem_flatMap] at h
  rcases h with (h | h) | h | ⟨x, hx, h | h⟩
  · exact noNL_key hk h
  · have := (isSpaces_pad kw key).2 _ h; exact absurd this (by decide)
  · exact absurd h (by decide)
  · exact absurd h (by decide)
  · exact noNL_of_noBlank (hw x hx).2 h

theorem noNL_contLine (hang : Nat) (g : List (List Char)) (hw : ∀ x ∈ g, ReaderWord x) : '\n' ∉ contLine hang g := by
  intro h
  simp only [contLine, List.mem_append, List.mem_replicate] at h
  rcases h with h | h
  · exact absurd h.2 (by decide)
  · exact noNL_unwords g hw h

theorem optLines_noNL (lower : Bool) (w kw : Nat) (o : Opt) (hok : OptOK lower w kw o) :
    ∀ l ∈ optLines w kw o, '\n' ∉ l := by
  intro l hl
  rcases optLines_shape lower w kw o hok with ⟨_, h⟩ | ⟨v, g0, gr, _, _, _, hws, h⟩
  · rw [h] at hl; simp at hl; subst hl; exact noNL_key hok.1
  · have hwso : ∀ x ∈ g0 ++ gr.flatten, ReaderWord x := fun x hx => (hws x hx).1
    rw [h] at hl
    rcases List.mem_cons.1 hl with hl | hl
    · subst hl
      exact noNL_firstLine lower kw o.1 g0 hok.1 (fun x hx => hwso x (List.mem_append_left _ hx))
    · obtain ⟨g, hgm, rfl⟩ := List.mem_map.1 hl
      exact noNL_contLine _ g (fun x hx => hwso x (List.mem_append_right _ (List.mem_flatten.2 ⟨g, hgm, hx⟩)))

theorem optLines_ne_nil (lower : Bool) (w kw : Nat) (o : Opt) (hok : OptOK lower w kw o) :
    optLines w kw o ≠ [] := by
  rcases optLines_shape lower w kw o hok with ⟨_, h⟩ | ⟨_, _, _, _, _, _, _, h⟩ <;> rw [h] <;> simp

def headerText (n : String) : List Char := '[' :: n.toList ++ [']']

def fileLines (w kw : Nat) (secs : List (String × List Block)) : List (List Char) :=
  secs.flatMap (fun sb => headerText sb.1 :: sb.2.flatMap (blockLines w kw))

theorem closeSection_cur (p : PState) (n : String) (os : List RawOpt) (hcur : p.cur = some (n, os)) :
    p.closeSection = { done := p.done ++ [(n, os ++ p.opt.toList)], cur := none, opt := none, indent := p.indent } := by
  simp only [PState.closeSection, closeOpt_eq p n os hcur]

theorem closeSection_none (p : PState) (hcur : p.cur = none) :
    p.closeSection = { done := p.done, cur := none, opt := none, indent := p.indent } := by
  obtain ⟨d, c, o, i⟩ := p
  simp only at hcur
  subst hcur
  cases o <;> simp [PState.closeSection, PState.closeOpt]

theorem closeSection_cur_none (p : PState) : p.closeSection.cur = none := by
  cases h : p.cur with
  | none => rw [closeSection_none p h]
  | some c => obtain ⟨n, os⟩ := c; rw [closeSection_cur p n os h]

theorem readLine_section (lower : Bool) (p : PState) (n : String) (hn : n.toList ≠ [])
    (hnew : n ∉ p.closeSection.done.map (·.1)) :
    readLine lower p (headerText n) =
      .ok { done := p.closeSection.done, cur := some (n, []), opt := none, indent := 0 } := by
  have hlast : (headerText n).getLast? = some ']' := by
    simp only [headerText]
    rw [show '[' :: n.toList ++ [']'] = ('[' :: n.toList) ++ [']'] from rfl, Text.getLast?_append_ne _ _ (by simp)]
    rfl
  rw [readLine_header lower p (headerText n) (by simp [headerText])
    (by intro c hc; simp [headerText] at hc; subst hc; decide)
    (by intro c hc; rw [hlast] at hc; simp at hc; subst hc; decide)
    (by simp [headerText]) (by simp [headerText])]
  have hc : ((p.closeSection.done.map (·.1)).contains n) = false := by simpa using hnew
  simp only [headerLine, headerText, sectionName?_header n.toList hn, sectionLine, String.ofList_toList, hc,
    Bool.false_eq_true, if_false]

theorem fileLines_cons (w kw : Nat) (sb : String × List Block) (t : List (String × List Block)) :
    fileLines w kw (sb :: t) = headerText sb.1 :: (sb.2.flatMap (blockLines w kw) ++ fileLines w kw t) := by
  simp [fileLines]

/-- by induction over the sections: a header line closes the open section (`readLine_section`), then `read_blocks` -/
theorem read_sections (lower : Bool) (w kw : Nat) (secs : List (String × List Block)) :
    ∀ (p : PState),
      (∀ sb ∈ secs, sb.1.toList ≠ [] ∧ (∀ o ∈ blockOpts sb.2, OptOK lower w kw o) ∧
        ((blockOpts sb.2).map (·.1)).Nodup) →
      (p.closeSection.done.map (·.1) ++ secs.map (·.1)).Nodup →
      ∃ p', readLines lower p (fileLines w kw secs) = .ok p' ∧
        p'.closeSection.done.map normSec =
          p.closeSection.done.map normSec ++ secs.map (fun sb => (sb.1, blockOpts sb.2)) := by
  induction secs with
  | nil => intro p _ _; exact ⟨p, rfl, by simp⟩
  | cons sb t ih =>
    intro p hok hnd
    obtain ⟨n, bs⟩ := sb
    obtain ⟨hn, hopts, hkeys⟩ := hok (n, bs) (by simp)
    simp only at hn hopts hkeys
    have hnew : n ∉ p.closeSection.done.map (·.1) := Lists.not_mem_of_nodup_append_cons (by simpa using hnd)
    rw [fileLines_cons, readLines_cons lower p _ _ _ (readLine_section lower p n hn hnew)]
    obtain ⟨p1, h1, h2, os, hcur, _, hri⟩ := read_blocks lower w kw bs
      { done := p.closeSection.done, cur := some (n, []), opt := none, indent := 0 } n []
      ⟨[], rfl, rfl, rfl⟩ (by simpa using hopts) (by simpa using hkeys)
    rw [readLines_append lower _ _ _ _ h1]
    have hdone : p1.closeSection.done = p.closeSection.done ++ [(n, os ++ p1.opt.toList)] := by
      rw [closeSection_cur p1 n os hcur, h2]
    obtain ⟨p', h4, h5⟩ := ih p1 (fun x hx => hok x (List.mem_cons_of_mem _ hx)) (by simpa [hdone] using hnd)
    refine ⟨p', h4, ?_⟩
    rw [h5, hdone]
    simp only [List.nil_append] at hri
    simp [normSec, hri]

theorem readIniRaw_eq (lower : Bool) (text : String) :
    readIniRaw lower text =
      (readLines lower ⟨[], none, none, 0⟩ (splitLines text.toList)).map (fun p => p.closeSection.done) := rfl

theorem readIniRaw_sections (lower : Bool) (w kw : Nat) (secs : List (String × List Block)) (text : String)
    (hlines : splitLines text.toList = fileLines w kw secs)
    (hok : ∀ sb ∈ secs, sb.1.toList ≠ [] ∧ (∀ o ∈ blockOpts sb.2, OptOK lower w kw o) ∧
        ((blockOpts sb.2).map (·.1)).Nodup)
    (hnd : (secs.map (·.1)).Nodup) :
    ∃ raw, readIniRaw lower text = .ok raw ∧
      raw.map normSec = secs.map (fun sb => (sb.1, blockOpts sb.2)) := by
  obtain ⟨p', h1, h2⟩ := read_sections lower w kw secs ⟨[], none, none, 0⟩ hok (by simpa [closeSection_none] using hnd)
  exact ⟨p'.closeSection.done, by rw [readIniRaw_eq, hlines, h1]; rfl, by simpa [closeSection_none] using h2⟩

end Midgard.Proofs.ConfigText
