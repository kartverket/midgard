/-
C07 — what stands behind the ranges of the elements returned by `trs2kepler` (stated in `Props/C07.lean`,
`principal_ranges`) and of `KeplerPosVel.f` over ℝ (`arctan2 y x := arg (x + i y)`): range and sign of `arctan2`, the
code's wrap of `omega` into `[0, 2π)`; bound orbit ⇒ `a > 0`, `e < 1`; the sign of the true anomaly is the sign of `sin E`.
-/
import Midgard.Proofs.GeoReal
import Midgard.Model.Kepler

namespace Midgard.Geo

theorem atan2_mem_Ioc (y x : ℝ) : Trig.atan2 y x ∈ Set.Ioc (-Real.pi) Real.pi := by
  rw [trig_atan2]
  exact ⟨Complex.neg_pi_lt_arg _, Complex.arg_le_pi _⟩

theorem atan2_neg_iff (y x : ℝ) : Trig.atan2 y x < 0 ↔ y < 0 := by
  rw [trig_atan2, Complex.arg_neg_iff]

theorem atan2_nonneg_iff (y x : ℝ) : 0 ≤ Trig.atan2 y x ↔ 0 ≤ y := by
  rw [trig_atan2, Complex.arg_nonneg_iff]

theorem atan2_pos_of_pos {y : ℝ} (x : ℝ) (hy : 0 < y) : 0 < Trig.atan2 y x := by
  refine lt_of_le_of_ne ((atan2_nonneg_iff y x).2 hy.le) (fun h => ?_)
  have h0 : Complex.arg ⟨x, y⟩ = 0 := by rw [← trig_atan2]; exact h.symm
  rw [Complex.arg_eq_zero_iff] at h0
  exact hy.ne' h0.2

/-- the code's wrap `if ω < 0: ω += 2π` maps `(−2π, 2π)` into `[0, 2π)` -/
theorem wrap_range {u v : ℝ} (hu : u ∈ Set.Ioc (-Real.pi) Real.pi) (hv : v ∈ Set.Ioc (-Real.pi) Real.pi) :
    0 ≤ (if u - v < 0 then u - v + (1 + 1) * Real.pi else u - v) ∧
    (if u - v < 0 then u - v + (1 + 1) * Real.pi else u - v) < 2 * Real.pi := by
  obtain ⟨hu1, hu2⟩ := hu
  obtain ⟨hv1, hv2⟩ := hv
  split_ifs with h
  · constructor <;> linarith
  · constructor <;> linarith

/-- … and gives back `ω ∈ [0, 2π)` from `u = ω + f + 2πn` when `u, f ∈ (−π, π]`: then `n` is `−1` (wrap) or `0` -/
theorem wrap_sub_eq {u f om : ℝ} {n : ℤ} (hu : u ∈ Set.Ioc (-Real.pi) Real.pi)
    (hf : f ∈ Set.Ioc (-Real.pi) Real.pi) (h0 : 0 ≤ om) (h1 : om < 2 * Real.pi)
    (hn : u = om + f + 2 * Real.pi * n) :
    (if u - f < 0 then u - f + (1 + 1) * Real.pi else u - f) = om := by
  obtain ⟨hu1, hu2⟩ := hu
  obtain ⟨hf1, hf2⟩ := hf
  have hpi := Real.pi_pos
  have hn_hi : (n : ℝ) < 1 := lt_of_mul_lt_mul_left (a := 2 * Real.pi) (by linarith) (by positivity)
  have hn_lo : (-2 : ℝ) < n := lt_of_mul_lt_mul_left (a := 2 * Real.pi) (by linarith) (by positivity)
  have hn1 : n < 1 := by exact_mod_cast hn_hi
  have hn2 : -2 < n := by exact_mod_cast hn_lo
  obtain rfl | rfl : n = -1 ∨ n = 0 := by omega
  · push_cast at hn
    rw [if_pos (by linarith)]
    linarith
  · push_cast at hn
    rw [if_neg (by linarith)]
    linarith

theorem trs2kepler_a (GM : ℝ) (w : V6 ℝ) :
    (trs2kepler GM w).a = 1 / ((1 + 1) / w.p.norm - w.v.norm * w.v.norm / GM) := rfl

theorem trs2kepler_e (GM : ℝ) (w : V6 ℝ) :
    (trs2kepler GM w).e
      = Real.sqrt (1 - (V3.cross w.p w.v).norm * (V3.cross w.p w.v).norm / GM / (trs2kepler GM w).a) := rfl

theorem trs2kepler_bound (GM : ℝ) (w : V6 ℝ) (hGM : 0 < GM) (hr : 0 < w.p.norm)
    (hbound : w.v.norm * w.v.norm < 2 * GM / w.p.norm) : 0 < (trs2kepler GM w).a := by
  rw [trs2kepler_a]
  apply one_div_pos.mpr
  have h1 : w.v.norm * w.v.norm / GM < 2 * GM / w.p.norm / GM := div_lt_div_of_pos_right hbound hGM
  have h2 : 2 * GM / w.p.norm / GM = (1 + 1) / w.p.norm := by
    field_simp
    ring
  linarith

theorem trs2kepler_e_lt_one (GM : ℝ) (w : V6 ℝ) (hGM : 0 < GM) (ha : 0 < (trs2kepler GM w).a)
    (hh : (V3.cross w.p w.v).norm ≠ 0) : (trs2kepler GM w).e < 1 := by
  rw [trs2kepler_e]
  have hp : 0 < (V3.cross w.p w.v).norm * (V3.cross w.p w.v).norm / GM :=
    div_pos (mul_self_pos.mpr hh) hGM
  have hq := div_pos hp ha
  rw [Real.sqrt_lt' one_pos]
  linarith

theorem trueAnomaly_mem_Ioc (e E : ℝ) : trueAnomaly e E ∈ Set.Ioc (-Real.pi) Real.pi :=
  atan2_mem_Ioc _ _

theorem one_sub_sq_pos {e : ℝ} (he0 : 0 ≤ e) (he1 : e < 1) : 0 < 1 - e * e :=
  sub_pos.mpr (mul_lt_one_of_nonneg_of_lt_one_left he0 he1 he1.le)

theorem one_sub_mul_cos_pos {e : ℝ} (he0 : 0 ≤ e) (he1 : e < 1) (E : ℝ) : 0 < 1 - e * Real.cos E := by
  have h := mul_le_mul_of_nonneg_left (Real.cos_le_one E) he0
  linarith

theorem sqrt_one_sub_sq_pos {e : ℝ} (he0 : 0 ≤ e) (he1 : e < 1) : 0 < Real.sqrt (1 - e * e) :=
  Real.sqrt_pos.mpr (one_sub_sq_pos he0 he1)

theorem trueAnomaly_pos {e E : ℝ} (he0 : 0 ≤ e) (he1 : e < 1) (hs : 0 < Real.sin E) :
    0 < trueAnomaly e E := by
  simp only [trueAnomaly, trig_sqrt, trig_sin, trig_cos]
  exact atan2_pos_of_pos _ (mul_pos (sqrt_one_sub_sq_pos he0 he1) hs)

theorem trueAnomaly_neg {e E : ℝ} (he0 : 0 ≤ e) (he1 : e < 1) (hs : Real.sin E < 0) :
    trueAnomaly e E < 0 := by
  simp only [trueAnomaly, trig_sqrt, trig_sin, trig_cos]
  exact (atan2_neg_iff _ _).2 (mul_neg_of_pos_of_neg (sqrt_one_sub_sq_pos he0 he1) hs)

/-- on `(−π, π]` with `0 ≤ e < 1`: the true anomaly has the sign of the eccentric anomaly -/
theorem trueAnomaly_pos_of_E_pos {e E : ℝ} (he0 : 0 ≤ e) (he1 : e < 1) (hE0 : 0 < E) (hE1 : E < Real.pi) :
    0 < trueAnomaly e E :=
  trueAnomaly_pos he0 he1 (Real.sin_pos_of_pos_of_lt_pi hE0 hE1)

theorem trueAnomaly_neg_of_E_neg {e E : ℝ} (he0 : 0 ≤ e) (he1 : e < 1) (hE0 : -Real.pi < E) (hE1 : E < 0) :
    trueAnomaly e E < 0 :=
  trueAnomaly_neg he0 he1 (Real.sin_neg_of_neg_of_neg_pi_lt hE1 hE0)

/-- at the apsides (`sin E = 0`) `f` is `0` (perigee, `cos E ≥ e`) or `π` (apogee) -/
theorem trueAnomaly_zero_or_pi {e E : ℝ} (hs : Real.sin E = 0) :
    trueAnomaly e E = 0 ∨ trueAnomaly e E = Real.pi := by
  simp only [trueAnomaly, trig_sqrt, trig_sin, trig_cos, hs, mul_zero, trig_atan2]
  by_cases h : 0 ≤ Real.cos E - e
  · left
    rw [Complex.arg_eq_zero_iff]
    exact ⟨h, rfl⟩
  · right
    rw [Complex.arg_eq_pi_iff]
    exact ⟨lt_of_not_ge h, rfl⟩

/-! ### non-vacuity of the hypotheses -/

example : 0 < trueAnomaly (1 / 2 : ℝ) (Real.pi / 2) :=
  trueAnomaly_pos (by norm_num) (by norm_num) (by rw [Real.sin_pi_div_two]; norm_num)

example : trueAnomaly (1 / 2 : ℝ) (-(Real.pi / 2)) < 0 :=
  trueAnomaly_neg (by norm_num) (by norm_num) (by rw [Real.sin_neg, Real.sin_pi_div_two]; norm_num)

example : trueAnomaly (1 / 2 : ℝ) 0 = 0 ∨ trueAnomaly (1 / 2 : ℝ) 0 = Real.pi :=
  trueAnomaly_zero_or_pi Real.sin_zero

/-- the circular orbit `GM = 1`, `r = (1,0,0)`, `v = (0,1,0)` satisfies the hypotheses of
`trs2kepler_bound` and `trs2kepler_e_lt_one` -/
theorem circular_hyps :
    let w : V6 ℝ := ⟨⟨1, 0, 0⟩, ⟨0, 1, 0⟩⟩
    w.p.norm = 1 ∧ w.v.norm = 1 ∧ (V3.cross w.p w.v).norm = 1 := by
  simp [V3.norm, V3.cross]

example : 0 < (trs2kepler (1 : ℝ) ⟨⟨1, 0, 0⟩, ⟨0, 1, 0⟩⟩).a := by
  obtain ⟨hp, hv, _⟩ := circular_hyps
  apply trs2kepler_bound 1 _ one_pos
  · rw [hp]; exact one_pos
  · rw [hp, hv]; norm_num

example : (trs2kepler (1 : ℝ) ⟨⟨1, 0, 0⟩, ⟨0, 1, 0⟩⟩).e < 1 := by
  obtain ⟨hp, hv, hh⟩ := circular_hyps
  apply trs2kepler_e_lt_one 1 _ one_pos
  · apply trs2kepler_bound 1 _ one_pos
    · rw [hp]; exact one_pos
    · rw [hp, hv]; norm_num
  · rw [hh]; exact one_ne_zero

end Midgard.Geo

#print axioms Midgard.Geo.atan2_mem_Ioc
#print axioms Midgard.Geo.trs2kepler_bound
#print axioms Midgard.Geo.trs2kepler_e_lt_one
#print axioms Midgard.Geo.trueAnomaly_pos
#print axioms Midgard.Geo.trueAnomaly_neg
#print axioms Midgard.Geo.trueAnomaly_zero_or_pi
