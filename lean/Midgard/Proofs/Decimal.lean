/-
The part of the lemmas about `Midgard.Core.Decimal` that `AntexRecords`, `SinexEpoch`, `TimeRound`, `Props/C12`, `Props/C14` use without
`Proofs/Digits.lean` (core Lean only): single digits, `digitsVal` and `fixedDigits` by their recursion, the two facts about `roundHalfEven`
that need no order lemmas of Mathlib (`rhe_int`, `rhe_near`), and that `float` / `int` look at the stripped text.  What needs induction over
numbers (`natDigits`, lengths, the read-back of printed numbers) is in `Proofs/Digits.lean`.
-/
import Midgard.Core.Decimal
import Midgard.Proofs.Text

namespace Midgard.Decimal
open Midgard.Text

/-! ### single digits -/

theorem digit_facts : ∀ k < 10, isSpace (Char.ofNat (48 + k)) = false ∧ isDigit (Char.ofNat (48 + k)) = true
    ∧ digitVal (Char.ofNat (48 + k)) = k ∧ Char.ofNat (48 + k) ≠ '-' ∧ Char.ofNat (48 + k) ≠ '+'
    ∧ Char.ofNat (48 + k) ≠ '.' := by
  decide +kernel

theorem isDigit_digitChar (n : Nat) : isDigit (digitChar n) = true :=
  (digit_facts (n % 10) (Nat.mod_lt _ (by decide))).2.1

theorem digitVal_digitChar (n : Nat) : digitVal (digitChar n) = n % 10 :=
  (digit_facts (n % 10) (Nat.mod_lt _ (by decide))).2.2.1

theorem digitChar_ne_minus (n : Nat) : digitChar n ≠ '-' :=
  (digit_facts (n % 10) (Nat.mod_lt _ (by decide))).2.2.2.1

theorem digitChar_ne_plus (n : Nat) : digitChar n ≠ '+' :=
  (digit_facts (n % 10) (Nat.mod_lt _ (by decide))).2.2.2.2.1

theorem digitChar_ne_point (n : Nat) : digitChar n ≠ '.' :=
  (digit_facts (n % 10) (Nat.mod_lt _ (by decide))).2.2.2.2.2

/-- a digit character is one of the ten `Char.ofNat (48 + k)` that `digit_facts` speaks of -/
theorem digit_of_isDigit {c : Char} (h : isDigit c = true) : ∃ k, k < 10 ∧ c = Char.ofNat (48 + k) := by
  simp only [isDigit, Bool.and_eq_true, decide_eq_true_eq] at h
  have h1 : 48 ≤ c.toNat := h.1
  have h2 : c.toNat ≤ 57 := h.2
  refine ⟨c.toNat - 48, by omega, ?_⟩
  rw [Nat.add_sub_cancel' h1, Char.ofNat_toNat]

theorem isSpace_of_isDigit {c : Char} (h : isDigit c = true) : isSpace c = false := by
  obtain ⟨k, hk, rfl⟩ := digit_of_isDigit h
  exact (digit_facts k hk).1

theorem isDigit_not_sign {c : Char} (h : isDigit c = true) : c ≠ '-' ∧ c ≠ '+' ∧ c ≠ '.' := by
  obtain ⟨k, hk, rfl⟩ := digit_of_isDigit h
  exact (digit_facts k hk).2.2.2

theorem digitVal_le {c : Char} (h : isDigit c = true) : digitVal c ≤ 9 := by
  obtain ⟨k, hk, rfl⟩ := digit_of_isDigit h
  rw [(digit_facts k hk).2.2.1]
  omega

/-! ### `digitsVal`, `fixedDigits` -/

theorem digitsValAux_nil (acc : Nat) : digitsValAux acc [] = acc := rfl

theorem digitsValAux_cons (acc : Nat) (c : Char) (r : Str) :
    digitsValAux acc (c :: r) = digitsValAux (acc * 10 + digitVal c) r := by
  rw [digitsValAux.eq_def]

theorem digitsValAux_append (acc : Nat) (a b : Str) :
    digitsValAux acc (a ++ b) = digitsValAux (digitsValAux acc a) b := by
  induction a generalizing acc with
  | nil => rfl
  | cons d a ih => exact ih _

theorem digitsVal_append_digit (s : Str) (c : Char) : digitsVal (s ++ [c]) = digitsVal s * 10 + digitVal c :=
  digitsValAux_append 0 s [c]

theorem length_fixedDigits (p n : Nat) : (fixedDigits p n).length = p := by
  induction p generalizing n with
  | zero => rfl
  | succ p ih => simp [fixedDigits, ih]

theorem allDigits_fixedDigits (p n : Nat) : allDigits (fixedDigits p n) = true := by
  induction p generalizing n with
  | zero => rfl
  | succ p ih =>
    simp only [fixedDigits, allDigits, List.all_append, List.all_cons, List.all_nil, Bool.and_true,
      Bool.and_eq_true]
    exact ⟨ih _, isDigit_digitChar n⟩

theorem digitsVal_fixedDigits (p n : Nat) : digitsVal (fixedDigits p n) = n % 10 ^ p := by
  induction p generalizing n with
  | zero => rw [Nat.pow_zero, Nat.mod_one]; rfl
  | succ p ih =>
    rw [fixedDigits, digitsVal_append_digit, ih, digitVal_digitChar, Nat.pow_succ, Nat.mul_comm (10 ^ p),
      Nat.mod_mul, Nat.add_comm, Nat.mul_comm 10]

/-- the digits of `a` followed by the `q` digits of `b` are the digits of `a · 10^q + b` -/
theorem fixedDigits_append (p a : Nat) : ∀ (q b : Nat), b < 10 ^ q →
    fixedDigits p a ++ fixedDigits q b = fixedDigits (p + q) (a * 10 ^ q + b)
  | 0, b, hb => by
    obtain rfl : b = 0 := by simpa using hb
    simp [fixedDigits]
  | q + 1, b, hb => by
    have ih := fixedDigits_append p a q (b / 10) (by rw [Nat.pow_succ] at hb; omega)
    have hdiv : (a * 10 ^ (q + 1) + b) / 10 = a * 10 ^ q + b / 10 := by
      rw [Nat.pow_succ, ← Nat.mul_assoc]; omega
    have hmod : digitChar (a * 10 ^ (q + 1) + b) = digitChar b := by
      unfold digitChar
      rw [Nat.pow_succ, ← Nat.mul_assoc, Nat.mul_add_mod_self_right]
    rw [← Nat.add_assoc, fixedDigits, fixedDigits, hdiv, hmod, ← ih, List.append_assoc]

theorem fixedDigits_ne_nil {p : Nat} (hp : 0 < p) (n : Nat) : fixedDigits p n ≠ [] := by
  intro h
  have := length_fixedDigits p n
  rw [h] at this
  simp at this
  omega

theorem parseNat_fixedDigits {p : Nat} (hp : 0 < p) (n : Nat) :
    parseNat? (fixedDigits p n) = some (n % 10 ^ p) := by
  unfold parseNat?
  have h1 : (fixedDigits p n).isEmpty = false := by
    cases h : fixedDigits p n with
    | nil => exact absurd h (fixedDigits_ne_nil hp n)
    | cons _ _ => rfl
  simp [h1, allDigits_fixedDigits, digitsVal_fixedDigits]

theorem strip_of_allDigits {s : Str} (h : allDigits s = true) : strip s = s := by
  apply strip_of_no_space
  intro c hc
  simp only [allDigits, List.all_eq_true] at h
  exact isSpace_of_isDigit (h c hc)

theorem takeSign_of_digit {c : Char} {r : Str} (h : isDigit c = true) : takeSign (c :: r) = (false, c :: r) := by
  obtain ⟨h1, h2, _⟩ := isDigit_not_sign h
  unfold takeSign
  split
  · rename_i heq; simp only [List.cons.injEq] at heq; exact absurd heq.1 h1
  · rename_i heq; simp only [List.cons.injEq] at heq; exact absurd heq.1 h2
  · rfl

theorem parseInt_fixedDigits {p : Nat} (hp : 0 < p) (n : Nat) :
    parseInt? (fixedDigits p n) = some ((n % 10 ^ p : Nat) : Int) := by
  unfold parseInt?
  rw [strip_of_allDigits (allDigits_fixedDigits p n)]
  cases h : fixedDigits p n with
  | nil => exact absurd h (fixedDigits_ne_nil hp n)
  | cons c r =>
    have hd : isDigit c = true := by
      have := allDigits_fixedDigits p n
      rw [h] at this
      simp only [allDigits, List.all_cons, Bool.and_eq_true] at this
      exact this.1
    rw [takeSign_of_digit hd, ← h]
    simp [parseNat_fixedDigits hp n]

theorem parseInt_fixedDigits_lt {p : Nat} (hp : 0 < p) (n : Nat) (h : n < 10 ^ p) :
    parseInt? (fixedDigits p n) = some (n : Int) := by
  rw [parseInt_fixedDigits hp, Nat.mod_eq_of_lt h]

/-! ### `roundHalfEven` -/

theorem rhe_int (n : Int) : roundHalfEven (n : Rat) = n := by
  unfold roundHalfEven
  have hpos : (0 : Rat) < 1 / 2 := by decide +kernel
  simp only [Rat.floor_intCast, Rat.sub_self, hpos, if_true]

theorem rhe_near (x : Rat) :
    ((roundHalfEven x : Int) : Rat) - x ≤ 1 / 2 ∧ x - ((roundHalfEven x : Int) : Rat) ≤ 1 / 2 := by
  have h1 := Rat.floor_le x
  have h2 := Rat.lt_floor_add_one x
  rw [Rat.intCast_add] at h2
  unfold roundHalfEven
  simp only
  split
  · constructor <;> grind
  · split
    · rw [Rat.intCast_add]; constructor <;> grind
    · split
      · constructor <;> grind
      · rw [Rat.intCast_add]; constructor <;> grind

/-! ### `float` and `int` look at the stripped text only -/

theorem parseFloat_congr_strip {s t : Str} (h : strip s = strip t) : parseFloat s = parseFloat t := by
  unfold parseFloat parseDecimalWith; rw [h]

theorem parseFloat_strip (s : Str) : parseFloat (strip s) = parseFloat s :=
  parseFloat_congr_strip (strip_idem s)

theorem parseInt_congr_strip {s t : Str} (h : strip s = strip t) : parseInt? s = parseInt? t := by
  unfold parseInt?; rw [h]

end Midgard.Decimal
