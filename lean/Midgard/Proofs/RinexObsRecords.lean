/-
The labelled header records of `Spec/Rinex.lean` (RINEX 3.04 and 2.11): their layouts are sorted and stay in the 60 data
columns, and a parser that finds the label and cuts the line with fields covering the standard's hands the printed cells to
its handler (`labelled_line`), whichever of the two parsers it is.  At the end the observation layouts `obsLayout` /
`obsAligns` of both versions: sorted, three fields per observation.
-/
import Midgard.Spec.Rinex
import Midgard.Proofs.RinexObs

namespace Midgard.RinexObs.Records
open Midgard.Text Midgard.FixedCol Midgard.ChainParser Midgard.RinexObs Midgard.Decimal
open Midgard.Spec.Rinex (RecSpec headerSpecs renderLabelled renderCells)

def specOk (sp : RecSpec) : Bool :=
  Sorted sp.layout && Within 60 sp.layout && decide (sp.aligns.length = sp.layout.length) &&
  Clean sp.label.toList && !sp.label.toList.isEmpty

/-- what the proofs use of a record label: first and last character visible, no longer than columns 61–80, no line
break, and only `END OF HEADER` itself starts with these 13 characters -/
def labelOk (l : Str) : Bool :=
  Clean l && !l.isEmpty && decide (l.length ≤ 20) && l.all (· != '\n') &&
  (l.take 13 != "END OF HEADER".toList || l == "END OF HEADER".toList)

/-- the kernel reads a string literal as `String.ofList` of its characters: rewriting with `toList_ofList` spares it the UTF-8
decoding of every label -/
theorem labels_ok : ∀ l ∈ headerSpecs.map (·.label), labelOk l.toList = true := by
  simp only [headerSpecs, List.map_cons, List.map_nil, List.forall_mem_cons]
  repeat rw [String.toList_ofList]
  decide +kernel

theorem layouts_ok : headerSpecs.all (fun sp =>
    Sorted sp.layout && Within 60 sp.layout && decide (sp.aligns.length = sp.layout.length)) = true := by
  decide +kernel

theorem label_ok {sp : RecSpec} (hsp : sp ∈ headerSpecs) : labelOk sp.label.toList = true :=
  labels_ok sp.label (List.mem_map_of_mem hsp)

theorem spec_facts {sp : RecSpec} (hsp : sp ∈ headerSpecs) :
    Sorted sp.layout = true ∧ Within 60 sp.layout = true ∧ sp.aligns.length = sp.layout.length ∧
    Clean sp.label.toList = true ∧ sp.label.toList ≠ [] := by
  have hl := List.all_eq_true.mp layouts_ok sp hsp
  have hb := label_ok hsp
  simp only [labelOk, Bool.and_eq_true, decide_eq_true_eq, Bool.not_eq_eq_eq_not, Bool.not_true, List.isEmpty_eq_false_iff] at hl hb
  exact ⟨hl.1.1, hl.1.2, hl.2, hb.1.1.1.1, hb.1.1.1.2⟩

theorem header_record_roundtrip (sp : RecSpec) (hsp : sp ∈ headerSpecs) (cells : List Str)
    (hlen : cells.length = sp.layout.length) (hf : Fits sp.layout (sp.aligns.zip cells) = true) :
    sp.layout.map (fun f => slice f (rstrip (renderLabelled sp cells))) = cells ∧
    asString (strip (sliceFrom 60 (rstrip (renderLabelled sp cells)))) = sp.label := by
  obtain ⟨hs, hw, hal, hc, hne'⟩ := spec_facts hsp
  have hfields := labelled_fields sp.layout (sp.aligns.zip cells) sp.label.toList hs hf
  rw [List.map_snd_zip (by omega)] at hfields
  have hlab := labelled_label sp.layout (sp.aligns.zip cells) sp.label.toList hs hf hw hc hne'
  refine ⟨hfields, ?_⟩
  unfold renderLabelled renderCells
  rw [hlab, strip_of_clean hc]
  simp [asString]

theorem labelled_line {S} (p : ParserDef S) (hskip : ∀ l, p.skipLine l = false)
    (hlab : ∀ l n, p.label l n = asString (strip (sliceFrom 60 l)))
    (sp : RecSpec) (hsp : sp ∈ headerSpecs) (d : LabelDef) (hd : p.defs.find? (·.label == sp.label) = some d)
    (hc : Covers 0 sp.layout d.fields = true) (hn : d.fields.map (·.name) = sp.layout.map (·.name))
    (hop : d.openFields = []) (hst : d.strip = .whitespace)
    (cells : List Str) (hlen : cells.length = sp.layout.length) (hf : Fits sp.layout (sp.aligns.zip cells) = true)
    (n : Nat) (s : S) :
    parseLine p (rstrip (renderLabelled sp cells)) n s = p.handle d.handler ((sp.layout.map (·.name)).zip cells) s := by
  obtain ⟨hs, _, hal, _, _⟩ := spec_facts hsp
  have hcells : d.fields.map (fun q => FixedCol.slice q (rstrip (renderLabelled sp cells))) = cells := by
    have := labelled_covers sp.layout d.fields (sp.aligns.zip cells) sp.label.toList hs hf hc
    rwa [List.map_snd_zip (by omega)] at this
  have hv : ∀ line : Str, d.fields.map (fun q => FixedCol.slice q line) = cells → d.values line = (sp.layout.map (·.name)).zip cells := by
    intro line h
    unfold LabelDef.values
    rw [hop, hst, ← hn, ← h, List.zip_map']
    simp only [List.map_nil, List.append_nil, StripOpt.apply, FixedCol.slice]
  rw [parseLine_found p _ n s d (hskip _) (by
    rw [hlab, rstrip_idem, (header_record_roundtrip sp hsp cells hlen hf).2]; exact hd), hv _ hcells]

theorem slice_label (sp : RecSpec) (hsp : sp ∈ headerSpecs) (cells : List Str)
    (hf : Fits sp.layout (sp.aligns.zip cells) = true) (w : Nat) :
    Text.slice 60 (60 + w) (rstrip (renderLabelled sp cells)) = sp.label.toList.take w := by
  obtain ⟨hs, hw, _, hc, hne'⟩ := spec_facts hsp
  unfold renderLabelled Spec.Rinex.renderCells
  rw [labelled_rstrip _ _ _ hc hne']
  have hlen60 : (ljust 60 (renderA sp.layout (sp.aligns.zip cells))).length = 60 :=
    length_ljust (renderA_length_le hs hf hw)
  rw [slice_append_right (by omega)]
  simp [hlen60, Text.slice]

theorem labelled_not_end {S} (p : ParserDef S)
    (hend : ∀ l n nx, p.endMarker l n nx = decide (Text.slice 60 73 l = "END OF HEADER".toList))
    (sp : RecSpec) (hsp : sp ∈ headerSpecs) (hne : sp.label ≠ "END OF HEADER") (cells : List Str)
    (hf : Fits sp.layout (sp.aligns.zip cells) = true) (n : Nat) (nx : Str) :
    p.endMarker (rstrip (renderLabelled sp cells)) n nx = false := by
  rw [hend, show (73 : Nat) = 60 + 13 from rfl, slice_label sp hsp cells hf 13]
  have hl := label_ok hsp
  simp only [labelOk, Bool.and_eq_true, Bool.or_eq_true, bne_iff_ne, beq_iff_eq] at hl
  rcases hl.2 with h | h
  · exact decide_eq_false h
  · exact absurd (String.toList_injective h) hne

theorem sortedFrom_obs (start : Nat) : ∀ (m k p : Nat), p ≤ start + 16 * k →
    SortedFrom p ((List.range' k m).flatMap fun j => Spec.Rinex.obsTriple j (start + 16 * j)) = true := by
  intro m
  induction m with
  | zero => intro k p _; rfl
  | succ m ih =>
    intro k p hp
    simp only [List.range'_succ, List.flatMap_cons, Spec.Rinex.obsTriple, List.cons_append, List.nil_append, SortedFrom,
      Bool.and_eq_true, decide_eq_true_eq]
    exact ⟨⟨hp, by omega⟩, ⟨by omega, by omega⟩, ⟨by omega, by omega⟩, ih (k + 1) _ (by omega)⟩

theorem obsLayout_eq (start m : Nat) :
    Spec.Rinex.obsLayout start m = (List.range' 0 m).flatMap fun k => Spec.Rinex.obsTriple k (start + 16 * k) := by
  rw [Spec.Rinex.obsLayout, List.range_eq_range']

theorem obsAligns_eq (m : Nat) :
    Spec.Rinex.obsAligns m = (List.range' 0 m).flatMap fun _ => [Spec.Rinex.R, Spec.Rinex.L, Spec.Rinex.L] := by
  rw [Spec.Rinex.obsAligns, List.range_eq_range']

theorem sortedFrom_obsLayout {p start : Nat} (h : p ≤ start) (m : Nat) : SortedFrom p (Spec.Rinex.obsLayout start m) = true := by
  rw [obsLayout_eq]
  exact sortedFrom_obs start m 0 p (by omega)

theorem length_obsLayout (start m : Nat) : (Spec.Rinex.obsLayout start m).length = 3 * m := by
  rw [Spec.Rinex.obsLayout, Lists.length_flatMap_three _ _ fun _ => rfl, List.length_range]

theorem length_obsAligns (m : Nat) : (Spec.Rinex.obsAligns m).length = 3 * m := by
  rw [Spec.Rinex.obsAligns, Lists.length_flatMap_three _ _ fun _ => rfl, List.length_range]

end Midgard.RinexObs.Records
