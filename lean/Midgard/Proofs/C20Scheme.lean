/-
C20 — what the 1-dimensional interpolators of `Model/Numeric.lean` have in common.  An interpolator is read as a
*scheme*: a relation between strictly increasing abscissae, one column of ordinates, a point and the value returned
there; `Nodes`, `Sends g g'` (`Exact g` on the diagonal), `Linear` say what a scheme does with the data.  The model's
sort is a permutation of positions (`sortIdx`), and a successful call `Returns` values of its scheme on the samples
gathered at `sortIdx`, so each property of the scheme is a property of every call.
-/
import Midgard.Model.Numeric
import Midgard.Proofs.Lists
import Mathlib.Data.List.Sort
import Mathlib.Algebra.Order.Field.Rat

namespace Midgard.Proofs.C20
open Midgard.Numeric

theorem of_guard_ok {α} {c : Prop} [Decidable c] {e : Err} {t : Except Err α} {o : α}
    (h : (if c then .error e else t) = .ok o) : ¬c ∧ t = .ok o := by
  split at h
  · cases h
  · exact ⟨‹_›, h⟩

theorem getD_mem_lt (xs : List ℚ) (hp : xs.Pairwise (· < ·)) (i j : ℕ) (hij : i < j) (hj : j < xs.length) :
    xs.getD i 0 < xs.getD j 0 := by
  have hi : i < xs.length := by omega
  rw [List.getD_eq_getElem?_getD, List.getD_eq_getElem?_getD, List.getElem?_eq_getElem hi,
    List.getElem?_eq_getElem hj]
  exact List.pairwise_iff_getElem.mp hp i j hi hj hij

theorem nodup_of_pairwise_lt (l : List ℚ) (h : l.Pairwise (· < ·)) : l.Nodup :=
  h.imp (fun hab => ne_of_lt hab)

theorem getD_map_col (l : List (List ℚ)) (c j : ℕ) :
    (l.map (·.getD c 0)).getD j 0 = (l.getD j []).getD c 0 := by
  by_cases hj : j < l.length
  · simp [List.getD_eq_getElem?_getD, hj]
  · simp [List.getD_eq_getElem?_getD, not_lt.mp hj]

/-- on strictly increasing abscissae `sx` and ordinates `col`, `v` is a value the interpolator returns at `x` -/
abbrev Scheme := List ℚ → List ℚ → ℚ → ℚ → Prop

namespace Scheme

def Nodes (R : Scheme) : Prop :=
  ∀ sx col k v, sx.Pairwise (· < ·) → k < sx.length → R sx col (sx.getD k 0) v → v = col.getD k 0

/-- on data sampled from `g` the scheme returns `g' x`: `g' = g` is exactness, `g'` the central difference of `g` is what
the derivative of an exact scheme does (`derivR_sends`) -/
def Sends (R : Scheme) (g g' : ℚ → ℚ) : Prop :=
  ∀ sx col x v, sx.Pairwise (· < ·) → (∀ k, k < sx.length → col.getD k 0 = g (sx.getD k 0)) → R sx col x v → v = g' x

def Exact (R : Scheme) (g : ℚ → ℚ) : Prop := R.Sends g g

/-- No `Pairwise` hypothesis here, unlike `Nodes` and `Sends`: `linear` does not
ask for distinct abscissae and is linear all the same, so a scheme that needs them for linearity (`nakR`) carries them
inside the relation.  In general a scheme carries the guards its call has checked (`w ≤ sx.length`, `2 ≤ sx.length`), and
what only one property needs is a hypothesis of that lemma (`1 ≤ w` in `lagR_nodes`). -/
def Linear (R : Scheme) : Prop :=
  ∀ sx c₁ c₂ c₃ (a b x v₁ v₂ v₃ : ℚ),
    (∀ k, k < sx.length → c₃.getD k 0 = a * c₁.getD k 0 + b * c₂.getD k 0) →
    R sx c₁ x v₁ → R sx c₂ x v₂ → R sx c₃ x v₃ → v₃ = a * v₁ + b * v₂

end Scheme

theorem sortBy_eq_insertionSort {α} (l : List (ℚ × α)) : sortBy l = l.insertionSort (fun p q => p.1 ≤ q.1) := by
  have ins : ∀ (a : ℚ × α) l, insertBy a l = l.orderedInsert (fun p q => p.1 ≤ q.1) a := by
    intro a l
    induction l with
    | nil => rfl
    | cons b l ih => simp only [insertBy, List.orderedInsert_cons, ih]
  induction l with
  | nil => rfl
  | cons a l ih => rw [sortBy, List.insertionSort_cons, ← ih, ins]

theorem sortBy_perm {α} (l : List (ℚ × α)) : (sortBy l).Perm l := by
  rw [sortBy_eq_insertionSort]
  exact List.perm_insertionSort _ l

theorem sortBy_sorted {α} (l : List (ℚ × α)) : (sortBy l).Pairwise (fun p q => p.1 ≤ q.1) := by
  have : Std.Total (fun p q : ℚ × α => p.1 ≤ q.1) := ⟨fun a b => le_total a.1 b.1⟩
  have : IsTrans (ℚ × α) (fun p q => p.1 ≤ q.1) := ⟨fun _ _ _ => le_trans⟩
  rw [sortBy_eq_insertionSort]
  exact List.pairwise_insertionSort _ l

theorem sortBy_map {α β} (f : α → β) (l : List (ℚ × α)) :
    sortBy (l.map (Prod.map id f)) = (sortBy l).map (Prod.map id f) := by
  rw [sortBy_eq_insertionSort, sortBy_eq_insertionSort]
  exact (List.map_insertionSort _ _ (Prod.map id f) l (fun _ _ _ _ => Iff.rfl)).symm

theorem strictInc_pairwise : ∀ l : List ℚ, strictInc l = true → l.Pairwise (· < ·)
  | [], _ => List.Pairwise.nil
  | [a], _ => by simp
  | a :: b :: l, h => by
    simp only [strictInc, Bool.and_eq_true, decide_eq_true_eq] at h
    have ih := strictInc_pairwise (b :: l) h.2
    refine List.pairwise_cons.mpr ⟨?_, ih⟩
    intro q hq
    rcases List.mem_cons.mp hq with rfl | hq
    · exact h.1
    · exact lt_trans h.1 ((List.pairwise_cons.mp ih).1 q hq)

theorem sortBy_eq_of_perm {α} (l₁ l₂ : List (ℚ × α)) (hperm : l₁.Perm l₂)
    (hinc : strictInc ((sortBy l₁).map (·.1)) = true) : sortBy l₂ = sortBy l₁ := by
  have hlt := strictInc_pairwise _ hinc
  have hnd : ((sortBy l₁).map (·.1)).Nodup := nodup_of_pairwise_lt _ hlt
  have hp12 : (sortBy l₂).Perm (sortBy l₁) :=
    (sortBy_perm l₂).trans (hperm.symm.trans (sortBy_perm l₁).symm)
  refine List.Perm.eq_of_pairwise (le := fun p q => p.1 ≤ q.1) ?_ (sortBy_sorted l₂) ?_ hp12
  · intro a b ha hb hab hba
    have ha' : a ∈ sortBy l₁ := hp12.mem_iff.mp ha
    exact List.inj_on_of_nodup_map hnd ha' hb (le_antisymm hab hba)
  · exact (List.pairwise_map.mp hlt).imp (fun h => le_of_lt h)

theorem sorted_of_perm {α} (xs xs' : List ℚ) (rows rows' : List α) (hl : rows.length = xs.length)
    (hl' : rows'.length = xs'.length) (hperm : (xs.zip rows).Perm (xs'.zip rows'))
    (hdist : strictInc ((sortBy (xs.zip rows)).map (·.1)) = true) :
    xs'.length = xs.length ∧ sortBy (xs'.zip rows') = sortBy (xs.zip rows) := by
  refine ⟨?_, sortBy_eq_of_perm _ _ hperm hdist⟩
  have := hperm.length_eq
  simp [List.length_zip, hl, hl'] at this
  omega

/-- the samples as the interpolant sees them -/
def sortedPairs (xs : List ℚ) (rows : List (List ℚ)) (assumeSorted : Bool) : List (ℚ × List ℚ) :=
  if assumeSorted then xs.zip rows else sortBy (xs.zip rows)

/-- the same with any payload `R` in place of the rows: the sort looks at the abscissae only, so the positions
`List.range n` can ride along and say where each sorted sample came from (`sortIdx`) -/
def sortedWith {β} (xs : List ℚ) (R : List β) (srt : Bool) : List (ℚ × β) :=
  if srt then xs.zip R else sortBy (xs.zip R)

theorem sortedPairs_eq_sortedWith (xs : List ℚ) (rows : List (List ℚ)) (srt : Bool) :
    sortedPairs xs rows srt = sortedWith xs rows srt := rfl

theorem sortedWith_perm {β} (xs : List ℚ) (R : List β) (srt : Bool) : (sortedWith xs R srt).Perm (xs.zip R) := by
  cases srt
  · exact sortBy_perm _
  · exact List.Perm.refl _

theorem sortedWith_map {β γ} (g : β → γ) (xs : List ℚ) (R : List β) (srt : Bool) :
    sortedWith xs (R.map g) srt = (sortedWith xs R srt).map (Prod.map id g) := by
  have hz : xs.zip (R.map g) = (xs.zip R).map (Prod.map id g) := by rw [List.zip_map_right]
  cases srt
  · simp only [sortedWith, Bool.false_eq_true, if_false, hz, sortBy_map]
  · simp only [sortedWith, if_true, hz]

/-- the position in the input of each sorted sample: it depends on the abscissae only -/
def sortIdx (xs : List ℚ) (srt : Bool) : List ℕ := (sortedWith xs (List.range xs.length) srt).map (·.2)

theorem sortIdx_perm (xs : List ℚ) (srt : Bool) : (sortIdx xs srt).Perm (List.range xs.length) := by
  have := (sortedWith_perm xs (List.range xs.length) srt).map (·.2)
  rwa [List.map_snd_zip (by simp)] at this

theorem sortIdx_length (xs : List ℚ) (srt : Bool) : (sortIdx xs srt).length = xs.length := by
  rw [(sortIdx_perm xs srt).length_eq, List.length_range]

theorem sortIdx_getD_lt (xs : List ℚ) (srt : Bool) (k : ℕ) (hk : k < xs.length) :
    (sortIdx xs srt).getD k 0 < xs.length := by
  have hk' : k < (sortIdx xs srt).length := by rwa [sortIdx_length]
  rw [Lists.getD_of_lt _ _ _ hk']
  exact List.mem_range.mp ((sortIdx_perm xs srt).mem_iff.mp (List.getElem_mem hk'))

theorem sortedPairs_eq_gather (xs : List ℚ) (rows : List (List ℚ)) (srt : Bool) (hl : rows.length = xs.length) :
    sortedPairs xs rows srt = (sortIdx xs srt).map (fun t => (xs.getD t 0, rows.getD t [])) := by
  have hr : rows = (List.range xs.length).map (fun i => rows.getD i []) := by
    rw [← hl]; exact Lists.list_eq_map_range rows []
  conv_lhs => rw [hr]
  rw [sortedPairs_eq_sortedWith, sortedWith_map, sortIdx, List.map_map]
  apply List.map_congr_left
  intro p hp
  obtain ⟨i, hi, rfl⟩ := List.mem_iff_getElem.mp ((sortedWith_perm xs _ srt).mem_iff.mp hp)
  have hi' : i < xs.length := by simp [List.length_zip] at hi; omega
  simp [List.getD_eq_getElem?_getD, hi']

theorem sortedPairs_fst (xs : List ℚ) (rows : List (List ℚ)) (srt : Bool) (hl : rows.length = xs.length) :
    (sortedPairs xs rows srt).map (·.1) = (sortIdx xs srt).map (fun t => xs.getD t 0) := by
  rw [sortedPairs_eq_gather xs rows srt hl, List.map_map]; rfl

theorem sortedPairs_length (xs : List ℚ) (rows : List (List ℚ)) (srt : Bool) (hl : rows.length = xs.length) :
    (sortedPairs xs rows srt).length = xs.length := by
  rw [sortedPairs_eq_gather xs rows srt hl, List.length_map, sortIdx_length]

theorem sortedPairs_col (xs : List ℚ) (rows : List (List ℚ)) (srt : Bool) (hl : rows.length = xs.length) (c : ℕ) :
    ((sortedPairs xs rows srt).map (·.2)).map (·.getD c 0) = (sortIdx xs srt).map (fun t => (rows.getD t []).getD c 0) := by
  rw [sortedPairs_eq_gather xs rows srt hl, List.map_map, List.map_map]
  rfl

theorem sortIdx_surj (xs : List ℚ) (srt : Bool) (i : ℕ) (hi : i < xs.length) :
    ∃ k, k < xs.length ∧ (sortIdx xs srt).getD k 0 = i := by
  obtain ⟨k, hk, hki⟩ := List.mem_iff_getElem.mp ((sortIdx_perm xs srt).mem_iff.mpr (List.mem_range.mpr hi))
  exact ⟨k, by rwa [sortIdx_length] at hk, by rw [Lists.getD_of_lt _ _ _ hk, hki]⟩

theorem gather_getD (xs : List ℚ) (srt : Bool) (f : ℕ → ℚ) (k : ℕ) (hk : k < xs.length) :
    ((sortIdx xs srt).map f).getD k 0 = f ((sortIdx xs srt).getD k 0) :=
  Lists.getD_map_of_lt _ _ 0 _ k (by rwa [sortIdx_length])

/-- taken in the order `sortIdx xs srt`, the abscissae increase strictly: when the model sorts (`srt = false`) this says
that they are distinct, when it is told they are sorted (`srt = true`) that `xs` itself increases -/
def Ascending (xs : List ℚ) (srt : Bool) : Prop := ((sortIdx xs srt).map (fun t => xs.getD t 0)).Pairwise (· < ·)

theorem ascending_of_strictInc {xs : List ℚ} {rows : List (List ℚ)} {srt : Bool} (hl : rows.length = xs.length)
    (h : strictInc ((sortedPairs xs rows srt).map (·.1)) = true) : Ascending xs srt := by
  have hp := strictInc_pairwise _ h
  rwa [sortedPairs_fst xs rows srt hl] at hp

theorem Ascending.nodup {xs : List ℚ} {srt : Bool} (h : Ascending xs srt) : xs.Nodup := by
  have hp := (sortIdx_perm xs srt).map (fun t => xs.getD t 0)
  rw [← Lists.list_eq_map_range xs 0] at hp
  exact hp.nodup_iff.mp (nodup_of_pairwise_lt _ h)

/-- `out` is, entry by entry, a value of the scheme `R` on the samples in the order `sortIdx xs srt` -/
structure Returns (R : Scheme) (xs : List ℚ) (rows : List (List ℚ)) (srt : Bool) (dim : ℕ) (xnew : List ℚ)
    (out : List (List ℚ)) : Prop where
  rows_len : out.length = xnew.length
  row_len : ∀ j, j < xnew.length → (out.getD j []).length = dim
  entry : ∀ j c, j < xnew.length → c < dim →
    R ((sortIdx xs srt).map (fun t => xs.getD t 0)) ((sortIdx xs srt).map (fun t => (rows.getD t []).getD c 0))
      (xnew.getD j 0) ((out.getD j []).getD c 0)

/-- how every interpolator of the model produces its result: a kernel `K` mapped over the new abscissae -/
theorem Returns.of_map {R : Scheme} {xs : List ℚ} {rows : List (List ℚ)} {srt : Bool} {dim : ℕ} (xnew : List ℚ)
    (K : ℚ → List ℚ) (hl : rows.length = xs.length) (hlen : ∀ x, (K x).length = dim)
    (hK : ∀ x c, c < dim → R ((sortedPairs xs rows srt).map (·.1))
      (((sortedPairs xs rows srt).map (·.2)).map (·.getD c 0)) x ((K x).getD c 0)) :
    Returns R xs rows srt dim xnew (xnew.map K) := by
  refine ⟨by simp, fun j hj => ?_, fun j c hj hc => ?_⟩
  · rw [Lists.getD_map_of_lt _ _ 0 _ _ hj, hlen]
  · rw [Lists.getD_map_of_lt _ _ 0 _ _ hj, ← sortedPairs_col xs rows srt hl c, ← sortedPairs_fst xs rows srt hl]
    exact hK _ c hc

section
variable {R : Scheme} {xs : List ℚ} {srt : Bool} {dim : ℕ} {xnew : List ℚ}

theorem Returns.nodes {rows out} (h : Returns R xs rows srt dim xnew out) (hp : Ascending xs srt) (hR : R.Nodes)
    (i j c : ℕ) (hi : i < xs.length) (hj : j < xnew.length) (hc : c < dim) (hx : xnew.getD j 0 = xs.getD i 0) :
    (out.getD j []).getD c 0 = (rows.getD i []).getD c 0 := by
  obtain ⟨k, hk, hki⟩ := sortIdx_surj xs srt i hi
  have e := h.entry j c hj hc
  rw [hx, ← hki, ← gather_getD xs srt (fun t => xs.getD t 0) k hk] at e
  rw [hR _ _ k _ hp (by simpa [sortIdx_length] using hk) e, gather_getD xs srt _ k hk, hki]

theorem Returns.sends {rows out} (h : Returns R xs rows srt dim xnew out) (hp : Ascending xs srt) {g g' : ℚ → ℚ}
    (hR : R.Sends g g') (c : ℕ) (hc : c < dim)
    (hdata : ∀ i, i < xs.length → (rows.getD i []).getD c 0 = g (xs.getD i 0)) (j : ℕ) (hj : j < xnew.length) :
    (out.getD j []).getD c 0 = g' (xnew.getD j 0) := by
  refine hR _ _ _ _ hp (fun k hk => ?_) (h.entry j c hj hc)
  have hk : k < xs.length := by simpa [sortIdx_length] using hk
  rw [gather_getD xs srt _ k hk, gather_getD xs srt _ k hk]
  exact hdata _ (sortIdx_getD_lt xs srt k hk)

theorem Returns.linear {r₁ r₂ r₃ o₁ o₂ o₃} (h₁ : Returns R xs r₁ srt dim xnew o₁) (h₂ : Returns R xs r₂ srt dim xnew o₂)
    (h₃ : Returns R xs r₃ srt dim xnew o₃) (hR : R.Linear) (a b : ℚ) (c : ℕ) (hc : c < dim)
    (hcomb : ∀ i, i < xs.length →
      (r₃.getD i []).getD c 0 = a * (r₁.getD i []).getD c 0 + b * (r₂.getD i []).getD c 0)
    (j : ℕ) (hj : j < xnew.length) :
    (o₃.getD j []).getD c 0 = a * (o₁.getD j []).getD c 0 + b * (o₂.getD j []).getD c 0 := by
  refine hR _ _ _ _ a b _ _ _ _ (fun k hk => ?_) (h₁.entry j c hj hc) (h₂.entry j c hj hc) (h₃.entry j c hj hc)
  have hk : k < xs.length := by simpa [sortIdx_length] using hk
  rw [gather_getD xs srt _ k hk, gather_getD xs srt _ k hk, gather_getD xs srt _ k hk]
  exact hcomb _ (sortIdx_getD_lt xs srt k hk)

end

/-- every successful call of `f` found distinct abscissae and returns values of `R` -/
def Computes (f : List ℚ → Except Err (List (List ℚ))) (R : Scheme) (xs : List ℚ) (rows : List (List ℚ)) (srt : Bool)
    (dim : ℕ) : Prop :=
  ∀ xnew out, f xnew = .ok out → Ascending xs srt ∧ Returns R xs rows srt dim xnew out

end Midgard.Proofs.C20
