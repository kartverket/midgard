/-
C20 — rect_bivariate_spline specified as the tensor product of not-a-knot splines: a value of `nakValue` is a
value of the scheme `nakR`, a successful `bicubicAt` is one of `Tensor nakR nakR`; beside them what `nakValue` returns at a
node and on cubic data.
-/
import Midgard.Proofs.C20Spline
import Midgard.Proofs.C20Grid

namespace Midgard.Proofs.C20
open Midgard.Numeric

theorem nakValue_some (sx col : List ℚ) (x v : ℚ) (h : nakValue sx col x = some v) :
    ∃ ms, nakMoments sx col = some ms ∧ nakAt sx col ms x = v :=
  Option.map_eq_some_iff.mp h

theorem nakValue_node (sx col : List ℚ) (k : ℕ) (v : ℚ) (hp : sx.Pairwise (· < ·)) (hn : 2 ≤ sx.length) (hk : k < sx.length)
    (h : nakValue sx col (sx.getD k 0) = some v) : v = col.getD k 0 := by
  obtain ⟨ms, _, rfl⟩ := nakValue_some _ _ _ _ h
  exact nakAt_node sx col ms k hp hn hk

theorem nakValue_cubic (sx col : List ℚ) (x v : ℚ) (hp : sx.Pairwise (· < ·)) (hn : 4 ≤ sx.length) (c0 c1 c2 c3 : ℚ)
    (hdata : ∀ k, k < sx.length → col.getD k 0 = cubicAt c0 c1 c2 c3 (sx.getD k 0))
    (h : nakValue sx col x = some v) : v = cubicAt c0 c1 c2 c3 x := by
  obtain ⟨ms, hm, rfl⟩ := nakValue_some _ _ _ _ h
  exact nakAt_cubic sx col ms hp hn (nakMoments_spec sx col ms hm) c0 c1 c2 c3 hdata x

theorem bicubic_form (xs ys : List ℚ) (grid : List (List ℚ)) (x y v : ℚ) (h : bicubicAt xs ys grid x y = some v) :
    (∀ k, k < grid.length → ∃ w, nakValue xs (grid.getD k []) x = some w) ∧
    nakValue ys (grid.map (fun row => (nakValue xs row x).getD 0)) y = some v := by
  simp only [bicubicAt] at h
  split at h
  · exact absurd h (by simp)
  rename_i hany
  refine ⟨?_, ?_⟩
  · intro k hk
    simp only [List.any_eq_true, not_exists, not_and, List.mem_map] at hany
    have hg : grid.getD k [] = grid[k] := by simp [List.getD_eq_getElem?_getD, hk]
    have := hany _ ⟨grid[k], List.getElem_mem hk, rfl⟩
    rw [← hg] at this
    cases hv : nakValue xs (grid.getD k []) x with
    | none => rw [hv] at this; exact absurd rfl this
    | some w => exact ⟨w, rfl⟩
  · rw [List.map_map] at h
    exact h

theorem nakValue_nakR (sx col : List ℚ) (x v : ℚ) (hp : sx.Pairwise (· < ·)) (hn : 4 ≤ sx.length)
    (h : nakValue sx col x = some v) : nakR sx col x v := by
  obtain ⟨ms, hm, rfl⟩ := nakValue_some _ _ _ _ h
  exact ⟨hp, hn, ms, nakMoments_spec sx col ms hm, rfl⟩

theorem bicubicAt_tensor (xs ys : List ℚ) (grid : List (List ℚ)) (x y v : ℚ) (hx : xs.Pairwise (· < ·))
    (hy : ys.Pairwise (· < ·)) (hnx : 4 ≤ xs.length) (hny : 4 ≤ ys.length) (h : bicubicAt xs ys grid x y = some v) :
    Tensor nakR nakR xs ys grid x y v := by
  obtain ⟨hrows, hout⟩ := bicubic_form _ _ _ _ _ _ h
  refine ⟨_, fun k hk => ?_, nakValue_nakR _ _ _ _ hy hny hout⟩
  obtain ⟨w, hw⟩ := hrows k hk
  rw [Lists.getD_map_of_lt _ _ [] _ _ hk, hw]
  exact nakValue_nakR _ _ _ _ hx hnx hw

end Midgard.Proofs.C20
