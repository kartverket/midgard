/-
RINEX 2 at value level: the observation lines of one satellite — the five fields of a line, the values collected in the cache
until `num_obstypes` are there, then the row — and the satellite list of an epoch record and of its continuation lines.
-/
import Midgard.Spec.Rinex2ObsFile
import Midgard.Proofs.ChainParser

namespace Midgard.Spec.Rinex2ObsFile
open Midgard.Text Midgard.FixedCol Midgard.Decimal Midgard.ChainParser Midgard.RinexObs Midgard.Rinex2Obs
open Midgard.Spec.Rinex3ObsFile (Obs)

theorem getv_cons (k : String) (x : Str) (v : Values) (k' : String) :
    getv ((k, x) :: v) k' = if k = k' then .ok x else getv v k' := by
  by_cases h : k = k' <;> simp [getv, Values.get, h] <;> rfl

abbrev Triple := Option Rat × Option Rat × Option Rat

/-- `_float` of value, LLI and signal strength of one 16-character field -/
def tripleOf (t : Str) : Except Err Triple := do
  let w := ljust 16 t
  let a ← floatOpt (Text.slice 0 14 w)
  let b ← floatOpt (Text.slice 14 15 w)
  let c ← floatOpt (Text.slice 15 16 w)
  pure (a, b, c)

theorem fold_obsStep : ∀ (fs : List (String × Str)) (vals : List Triple) (o c g : Col),
    fs.mapM (fun f => tripleOf f.2) = .ok vals →
    fs.foldl obsStep (.ok (o, c, g)) = .ok (o ++ vals.map (·.1), c ++ vals.map (·.2.1), g ++ vals.map (·.2.2)) := by
  intro fs
  induction fs with
  | nil =>
    intro vals o c g h
    simp only [List.mapM_nil, pure, Except.pure, Except.ok.injEq] at h
    subst h; simp
  | cons f fs ih =>
    intro vals o c g h
    rw [List.mapM_cons] at h
    obtain ⟨t, ht, h⟩ := bind_ok' h
    obtain ⟨ts, hts, h⟩ := bind_ok' h
    simp only [pure, Except.pure, Except.ok.injEq] at h
    subst h
    unfold tripleOf at ht
    obtain ⟨a, ha, ht⟩ := bind_ok' ht
    obtain ⟨b, hb, ht⟩ := bind_ok' ht
    obtain ⟨c', hc, ht⟩ := bind_ok' ht
    simp only [pure, Except.pure, Except.ok.injEq] at ht
    subst ht
    have hstep : obsStep (.ok (o, c, g)) f = .ok (o ++ [a], c ++ [b], g ++ [c']) := by
      simp only [obsStep, bind, Except.bind, ha, hb, hc, pure, Except.pure]
    rw [List.foldl_cons, hstep, ih ts _ _ _ hts]
    simp [List.append_assoc]

/-- the effect of an observation line of a kept epoch whose five fields hold `five` -/
def lineFx (e : EpochInfo) (five : List Triple) (s : State) : Except Err State :=
  afterLine e (s.cache.obsValues.getD [] ++ five.map (·.1)) (s.cache.cycleSlip.getD [] ++ five.map (·.2.1))
    (s.cache.signalStrength.getD [] ++ five.map (·.2.2)) s

theorem parseObservation_five (v : Values) (s : State) (e : EpochInfo) (q : Rat) (five : List Triple)
    (he : s.cache.epoch = some e) (hq : e.obsSec = some q)
    (hv : (fieldsWithPrefix v "obs_").mapM (fun f => tripleOf f.2) = .ok five) :
    parseObservation v s = lineFx e five s := by
  unfold parseObservation
  simp only [he, req, bind, Except.bind, pure, Except.pure, hq]
  have := fold_obsStep _ five (s.cache.obsValues.getD []) (s.cache.cycleSlip.getD []) (s.cache.signalStrength.getD []) hv
  rw [this]
  rfl

/-- what the lines of a satellite need from the parser state -/
structure SatCtx (types : List Str) (m : Str) (s : State) : Prop where
  num : s.metaD.get [key "num_obstypes"] = some (.int (types.length : Int))
  typ : s.metaD.get [key "obstypes"] = some (.list types)
  mark : s.metaD.get [key "marker_name"] = some (.text m)

/-- the cache holds the values `acc` of the satellite being read -/
def Holds (acc : List Triple) (s : State) : Prop :=
  s.cache.obsValues.getD [] = acc.map (·.1) ∧ s.cache.cycleSlip.getD [] = acc.map (·.2.1) ∧
  s.cache.signalStrength.getD [] = acc.map (·.2.2)

def keepVals (s : State) (o c g : Col) : State :=
  { s with cache := { s.cache with obsValues := some o, cycleSlip := some c, signalStrength := some g } }

def doneSat (s : State) (d : Data) (rest : List Str) : State :=
  { s with data := d, cache := { s.cache with satList := some rest, obsValues := none, cycleSlip := none, signalStrength := none } }

theorem lineFx_more (types : List Str) (m : Str) (e : EpochInfo) (acc five : List Triple) (s : State)
    (hc : SatCtx types m s) (ha : Holds acc s) (hlt : (acc ++ five).length < types.length) :
    lineFx e five s = .ok (keepVals s ((acc ++ five).map (·.1)) ((acc ++ five).map (·.2.1)) ((acc ++ five).map (·.2.2))) := by
  obtain ⟨h1, h2, h3⟩ := ha
  have hlen : ¬ (((acc.map (·.1) ++ five.map (·.1)).length : Int) ≥ (types.length : Int)) := by
    simp only [List.length_append, List.length_map] at hlt ⊢; omega
  unfold lineFx afterLine
  rw [h1, h2, h3]
  simp only [hc.num, bind, Except.bind, pure, Except.pure, hlen, if_false, keepVals, List.map_append]

def rowData (d : Data) (types : List Str) (obs : List Obs) (e : EpochInfo) (station sat : Str) (num : Int) : Except Err Data :=
  match appendAll d ((types.zip obs).map fun to => (to.1, to.2.value.val, to.2.lli.val, to.2.ssi.val)) with
  | .ok d1 => .ok (d1.appendRow e station (sat.take 1) sat (fmtInt num))
  | .error err => .error err

def triples (obs : List Obs) : List Triple := obs.map fun o => (o.value.val, o.lli.val, o.ssi.val)

theorem zip_triples (types : List Str) (obs : List Obs) (pad : List Triple) (hl : types.length = obs.length) :
    (types.zip ((triples obs ++ pad).map (·.1) |>.zip (((triples obs ++ pad).map (·.2.1)).zip ((triples obs ++ pad).map (·.2.2))))).map
        (fun x => match x with | (t, (a, (b, z))) => (t, a, b, z)) =
      (types.zip obs).map fun to => (to.1, to.2.value.val, to.2.lli.val, to.2.ssi.val) := by
  induction types generalizing obs with
  | nil => rfl
  | cons t ts ih =>
    cases obs with
    | nil => simp at hl
    | cons o os =>
      have := ih os (by simpa using hl)
      simp only [triples, List.map_cons, List.cons_append, List.zip_cons_cons, List.cons.injEq, true_and] at this ⊢
      exact this

theorem lineFx_last (types : List Str) (m : Str) (e : EpochInfo) (obs : List Obs) (acc five pad : List Triple) (s : State)
    (hc : SatCtx types m s) (ha : Holds acc s) (hall : acc ++ five = triples obs ++ pad) (hl : types.length = obs.length)
    (sat : Str) (rest : List Str) (hs : s.cache.satList = some (sat :: rest)) (hne : sat ≠ []) (num : Int)
    (hnum : pyInt (sat.drop 1) = .ok num) :
    lineFx e five s = match rowData s.data types obs e (lower m) sat num with
      | .ok d => .ok (doneSat s d rest)
      | .error err => .error err := by
  obtain ⟨h1, h2, h3⟩ := ha
  have e1 : s.cache.obsValues.getD [] ++ five.map (·.1) = (triples obs ++ pad).map (·.1) := by rw [h1, ← List.map_append, hall]
  have e2 : s.cache.cycleSlip.getD [] ++ five.map (·.2.1) = (triples obs ++ pad).map (·.2.1) := by rw [h2, ← List.map_append, hall]
  have e3 : s.cache.signalStrength.getD [] ++ five.map (·.2.2) = (triples obs ++ pad).map (·.2.2) := by rw [h3, ← List.map_append, hall]
  have hlen : (((triples obs ++ pad).map (·.1)).length : Int) ≥ (types.length : Int) := by
    simp only [triples, List.length_map, List.length_append]; omega
  have hsy : (sat.head?.map fun ch => [ch]) = some (sat.take 1) := by
    cases sat with
    | nil => exact absurd rfl hne
    | cons c r => rfl
  unfold lineFx afterLine
  rw [e1, e2, e3]
  simp only [hc.num, hc.typ, hc.mark, hs, hsy, hnum, req, bind, Except.bind, pure, Except.pure, hlen, if_true, zip_triples types obs pad hl,
    rowData, doneSat]
  cases appendAll s.data ((types.zip obs).map fun to => (to.1, to.2.value.val, to.2.lli.val, to.2.ssi.val)) <;> rfl

def none3 : Triple := (none, none, none)

/-- the five fields of a line that holds the observations `c` (missing ones blank) -/
def pad5 (c : List Triple) : List Triple := c ++ List.replicate (5 - c.length) none3

/-- the lines of a satellite: five observations per line -/
def fivesOf (vals : List Triple) : List (List Triple) := (chunks 5 vals.length vals).map pad5

theorem chunks_nil {α} (k fuel : Nat) : chunks k fuel ([] : List α) = [] := by
  cases fuel <;> rfl

theorem chunks_mem {α} (k : Nat) (hk : 0 < k) : ∀ (fuel : Nat) (l : List α), ∀ c ∈ chunks k fuel l,
    c ≠ [] ∧ c.length ≤ k ∧ ∀ x ∈ c, x ∈ l := by
  intro fuel
  induction fuel with
  | zero => intro l c hc; simp [chunks] at hc
  | succ fuel ih =>
    intro l c hc
    cases l with
    | nil => simp [chunks] at hc
    | cons a r =>
      simp only [chunks, List.isEmpty_cons, Bool.false_eq_true, if_false, List.mem_cons] at hc
      rcases hc with rfl | hc
      · exact ⟨by cases k <;> simp_all, List.length_take_le k _, fun x hx => List.mem_of_mem_take hx⟩
      · obtain ⟨h1, h2, h3⟩ := ih _ c hc
        exact ⟨h1, h2, fun x hx => List.mem_of_mem_drop (h3 x hx)⟩

theorem chunks_flatten {α} (k : Nat) (hk : 0 < k) : ∀ (fuel : Nat) (l : List α), l.length ≤ fuel → (chunks k fuel l).flatten = l := by
  intro fuel
  induction fuel with
  | zero => intro l h; cases l <;> simp_all [chunks]
  | succ fuel ih =>
    intro l h
    cases l with
    | nil => rfl
    | cons a r =>
      simp only [chunks, List.isEmpty_cons, Bool.false_eq_true, if_false, List.flatten_cons]
      rw [ih _ (by simp at h ⊢; omega), List.take_append_drop]

/-- The chunks of five of one satellite's observations, each handled by a `step` that acts as `lineFx` on the values of its
chunk while the satellite is outstanding: the values are collected in the cache, the chunk that completes them appends the
row.  `Q` is what `step` needs of the state besides the satellite list, `R` what it needs of the observations. -/
theorem sat_chunks {α} (val : α → Triple) (R : α → Prop) (Q : State → Prop) (step : List α → State → Except Err State)
    (types : List Str) (m : Str) (e : EpochInfo) (obs : List Obs) (hl : types.length = obs.length)
    (sat : Str) (rest : List Str) (hne : sat ≠ []) (num : Int) (hnum : pyInt (sat.drop 1) = .ok num)
    (hQ : ∀ s o c g, Q s → Q (keepVals s o c g))
    (hstep : ∀ c s, c.length ≤ 5 → (∀ a ∈ c, R a) → Q s → s.cache.satList = some (sat :: rest) →
      step c s = lineFx e (pad5 (c.map val)) s) :
    ∀ (fuel : Nat) (todo : List α) (acc : List Triple) (s : State), todo.length ≤ fuel → todo ≠ [] → (∀ a ∈ todo, R a) →
      acc ++ todo.map val = triples obs → Holds acc s → Q s → s.cache.satList = some (sat :: rest) → SatCtx types m s →
      (chunks 5 fuel todo).foldlM (fun st c => step c st) s =
        match rowData s.data types obs e (lower m) sat num with
        | .ok d => .ok (doneSat s d rest)
        | .error err => .error err := by
  intro fuel
  induction fuel with
  | zero =>
    intro todo acc s hf hne'
    exact absurd (List.length_eq_zero_iff.mp (Nat.le_zero.mp hf)) hne'
  | succ fuel ih =>
    intro todo acc s hf hne' hR hsum hh hq hs hc
    have hce : todo.isEmpty = false := by simpa using hne'
    have hn : acc.length + todo.length = types.length := by
      have := congrArg List.length hsum
      simpa [triples, hl] using this
    rw [chunks, hce, if_neg Bool.false_ne_true, List.foldlM_cons,
      hstep (todo.take 5) s (List.length_take_le 5 todo) (fun a ha => hR a (List.mem_of_mem_take ha)) hq hs]
    by_cases hlast : todo.length ≤ 5
    · rw [List.take_of_length_le hlast, List.drop_eq_nil_of_le hlast, chunks_nil,
        lineFx_last types m e obs acc _ (List.replicate (5 - (todo.map val).length) none3) s hc hh
          (by rw [pad5, ← List.append_assoc, hsum]) hl sat rest hs hne num hnum]
      cases rowData s.data types obs e (lower m) sat num <;> rfl
    · have h5 : ((todo.take 5).map val).length = 5 := by simp; omega
      have hpad : pad5 ((todo.take 5).map val) = (todo.take 5).map val := by rw [pad5, h5]; exact List.append_nil _
      rw [hpad, lineFx_more types m e acc _ s hc hh (by rw [List.length_append, h5]; omega)]
      exact ih (todo.drop 5) (acc ++ (todo.take 5).map val) _ (by simp; omega)
        (by intro e0; have := congrArg List.length e0; simp at this; omega)
        (fun a ha => hR a (List.mem_of_mem_drop ha))
        (by rw [List.append_assoc, ← List.map_append, List.take_append_drop]; exact hsum)
        ⟨rfl, rfl, rfl⟩ (hQ s _ _ _ hq) hs ⟨hc.num, hc.typ, hc.mark⟩

theorem sat_fives (types : List Str) (m : Str) (e : EpochInfo) (obs : List Obs) (hl : types.length = obs.length)
    (hpos : obs ≠ []) (s : State) (sat : Str) (rest : List Str) (hs : s.cache.satList = some (sat :: rest)) (hne : sat ≠ [])
    (num : Int) (hnum : pyInt (sat.drop 1) = .ok num) (hc : SatCtx types m s) (h0 : Holds [] s) :
    (fivesOf (triples obs)).foldlM (fun st five => lineFx e five st) s =
      match rowData s.data types obs e (lower m) sat num with
      | .ok d => .ok (doneSat s d rest)
      | .error err => .error err := by
  rw [fivesOf, List.foldlM_map]
  exact sat_chunks (val := id) (R := fun _ => True) (Q := fun _ => True) (step := fun c st => lineFx e (pad5 c) st)
    types m e obs hl sat rest hne num hnum (hQ := fun _ _ _ _ _ => trivial) (hstep := fun c s _ _ _ _ => by rw [List.map_id])
    _ (triples obs) [] s (Nat.le_refl _) (by simpa [triples] using hpos) (fun _ _ => trivial) (by rw [List.map_id]; rfl) h0
    trivial hs hc

theorem satsOfAux_blank : ∀ (fuel : Nat) (ws : Str) (acc : List Str), isBlank ws = true → ws.length ≤ fuel →
    satsOfAux fuel ws acc = .ok acc := by
  intro fuel
  induction fuel with
  | zero => intro ws acc _ _; rfl
  | succ fuel ih =>
    intro ws acc hb hl
    unfold satsOfAux
    cases hw : ws with
    | nil => rfl
    | cons c r =>
      rw [← hw]
      have he : ws.isEmpty = false := by rw [hw]; rfl
      have hr : rstrip (ws.take 3) = [] := rstrip_isBlank (isBlank_take hb 3)
      simp only [he, Bool.false_eq_true, if_false, hr]
      apply ih _ acc (isBlank_drop hb 3)
      rw [hw] at hl ⊢
      simp at hl ⊢; omega

def Sat3 (s : Str) : Prop := ∃ a b c, s = [a, b, c] ∧ isSpace c = false

theorem satsOfAux_sats : ∀ (sats : List Str) (ws : Str) (fuel : Nat) (acc : List Str), (∀ s ∈ sats, Sat3 s) →
    isBlank ws = true → (sats.flatten ++ ws).length ≤ fuel →
    satsOfAux fuel (sats.flatten ++ ws) acc = .ok (acc ++ sats.map normSat) := by
  intro sats
  induction sats with
  | nil =>
    intro ws fuel acc _ hb hl
    simp only [List.flatten_nil, List.nil_append, List.map_nil, List.append_nil] at hl ⊢
    exact satsOfAux_blank fuel ws acc hb hl
  | cons s sats ih =>
    intro ws fuel acc hs hb hl
    obtain ⟨a, b, c, rfl, hc⟩ := hs s (by simp)
    cases fuel with
    | zero => simp at hl
    | succ fuel =>
      simp only [List.flatten_cons, List.cons_append, List.nil_append] at hl ⊢
      unfold satsOfAux
      simp only [List.isEmpty_cons, Bool.false_eq_true, if_false, List.take_succ_cons, List.take_zero, rstrip_of_last_visible [a, b, c] c rfl hc,
        List.drop_succ_cons, List.drop_zero]
      have := ih ws fuel (acc ++ [normSat3 a b c]) (fun s' hs' => hs s' (by simp [hs'])) hb (by simp at hl ⊢; omega)
      rw [this]
      simp [normSat, normSat3, List.append_assoc]

theorem satsOf_sats (sats : List Str) (ws : Str) (hs : ∀ s ∈ sats, Sat3 s) (hb : isBlank ws = true) :
    satsOf (sats.flatten ++ ws) = .ok (sats.map normSat) := by
  unfold satsOf
  simpa using satsOfAux_sats sats ws _ [] hs hb (Nat.le_refl _)

end Midgard.Spec.Rinex2ObsFile
