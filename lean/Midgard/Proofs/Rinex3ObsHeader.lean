/-
The header state machine at value level — plain records, `MARKER NAME`, `SYS / # / OBS TYPES` with continuation lines in
closed form — and `hdrFacts`: what the data section needs from the header holds for every well-formed header.
-/
import Midgard.Proofs.Rinex3ObsHandlers
import Midgard.Proofs.Rinex3ObsFile

namespace Midgard.Spec.Rinex3ObsFile
open Midgard.Text Midgard.FixedCol Midgard.Decimal Midgard.ChainParser Midgard.RinexObs Midgard.Rinex3Obs

theorem keysOk_zip (ns : List String) (cells : List Str) (h : ns.all (fun n => n != "marker_name") = true) :
    keysOk (ns.zip cells) := by
  intro kv hkv
  have : kv.1 ∈ ns := (List.of_mem_zip hkv).1
  have hne : kv.1 ≠ "marker_name" := by simpa using List.all_eq_true.mp h kv.1 this
  exact unprot_single _ (key_ne_key hne)

/-- **a plain header record leaves alone what the data section reads.**  The kind's handler is one of `plainHandlers`
(`line_table`); the cases below follow the order of that list (`Rinex3ObsLines.lean`), one frame lemma of
`Rinex3ObsHandlers.lean` each (`frame_parseApplied` serves the two `… APPLIED` handlers). -/
theorem plain_frame (k : String) (hk : plainKinds.any (·.1 == k) = true) (cells : List Str) (s s' : State)
    (h : handle (handlerOf k) ((names k).zip cells) s = .ok s') : Frame s s' := by
  obtain ⟨kh, hmem, hkk⟩ := List.any_eq_true.mp hk
  simp only [beq_iff_eq] at hkk
  subst hkk
  obtain ⟨sp, _, hsp, _, _, _, _, _, _, _, hpl⟩ := lineOk_facts (List.all_eq_true.mp line_table.2.2 kh hmem)
  obtain ⟨hhand, hkeys⟩ := hpl rfl
  have hv := keysOk_zip (names kh.1) cells (by unfold names; rw [spec_eq hsp]; exact hkeys)
  generalize (names kh.1).zip cells = v at h hv
  simp only [plainHandlers, List.mem_cons, List.not_mem_nil, or_false] at hhand
  rcases hhand with e | e | e | e | e | e | e | e | e | e | e | e | e <;> rw [e] at h <;>
    simp only [handle, String.reduceEq, if_false, if_true] at h
  · simp only [pure, Except.pure, Except.ok.injEq] at h; subst h; exact frame_parseString v s hv
  · exact frame_parseComment v s s' h
  · exact frame_parseApproxPosition v s s' hv h
  · exact frame_parseFloatFields v s s' hv h
  · exact frame_parseTimeOfFirstObs v s s' h
  · exact frame_parseTimeOfLastObs v s s' h
  · exact frame_parseApplied "dcbs_applied" (key_ne_key (by simp)) v s s' h
  · exact frame_parseApplied "pcvs_applied" (key_ne_key (by simp)) v s s' h
  · simp only [pure, Except.pure, Except.ok.injEq] at h; subst h; exact frame_parseLeapSeconds v s
  · exact frame_parseIntegerFields v s s' hv h
  · exact frame_parseGlonassSlot v s s' h
  · exact frame_parseGlonassBias v s s' h
  · exact frame_parsePhaseShift v s s' h

/-- the field names of the thirteen types of a `SYS / # / OBS TYPES` line -/
def typeNames : List String := ["type_01", "type_02", "type_03", "type_04", "type_05", "type_06", "type_07", "type_08",
  "type_09", "type_10", "type_11", "type_12", "type_13"]

theorem names_sysobs : names "SYSOBS" = "satellite_sys" :: "num_obstypes" :: typeNames := by decide +kernel

theorem typeNames_facts : named "type_" "satellite_sys" = false ∧ named "type_" "num_obstypes" = false ∧
    typeNames.all (named "type_") = true ∧ keysSorted typeNames = true := by decide +kernel

theorem fields_sysobs (a b : Str) (cs : List Str) :
    fieldsWithPrefix ((names "SYSOBS").zip (a :: b :: cs)) "type_" = typeNames.zip cs := by
  obtain ⟨h1, h2, h3, h4⟩ := typeNames_facts
  rw [names_sysobs, List.zip_cons_cons, List.zip_cons_cons, fieldsWithPrefix_cons_other h1, fieldsWithPrefix_cons_other h2,
    fieldsWithPrefix_zip _ _ _ h3 h4]

theorem get_sysobs (a b : Str) (cs : List Str) :
    getv ((names "SYSOBS").zip (a :: b :: cs)) "satellite_sys" = .ok a := by
  rw [names_sysobs, List.zip_cons_cons, getv_cons, if_pos rfl]

/-- the loop body of `_parse_sys_obs_types` for a non-empty field, as a function -/
def addTP (sy : Str) (st : State) (t : Str) : State :=
  { st with
    cache := { st.cache with obstypes := some (st.cache.obstypes.getD [] ++ [t]) },
    obstypesAll := addType st.obstypesAll t,
    metaD := st.metaD.set [key "obstypes", sy] (.list (st.cache.obstypes.getD [] ++ [t])),
    data := st.data.declareType t }

theorem sysObsStep_ok (sy : Str) (st : State) (f : String × Str) (hs : st.cache.sys = some sy)
    (ho : st.cache.obstypes.isSome = true) :
    sysObsStep (.ok st) f = .ok (if f.2 = [] then st else addTP sy st f.2) := by
  obtain ⟨lst, hl⟩ := Option.isSome_iff_exists.mp ho
  unfold sysObsStep
  by_cases hf : f.2 = []
  · simp [hf, bind, Except.bind, pure, Except.pure]
  · simp only [bind, Except.bind, hf, if_false, hl, hs, req, pure, Except.pure, addTP, Option.getD_some, addType]

theorem fold_step (sy : Str) : ∀ (kcs : List (String × Str)) (st : State), st.cache.sys = some sy →
    st.cache.obstypes.isSome = true →
    kcs.foldl sysObsStep (.ok st) = .ok (((kcs.map (·.2)).filter (fun t => decide (t ≠ []))).foldl (addTP sy) st) := by
  intro kcs
  induction kcs with
  | nil => intro st _ _; rfl
  | cons f kcs ih =>
    intro st hs ho
    simp only [List.foldl_cons, sysObsStep_ok sy st f hs ho, List.map_cons, List.filter_cons]
    by_cases hf : f.2 = []
    · simp only [hf, if_true, ne_eq, not_true_eq_false, decide_false, Bool.false_eq_true, if_false]
      exact ih st hs ho
    · simp only [hf, if_false, ne_eq, not_false_eq_true, decide_true, if_true, List.foldl_cons]
      exact ih (addTP sy st f.2) hs rfl

theorem filter_padTo (l : List Str) (h : ∀ t ∈ l, t ≠ []) (n : Nat) :
    (Spec.Rinex.padTo n l).filter (fun t => decide (t ≠ [])) = l := by
  unfold Spec.Rinex.padTo
  rw [List.filter_append]
  have h1 : l.filter (fun t => decide (t ≠ [])) = l := by
    rw [List.filter_eq_self]; intro t ht; simpa using h t ht
  have h2 : (List.replicate (n - l.length) ([] : Str)).filter (fun t => decide (t ≠ [])) = [] := by
    rw [List.filter_eq_nil_iff]; intro t ht; simp [(List.mem_replicate.mp ht).2]
  rw [h1, h2, List.append_nil]

theorem length_padTo (l : List Str) (n : Nat) (h : l.length ≤ n) : (Spec.Rinex.padTo n l).length = n := by
  simp [Spec.Rinex.padTo]; omega

/-- `c0` is the cache after the system field is looked at; it is a parameter so that the first line (`a = sy`) and a continuation
line (`a = []`) are one lemma -/
theorem sysobs_line (sy a b : Str) (l : List Str) (hl : l.length ≤ 13) (hne : ∀ t ∈ l, t ≠ []) (s : State)
    (c0 : Cache) (hc0 : c0 = if a ≠ [] then { s.cache with sys := some a, obstypes := some [] } else s.cache)
    (hs : c0.sys = some sy) (ho : c0.obstypes.isSome = true) :
    parseSysObsTypes ((names "SYSOBS").zip (a :: b :: Spec.Rinex.padTo 13 l)) s =
      .ok (l.foldl (addTP sy)
        { s with data := { s.data with hasObs := true }, metaD := s.metaD.setdefaultDict [key "obstypes"], cache := c0 }) := by
  unfold parseSysObsTypes
  rw [get_sysobs, fields_sysobs]
  simp only [bind, Except.bind, pure, Except.pure, ← hc0]
  rw [fold_step sy _ _ hs ho]
  have hz : (typeNames.zip (Spec.Rinex.padTo 13 l)).map (·.2) = Spec.Rinex.padTo 13 l :=
    List.map_snd_zip (Nat.le_of_eq (by rw [length_padTo l 13 hl]; rfl))
  rw [hz, filter_padTo l hne]

/-- the parser state while the types of system `sy` are collected: `pre` so far, starting from `base` -/
structure Acc (sy : Str) (base : State) (pre : List Str) (st : State) : Prop where
  sys : st.cache.sys = some sy
  cur : st.cache.obstypes = some pre
  all : st.obstypesAll = pre.foldl addType base.obstypesAll
  rate : st.rate = base.rate
  cols : EmptyCols st.data st.obstypesAll
  rows : rowCols st.data = rowCols base.data
  micros : st.data.timeMicros = base.data.timeMicros
  own : pre ≠ [] → st.metaD.get [key "obstypes", sy] = some (.list pre)
  others : ∀ p, Prot p → p ≠ [key "obstypes", sy] → base.metaD.get p ≠ some .empty → st.metaD.get p = base.metaD.get p

theorem acc_step {sy : Str} {base : State} {pre : List Str} {st : State} (h : Acc sy base pre st) (t : Str) :
    Acc sy base (pre ++ [t]) (addTP sy st t) := by
  have hg : st.cache.obstypes.getD [] = pre := by rw [h.cur]; rfl
  refine ⟨h.sys, ?_, ?_, h.rate, ?_, h.rows, h.micros, ?_, ?_⟩
  · show some (st.cache.obstypes.getD [] ++ [t]) = _; rw [hg]
  · show addType st.obstypesAll t = _; rw [h.all, List.foldl_append]; rfl
  · exact declareType_empty _ _ t h.cols
  · intro _
    show (st.metaD.set [key "obstypes", sy] (.list (st.cache.obstypes.getD [] ++ [t]))).get _ = _
    rw [hg, get_set_same]
  · intro p hp hne he
    show (st.metaD.set [key "obstypes", sy] _).get p = _
    have e := h.others p hp hne he
    rw [get_set_ne _ _ _ _ (Ne.symm hne) (by rw [e]; exact he), e]

theorem acc_fold {sy : Str} {base : State} : ∀ (l pre : List Str) (st : State), Acc sy base pre st →
    Acc sy base (pre ++ l) (l.foldl (addTP sy) st) := by
  intro l
  induction l with
  | nil => intro pre st h; simpa using h
  | cons t l ih =>
    intro pre st h
    have := ih (pre ++ [t]) _ (acc_step h t)
    simpa [List.append_assoc] using this

theorem prot_ne_obstypes {p : List Str} (hp : Prot p) : ([key "obstypes"] : List Str) ≠ p := by
  rcases hp with rfl | ⟨sy, rfl⟩
  · decide
  · simp

theorem acc_first (sy : Str) (s : State) (h : EmptyCols s.data s.obstypesAll) :
    Acc sy s []
      { s with data := { s.data with hasObs := true }, metaD := s.metaD.setdefaultDict [key "obstypes"],
               cache := { s.cache with sys := some sy, obstypes := some [] } } :=
  ⟨rfl, rfl, rfl, rfl, h, rfl, rfl, fun hh => absurd rfl hh,
   fun p hp _ _ => get_setdefault_ne _ _ _ (prot_ne_obstypes hp)⟩

theorem acc_cont {sy : Str} {base : State} {pre : List Str} {st : State} (h : Acc sy base pre st) :
    Acc sy base pre
      { st with data := { st.data with hasObs := true }, metaD := st.metaD.setdefaultDict [key "obstypes"], cache := st.cache } :=
  ⟨h.sys, h.cur, h.all, h.rate, h.cols, h.rows, h.micros,
   fun hh => by
     show (st.metaD.setdefaultDict [key "obstypes"]).get _ = _
     rw [get_setdefault_ne _ _ _ (by simp)]; exact h.own hh,
   fun p hp hne he => by
     show (st.metaD.setdefaultDict [key "obstypes"]).get p = _
     rw [get_setdefault_ne _ _ _ (prot_ne_obstypes hp)]; exact h.others p hp hne he⟩

theorem handle_sysobs (v : Values) (s : State) : handle (handlerOf "SYSOBS") v s = parseSysObsTypes v s := by
  simp [handlerOf, handle]

def LineOk (l : List Str) : Prop := l.length ≤ 13 ∧ ∀ t ∈ l, t ≠ []

theorem sysobs_cont_lines {sy : Str} {base : State} : ∀ (rest : List (List Str)) (pre : List Str) (st s' : State),
    Acc sy base pre st → (∀ l ∈ rest, LineOk l) →
    (rest.map fun c => ("SYSOBS", ([] : Str) :: [] :: Spec.Rinex.padTo 13 c)).foldlM
      (fun s (kc : String × List Str) => handle (handlerOf kc.1) ((names kc.1).zip kc.2) s) st = .ok s' →
    Acc sy base (pre ++ rest.flatten) s' := by
  intro rest
  induction rest with
  | nil =>
    intro pre st s' h _ hr
    simp only [List.map_nil, List.foldlM_nil, pure, Except.pure, Except.ok.injEq] at hr
    subst hr; simpa using h
  | cons l rest ih =>
    intro pre st s' h hl hr
    simp only [List.map_cons, List.foldlM_cons, handle_sysobs] at hr
    have hlo := hl l (by simp)
    have hline := sysobs_line sy [] [] l hlo.1 hlo.2 st st.cache (by simp) h.sys (by rw [h.cur]; rfl)
    rw [hline] at hr
    simp only [bind, Except.bind] at hr
    have := ih (pre ++ l) _ s' (acc_fold l pre _ (acc_cont h)) (fun l' hl' => hl l' (by simp [hl'])) hr
    simpa [List.append_assoc] using this

theorem okType_ne {t : Str} (h : okType t = true) : t ≠ [] := by
  intro e; subst e; simp [okType] at h

/-- **a `SYS / # / OBS TYPES` record with its continuation lines**: the types are declared in order for the system -/
theorem sysobs_record (sy c : Str) (ls : List (List Str)) (hwf : (HdrRec.sysObs sy c ls).wf = true) (s s' : State)
    (hcols : EmptyCols s.data s.obstypesAll) (h : hdrEffect (.sysObs sy c ls) s = .ok s') :
    Acc sy s ls.flatten s' ∧ ls.flatten ≠ [] := by
  simp only [HdrRec.wf, Bool.and_eq_true, decide_eq_true_eq, Bool.not_eq_eq_eq_not, Bool.not_true] at hwf
  obtain ⟨⟨⟨⟨hlen, hblank⟩, hne⟩, hlines⟩, _⟩ := hwf
  have hsy : sy ≠ [] := by intro e; subst e; simp at hlen
  have hlo : ∀ l ∈ ls, LineOk l ∧ l ≠ [] := by
    intro l hl
    have := List.all_eq_true.mp hlines l hl
    simp only [Bool.and_eq_true, decide_eq_true_eq, Bool.not_eq_eq_eq_not, Bool.not_true, List.isEmpty_eq_false_iff] at this
    exact ⟨⟨this.1.2, fun t ht => okType_ne (List.all_eq_true.mp this.2 t ht)⟩, this.1.1⟩
  cases ls with
  | nil => simp at hne
  | cons l0 rest =>
    have h0 := hlo l0 (by simp)
    refine ⟨?_, by simp [h0.2]⟩
    simp only [hdrEffect, hdrCells, sysObsCells, List.map_cons, List.foldlM_cons, handle_sysobs, List.map_map, Function.comp_def] at h
    have hline := sysobs_line sy sy c l0 h0.1.1 h0.1.2 s { s.cache with sys := some sy, obstypes := some [] } (by simp [hsy]) rfl rfl
    rw [hline] at h
    simp only [bind, Except.bind] at h
    have hacc := acc_fold l0 [] _ (acc_first sy s hcols)
    have := sysobs_cont_lines rest ([] ++ l0) _ s' hacc (fun l hl => (hlo l (by simp [hl])).1) h
    simpa using this

/-- the parser state after the header records `pre` -/
structure HInv (rate : Option Rat) (pre : List HdrRec) (s : State) : Prop where
  all : s.obstypesAll = allTypes pre
  rate : s.rate = rate
  marker : s.metaD.get [key "marker_name"] = (markerOf pre).map Leaf.text
  sys : ∀ st ∈ sysTypes pre, s.metaD.get [key "obstypes", st.1] = some (.list st.2)
  cols : EmptyCols s.data s.obstypesAll
  rows : rowCols s.data = ([], [], [], [], [], [], [])
  micros : s.data.timeMicros = []

theorem sysTypes_append (a b : List HdrRec) : sysTypes (a ++ b) = sysTypes a ++ sysTypes b := by
  simp [sysTypes, List.filterMap_append]

theorem allTypes_append (a b : List HdrRec) :
    allTypes (a ++ b) = ((sysTypes b).flatMap (·.2)).foldl addType (allTypes a) := by
  simp [allTypes, sysTypes_append, List.flatMap_append, List.foldl_append]

theorem markerOf_append_single (a : List HdrRec) (r : HdrRec) :
    markerOf (a ++ [r]) = match r with
      | .marker n => some n
      | _ => markerOf a := by
  cases r <;> simp [markerOf, List.filterMap_append]

theorem names_mname : names "MNAME" = ["marker_name"] := by decide +kernel

theorem handle_string (v : Values) (s : State) : handle "_parse_string" v s = .ok (parseString v s) := by
  simp only [handle, if_true]
  rfl

theorem marker_effect (n : Str) (s : State) :
    hdrEffect (.marker n) s = .ok { s with metaD := s.metaD.set [key "marker_name"] (.text n) } := by
  have : hdrEffect (.marker n) s = handle "_parse_string" [("marker_name", n)] s >>= pure := by
    simp only [hdrEffect, hdrCells, List.foldlM_cons, List.foldlM_nil, names_mname, handlerOf, if_true, List.zip_cons_cons,
      List.zip_nil_right]
  rw [this, handle_string]
  rfl

theorem hinv_step (rate : Option Rat) (pre : List HdrRec) (r : HdrRec) (s s' : State) (h : HInv rate pre s)
    (hwf : r.wf = true)
    (hnew : ∀ sy c ls, r = .sysObs sy c ls → ∀ st ∈ sysTypes pre, st.1 ≠ sy)
    (he : hdrEffect r s = .ok s') : HInv rate (pre ++ [r]) s' := by
  cases r with
  | plain k cells =>
    simp only [HdrRec.wf, Bool.and_eq_true] at hwf
    have hf : Frame s s' := by
      apply plain_frame k hwf.1 cells
      simp only [hdrEffect, hdrCells, List.foldlM_cons, List.foldlM_nil, bind, Except.bind] at he
      cases hh : handle (handlerOf k) ((names k).zip cells) s with
      | error e => simp [hh] at he
      | ok v => simpa [hh, pure, Except.pure] using he
    have hst : sysTypes (pre ++ [HdrRec.plain k cells]) = sysTypes pre := by simp [sysTypes_append, sysTypes]
    have hat : allTypes (pre ++ [HdrRec.plain k cells]) = allTypes pre := by simp [allTypes_append, sysTypes]
    refine ⟨by rw [hf.all, h.all, hat], by rw [hf.rate, h.rate], ?_, ?_, ?_, by rw [hf.rows, h.rows], by rw [hf.micros, h.micros]⟩
    · rw [markerOf_append_single]
      simp only
      rw [hf.metaS _ (Or.inl rfl) (by rw [h.marker]; exact marker_not_empty _), h.marker]
    · intro st hst'
      rw [hst] at hst'
      have := h.sys st hst'
      rw [hf.metaS _ (Or.inr ⟨st.1, rfl⟩) (by rw [this]; simp), this]
    · obtain ⟨c1, c2, c3⟩ := h.cols
      exact ⟨by rw [hf.obs, hf.all, c1], by rw [hf.lli, hf.all, c2], by rw [hf.snr, hf.all, c3]⟩
  | marker n =>
    rw [marker_effect] at he
    have hs' := (Except.ok.inj he).symm
    subst hs'
    have hst : sysTypes (pre ++ [HdrRec.marker n]) = sysTypes pre := by simp [sysTypes_append, sysTypes]
    have hat : allTypes (pre ++ [HdrRec.marker n]) = allTypes pre := by simp [allTypes_append, sysTypes]
    refine ⟨by rw [hat]; exact h.all, h.rate, ?_, ?_, h.cols, h.rows, h.micros⟩
    · rw [markerOf_append_single]
      exact get_set_same _ _ _
    · intro st hst'
      rw [hst] at hst'
      have := h.sys st hst'
      show (s.metaD.set [key "marker_name"] (.text n)).get _ = _
      rw [get_set_ne _ _ _ _ (by simp) (by rw [this]; simp), this]
  | sysObs sy c ls =>
    obtain ⟨hacc, hne⟩ := sysobs_record sy c ls hwf s s' h.cols he
    have hst : sysTypes (pre ++ [HdrRec.sysObs sy c ls]) = sysTypes pre ++ [(sy, ls.flatten)] := by
      simp [sysTypes_append, sysTypes]
    have hat : allTypes (pre ++ [HdrRec.sysObs sy c ls]) = ls.flatten.foldl addType (allTypes pre) := by
      simp [allTypes_append, sysTypes]
    refine ⟨by rw [hacc.all, h.all, hat], by rw [hacc.rate, h.rate], ?_, ?_, hacc.cols, by rw [hacc.rows, h.rows],
      by rw [hacc.micros, h.micros]⟩
    · rw [markerOf_append_single]
      simp only
      rw [hacc.others _ (Or.inl rfl) (by simp) (by rw [h.marker]; exact marker_not_empty _), h.marker]
    · intro st hst'
      rw [hst] at hst'
      rcases List.mem_append.mp hst' with hm | hm
      · have hne' : st.1 ≠ sy := hnew sy c ls rfl st hm
        have := h.sys st hm
        rw [hacc.others _ (Or.inr ⟨st.1, rfl⟩) (by simp [hne']) (by rw [this]; simp), this]
      · simp only [List.mem_cons, List.not_mem_nil, or_false] at hm
        subst hm
        exact hacc.own hne

theorem hinv_fold (rate : Option Rat) : ∀ (hdr pre : List HdrRec) (s H : State), HInv rate pre s →
    (∀ r ∈ hdr, r.wf = true) → ((sysTypes (pre ++ hdr)).map (·.1)).Nodup →
    hdr.foldlM (fun s r => hdrEffect r s) s = .ok H → HInv rate (pre ++ hdr) H := by
  intro hdr pre s H h hwf hnd hf
  refine Lists.foldlM_inv _ (fun done => HInv rate (pre ++ done)) hdr ?_ hdr [] s H rfl (by simpa using h) hf
  intro done r post s1 s2 ha hp he
  rw [← List.append_assoc]
  refine hinv_step rate (pre ++ done) r s1 s2 hp (hwf r (by rw [ha]; simp)) ?_ he
  -- a system declared by `r` has no record among those before it
  intro sy c ls hr st hst e
  subst hr
  rw [ha] at hnd
  have hnd' : ((sysTypes (pre ++ done)).map (·.1) ++ (sy :: (sysTypes post).map (·.1))).Nodup := by
    simpa [sysTypes_append, sysTypes, List.map_append, List.append_assoc] using hnd
  exact (List.nodup_append.mp hnd').2.2 st.1 (List.mem_map.mpr ⟨st, hst, rfl⟩) sy (by simp) e

theorem hinv_init (rate : Option Rat) : HInv rate [] { rate := rate } :=
  ⟨rfl, rfl, rfl, fun _ h => by simp [sysTypes] at h, ⟨rfl, rfl, rfl⟩, rfl, rfl⟩

/-- **the header of a well-formed file leaves what the data section relies on** -/
theorem hdrFacts (rate : Option Rat) (F : File) (hwf : F.wf = true) (H : State) (hH : headerState rate F.hdr = .ok H) :
    HdrFacts F.hdr rate H := by
  simp only [File.wf, Bool.and_eq_true] at hwf
  obtain ⟨⟨⟨⟨hhdr, hnd⟩, _⟩, hm⟩, _⟩ := hwf
  have hinv := hinv_fold rate F.hdr [] _ H (hinv_init rate) (fun r hr => List.all_eq_true.mp hhdr r hr)
    (by simpa using nodup_of hnd) hH
  simp only [List.nil_append] at hinv
  obtain ⟨m, hmm⟩ := Option.isSome_iff_exists.mp hm
  refine ⟨hinv.all, hinv.rate, ⟨m, hmm, by rw [hinv.marker, hmm]; rfl⟩, hinv.sys, ?_⟩
  exact data_eq_empty H.data (allTypes F.hdr) (hinv.all ▸ hinv.cols) hinv.rows hinv.micros

theorem file_roundtrip (rate : Option Rat) (F : File) (hwf : F.wf = true) :
    readData headerParser obsParser resetCache (fileLines F) true 0 { rate := rate } = expected rate F :=
  file_of_header rate F hwf (fun H hH => hdrFacts rate F hwf H hH)

end Midgard.Spec.Rinex3ObsFile
