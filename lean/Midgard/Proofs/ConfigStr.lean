/-
C19: the string functions the model of `midgard.config` writes for itself (`Model/Config.lean`: `isBlank`, `stripBlanks`,
`rstripBlanks`, `partitionAt`, `partDunder`, `isPrefix` for `str.isspace`, `strip`, `rstrip`, `partition`, `startswith`), on
the forms of input the reader, `_replace`, the accessors and the section names meet.  Mathlib-free.
-/
import Midgard.Model.Config

namespace Midgard.Proofs.ConfigText
open Midgard.Config

theorem isBlank_space : isBlank ' ' = true := by decide

theorem dropWhile_blank_id (s : List Char) (hh : ∀ c, s.head? = some c → isBlank c = false) :
    s.dropWhile isBlank = s := by
  cases s with
  | nil => rfl
  | cons c t => simp [hh c rfl]

theorem rstripBlanks_id (s : List Char) (hl : ∀ c, s.getLast? = some c → isBlank c = false) :
    rstripBlanks s = s := by
  simp only [rstripBlanks]
  have h2 : s.reverse.dropWhile isBlank = s.reverse := by
    apply dropWhile_blank_id
    intro c hc
    rw [List.head?_reverse] at hc
    exact hl c hc
  rw [h2, List.reverse_reverse]

theorem stripBlanks_id (s : List Char) (hh : ∀ c, s.head? = some c → isBlank c = false)
    (hl : ∀ c, s.getLast? = some c → isBlank c = false) : stripBlanks s = s := by
  have h := rstripBlanks_id s hl
  simp only [rstripBlanks] at h
  simp only [stripBlanks, dropWhile_blank_id s hh]
  exact h

theorem rstripBlanks_append_blanks (s b : List Char) (hb : ∀ c ∈ b, isBlank c = true) :
    rstripBlanks (s ++ b) = rstripBlanks s := by
  simp only [rstripBlanks, List.reverse_append]
  rw [List.dropWhile_append_of_pos fun c hc => hb c (List.mem_reverse.1 hc)]

theorem stripBlanks_blanks_append (b s : List Char) (hb : ∀ c ∈ b, isBlank c = true) :
    stripBlanks (b ++ s) = stripBlanks s := by
  simp only [stripBlanks, List.dropWhile_append_of_pos hb]

theorem takeWhile_blanks_append (b s : List Char) (hb : ∀ c ∈ b, isBlank c = true)
    (hs : ∀ c, s.head? = some c → isBlank c = false) :
    (b ++ s).takeWhile isBlank = b := by
  have hnil : s.takeWhile isBlank = [] := by
    cases s with
    | nil => rfl
    | cons c t => simp [hs c rfl]
  rw [List.takeWhile_append_of_pos hb, hnil, List.append_nil]

theorem partitionAt_append (sep : Char) (a b : List Char) (h : sep ∉ a) :
    partitionAt sep (a ++ sep :: b) = (a, true, b) := by
  induction a with
  | nil => simp [partitionAt]
  | cons c t ih =>
    have hc : c ≠ sep := by intro e; subst e; simp at h
    have ht : sep ∉ t := fun ht => h (List.mem_cons_of_mem _ ht)
    simp [partitionAt, hc, ih ht]

theorem partitionAt_none (sep : Char) (a : List Char) (h : sep ∉ a) : partitionAt sep a = (a, false, []) := by
  induction a with
  | nil => simp [partitionAt]
  | cons c t ih =>
    have hc : c ≠ sep := by intro e; subst e; simp at h
    have ht : sep ∉ t := fun ht => h (List.mem_cons_of_mem _ ht)
    simp [partitionAt, hc, ih ht]

theorem isPrefix_spec (a b : List Char) : isPrefix a b = true ↔ ∃ r, b = a ++ r := by
  induction a generalizing b with
  | nil => simp [isPrefix]
  | cons x t ih =>
    cases b with
    | nil => simp [isPrefix]
    | cons y r =>
      simp only [isPrefix, Bool.and_eq_true, decide_eq_true_eq, ih, List.cons_append, List.cons.injEq]
      constructor
      · rintro ⟨rfl, r', rfl⟩; exact ⟨r', rfl, rfl⟩
      · rintro ⟨r', rfl, rfl⟩; exact ⟨rfl, r', rfl⟩

theorem isPrefix_append (a b : List Char) : isPrefix a (a ++ b) = true := (isPrefix_spec _ _).2 ⟨b, rfl⟩

theorem partitionAt_mem (sep : Char) (s : List Char) (h : sep ∈ s) :
    (partitionAt sep s).2.1 = true ∧
      (partitionAt sep s).1 ++ sep :: (partitionAt sep s).2.2 = s ∧ sep ∉ (partitionAt sep s).1 := by
  obtain ⟨a, b, rfl, ha⟩ := List.eq_append_cons_of_mem h
  rw [partitionAt_append sep a b ha]
  exact ⟨rfl, rfl, ha⟩

theorem partDunder_spec (l : List Char) :
    l = (partDunder l).1 ++ (if (partDunder l).2.1 then '_' :: '_' :: (partDunder l).2.2 else []) := by
  induction l using partDunder.induct with
  | case1 => simp [partDunder]
  | case2 t => simp [partDunder]
  | case3 c t h ih =>
    rw [partDunder.eq_3 c t h]
    simp only [List.cons_append, List.cons.injEq, true_and]
    exact ih

theorem partDunder_plain (l : List Char) (h : (partDunder l).2.1 = false) : (partDunder l).1 = l := by
  have := partDunder_spec l
  rw [h] at this
  simpa using this.symm

end Midgard.Proofs.ConfigText
