/-
C05 — the one-dimensional inequality of the far-field bound, `t³u³(|64 − 80t²| + ch) ≤ F·(c1 + t·c0)` for
`q²t² + u² = 1`, `0.9966 ≤ q ≤ 1`, by subdivision of `t ∈ (0, 1.0035]`: one lemma for a sub-interval, a table of
sub-intervals with the bounds used on each (computed with sympy), and the check of the table by evaluation (`oneD_a`, `oneD_b`).
-/
import Mathlib.Data.Real.Basic
import Mathlib.Tactic.Ring
import Mathlib.Tactic.Linarith
import Mathlib.Tactic.Positivity
import Mathlib.Tactic.NormNum
namespace Midgard.Geo.Acc

/-- one interval `[t0, t1]`: `u² ≤ V`, `u ≤ U`, `|64 − 80t²| ≤ M` -/
theorem oneD_interval (t u q t0 t1 U V M c0 c1 ch F : ℝ) (ht0 : 0 ≤ t0) (h0 : t0 ≤ t) (h1 : t ≤ t1) (hu : 0 < u)
    (hq : 0.9966 ≤ q) (htu : q ^ 2 * t ^ 2 + u ^ 2 = 1) (hV : 1 - 0.9966 ^ 2 * t0 ^ 2 ≤ V) (hU0 : 0 ≤ U) (hUV : V ≤ U ^ 2)
    (hM0 : |64 - 80 * t0 ^ 2| ≤ M) (hM1 : |64 - 80 * t1 ^ 2| ≤ M) (hc0 : 0 ≤ c0) (hch : 0 ≤ ch) (hF : 0 ≤ F)
    (hcert : t1 ^ 3 * U * V * (M + ch) ≤ F * (c1 + t0 * c0)) :
    t ^ 3 * u ^ 3 * (|64 - 80 * t ^ 2| + ch) ≤ F * (c1 + t * c0) := by
  have ht : 0 ≤ t := le_trans ht0 h0
  have hq0 : (0:ℝ) ≤ 0.9966 := by norm_num
  have hu2 : u ^ 2 ≤ V := by
    have h2 : 0.9966 ^ 2 * t0 ^ 2 ≤ q ^ 2 * t ^ 2 :=
      mul_le_mul (pow_le_pow_left₀ hq0 hq 2) (pow_le_pow_left₀ ht0 h0 2) (by positivity) (by positivity)
    linarith
  have hV0 : 0 ≤ V := le_trans (sq_nonneg u) hu2
  have huU : u ≤ U := by
    have : u ^ 2 ≤ U ^ 2 := le_trans hu2 hUV
    exact (abs_le_of_sq_le_sq' this hU0).2
  have hu3 : u ^ 3 ≤ U * V := by
    have : u ^ 3 = u * u ^ 2 := by ring
    rw [this]; exact mul_le_mul huU hu2 (sq_nonneg u) hU0
  have ht3 : t ^ 3 ≤ t1 ^ 3 := pow_le_pow_left₀ ht h1 3
  have hM : |64 - 80 * t ^ 2| ≤ M := by
    have ha : t0 ^ 2 ≤ t ^ 2 := pow_le_pow_left₀ ht0 h0 2
    have hb : t ^ 2 ≤ t1 ^ 2 := pow_le_pow_left₀ ht h1 2
    obtain ⟨l0, u0⟩ := abs_le.1 hM0
    obtain ⟨l1, u1⟩ := abs_le.1 hM1
    rw [abs_le]; constructor <;> linarith
  have hM0' : 0 ≤ M := le_trans (abs_nonneg _) hM
  have ht1 : 0 ≤ t1 := le_trans ht h1
  have hu30 : 0 ≤ u ^ 3 := pow_nonneg hu.le 3
  have hl : t ^ 3 * u ^ 3 * (|64 - 80 * t ^ 2| + ch) ≤ t1 ^ 3 * (U * V) * (M + ch) :=
    mul_le_mul (mul_le_mul ht3 hu3 hu30 (pow_nonneg ht1 3)) (by linarith) (add_nonneg (abs_nonneg _) hch)
      (mul_nonneg (pow_nonneg ht1 3) (mul_nonneg hU0 hV0))
  have hr : F * (c1 + t0 * c0) ≤ F * (c1 + t * c0) := by
    apply mul_le_mul_of_nonneg_left _ hF
    have := mul_le_mul_of_nonneg_right h0 hc0
    linarith
  calc _ ≤ t1 ^ 3 * (U * V) * (M + ch) := hl
    _ = t1 ^ 3 * U * V * (M + ch) := by ring
    _ ≤ _ := hcert
    _ ≤ _ := hr

/-- a sub-interval ending at `t1` with the bounds `u ≤ U`, `u² ≤ V`, `|64 − 80t²| ≤ M` used on it (it starts where the
previous one ends) -/
structure Cell where
  t1 : ℚ
  U : ℚ
  V : ℚ
  M : ℚ

/-- the numeric hypotheses of `oneD_interval` on `[t0, c.t1]` (`4983/5000 = 0.9966`, the lower bound of `q`) -/
def Cell.Ok (c0 c1 ch F t0 : ℚ) (c : Cell) : Prop :=
  0 ≤ t0 ∧ 1 - (4983 / 5000) ^ 2 * t0 ^ 2 ≤ c.V ∧ 0 ≤ c.U ∧ c.V ≤ c.U ^ 2 ∧
  (-c.M ≤ 64 - 80 * t0 ^ 2 ∧ 64 - 80 * t0 ^ 2 ≤ c.M) ∧ (-c.M ≤ 64 - 80 * c.t1 ^ 2 ∧ 64 - 80 * c.t1 ^ 2 ≤ c.M) ∧
  c.t1 ^ 3 * c.U * c.V * (c.M + ch) ≤ F * (c1 + t0 * c0)

instance (c0 c1 ch F t0 : ℚ) (c : Cell) : Decidable (c.Ok c0 c1 ch F t0) := by
  unfold Cell.Ok
  infer_instance

def CellsOk (c0 c1 ch F : ℚ) : ℚ → List Cell → Prop
  | _, [] => True
  | t0, c :: cs => c.Ok c0 c1 ch F t0 ∧ CellsOk c0 c1 ch F c.t1 cs

instance CellsOk.dec (c0 c1 ch F : ℚ) : (t0 : ℚ) → (cs : List Cell) → Decidable (CellsOk c0 c1 ch F t0 cs)
  | _, [] => isTrue trivial
  | _, c :: cs => @instDecidableAnd _ _ inferInstance (CellsOk.dec c0 c1 ch F c.t1 cs)

/-- the right end of a subdivision starting at `t0` -/
def lastT : ℚ → List Cell → ℚ
  | t0, [] => t0
  | _, c :: cs => lastT c.t1 cs

theorem oneD_cells {c0 c1 ch F : ℚ} (hc0 : 0 ≤ c0) (hch : 0 ≤ ch) (hF : 0 ≤ F) (t u q : ℝ) (hu : 0 < u)
    (hq : 0.9966 ≤ q) (htu : q ^ 2 * t ^ 2 + u ^ 2 = 1) :
    ∀ (cells : List Cell) (t0 : ℚ), CellsOk c0 c1 ch F t0 cells → (t0 : ℝ) < t → t ≤ lastT t0 cells →
      t ^ 3 * u ^ 3 * (|64 - 80 * t ^ 2| + ch) ≤ F * (c1 + t * c0) := by
  intro cells
  induction cells with
  | nil => exact fun t0 _ h0 h1 => absurd h1 (not_le.2 h0)
  | cons c cs ih =>
    intro t0 hok h0 h1
    obtain ⟨⟨ht0, hV, hU, hUV, hM0, hM1, hcert⟩, hrest⟩ := hok
    rcases le_or_gt t (c.t1 : ℝ) with hle | hgt
    · have r := fun {a b : ℚ} (h : a ≤ b) => (Rat.cast_le (K := ℝ)).2 h
      refine oneD_interval t u q t0 c.t1 c.U c.V c.M c0 c1 ch F (Rat.cast_nonneg.2 ht0) h0.le hle hu hq htu ?_ (Rat.cast_nonneg.2 hU) ?_
        (abs_le.2 ⟨?_, ?_⟩) (abs_le.2 ⟨?_, ?_⟩) (Rat.cast_nonneg.2 hc0) (Rat.cast_nonneg.2 hch) (Rat.cast_nonneg.2 hF) ?_
      · have := r hV; push_cast at this; norm_num at this ⊢; exact this
      · exact_mod_cast r hUV
      · exact_mod_cast r hM0.1
      · exact_mod_cast r hM0.2
      · exact_mod_cast r hM1.1
      · exact_mod_cast r hM1.2
      · exact_mod_cast r hcert
    · exact ih c.t1 hrest hgt h1

/-- box `a`: `c0 = 1.9191`, `c1 = 1.9265`, `ch = 3.991`, `F = 2.2` -/
def cellsA : List Cell :=
  [⟨1 / 8, 1, 1, 64⟩, ⟨1 / 4, 992211 / 1000000, 1575169711 / 1600000000, 251 / 4⟩,
   ⟨3 / 8, 193693 / 200000, 375169711 / 400000000, 59⟩, ⟨1 / 2, 46377 / 50000, 1376527399 / 1600000000, 211 / 4⟩,
   ⟨9 / 16, 173401 / 200000, 75169711 / 100000000, 44⟩, ⟨5 / 8, 12939 / 15625, 4388746591 / 6400000000, 619 / 16⟩,
   ⟨11 / 16, 391161 / 500000, 39169711 / 64000000, 131 / 4⟩, ⟨13 / 16, 728391 / 1000000, 3395535031 / 6400000000, 419 / 16⟩,
   ⟨15 / 16, 586793 / 1000000, 2203681159 / 6400000000, 179 / 16⟩, ⟨2007 / 2000, 71291 / 200000, 32527399 / 256000000, 828049 / 50000⟩]

/-- box `b`: `c0 = 1.939`, `c1 = 1.9788`, `ch = 2.108`, `F = 1.55` -/
def cellsB : List Cell :=
  [⟨1 / 8, 1, 1, 64⟩, ⟨1 / 4, 992211 / 1000000, 1575169711 / 1600000000, 251 / 4⟩,
   ⟨3 / 8, 193693 / 200000, 375169711 / 400000000, 59⟩, ⟨7 / 16, 46377 / 50000, 1376527399 / 1600000000, 211 / 4⟩,
   ⟨15 / 32, 899941 / 1000000, 5183315839 / 6400000000, 779 / 16⟩, ⟨1 / 2, 35367 / 40000, 800527399 / 1024000000, 2971 / 64⟩,
   ⟨17 / 32, 173401 / 200000, 75169711 / 100000000, 44⟩, ⟨35 / 64, 424173 / 500000, 18424046479 / 25600000000, 2651 / 64⟩,
   ⟨9 / 16, 419213 / 500000, 2879315839 / 4096000000, 10259 / 256⟩, ⟨37 / 64, 12939 / 15625, 4388746591 / 6400000000, 619 / 16⟩,
   ⟨19 / 32, 408669 / 500000, 68407334359 / 102400000000, 9539 / 256⟩, ⟨5 / 8, 100767 / 125000, 16636265671 / 25600000000, 2291 / 64⟩,
   ⟨21 / 32, 391161 / 500000, 39169711 / 64000000, 131 / 4⟩, ⟨11 / 16, 756479 / 1000000, 14649842551 / 25600000000, 1891 / 64⟩,
   ⟨3 / 4, 728391 / 1000000, 3395535031 / 6400000000, 419 / 16⟩, ⟨7 / 8, 664319 / 1000000, 176527399 / 400000000, 19⟩,
   ⟨1, 244731 / 500000, 383315839 / 1600000000, 16⟩, ⟨2007 / 2000, 10299 / 125000, 169711 / 25000000, 828049 / 50000⟩]

theorem oneD_a (t u q : ℝ) (ht : 0 < t) (ht' : t ≤ 1.0035) (hu : 0 < u) (hq : 0.9966 ≤ q)
    (htu : q ^ 2 * t ^ 2 + u ^ 2 = 1) :
    t ^ 3 * u ^ 3 * (|64 - 80 * t ^ 2| + (3991 / 1000 : ℝ)) ≤ (11 / 5 : ℝ) * ((3853 / 2000 : ℝ) + t * (19191 / 10000 : ℝ)) := by
  have h := oneD_cells (c0 := 19191 / 10000) (c1 := 3853 / 2000) (ch := 3991 / 1000) (F := 11 / 5) (by norm_num) (by norm_num)
    (by norm_num) t u q hu hq htu cellsA 0 (by decide +kernel) (by exact_mod_cast ht)
    ((ht'.trans (by norm_num)).trans (Rat.cast_le.2 (by decide +kernel : (2007 / 2000 : ℚ) ≤ lastT 0 cellsA)))
  push_cast at h
  exact h

theorem oneD_b (t u q : ℝ) (ht : 0 < t) (ht' : t ≤ 1.0035) (hu : 0 < u) (hq : 0.9966 ≤ q)
    (htu : q ^ 2 * t ^ 2 + u ^ 2 = 1) :
    t ^ 3 * u ^ 3 * (|64 - 80 * t ^ 2| + (527 / 250 : ℝ)) ≤ (31 / 20 : ℝ) * ((4947 / 2500 : ℝ) + t * (1939 / 1000 : ℝ)) := by
  have h := oneD_cells (c0 := 1939 / 1000) (c1 := 4947 / 2500) (ch := 527 / 250) (F := 31 / 20) (by norm_num) (by norm_num)
    (by norm_num) t u q hu hq htu cellsB 0 (by decide +kernel) (by exact_mod_cast ht)
    ((ht'.trans (by norm_num)).trans (Rat.cast_le.2 (by decide +kernel : (2007 / 2000 : ℚ) ≤ lastT 0 cellsB)))
  push_cast at h
  exact h

end Midgard.Geo.Acc
