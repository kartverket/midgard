/-
Lemmas for the text formats of C02 (`Model/TimeText.lean`): the `strptime` directives read back what
`strftime` printed, validity of a printed civil date (the day-of-year range is in `Proofs/TimeYears.lean`), and how far
the truncation to the printed resolution moves an instant.
-/
import Midgard.Model.TimeText
import Midgard.Proofs.FmtFixed
import Midgard.Proofs.TimeYears
import Midgard.Proofs.TimeFormatValues

namespace Midgard.TimeFormat
open Midgard.Text
open Midgard.Decimal hiding roundHalfEven

/-- the text does not go on with a digit -/
def NoDigitHead (s : Str) : Prop := ∀ c r, s = c :: r → isDigit c = false

theorem noDigitHead_nil : NoDigitHead [] := by intro c r h; cases h

theorem noDigitHead_cons {c : Char} (h : isDigit c = false) (r : Str) : NoDigitHead (c :: r) := by
  intro d r' e; cases e; exact h

theorem takeDigits_append (ds : Str) : ∀ (rest : Str) (k : Nat), allDigits ds = true → ds.length ≤ k →
    (ds.length = k ∨ NoDigitHead rest) → takeDigits k (ds ++ rest) = (ds, rest) := by
  induction ds with
  | nil =>
    intro rest k _ _ hstop
    cases k with
    | zero => rfl
    | succ k =>
      rcases hstop with h | h
      · simp at h
      · cases rest with
        | nil => rfl
        | cons c r =>
          have := h c r rfl
          simp [takeDigits, this]
  | cons d ds ih =>
    intro rest k hd hlen hstop
    cases k with
    | zero => simp at hlen
    | succ k =>
      have hdd : isDigit d = true := isDigit_of_mem hd (by simp)
      have hds : allDigits ds = true := by
        simp only [allDigits, List.all_cons, Bool.and_eq_true] at hd ⊢; exact hd.2
      have := ih rest k hds (by simpa using hlen) (by
        rcases hstop with h | h
        · left; simpa using h
        · right; exact h)
      simp [takeDigits, hdd, this]

theorem numDir_digits (minw maxw lo hi : Nat) (ds rest : Str) (hd : allDigits ds = true)
    (h1 : minw ≤ ds.length) (h2 : ds.length ≤ maxw) (hstop : ds.length = maxw ∨ NoDigitHead rest)
    (hlo : lo ≤ digitsVal ds) (hhi : digitsVal ds ≤ hi) :
    numDir minw maxw lo hi (ds ++ rest) = some ((digitsVal ds : Int), rest) := by
  unfold numDir
  rw [takeDigits_append ds rest maxw hd h2 hstop]
  simp [h1, hlo, hhi]

theorem zpad_eq (w : Nat) (n : Int) (hw : 0 < w) (h0 : 0 ≤ n) (hn : n < 10 ^ w) :
    zpad w n = fixedDigits w n.toNat := by
  unfold zpad
  apply fracDigits_eq_fixedDigits w _ hw
  have : ((n.toNat : Nat) : Int) < ((10 ^ w : Nat) : Int) := by
    rw [Int.toNat_of_nonneg h0]; push_cast; exact hn
  exact_mod_cast this

theorem length_zpad (w : Nat) (n : Int) (hw : 0 < w) (h0 : 0 ≤ n) (hn : n < 10 ^ w) : (zpad w n).length = w := by
  rw [zpad_eq w n hw h0 hn, length_fixedDigits]

/-- what is asked of the directive's numerals (`0 < w`, `minw ≤ w`, `hi < 10 ^ w`) is decided at each use -/
theorem numDir_zpad (w minw lo hi : Nat) (n : Int) (rest : Str) (hr : (lo : Int) ≤ n ∧ n ≤ (hi : Int))
    (hw : 0 < w := by decide) (hmin : minw ≤ w := by decide) (hhi : hi < 10 ^ w := by decide) :
    numDir minw w lo hi (zpad w n ++ rest) = some (n, rest) := by
  have h0 : 0 ≤ n := by omega
  have hn : n < 10 ^ w := lt_of_le_of_lt hr.2 (by exact_mod_cast hhi)
  have hlt : n.toNat < 10 ^ w := by
    have : ((n.toNat : Nat) : Int) < ((10 ^ w : Nat) : Int) := by
      rw [Int.toNat_of_nonneg h0]; push_cast; exact hn
    exact_mod_cast this
  rw [zpad_eq w n hw h0 hn]
  have hv : digitsVal (fixedDigits w n.toNat) = n.toNat := by
    rw [digitsVal_fixedDigits, Nat.mod_eq_of_lt hlt]
  have := numDir_digits minw w lo hi (fixedDigits w n.toNat) rest (allDigits_fixedDigits _ _)
    (by rw [length_fixedDigits]; exact hmin) (by rw [length_fixedDigits])
    (Or.inl (length_fixedDigits _ _)) (by rw [hv]; omega) (by rw [hv]; omega)
  rw [this, hv, Int.toNat_of_nonneg h0]

theorem numDir_year (y : Int) (rest : Str) (hlo : 1000 ≤ y) (hhi : y ≤ 9999) :
    numDir 4 4 0 9999 (fmtYear y ++ rest) = some (y, rest) := by
  unfold fmtYear
  have h0 : 0 ≤ y := by omega
  have hlen : (natDigits y.toNat).length = 4 :=
    length_natDigits_eq 3 y.toNat (by omega) (by omega)
  have := numDir_digits 4 4 0 9999 (natDigits y.toNat) rest (allDigits_natDigits' _)
    (by omega) (by omega) (Or.inl hlen) (by omega) (by rw [digitsVal_natDigits']; omega)
  rw [this, digitsVal_natDigits', Int.toNat_of_nonneg h0]

/-- glibc does not pad `%Y` -/
theorem numDir_year_short (y : Int) (c : Char) (rest : Str) (hy : y < 1000) (hc : isDigit c = false) :
    numDir 4 4 0 9999 (fmtYear y ++ c :: rest) = none := by
  unfold fmtYear numDir
  have hlen : (natDigits y.toNat).length ≤ 3 :=
    (length_natDigits_le_iff 3 y.toNat (by decide)).mpr (by omega)
  rw [takeDigits_append _ _ 4 (allDigits_natDigits' _) (by omega) (Or.inr (noDigitHead_cons hc rest))]
  have : ¬ (4 ≤ (natDigits y.toNat).length) := by omega
  simp [this]

@[simp] theorem litDir_cons (c : Char) (r : Str) : litDir c (c :: r) = some r := by simp [litDir]

theorem wsDir_blank (r : Str) (hr : ∀ c r', r = c :: r' → isSpace c = false) :
    wsDir (' ' :: r) = some r := by
  unfold wsDir
  simp only [isSpace_blank, if_true]
  cases r with
  | nil => rfl
  | cons c r' => simp [hr c r' rfl]

theorem fracDir_six (n : Nat) : fracDir (fixedDigits 6 n) = some (((n % 10 ^ 6 : Nat) : Int), []) := by
  unfold fracDir
  have := takeDigits_append (fixedDigits 6 n) [] 6 (allDigits_fixedDigits _ _) (by rw [length_fixedDigits])
    (Or.inl (length_fixedDigits _ _))
  rw [List.append_nil] at this
  rw [this]
  simp [length_fixedDigits, digitsVal_fixedDigits]

/-- everything the text proofs need to know about `x = fieldsOf dt` -/
structure FieldsSpec (dt : DateTime) (x : Fields) : Prop where
  hour : 0 ≤ x.hour ∧ x.hour < 24
  minute : 0 ≤ x.minute ∧ x.minute < 60
  second : 0 ≤ x.second ∧ x.second < 60
  micro : 0 ≤ x.micro ∧ x.micro < 1000000
  month : 1 ≤ x.month ∧ x.month ≤ 12
  day : 1 ≤ x.day ∧ x.day ≤ 31
  valid : civilFromDays (daysFromCivil x.year x.month x.day) = (x.year, x.month, x.day)
  days : daysFromCivil x.year x.month x.day = dt / usPerDay
  back : (ofFields x : Int) = (dt : Int)
  secs : daysFromCivil x.year x.month x.day * usPerDay + secOfDay x * usPerSec = dt / usPerSec * usPerSec
  sod : 0 ≤ secOfDay x ∧ secOfDay x < 86400

theorem fieldsSpec (dt : DateTime) : FieldsSpec dt (fieldsOf dt) := by
  have hd : daysFromCivil (fieldsOf dt).year (fieldsOf dt).month (fieldsOf dt).day = dt / usPerDay :=
    daysFromCivil_civilFromDays _
  obtain ⟨-, m1, m2, d1, d2⟩ := days_civil (dt / usPerDay + epoch2000)
  obtain ⟨r0, r1⟩ := Midgard.TimeArith.rem_range dt (show (0 : Int) < usPerDay by decide)
  obtain ⟨rem, hrem⟩ : ∃ rem : Int, rem = (dt : Int) - (dt : Int) / 86400000000 * 86400000000 := ⟨_, rfl⟩
  refine ⟨?_, ?_, ?_, ?_, ⟨m1, m2⟩, ⟨d1, d2⟩, by rw [hd]; rfl, hd, ?back, ?_, ?_⟩
  -- the clock fields are quotients and remainders of the microseconds since midnight
  all_goals simp only [fieldsOf, ofFields, secOfDay, usPerDay, usPerSec, ← hrem] at hd r0 r1 ⊢
  case back => show (_ : Int) = _; omega
  all_goals omega

theorem ymdDir_render (x : Fields) (rest : Str) (hy : 1000 ≤ x.year ∧ x.year ≤ 9999)
    (hm : 1 ≤ x.month ∧ x.month ≤ 12) (hd : 1 ≤ x.day ∧ x.day ≤ 31) :
    ymdDir (renderYmd x ++ rest) = some (x.year, x.month, x.day, rest) := by
  unfold ymdDir renderYmd
  simp only [List.append_assoc, List.cons_append]
  rw [numDir_year _ _ hy.1 hy.2]
  simp only [Option.bind_some, litDir_cons]
  rw [numDir_zpad 2 1 1 12 x.month _ (by omega)]
  simp only [Option.bind_some, litDir_cons]
  rw [numDir_zpad 2 1 1 31 x.day _ (by omega)]
  simp only [Option.bind_some]

theorem hmsDir_render (x : Fields) (rest : Str) (hh : 0 ≤ x.hour ∧ x.hour < 24)
    (hm : 0 ≤ x.minute ∧ x.minute < 60) (hs : 0 ≤ x.second ∧ x.second < 60) :
    hmsDir (renderHms x ++ rest) = some (x.hour, x.minute, x.second, rest) := by
  unfold hmsDir renderHms
  simp only [List.append_assoc, List.cons_append]
  rw [numDir_zpad 2 1 0 23 x.hour _ (by omega)]
  simp only [Option.bind_some, litDir_cons]
  rw [numDir_zpad 2 1 0 59 x.minute _ (by omega)]
  simp only [Option.bind_some, litDir_cons]
  rw [numDir_zpad 2 1 0 61 x.second _ (by omega)]
  simp only [Option.bind_some]

theorem optFracDir_render (us : Int) (h : 0 ≤ us ∧ us < 1000000) :
    optFracDir true ('.' :: zpad 6 us) = some (us, []) := by
  unfold optFracDir
  simp only [if_true, litDir_cons, Option.bind_some]
  rw [zpad_eq 6 us (by decide) h.1 (by omega), fracDir_six]
  have : us.toNat % 10 ^ 6 = us.toNat := Nat.mod_eq_of_lt (by omega)
  rw [this, Int.toNat_of_nonneg h.1]

theorem mkDateTime_fields {dt : DateTime} {x : Fields} (hx : FieldsSpec dt x) (hy : 1 ≤ x.year) :
    mkDateTime x.year x.month x.day x.hour x.minute x.second x.micro = some dt := by
  unfold mkDateTime
  have h59 : x.second ≤ 59 := by have := hx.second; omega
  rw [if_pos ⟨hy, hx.valid, h59⟩]
  have : (⟨x.year, x.month, x.day, x.hour, x.minute, x.second, x.micro⟩ : Fields) = x := by cases x; rfl
  rw [this, hx.back]

/-- no `.` in the text -/
def NoPoint (s : Str) : Prop := ∀ c ∈ s, (decide (c ≠ '.')) = true

theorem noPoint_nil : NoPoint [] := by intro c hc; cases hc

theorem noPoint_of_allDigits {s : Str} (h : allDigits s = true) : NoPoint s :=
  fun _ hc => ne_point_of_digit (isDigit_of_mem h hc)

theorem allDigits_zpad (w : Nat) (n : Int) : allDigits (zpad w n) = true := by
  unfold zpad fracDigits
  rw [allDigits_append, allDigits_replicate_zero, allDigits_natDigits']; rfl

theorem noPoint_zpad (w : Nat) (n : Int) : NoPoint (zpad w n) := noPoint_of_allDigits (allDigits_zpad w n)

theorem noPoint_fmtYear (y : Int) : NoPoint (fmtYear y) := noPoint_of_allDigits (allDigits_natDigits' _)

theorem noPoint_append_iff {a b : Str} : NoPoint (a ++ b) ↔ NoPoint a ∧ NoPoint b := List.forall_mem_append

theorem noPoint_cons_iff {c : Char} {s : Str} : NoPoint (c :: s) ↔ c ≠ '.' ∧ NoPoint s := by
  simp only [NoPoint, List.forall_mem_cons, decide_eq_true_eq]

theorem noPoint_renderYmd (x : Fields) : NoPoint (renderYmd x) := by
  simp [renderYmd, noPoint_append_iff, noPoint_cons_iff, noPoint_zpad, noPoint_fmtYear]

theorem noPoint_renderHms (x : Fields) : NoPoint (renderHms x) := by
  simp [renderHms, noPoint_append_iff, noPoint_cons_iff, noPoint_zpad]

/-- `f"{frac:8.6f}"` of a six-digit fraction is `0.` and the six digits -/
theorem fmtFixed_six (n : Nat) (h : n < 10 ^ 6) : fmtFixed ((n : Rat) / pow10 6) 8 6 = '0' :: '.' :: fixedDigits 6 n := by
  have hP := pow10_pos 6
  have hq : ¬ ((n : Rat) / pow10 6 < 0) := by
    have : (0 : Rat) ≤ (n : Rat) / pow10 6 := div_nonneg (by exact_mod_cast Nat.zero_le n) (le_of_lt hP)
    exact not_lt.mpr this
  have hs : fixedScaled ((n : Rat) / pow10 6) 6 = n := by
    unfold fixedScaled
    rw [if_neg hq]
    have e : (n : Rat) / pow10 6 * pow10 6 = ((n : Int) : Rat) := by
      push_cast; field_simp
    rw [e, rhe_int]; rfl
  have hcore : fmtFixedCore ((n : Rat) / pow10 6) 6 = '0' :: '.' :: fixedDigits 6 n := by
    rw [fmtFixedCore_eq, if_neg hq, hs]
    unfold fixedBody
    have : n / 10 ^ 6 = 0 := Nat.div_eq_of_lt h
    rw [this, natDigits_zero]; rfl
  unfold fmtFixed rjust
  rw [hcore]
  simp [length_fixedDigits, blanks]

/-- `float("0." + ffffff)`: the text is what `fmtFixed_six` prints, and a printed number parses to itself (`parse_fmtFixed`) -/
theorem parseFloat_zero_point (n : Nat) (h : n < 10 ^ 6) :
    parseFloat ('0' :: '.' :: fixedDigits 6 n) = some ((n : Rat) / pow10 6) := by
  obtain ⟨v, hv, -, hexact⟩ := parse_fmtFixed ((n : Rat) / pow10 6) 8 6
  rw [← fmtFixed_six n h, hv, hexact n (by rw [← pow10_eq, div_mul_cancel₀ _ (pow10_pos 6).ne', Int.cast_natCast])]

theorem isEmpty_zpad (w : Nat) (n : Int) : (zpad w n).isEmpty = false := by
  unfold zpad fracDigits
  cases h : List.replicate (w - (natDigits n.toNat).length) '0' ++ natDigits n.toNat with
  | nil =>
    have := natDigits_ne_nil' n.toNat
    simp at h; exact absurd h.2 this
  | cons _ _ => rfl

theorem zpad_head_digit (w : Nat) (n : Int) : ∃ c r, zpad w n = c :: r ∧ isDigit c = true := by
  cases h : zpad w n with
  | nil => have := isEmpty_zpad w n; simp [h] at this
  | cons c r => exact ⟨c, r, rfl, isDigit_of_mem (h ▸ allDigits_zpad w n) (by simp)⟩

theorem str2dt_frac (f : TextFmt) (main : Str) (us : Int) (hmain : NoPoint main)
    (h0 : 0 ≤ us) (h1 : us < 1000000) :
    str2dt f (main ++ '.' :: zpad 6 us) = strptime f true (main ++ '.' :: zpad 6 us) := by
  have hlt : us.toNat < 10 ^ 6 := by omega
  unfold str2dt
  have hpt : (decide ('.' ≠ '.')) = false := by decide
  rw [takeWhile_append_stop _ _ _ _ hmain hpt, dropWhile_append_stop _ _ _ _ hmain hpt]
  simp only [List.drop_succ_cons, List.drop_zero, isEmpty_zpad, Bool.false_eq_true, if_false]
  rw [zpad_eq 6 us (by decide) h0 (by omega), parseFloat_zero_point _ hlt]
  simp only [fmtFixed_six _ hlt, List.drop_succ_cons, List.drop_zero]

theorem str2dt_nofrac (f : TextFmt) (s : Str) (h : NoPoint s) : str2dt f s = strptime f false s := by
  unfold str2dt
  rw [takeWhile_eq_self _ _ h, dropWhile_eq_nil _ _ h]
  simp

theorem str2dt_hmsF (f : TextFmt) (head : Str) {dt : DateTime} {x : Fields} (hx : FieldsSpec dt x) (hhead : NoPoint head) :
    str2dt f (head ++ renderHmsF x) = strptime f true (head ++ renderHms x ++ '.' :: zpad 6 x.micro) := by
  rw [← str2dt_frac f _ _ (noPoint_append_iff.mpr ⟨hhead, noPoint_renderHms x⟩) hx.micro.1 hx.micro.2, renderHmsF,
    List.append_assoc]

/-- `K`: whatever the pattern then does with the four clock fields -/
theorem hmsF_tail {α} {dt : DateTime} {x : Fields} (hx : FieldsSpec dt x) (K : Int × Int × Int × Str → Int × Str → Option α) :
    ((hmsDir (renderHms x ++ '.' :: zpad 6 x.micro)).bind fun b => (optFracDir true b.2.2.2).bind fun u => K b u)
      = K (x.hour, x.minute, x.second, '.' :: zpad 6 x.micro) (x.micro, []) := by
  rw [hmsDir_render x _ hx.hour hx.minute hx.second, Option.bind_some, optFracDir_render _ hx.micro, Option.bind_some]

theorem parse_render_isot (dt : DateTime) (hy : 1000 ≤ (fieldsOf dt).year ∧ (fieldsOf dt).year ≤ 9999) :
    parse? .isot (render .isot dt) = some dt := by
  have hx := fieldsSpec dt
  simp only [parse?, render]
  generalize fieldsOf dt = x at hx hy
  rw [← List.singleton_append, ← List.append_assoc, str2dt_hmsF _ _ hx (by
    simp [noPoint_append_iff, noPoint_cons_iff, noPoint_renderYmd, noPoint_nil])]
  unfold strptime
  simp only [List.append_assoc, List.cons_append, List.nil_append]
  rw [ymdDir_render x _ hy hx.month hx.day]
  simp only [Option.bind_some, if_true, litDir_cons]
  rw [hmsF_tail hx]
  simp only [List.isEmpty_nil, if_true]
  exact mkDateTime_fields hx (by omega)

theorem parse_render_iso (dt : DateTime) (hy : 1000 ≤ (fieldsOf dt).year ∧ (fieldsOf dt).year ≤ 9999) :
    parse? .iso (render .iso dt) = some dt := by
  have hx := fieldsSpec dt
  simp only [parse?, render]
  generalize fieldsOf dt = x at hx hy
  rw [← List.singleton_append, ← List.append_assoc, str2dt_hmsF _ _ hx (by
    simp [noPoint_append_iff, noPoint_cons_iff, noPoint_renderYmd, noPoint_nil])]
  unfold strptime
  simp only [List.append_assoc, List.cons_append, List.nil_append]
  rw [ymdDir_render x _ hy hx.month hx.day]
  have hws : wsDir (' ' :: (renderHms x ++ '.' :: zpad 6 x.micro)) = some (renderHms x ++ '.' :: zpad 6 x.micro) := by
    apply wsDir_blank _
    intro c r' hcr
    obtain ⟨d, r, hz, hd⟩ := zpad_head_digit 2 x.hour
    unfold renderHms at hcr
    rw [hz] at hcr
    simp only [List.append_assoc, List.cons_append, List.cons.injEq] at hcr
    rw [← hcr.1]; exact isSpace_of_isDigit hd
  simp only [Option.bind_some, reduceCtorEq, if_false, hws]
  rw [hmsF_tail hx]
  simp only [List.isEmpty_nil, if_true]
  exact mkDateTime_fields hx (by omega)

theorem parse_render_date (dt : DateTime) (hy : 1000 ≤ (fieldsOf dt).year ∧ (fieldsOf dt).year ≤ 9999) :
    parse? .date (render .date dt) = some (dt / usPerDay * usPerDay) := by
  have hx := fieldsSpec dt
  simp only [parse?, render]
  generalize fieldsOf dt = x at hx hy
  rw [str2dt_nofrac _ _ (noPoint_renderYmd x)]
  unfold strptime
  have := ymdDir_render x [] hy hx.month hx.day
  rw [List.append_nil] at this
  rw [this]
  simp only [Option.bind_some, List.isEmpty_nil, if_true]
  unfold mkDateTime
  rw [if_pos ⟨by omega, hx.valid, by decide⟩]
  simp only [ofFields, hx.days]
  congr 1
  simp [usPerSec]

theorem ordinal_of_doy (y m d : Int) : daysFromCivil y 1 1 + dayOfYear y m d - 1 = daysFromCivil y m d := by
  unfold dayOfYear; omega

theorem mkOrdinal_fields {dt : DateTime} {x : Fields} (hx : FieldsSpec dt x) (hy : 1 ≤ x.year ∧ x.year ≤ 9999) :
    mkOrdinal x.year (dayOfYear x.year x.month x.day) = some (dt / usPerDay) := by
  unfold mkOrdinal
  simp only [ordinal_of_doy, hx.valid]
  rw [if_pos ⟨hy.1, hy.2⟩, hx.days]

theorem noPoint_renderDoy (x : Fields) : NoPoint (renderDoy x) := noPoint_zpad _ _

theorem parse_render_yday (dt : DateTime) (hy : 1000 ≤ (fieldsOf dt).year ∧ (fieldsOf dt).year ≤ 9999) :
    parse? .yday (render .yday dt) = some dt := by
  have hx := fieldsSpec dt
  simp only [parse?, render]
  generalize fieldsOf dt = x at hx hy
  have hdoy := doy_range x.year x.month x.day hx.month.1 hx.month.2 hx.day.1 hx.day.2
  have e := str2dt_hmsF .yday (fmtYear x.year ++ ':' :: renderDoy x ++ [':']) hx (by
    simp [noPoint_append_iff, noPoint_cons_iff, noPoint_fmtYear, noPoint_renderDoy, noPoint_nil])
  simp only [List.append_assoc, List.cons_append, List.nil_append] at e ⊢
  rw [e]
  unfold strptime
  rw [numDir_year _ _ hy.1 hy.2]
  simp only [Option.bind_some, litDir_cons]
  unfold renderDoy
  rw [numDir_zpad 3 1 1 366 _ _ (by omega)]
  simp only [Option.bind_some, litDir_cons]
  rw [hmsF_tail hx]
  have h59 : x.second ≤ 59 := by have := hx.second; omega
  simp only [List.isEmpty_nil, h59, and_self, if_true]
  rw [mkOrdinal_fields hx ⟨by omega, hy.2⟩]
  simp only [Option.map_some, Option.some.injEq]
  have hb := hx.back
  simp only [ofFields, hx.days] at hb
  exact hb

theorem parseFloat_renderSod (x : Fields) (h : 0 ≤ secOfDay x ∧ secOfDay x < 86400) :
    parseFloat (renderSod x) = some ((secOfDay x : Int) : Rat) := by
  unfold renderSod
  rw [zfill_natDigits]
  have hlt : (secOfDay x).toNat < 10 ^ 5 := by omega
  rw [fracDigits_eq_fixedDigits 5 _ (by decide) hlt,
    parseFloat_digits (allDigits_fixedDigits _ _) (fixedDigits_ne_nil (by decide) _),
    digitsVal_fixedDigits, Nat.mod_eq_of_lt hlt]
  congr 1
  have : (((secOfDay x).toNat : Nat) : Int) = secOfDay x := Int.toNat_of_nonneg h.1
  rw [← this]; push_cast; rfl

theorem yds_tail {dt : DateTime} {x : Fields} (hx : FieldsSpec dt x) :
    dt / usPerDay * usPerDay + Midgard.TimeArith.roundHalfEven (((secOfDay x : Int) : Rat) * (usPerSec : Rat))
      = dt / usPerSec * usPerSec := by
  have e : ((secOfDay x : Int) : Rat) * (usPerSec : Rat) = ((secOfDay x * usPerSec : Int) : Rat) := by push_cast; rfl
  rw [e, Midgard.TimeArith.roundHalfEven_int, ← hx.days]
  exact hx.secs

/-- `_yds2jd` reads back year text, day of year and seconds of day, whichever of the two year directives reads `ytext` -/
theorem yds2dt_render {dt : DateTime} {x : Fields} (hx : FieldsSpec dt x) (four : Bool) (ytext : Str)
    (hlen : ytext.length + 5 = if four then 9 else 7)
    (hyear : ∀ rest, (if four then numDir 4 4 0 9999 (ytext ++ rest)
      else (numDir 2 2 0 99 (ytext ++ rest)).map fun y => (pivotYear y.1, y.2)) = some (x.year, rest))
    (hy : 1 ≤ x.year ∧ x.year ≤ 9999) :
    yds2dt four (ytext ++ ':' :: renderDoy x ++ ':' :: renderSod x) = some (dt / usPerSec * usPerSec) := by
  have hdoy := doy_range x.year x.month x.day hx.month.1 hx.month.2 hx.day.1 hx.day.2
  have hlenD : (renderDoy x).length = 3 := length_zpad 3 _ (by decide) (by omega) (by omega)
  have hsplit : ytext ++ ':' :: renderDoy x ++ ':' :: renderSod x
      = (ytext ++ ':' :: renderDoy x ++ [':']) ++ renderSod x := by simp [List.append_assoc]
  have hn : (ytext ++ ':' :: renderDoy x ++ [':']).length = if four then 9 else 7 := by
    rw [← hlen]; simp [hlenD]
  unfold yds2dt
  simp only
  rw [hsplit, List.take_left' hn, List.drop_left' hn]
  unfold ydHead
  simp only [List.append_assoc, List.cons_append, hyear, Option.bind_some, litDir_cons]
  unfold renderDoy
  rw [numDir_zpad 3 1 1 366 _ _ (by omega)]
  simp only [Option.bind_some, litDir_cons, List.isEmpty_nil, if_true]
  rw [mkOrdinal_fields hx hy]
  simp only [Option.bind_some, parseFloat_renderSod x hx.sod, Option.map_some, yds_tail hx]

theorem parse_render_yyyyddd (dt : DateTime) (hy : 1000 ≤ (fieldsOf dt).year ∧ (fieldsOf dt).year ≤ 9999) :
    parse? .yyyyddd (render .yyyyddd dt) = some (dt / usPerSec * usPerSec) :=
  yds2dt_render (fieldsSpec dt) true (fmtYear (fieldsOf dt).year)
    (by rw [fmtYear, length_natDigits_eq 3 _ (by omega) (by omega)]; rfl)
    (fun rest => by rw [if_pos rfl]; exact numDir_year _ _ hy.1 hy.2) ⟨by omega, hy.2⟩

theorem parse_render_yyddd (dt : DateTime) (hy : 1969 ≤ (fieldsOf dt).year ∧ (fieldsOf dt).year ≤ 2068) :
    parse? .yyddd (render .yyddd dt) = some (dt / usPerSec * usPerSec) := by
  have hpiv : pivotYear ((fieldsOf dt).year % 100) = (fieldsOf dt).year := by unfold pivotYear; split <;> omega
  refine yds2dt_render (fieldsSpec dt) false (zpad 2 ((fieldsOf dt).year % 100))
    (by rw [length_zpad 2 _ (by decide) (by omega) (by omega)]; rfl) (fun rest => ?_) ⟨by omega, by omega⟩
  rw [if_neg Bool.false_ne_true, numDir_zpad 2 2 0 99 _ _ (by omega),
    Option.map_some, hpiv]

open Midgard.TimeArith in
theorem trunc_mul_error (dt : DateTime) {n : Int} (hn : 0 < n) :
    0 ≤ (dtToJds dt).inst - (dtToJds (dt / n * n)).inst ∧
    (dtToJds dt).inst - (dtToJds (dt / n * n)).inst < (n : Rat) / (usPerDay : Rat) := by
  obtain ⟨a, b⟩ := rem_range dt hn
  have e : (dtToJds dt).inst - (dtToJds (dt / n * n)).inst = ((dt - dt / n * n : Int) : Rat) / (usPerDay : Rat) := by
    rw [dtToJds_inst, dtToJds_inst]; push_cast; ring
  rw [e]
  exact ⟨div_nonneg (by exact_mod_cast a) usPerDay_pos.le, div_lt_div_of_pos_right (by exact_mod_cast b) usPerDay_pos⟩

/-- < 1 s for `:sssss`, < 1 day for `date`; for the microsecond patterns nothing is cut (stated here as < 1 µs;
`Props.C02.trunc_within_res` has the 0) -/
theorem trunc_error (f : TextFmt) (dt : DateTime) :
    0 ≤ (dtToJds dt).inst - (dtToJds (truncTo f dt)).inst ∧
    (dtToJds dt).inst - (dtToJds (truncTo f dt)).inst <
      match f with
      | .isot | .iso | .yday => 1 / (usPerDay : Rat)
      | .date => 1
      | .yyddd | .yyyyddd => 1 / 86400 := by
  have hsame : 0 ≤ (dtToJds dt).inst - (dtToJds dt).inst ∧ (dtToJds dt).inst - (dtToJds dt).inst < 1 / (usPerDay : Rat) := by
    rw [sub_self]; exact ⟨le_rfl, one_div_pos.mpr usPerDay_pos⟩
  have hday := trunc_mul_error dt (show (0 : Int) < usPerDay by decide)
  rw [div_self usPerDay_pos.ne'] at hday
  have hsec := trunc_mul_error dt (show (0 : Int) < usPerSec by decide)
  rw [show (usPerSec : Rat) / (usPerDay : Rat) = 1 / 86400 by norm_num [usPerDay, usPerSec]] at hsec
  cases f
  exacts [hsame, hsame, hsame, hday, hsec, hsec]

end Midgard.TimeFormat

#print axioms Midgard.TimeFormat.trunc_mul_error
#print axioms Midgard.TimeFormat.trunc_error
