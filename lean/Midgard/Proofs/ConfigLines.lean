/-
C19, text round trip: the lines `entry_as_str` writes for one `key = value` (or `key:meta = value`) item, in terms of
words.  At the end the chunks of an entry whose value has arbitrary runs of blanks (`spacedValue`), for the entries that
fit on one line.  Mathlib-free.
-/
import Midgard.Proofs.ConfigWrap

namespace Midgard.Proofs.ConfigText
open Midgard.Config

/-- `" ".join(words)` -/
def unwords : List (List Char) → List Char
  | [] => []
  | w :: t => w ++ t.flatMap (fun x => ' ' :: x)

def wordPairs (ws : List (List Char)) : List Pair := ws.map (fun w => ([' '], w))

/-- the blanks between the key and `=`: padding to the key column plus the blank of `" = "` -/
def padOf (kw : Nat) (key : List Char) : List Char := List.replicate (kw - key.length) ' ' ++ [' ']

/-- the text `entry_as_str` wraps: `f"{key:<{kw}} = {value}"` -/
def entryText (kw : Nat) (key : List Char) (value : List Char) : List Char :=
  ljust kw key ++ " = ".toList ++ value

/-- first line of an item holding the words `g0` of the value -/
def firstLine (kw : Nat) (key : List Char) (g0 : List (List Char)) : List Char :=
  key ++ padOf kw key ++ '=' :: g0.flatMap (fun x => ' ' :: x)

/-- continuation line holding the words `g` -/
def contLine (hang : Nat) (g : List (List Char)) : List Char := List.replicate hang ' ' ++ unwords g

theorem eqSign_toList : " = ".toList = [' ', '=', ' '] := by decide

theorem unwords_nil : unwords [] = [] := rfl

theorem unwords_ne_nil {x : List Char} (hx : x ≠ []) (t : List (List Char)) : unwords (x :: t) ≠ [] := by
  cases x with
  | nil => exact absurd rfl hx
  | cons a b => simp [unwords]

theorem flatMap_blank_cons (x : List Char) (t : List (List Char)) :
    (x :: t).flatMap (fun x => ' ' :: x) = ' ' :: unwords (x :: t) := by
  simp [unwords]

theorem unwords_head (x : List Char) (ws : List (List Char)) (hx : x ≠ []) :
    (unwords (x :: ws)).head? = x.head? := by
  cases x with
  | nil => exact absurd rfl hx
  | cons c t => simp [unwords]

theorem mem_unwords (c : Char) (g : List (List Char)) (h : c ∈ unwords g) : c = ' ' ∨ ∃ x ∈ g, c ∈ x := by
  cases g with
  | nil => simp [unwords] at h
  | cons x t =>
    simp only [unwords, List.mem_append, List.mem_flatMap] at h
    rcases h with h | ⟨y, hy, h⟩
    · exact Or.inr ⟨x, by simp, h⟩
    · rcases List.mem_cons.1 h with h | h
      · exact Or.inl h
      · exact Or.inr ⟨y, List.mem_cons_of_mem _ hy, h⟩

theorem unwords_append (a b : List (List Char)) (ha : a ≠ []) (hb : b ≠ []) :
    unwords (a ++ b) = unwords a ++ ' ' :: unwords b := by
  cases a with
  | nil => exact absurd rfl ha
  | cons x t =>
    cases b with
    | nil => exact absurd rfl hb
    | cons y r => simp [unwords, List.flatMap_append]

theorem entryText_eq (kw : Nat) (key value : List Char) :
    entryText kw key value = key ++ padOf kw key ++ '=' :: ' ' :: value := by
  simp [entryText, ljust, eqSign_toList, padOf]

theorem flatten_wordPairs (ws : List (List Char)) :
    ((wordPairs ws).flatMap fun p => [p.1, p.2]).flatten = ws.flatMap (fun x => ' ' :: x) := by
  induction ws with
  | nil => rfl
  | cons w t ih =>
    simp only [wordPairs, List.map_cons, List.flatMap_cons] at ih ⊢
    simp [ih]

theorem flatAlt_wordPairs_flatten (x : List Char) (ws : List (List Char)) :
    (flatAlt x (wordPairs ws)).flatten = unwords (x :: ws) := by
  simp [flatAlt, unwords, flatten_wordPairs]

theorem entryText_words (kw : Nat) (key : List Char) (w1 : List Char) (ws : List (List Char)) :
    entryText kw key (unwords (w1 :: ws)) =
      (flatAlt key ((padOf kw key, ['=']) :: wordPairs (w1 :: ws))).flatten := by
  simp [entryText_eq, flatAlt, unwords, flatten_wordPairs]

theorem wordPairs_append_inv (ws : List (List Char)) (a : List Pair) (s x : List Char) (b : List Pair)
    (h : a ++ (s, x) :: b = wordPairs ws) :
    ∃ ws1 ws2, ws = ws1 ++ x :: ws2 ∧ a = wordPairs ws1 ∧ s = [' '] ∧ b = wordPairs ws2 := by
  induction ws generalizing a with
  | nil => simp [wordPairs] at h
  | cons w t ih =>
    cases a with
    | nil =>
      simp only [wordPairs, List.nil_append, List.map_cons, List.cons.injEq, Prod.mk.injEq] at h
      obtain ⟨⟨h1, h2⟩, h3⟩ := h
      exact ⟨[], t, by simp [h2], rfl, h1, h3⟩
    | cons p a' =>
      simp only [wordPairs, List.cons_append, List.map_cons, List.cons.injEq] at h
      obtain ⟨h1, h2⟩ := h
      obtain ⟨ws1, ws2, e1, e2, e3, e4⟩ := ih a' h2
      exact ⟨w :: ws1, ws2, by simp [e1], by simp [wordPairs, ← h1, e2], e3, e4⟩

theorem grouping_words (x : List Char) (ws : List (List Char)) (gs : List (List Char × List Pair))
    (hg : Grouping x (wordPairs ws) gs) :
    ∃ gr : List (List (List Char)), (∀ g ∈ gr, g ≠ []) ∧ gr.flatten = x :: ws ∧
      gs.map (fun g => (flatAlt g.1 g.2).flatten) = gr.map unwords := by
  generalize hps : wordPairs ws = ps at hg
  induction hg generalizing ws with
  | last x0 ps =>
    subst hps
    exact ⟨[x0 :: ws], by simp, by simp, by simp [flatAlt_wordPairs_flatten]⟩
  | cons x0 a s x' b gs' _ ih =>
    obtain ⟨ws1, ws2, e1, e2, e3, e4⟩ := wordPairs_append_inv ws a s x' b hps.symm
    obtain ⟨gr, h1, h2, h3⟩ := ih ws2 e4.symm
    refine ⟨(x0 :: ws1) :: gr, ?_, ?_, ?_⟩
    · intro g hg; rcases List.mem_cons.1 hg with h | h
      · subst h; simp
      · exact h1 g h
    · simp [h2, e1]
    · simp [h3, e2, flatAlt_wordPairs_flatten]

theorem first_line_has_eq (w : Nat) (key pad eq : List Char) (r : List (List Char))
    (hfit : key.length + pad.length + eq.length ≤ w) (heq : isSpaceChunk eq = false) :
    3 ≤ (dropTrailingSpace (lineSplit w (key :: pad :: eq :: r)).1).length := by
  have h1 : takeFit w [] 0 (key :: pad :: eq :: r) = takeFit w [key, pad, eq] (key.length + pad.length + eq.length) r := by
    rw [takeFit_step w [] 0 key _ (by omega), takeFit_step _ _ _ pad _ (by omega),
      takeFit_step _ _ _ eq _ (by omega)]
    simp
  obtain ⟨a, ha1, _⟩ := takeFit_split w [key, pad, eq] (key.length + pad.length + eq.length) r
  have hls : (lineSplit w (key :: pad :: eq :: r)).1 = [key, pad, eq] ++ a := by
    simp only [lineSplit, h1]
    generalize takeFit w [key, pad, eq] (key.length + pad.length + eq.length) r = tf at ha1
    obtain ⟨c, rr⟩ := tf
    simp only at ha1
    subst ha1
    simp
  rw [hls]
  rcases List.eq_nil_or_concat a with h | ⟨a', c, h⟩
  · subst h
    have : [key, pad, eq] ++ ([] : List (List Char)) = [key, pad] ++ [eq] := by simp
    rw [this, dropTrailingSpace_snoc, heq]; simp
  · subst h
    have := dropTrailingSpace_length ([key, pad, eq] ++ (a' ++ [c]))
    simp at this ⊢
    omega

theorem firstLine_eq (kw : Nat) (key : List Char) (g0 : List (List Char)) :
    (flatAlt key ((padOf kw key, ['=']) :: wordPairs g0)).flatten = firstLine kw key g0 := by
  simp [flatAlt, firstLine, flatten_wordPairs]

theorem isWord_eqSign : IsWord ['='] := ⟨by simp, by intro c hc; simp at hc; subst hc; decide⟩

theorem isSpaces_pad (kw : Nat) (key : List Char) : IsSpaces (padOf kw key) :=
  ⟨by simp [padOf], by intro c hc; simp [padOf] at hc; rcases hc with h | h <;> simp [h]⟩

theorem isSpaces_single : IsSpaces [' '] := ⟨by simp, by simp⟩

theorem pairsOK_entry (kw : Nat) (key : List Char) (ws : List (List Char)) (hws : ∀ x ∈ ws, IsWord x) :
    PairsOK ((padOf kw key, ['=']) :: wordPairs ws) := by
  intro p hp
  rcases List.mem_cons.1 hp with h | h
  · subst h; exact ⟨isSpaces_pad kw key, isWord_eqSign⟩
  · simp only [wordPairs, List.mem_map] at h
    obtain ⟨x, hx, rfl⟩ := h
    exact ⟨isSpaces_single, hws x hx⟩

theorem fill_entry_lines (w kw : Nat) (key : List Char) (w1 : List Char) (ws : List (List Char))
    (hkey : IsWord key) (hws : ∀ x ∈ w1 :: ws, IsWord x)
    (hctl : NoCtl (entryText kw key (unwords (w1 :: ws))))
    (hfit : key.length + (padOf kw key).length + 1 ≤ w) :
    ∃ (g0 : List (List Char)) (gr : List (List (List Char))), (∀ g ∈ gr, g ≠ []) ∧ g0 ++ gr.flatten = w1 :: ws ∧
      fill w (kw + 3) (entryText kw key (unwords (w1 :: ws))) =
        firstLine kw key g0 :: gr.map (contLine (kw + 3)) := by
  rw [entryText_words] at hctl ⊢
  have hps := pairsOK_entry kw key (w1 :: ws) hws
  obtain ⟨gs, hg, hwrap, hfill⟩ := fill_grouping w (kw + 3) key _ hkey hps hctl
  rw [hfill]
  -- the first line holds key, padding and `=`
  have h3 : 3 ≤ (dropTrailingSpace (lineSplit w (flatAlt key ((padOf kw key, ['=']) :: wordPairs (w1 :: ws)))).1).length :=
    first_line_has_eq w key (padOf kw key) ['='] _ (by simpa using hfit) (isSpaceChunk_word isWord_eqSign)
  rw [wrapChunks_first _ _ _ _ (flatAlt_ne_nil _ _)] at hwrap
  generalize hP : (padOf kw key, ['=']) :: wordPairs (w1 :: ws) = P at hg hwrap
  cases hg with
  | last =>
    subst hP
    exact ⟨w1 :: ws, [], by simp, by simp, by simp [renderLines, firstLine_eq]⟩
  | @cons _ a s x b gs' hg' =>
    have h3 : 3 ≤ (flatAlt key a).length := by
      rw [← hP] at hwrap
      split at hwrap
      · rename_i he
        rw [List.isEmpty_iff.1 he] at h3
        cases h3
      · have hline : _ = flatAlt key a := (List.cons.inj hwrap).1
        rwa [hline] at h3
    cases a with
    | nil => simp [flatAlt] at h3
    | cons p a' =>
      simp only [List.cons_append, List.cons.injEq] at hP
      obtain ⟨hp, hrest⟩ := hP
      subst hp
      obtain ⟨ws1, ws2, e1, e2, e3, e4⟩ := wordPairs_append_inv (w1 :: ws) a' s x b hrest.symm
      subst e2 e4
      obtain ⟨gr, g1, g2, g3⟩ := grouping_words x ws2 gs' hg'
      refine ⟨ws1, gr, g1, by rw [g2, e1], ?_⟩
      simp only [renderLines, List.map_cons, firstLine_eq, List.map_map, List.cons.injEq, true_and]
      have hg := congrArg (List.map (List.replicate (kw + 3) ' ' ++ ·)) g3
      simp only [List.map_map, Function.comp_def] at hg ⊢
      exact hg

theorem fill_single_word (w hang : Nat) (x : List Char) (hx : IsWord x) (hctl : NoCtl x) :
    fill w hang x = [x] := by
  have hflat : (flatAlt x []).flatten = x := by simp [flatAlt_nil]
  obtain ⟨gs, hg, _, hfill⟩ := fill_grouping w hang x [] hx (by intro p hp; simp at hp) (by rw [hflat]; exact hctl)
  rw [hflat] at hfill
  rw [hfill]
  generalize hP : ([] : List Pair) = P at hg
  cases hg with
  | last => subst hP; simp [renderLines, flatAlt_nil]
  | @cons _ a s x' b gs' hg' => simp at hP

theorem fill_empty_value (w kw : Nat) (key : List Char) (hkey : IsWord key)
    (hctl : NoCtl key) (hfit : key.length + (padOf kw key).length + 1 ≤ w) :
    fill w (kw + 3) (entryText kw key []) = [firstLine kw key []] := by
  have htext : entryText kw key [] = [key, padOf kw key, ['='], [' ']].flatten := by
    simp [entryText_eq]
  have hctl' : NoCtl (entryText kw key []) := by
    rw [htext]
    intro c hc
    simp only [List.flatten_cons, List.flatten_nil, List.append_nil, List.mem_append, List.mem_singleton] at hc
    rcases hc with h | h | h | h
    · exact hctl c h
    · rw [(isSpaces_pad kw key).2 c h]; decide
    · subst h; decide
    · subst h; decide
  have hch : chunks (munge (entryText kw key [])) = [key, padOf kw key, ['='], [' ']] := by
    rw [munge_id _ hctl', htext]
    apply chunks_flatten false
    exact ⟨hkey.1, isSp_word hkey, (isSpaces_pad kw key).1, isSp_spaces (isSpaces_pad kw key),
      by simp, by simpa using isSp_word isWord_eqSign, by simp, by simpa using isSp_spaces isSpaces_single, trivial⟩
  have hk : isSpaceChunk key = false := isSpaceChunk_word hkey
  have h1 : takeFit w [] 0 [key, padOf kw key, ['='], [' ']] =
      takeFit w [key, padOf kw key, ['=']] (key.length + (padOf kw key).length + 1) [[' ']] := by
    rw [takeFit_step w [] 0 key _ (by omega), takeFit_step _ _ _ (padOf kw key) _ (by omega),
      takeFit_step _ _ _ ['='] _ (by simp; omega)]
    simp
  have hl0 : lineSplit (w - (kw + 3)) [] = ([], []) := by simp [lineSplit, takeFit]
  -- the blank after `=` either fits on the line, and is dropped at its end, or starts the next line, and is dropped there
  have hls : lineSplit w [key, padOf kw key, ['='], [' ']] = ([key, padOf kw key, ['='], [' ']], []) ∨
      lineSplit w [key, padOf kw key, ['='], [' ']] = ([key, padOf kw key, ['=']], [[' ']]) := by
    simp only [lineSplit, h1]
    by_cases hsp : key.length + (padOf kw key).length + 1 + 1 ≤ w <;> simp [takeFit, hsp]
  rcases hls with hls | hls <;>
  · simp only [fill, hch, List.length_cons, List.length_nil, wrapChunks, hk, Bool.and_false,
      Bool.false_eq_true, if_false, if_true, hls]
    simp [dropTrailingSpace, isSpaceChunk, renderLines, wrapChunks, firstLine, hl0]

end Midgard.Proofs.ConfigText

namespace Midgard.Props.C19
open Midgard.Config
open Midgard.Proofs.ConfigText

/-- a value as words with arbitrary (non-empty) runs of blanks between them -/
def spacedValue (w1 : List Char) (ps : List Pair) : List Char := (flatAlt w1 ps).flatten

/-- the chunks of the text `entry_as_str` wraps for such a value -/
def entryPairs (kw : Nat) (key w1 : List Char) (ps : List Pair) : List Pair :=
  (padOf kw key, ['=']) :: ([' '], w1) :: ps

theorem entryText_spaced (kw : Nat) (key w1 : List Char) (ps : List Pair) :
    entryText kw key (spacedValue w1 ps) = (flatAlt key (entryPairs kw key w1 ps)).flatten := by
  simp [entryText_eq, spacedValue, flatAlt, entryPairs, List.append_assoc]

end Midgard.Props.C19

#print axioms Midgard.Props.C19.entryText_spaced
