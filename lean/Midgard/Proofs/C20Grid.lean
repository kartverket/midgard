/-
C20 — interpolation on a rectangular grid as the tensor product of two 1-dimensional schemes (nodes, exactness and
linearity are inherited from the factors); bilinear interpolation (regular_grid_interpolator: piecewise linear along
each axis) is such a product.
-/
import Midgard.Proofs.C20Linear

namespace Midgard.Proofs.C20
open Midgard.Numeric

/-- `R₁` along `xs` on every grid row (`grid[k][i]` is the value at `(xs[i], ys[k])`), then `R₂` along `ys` through the
row values -/
def Tensor (R₁ R₂ : Scheme) (xs ys : List ℚ) (grid : List (List ℚ)) (x y v : ℚ) : Prop :=
  ∃ vals : List ℚ, (∀ k, k < grid.length → R₁ xs (grid.getD k []) x (vals.getD k 0)) ∧ R₂ ys vals y v

section
variable {R₁ R₂ : Scheme} {xs ys : List ℚ}

theorem Tensor.nodes {grid : List (List ℚ)} {v : ℚ} (h₁ : R₁.Nodes) (h₂ : R₂.Nodes) (hx : xs.Pairwise (· < ·))
    (hy : ys.Pairwise (· < ·)) (hg : grid.length = ys.length) (k i : ℕ) (hk : k < ys.length) (hi : i < xs.length)
    (h : Tensor R₁ R₂ xs ys grid (xs.getD i 0) (ys.getD k 0) v) : v = (grid.getD k []).getD i 0 := by
  obtain ⟨vals, hrow, hout⟩ := h
  rw [h₂ ys vals k v hy hk hout]
  exact h₁ xs _ i _ hx hi (hrow k (by omega))

theorem Tensor.exact {grid : List (List ℚ)} {x y v : ℚ} (g : ℚ → ℚ → ℚ) (h₁ : ∀ y, R₁.Exact (fun x => g x y))
    (h₂ : ∀ x, R₂.Exact (fun y => g x y)) (hx : xs.Pairwise (· < ·)) (hy : ys.Pairwise (· < ·))
    (hg : grid.length = ys.length)
    (hdata : ∀ k i, k < ys.length → i < xs.length → (grid.getD k []).getD i 0 = g (xs.getD i 0) (ys.getD k 0))
    (h : Tensor R₁ R₂ xs ys grid x y v) : v = g x y := by
  obtain ⟨vals, hrow, hout⟩ := h
  refine h₂ x ys vals y v hy (fun k hk => ?_) hout
  exact h₁ (ys.getD k 0) xs _ x _ hx (fun i hi => hdata k i hk hi) (hrow k (by omega))

theorem Tensor.linear {g₁ g₂ g₃ : List (List ℚ)} {x y v₁ v₂ v₃ : ℚ} (h₁ : R₁.Linear) (h₂ : R₂.Linear)
    (l₁ : g₁.length = ys.length) (l₂ : g₂.length = ys.length) (l₃ : g₃.length = ys.length) (a b : ℚ)
    (hcomb : ∀ k i, k < ys.length → i < xs.length →
      (g₃.getD k []).getD i 0 = a * (g₁.getD k []).getD i 0 + b * (g₂.getD k []).getD i 0)
    (t₁ : Tensor R₁ R₂ xs ys g₁ x y v₁) (t₂ : Tensor R₁ R₂ xs ys g₂ x y v₂) (t₃ : Tensor R₁ R₂ xs ys g₃ x y v₃) :
    v₃ = a * v₁ + b * v₂ := by
  obtain ⟨u₁, r₁, o₁⟩ := t₁
  obtain ⟨u₂, r₂, o₂⟩ := t₂
  obtain ⟨u₃, r₃, o₃⟩ := t₃
  refine h₂ ys u₁ u₂ u₃ a b y _ _ _ (fun k hk => ?_) o₁ o₂ o₃
  exact h₁ xs _ _ _ a b x _ _ _ (fun i hi => hcomb k i hk hi) (r₁ k (by omega)) (r₂ k (by omega)) (r₃ k (by omega))

end

theorem bilinearAt_tensor (xs ys : List ℚ) (grid : List (List ℚ)) (x y : ℚ) (hnx : 2 ≤ xs.length) (hny : 2 ≤ ys.length) :
    Tensor linR linR xs ys grid x y (bilinearAt xs ys grid x y) := by
  refine ⟨grid.map (fun row => (linearAt xs (row.map (fun v => [v])) 1 x).getD 0 0), fun k hk => ?_, ?_⟩
  · have := linearAt_linR xs ((grid.getD k []).map (fun v => [v])) 1 0 Nat.one_pos hnx x
    rw [List.map_map, show ((·.getD 0 0) ∘ fun v : ℚ => [v]) = id from rfl, List.map_id] at this
    rwa [Lists.getD_map_of_lt _ _ [] _ _ hk]
  · have := linearAt_linR ys (grid.map (fun row => linearAt xs (row.map (fun v => [v])) 1 x)) 1 0 Nat.one_pos hny y
    rwa [List.map_map] at this

end Midgard.Proofs.C20
