/-
The data section of RINEX 2: continuation records of the satellite list, the end marker "the next line is an epoch record" on
the lines as written, one satellite record in closed form, the satellites of an epoch, one epoch group, all epochs (through
`ChainParser.readData_blocks`).
-/
import Midgard.Proofs.Rinex2ObsEpochFx
import Midgard.Proofs.RinexObsCols

namespace Midgard.Spec.Rinex2ObsFile
open Midgard.Text Midgard.FixedCol Midgard.Decimal Midgard.ChainParser Midgard.RinexObs Midgard.Rinex2Obs
open Midgard.Spec.Rinex (renderCells epoch2c rep)
open Midgard.Spec.Rinex3ObsFile (NoNl Style styled Obs Cols)

def contLine (c : List Str) : Str := renderCells epoch2c c

theorem satFields_split (nm : Nat → String) (n m : Nat) : satFields nm 0 (n + m) = satFields nm 0 n ++ satFields nm n m := by
  simp only [satFields]
  rw [← List.map_append]
  congr 1
  have := List.range'_append (s := 0) (m := n) (n := m) (step := 1)
  simpa using this.symm

theorem contLine_struct (c : List Str) (hne : c ≠ []) (hl : c.length ≤ 12) (h3 : ∀ s ∈ c, s.length = 3) :
    contLine c = blanks 32 ++ c.flatten := by
  obtain ⟨nm, hrep⟩ := rep_sat
  have hzip : epoch2c.aligns.zip c = c.map fun s => (Align.left, s) := by
    have : epoch2c.aligns = List.replicate c.length Align.left ++ List.replicate (12 - c.length) Align.left := by
      rw [List.replicate_append_replicate]
      show List.replicate 12 Align.left = _
      congr 1; omega
    rw [this]
    have hz := Lists.zip_replicate Align.left c
    have : (List.replicate c.length Align.left ++ List.replicate (12 - c.length) Align.left).zip c =
        (List.replicate c.length Align.left).zip c := by
      rw [show c = c ++ [] by simp, List.zip_append (by simp)]
      simp
    rw [this, hz]
  unfold contLine renderCells renderA
  have hlay : epoch2c.layout = satFields nm 0 c.length ++ satFields nm c.length (12 - c.length) := by
    show rep "sat" 12 32 3 0 = _
    rw [hrep, ← satFields_split]; congr 1; omega
  rw [hlay, hzip]
  have := renderFrom_append (satFields nm 0 c.length) (c.map fun s => (Align.left, s)) 0 (satFields nm c.length (12 - c.length)) []
    (by simp [satFields])
  rw [List.append_nil] at this
  rw [this, renderFrom_nil_cells, List.append_nil]
  -- from column 0: 32 blanks, then the satellites
  cases c with
  | nil => exact absurd rfl hne
  | cons s0 cs =>
    have h32 := render_sats nm (s0 :: cs) 0 (fun s hs => by rw [h3 s hs]; exact Nat.le_refl 3)
    rw [map_ljust3 _ h3] at h32
    simp only [List.length_cons, satFields, List.range'_succ, List.map_cons, renderFrom, Field.width, pad] at h32 ⊢
    rw [← h32]
    simp

def afterCont (s : State) (all : List Str) : State :=
  { s with cache := { s.cache with satList := some all, lenSatList := some all.length } }

theorem cont_handler (ry rmo rd rh rmi rs rf rn rsl rc : Str) (s : State) (old more : List Str)
    (hy : strip ry = []) (hne : rsl ≠ []) (hsl : satsOf rsl = .ok more) (hmore : more ≠ [])
    (hal : ((Text.slice 28 29 rsl).head?.map Char.isAlpha).getD false = false) (hold : s.cache.satList = some old) :
    parseObservationEpoch [("year", ry), ("month", rmo), ("day", rd), ("hour", rh), ("minute", rmi), ("second", rs),
        ("epoch_flag", rf), ("num_sat", rn), ("sat_list", rsl), ("rcv_clk_offset", rc)] s = .ok (afterCont s (old ++ more)) := by
  have he : rsl.isEmpty = false := by cases rsl <;> simp_all
  unfold parseObservationEpoch
  simp only [getv_cons, String.reduceEq, if_true, bind, Except.bind, pure, Except.pure, hy, he,
    Bool.and_false, Bool.false_eq_true, if_false, hal, ne_eq, not_true_eq_false, hsl, hmore, hold]
  rfl

theorem cont_get (c : List Str) (h : ∀ s ∈ c, SatOk s) (k i : Nat) (hi : i < 3) :
    (blanks 32 ++ c.flatten)[32 + (3 * k + i)]? = (c[k]?).bind (·[i]?) := by
  rw [List.getElem?_append_right (by simp), length_blanks, Nat.add_sub_cancel_left]
  exact flatten_get_blockW 3 c (fun b hb => satOk_len (h b hb)) k i hi

/-- the satellites of the list all carry a system letter, or none does -/
def SysStyle (c : List Str) : Prop := (∀ s ∈ c, (s.head?.map Char.isAlpha).getD false = true) ∨ (∀ s ∈ c, s.head? = some ' ')

/-- **a continuation record of the satellite list is no observation line**: a system letter in column 33, or (blank
system identifiers) a digit in column 35 followed by a blank or the end of the line -/
theorem cont_label (c : List Str) (hne : c ≠ []) (h : ∀ s ∈ c, SatOk s) (hs : SysStyle c) :
    obsLabel (blanks 32 ++ c.flatten) = "False" := by
  cases c with
  | nil => exact absurd rfl hne
  | cons s0 cs =>
    obtain ⟨a, b, d, e0, ha, hb, hd⟩ := h s0 (by simp)
    subst e0
    have g0 : (blanks 32 ++ ([a, b, d] :: cs).flatten)[32]? = some a := by
      exact cont_get ([a, b, d] :: cs) h 0 0 (by omega)
    have g2 : (blanks 32 ++ ([a, b, d] :: cs).flatten)[34]? = some d := by
      exact cont_get ([a, b, d] :: cs) h 0 2 (by omega)
    have g3 : (blanks 32 ++ ([a, b, d] :: cs).flatten)[35]? = (cs[0]?).bind (·[0]?) := by
      exact cont_get ([a, b, d] :: cs) h 1 0 (by omega)
    generalize hL : blanks 32 ++ ([a, b, d] :: cs).flatten = L at g0 g2 g3 ⊢
    rcases hs with hs | hs
    · have : a.isAlpha = true := by
        have := hs [a, b, d] (by simp); simpa using this
      have h32 : alphaAt L 32 = true := by
        unfold alphaAt; rw [charAt_get, g0]; simpa using this
      unfold obsLabel
      simp only [h32, Bool.not_true, Bool.and_false, Bool.false_and, Bool.false_eq_true, if_false]
    · have h34 : digitAt L 34 = true := by
        unfold digitAt; rw [charAt_get, g2]; simpa using hd
      have h35 : blankOrEndAt L 35 = true := by
        unfold blankOrEndAt
        rw [slice_one, g3]
        cases cs with
        | nil => rfl
        | cons s1 cs' =>
          have h1 := hs s1 (by simp)
          obtain ⟨a1, b1, d1, e1, _⟩ := h s1 (by simp)
          subst e1
          simp only [List.head?_cons, Option.some.injEq] at h1
          subst h1
          rfl
      unfold obsLabel
      simp only [h34, h35, Bool.and_self, Bool.not_true, Bool.and_false, Bool.false_and, Bool.false_eq_true, if_false]

theorem nonl_contLine (c : List Str) (h : ∀ s ∈ c, SatOk s) : NoNl (contLine c) :=
  nonl_renderCells _ c fun s hs => satOk_chars (h s hs)

theorem cont_line_fx (st : Style) (c : List Str) (hne : c ≠ []) (hl : c.length ≤ 12) (h : ∀ s ∈ c, SatOk s) (hs : SysStyle c)
    (n : Nat) (s : State) (old : List Str) (hold : s.cache.satList = some old) :
    parseLine obsParser (rstrip (styled st (contLine c))) n s = .ok (afterCont s (old ++ c.map normSat)) := by
  have hnl : NoNl (contLine c) := nonl_contLine c h
  rw [rstrip_styled]
  rw [contLine_struct c hne hl (fun s hs => satOk_len (h s hs))] at hnl ⊢
  have hFne : c.flatten ≠ [] := by
    cases c with
    | nil => exact absurd rfl hne
    | cons s0 cs => obtain ⟨a, b, d, e0, _⟩ := h s0 (by simp); simp [e0]
  have hvis := flatten_last_visible c h
  obtain ⟨x, hx⟩ : ∃ x, c.flatten.getLast? = some x := by
    cases hg : c.flatten.getLast? with
    | none => rw [List.getLast?_eq_none_iff] at hg; exact absurd hg hFne
    | some x => exact ⟨x, rfl⟩
  have hrF : rstrip c.flatten = c.flatten := rstrip_of_last_visible _ x hx (hvis x hx)
  have hrs : rstrip (blanks 32 ++ c.flatten) = blanks 32 ++ c.flatten := by
    rw [rstrip_append_visible _ _ (by rw [hrF]; exact hFne), hrF]
  rw [hrs]
  have hlen := satOk_flatten_len c h
  have hlab := cont_label c hne h hs
  have hyear : strip (Text.slice 0 3 (blanks 32 ++ c.flatten)) = [] := by
    rw [slice_append_left (by simp)]
    exact strip_isBlank (isBlank_slice (isBlank_blanks 32) 0 3)
  have hsat : Text.slice 32 68 (blanks 32 ++ c.flatten) = c.flatten := by
    rw [slice_append_right (by simp), length_blanks, Nat.sub_self]
    exact slice_of_length_le (by omega)
  generalize blanks 32 ++ c.flatten = L at hrs hlab hnl hyear hsat ⊢
  rw [parseLine_false L n s (by rw [hrs]; exact hlab), values_newline epochDef rfl L hnl]
  simp only [epochDef, List.map_cons, List.map_nil, List.append_nil, sliceRaw]
  have hmore : c.map normSat ≠ [] := by cases c <;> simp_all
  have hne' : Text.slice 32 68 L ≠ [] := by rw [hsat]; exact hFne
  have hsl : satsOf (Text.slice 32 68 L) = .ok (c.map normSat) := by
    rw [hsat]; have := satsOf_sats c [] (fun s hs => satOk_sat3 (h s hs)) rfl; simpa using this
  have hal : ((Text.slice 28 29 (Text.slice 32 68 L)).head?.map Char.isAlpha).getD false = false := by
    rw [hsat]; have := sat_list_guard c h [] rfl; simpa using this
  rw [cont_handler (s := s) (hy := hyear) (hne := hne') (hsl := hsl) (hmore := hmore) (hal := hal) (hold := hold)]

def isEnd (next : Str) : Bool := digitAt next 2 && spaceAt next 3

theorem obsParser_end (l : Str) (n : Nat) (next : Str) : obsParser.endMarker l n next = isEnd next := by
  simp only [obsParser, isEnd]

/-- a line whose third column holds no digit, or whose third column's digit is followed by a visible character, does
not look like an epoch record -/
theorem not_end_of (st : Style) (l : Str)
    (h : ∀ d, l[2]? = some d → isDigit d = true → ∃ y, l[3]? = some y ∧ isSpace y = false) :
    isEnd (styled st l ++ ['\n']) = false := by
  unfold isEnd
  cases hdg : digitAt (styled st l ++ ['\n']) 2 with
  | false => rfl
  | true =>
    obtain ⟨d, hd, hdig⟩ := digitAt_get _ _ hdg
    obtain ⟨y, hy, hys⟩ := h d (styled_get_of_visible st l 2 d hd (isSpace_of_isDigit hdig)) hdig
    have := styled_get_visible st l 3 y hy hys
    simp [spaceAt, charAt_get, this, hys]

theorem obsLine_not_end (st : Style) (c : List Obs) (h : c.all Obs.wf = true) : isEnd (styled st (obsLine c) ++ ['\n']) = false :=
  not_end_of st _ (fun d hd hdig => by
    have := obsLine_digit_next c h 0 2 (by omega) d (by simpa using hd) hdig
    simpa using this)

theorem contLine_not_end (st : Style) (c : List Str) (hne : c ≠ []) (hl : c.length ≤ 12) (h : ∀ s ∈ c, SatOk s) :
    isEnd (styled st (contLine c) ++ ['\n']) = false :=
  not_end_of st _ (fun d hd hdig => by
    rw [contLine_struct c hne hl (fun s hs => satOk_len (h s hs)), List.getElem?_append_left (by simp)] at hd
    have := mem_blanks (List.mem_of_getElem? hd)
    subst this; exact absurd hdig (by decide))

/-- an epoch record looks like one: a digit in column 3, a blank (or the end of the line) in column 4 -/
theorem epochLine_end (st : Style) (e : Epoch) (h : EpochOk e) : isEnd (styled st (epochLine e) ++ ['\n']) = true := by
  rw [epochLine_struct e h]
  obtain ⟨d, hd, hdig⟩ := epoch_col3 e h (satCols e ++ rjust 12 e.clk.text)
  have h3 := epoch_col4 e h (satCols e ++ rjust 12 e.clk.text)
  generalize head32 e ++ (satCols e ++ rjust 12 e.clk.text) = E at hd h3
  have hdv := isSpace_of_isDigit hdig
  have g2 := styled_get_visible st E 2 d hd hdv
  have hdigit : digitAt (styled st E ++ ['\n']) 2 = true := by simp [digitAt, charAt_get, g2, hdig]
  have hspace : spaceAt (styled st E ++ ['\n']) 3 = true := by
    unfold spaceAt
    rw [charAt_get]
    have hi : 3 < E.length := by
      rcases Nat.lt_or_ge 3 E.length with hh | hh
      · exact hh
      · rw [List.getElem?_eq_none hh] at h3; simp at h3
    cases st
    · show (Option.map isSpace (E ++ ['\n'])[3]?).getD false = true
      rw [List.getElem?_append_left hi, h3]; rfl
    · show (Option.map isSpace (rstrip E ++ ['\n'])[3]?).getD false = true
      have hr2 := get_rstrip_of_visible hd hdv
      have hlen : 2 < (rstrip E).length := by
        rcases Nat.lt_or_ge 2 (rstrip E).length with hh | hh
        · exact hh
        · rw [List.getElem?_eq_none hh] at hr2; simp at hr2
      rcases Nat.lt_or_ge 3 (rstrip E).length with hh | hh
      · rw [List.getElem?_append_left hh]
        obtain ⟨ws, hE, _⟩ := rstrip_decomp E
        have : (rstrip E)[3]? = some ' ' := by
          rw [hE, List.getElem?_append_left hh] at h3; exact h3
        rw [this]; rfl
      · have : (rstrip E).length = 3 := by omega
        rw [List.getElem?_append_right (by omega), this]
        rfl
    · show (Option.map isSpace (ljust 80 E ++ ['\n'])[3]?).getD false = true
      rw [List.getElem?_append_left (Nat.lt_of_lt_of_le hi (length_le_length_ljust 80 E)), getElem?_ljust_of_lt 80 hi, h3]; rfl
  unfold isEnd
  rw [hdigit, hspace]; rfl

def dataOf2 (ts : List Str) (station : Str) (rows : List Row) (d0 : Data) : Data :=
  { d0 with
    obs := Cols ts fun t => column ts rows (·.value.val) t,
    lli := Cols ts fun t => column ts rows (·.lli.val) t,
    snr := Cols ts fun t => column ts rows (·.ssi.val) t,
    time := rows.map (·.time), timeMicros := rows.map (·.micros), epochFlag := rows.map (·.flag),
    clk := rows.map (·.clk), station := rows.map fun _ => station, system := rows.map fun r => r.sat.take 1,
    satellite := rows.map (·.sat), satnum := rows.map (·.num) }

def rowOf (e : EpochInfo) (id : Str) (num : Int) (obs : List Obs) : Row :=
  ⟨e.obsTime, e.micros, e.epochFlag, e.clk, id, fmtInt num, obs⟩

/-- **one complete satellite record in closed form**: every column gets the record's value under its type -/
theorem rowData_cols (ts : List Str) (hnd : ts.Nodup) (station : Str) (rows : List Row) (d0 : Data) (obs : List Obs)
    (hl : ts.length = obs.length) (e : EpochInfo) (id : Str) (num : Int) :
    rowData (dataOf2 ts station rows d0) ts obs e station id num = .ok (dataOf2 ts station (rows ++ [rowOf e id num obs]) d0) := by
  unfold rowData
  have h1 := appendAll_cols ts ((ts.zip obs).map fun to => (to.1, to.2.value.val, to.2.lli.val, to.2.ssi.val))
    (dataOf2 ts station rows d0) _ _ _ rfl rfl rfl (zip_fst_mem ts obs _)
  rw [h1]
  simp only [List.map_map, Function.comp_def]
  have col : ∀ (sel : Obs → Option Rat),
      Cols ts (fun t => column ts rows sel t ++ under (List.map (fun to => (to.1, sel to.2)) (ts.zip obs)) t) =
      Cols ts (fun t => column ts (rows ++ [rowOf e id num obs]) sel t) := by
    intro sel
    refine Cols_congr fun t ht => ?_
    rw [under_zip sel ts obs hnd hl t, if_pos ht]
    simp [column, rowOf]
  have c1 := col (·.value.val)
  have c2 := col (·.lli.val)
  have c3 := col (·.ssi.val)
  simp only [dataOf2, Data.appendRow, c1, c2, c3, List.map_append, List.map_cons, List.map_nil, rowOf]

def mk2 (H : State) (d : Data) (c : Cache) : State := { H with data := d, cache := c }

/-- the cache inside an epoch group, between satellites -/
def cacheOf (l : List Str) (info : EpochInfo) (ns : Option Int) (len : Option Nat) : Cache :=
  { satList := some l, epoch := some info, numSat := ns, lenSatList := len }

/-- what the data section needs from the header (RINEX 2) -/
structure HF (ts : List Str) (m t : Str) (H : State) : Prop where
  hnum : H.metaD.get [key "num_obstypes"] = some (.int (ts.length : Int))
  htyp : H.metaD.get [key "obstypes"] = some (.list ts)
  hmark : H.metaD.get [key "marker_name"] = some (.text m)
  hfirst : H.metaD.get [key "time_first_obs"] = some (.text t)

def numOf (sat : Str) : Int := (digitsVal ((normSat sat).drop 1) : Int)

theorem pyInt_norm {s : Str} (h : SatOk s) : pyInt ((normSat s).drop 1) = .ok (numOf s) := by
  obtain ⟨a, b, c, rfl, _, hb, hc⟩ := h
  unfold numOf
  apply pyInt_digits
  · simp [normSat]
  · simp only [normSat, List.drop_succ_cons, List.drop_zero, allDigits, List.all_cons, List.all_nil, Bool.and_true, Bool.and_eq_true]
    refine ⟨?_, hc⟩
    rcases hb with hb | rfl
    · have : b ≠ ' ' := by intro e; subst e; revert hb; decide
      simp [this, hb]
    · decide

theorem normSat_ne {s : Str} (h : SatOk s) : normSat s ≠ [] := by
  obtain ⟨a, b, c, rfl, _⟩ := h; simp [normSat]

def satLinesR (r : SatRec) : List Str := (chunks 5 r.obs.length r.obs).map obsLine

theorem satLines_eq (r : SatRec) : satLines r = satLinesR r := by
  unfold satLines satLinesR
  apply List.map_congr_left
  intro c hc
  exact obsLine_eq c (chunks_mem 5 (by omega) _ _ c hc).2.1

def rowOfSat (info : EpochInfo) (r : SatRec) : Row := rowOf info (normSat r.sat) (numOf r.sat) r.obs

theorem sats_run2 (st : Style) (ts : List Str) (hnd : ts.Nodup) (m t : Str) (H : State) (hH : HF ts m t H)
    (info : EpochInfo) (q : Rat) (hq : info.obsSec = some q) (ns : Option Int) (len : Option Nat) :
    ∀ (sats : List SatRec) (rows : List Row),
      (∀ r ∈ sats, SatOk r.sat ∧ r.obs.length = ts.length ∧ r.obs ≠ [] ∧ r.obs.all Obs.wf = true ∧ r.obs.all obsShape = true) →
      runLines obsParser ((sats.flatMap satLinesR).map (styled st))
          (mk2 H (dataOf2 ts (lower m) rows H.data) (cacheOf (sats.map fun r => normSat r.sat) info ns len)) =
        .ok (mk2 H (dataOf2 ts (lower m) (rows ++ sats.map (rowOfSat info)) H.data) (cacheOf [] info ns len)) := by
  intro sats
  induction sats with
  | nil => intro rows _; simp [runLines, pure, Except.pure]
  | cons r sats ih =>
    intro rows hw
    obtain ⟨hsat, hlen, hne, hwf, hsh⟩ := hw r (by simp)
    have hmap : (satLinesR r).map (styled st) = (chunks 5 r.obs.length r.obs).map fun c => styled st (obsLine c) := by
      simp [satLinesR, List.map_map, Function.comp_def]
    rw [List.flatMap_cons, List.map_append, runLines_append, hmap, List.map_cons (f := fun (r : SatRec) => normSat r.sat),
      sat_lines_run st ts m info q hq r.obs hlen.symm hne hwf hsh (s := mk2 H _ (cacheOf _ info ns len)) (he := rfl)
        (sat := normSat r.sat) (rest := sats.map fun r => normSat r.sat) (hs := rfl) (hne := normSat_ne hsat)
        (num := numOf r.sat) (hnum := pyInt_norm hsat) (hc := ⟨hH.hnum, hH.htyp, hH.hmark⟩) (h0 := ⟨rfl, rfl, rfl⟩)]
    simp only [mk2] at ih ⊢
    rw [rowData_cols ts hnd (lower m) rows H.data r.obs hlen.symm info (normSat r.sat) (numOf r.sat)]
    exact (ih _ (fun r' hr' => hw r' (by simp [hr']))).trans (by simp [rowOfSat, List.append_assoc])

theorem sats_skip2 (st : Style) (H : State) (d : Data) (c : Cache) (info : EpochInfo) (hc : c.epoch = some info)
    (hq : info.obsSec = none) : ∀ (sats : List SatRec),
      (∀ r ∈ sats, ∀ ck ∈ chunks 5 r.obs.length r.obs, ck.all Obs.wf = true ∧ ck.all obsShape = true) →
      runLines obsParser ((sats.flatMap satLinesR).map (styled st)) (mk2 H d c) = .ok (mk2 H d c) := by
  intro sats hw
  apply runLines_same
  intro l hl
  simp only [List.mem_map, List.mem_flatMap, satLinesR] at hl
  obtain ⟨l0, ⟨r, hr, ck, hck, rfl⟩, rfl⟩ := hl
  exact obs_line_skip st ck (hw r hr ck hck).1 (hw r hr ck hck).2 0 _ info hc hq

/-- the continuation records extend the satellite list in order; the witness is the cache's `lenSatList` after the last
record, a bookkeeping field nothing reads -/
theorem conts_run (st : Style) (H : State) (d : Data) (info : EpochInfo) (ns : Option Int) :
    ∀ (cs : List (List Str)) (old : List Str) (len : Option Nat),
      (∀ c ∈ cs, c ≠ [] ∧ c.length ≤ 12 ∧ (∀ s ∈ c, SatOk s) ∧ SysStyle c) →
      ∃ len', runLines obsParser (cs.map fun c => styled st (contLine c)) (mk2 H d (cacheOf old info ns len)) =
        .ok (mk2 H d (cacheOf (old ++ cs.flatten.map normSat) info ns len')) := by
  intro cs
  induction cs with
  | nil => intro old len _; exact ⟨len, by simp [runLines, pure, Except.pure]⟩
  | cons c cs ih =>
    intro old len h
    obtain ⟨hne, hl, hok, hsty⟩ := h c (by simp)
    have hfx := cont_line_fx st c hne hl hok hsty 0 (mk2 H d (cacheOf old info ns len)) old rfl
    obtain ⟨len', hrest⟩ := ih (old ++ c.map normSat) (some (old ++ c.map normSat).length) (fun c' hc' => h c' (by simp [hc']))
    refine ⟨len', ?_⟩
    rw [List.map_cons, runLines_cons, hfx]
    have : afterCont (mk2 H d (cacheOf old info ns len)) (old ++ c.map normSat) =
        mk2 H d (cacheOf (old ++ c.map normSat) info ns (some (old ++ c.map normSat).length)) := rfl
    rw [this]
    simp only
    rw [hrest]
    simp [List.append_assoc]

def contChunks (e : Epoch) : List (List Str) :=
  chunks 12 (e.sats.map (·.sat)).length ((e.sats.map (·.sat)).drop 12)

/-- the lines of an epoch group as the proofs see them -/
def blockLinesR (e : Epoch) : List Str := epochLine e :: ((contChunks e).map contLine ++ e.sats.flatMap satLinesR)

theorem epochLines_eq (e : Epoch) : epochLines e = epochLine e :: (contChunks e).map contLine := by
  unfold epochLines contChunks
  simp only []
  rw [epochLines_head]
  congr 1
  apply List.map_congr_left
  intro c hc
  have hl := (chunks_mem 12 (by omega) _ _ c hc).2.1
  simp [Spec.Rinex.renderRecord, contLine, hl]

theorem blockLines_eq (e : Epoch) : blockLines e = blockLinesR e := by
  unfold blockLines blockLinesR
  rw [epochLines_eq, List.cons_append]
  congr 2
  exact Midgard.Lists.flatMap_congr (fun r _ => satLines_eq r)

structure EpochWf (ts : List Str) (e : Epoch) : Prop where
  ok : EpochOk e
  sats : ∀ r ∈ e.sats, SatOk r.sat ∧ r.obs.length = ts.length ∧ r.obs ≠ [] ∧ r.obs.all Obs.wf = true ∧ r.obs.all obsShape = true
  style : SysStyle (e.sats.map (·.sat))

theorem contChunks_ok {ts : List Str} {e : Epoch} (he : EpochWf ts e) :
    ∀ c ∈ contChunks e, c ≠ [] ∧ c.length ≤ 12 ∧ (∀ s ∈ c, SatOk s) ∧ SysStyle c := by
  intro c hc
  obtain ⟨hne, hlen, hsub⟩ := chunks_mem 12 (by omega) _ _ c hc
  have hin : ∀ s ∈ c, s ∈ e.sats.map (·.sat) := fun s hs => List.mem_of_mem_drop (hsub s hs)
  exact ⟨hne, hlen, fun s hs => he.ok.ids s (hin s hs), he.style.imp (fun h s hs => h s (hin s hs)) (fun h s hs => h s (hin s hs))⟩

theorem obsChunks_ok {ts : List Str} {e : Epoch} (he : EpochWf ts e) {r : SatRec} (hr : r ∈ e.sats) :
    ∀ ck ∈ chunks 5 r.obs.length r.obs, ck.all Obs.wf = true ∧ ck.all obsShape = true := by
  intro ck hck
  have hsub := (chunks_mem 5 (by omega) _ _ ck hck).2.2
  obtain ⟨_, _, _, hwf, hsh⟩ := he.sats r hr
  exact ⟨List.all_eq_true.mpr fun o ho => List.all_eq_true.mp hwf o (hsub o ho),
    List.all_eq_true.mpr fun o ho => List.all_eq_true.mp hsh o (hsub o ho)⟩

/-- the witness is the cache the group leaves behind (emptied satellite list of a kept epoch, the untouched one of a decimated
epoch): `resetCache` erases it before the next group -/
theorem block_run2 (st : Style) (ts : List Str) (hnd : ts.Nodup) (m t : Str) (H : State) (hH : HF ts m t H)
    (e : Epoch) (he : EpochWf ts e) (y : Int) (hy : pyInt (t.take 2 ++ zfill 2 e.yy.text) = .ok y) (rows : List Row) :
    ∃ c, runLines obsParser ((blockLinesR e).map (styled st)) (mk2 H (dataOf2 ts (lower m) rows H.data) {}) =
      .ok (mk2 H (dataOf2 ts (lower m) (rows ++ if kept H.rate e then e.sats.map (rowOfSat (info2 H.rate y e)) else []) H.data) c) := by
  have hfx := epoch_line_fx st e he.ok 0 (mk2 H (dataOf2 ts (lower m) rows H.data) {}) t y hH.hfirst hy
  obtain ⟨len', hconts⟩ := conts_run st H (dataOf2 ts (lower m) rows H.data) (info2 H.rate y e) (some (digitsVal e.numSat : Int))
    (contChunks e) ((ids12 e).map normSat) (some ((ids12 e).map normSat).length) (contChunks_ok he)
  have hall : (ids12 e).map normSat ++ (contChunks e).flatten.map normSat = e.sats.map fun r => normSat r.sat := by
    unfold contChunks
    rw [chunks_flatten 12 (by omega) _ _ (by simp), ← List.map_append]
    unfold ids12
    rw [List.take_append_drop, List.map_map]
    rfl
  rw [hall] at hconts
  simp only [blockLinesR, List.map_cons, List.map_append, List.map_map, Function.comp_def]
  rw [runLines_cons, hfx]
  show ∃ c, runLines obsParser (_ ++ _) (mk2 H (dataOf2 ts (lower m) rows H.data) (cacheOf _ (info2 H.rate y e) _ _)) = _
  rw [runLines_append, hconts]
  simp only
  by_cases hk : kept H.rate e = true
  · have hq : (info2 H.rate y e).obsSec = some (obsSec e) := by simp [info2, hk]
    rw [sats_run2 st ts hnd m t H hH (info2 H.rate y e) (obsSec e) hq _ len' e.sats rows he.sats]
    exact ⟨_, by rw [if_pos hk]⟩
  · have hk' : kept H.rate e = false := by simpa using hk
    have hq : (info2 H.rate y e).obsSec = none := by simp [info2, hk']
    rw [sats_skip2 st H _ (cacheOf _ (info2 H.rate y e) _ _) (info2 H.rate y e) rfl hq e.sats fun r hr => obsChunks_ok he hr]
    exact ⟨_, by rw [if_neg hk, List.append_nil]⟩

/-! `yearOf` is total for the sake of `rowsOf2`; the value 0 of an unreadable year is never reached, every user has the epoch's
year readable (`hy`). -/

def yearOf (t : Str) (e : Epoch) : Int :=
  match pyInt (t.take 2 ++ zfill 2 e.yy.text) with
  | .ok y => y
  | .error _ => 0

def rowsOf2 (rate : Option Rat) (t : Str) (eps : List Epoch) : List Row :=
  eps.flatMap fun e => if kept rate e then e.sats.map (rowOfSat (info2 rate (yearOf t e) e)) else []

def blockTailR (e : Epoch) : List Str := (contChunks e).map contLine ++ e.sats.flatMap satLinesR

/-- what a group of a well-formed epoch holds after its epoch record: continuation records, then observation lines -/
theorem mem_blockTailR {ts : List Str} {e : Epoch} (he : EpochWf ts e) {l : Str} (hl : l ∈ blockTailR e) :
    (∃ c, l = contLine c ∧ c ≠ [] ∧ c.length ≤ 12 ∧ (∀ s ∈ c, SatOk s) ∧ SysStyle c) ∨
    (∃ c : List Obs, l = obsLine c ∧ c.all Obs.wf = true ∧ c.all obsShape = true) := by
  simp only [blockTailR, List.mem_append, List.mem_map, List.mem_flatMap, satLinesR] at hl
  rcases hl with ⟨c, hc, rfl⟩ | ⟨r, hr, c, hc, rfl⟩
  · exact Or.inl ⟨c, rfl, contChunks_ok he c hc⟩
  · exact Or.inr ⟨c, rfl, obsChunks_ok he hr c hc⟩

theorem blockLinesR_eq (e : Epoch) : blockLinesR e = epochLine e :: blockTailR e := rfl

theorem resetCache_mk2 (H : State) (d : Data) (c : Cache) : resetCache (mk2 H d c) = mk2 H d {} := rfl

theorem blocks_run2 (st : Style) (ts : List Str) (hnd : ts.Nodup) (m t : Str) (H : State) (hH : HF ts m t H)
    (eps : List Epoch) (rows : List Row) (hw : ∀ e ∈ eps, EpochWf ts e)
    (hy : ∀ e ∈ eps, ∃ y, pyInt (t.take 2 ++ zfill 2 e.yy.text) = .ok y) :
    readData headerParser obsParser resetCache ((eps.flatMap blockLinesR).map (styled st)) false 0
        (mk2 H (dataOf2 ts (lower m) rows H.data) {}) =
      .ok (mk2 H (dataOf2 ts (lower m) (rows ++ rowsOf2 H.rate t eps) H.data) {}) := by
  have hl : (eps.flatMap blockLinesR).map (styled st) =
      eps.flatMap fun e => styled st (epochLine e) :: (blockTailR e).map (styled st) := by
    simp [List.map_flatMap, blockLinesR_eq]
  rw [hl, readData_blocks headerParser obsParser resetCache isEnd obsParser_end parseLine_num
    (fun e => styled st (epochLine e)) (fun e => (blockTailR e).map (styled st))
    (fun rows => mk2 H (dataOf2 ts (lower m) rows H.data) {})
    (fun e rows => rows ++ if kept H.rate e then e.sats.map (rowOfSat (info2 H.rate (yearOf t e) e)) else []) eps rows,
    Lists.foldl_append_flatMap]
  · rfl
  · intro e he'
    have he := hw e he'
    refine ⟨epochLine_end st e he.ok, fun l hl => ?_⟩
    obtain ⟨l0, hl0, rfl⟩ := List.mem_map.mp hl
    rcases mem_blockTailR he hl0 with ⟨c, rfl, hne, hlen, hok, _⟩ | ⟨c, rfl, hwf, _⟩
    · exact contLine_not_end st c hne hlen hok
    · exact obsLine_not_end st c hwf
  · intro e he' rows
    obtain ⟨y, hye⟩ := hy e he'
    have hyo : yearOf t e = y := by simp [yearOf, hye]
    obtain ⟨c, hb⟩ := block_run2 st ts hnd m t H hH e (hw e he') y hye rows
    exact ⟨_, hb, by rw [hyo]; rfl⟩

end Midgard.Spec.Rinex2ObsFile
