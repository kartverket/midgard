/-
C15: the records of an antenna section, level by level, as runs on the line lists of the file model (`rows_runs`, `body_runs`,
`rms_runs`, `freq_runs`, `preamble_runs`), and what running a whole section does: `sig_runs` — started with an empty cache
its records store exactly `storeAntenna` (frequency sections from their own values; rms sections, wherever they stand, only
touch the cache).
-/
import Midgard.Proofs.AntexRuns
namespace Midgard.Antex.File
open Midgard.Text Midgard.FixedCol Midgard.ChainParser Midgard.Antex Midgard.Decimal Midgard.Antex.Records
open Midgard.Spec.Antex14 (RecSpec specs renderLabelled renderRow findKind findLabel)
open Midgard.Spec.AntexFile

theorem okRec_SOR {code : Str} (h : okRec "SOF" [code] = true) : okRec "SOR" [code] = true :=
  okRec_code h

theorem okRec_EOR_of_SOR {code : Str} (h : okRec "SOR" [code] = true) : okRec "EOR" [code] = true :=
  okRec_code h

theorem okRec_EOR {code : Str} (h : okRec "SOF" [code] = true) : okRec "EOR" [code] = true :=
  okRec_EOR_of_SOR (okRec_SOR h)

theorem okRec_EOF {code : Str} (h : okRec "SOF" [code] = true) : okRec "EOF" [code] = true :=
  okRec_code h

def addRows (k : Cache) (rows : List (Str × List NumCell)) : Cache :=
  { k with azi := if rows = [] then k.azi else some (k.azi.getD [] ++ rows.map fun r => r.2.map (·.val)) }

/-- what a section body leaves in the cache -/
def bodyCache (b : SecM) (k : Cache) : Cache :=
  addRows { k with north := some b.north.val, east := some b.east.val, up := some b.up.val,
                   noazi := some (b.noazi.map (·.val)) } b.rows

theorem rows_runs : ∀ rows : List (Str × List NumCell), rows.all okRow = true →
    Runs corrParser (rows.map rowLine) (cacheFx fun k => addRows k rows)
  | [], _ => Runs.nil
  | r :: rows, h => by
    rw [List.all_cons, Bool.and_eq_true] at h
    refine (Runs.cons (azi_lineOk r h.1) (rows_runs rows h.2)).congr fun s => ?_
    show Except.ok _ = Except.ok _
    simp only [addRows]
    by_cases hr : rows = [] <;> simp [hr]

theorem body_runs (b : SecM) (h : b.wf = true) : Runs corrParser (bodyLines b) (cacheFx (bodyCache b)) := by
  simp only [SecM.wf, Bool.and_eq_true] at h
  obtain ⟨⟨⟨⟨⟨hr, h1⟩, h2⟩, h3⟩, hn⟩, hrows⟩ := h
  refine ((Runs.kind "NEU" hr).append (Runs.cons (noazi_lineOk b hn) (rows_runs b.rows hrows))).congr fun s => ?_
  simp [seqFx, kindFx, kindOf, corrKinds, neuCells, handle, parseSectionFloat, Cache.setNum, cacheFx, noaziFx, bodyCache, addRows,
    pure, Except.pure, bind, Except.bind, okNum_eq h1, okNum_eq h2, okNum_eq h3, req]

theorem rms_runs (code : Str) (b : SecM) (hc : okRec "SOR" [code] = true) (h : b.wf = true) :
    Runs corrParser (rmsLines code b) (cacheFx (bodyCache b)) :=
  (((Runs.kind "SOR" hc).append (body_runs b h)).append
    (Runs.kind "EOR" (okRec_EOR_of_SOR hc))).congr fun _ => rfl

/-- the cache at END OF FREQUENCY -/
def freqCache (f : FreqM) (k : Cache) : Cache :=
  bodyCache f.body { k with freqCode := some f.code, noazi := none, azi := none }

def afterRms (f : FreqM) (k : Cache) : Cache :=
  match f.rms with
  | some b => bodyCache b k
  | none => k

/-- what a frequency section does: `save_correction` on the cache of its own rows, then its rms section -/
def freqE (f : FreqM) : Fx := fun s =>
  match saveCorrection { s with cache := freqCache f s.cache } with
  | .ok s' => .ok { s' with cache := afterRms f s'.cache }
  | .error e => .error e

theorem freq_runs (f : FreqM) (h : f.wf = true) : Runs corrParser (freqLines f) (freqE f) := by
  simp only [FreqM.wf, Bool.and_eq_true] at h
  obtain ⟨⟨hc, hb⟩, hr⟩ := h
  have hrms : Runs corrParser (match f.rms with | some b => rmsLines f.code b | none => []) (cacheFx (afterRms f)) := by
    unfold afterRms
    cases hrm : f.rms with
    | none => exact Runs.nil
    | some b => rw [hrm] at hr; exact rms_runs f.code b (okRec_SOR hc) hr
  refine ((((Runs.kind "SOF" hc).append (body_runs f.body hb)).append (Runs.kind "EOF" (okRec_EOF hc))).append hrms).congr
    fun s => ?_
  simp only [seqFx, kindFx, kindOf_SOF, kindOf_EOF, handle, String.reduceEq, if_false, if_true, parseStartOfFrequency,
    parseSectionString, Cache.setStr, cacheFx, freqE, freqCache, List.zip_cons_cons, List.zip_nil_right, List.foldl, pure,
    Except.pure, bind, Except.bind]
  generalize saveCorrection _ = r
  cases r <;> rfl

/-- what the records in front of the first frequency section put into the cache -/
def preOn (a : AntM) (k : Cache) : Cache :=
  { k with
      antennaType := some a.typ, antennaCode := some a.code, satCode := some a.satCode, cosparId := some a.cospar,
      dazi := some a.dazi.val, zen1 := some a.zen1.val, zen2 := some a.zen2.val, dzen := some a.dzen.val,
      numFreq := some a.numFreq, counter := some 0,
      validFrom := (a.validFrom.map dateMicros).orElse fun _ => k.validFrom,
      validUntil := (a.validUntil.map dateMicros).orElse fun _ => k.validUntil }

theorem preamble_runs (a : AntM) (h : a.wf = true) : Runs corrParser (preambleLines a) (cacheFx (preOn a)) := by
  simp only [AntM.wf, Bool.and_eq_true] at h
  obtain ⟨⟨⟨⟨⟨⟨⟨⟨⟨⟨⟨⟨htyp, hdz⟩, hdzn⟩, hzen⟩, hz1⟩, hz2⟩, hz3⟩, hnf⟩, hvf⟩, hvu⟩, _⟩, _⟩, _⟩ := h
  have h5 : Runs corrParser (match a.validFrom with | some d => [rec "VFROM" (dateCells d)] | none => [])
      (cacheFx fun k => { k with validFrom := (a.validFrom.map dateMicros).orElse fun _ => k.validFrom }) := by
    cases hv : a.validFrom with
    | none => exact Runs.nil
    | some d =>
      rw [hv] at hvf
      refine (Runs.kind "VFROM" (okRec_date hvf)).congr fun s => ?_
      simp [kindFx, kindOf, corrKinds, handle, parseValidFrom, parseValid_date d hvf, cacheFx, pure, Except.pure, bind, Except.bind]
  have h6 : Runs corrParser (match a.validUntil with | some d => [rec "VUNTIL" (dateCells d)] | none => [])
      (cacheFx fun k => { k with validUntil := (a.validUntil.map dateMicros).orElse fun _ => k.validUntil }) := by
    cases hv : a.validUntil with
    | none => exact Runs.nil
    | some d =>
      rw [hv] at hvu
      refine (Runs.kind "VUNTIL" (okRec_code (okRec_date hvu))).congr fun s => ?_
      simp [kindFx, kindOf, corrKinds, handle, parseValidUntil, parseValid_date d hvu, cacheFx, pure, Except.pure, bind, Except.bind]
  refine ((((((Runs.kind "SOA" (cells := []) (by decide +kernel)).append (Runs.kind "TYP" htyp)).append (Runs.kind "DAZI" hdz)).append
    (Runs.kind "ZEN" hzen)).append (Runs.kind "NFREQ" hnf)).append h5).append h6 |>.congr fun s => ?_
  simp [seqFx, kindFx, kindOf, corrKinds, idFx, handle, parseSectionString, parseSectionFloat, parseNumOfFrequencies,
    Cache.setStr, Cache.setNum, Values.get, cacheFx, preOn, pure, Except.pure, bind, Except.bind, okNum_eq hdzn, okNum_eq hz1,
    okNum_eq hz2, okNum_eq hz3, req]

/-- the cache holds the antenna's own records and `k` stored frequencies: whatever a frequency section then
puts into it gives `cacheAt` -/
def Base (a : AntM) (k : Nat) (c : Cache) : Prop := ∀ f, freqCache f c = cacheAt a k f

theorem base_afterRms {a : AntM} {k : Nat} {c : Cache} (f : FreqM) (h : Base a k c) : Base a k (afterRms f c) := by
  unfold afterRms
  cases f.rms with
  | none => exact h
  | some b => exact h

theorem saveCorrection_cache {s : State} {k : Nat} (hk : s.cache.counter = some k) :
    Post (fun s' => s'.cache = { s.cache with counter := some (k + 1) }) (saveCorrection s) := by
  simp only [saveCorrection, hk, post_bind, post_ite, post_pure, req_ok_iff, Option.some.injEq, forall_eq', implies_true,
    and_self]

theorem base_saved {a : AntM} {k : Nat} {f : FreqM} {s s' : State}
    (h : saveCorrection { s with cache := cacheAt a k f } = .ok s') : Base a (k + 1) s'.cache := by
  rw [saveCorrection_cache (k := k) rfl s' h]
  exact fun _ => rfl

theorem withCache_eq {s t : State} (h : resetCache s = resetCache t) (c : Cache) :
    ({ s with cache := c } : State) = { t with cache := c } := by
  cases s; cases t
  simp only [resetCache, State.mk.injEq] at h
  simp [h.1, h.2.1, h.2.2.1]

/-- `r` with the cache reset: results are compared up to the cache -/
def mapR (r : Except Err State) : Except Err State :=
  match r with
  | .ok s => .ok (resetCache s)
  | .error e => .error e

/-- The parser's state `s` and the state `t` of `storeFreqs` differ in the cache only (`resetCache s = resetCache t`): rms sections
write into the parser's cache, `storeFreqs` replaces it by `cacheAt` at every frequency; `Base` says the two caches agree where
`save_correction` looks, and `mapR` compares the results up to the cache.  `tail` is what follows the last frequency section:
it touches the cache only. -/
theorem freqs_store (a : AntM) (tail : Fx) (htail : ∀ s, ∃ c, tail s = .ok { s with cache := c }) :
    ∀ (fs : List FreqM) (k : Nat) (s t : State), resetCache s = resetCache t → Base a k s.cache →
      mapR (seqFx (runFx (fs.map freqE)) tail s) = mapR (storeFreqs a fs k t)
  | [], k, s, t, hst, _ => by
    obtain ⟨c, hc⟩ := htail s
    show mapR (tail s) = _
    rw [hc]
    exact congrArg Except.ok hst
  | f :: fs, k, s, t, hst, hb => by
    simp only [List.map_cons, runFx, freqE, storeFreqs, seqFx]
    rw [hb f, withCache_eq hst]
    cases hsv : saveCorrection { t with cache := cacheAt a k f } with
    | error e => rfl
    | ok s' => exact freqs_store a tail htail fs (k + 1) _ s' rfl (base_afterRms f (base_saved hsv))

theorem tail_total : ∀ (rs : List (Str × SecM)) (s : State),
    ∃ c, runFx (rs.map fun r => cacheFx (bodyCache r.2)) s = .ok { s with cache := c }
  | [], s => ⟨s.cache, rfl⟩
  | r :: rs, s => tail_total rs { s with cache := bodyCache r.2 s.cache }

/- the lines are `sigLines a` (the records of the section, without the unread lines) less its last one, END OF ANTENNA -/
theorem sig_runs (a : AntM) (h : a.wf = true) :
    ∃ F : Fx, Runs corrParser (preambleLines a ++ (a.freqs.map freqLines).flatten ++
        (a.rmsAfter.map fun r => rmsLines r.1 r.2).flatten) F ∧
      ∀ s : State, s.cache = {} → mapR (F s) = storeAntenna a s := by
  have h0 := h
  simp only [AntM.wf, Bool.and_eq_true, List.all_eq_true] at h
  have hf : Runs corrParser (a.freqs.map freqLines).flatten (runFx (a.freqs.map freqE)) :=
    Runs.flatMap freqLines freqE a.freqs fun f hf => freq_runs f (h.1.1.2 f hf)
  have ht : Runs corrParser (a.rmsAfter.map fun r => rmsLines r.1 r.2).flatten
      (runFx (a.rmsAfter.map fun r => cacheFx (bodyCache r.2))) :=
    Runs.flatMap _ _ a.rmsAfter fun r hr => rms_runs r.1 r.2 (h.1.2 r hr).1 (h.1.2 r hr).2
  refine ⟨_, ((preamble_runs a h0).append hf).append ht, fun s hc => ?_⟩
  have hb : Base a 0 (preOn a {}) := by
    intro f
    unfold preOn cacheAt
    cases a.validFrom <;> cases a.validUntil <;> rfl
  have := freqs_store a _ (tail_total a.rmsAfter) a.freqs 0 { s with cache := preOn a s.cache } s rfl (hc ▸ hb)
  have e : storeAntenna a s = mapR (storeFreqs a a.freqs 0 s) := by
    unfold storeAntenna mapR
    cases storeFreqs a a.freqs 0 s <;> rfl
  rw [e, ← this]
  rfl

end Midgard.Antex.File
