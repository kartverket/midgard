/-
C19, text round trip: the text `as_str` writes for a whole configuration, as sections of options and empty lines; the
decidable well-formedness predicate; what `update_from_file` sees of what the reader returns for it.  Mathlib-free.
-/
import Midgard.Proofs.ConfigFile

namespace Midgard.Proofs.ConfigText
open Midgard.Config

/-- the words of a value, as `str.split()` sees them -/
def valueWords (v : String) : List (List Char) := splitBlanks v.toList []

/-- a word of a value: not empty, no blank of any kind, no `%` (interpolation), and — because any word may
be the first of a continuation line — not starting like a comment -/
def wordVB (x : List Char) : Bool :=
  !x.isEmpty && x.all (fun c => !isBlank c && c != '%') && x.head? != some '#' && x.head? != some ';'

/-- a value: its words joined by single blanks (the empty text included) -/
def wfValueB (v : String) : Bool :=
  (unwords (valueWords v) == v.toList) && (valueWords v).all wordVB

/-- an option name the reader returns unchanged: not empty, no blank, no `=`, lower case unless the reader
is case sensitive, not starting like a section header or a comment -/
def keyOKB (lower : Bool) (k : List Char) : Bool :=
  !k.isEmpty && k.all (fun c => !isBlank c && c != '=') && (!lower || k.map lowerChar == k) &&
  k.head? != some '[' && k.head? != some '#' && k.head? != some ';'

/-- the option name, the padding to the key column and `=` fit on a line -/
def fitsB (w kw : Nat) (k : List Char) : Bool := decide (max kw k.length + 2 ≤ w)

def metaKey (k : String) (mk : String) : List Char := k.toList ++ ':' :: mk.toList

def wfMetaB (lower : Bool) (w kw : Nat) (k : String) (m : String × Option String) : Bool :=
  keyOKB lower (metaKey k m.1) &&
  match m.2 with
  | none => true
  | some v => fitsB w kw (metaKey k m.1) && wfValueB v

def wfEntryB (lower : Bool) (w kw : Nat) (k : String) (e : Entry) : Bool :=
  keyOKB lower k.toList && !k.toList.contains ':' && fitsB w kw k.toList && wfValueB e.value &&
  e.metas.all (wfMetaB lower w kw k) && decide (e.metas.map (·.1)).Nodup

/-- a section name: no blank, a non-empty part before the first `__` (what follows is the profile), and not
the parser's `DEFAULT` -/
def wfNameB (n : String) : Bool :=
  n.toList.all (fun c => !isBlank c) && !(partDunder n.toList).1.isEmpty && n != "DEFAULT"

def wfSectionB (lower : Bool) (w kw : Nat) (n : String) (s : Section) : Bool :=
  wfNameB n && !s.isEmpty && s.all (fun ke => wfEntryB lower w kw ke.1 ke.2) && decide (s.map (·.1)).Nodup

/-- **the configurations whose text form reads back** (reader lower-casing keys iff `lower`; line width
`w`, key column `kw`) -/
def WfText (lower : Bool) (w kw : Nat) (secs : Sections) : Bool :=
  secs.all (fun ns => wfSectionB lower w kw ns.1 ns.2) && decide (secs.map (·.1)).Nodup

/-- the options of one entry: `key = value`, then one `key:meta = value` / `key:meta` per metadata item -/
def entryOpts (k : String) (e : Entry) : List Opt :=
  (k.toList, some e.value) :: e.metas.map (fun m => (metaKey k m.1, m.2))

/-- … followed by an empty line when there is metadata -/
def entryBlocks (k : String) (e : Entry) : List Block :=
  (entryOpts k e).map Block.opt ++ (if e.metas.isEmpty then [] else [Block.blank])

def sectionBlocks (s : Section) : List Block := s.flatMap (fun ke => entryBlocks ke.1 ke.2)

/-- the options of a section as they are written and read back: `(key, value)`, `(key:meta, value)` … -/
def flatOpts (s : Section) : List Opt := s.flatMap (fun ke => entryOpts ke.1 ke.2)

theorem fitsB_mono {w w' kw : Nat} {k : List Char} (hw : w ≤ w') (h : fitsB w kw k = true) :
    fitsB w' kw k = true := by
  simp only [fitsB, decide_eq_true_eq] at h ⊢
  omega

/-- the width enters through `fitsB` only: a configuration that can be written at one width can be written at any larger -/
theorem wfText_mono {lower : Bool} {w w' kw : Nat} {secs : Sections} (hw : w ≤ w')
    (h : WfText lower w kw secs = true) : WfText lower w' kw secs = true := by
  simp only [WfText, wfSectionB, wfEntryB, wfMetaB, Bool.and_eq_true, List.all_eq_true] at h ⊢
  refine ⟨fun ns hns => ?_, h.2⟩
  obtain ⟨⟨⟨h1, h2⟩, h3⟩, h4⟩ := h.1 ns hns
  refine ⟨⟨⟨h1, h2⟩, fun ke hke => ?_⟩, h4⟩
  obtain ⟨⟨⟨⟨⟨e1, e2⟩, e3⟩, e4⟩, e5⟩, e6⟩ := h3 ke hke
  refine ⟨⟨⟨⟨⟨e1, e2⟩, fitsB_mono hw e3⟩, e4⟩, ?_⟩, e6⟩
  rintro ⟨mk, mv⟩ hm
  have hm' := e5 _ hm
  cases mv with
  | none => exact hm'
  | some v =>
    simp only [Bool.and_eq_true] at hm' ⊢
    exact ⟨hm'.1, fitsB_mono hw hm'.2.1, hm'.2.2⟩

theorem wordVB_spec {x : List Char} (h : wordVB x = true) : ValueWord x := by
  simp only [wordVB, Bool.and_eq_true, Bool.not_eq_true', List.all_eq_true, bne_iff_ne, ne_eq] at h
  obtain ⟨⟨⟨h1, h2⟩, h3⟩, h4⟩ := h
  refine ⟨⟨?_, fun c hc => ?_⟩, h3, h4⟩
  · intro e; subst e; simp at h1
  · exact (h2 c hc).1

theorem keyOKB_spec {lower : Bool} {k : List Char} (h : keyOKB lower k = true) : KeyOK lower k := by
  simp only [keyOKB, Bool.and_eq_true, Bool.not_eq_true', List.all_eq_true, bne_iff_ne, ne_eq, Bool.or_eq_true,
    beq_iff_eq] at h
  obtain ⟨⟨⟨⟨⟨h1, h2⟩, h3⟩, h4⟩, h5⟩, h6⟩ := h
  refine ⟨?_, fun c hc => h2 c hc, ?_, h4, h5, h6⟩
  · intro e; subst e; simp at h1
  · intro hl; rcases h3 with h3 | h3
    · rw [hl] at h3; simp at h3
    · exact h3

theorem fitsB_spec {w kw : Nat} {k : List Char} (h : fitsB w kw k = true) :
    k.length + (padOf kw k).length + 1 ≤ w := by
  simp only [fitsB, decide_eq_true_eq] at h
  simp only [padOf, List.length_append, List.length_replicate, List.length_cons, List.length_nil]
  omega

theorem wfValueB_spec {v : String} (h : wfValueB v = true) :
    unwords (valueWords v) = v.toList ∧ ∀ x ∈ valueWords v, ValueWord x := by
  simp only [wfValueB, Bool.and_eq_true, beq_iff_eq, List.all_eq_true] at h
  exact ⟨h.1, fun x hx => wordVB_spec (h.2 x hx)⟩

theorem optOK_entry (lower : Bool) (w kw : Nat) (k : String) (e : Entry) (h : wfEntryB lower w kw k e = true) :
    ∀ o ∈ entryOpts k e, OptOK lower w kw o := by
  simp only [wfEntryB, Bool.and_eq_true, List.all_eq_true] at h
  obtain ⟨⟨⟨⟨⟨h1, _⟩, h3⟩, h4⟩, h5⟩, _⟩ := h
  intro o ho
  simp only [entryOpts, List.mem_cons, List.mem_map] at ho
  rcases ho with rfl | ⟨m, hm, rfl⟩
  · exact ⟨keyOKB_spec h1, fun v hv => by cases hv; exact ⟨fitsB_spec h3, valueWords e.value, wfValueB_spec h4⟩⟩
  · have hm' := h5 m hm
    simp only [wfMetaB, Bool.and_eq_true] at hm'
    refine ⟨keyOKB_spec hm'.1, fun v hv => ?_⟩
    have h2 := hm'.2
    simp only at hv
    rw [hv] at h2
    simp only [Bool.and_eq_true] at h2
    exact ⟨fitsB_spec h2.1, valueWords v, wfValueB_spec h2.2⟩

theorem keyOf_meta (k : String) (mk : String) (h : ':' ∉ k.toList) : (partitionAt ':' (metaKey k mk)).1 = k.toList := by
  rw [metaKey, partitionAt_append ':' _ _ h]

theorem keyOf_entryOpts (k : String) (e : Entry) (h : ':' ∉ k.toList) :
    ∀ o ∈ entryOpts k e, (partitionAt ':' o.1).1 = k.toList := by
  intro o ho
  simp only [entryOpts, List.mem_cons, List.mem_map] at ho
  rcases ho with rfl | ⟨m, _, rfl⟩
  · rw [partitionAt_none ':' _ h]
  · exact keyOf_meta k m.1 h

theorem nodup_entryOpts (k : String) (e : Entry) (h : ':' ∉ k.toList) (hm : (e.metas.map (·.1)).Nodup) :
    ((entryOpts k e).map (·.1)).Nodup := by
  simp only [entryOpts, metaKey, List.map_cons, List.map_map, List.nodup_cons, List.mem_map, Function.comp]
  refine ⟨?_, ?_⟩
  · rintro ⟨m, _, hk⟩
    have : ':' ∈ k.toList := by rw [← hk]; simp
    exact h this
  · have hinj : ∀ a b : String × Option String, k.toList ++ ':' :: a.1.toList = k.toList ++ ':' :: b.1.toList →
        a.1 = b.1 := by
      intro a b hab
      have := List.append_cancel_left hab
      simp only [List.cons.injEq, true_and] at this
      exact String.toList_injective this
    generalize e.metas = ms at hm
    induction ms with
    | nil => simp
    | cons a t ih =>
      simp only [List.map_cons, List.nodup_cons, List.mem_map] at hm ⊢
      refine ⟨?_, ih hm.2⟩
      rintro ⟨b, hb, hab⟩
      exact hm.1 ⟨b, hb, (hinj a b hab.symm).symm⟩

/-- what makes `flatOpts` decodable: the key has no colon (so the `key:meta` names are told apart from the keys), and the
metadata names of the entry differ -/
def PlainKey (k : String) (e : Entry) : Prop := ':' ∉ k.toList ∧ (e.metas.map (·.1)).Nodup

theorem plainKey_of_wfEntry {lower : Bool} {w kw : Nat} {k : String} {e : Entry} (h : wfEntryB lower w kw k e = true) :
    PlainKey k e := by
  simp only [wfEntryB, Bool.and_eq_true, Bool.not_eq_true', decide_eq_true_eq] at h
  exact ⟨by simpa using h.1.1.1.1.2, h.2⟩

theorem nodup_flatOpts (s : Section) (hs : ∀ ke ∈ s, PlainKey ke.1 ke.2) (hk : (s.map (·.1)).Nodup) :
    ((flatOpts s).map (·.1)).Nodup := by
  induction s with
  | nil => simp [flatOpts]
  | cons ke t ih =>
    obtain ⟨k, e⟩ := ke
    have hke := hs (k, e) (by simp)
    simp only [List.map_cons, List.nodup_cons] at hk
    have ht := ih (fun x hx => hs x (List.mem_cons_of_mem _ hx)) hk.2
    simp only [flatOpts, List.flatMap_cons, List.map_append] at ht ⊢
    refine List.nodup_append.2 ⟨nodup_entryOpts k e hke.1 hke.2, ht, ?_⟩
    intro a ha b hb hab
    subst hab
    obtain ⟨ia, hia, rfl⟩ := List.mem_map.1 ha
    obtain ⟨ib, hib, hkey⟩ := List.mem_map.1 hb
    obtain ⟨ke', hke', hib'⟩ := List.mem_flatMap.1 hib
    have h1 := keyOf_entryOpts k e hke.1 ia hia
    have h2 := keyOf_entryOpts ke'.1 ke'.2 (hs ke' (List.mem_cons_of_mem _ hke')).1 ib hib'
    rw [hkey, h1] at h2
    exact hk.1 (by rw [String.toList_injective h2]; exact List.mem_map.2 ⟨ke', hke', rfl⟩)

theorem blockOpts_append (a b : List Block) : blockOpts (a ++ b) = blockOpts a ++ blockOpts b := by
  induction a with
  | nil => rfl
  | cons x t ih => cases x <;> simp [blockOpts, ih]

theorem mem_blockOpts {o : Opt} {bs : List Block} (h : Block.opt o ∈ bs) : o ∈ blockOpts bs := by
  induction bs with
  | nil => cases h
  | cons x t ih =>
    rcases List.mem_cons.1 h with hx | ht
    · subst hx; simp [blockOpts]
    · cases x <;> simp [blockOpts, ih ht]

theorem blockOpts_opts (os : List Opt) : blockOpts (os.map Block.opt) = os := by
  induction os with
  | nil => rfl
  | cons x t ih => simp [blockOpts, ih]

theorem blockOpts_entry (k : String) (e : Entry) : blockOpts (entryBlocks k e) = entryOpts k e := by
  simp only [entryBlocks, blockOpts_append, blockOpts_opts]
  split <;> simp [blockOpts]

theorem blockOpts_section (s : Section) : blockOpts (sectionBlocks s) = flatOpts s := by
  induction s with
  | nil => rfl
  | cons ke t ih =>
    simp only [sectionBlocks, flatOpts, List.flatMap_cons, blockOpts_append, blockOpts_entry] at ih ⊢
    rw [ih]

theorem flatMap_opts (w kw : Nat) (os : List Opt) :
    (os.map Block.opt).flatMap (blockLines w kw) = os.flatMap (optLines w kw) := by
  induction os with
  | nil => rfl
  | cons x t ih => simp [blockLines, ih]

theorem entryLines_eq (w kw : Nat) (k : String) (e : Entry) :
    entryLines w kw k e =
      if e.metas.isEmpty then optLines w kw (k.toList, some e.value)
      else optLines w kw (k.toList, some e.value) ++
        e.metas.flatMap (fun m => optLines w kw (metaKey k m.1, m.2)) ++ [[]] := by
  simp only [entryLines]
  rfl

theorem entryLines_blocks (w kw : Nat) (k : String) (e : Entry) :
    entryLines w kw k e = (entryBlocks k e).flatMap (blockLines w kw) := by
  rw [entryLines_eq]
  simp only [entryBlocks, List.flatMap_append, flatMap_opts]
  simp only [entryOpts, List.flatMap_cons, List.flatMap_map]
  cases hme : e.metas.isEmpty
  · simp [blockLines]
  · have : e.metas = [] := by simpa using hme
    simp [this]

theorem entryBlocks_lines_ne_nil (lower : Bool) (w kw : Nat) (k : String) (e : Entry)
    (h : wfEntryB lower w kw k e = true) : (entryBlocks k e).flatMap (blockLines w kw) ≠ [] := by
  have := optLines_ne_nil lower w kw (k.toList, some e.value) (optOK_entry lower w kw k e h _ (by simp [entryOpts]))
  simp only [entryBlocks, entryOpts, List.map_cons, List.cons_append, List.flatMap_cons, blockLines]
  intro hc
  exact this (List.append_eq_nil_iff.1 hc).1

/-- the lines of one section: the header line, then the blocks of its entries -/
def sectionLinesOf (w kw : Nat) (ns : String × Section) : List (List Char) :=
  headerText ns.1 :: (sectionBlocks ns.2).flatMap (blockLines w kw)

theorem sectionStr_nl (lower : Bool) (w kw : Nat) (n : String) (s : Section) (hs : s ≠ [])
    (hwf : ∀ ke ∈ s, wfEntryB lower w kw ke.1 ke.2 = true) :
    sectionStr w kw n s ++ ['\n'] = Text.joinNl (sectionLinesOf w kw (n, s)) := by
  have hmap : (s.map fun (x : String × Entry) => match x with | (k, e) => joinLines (entryLines w kw k e)) =
      (s.map (fun ke => (entryBlocks ke.1 ke.2).flatMap (blockLines w kw))).map joinLines := by
    rw [List.map_map]
    apply List.map_congr_left
    intro ke hke
    obtain ⟨k, e⟩ := ke
    simp only [Function.comp, entryLines_blocks w kw k e]
  have hne : (s.map fun (x : String × Entry) => match x with | (k, e) => joinLines (entryLines w kw k e)).isEmpty = false := by
    cases s with
    | nil => exact absurd rfl hs
    | cons a t => simp
  simp only [sectionStr, hne, Bool.false_eq_true, if_false]
  rw [hmap, List.append_assoc, joinLines_join_nl _ (by simpa using hs)]
  · rw [← List.flatMap_def, ← List.flatMap_assoc]
    simp [sectionLinesOf, headerText, Text.joinNl, sectionBlocks]
  · intro x hx
    obtain ⟨ke, hke, rfl⟩ := List.mem_map.1 hx
    exact entryBlocks_lines_ne_nil lower w kw ke.1 ke.2 (hwf ke hke)

theorem sectionStr_ne_nil (w kw : Nat) (n : String) (s : Section) (hs : s ≠ []) :
    (sectionStr w kw n s).isEmpty = false := by
  cases s with
  | nil => exact absurd rfl hs
  | cons a t => simp [sectionStr]

/-- two empty lines after every section but the last, one after the last (the break that ends the file) -/
def padBlocks : List (String × List Block) → List (String × List Block)
  | [] => []
  | [sb] => [(sb.1, sb.2 ++ [Block.blank])]
  | sb :: r => (sb.1, sb.2 ++ [Block.blank, Block.blank]) :: padBlocks r

theorem padBlocks_cons2 (a b : String × List Block) (r : List (String × List Block)) :
    padBlocks (a :: b :: r) = (a.1, a.2 ++ [Block.blank, Block.blank]) :: padBlocks (b :: r) := rfl

theorem padBlocks_opts (X : List (String × List Block)) :
    (padBlocks X).map (fun sb => (sb.1, blockOpts sb.2)) = X.map (fun sb => (sb.1, blockOpts sb.2)) := by
  induction X with
  | nil => rfl
  | cons a t ih =>
    cases t with
    | nil => simp [padBlocks, blockOpts_append, blockOpts]
    | cons b r =>
      rw [padBlocks_cons2, List.map_cons, ih]
      simp [blockOpts_append, blockOpts]

theorem padBlocks_names (X : List (String × List Block)) : (padBlocks X).map (·.1) = X.map (·.1) := by
  induction X with
  | nil => rfl
  | cons a t ih =>
    cases t with
    | nil => simp [padBlocks]
    | cons b r => rw [padBlocks_cons2, List.map_cons, ih]; simp

theorem sepLines_pad (w kw : Nat) (X : List (String × List Block)) (hX : X ≠ []) :
    sepLines (X.map (fun sb => headerText sb.1 :: sb.2.flatMap (blockLines w kw))) ++ [[]] =
      fileLines w kw (padBlocks X) := by
  induction X with
  | nil => exact absurd rfl hX
  | cons a t ih =>
    cases t with
    | nil => simp [sepLines, padBlocks, fileLines, List.flatMap_append, blockLines]
    | cons b r =>
      have h := ih (by simp)
      rw [padBlocks_cons2, fileLines_cons, ← h]
      simp only [List.map_cons, sepLines_cons2, List.flatMap_append, List.flatMap_cons, blockLines,
        List.flatMap_nil, List.append_nil, List.cons_append, List.append_assoc, List.nil_append]

theorem mem_sepLines (Ls : List (List (List Char))) (l : List Char) (h : l ∈ sepLines Ls) :
    l = [] ∨ ∃ L ∈ Ls, l ∈ L := by
  induction Ls with
  | nil => simp [sepLines] at h
  | cons a t ih =>
    cases t with
    | nil => exact Or.inr ⟨a, by simp, by simpa [sepLines] using h⟩
    | cons b r =>
      rw [sepLines_cons2] at h
      simp only [List.mem_append, List.mem_cons, List.not_mem_nil, or_false] at h
      rcases h with (h | h | h) | h
      · exact Or.inr ⟨a, by simp, h⟩
      · exact Or.inl h
      · exact Or.inl h
      · rcases ih h with h | ⟨L, hL, hl⟩
        · exact Or.inl h
        · exact Or.inr ⟨L, List.mem_cons_of_mem _ hL, hl⟩

def docBlocks (secs : Sections) : List (String × List Block) := secs.map (fun ns => (ns.1, sectionBlocks ns.2))

theorem wfSection_parts {lower : Bool} {w kw : Nat} {n : String} {s : Section} (h : wfSectionB lower w kw n s = true) :
    wfNameB n = true ∧ s ≠ [] ∧ (∀ ke ∈ s, wfEntryB lower w kw ke.1 ke.2 = true) ∧ (s.map (·.1)).Nodup := by
  simp only [wfSectionB, Bool.and_eq_true, Bool.not_eq_true', List.all_eq_true, decide_eq_true_eq] at h
  obtain ⟨⟨⟨h1, h2⟩, h3⟩, h4⟩ := h
  exact ⟨h1, by intro e; subst e; simp at h2, h3, h4⟩

theorem optOK_flatOpts {lower : Bool} {w kw : Nat} {n : String} {s : Section} (h : wfSectionB lower w kw n s = true) :
    ∀ o ∈ flatOpts s, OptOK lower w kw o := by
  intro o ho
  obtain ⟨ke, hke, ho'⟩ := List.mem_flatMap.1 ho
  exact optOK_entry lower w kw ke.1 ke.2 ((wfSection_parts h).2.2.1 ke hke) o ho'

theorem wfText_parts {lower : Bool} {w kw : Nat} {secs : Sections} (h : WfText lower w kw secs = true) :
    (∀ ns ∈ secs, wfSectionB lower w kw ns.1 ns.2 = true) ∧ (secs.map (·.1)).Nodup := by
  simpa [WfText] using h

theorem noNL_header (n : String) (h : wfNameB n = true) : '\n' ∉ headerText n := by
  simp only [wfNameB, Bool.and_eq_true, List.all_eq_true, Bool.not_eq_true'] at h
  intro hm
  exact noNL_of_noBlank h.1.1 (by simpa [headerText] using hm)

theorem name_ne_nil (n : String) (h : wfNameB n = true) : n.toList ≠ [] := by
  simp only [wfNameB, Bool.and_eq_true, Bool.not_eq_true'] at h
  intro e
  rw [e] at h
  simp [partDunder] at h

theorem asStr_lines (lower : Bool) (w kw : Nat) (secs : Sections) (hne : secs ≠ [])
    (hwf : WfText lower w kw secs = true) :
    splitLines (asStr w kw secs ++ "\n").toList = fileLines w kw (padBlocks (docBlocks secs)) := by
  obtain ⟨hsec, _⟩ := wfText_parts hwf
  -- `as_str` leaves out the sections whose text is empty; a well-formed section has an entry, so none is left out
  have hfilter : ((secs.map fun (x : String × Section) => match x with | (n, s) => sectionStr w kw n s).filter
      (fun t => !t.isEmpty)) = secs.map (fun ns => sectionStr w kw ns.1 ns.2) := by
    have hf : ∀ t ∈ (secs.map fun (x : String × Section) => match x with | (n, s) => sectionStr w kw n s),
        (!t.isEmpty) = true := by
      intro t ht
      obtain ⟨ns, hns, rfl⟩ := List.mem_map.1 ht
      obtain ⟨n, s⟩ := ns
      simp [sectionStr_ne_nil w kw n s (wfSection_parts (hsec (n, s) hns)).2.1]
    rw [List.filter_eq_self.2 hf]
  have htext : (asStr w kw secs ++ "\n").toList =
      Text.joinNl (sepLines (secs.map (sectionLinesOf w kw))) := by
    simp only [asStr, hfilter, String.toList_append, String.toList_ofList]
    rw [show "\n".toList = ['\n'] from rfl]
    exact joinWith_nl (fun ns => sectionStr w kw ns.1 ns.2) (sectionLinesOf w kw) secs hne (fun ns hns => by
      obtain ⟨_, h2, h3, _⟩ := wfSection_parts (hsec ns hns)
      exact sectionStr_nl lower w kw ns.1 ns.2 h2 h3)
  rw [htext, splitLines_joinNl]
  · have := sepLines_pad w kw (docBlocks secs) (by simpa [docBlocks] using hne)
    rw [← this]
    simp only [docBlocks, List.map_map]
    rfl
  · intro l hl
    rcases mem_sepLines _ l hl with rfl | ⟨L, hL, hl⟩
    · simp
    · obtain ⟨ns, hns, rfl⟩ := List.mem_map.1 hL
      obtain ⟨h1, _, h3, _⟩ := wfSection_parts (hsec ns hns)
      simp only [sectionLinesOf, List.mem_cons, List.mem_flatMap] at hl
      rcases hl with rfl | ⟨b, hb, hl⟩
      · exact noNL_header ns.1 h1
      · cases b with
        | blank => simp [blockLines] at hl; subst hl; simp
        | opt o =>
          have ho : o ∈ flatOpts ns.2 := blockOpts_section ns.2 ▸ mem_blockOpts hb
          exact optLines_noNL lower w kw o (optOK_flatOpts (hsec ns hns) o ho) l hl

theorem read_asStr (lower : Bool) (w kw : Nat) (secs : Sections) (hne : secs ≠ [])
    (hwf : WfText lower w kw secs = true) :
    ∃ raw, readIniRaw lower (asStr w kw secs ++ "\n") = .ok raw ∧
      raw.map normSec = secs.map (fun ns => (ns.1, flatOpts ns.2)) := by
  obtain ⟨hsec, hnd⟩ := wfText_parts hwf
  have hpad : (padBlocks (docBlocks secs)).map (fun sb => (sb.1, blockOpts sb.2)) =
      secs.map (fun ns => (ns.1, flatOpts ns.2)) := by
    rw [padBlocks_opts]; simp [docBlocks, blockOpts_section]
  obtain ⟨raw, h1, h2⟩ := readIniRaw_sections lower w kw (padBlocks (docBlocks secs)) _
    (asStr_lines lower w kw secs hne hwf) (by
      intro sb hsb
      have hmem := List.mem_map_of_mem (f := fun sb => (sb.1, blockOpts sb.2)) hsb
      rw [hpad] at hmem
      obtain ⟨ns, hns, heq⟩ := List.mem_map.1 hmem
      simp only [Prod.mk.injEq] at heq
      obtain ⟨h1, _, h3, h4⟩ := wfSection_parts (hsec ns hns)
      rw [← heq.1, ← heq.2]
      exact ⟨name_ne_nil ns.1 h1, optOK_flatOpts (hsec ns hns),
        nodup_flatOpts ns.2 (fun ke hke => plainKey_of_wfEntry (h3 ke hke)) h4⟩)
    (by rw [padBlocks_names]; simp only [docBlocks, List.map_map]; exact hnd)
  exact ⟨raw, h1, h2.trans hpad⟩

end Midgard.Proofs.ConfigText
