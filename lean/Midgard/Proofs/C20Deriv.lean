/-
C20 — interpolate_with_derivative for any interpolator of the model (`interpDeriv f`; the model writes `lagrangeDeriv` out
separately, it unfolds to the same term: `lagrangeDeriv_eq_interpDeriv`).  A successful call is three calls of the
interpolator and the central difference of the two shifted tables, so the derivative table `Returns` the scheme
`derivR R dx` of the interpolator's scheme `R` (`Computes.deriv`), and the derivative theorems are `Returns.sends` and
`Returns.linear` once more.
-/
import Midgard.Proofs.C20Scheme
import Mathlib.Tactic.Ring

namespace Midgard.Proofs.C20
open Midgard.Numeric

/-- the central difference of a scheme with step `dx` -/
def derivR (R : Scheme) (dx : ℚ) : Scheme := fun sx col x v =>
  ∃ hi lo, R sx col (x + dx) hi ∧ R sx col (x - dx) lo ∧ v = (hi - lo) / (2 * dx)

theorem derivR_sends {R : Scheme} {g : ℚ → ℚ} (hR : R.Exact g) (dx : ℚ) :
    (derivR R dx).Sends g (fun x => (g (x + dx) - g (x - dx)) / (2 * dx)) := by
  rintro sx col x v hp hdata ⟨hi, lo, h1, h2, rfl⟩
  rw [hR sx col _ hi hp hdata h1, hR sx col _ lo hp hdata h2]

theorem derivR_linear {R : Scheme} (hR : R.Linear) (dx : ℚ) : (derivR R dx).Linear := by
  rintro sx c₁ c₂ c₃ a b x v₁ v₂ v₃ hcomb ⟨p₁, q₁, hp₁, hq₁, rfl⟩ ⟨p₂, q₂, hp₂, hq₂, rfl⟩ ⟨p₃, q₃, hp₃, hq₃, rfl⟩
  rw [hR sx c₁ c₂ c₃ a b _ _ _ _ hcomb hp₁ hp₂ hp₃, hR sx c₁ c₂ c₃ a b _ _ _ _ hcomb hq₁ hq₂ hq₃]
  ring

theorem interpDeriv_ok {f : List ℚ → Except Err (List (List ℚ))} {xnew : List ℚ} {dx : ℚ} {v d : List (List ℚ)}
    (h : interpDeriv f xnew dx = .ok (v, d)) :
    ∃ hi lo, f xnew = .ok v ∧ f (xnew.map (· + dx)) = .ok hi ∧ f (xnew.map (· - dx)) = .ok lo ∧ d = centralDiff hi lo dx := by
  unfold interpDeriv at h
  split at h
  · cases h
  rename_i v' h1
  split at h
  · cases h
  rename_i hi h2
  split at h
  · cases h
  rename_i lo h3
  obtain ⟨rfl, rfl⟩ := Prod.mk.inj (Except.ok.inj h)
  exact ⟨hi, lo, h1, h2, h3, rfl⟩

theorem centralDiff_spec {hi lo : List (List ℚ)} {n dim : ℕ} (dx : ℚ) (l1 : hi.length = n) (l2 : lo.length = n)
    (w1 : ∀ j, j < n → (hi.getD j []).length = dim) (w2 : ∀ j, j < n → (lo.getD j []).length = dim) :
    (centralDiff hi lo dx).length = n ∧ ∀ j, j < n → ((centralDiff hi lo dx).getD j []).length = dim ∧
      ∀ c, c < dim → ((centralDiff hi lo dx).getD j []).getD c 0 =
        ((hi.getD j []).getD c 0 - (lo.getD j []).getD c 0) / (2 * dx) := by
  refine ⟨by simp [centralDiff, l1, l2], fun j hj => ?_⟩
  rw [centralDiff, Lists.getD_zipWith_lt _ hi lo j [] [] [] (by omega) (by omega)]
  refine ⟨by rw [List.length_zipWith, w1 j hj, w2 j hj, min_self], fun c hc => ?_⟩
  rw [Lists.getD_zipWith_lt _ _ _ c 0 0 0 (by rw [w1 j hj]; exact hc) (by rw [w2 j hj]; exact hc)]

theorem Returns.centralDiff {R : Scheme} {xs : List ℚ} {rows : List (List ℚ)} {srt : Bool} {dim : ℕ} {xnew : List ℚ} {dx : ℚ}
    {hi lo : List (List ℚ)} (r1 : Returns R xs rows srt dim (xnew.map (· + dx)) hi)
    (r2 : Returns R xs rows srt dim (xnew.map (· - dx)) lo) :
    (centralDiff hi lo dx).length = xnew.length ∧ ∀ j, j < xnew.length → ((centralDiff hi lo dx).getD j []).length = dim ∧
      ∀ c, c < dim → ((centralDiff hi lo dx).getD j []).getD c 0 =
        ((hi.getD j []).getD c 0 - (lo.getD j []).getD c 0) / (2 * dx) :=
  centralDiff_spec dx (r1.rows_len.trans (List.length_map _)) (r2.rows_len.trans (List.length_map _))
    (fun j hj => r1.row_len j (by simpa using hj)) (fun j hj => r2.row_len j (by simpa using hj))

theorem Computes.deriv {R : Scheme} {xs : List ℚ} {srt : Bool} {dim : ℕ} {f rows}
    (hf : Computes f R xs rows srt dim) {xnew : List ℚ} {dx : ℚ} {v d : List (List ℚ)}
    (h : interpDeriv f xnew dx = .ok (v, d)) : Ascending xs srt ∧ Returns (derivR R dx) xs rows srt dim xnew d := by
  obtain ⟨hi, lo, -, h2, h3, rfl⟩ := interpDeriv_ok h
  obtain ⟨hp, r1⟩ := hf _ hi h2
  obtain ⟨-, r2⟩ := hf _ lo h3
  have sp := r1.centralDiff r2
  refine ⟨hp, sp.1, fun j hj => (sp.2 j hj).1, fun j c hj hc => ?_⟩
  have e1 := r1.entry j c (by simpa using hj) hc
  have e2 := r2.entry j c (by simpa using hj) hc
  rw [Lists.getD_map_of_lt _ _ 0 _ _ hj] at e1 e2
  exact ⟨_, _, e1, e2, (sp.2 j hj).2 c hc⟩

theorem lagrangeDeriv_eq_interpDeriv (xs : List ℚ) (rows : List (List ℚ)) (dim w : ℕ) (be srt : Bool) (s : ℚ)
    (xnew : List ℚ) (dx : ℚ) :
    lagrangeDeriv xs rows dim w be srt s xnew dx = interpDeriv (lagrange xs rows dim w be srt s) xnew dx := rfl

end Midgard.Proofs.C20
