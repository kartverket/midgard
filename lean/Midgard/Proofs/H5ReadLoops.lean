/-
C10 — `FieldType.read` / `CollectionField.read` of a file in which arrays may be shared between fields.  One leaf field: the
array group, or a `same_as` group (the named field is read first unless the memo knows it; both names are entered in the
memo); `readField` and `readFieldX` differ in the `_read` of array groups only, so the leaf step is stated once over that
reader (`leafRead`).  Then all fields and nested collections by induction on the nesting depth, the loop over the fields of a
collection and over the top-level fields being one (`fieldsLoop_spec`).
-/
import Midgard.Proofs.H5ReadFields
import Midgard.Proofs.DatasetHeap

namespace Midgard.H5
open Midgard.Dataset

/-- the leaf step of `readField` / `readFieldX` over any `_read` of array groups `rd`: `resolved` is the model's `resolveAlias` /
`resolveAliasX` (a `same_as` group first obtains the array of the field it names and enters both names in the memo), `viaMemo`
its `fieldRead` / `fieldReadX`; then the group itself is obtained through the memo -/
def leafRead (file : File) (rd : Grp → RSt → M (Nat × RSt)) (k : Kind) : Grp → RSt → M (Field × RSt)
  | .mk a p subs, s0 =>
    let resolved : M RSt :=
      match a.sameAs with
      | none => .ok s0
      | some name =>
        match s0.memo.lookup name with
        | some o => .ok (s0.set a.fieldname o)
        | none =>
          match lookupGrp file.groups name with
          | none => .error .attribute
          | some g =>
            match viaMemo rd g s0 with
            | .error e => .error e
            | .ok (o, s') => .ok ((s'.set name o).set a.fieldname o)
    match resolved with
    | .error e => .error e
    | .ok s =>
      match viaMemo rd (.mk a p subs) s with
      | .error e => .error e
      | .ok (o, s') => .ok (.leaf (lastName a.fieldname) k o (objLen s'.heap o) (readUnit a.unit) a.level, s')

section
variable {h : Heap} {file : File} {I : Rho → RSt → Prop} {rd : Grp → RSt → M (Nat × RSt)}

theorem leafRead_spec (R : Reader h file I rd)
    (C : WMemo) (nm : String) (k : Kind) (o no : Nat) (u : Option (List String)) (l : Nat) (pre : Path) (g : Grp) (s : RSt)
    (ρ : Rho) (T : List Path) (inv : I ρ s) (hl : lookupGrp file.groups (pre ++ [nm]) = some g)
    (hrep : RepG (KFile C file) (.leaf nm k o no u l) pre g) (hok : fieldsOK h file.numObs [.leaf nm k o no u l] = true)
    (hfr : Fr h file ρ s ((pre ++ [nm]) :: T)) (hnin : pre ++ [nm] ∉ T)
    (hal : ∀ name, g.attrs.sameAs = some name → name ∈ T) :
    ∃ s' ρ', leafRead file rd k g s = .ok (renameField (phi ρ') (.leaf nm k o no u l), s') ∧ I ρ' s' ∧
      RPost h file [.leaf nm k o no u l] ρ s' ρ' ∧ Fr h file ρ' s' T := by
  obtain ⟨ho, hno, hu⟩ := fieldsOK_leaf hok
  simp only [RepG] at hrep
  obtain ⟨hsrc, hfn, hun, hlv, hcase⟩ := hrep
  have hob : h[o]? = some h[o] := List.getElem?_eq_getElem ho
  -- the field read, once the image `n` of its array is known: the new array has the declared length
  have hfield : ∀ {s' : RSt} {ρ' : Rho} {n : Nat}, I ρ' s' → ρ'.lookup o = some n →
      Field.leaf (lastName (pre ++ [nm])) k n (objLen s'.heap n) (readUnit u) l = renameField (phi ρ') (.leaf nm k o no u l) := by
    intro s' ρ' n inv' hn
    obtain ⟨ob, r', h1, h2, _⟩ := (R.above.toR inv').img o n hn
    rw [hob] at h1
    cases h1
    simp only [renameField, phi_of_lookup hn, readUnit_ok u hu, lastName_snoc, objLen_of_get h2, withRef_rows]
    rw [hno, objLen_of_get hob]
  have hsubT : ∀ P ∈ T, P ∈ (pre ++ [nm]) :: T := fun P hP => List.mem_cons_of_mem _ hP
  have post : ∀ {s' ρ' n}, I ρ' s' → ρ'.lookup o = some n → Grows ρ s ρ' s' (fun z => z = o ∨ Registers h z) →
      RPost h file [.leaf nm k o no u l] ρ s' ρ' :=
    fun inv' hlk gr => ⟨R.above.toR inv', gr.ext, fun x hx => by simp [leafObjs_leaf_single] at hx; simp [hx, hlk],
      fun z hz => (gr.new z hz).imp_right (Or.imp_left fun h0 => by simp [leafObjs_leaf_single, h0])⟩
  obtain ⟨a, p, subs⟩ := g
  simp only [Grp.attrs_mk] at hfn hun hlv hcase hal
  simp only [Grp.src_mk] at hsrc
  rcases hcase with ⟨ha, hsa⟩ | ⟨name, _, hsa, _, _, gt, hlt, hat, hst⟩
  · -- the array group
    obtain ⟨n, s', ρ', hvm, inv', hlk, gr, hfr'⟩ := obtainArr R inv hl ha hsrc ho hfr (List.mem_cons_self ..)
    refine ⟨s', ρ', ?_, inv', post inv' hlk gr, hfr' s' T (MemoMono.refl _) hsubT (fun hP => absurd hP hnin)⟩
    simp only [leafRead, hsa, hvm, hfn, hun, hlv, hfield inv' hlk]
  · -- a `same_as` group: the array group `gt` of the field `name` is obtained first, then both names are in the memo
    obtain ⟨n, s1, ρ1, hvm, inv1, hlk, gr, hfr'⟩ := obtainArr R inv hlt hat hst ho hfr (List.mem_cons_of_mem _ (hal name hsa))
    have hgo : ρ1.lookup (Grp.mk a p subs).src = some n := by rw [Grp.src_mk, hsrc]; exact hlk
    have hown : ∀ s2 : RSt, viaMemo rd (.mk a p subs) (s2.set (pre ++ [nm]) n) = .ok (n, s2.set (pre ++ [nm]) n) := fun s2 => by
      simp only [viaMemo, Grp.attrs_mk, hfn, set_lookup_self]
    cases hmn : s.memo.lookup name with
    | some m =>
      simp only [viaMemo, R.arrs.fieldname hlt hat, hmn, Except.ok.injEq, Prod.mk.injEq] at hvm
      obtain ⟨rfl, rfl⟩ := hvm
      have inv2 := R.above.set inv1 hl hgo
      refine ⟨s.set (pre ++ [nm]) m, ρ1, ?_, inv2, post inv2 hlk (gr.set _ _),
        hfr' _ T (MemoMono.set _ _ _) hsubT (fun _ => MemoMono.set _ _ _ name (by rw [hmn]; simp))⟩
      simp only [leafRead, hsa, hmn, hfn, hown, hun, hlv, hfield inv2 hlk]
    | none =>
      have inv2 := R.above.set (R.above.set inv1 hlt (by rw [hst]; exact hlk)) hl hgo
      refine ⟨(s1.set name n).set (pre ++ [nm]) n, ρ1, ?_, inv2, post inv2 hlk ((gr.set _ _).set _ _),
        hfr' _ T ((MemoMono.set _ _ _).trans (MemoMono.set _ _ _)) hsubT
          (fun _ => MemoMono.set _ _ _ name (by rw [set_lookup_self]; simp))⟩
      simp only [leafRead, hsa, hmn, hlt, hvm, hfn, hown, hun, hlv, hfield inv2 hlk]

end

abbrev pathsOf (fs : List Field) (pre : Path) : List Path := (leafPaths fs pre).map Prod.snd

theorem pathsOf_cons (f : Field) (fs : List Field) (pre : Path) : pathsOf (f :: fs) pre = pathsOf [f] pre ++ pathsOf fs pre := by
  simp only [pathsOf, leafPaths_cons f fs pre, List.map_append]

/-- `memo[fieldname] = field.data` after a top-level field keeps the invariant -/
theorem regTop_keeps {h : Heap} {file : File} {I : Rho → RSt → Prop} (A : InvAbove h file I) (C : WMemo)
    (f : Field) (g : Grp) (ρ1 : Rho) (s1 : RSt) (inv : I ρ1 s1) (hdom : ∀ o ∈ leafObjs [f], ρ1.lookup o ≠ none)
    (hl : lookupGrp file.groups ([] ++ [f.name]) = some g) (hrf : RepG (KFile C file) f [] g) :
    I ρ1 (regTop f.name (renameField (phi ρ1) f) s1) ∧ MemoMono s1 (regTop f.name (renameField (phi ρ1) f) s1) := by
  cases f with
  | coll nm no l sub => exact ⟨inv, MemoMono.refl _⟩
  | leaf nm k o no u l =>
    obtain ⟨n, hlo⟩ := Option.ne_none_iff_exists'.mp (hdom o (by simp [leafObjs_leaf_single]))
    simp only [RepG] at hrf
    simp only [renameField, regTop, Field.name, phi_of_lookup hlo]
    exact ⟨A.set inv hl (by rw [hrf.1]; exact hlo), MemoMono.set _ _ _⟩

/-- what the field reader `rf` does on every field of nesting depth at most `depth`, over a file in which a `same_as`
group names the field that `C` names for its array -/
def FieldReads (h : Heap) (file : File) (I : Rho → RSt → Prop) (rf : Nat → Option Kind → Grp → RSt → M (Field × RSt))
    (C : WMemo) (depth : Nat) : Prop :=
  ∀ (f : Field) (pre : Path) (g : Grp) (s : RSt) (ρ : Rho) (rest : List Path),
    I ρ s → lookupGrp file.groups (pre ++ [f.name]) = some g → NamesOKG g → RepG (KFile C file) f pre g →
    fieldsOK h file.numObs [f] = true → Fr h file ρ s (pathsOf [f] pre ++ rest) → (pathsOf [f] pre ++ rest).Nodup →
    AliasOrd C (leafPaths [f] pre) rest → fieldsDepth [f] ≤ depth →
    ∃ s' ρ', rf depth (fieldType f) g s = .ok (renameField (phi ρ') f, s') ∧ I ρ' s' ∧ RPost h file [f] ρ s' ρ' ∧
      Fr h file ρ' s' rest

theorem fieldsLoop_spec {h : Heap} {file : File} {I : Rho → RSt → Prop} {rf : Nat → Option Kind → Grp → RSt → M (Field × RSt)}
    (A : InvAbove h file I) (C : WMemo) {depth : Nat} (hf : FieldReads h file I rf C depth)
    {after : String → Field → RSt → RSt} (pre : Path) (subs : List (String × Grp)) (hns : NamesOKG.NamesOKL subs)
    (hsubs : ∀ nm g, (nm, g) ∈ subs → lookupGrp file.groups (pre ++ [nm]) = some g)
    (hafter : ∀ f g ρ1 s1, I ρ1 s1 → (∀ o ∈ leafObjs [f], ρ1.lookup o ≠ none) → lookupGrp file.groups (pre ++ [f.name]) = some g →
      RepG (KFile C file) f pre g →
      I ρ1 (after f.name (renameField (phi ρ1) f) s1) ∧ MemoMono s1 (after f.name (renameField (phi ρ1) f) s1)) :
    ∀ (fs : List Field) (s : RSt) (ρ : Rho) (rest : List Path),
    I ρ s → (∀ f ∈ fs, ∃ g, (f.name, g) ∈ subs ∧ RepG (KFile C file) f pre g) →
    fieldsOK h file.numObs fs = true → Fr h file ρ s (pathsOf fs pre ++ rest) → (pathsOf fs pre ++ rest).Nodup →
    AliasOrd C (leafPaths fs pre) rest → fieldsDepth fs ≤ depth →
    ∃ s' ρ', fieldsLoop subs after (rf depth) (fs.map (fun f => (f.name, fieldType f))) s = .ok (renameFields (phi ρ') fs, s') ∧
      I ρ' s' ∧ RPost h file fs ρ s' ρ' ∧ Fr h file ρ' s' rest
  | [], s, ρ, rest, inv, _, _, hfr, _, _, _ => by
    refine ⟨s, ρ, by simp [fieldsLoop, renameFields], inv, ⟨A.toR inv, Ext.refl ρ, ?_, fun z hz => Or.inl hz⟩, ?_⟩
    · intro o ho; simp [leafObjs] at ho
    · simpa [pathsOf, leafPaths] using hfr
  | f :: fs, s, ρ, rest, inv, hrep, hok, hfr, hnd, hao, hd => by
    obtain ⟨g, hm, hrf⟩ := hrep f (by simp)
    obtain ⟨hok1, hok2⟩ := fieldsOK_cons h _ f fs hok
    obtain ⟨hd1, hd2⟩ := fieldsDepth_cons f fs hd
    rw [pathsOf_cons, List.append_assoc] at hfr hnd
    rw [leafPaths_cons, AliasOrd_append] at hao
    obtain ⟨hao1, hao2⟩ := hao
    obtain ⟨s1, ρ1, hrd1, inv1, p1, hfr1⟩ := hf f pre g s ρ (pathsOf fs pre ++ rest) inv
      (hsubs _ g hm) (namesOK_of_mem hns hm) hrf hok1 hfr hnd hao1 hd1
    obtain ⟨inv1', hmm⟩ := hafter f g ρ1 s1 inv1 p1.dom (hsubs _ g hm) hrf
    -- `Fr` for the names still to visit survives `after`, because the memo only grew
    obtain ⟨s2, ρ2, hrd2, inv2, p2, hfr2⟩ := fieldsLoop_spec A C hf pre subs hns hsubs hafter fs _ ρ1 rest inv1'
      (fun f' hf' => hrep f' (List.mem_cons_of_mem _ hf')) hok2 (hfr1.sub hmm (fun _ hP => hP))
      (List.nodup_append.mp hnd).2.1 hao2 hd2
    refine ⟨s2, ρ2, ?_, inv2, RPost.cons p1 p2, hfr2⟩
    simp only [List.map_cons, fieldsLoop, lookup_of_namesOK hns hm, hrd1, hrd2]
    rw [renameFields_cons, renameField_ext p1.dom p2.ext]

section
variable {h : Heap} {file : File} {I : Rho → RSt → Prop} {rd : Grp → RSt → M (Nat × RSt)}
  {rf : Nat → Option Kind → Grp → RSt → M (Field × RSt)} (C : WMemo) (R : Reader h file I rd)
  (eqLeaf : ∀ d k g s, rf (d + 1) (some k) g s = leafRead file rd k g s)
  (eqColl : ∀ d a p subs s, rf (d + 1) none (.mk a p subs) s =
    match readMembers (rf d) a.members subs s with
    | .error e => .error e
    | .ok (fs, s') => .ok (.coll (lastName a.fieldname) file.numObs a.level fs, s'))
include R eqLeaf eqColl

theorem fieldRead_spec : ∀ (depth : Nat), FieldReads h file I rf C depth
  | 0, f, _, _, _, _, _, _, _, _, _, _, _, _, _, hd => by cases f <;> simp [fieldsDepth] at hd
  | d + 1, .leaf nm k o no u l, pre, g, s, ρ, rest, inv, hl, _, hrep, hok, hfr, hnd, hao, _ => by
    have hT : pathsOf [Field.leaf nm k o no u l] pre ++ rest = (pre ++ [nm]) :: rest := by simp [pathsOf, leafPaths_leaf_single]
    rw [hT] at hfr hnd
    -- a `same_as` group names a field that comes later
    have hal : ∀ name, g.attrs.sameAs = some name → name ∈ rest := by
      intro name hsa
      have hrep' := hrep
      simp only [RepG] at hrep'
      obtain ⟨_, _, _, _, hcase⟩ := hrep'
      rcases hcase with ⟨_, hnone⟩ | ⟨name', _, hsa', hne, hC, _⟩
      · rw [hnone] at hsa; cases hsa
      · rw [hsa'] at hsa
        cases hsa
        simp only [leafPaths_leaf_single, AliasOrd, List.map_nil, List.nil_append, and_true] at hao
        rcases hao with hao | ⟨n2, hn2, hin⟩
        · rw [hC] at hao; exact absurd (Option.some.inj hao) hne
        · rw [hC] at hn2; cases hn2; exact hin
    rw [show fieldType (Field.leaf nm k o no u l) = some k from rfl, eqLeaf]
    exact leafRead_spec R C nm k o no u l pre g s ρ rest inv hl hrep hok hfr (List.nodup_cons.mp hnd).1 hal
  | d + 1, .coll nm no l sub, pre, g, s, ρ, rest, inv, hl, hng, hrep, hok, hfr, hnd, hao, hd => by
    have hd' : fieldsDepth sub ≤ d := by
      simp only [fieldsDepth] at hd
      omega
    obtain ⟨hno, hoks⟩ := fieldsOK_coll hok
    simp only [RepG] at hrep
    obtain ⟨subs, rfl, hrl⟩ := hrep
    simp only [NamesOKG] at hng
    replace hl : lookupGrp file.groups (pre ++ [nm]) = some _ := hl
    have hsubs : ∀ nm' g', (nm', g') ∈ subs → lookupGrp file.groups (pre ++ [nm] ++ [nm']) = some g' := lookupGrp_sub hl hng
    have hP : pathsOf [Field.coll nm no l sub] pre = pathsOf sub (pre ++ [nm]) := by
      simp only [pathsOf, leafPaths_coll_single]
    rw [hP] at hfr hnd
    rw [leafPaths_coll_single] at hao
    obtain ⟨s', ρ', hrd', inv', post, hfr'⟩ := fieldsLoop_spec R.above C (fieldRead_spec d) (pre ++ [nm]) subs hng hsubs
      (after := fun _ _ s => s) (fun _ _ _ _ inv _ _ _ => ⟨inv, MemoMono.refl _⟩) sub s ρ rest inv (RepGL_mem sub _ subs hrl) hoks hfr hnd hao hd'
    refine ⟨s', ρ', ?_, inv', ⟨post.inv, post.ext, by rw [leafObjs_coll_single]; exact post.dom,
      by rw [leafObjs_coll_single]; exact post.new⟩, hfr'⟩
    rw [show fieldType (Field.coll nm no l sub) = none from rfl, eqColl, readMembers_loop]
    simp only [hrd', renameField, lastName_single, hno]

end

end Midgard.H5
