/-
Insertion-ordered dictionaries of `Model/Config.lean` (`dget?`, `dset`): what a lookup sees after a write, and
what a write does to the keys.  Mathlib-free.
-/
import Midgard.Model.Config
import Midgard.Proofs.Lists

namespace Midgard.Config

universe u v
variable {κ : Type u} {ν : Type v} [DecidableEq κ]

theorem dget_dset (d : List (κ × ν)) (k k' : κ) (v : ν) :
    dget? (dset d k v) k' = if k = k' then some v else dget? d k' := by
  induction d with
  | nil => rfl
  | cons q t ih =>
    by_cases h0 : q.1 = k
    · subst h0
      simp only [dset, dget?, if_true]
      split <;> rfl
    · simp only [dset, h0, if_false, dget?, ih]
      split
      · rename_i h1
        rw [if_neg fun h => h0 (h1.trans h.symm)]
      · rfl

theorem dget_eq_none (d : List (κ × ν)) (k : κ) (h : k ∉ d.map (·.1)) : dget? d k = none := by
  induction d with
  | nil => rfl
  | cons q t ih =>
    simp only [List.map_cons, List.mem_cons, not_or] at h
    simp only [dget?, if_neg (Ne.symm h.1), ih h.2]

theorem dget_mem (d : List (κ × ν)) (k : κ) (v : ν) (h : dget? d k = some v) : (k, v) ∈ d := by
  induction d with
  | nil => cases h
  | cons q t ih =>
    simp only [dget?] at h
    split at h
    · rename_i hk
      cases h
      exact hk ▸ List.mem_cons_self
    · exact List.mem_cons_of_mem _ (ih h)

theorem dset_of_mem (d : List (κ × ν)) (k : κ) (v : ν) (h : k ∈ d.map (·.1)) :
    (dset d k v).map (·.1) = d.map (·.1) := by
  induction d with
  | nil => cases h
  | cons q t ih =>
    simp only [dset]
    split
    · rfl
    · rename_i hk
      simp only [List.map_cons, List.mem_cons] at h ⊢
      rw [ih (h.resolve_left fun e => hk e.symm)]

theorem dset_of_not_mem (d : List (κ × ν)) (k : κ) (v : ν) (h : k ∉ d.map (·.1)) : dset d k v = d ++ [(k, v)] := by
  induction d with
  | nil => rfl
  | cons q t ih =>
    simp only [List.map_cons, List.mem_cons, not_or] at h
    simp only [dset, if_neg (Ne.symm h.1), ih h.2, List.cons_append]

theorem mem_dset (d : List (κ × ν)) (k : κ) (v : ν) (p : κ × ν) (h : p ∈ dset d k v) : p = (k, v) ∨ p ∈ d := by
  induction d with
  | nil => exact Or.inl (List.mem_singleton.1 h)
  | cons q t ih =>
    simp only [dset] at h
    split at h
    · rename_i hk
      rcases List.mem_cons.1 h with h | h
      · exact Or.inl (h.trans (by rw [hk]))
      · exact Or.inr (List.mem_cons_of_mem _ h)
    · rcases List.mem_cons.1 h with h | h
      · exact Or.inr (h ▸ List.mem_cons_self)
      · exact (ih h).imp_right (List.mem_cons_of_mem _)

theorem nodup_dset (d : List (κ × ν)) (k : κ) (v : ν) (h : (d.map (·.1)).Nodup) : ((dset d k v).map (·.1)).Nodup := by
  by_cases hk : k ∈ d.map (·.1)
  · rwa [dset_of_mem d k v hk]
  · rw [dset_of_not_mem d k v hk, List.map_append]
    refine List.nodup_append.2 ⟨h, by simp, fun a ha b hb e => ?_⟩
    rw [List.mem_singleton.1 hb] at e
    exact hk (by rwa [e] at ha)

theorem dget_ne_none_of_mem {κ ν} [DecidableEq κ] (d : List (κ × ν)) (k : κ) (v : ν) :
    (k, v) ∈ d → dget? d k ≠ none := by
  induction d with
  | nil => simp
  | cons q t ih =>
    obtain ⟨k', v'⟩ := q
    intro hm
    simp only [dget?]
    by_cases hk : k' = k
    · simp [hk]
    · simp only [hk, if_false]
      rcases List.mem_cons.1 hm with h | h
      · cases h; exact absurd rfl hk
      · exact ih h

theorem dget_eq_none_iff (d : List (κ × ν)) (k : κ) : dget? d k = none ↔ k ∉ d.map (·.1) :=
  ⟨fun h hm => by
    obtain ⟨⟨k', v⟩, hkv, rfl⟩ := List.mem_map.1 hm
    exact dget_ne_none_of_mem d k' v hkv h, dget_eq_none d k⟩

theorem dset_dset {κ ν} [DecidableEq κ] (d : List (κ × ν)) (k : κ) (v v' : ν) : dset (dset d k v) k v' = dset d k v' := by
  induction d with
  | nil => simp [dset]
  | cons q t ih =>
    by_cases h : q.1 = k
    · simp [dset, h]
    · simp [dset, h, ih]

theorem foldl_dset_nodup {κ ν} [DecidableEq κ] (l acc : List (κ × ν)) (h : ((acc ++ l).map (·.1)).Nodup) :
    l.foldl (fun a p => dset a p.1 p.2) acc = acc ++ l := by
  induction l generalizing acc with
  | nil => simp
  | cons p t ih =>
    have hk : p.1 ∉ acc.map (·.1) := Lists.not_mem_of_nodup_append_cons (by simpa using h)
    rw [List.foldl_cons, dset_of_not_mem acc p.1 p.2 hk, ih (acc ++ [(p.1, p.2)]) (by simpa using h)]
    simp

theorem nodup_foldl_dset {κ ν} [DecidableEq κ] (l acc : List (κ × ν)) (h : (acc.map (·.1)).Nodup) :
    ((l.foldl (fun a p => dset a p.1 p.2) acc).map (·.1)).Nodup := by
  induction l generalizing acc with
  | nil => exact h
  | cons p t ih => exact ih _ (nodup_dset _ _ _ h)

theorem mem_foldl_dset {κ ν} [DecidableEq κ] (l : List (κ × ν)) (acc : List (κ × ν)) (p : κ × ν) :
    p ∈ l.foldl (fun a q => dset a q.1 q.2) acc → p ∈ l ∨ p ∈ acc := by
  induction l generalizing acc with
  | nil => intro h; exact Or.inr h
  | cons q t ih =>
    intro h
    simp only [List.foldl_cons] at h
    rcases ih _ h with h | h
    · exact Or.inl (List.mem_cons_of_mem _ h)
    · rcases mem_dset _ _ _ _ h with h | h
      · exact Or.inl (by simp [h])
      · exact Or.inr h

theorem foldl_dset_get {κ ν} [DecidableEq κ] (l : List (κ × ν)) (acc : List (κ × ν)) (k : κ) :
    dget? (l.foldl (fun a q => dset a q.1 q.2) acc) k =
      ((l.reverse.find? (fun q => q.1 = k)).map (·.2)).orElse (fun _ => dget? acc k) := by
  induction l generalizing acc with
  | nil => simp
  | cons q t ih =>
    simp only [List.foldl_cons, ih, dget_dset, List.reverse_cons, List.find?_append]
    cases hf : List.find? (fun x => decide (x.1 = k)) t.reverse with
    | some r => simp
    | none =>
      by_cases hq : q.1 = k <;> simp [hq]

theorem mergeSection_eq_foldl (acc S : Section) : mergeSection acc S = S.foldl (fun a p => dset a p.1 p.2) acc := by
  induction S generalizing acc with
  | nil => rfl
  | cons q t ih => exact ih _

theorem getD_dget_of_forall {P : ν → Prop} (d : List (κ × ν)) (k : κ) (dflt : ν) (h0 : P dflt)
    (h : ∀ q ∈ d, P q.2) : P ((dget? d k).getD dflt) := by
  cases hk : dget? d k with
  | none => exact h0
  | some v => exact h (k, v) (dget_mem d k v hk)

end Midgard.Config
