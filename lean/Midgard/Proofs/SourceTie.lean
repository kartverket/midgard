/-
The tactic behind the `source_*` theorems of Props/C05, C06, C07: equality of a definition regenerated from the
Python source (`Generated/SourceExprs.lean`) with the hand-written model definition, over the reals.
-/
import Midgard.Proofs.SrcTieCore
import Midgard.Proofs.GeoReal
import Midgard.Model.Geodetic
import Midgard.Model.Rotation
import Midgard.Model.Kepler
import Midgard.Generated.SourceExprs

namespace Midgard.Geo

open Lean.Parser.Tactic in
/-- `src_tie_with` (`Proofs/SrcTieCore.lean`) with the vectors, matrices and records of the geodetic models split into
their components -/
macro "src_tie" "[" ds:simpLemma,* "]" : tactic =>
  `(tactic| src_tie_with [cube, V3.mk.injEq, M3.mk.injEq, V6.mk.injEq, Kep.mk.injEq, LLH.mk.injEq, M3.mul, M3.mulVec,
      M3.col1, M3.col2, M3.col3, V3.dot, $ds,*])

end Midgard.Geo
