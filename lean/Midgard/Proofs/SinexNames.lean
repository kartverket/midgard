/-
Names read off their UTF-8 bytes.  `nameCodes` goes through `String.toList`, which decodes UTF-8, and the kernel pays
for the decoder at every character; the names of the SINEX tables are ASCII, where the bytes are the code points.
`asciiCodes` reads the bytes and falls back to `nameCodes` on a non-ASCII byte, so it equals `nameCodes` everywhere and
the table obligations are evaluated through it.  The same for `entryName` of a method name, which says which key of
`self.data` a block parser writes (`OtherEntry`, `OtherKey`: "this block does not write that key").
-/
import Midgard.Model.SinexFile

namespace Midgard.Sinex

def byteCodes (s : String) : List Nat := s.toByteArray.data.toList.map UInt8.toNat

/-- every multi-byte encoding starts with a byte `… ||| 0xc0`, `… ||| 0xe0` or `… ||| 0xf0` -/
theorem encodeChar_ascii (c : Char) (h : ∀ b ∈ String.utf8EncodeChar c, b.toNat < 128) :
    (String.utf8EncodeChar c).map UInt8.toNat = [c.toNat] := by
  have hi : ∀ (x y : UInt8) (rest : List UInt8), 128 ≤ y.toNat → String.utf8EncodeChar c = (x ||| y) :: rest → False := by
    intro x y rest hy he
    have := h (x ||| y) (by rw [he]; exact List.mem_cons_self)
    rw [UInt8.toNat_or] at this
    have := Nat.right_le_or (n := x.toNat) (m := y.toNat)
    omega
  rcases c.utf8Size_eq with h1 | h2 | h3 | h4
  · have hlt : c.toNat < 256 := by
      have := UInt32.le_iff_toNat_le.mp (Char.utf8Size_eq_one_iff.mp h1)
      exact Nat.lt_of_le_of_lt this (by decide)
    rw [String.utf8EncodeChar_eq_singleton h1]
    simp only [List.map_cons, List.map_nil, UInt32.toNat_toUInt8]
    exact congrArg (fun n => [n]) (Nat.mod_eq_of_lt hlt)
  · exact (hi _ 0xc0 _ (by decide) (String.utf8EncodeChar_eq_cons_cons h2)).elim
  · exact (hi _ 0xe0 _ (by decide) (String.utf8EncodeChar_eq_cons_cons_cons h3)).elim
  · exact (hi _ 0xf0 _ (by decide) (String.utf8EncodeChar_eq_cons_cons_cons_cons h4)).elim

theorem encode_ascii : ∀ (l : List Char), (∀ b ∈ l.flatMap String.utf8EncodeChar, b.toNat < 128) →
    (l.flatMap String.utf8EncodeChar).map UInt8.toNat = l.map Char.toNat
  | [], _ => rfl
  | c :: l, h => by
    simp only [List.flatMap_cons, List.mem_append] at h
    rw [List.flatMap_cons, List.map_append, List.map_cons, encodeChar_ascii c fun b hb => h b (Or.inl hb),
      encode_ascii l fun b hb => h b (Or.inr hb)]
    rfl

theorem nameCodes_of_ascii (s : String) (h : ∀ n ∈ byteCodes s, n < 128) : nameCodes s = byteCodes s := by
  have hb : s.toByteArray.data.toList = s.toList.flatMap String.utf8EncodeChar := by
    rw [← String.utf8Encode_toList]
    simp [List.utf8Encode]
  unfold byteCodes at h ⊢
  rw [hb] at h ⊢
  exact (encode_ascii s.toList fun b hb => h _ (List.mem_map_of_mem hb)).symm

def asciiCodes (s : String) : List Nat :=
  if (byteCodes s).all (· < 128) then byteCodes s else nameCodes s

theorem nameCodes_eq_asciiCodes : nameCodes = asciiCodes := by
  funext s
  unfold asciiCodes
  split
  · next h => exact nameCodes_of_ascii s (by simpa using h)
  · rfl

theorem validName_eq (n : String) : validName n = String.ofList ((validCodes (asciiCodes n)).map Char.ofNat) := by
  rw [← nameCodes_eq_asciiCodes]
  rfl

end Midgard.Sinex

namespace Midgard.Props.C14
open Midgard.Sinex

/-- the entry names under which the list-type site blocks of sinex_tms are stored -/
def tmsListEntry (e : String) : Prop := e = "site_id" ∨ e = "site_receiver" ∨ e = "site_eccentricity"

/-- a block whose parser stores nothing under `e` -/
def OtherEntry (e : String) (b : BlockDef) : Prop := ∀ q, b.kind = .custom q → entryName q ≠ e

/-- the key of `self.data` a block parser of `SinexTmsParser` writes, by the name of its method -/
def tmsKey (e : String) : String := if e = "timeseries_ref_coordinate" then "ref_coordinate" else e

/-- the block's parser does not write `self.data[k]` -/
def OtherKey (k : String) (b : BlockDef) : Prop := ∀ q, b.kind = .custom q → tmsKey (entryName q) ≠ k

theorem toList_eq_asciiCodes (s : String) : s.toList = (asciiCodes s).map Char.ofNat := by
  rw [← nameCodes_eq_asciiCodes, nameCodes, List.map_map]
  exact (List.map_id'' (fun c => Char.ofNat_toNat c) _).symm

/-- a name without blanks and without the characters NumPy deletes is its own validated name -/
theorem validName_id {n : String} (h : validCodes (asciiCodes n) = asciiCodes n) : validName n = n := by
  rw [validName_eq, h, ← toList_eq_asciiCodes, String.ofList_toList]

def entryNameA (q : String) : String :=
  match afterParse ((asciiCodes q).map Char.ofNat) with
  | some n => Midgard.Text.asString n
  | Option.none => q

theorem entryName_eq : entryName = entryNameA := by
  funext q
  unfold entryNameA
  rw [← toList_eq_asciiCodes]
  rfl

/-- a proposition about the method names of a block, decided kind by kind -/
def decideCustom (b : BlockDef) (p : String → Prop) [DecidablePred p] : Decidable (∀ q, b.kind = .custom q → p q) :=
  match b.kind with
  | .custom q => if hp : p q then isTrue fun q' h' => by cases h'; exact hp else isFalse fun H => hp (H q rfl)
  | .dflt => isTrue fun q h' => by cases h'
  | .matrix _ => isTrue fun q h' => by cases h'

instance (e : String) (b : BlockDef) : Decidable (OtherEntry e b) :=
  @decideCustom b (fun q => entryName q ≠ e) fun q =>
    decidable_of_iff (entryNameA q ≠ e) (by rw [entryName_eq])

instance (k : String) (b : BlockDef) : Decidable (OtherKey k b) :=
  @decideCustom b (fun q => tmsKey (entryName q) ≠ k) fun q =>
    decidable_of_iff (tmsKey (entryNameA q) ≠ k) (by rw [entryName_eq])

end Midgard.Props.C14
