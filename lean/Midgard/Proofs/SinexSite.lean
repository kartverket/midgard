/-
`SinexSiteParser`: what one block parser does to the site table.  Every method but `parse_file_comment` regroups
the rows of its block under its own entry name, so one statement covers them all (`siteStep_table`).
`entryRows` reads the rows of one site under one entry, `allRows` those of all sites ("no row is lost or duplicated").
`allRows` is not read off `entryRows`: the statements hold for every table, also one with a site key twice, where
`allRows` counts rows that `entryRows` (which finds the first) does not see; so each has its one-step lemma about `addRow`.
-/
import Midgard.Proofs.SinexDict
import Midgard.Proofs.SinexNames

namespace Midgard.Props.C14
open Midgard.Sinex Midgard.Text

/-- the rows stored for site `k` under entry `e` (`data[k][e]`, empty when absent) -/
def entryRows (e : String) (T : SiteTable) (k : String) : List Row := ((dget? T k).bind fun s => dget? s e).getD []

theorem entryRows_nil (e k : String) : entryRows e [] k = [] := rfl

theorem regroup_nil (single : Bool) (e : String) (keyOf : Row → String) (f : Row → Row) (T : SiteTable) :
    regroup single e keyOf f T [] = T := rfl

theorem regroup_cons (single : Bool) (e : String) (keyOf : Row → String) (f : Row → Row) (T : SiteTable) (r : Row)
    (rows : List Row) :
    regroup single e keyOf f T (r :: rows) = regroup single e keyOf f (addRow single e T (keyOf r) (f r)) rows := rfl

theorem siteGet_addRow (single : Bool) (e e' : String) (T : SiteTable) (key : String) (r : Row) (k : String) :
    ((dget? (addRow single e' T key r) k).bind fun s => dget? s e) =
      if k = key ∧ e' = e then some (if single then [r] else entryRows e T k ++ [r])
      else (dget? T k).bind fun s => dget? s e := by
  unfold addRow entryRows
  rw [dget_dset]
  by_cases hk : key = k
  · subst hk
    rw [if_pos rfl, Option.bind_some, dget_dset]
    by_cases he : e' = e
    · subst he
      cases dget? T key <;> cases single <;> simp [dget?]
    · cases dget? T key <;> simp [he, dget?]
  · simp [hk, Ne.symm hk]

theorem entryRows_addRow (single : Bool) (e e' : String) (T : SiteTable) (key : String) (r : Row) (k : String) :
    entryRows e (addRow single e' T key r) k =
      if k = key ∧ e' = e then (if single then [r] else entryRows e T k ++ [r]) else entryRows e T k := by
  rw [entryRows, siteGet_addRow]
  split <;> rfl

/-- the rows the block `b` contributes to entry `e` of the site table.  Where `antennaRow` fails, `siteStep` fails too, so
the `[]` of that case reaches no statement with `siteStep … = some …` -/
def contrib (e : String) (look : String → Option RawBlock) (b : BlockDef) : List Row :=
  match look b.marker, b.kind with
  | some r, .custom q =>
    if entryName q = e then
      (if e = "site_antenna" then ((rowsOf b 81 r).mapM antennaRow).getD [] else rowsOf b 81 r)
    else []
  | _, _ => []

/-- a step regroups the rows the block contributes to one entry `e` (`data[site][e] = row` for `site_id`, `.append(row)`
otherwise) and contributes to no other; an absent block and the FILE/COMMENT block contribute no rows at all (`e` is
then arbitrary: the proof gives `"site_id"`) -/
theorem siteStep_table (look : String → Option RawBlock) (st st1 : SiteTable × Option Str) (b : BlockDef)
    (h : siteStep look st b = some st1) :
    ∃ e, e ≠ "file_comment" ∧
      st1.1 = regroup (decide (e = "site_id")) e siteKey id st.1 (contrib e look b) ∧
      ∀ e', e' ≠ e → e' ≠ "file_comment" → contrib e' look b = [] := by
  unfold siteStep at h
  split at h
  · next r q hlook hk =>
    simp only at h
    by_cases h1 : entryName q = "file_comment"
    · rw [if_pos h1] at h
      obtain ⟨fr, _, rfl⟩ := Option.map_eq_some_iff.mp h
      refine ⟨"site_id", by decide, ?_, fun e' _ he' => ?_⟩
      · simp [contrib, hlook, hk, h1, regroup_nil]
      · simp [contrib, hlook, hk, h1, Ne.symm he']
    · rw [if_neg h1] at h
      refine ⟨entryName q, h1, ?_, fun e' he' _ => by simp [contrib, hlook, hk, Ne.symm he']⟩
      by_cases h2 : entryName q = "site_id"
      · rw [if_pos h2] at h
        cases h
        simp [contrib, hlook, hk, h2]
      · rw [if_neg h2] at h
        by_cases h3 : entryName q = "site_antenna"
        · rw [if_pos h3] at h
          obtain ⟨rows', hm, rfl⟩ := Option.map_eq_some_iff.mp h
          simp [contrib, hlook, hk, h3, hm]
        · rw [if_neg h3] at h
          cases h
          simp [contrib, hlook, hk, h2, h3]
  · cases h
  · next hlook =>
    cases h
    exact ⟨"site_id", by decide, by simp [contrib, hlook, regroup_nil], fun e' _ _ => by simp [contrib, hlook]⟩

/-- all rows stored under `entry`, over all sites, in table order -/
def allRows (entry : String) (T : SiteTable) : List Row :=
  T.flatMap fun (_, entries) => (dget? entries entry).getD []

theorem allRows_nil (e : String) : allRows e [] = [] := rfl

theorem allRows_addRow (entry : String) (T : SiteTable) (key : String) (r : Row) :
    (allRows entry (addRow false entry T key r)).Perm (allRows entry T ++ [r]) := by
  unfold addRow
  simp only [Bool.false_eq_true, if_false]
  induction T with
  | nil =>
    simp [dget?, dset, allRows]
  | cons p rest ih =>
    obtain ⟨k', s'⟩ := p
    by_cases h : k' = key
    · subst h
      simp only [dget?, if_true, Option.getD_some, dset, allRows, List.flatMap_cons, dget_dset_self]
      -- (old ++ [r]) ++ tail  ~  (old ++ tail) ++ [r]
      rw [List.append_assoc, List.append_assoc]
      exact List.Perm.append_left _ List.perm_append_comm
    · simp only [dget?, h, if_false, dset, allRows, List.flatMap_cons]
      rw [List.append_assoc]
      exact List.Perm.append_left _ ih

theorem allRows_addRow_other (single : Bool) (e e' : String) (hne : e' ≠ e) (T : SiteTable) (key : String) (r : Row) :
    allRows e (addRow single e' T key r) = allRows e T := by
  unfold addRow
  induction T with
  | nil =>
    simp only [dget?, Option.getD_none, dset, allRows, List.flatMap_cons, List.flatMap_nil, List.append_nil]
    simp [hne]
  | cons p rest ih =>
    obtain ⟨k', s'⟩ := p
    by_cases h : k' = key
    · subst h
      simp only [dget?, if_true, Option.getD_some, dset, allRows, List.flatMap_cons]
      rw [dget_dset_ne _ _ _ _ hne]
    · simp only [dget?, h, if_false, dset, allRows, List.flatMap_cons]
      simp only [allRows] at ih
      rw [ih]

theorem allRows_regroup_other (single : Bool) (e e' : String) (hne : e' ≠ e) (keyOf : Row → String) (f : Row → Row)
    (rows : List Row) : ∀ T : SiteTable, allRows e (regroup single e' keyOf f T rows) = allRows e T := fun T =>
  Lists.foldl_preserved _ (allRows e) rows T fun T r _ => allRows_addRow_other single e e' hne T _ _

theorem entryRows_regroup_other (single : Bool) (e e' : String) (hne : e' ≠ e) (keyOf : Row → String) (f : Row → Row)
    (rows : List Row) (k : String) : ∀ T : SiteTable, entryRows e (regroup single e' keyOf f T rows) k = entryRows e T k := fun T =>
  Lists.foldl_preserved _ (fun T => entryRows e T k) rows T fun T r _ => by
    rw [entryRows_addRow, if_neg fun h => hne h.2]

/-! ### the reference-frame step (`_add_ref_frame_to_solution_estimate`) as a map over the table -/

def frameRows (fr : Str) (e' : String) (rows : List Row) : List Row :=
  if e' = "solution_estimate" then rows.map fun r => dset r "ref_frame" (Cell.str fr) else rows

def frameEntries (fr : Str) (site : String) (entries : List (String × List Row)) : List (String × List Row) :=
  if site.length = 4 then entries.map fun ev => (ev.1, frameRows fr ev.1 ev.2) else entries

theorem addRefFrame_eq (fr : Str) (T : SiteTable) :
    addRefFrame (some fr) T = T.map fun kv => (kv.1, frameEntries fr kv.1 kv.2) := by
  simp only [addRefFrame]
  apply List.map_congr_left
  intro kv _
  obtain ⟨site, entries⟩ := kv
  by_cases h4 : site.length = 4
  · simp only [h4, if_true, frameEntries, Prod.mk.injEq, true_and]
    apply List.map_congr_left
    intro ev _
    obtain ⟨e', rows⟩ := ev
    by_cases h : e' = "solution_estimate" <;> simp [h, frameRows]
  · simp [h4, frameEntries]

theorem siteStep_frame_other (look : String → Option RawBlock) (st st1 : SiteTable × Option Str) (b : BlockDef)
    (hb : OtherEntry "file_comment" b) (h : siteStep look st b = some st1) : st1.2 = st.2 := by
  unfold siteStep at h
  split at h
  · next r q _ hk =>
    simp only [hb q hk, if_false] at h
    split at h
    · cases h; rfl
    · split at h
      · obtain ⟨_, _, rfl⟩ := Option.map_eq_some_iff.mp h
        rfl
      · cases h; rfl
  · cases h
  · cases h; rfl

theorem site_fold_frame (look : String → Option RawBlock) (pre post : List BlockDef) (b : BlockDef) (q : String)
    (hk : b.kind = .custom q) (hq : entryName q = "file_comment")
    (hpost : ∀ b' ∈ post, OtherEntry "file_comment" b')
    (r : RawBlock) (hr : look b.marker = some r) (st0 st : SiteTable × Option Str)
    (h : (pre ++ b :: post).foldlM (siteStep look) st0 = some st) :
    refFrame (rowsOf b 81 r) = some st.2 := by
  obtain ⟨st1, st2, _, h2, h3⟩ := Lists.foldlM_split h
  rw [Lists.foldlM_preserved Prod.snd (fun st b st1 => siteStep_frame_other look st st1 b) post st2 st hpost h3]
  unfold siteStep at h2
  simp only [hr, hk, hq, if_true] at h2
  obtain ⟨fr, hf, rfl⟩ := Option.map_eq_some_iff.mp h2
  exact hf

/-- one comment row of `parse_file_comment` -/
def refStep (acc : Option Str) (r : Row) : Option (Option Str) :=
  if startsWith "LOCAL_GEODETIC_DATUM".toList (cellStr ((r.headD ("", .none)).2)) then
    match splitOn ':' (cellStr ((r.headD ("", .none)).2)) with
    | _ :: p :: _ => some (some (strip p))
    | _ => Option.none
  else some acc

theorem refFrame_eq (rows : List Row) : refFrame rows = rows.foldlM refStep Option.none := rfl

theorem refStep_skip : ∀ (rows : List Row) (acc : Option Str),
    (∀ r ∈ rows, startsWith "LOCAL_GEODETIC_DATUM".toList (cellStr ((r.headD ("", .none)).2)) = false) →
    rows.foldlM refStep acc = some acc := by
  intro rows
  induction rows with
  | nil => intro acc _; rfl
  | cons x rest ih =>
    intro acc hx
    rw [List.foldlM_cons]
    have : refStep acc x = some acc := by
      unfold refStep
      rw [hx x (by simp)]
      rfl
    rw [this]
    exact ih acc (fun r hr => hx r (by simp [hr]))

/-- site `k` already has an entry `e` -/
def hasE (e : String) (T : SiteTable) (k : String) : Bool := ((dget? T k).bind fun s => dget? s e).isSome

theorem hasE_nil (e k : String) : hasE e [] k = false := rfl

/-- every stored entry `e` holds exactly one row -/
def SingleInv (e : String) (T : SiteTable) : Prop := ∀ kv ∈ T, ∀ rows, dget? kv.2 e = some rows → rows.length = 1

theorem length_allRows_addRow_true (e : String) (key : String) (r : Row) : ∀ T : SiteTable, SingleInv e T →
    (allRows e (addRow true e T key r)).length = (allRows e T).length + (if hasE e T key then 0 else 1) := by
  intro T
  induction T with
  | nil => intro _; simp [addRow, dset, dget?, allRows, hasE]
  | cons p rest ih =>
    intro hinv
    obtain ⟨k', s'⟩ := p
    by_cases hk : k' = key
    · subst hk
      simp only [addRow, dget?, if_true, Option.getD_some, dset, allRows, List.flatMap_cons, dget_dset_self,
        List.length_append, hasE, Option.bind_some]
      cases hs : dget? s' e with
      | none => simp <;> omega
      | some rows =>
        have := hinv (k', s') (by simp) rows hs
        simp [this] <;> omega
    · have hrest : SingleInv e rest := fun kv hkv => hinv kv (by simp [hkv])
      have := ih hrest
      simp only [addRow, if_true] at this
      simp only [addRow, dget?, hk, if_false, dset, allRows, List.flatMap_cons, List.length_append, hasE, if_true]
      simp only [allRows, hasE] at this
      rw [this]
      exact (Nat.add_assoc _ _ _).symm

theorem singleInv_addRow_true (e : String) (key : String) (r : Row) : ∀ T : SiteTable, SingleInv e T →
    SingleInv e (addRow true e T key r) := by
  intro T hinv kv hkv rows hrows
  have hmem : kv ∈ dset T key (dset ((dget? T key).getD []) e [r]) := hkv
  rw [dset_eq_config] at hmem
  -- an entry of the new table is the one just written, which holds the one row, or an old one
  rcases Config.mem_dset _ _ _ _ hmem with rfl | hold
  · rw [dget_dset_self] at hrows
    cases hrows
    rfl
  · exact hinv kv hold rows hrows

theorem hasE_addRow_true (e : String) (T : SiteTable) (key : String) (r : Row) (k' : String) :
    hasE e (addRow true e T key r) k' = (hasE e T k' || decide (k' = key)) := by
  rw [hasE, siteGet_addRow]
  by_cases hk : k' = key <;> simp [hk, hasE]

theorem contrib_other (e : String) (look : String → Option RawBlock) (b : BlockDef) (hb : OtherEntry e b) :
    contrib e look b = [] := by
  unfold contrib
  cases look b.marker with
  | none => rfl
  | some r =>
    cases hk : b.kind with
    | dflt => rfl
    | matrix _ => rfl
    | custom q => simp [hb q hk]

theorem flatMap_contrib_single (e : String) (look : String → Option RawBlock) (pre post : List BlockDef) (b : BlockDef)
    (hpre : ∀ b' ∈ pre, OtherEntry e b') (hpost : ∀ b' ∈ post, OtherEntry e b') :
    (pre ++ b :: post).flatMap (contrib e look) = contrib e look b := by
  have h1 : pre.flatMap (contrib e look) = [] := by
    rw [List.flatMap_eq_nil_iff]; exact fun b' hb' => contrib_other e look b' (hpre b' hb')
  have h2 : post.flatMap (contrib e look) = [] := by
    rw [List.flatMap_eq_nil_iff]; exact fun b' hb' => contrib_other e look b' (hpost b' hb')
  simp [List.flatMap_append, h1, h2]

end Midgard.Props.C14
