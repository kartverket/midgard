/-
C19: what `cfg[name]` of `Model/Config.lean` can answer.  The only errors are missing section and missing entry; `getItemAt`
is `getItem` together with the position, inside the chain, of the configuration the answer belongs to.  That this
configuration gives the same answer when asked alone (`getItemAt_owner`) is a fact of the model that no statement of
`Props/C19.lean` needs in full.  Mathlib-free.
-/
import Midgard.Model.Config

namespace Midgard.Props.C19
open Midgard.Config

theorem getItem_sect (c : Cfg) (rest : List Cfg) (name : String) (sec : Section) (h : dget? c.sections name = some sec) :
    getItem (c :: rest) name = .ok (.sect name sec) := by
  simp [getItem, h]

theorem getItemAt_sect (c : Cfg) (rest : List Cfg) (name : String) (sec : Section)
    (h : dget? c.sections name = some sec) : getItemAt (c :: rest) name = .ok (0, .sect name sec) := by
  simp [getItemAt, h]

theorem masterSection_error (c : Cfg) (e : Err) (h : c.masterSection = .error e) : e = .missingSection := by
  unfold Cfg.masterSection at h
  split at h
  · cases h; rfl
  · split at h
    · cases h; rfl
    · cases h

theorem sectionEntry_error (s : Section) (key : String) (e : Err)
    (h : (sectionEntry s key).map (fun x => (key, x)) = .error e) : e = .missingEntry := by
  unfold sectionEntry at h
  split at h
  · cases h
  · cases h; rfl

theorem getItem_error_missing (c : Cfg) (rest : List Cfg) (name : String) (e : Err)
    (h : getItem (c :: rest) name = .error e) : e = .missingSection ∨ e = .missingEntry := by
  simp only [getItem] at h
  split at h
  · cases h
  · split at h
    · split at h
      · cases h
      · cases h; exact Or.inr rfl
    · split at h
      · cases h
      · cases h; exact Or.inl rfl

theorem getItemAt_getItem (chain : List Cfg) (name : String) :
    (getItemAt chain name).map (·.2) = getItem chain name := by
  induction chain with
  | nil => rfl
  | cons c rest ih =>
    simp only [getItemAt, getItem]
    cases dget? c.sections name with
    | some s => rfl
    | none =>
      simp only
      cases c.masterSection with
      | ok r => obtain ⟨mn, m⟩ := r; simp only; cases dget? m name <;> rfl
      | error e =>
        simp only
        rw [← ih]
        cases getItemAt rest name <;> rfl

theorem getItemAt_owner (chain : List Cfg) (name : String) (d : Nat) (it : Item)
    (h : getItemAt chain name = .ok (d, it)) : ∃ c, chain[d]? = some c ∧ getItemAt [c] name = .ok (0, it) := by
  induction chain generalizing d it with
  | nil => cases h
  | cons c rest ih =>
    simp only [getItemAt] at h ⊢
    split at h
    · cases h; exact ⟨c, rfl, by simp [*]⟩
    · split at h
      · split at h
        · cases h; exact ⟨c, rfl, by simp [*]⟩
        · cases h
      · split at h
        · rename_i r hr
          cases h
          obtain ⟨c', h1, h2⟩ := ih _ _ hr
          exact ⟨c', by simpa using h1, h2⟩
        · cases h

theorem getItemAt_lt (chain : List Cfg) (name : String) (d : Nat) (it : Item)
    (h : getItemAt chain name = .ok (d, it)) : d < chain.length := by
  obtain ⟨c, hc, _⟩ := getItemAt_owner chain name d it h
  exact (List.getElem?_eq_some_iff.1 hc).1

theorem sectionEntry_map_ok {α} (s : Section) (key : String) (f : Entry → α) (r : α)
    (h : (sectionEntry s key).map f = .ok r) : ∃ e, r = f e := by
  cases hs : sectionEntry s key with
  | error e => rw [hs] at h; cases h
  | ok e => rw [hs] at h; cases h; exact ⟨e, rfl⟩

theorem varsAt_succ (c : Cfg) (rest : List Cfg) (d : Nat) : varsAt (c :: rest) (d + 1) = varsAt rest d := by
  simp [varsAt]

end Midgard.Props.C19

#print axioms Midgard.Props.C19.getItem_sect
#print axioms Midgard.Props.C19.getItemAt_sect
#print axioms Midgard.Props.C19.masterSection_error
#print axioms Midgard.Props.C19.sectionEntry_error
#print axioms Midgard.Props.C19.getItem_error_missing
#print axioms Midgard.Props.C19.getItemAt_getItem
#print axioms Midgard.Props.C19.getItemAt_owner
#print axioms Midgard.Props.C19.getItemAt_lt
#print axioms Midgard.Props.C19.sectionEntry_map_ok
#print axioms Midgard.Props.C19.varsAt_succ
