/-
C09 — `extend` at the level of one leaf field: what a successful padding / extension of a leaf did (`padLeaf_ok`,
`extendLeaf_ok`: the guards passed and ONE array-level operation ran), and what `FieldType.extend` of a leaf gives
(`extendLeaf_full`: `n + m` rows; for a plain kind the rows of other appended).
-/
import Midgard.Proofs.DatasetShape
import Midgard.Proofs.DatasetInsert
import Midgard.Model.DatasetRecords

namespace Midgard.Dataset

theorem absField_leaf {h : Heap} {n : String} {k : Kind} {o no : Nat} {u : Option (List String)} {l : Nat} {ob : Obj}
    (hh : h[o]? = some ob) : absField h (.leaf n k o no u l) = .leaf n k ob.ndim ob.cols u l ob.rows := by
  simp only [absField, hh]

theorem rect_zero {h : Heap} {n : Nat} {f : Field} (hr : RectField h n f) : RectField h (n + 0) f := by
  simpa using hr

theorem leaf_rect_of_good {h : Heap} {k : Nat} {nm : String} {kd : Kind} {o : Nat} {u : Option (List String)} {l : Nat}
    (g : Good h k o) : RectField h k (.leaf nm kd o (objLen h o) u l) :=
  rectField_leaf_iff.mpr ⟨g, g.objLen⟩

/-- **what a successful `prepend_empty` / `append_empty` of a leaf did**: the array exists and has the kind of the field, and
`n` empty rows went in at the front or at the field's `num_obs` — by `np.insert` (plain kinds), or by `insert` of a
temporary empty array `e` that is taken out of the memo again (for the delta kinds with its own empty `ref_pos`) -/
theorem padLeaf_ok {front : Bool} {n : Nat} {nm : String} {k : Kind} {o no : Nat} {u : Option (List String)} {l : Nat}
    {s : St} {f' : Field} {s' : St} (h : padField front n (.leaf nm k o no u l) s = .ok (f', s')) :
    ∃ ob o', s.heap[o]? = some ob ∧ ob.kind = k ∧ f' = .leaf nm k o' (objLen s'.heap o') u l ∧
      ((k.isPlain = true ∧
          insertPlain o (if front then 0 else no) (List.replicate n (emptyRow k ob.cols)) s = .ok (o', s')) ∨
       (k.isPlain = false ∧ k.isDelta = false ∧ ∃ e s1, e = emptyObj k ob.ndim ob.cols n ∧
          insertObj ((s.alloc e).2.heap.length + 1) o (if front then 0 else no) s.heap.length (s.alloc e).2 = .ok (o', s1) ∧
          s' = s1.pop s.heap.length) ∨
       (k.isDelta = true ∧ ∃ er e s1, er = emptyObj k.refKind 2 (if k == .posvelDelta then 6 else 3) n ∧
          e = { emptyObj k ob.ndim ob.cols n with refPos := some s.heap.length } ∧
          insertObj (((s.alloc er).2.alloc e).2.heap.length + 1) o (if front then 0 else no) (s.alloc er).2.heap.length
            ((s.alloc er).2.alloc e).2 = .ok (o', s1) ∧
          s' = (s1.pop (s.alloc er).2.heap.length).pop s.heap.length)) := by
  unfold padField at h
  cases hob : s.heap[o]? with
  | none => simp [hob] at h
  | some ob =>
    simp only [hob] at h
    by_cases hg : (ob.kind != k || (padRefused n ob && (s.find o).isNone)) = true
    · rw [if_pos hg] at h
      split at h <;> cases h
    rw [if_neg hg] at h
    have hkind : ob.kind = k := by
      have : ¬ (ob.kind != k) = true := fun hc => hg (by rw [hc]; rfl)
      simpa using this
    obtain ⟨o', s1, hr, h⟩ := bindObj_ok h
    cases h
    refine ⟨ob, o', rfl, hkind, rfl, ?_⟩
    by_cases hp : k.isPlain = true
    · rw [if_pos hp] at hr
      exact Or.inl ⟨hp, hr⟩
    rw [if_neg hp] at hr
    by_cases hd : k.isDelta = true
    · rw [if_pos hd] at hr
      obtain ⟨r, s2, hins, hr⟩ := bindObj_ok hr
      cases hr
      exact Or.inr (Or.inr ⟨hd, _, _, s2, rfl, rfl, hins, rfl⟩)
    · rw [if_neg hd] at hr
      obtain ⟨r, s2, hins, hr⟩ := bindObj_ok hr
      cases hr
      exact Or.inr (Or.inl ⟨by simpa using hp, by simpa using hd, _, s2, rfl, hins, rfl⟩)

theorem extendLeaf_leaf {us : Units} {nm : String} {k : Kind} {o no : Nat} {u : Option (List String)} {l : Nat}
    {g : Field} {s : St} {f' : Field} {s' : St} (h : extendLeaf us nm k o no u l g s = .ok (f', s')) :
    ∃ nm2 o2 no2 u2 l2, g = .leaf nm2 k o2 no2 u2 l2 := by
  cases g with
  | coll => cases h
  | leaf nm2 k2 o2 no2 u2 l2 =>
    unfold extendLeaf at h
    obtain ⟨hk, _⟩ := guard_ok h
    cases (by simpa using hk : k = k2)
    exact ⟨nm2, o2, no2, u2, l2, rfl⟩

/-- **what a successful `FieldType.extend` of a leaf did**: both arrays exist and have the kind of the fields, and exactly
one array-level operation ran — `insert` with the memo (time, position and delta kinds), `np.insert` of the other rows
(plain kinds; float rows times the unit factors), or `insert` of the freshly scaled copy `t` of the other array (sigma) -/
theorem extendLeaf_ok {us : Units} {nm : String} {k : Kind} {o no : Nat} {u : Option (List String)} {l : Nat}
    {nm2 : String} {o2 no2 : Nat} {u2 : Option (List String)} {l2 : Nat} {s : St} {f' : Field} {s' : St}
    (h : extendLeaf us nm k o no u l (.leaf nm2 k o2 no2 u2 l2) s = .ok (f', s')) :
    ∃ oa ob o', s.heap[o]? = some oa ∧ s.heap[o2]? = some ob ∧
      oa.kind = k ∧ ob.kind = k ∧ f' = .leaf nm k o' (objLen s'.heap o') u l ∧
      ((k.isPlain = false ∧ k ≠ .sigma ∧ insertObj (s.heap.length + 1) o no o2 s = .ok (o', s')) ∨
       (k.isPlain = true ∧ oa.ndim = ob.ndim ∧ oa.cols = ob.cols ∧ ∃ brows, insertPlain o no brows s = .ok (o', s') ∧
          ((k = .float ∧ ∃ fs, unitFactors us u u2 = .ok fs ∧ brows = ob.rows.map (scaleRow fs)) ∨
           (k ≠ .float ∧ brows = ob.rows))) ∨
       (k = .sigma ∧ oa.ndim = ob.ndim ∧ ∃ fs t, unitFactors us u u2 = .ok fs ∧
          t = { ob with rows := ob.rows.map (scaleRow fs) } ∧
          insertObj ((s.alloc t).2.heap.length + 1) o no (s.alloc t).1 (s.alloc t).2 = .ok (o', s'))) := by
  unfold extendLeaf at h
  obtain ⟨_, h1⟩ := guard_ok h
  clear h
  cases hoa : s.heap[o]? with
  | none => simp [hoa] at h1
  | some oa =>
    cases hob : s.heap[o2]? with
    | none => simp [hoa, hob] at h1
    | some ob =>
      simp only [hoa, hob] at h1
      obtain ⟨hg, h⟩ := guard_ok h1
      simp only [Bool.or_eq_true, bne_iff_ne, ne_eq, not_or, Decidable.not_not] at hg
      obtain ⟨o', s1, hr, h⟩ := bindObj_ok h
      cases h
      refine ⟨oa, ob, o', rfl, rfl, hg.1, hg.2, rfl, ?_⟩
      by_cases hd : k.isDelta = true
      · rw [if_pos hd] at hr
        exact Or.inl ⟨Kind.not_plain_of_delta hd, (fun e => by rw [e] at hd; cases hd), hr⟩
      rw [if_neg hd] at hr
      obtain ⟨hn, hr⟩ := guard_ok hr
      have hn' : oa.ndim = ob.ndim := by simpa using hn
      by_cases hf : k = .float
      · cases hf
        rw [if_pos (beq_self_eq_true _)] at hr
        cases hfs : unitFactors us u u2 with
        | error e => rw [hfs] at hr; cases hr
        | ok fs =>
          rw [hfs] at hr
          obtain ⟨hc, hr⟩ := guard_ok hr
          exact Or.inr (Or.inl ⟨rfl, hn', by simpa using hc, _, hr, Or.inl ⟨rfl, fs, rfl, rfl⟩⟩)
      rw [if_neg (by simpa using hf)] at hr
      by_cases hs : k = .sigma
      · cases hs
        rw [if_pos (beq_self_eq_true _)] at hr
        cases hfs : unitFactors us u u2 with
        | error e => rw [hfs] at hr; cases hr
        | ok fs =>
          rw [hfs] at hr
          exact Or.inr (Or.inr ⟨rfl, hn', fs, _, rfl, rfl, hr⟩)
      rw [if_neg (by simpa using hs)] at hr
      by_cases hp : k.isPlain = true
      · rw [if_pos hp] at hr
        obtain ⟨hc, hr⟩ := guard_ok hr
        exact Or.inr (Or.inl ⟨hp, hn', by simpa using hc, _, hr, Or.inr ⟨hf, rfl⟩⟩)
      · rw [if_neg hp] at hr
        exact Or.inl ⟨by simpa using hp, hs, hr⟩

/-- the kinds whose `_extend` is `insert` with the memo (time, time delta, the position kinds), the memo having seen neither
array -/
theorem extendLeaf_insert_rows {us : Units} {nm : String} {k : Kind} (hnp : k.isPlain = false) (hns : k ≠ .sigma)
    {o no : Nat} {u : Option (List String)} {l : Nat}
    {nm2 : String} {o2 no2 : Nat} {u2 : Option (List String)} {l2 : Nat} {s : St} {f' : Field} {s' : St}
    (h : extendLeaf us nm k o no u l (.leaf nm2 k o2 no2 u2 l2) s = .ok (f', s'))
    (ha : s.find o = none) (hb : s.find o2 = none) :
    ∃ oa ob o' no' orr, s.heap[o]? = some oa ∧ s.heap[o2]? = some ob ∧
      f' = .leaf nm k o' no' u l ∧ s'.heap[o']? = some orr ∧
      orr.rows = insertAt oa.rows no (convRows s.conv oa.tag ob) ∧ orr.tag = oa.tag ∧ no' = orr.rows.length := by
  obtain ⟨oa, ob, o', hoa, hob, _, _, rfl, hop⟩ := extendLeaf_ok h
  rcases hop with ⟨_, _, hins⟩ | ⟨hp, _⟩ | ⟨hs, _⟩
  · obtain ⟨oa', ob', oth, rp, s2, q1, q2, rfl, rfl⟩ := insertObj_miss hins ha hb
    rw [hoa] at q1
    cases q1
    rw [hob] at q2
    cases q2
    exact ⟨oa, ob, _, _, _, hoa, hob, rfl, alloc_get s2 _, rfl, rfl, objLen_of_get (alloc_get s2 _)⟩
  · rw [hnp] at hp
    cases hp
  · exact absurd hs hns

theorem extendLeaf_full {us : Units} {n m : Nat} {nm : String} {k : Kind} {o no : Nat} {u : Option (List String)}
    {l : Nat} {g : Field} {s : St} {f' : Field} {s' : St}
    (h : extendLeaf us nm k o no u l g s = .ok (f', s')) (hm : MemoGood (n + m) s)
    (hr : RectField s.heap n (.leaf nm k o no u l)) (hg : RectField s.heap m g) :
    (ExtOK (n + m) s s' ∧ RectField s'.heap (n + m) f' ∧ WFF f' ∧ f'.name = nm) ∧
      (k.isPlain = true →
        aExtend us n m (absField s.heap (.leaf nm k o no u l)) (absField s.heap g) = some (absField s'.heap f')) := by
  obtain ⟨nm2, o2, no2, u2, l2, rfl⟩ := extendLeaf_leaf h
  obtain ⟨oa, ob, o', hoa, hob, hka, hkb, rfl, hop⟩ := extendLeaf_ok h
  rw [rectField_leaf_iff] at hr hg
  obtain ⟨ob', hb1, hb2, _, _⟩ := hg.1.dest
  rw [hob] at hb1; cases hb1
  refine ⟨?_, fun hp => ?_⟩
  · have key : ExtOK (n + m) s s' ∧ Good s'.heap (n + m) o' := by
      rcases hop with ⟨_, _, hins⟩ | ⟨_, _, _, brows, hins, hb⟩ | ⟨hks, _, fs, t, _, rfl, hins⟩
      · exact insertObj_spec n m _ o no o2 s o' s' hins hm hr.1 hg.1
      · refine insertPlain_spec hins hm hr.1 ?_
        rcases hb with ⟨_, fs, _, rfl⟩ | ⟨_, rfl⟩
        · rw [List.length_map, hb2]
        · exact hb2
      · -- the scaled copy of the other array has `m` rows and, being a sigma array, no attachments
        have e0 := HeapExt.alloc s { ob with rows := ob.rows.map (scaleRow fs) }
        have gt : Good (s.alloc { ob with rows := ob.rows.map (scaleRow fs) }).2.heap m
            (s.alloc { ob with rows := ob.rows.map (scaleRow fs) }).1 :=
          Good.mk (alloc_get s _) (by rw [List.length_map, hb2])
            (fun x hx => by rw [show ob.kind = .sigma from hkb.trans hks] at hx; cases hx)
            (fun x hx => by rw [show ob.kind = .sigma from hkb.trans hks] at hx; cases hx)
        obtain ⟨⟨e1, m1⟩, g1⟩ := insertObj_spec n m _ o no _ _ o' s' hins (hm.alloc _) (hr.1.ext e0) gt
        exact ⟨⟨e0.trans e1, m1⟩, g1⟩
    exact ⟨key.1, leaf_rect_of_good key.2, wff_leaf .., rfl⟩
  · obtain ⟨oa0, ha1, ha2, _, _⟩ := hr.1.dest
    rw [hoa] at ha1; cases ha1
    have hlen : no = oa.rows.length := by rw [ha2, hr.2]
    rcases hop with ⟨hnp, _⟩ | ⟨_, endim, ecols, brows, hins, hb⟩ | ⟨hs, _⟩
    · rw [hp] at hnp; cases hnp
    · obtain ⟨oa', orr, q1, q2, q3, _, q5, q6⟩ := insertPlain_rows hins
      rw [hoa] at q1; cases q1
      have hcond : (oa.ndim != ob.ndim || oa.cols != ob.cols) = false := by simp [endim, ecols]
      rw [absField_leaf hoa, absField_leaf hob, absField_leaf q2]
      simp only [aExtend, aExtendLeaf, bne_self_eq_false, Bool.false_or, hcond, Bool.false_eq_true, if_false, q3, q5,
        q6, hlen, insertAt_end]
      rcases hb with ⟨rfl, fs, hfs, rfl⟩ | ⟨hnf, rfl⟩
      · simp only [beq_self_eq_true, if_true, hfs]
      · have hf : (k == Kind.float) = false := by simpa using hnf
        simp only [hf, Bool.false_eq_true, if_false, hp, if_true]
    · rw [hs] at hp; cases hp

end Midgard.Dataset
