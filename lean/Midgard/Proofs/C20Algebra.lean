/-
C20 — field and floor algebra over ℚ about three groups of definitions of `Model/Numeric.lean`: unit factors and the
lookup by name; sign-and-magnitude floats and the degree/minute/second fields (the fields recombine by algebra alone,
their ranges come from `floor`); angles modulo 360 (`np.mod(·, 360)` of gsdtime_sun).
-/
import Midgard.Model.Numeric
import Mathlib.Tactic.Ring
import Mathlib.Tactic.FieldSimp
import Mathlib.Tactic.Linarith
import Mathlib.Tactic.Positivity
import Mathlib.Data.Rat.Floor

namespace Midgard.Proofs.C20
open Midgard.Numeric Midgard.Generated.C20

theorem unitFactor_pos (u : UnitRow) (p : ℚ) (hq : 0 < u.q) (hp : 0 < p) : 0 < unitFactor u p := by
  unfold unitFactor
  split
  · exact mul_pos hq hp
  · exact hq

theorem convRow_eq_some (a b : UnitRow) (p x : ℚ) :
    convRow a b p = some x ↔ a.dim = b.dim ∧ unitFactor a p / unitFactor b p = x := by
  unfold convRow
  split <;> simp [*]

theorem conv_eq_some (a b : String) (p : ℚ) (r : Option ℚ) :
    conv a b p = some r ↔
      ∃ ua ub, findUnit units a = some ua ∧ findUnit units b = some ub ∧ convRow ua ub p = r := by
  simp [conv, Option.bind_eq_some_iff]

theorem eq_of_findUnit (tbl : List UnitRow) (hnd : (tbl.map (·.name)).Nodup) (r u : UnitRow) (hu : u ∈ tbl)
    (hn : u.name = r.name) (hf : findUnit tbl r.name = none ∨ findUnit tbl r.name = some r) : u = r := by
  rcases hf with hf | hf
  · exact absurd (beq_iff_eq.mpr hn) (List.find?_eq_none.mp hf u hu)
  · exact List.inj_on_of_nodup_map hnd hu (List.mem_of_find?_eq_some hf) hn

theorem SF_ofRat_val (q : ℚ) (nz : Bool) : (SF.ofRat q nz).val = q := by
  unfold SF.ofRat SF.val
  split
  · simp
  · split
    · rename_i h; cases nz <;> simp [h]
    · simp

theorem SF_ofRat_mag_nonneg (q : ℚ) (nz : Bool) : 0 ≤ (SF.ofRat q nz).mag := by
  unfold SF.ofRat
  split
  · simp only; linarith
  · split
    · simp
    · simp only; linarith

theorem SF_scale_val (r : SF) (c : ℚ) : (SF.mk r.neg (r.mag * c)).val = r.val * c := by
  unfold SF.val; split <;> ring

theorem SF_ofRat_of_pos {q : ℚ} (nz : Bool) (hq : 0 < q) : SF.ofRat q nz = ⟨false, q⟩ := by
  simp [SF.ofRat, not_lt.mpr hq.le, hq.ne']

theorem SF_ofRat_of_neg {q : ℚ} (nz : Bool) (hq : q < 0) : SF.ofRat q nz = ⟨true, -q⟩ := by
  simp [SF.ofRat, hq]

/-- pure algebra: no property of `floor` is needed -/
theorem dms_recombine (D : ℚ) :
    (D.floor : ℚ) + ((frac1 D * 60).floor : ℚ) * (1 / 60) + frac1 (frac1 D * 60) * 60 * (1 / 3600) = D := by
  unfold frac1; ring

theorem degrees_cancel (p x : ℚ) (hp : p ≠ 0) : x * d2r p * r2d p = x := by
  unfold d2r r2d; field_simp

/-- `TimeArith.frac_range` of Proofs/TimeRound.lean for the model's `frac1` (not imported: it would bring `Model/TimeArith`) -/
theorem frac1_range (x : ℚ) : 0 ≤ frac1 x ∧ frac1 x < 1 := by
  unfold frac1
  have h1 := Rat.floor_le x
  have h2 := Rat.lt_floor_add_one x
  push_cast at h2
  constructor <;> linarith

theorem degToDms_fields (p : ℚ) (hp : 0 < p) (x : SF) :
    degToDms p x = (⟨x.neg && x.mag != 0, (x.mag.floor : ℚ)⟩, ((frac1 x.mag * 60).floor : ℚ),
      frac1 (frac1 x.mag * 60) * 60) := by
  have hd : d2r p ≠ 0 := by unfold d2r; positivity
  unfold degToDms radToDms
  simp only [degrees_cancel p x.mag (ne_of_gt hp)]
  congr 2
  have : (x.mag * d2r p != 0) = (x.mag != 0) := by
    by_cases h : x.mag = 0
    · simp [h]
    · rw [bne_iff_ne.mpr (mul_ne_zero h hd), bne_iff_ne.mpr h]
  rw [this]

theorem dms_roundtrip_eq (p : ℚ) (hp : 0 < p) (x : SF) (hx : 0 < x.mag) :
    dmsToDeg p (degToDms p x).1 (degToDms p x).2.1 (degToDms p x).2.2 = x := by
  rw [degToDms_fields p hp x]
  simp only [dmsToDeg, dmsToRad, dms_recombine]
  have hd : 0 < d2r p := div_pos hp (by norm_num)
  rcases x with ⟨n, D⟩
  have hD : (D != 0) = true := bne_iff_ne.mpr (ne_of_gt hx)
  have hpos : 0 < D * d2r p := mul_pos hx hd
  cases n
  · simp only [Bool.false_and, Bool.false_eq_true, if_false, one_mul]
    rw [SF_ofRat_of_pos _ hpos, degrees_cancel p D hp.ne']
  · simp only [Bool.true_and, hD, if_true]
    have : (-1 : ℚ) * D * d2r p < 0 := by linarith
    rw [SF_ofRat_of_neg _ this, show -((-1 : ℚ) * D * d2r p) = D * d2r p by ring, degrees_cancel p D hp.ne']

theorem dms_fields_range (D : ℚ) :
    (0 : ℚ) ≤ ((frac1 D * 60).floor : ℚ) ∧ ((frac1 D * 60).floor : ℚ) < 60 ∧
    0 ≤ frac1 (frac1 D * 60) * 60 ∧ frac1 (frac1 D * 60) * 60 < 60 := by
  obtain ⟨a1, a2⟩ := frac1_range D
  obtain ⟨b1, b2⟩ := frac1_range (frac1 D * 60)
  have h0 : (0 : ℤ) ≤ (frac1 D * 60).floor := Rat.le_floor_iff.mpr (by push_cast; linarith)
  have h1 : (frac1 D * 60).floor < (60 : ℤ) := Rat.floor_lt_iff.mpr (by push_cast; linarith)
  refine ⟨by exact_mod_cast h0, by exact_mod_cast h1, by linarith, by linarith⟩

/-- Mathlib's `Int.floor_add_intCast` in the model's spelling (`Rat.floor` is the floor of the `FloorRing ℚ`) -/
theorem floor_add_int (x : ℚ) (k : ℤ) : (x + k).floor = x.floor + k := Int.floor_add_intCast x k

theorem fmod360_range (q : ℚ) : 0 ≤ fmod360 q ∧ fmod360 q < 360 := by
  unfold fmod360
  have h1 := Rat.floor_le (q / 360)
  have h2 := Rat.lt_floor_add_one (q / 360)
  push_cast at h2
  constructor <;> linarith

theorem fmod360_add_turns (q : ℚ) (k : ℤ) : fmod360 (q + 360 * k) = fmod360 q := by
  unfold fmod360
  have e : (q + 360 * (k : ℚ)) / 360 = q / 360 + k := by field_simp
  rw [e, floor_add_int]
  push_cast
  ring

theorem fmod360_fmod360_add (q r : ℚ) : fmod360 (fmod360 q + r) = fmod360 (q + r) := by
  have e : fmod360 q + r = (q + r) + 360 * ((-(q / 360).floor : ℤ) : ℚ) := by
    unfold fmod360; push_cast; ring
  rw [e, fmod360_add_turns]

end Midgard.Proofs.C20
