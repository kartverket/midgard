/-
C10 — reading the fields: what reading a list of fields does to the injection `ρ` the read builds (`RPost`), and how an array
group is obtained through the memo (`obtainArr`).  When arrays may be shared between fields a plain array (one whose `_read` does
not enter it in the memo) can be read before the field that stores it is visited.  `Fr` is what keeps it from being read twice:
a plain array that has been read and whose array group is still to be visited as a field is known to the memo under that
group's path.
-/
import Midgard.Proofs.H5Read
import Midgard.Proofs.H5WriteFields

namespace Midgard.H5
open Midgard.Dataset

theorem renameFields_cons (φ : Nat → Nat) (f : Field) (fs : List Field) :
    renameFields φ (f :: fs) = renameField φ f :: renameFields φ fs := by
  cases f <;> simp [renameFields, renameField]

theorem renameFields_congr (φ φ' : Nat → Nat) (fs : List Field) (hc : ∀ o ∈ leafObjs fs, φ o = φ' o) :
    renameFields φ fs = renameFields φ' fs := by
  induction fs using leafObjs.induct with
  | case1 => simp [renameFields]
  | case2 nm k o no u l fs ih =>
    simp only [renameFields]
    rw [hc o (by simp [leafObjs]), ih (fun x hx => hc x (by simp [leafObjs, hx]))]
  | case3 nm no l sub fs ih1 ih2 =>
    simp only [renameFields]
    rw [ih1 (fun x hx => hc x (by simp [leafObjs, hx])), ih2 (fun x hx => hc x (by simp [leafObjs, hx]))]

theorem renameField_congr (φ φ' : Nat → Nat) (f : Field) (hc : ∀ o ∈ leafObjs [f], φ o = φ' o) :
    renameField φ f = renameField φ' f := by
  have := renameFields_congr φ φ' [f] hc
  rw [renameFields_cons, renameFields_cons] at this
  exact (List.cons.inj this).1

/-- the map `old object ↦ new object` of an association list; total, with the value 0 on objects that have not been read: the
theorems speak of it on the objects read (the reachable ones) only -/
def phi (ρ : Rho) : Nat → Nat := fun x => (ρ.lookup x).getD 0

theorem phi_of_lookup {ρ : Rho} {x n : Nat} (h : ρ.lookup x = some n) : phi ρ x = n := by simp [phi, h]

theorem renameField_ext {f : Field} {ρ1 ρ2 : Rho} (hdom : ∀ o ∈ leafObjs [f], ρ1.lookup o ≠ none) (hext : Ext ρ1 ρ2) :
    renameField (phi ρ1) f = renameField (phi ρ2) f := by
  refine renameField_congr _ _ f fun o ho => ?_
  obtain ⟨n, hl⟩ := Option.ne_none_iff_exists'.mp (hdom o ho)
  rw [phi_of_lookup hl, phi_of_lookup (hext o n hl)]

theorem fieldsOK_cons (h : Heap) (n : Nat) (f : Field) (fs : List Field) (hok : fieldsOK h n (f :: fs) = true) :
    fieldsOK h n [f] = true ∧ fieldsOK h n fs = true := by
  cases f <;> simp_all [fieldsOK]

theorem fieldsOK_leaf {h : Heap} {n : Nat} {nm : String} {k : Kind} {o no : Nat} {u : Option (List String)} {l : Nat}
    (hok : fieldsOK h n [.leaf nm k o no u l] = true) : o < h.length ∧ no = objLen h o ∧ unitOK u = true := by
  simp_all [fieldsOK]

theorem fieldsOK_coll {h : Heap} {n : Nat} {nm : String} {no l : Nat} {sub : List Field}
    (hok : fieldsOK h n [.coll nm no l sub] = true) : no = n ∧ fieldsOK h n sub = true := by
  simp_all [fieldsOK]

theorem readUnit_ok (u : Option (List String)) (hu : unitOK u = true) : readUnit u = u :=
  readUnit_id u fun us h => by subst h; exact hu

theorem withRef_rows (ob : Obj) (r : Option Nat) : (ob.strip.withRef r).rows = ob.rows := by
  simp only [Obj.withRef, Obj.strip]
  by_cases hk : ob.kind.hasOther = true <;> simp [hk]

theorem lastName_snoc (p : Path) (nm : String) : lastName (p ++ [nm]) = nm := by
  simp [lastName]

theorem lastName_single (nm : String) : lastName [nm] = nm := by
  simp [lastName]

theorem fieldsDepth_cons (f : Field) (fs : List Field) {d : Nat} (hd : fieldsDepth (f :: fs) ≤ d) :
    fieldsDepth [f] ≤ d ∧ fieldsDepth fs ≤ d := by
  cases f <;> simp only [fieldsDepth] at hd ⊢ <;> omega

/-- what reading the fields `fs` (flattened: the objects `leafObjs fs`) does to the injection -/
structure RPost (h : Heap) (file : File) (fs : List Field) (ρ : Rho) (s' : RSt) (ρ' : Rho) : Prop where
  inv : RInv h file ρ' s'
  ext : Ext ρ ρ'
  dom : ∀ o ∈ leafObjs fs, ρ'.lookup o ≠ none
  new : ∀ z, ρ'.lookup z ≠ none → ρ.lookup z ≠ none ∨ z ∈ leafObjs fs ∨ Registers h z

theorem RPost.cons {h : Heap} {file : File} {f : Field} {fs : List Field} {ρ ρ1 ρ2 : Rho} {s1 s2 : RSt}
    (p1 : RPost h file [f] ρ s1 ρ1) (p2 : RPost h file fs ρ1 s2 ρ2) : RPost h file (f :: fs) ρ s2 ρ2 where
  inv := p2.inv
  ext := p1.ext.trans p2.ext
  dom := by
    intro o ho
    rw [leafObjs_cons] at ho
    rcases List.mem_append.mp ho with ho | ho
    · obtain ⟨n, hl⟩ := Option.ne_none_iff_exists'.mp (p1.dom o ho)
      rw [p2.ext o n hl]
      exact Option.some_ne_none n
    · exact p2.dom o ho
  new := by
    intro z hz
    rw [leafObjs_cons]
    rcases p2.new z hz with h0 | h0 | h0
    · rcases p1.new z h0 with h1 | h1 | h1
      · exact Or.inl h1
      · exact Or.inr (Or.inl (List.mem_append_left _ h1))
      · exact Or.inr (Or.inr h1)
    · exact Or.inr (Or.inl (List.mem_append_right _ h0))
    · exact Or.inr (Or.inr h0)

theorem set_lookup_self (s : RSt) (k : Path) (v : Nat) : (s.set k v).memo.lookup k = some v := by
  simp only [RSt.set, List.lookup_cons_self]

theorem leafPaths_prefix (fs : List Field) (pre : Path) (e : Nat × Path) (he : e ∈ leafPaths fs pre) :
    ∃ n ∈ Midgard.Dataset.names fs, ∃ r, e.2 = pre ++ n :: r := by
  induction fs, pre using leafPaths.induct with
  | case1 => simp [leafPaths] at he
  | case2 nm k o no u l fs pre ih =>
    simp only [leafPaths, List.mem_cons] at he
    rcases he with rfl | he
    · exact ⟨nm, by simp [Midgard.Dataset.names, Field.name], [], rfl⟩
    · obtain ⟨n, hn, r, hr⟩ := ih he
      exact ⟨n, by simp only [Midgard.Dataset.names, List.map_cons, List.mem_cons]; exact Or.inr hn, r, hr⟩
  | case3 nm no l sub fs pre ih1 ih2 =>
    simp only [leafPaths, List.mem_append] at he
    rcases he with he | he
    · obtain ⟨n, _, r, hr⟩ := ih1 he
      exact ⟨nm, by simp [Midgard.Dataset.names, Field.name], n :: r, by rw [hr]; simp⟩
    · obtain ⟨n, hn, r, hr⟩ := ih2 he
      exact ⟨n, by simp only [Midgard.Dataset.names, List.map_cons, List.mem_cons]; exact Or.inr hn, r, hr⟩

theorem path_head_inj {pre : Path} {n m : String} {r r' : Path} (h : pre ++ n :: r = pre ++ m :: r') : n = m := by
  have := List.append_cancel_left h
  exact (List.cons.inj this).1

theorem leafPaths_nodup (fs : List Field) (pre : Path) (hn : namesOK fs = true) : ((leafPaths fs pre).map Prod.snd).Nodup := by
  induction fs, pre using leafPaths.induct with
  | case1 => simp [leafPaths]
  | case2 nm k o no u l fs pre ih =>
    obtain ⟨hname, _, hn2⟩ := namesOK_cons _ _ hn
    simp only [leafPaths, List.map_cons, List.nodup_cons]
    refine ⟨fun hin => ?_, ih hn2⟩
    obtain ⟨e, he, heq⟩ := List.mem_map.mp hin
    obtain ⟨n, hnn, r, hr⟩ := leafPaths_prefix fs pre e he
    rw [hr] at heq
    cases path_head_inj (r' := []) heq
    exact hname hnn
  | case3 nm no l sub fs pre ih1 ih2 =>
    obtain ⟨hname, hn1, hn2⟩ := namesOK_cons _ _ hn
    simp only [leafPaths, List.map_append]
    refine List.nodup_append.mpr ⟨ih1 (namesOK_coll hn1), ih2 hn2, fun a ha b hb hab => ?_⟩
    subst hab
    obtain ⟨e1, he1, heq1⟩ := List.mem_map.mp ha
    obtain ⟨e2, he2, heq2⟩ := List.mem_map.mp hb
    obtain ⟨n1, _, r1, hr1⟩ := leafPaths_prefix sub (pre ++ [nm]) e1 he1
    obtain ⟨n2, hnn2, r2, hr2⟩ := leafPaths_prefix fs pre e2 he2
    have : pre ++ nm :: n1 :: r1 = pre ++ n2 :: r2 := by
      rw [← hr2, heq2, ← heq1, hr1]; simp
    cases path_head_inj this
    exact hname hnn2

/-- a plain array (bool, float, text, sigma: its `_read` does not enter it in the memo) that has been read and whose
array group is still to be visited as a field (`T`) is known to the memo under the path of that group -/
def Fr (h : Heap) (file : File) (ρ : Rho) (s : RSt) (T : List Path) : Prop :=
  ∀ x, ¬ Registers h x → ρ.lookup x ≠ none → ∀ P gt, lookupGrp file.groups P = some gt → gt.isArr = true → gt.src = x →
    P ∈ T → s.memo.lookup P ≠ none

theorem Fr.sub {h : Heap} {file : File} {ρ : Rho} {s s' : RSt} {T T' : List Path} (f : Fr h file ρ s T)
    (hm : MemoMono s s') (ht : ∀ P ∈ T', P ∈ T) : Fr h file ρ s' T' :=
  fun x hr hx P gt hl ha hs hP => hm P (f x hr hx P gt hl ha hs (ht P hP))

/-- a `_read` of array groups (`readArr`, `readArrX`) with the invariant it keeps, over a faithful file -/
structure Reader (h : Heap) (file : File) (I : Rho → RSt → Prop) (rd : Grp → RSt → M (Nat × RSt)) : Prop where
  above : InvAbove h file I
  arrs : ArrGroups file
  reads : ArrStep h file I rd (fun x => x < h.length) (fun _ z => Registers h z)

/-- `if name in memo: memo[name] else: <Array>._read(group, memo)` (`fieldRead`, `fieldReadX`) -/
def viaMemo (rd : Grp → RSt → M (Nat × RSt)) (g : Grp) (s : RSt) : M (Nat × RSt) :=
  match s.memo.lookup g.attrs.fieldname with
  | some o => .ok (o, s)
  | none => rd g s

/-- The last clause hands `Fr` back for any later state `s''` and any part `T'` of the paths still to visit, provided that `P`
itself, if it is still to be visited, is in the memo by then: the caller decides whether it enters `P` (array group: `P` leaves
`T`; `same_as` group: both names are set) -/
theorem obtainArr {h : Heap} {file : File} {I : Rho → RSt → Prop} {rd : Grp → RSt → M (Nat × RSt)}
    (R : Reader h file I rd) {s : RSt} {ρ : Rho}
    (inv : I ρ s) {P : Path} {gt : Grp} {o : Nat} (hl : lookupGrp file.groups P = some gt) (ha : gt.isArr = true)
    (hs : gt.src = o) (ho : o < h.length) {T : List Path} (hfr : Fr h file ρ s T) (hP : P ∈ T) :
    ∃ n s' ρ', viaMemo rd gt s = .ok (n, s') ∧ I ρ' s' ∧ ρ'.lookup o = some n ∧
      Grows ρ s ρ' s' (fun z => z = o ∨ Registers h z) ∧
      (∀ s'' T', MemoMono s' s'' → (∀ Q ∈ T', Q ∈ T) → (P ∈ T' → s''.memo.lookup P ≠ none) → Fr h file ρ' s'' T') := by
  subst hs
  simp only [viaMemo, R.arrs.fieldname hl ha]
  cases hml : s.memo.lookup P with
  | some n =>
    exact ⟨n, s, ρ, rfl, inv, (R.above.toR inv).memo_hit hl hml, .refl _ _ _, fun s'' T' hm hT _ => hfr.sub hm hT⟩
  | none =>
    -- a registering object that has been read is in the memo under the path of its group, a plain one by `Fr`
    have hon : ρ.lookup gt.src = none := by
      cases hol : ρ.lookup gt.src with
      | none => rfl
      | some m =>
        by_cases hr : Registers h gt.src
        · rw [(R.above.toR inv).unread_of_miss hl ha hr hml] at hol
          cases hol
        · exact absurd hml (hfr _ hr (by rw [hol]; simp) P gt hl ha rfl hP)
    obtain ⟨n, s', ρ', hrdeq, inv', hlk, gr⟩ := R.reads P gt s ρ inv hl ha ho hon
    refine ⟨n, s', ρ', hrdeq, inv', hlk, gr, fun s'' T' hm hT hPm x hr hx P' gt' hl' ha' hs' hP' => ?_⟩
    rcases gr.new x hx with h0 | h0 | h0
    · exact hm P' (gr.memo P' (hfr x hr h0 P' gt' hl' ha' hs' (hT P' hP')))
    · have : P' = P := R.arrs.uniq P' gt' P gt hl' hl ha' ha (hs'.trans h0)
      subst this
      exact hPm hP'
    · exact absurd h0 hr

end Midgard.H5
