/-
C09 — `Dataset.extend` of datasets of flat leaf fields under the semantic memo invariant (`DatasetExtendInv.lean`): each of
the three kinds of step the two loops take (pad in front, extend, pad at the end) leaves a field holding what the table
demands of its unit of work; both loops are then instances of `loop1_induct` / `appendLoop_thread`, and preservation of
sharing is read off the final memo (`Props/C09.lean: extend_keeps_sharing_flat_partial`).
-/
import Midgard.Proofs.DatasetExtendInv
import Midgard.Proofs.DatasetExtendLoop

namespace Midgard.Dataset

/-- a leaf of a flat kind whose array lives in `h0` and has `r` rows -/
def FlatLeaf (h0 : Heap) (r : Nat) (f : Field) : Prop :=
  ∃ nm k o no u l ob, f = .leaf nm k o no u l ∧ k.flat = true ∧ h0[o]? = some ob ∧ ob.rows.length = r ∧ no = r

/-- everything the loops need to know about the two leaf-only collections and the set of items.  `wb` / `ws` / `wo`: `W`
contains the `both` item of every pair of equal-named leaves, the `selfOnly` item of every leaf only self has, the
`otherOnly` item of every leaf only other has. -/
structure LCtx (us : Units) (h0 : Heap) (n m : Nat) (W : Item → Prop) (sf other : List Field) : Prop where
  items : Items h0 W
  consistent : Consistent us h0 n m W
  objsAgree : ObjsAgree W
  selfNonempty : n ≠ 0
  selfFlat : ∀ f ∈ sf, FlatLeaf h0 n f
  otherFlat : ∀ g ∈ other, FlatLeaf h0 m g
  nodupS : (names sf).Nodup
  wb : ∀ nm k o no u l nm2 o2 no2 u2 l2, .leaf nm k o no u l ∈ sf → .leaf nm2 k o2 no2 u2 l2 ∈ other → nm = nm2 →
    W (.both k o u o2 u2)
  ws : ∀ nm k o no u l, .leaf nm k o no u l ∈ sf → nm ∉ names other → W (.selfOnly k o)
  wo : ∀ nm k o no u l, .leaf nm k o no u l ∈ other → nm ∉ names sf → W (.otherOnly k o)

/-- `x` is what the table demands of some item; if self has a leaf of that name, its array belongs to the item -/
def DoneLeaf (us : Units) (h0 : Heap) (n m : Nat) (W : Item → Prop) (sf : List Field) (s : St) (x : Field) : Prop :=
  ∃ it nm k u l, W it ∧ LeafPost us h0 n m s it nm k u l x ∧
    ∀ nm' k' o no u' l', .leaf nm' k' o no u' l' ∈ sf → nm' = x.name → o ∈ it.objs

theorem DoneLeaf.mono {us h0 n m W sf s s' x} (e : HeapExt s.heap s'.heap) (p : PersistW W s s')
    (d : DoneLeaf us h0 n m W sf s x) : DoneLeaf us h0 n m W sf s' x := by
  obtain ⟨it, nm, k, u, l, hw, lp, src⟩ := d
  exact ⟨it, nm, k, u, l, hw, lp.mono e p hw, src⟩

theorem both_objs_mem (k : Kind) (o : Nat) (u : Option (List String)) (o2 : Nat) (u2 : Option (List String)) :
    o ∈ (Item.both k o u o2 u2).objs := by
  simp only [Item.objs]; split <;> simp

/-- how two states of one `extend` are compared here: the heap grew and the entries under arrays of items survived -/
def RW (W : Item → Prop) (s s' : St) : Prop := HeapExt s.heap s'.heap ∧ PersistW W s s'

theorem rwPre (W : Item → Prop) : IsPre (RW W) :=
  ⟨fun _ => ⟨HeapExt.refl _, PersistW.refl _ _⟩, fun h1 h2 => ⟨h1.1.trans h2.1, h1.2.trans h2.2⟩⟩

/-! Names are unique in self, so the leaf of self bearing the name of the field just made is the one the step used: that is
the source clause of `DoneLeaf`. -/

section
variable {us : Units} {h0 : Heap} {n m : Nat} {W : Item → Prop} {sf other : List Field}

theorem padFront_flat (cx : LCtx us h0 n m W sf other) {g : Field} (hg : g ∈ other) (hnin : g.name ∉ names sf)
    {s : St} {f' : Field} {s' : St} (ms : MemoSem us h0 n m W s) (hcv : s.conv = us.conv)
    (hr : padField true n g s = .ok (f', s')) :
    RW W s s' ∧ (MemoSem us h0 n m W s' ∧ s'.conv = us.conv) ∧ DoneLeaf us h0 n m W sf s' f' ∧ f'.name = g.name := by
  obtain ⟨nm2, k2, o2, no2, u2, l2, ob, rfl, hk2, hob, _, _⟩ := cx.otherFlat g hg
  obtain ⟨lp, e1, ms1, c1, pw⟩ := padField_flat_step cx.items cx.consistent cx.objsAgree (front := true) hk2 ms hcv
    (fun _ => cx.wo nm2 k2 o2 no2 u2 l2 hg hnin) hob (by intro hc; cases hc) rfl hr
  have hname : f'.name = nm2 := lp.name
  refine ⟨⟨e1, pw⟩, ⟨ms1, c1⟩, ⟨_, nm2, k2, u2, l2, by simpa using cx.wo nm2 k2 o2 no2 u2 l2 hg hnin, lp, ?_⟩, hname⟩
  intro nm' k' o' no' u' l' hin hnm
  rw [hname] at hnm
  subst hnm
  exact absurd (List.mem_map_of_mem (f := Field.name) hin) hnin

theorem extend_flat (cx : LCtx us h0 n m W sf other) {g f : Field} (hg : g ∈ other) (hfs : f ∈ sf) (hfn : f.name = g.name)
    {s : St} {f' : Field} {s' : St} (ms : MemoSem us h0 n m W s) (hcv : s.conv = us.conv)
    (hr : extendField us f g s = .ok (f', s')) :
    RW W s s' ∧ (MemoSem us h0 n m W s' ∧ s'.conv = us.conv) ∧ DoneLeaf us h0 n m W sf s' f' ∧ f'.name = g.name := by
  obtain ⟨nm2, k2, o2, no2, u2, l2, ob, rfl, _, hob, _, _⟩ := cx.otherFlat g hg
  obtain ⟨nm, k, o, no, u, l, oa, rfl, hk, hoa, hoar, hno⟩ := cx.selfFlat f hfs
  simp only [Field.name] at hfn
  subst hfn
  simp only [extendField] at hr
  by_cases hkk : k = k2
  · subst hkk
    obtain ⟨lp, e1, ms1, c1, pw⟩ := extendLeaf_flat_step cx.items cx.consistent cx.objsAgree hk ms hcv
      (fun _ => cx.wb nm k o no u l nm o2 no2 u2 l2 hfs hg rfl) hoa hob (by omega) hr
    have hname : f'.name = nm := lp.name
    refine ⟨⟨e1, pw⟩, ⟨ms1, c1⟩, ⟨_, nm, k, u, l, cx.wb nm k o no u l nm o2 no2 u2 l2 hfs hg rfl, lp, ?_⟩, hname⟩
    intro nm' k' o' no' u' l' hin hnm
    have : Field.leaf nm' k' o' no' u' l' = Field.leaf nm k o no u l :=
      Lists.nodup_map_inj cx.nodupS hin hfs (by show nm' = nm; rw [hnm, hname])
    cases this
    exact both_objs_mem _ _ _ _ _
  · have : (k != k2) = true := by simpa using hkk
    simp [extendLeaf, this] at hr

theorem padEnd_flat (cx : LCtx us h0 n m W sf other) {f : Field} (hfs : f ∈ sf) (hno : f.name ∉ names other)
    {s : St} {f' : Field} {s' : St} (ms : MemoSem us h0 n m W s) (hcv : s.conv = us.conv)
    (hr : padField false m f s = .ok (f', s')) :
    RW W s s' ∧ (MemoSem us h0 n m W s' ∧ s'.conv = us.conv) ∧ DoneLeaf us h0 n m W sf s' f' ∧ f'.name = f.name := by
  obtain ⟨nm, k, o, no, u, l, oa, rfl, hk, hoa, hoar, hnoo⟩ := cx.selfFlat f hfs
  obtain ⟨lp, e1, ms1, c1, pw⟩ := padField_flat_step cx.items cx.consistent cx.objsAgree (front := false) hk ms hcv
    (fun _ => cx.ws nm k o no u l hfs hno) hoa (by intro _; omega) rfl hr
  have hname : f'.name = nm := lp.name
  refine ⟨⟨e1, pw⟩, ⟨ms1, c1⟩, ⟨_, nm, k, u, l, by simpa using cx.ws nm k o no u l hfs hno, lp, ?_⟩, hname⟩
  intro nm' k' o' no' u' l' hin hnm
  have : Field.leaf nm' k' o' no' u' l' = Field.leaf nm k o no u l :=
    Lists.nodup_map_inj cx.nodupS hin hfs (by show nm' = nm; rw [hnm, hname])
  cases this
  simp [Item.objs]

end

theorem extendFields_flat {us : Units} {h0 : Heap} {n m : Nat} {W : Item → Prop} {sf other : List Field}
    (cx : LCtx us h0 n m W sf other) (ndE : (names other).Nodup)
    {s : St} {fs' : List Field} {s' : St} (ms : MemoSem us h0 n m W s) (hcv : s.conv = us.conv)
    (h : extendFields us n m sf other s = .ok (fs', s')) :
    MemoSem us h0 n m W s' ∧ (∀ x ∈ fs', DoneLeaf us h0 n m W sf s' x) ∧ ∀ x ∈ names sf, x ∈ names fs' := by
  simp only [extendFields, extendFinish] at h
  split at h
  · simp at h
  · rename_i acc1 s1 hloop
    have hnz : (n == 0) = false := by simpa using cx.selfNonempty
    have dmono : ∀ s s' x, RW W s s' → DoneLeaf us h0 n m W sf s x → DoneLeaf us h0 n m W sf s' x :=
      fun _ _ _ r d => d.mono r.1 r.2
    obtain ⟨_, i1, _, sub1, all1⟩ := loop1_induct (rwPre W) (I := fun s => MemoSem us h0 n m W s ∧ s.conv = us.conv)
      (Todo := fun _ x => x ∈ sf) (Done := DoneLeaf us h0 n m W sf) (fun _ _ _ _ t => t) dmono us (names sf) n s other
      (fun g hg s f' s' _ i hc hp => padFront_flat cx hg (fun hin => by
          rw [hnz, List.contains_iff_mem.mpr hin] at hc
          cases hc) i.1 i.2 hp)
      (fun g hg f s f' s' _ i _ ht hfn hx => extend_flat cx hg ht hfn i.1 i.2 hx)
      ndE sf s acc1 s1 hloop ((rwPre W).refl _) ⟨ms, hcv⟩ cx.nodupS (fun x hx _ => hx)
    obtain ⟨_, i2, all2⟩ := appendLoop_thread (rwPre W) (I := fun s => MemoSem us h0 n m W s ∧ s.conv = us.conv)
      (B := fun s x y => DoneLeaf us h0 n m W sf s y ∧ y.name = x.name) (fun _ _ _ _ r b => ⟨dmono _ _ _ r b.1, b.2⟩)
      _ m s1 acc1
      (fun f hf hp s f' s' _ i hx => by
        rcases all1 f hf with ⟨hin, _⟩ | ⟨hno, hfs⟩
        · exact absurd hin (onlyInSelf_iff.mp hp).2
        · exact padEnd_flat cx hfs hno i.1 i.2 hx)
      (fun f hf hp => by
        rcases all1 f hf with ⟨_, d⟩ | ⟨hno, hfs⟩
        · exact ⟨d, rfl⟩
        · have hq : onlyInSelf (names sf) (names other) m f.name = true :=
            onlyInSelf_iff.mpr ⟨List.mem_map_of_mem (f := Field.name) hfs, hno⟩
          rw [hq] at hp
          cases hp)
      s1 fs' s' h ((rwPre W).refl _) i1
    refine ⟨i2.1, fun y hy => ?_, fun x hx => ?_⟩
    · obtain ⟨_, _, b⟩ := all2.mem_right y hy
      exact b.1
    · rw [all2.names_eq (fun _ _ b => b.2)]
      exact sub1 x hx

/-- the units of work of two leaf-only collections -/
def itemsOf (sf other : List Field) (it : Item) : Prop :=
  (∃ nm k o no u l nm2 o2 no2 u2 l2, Field.leaf nm k o no u l ∈ sf ∧ Field.leaf nm2 k o2 no2 u2 l2 ∈ other ∧ nm = nm2 ∧
    it = .both k o u o2 u2) ∨
  (∃ nm k o no u l, Field.leaf nm k o no u l ∈ sf ∧ nm ∉ names other ∧ it = .selfOnly k o) ∨
  (∃ nm k o no u l, Field.leaf nm k o no u l ∈ other ∧ nm ∉ names sf ∧ it = .otherOnly k o)

/-- `extendFields_flat` at the root with `W := itemsOf d.fields e.fields`; it returns the final state, so that sharing can be
read off its memo -/
theorem dsExtend_flat (us : Units) (h : Heap) (d e : DS) (h' : Heap) (d' : DS)
    (hok : dsExtend us h d e = .ok (h', d'))
    (hn : d.numObs ≠ 0)
    (hS : ∀ f ∈ d.fields, FlatLeaf h d.numObs f) (hE : ∀ g ∈ e.fields, FlatLeaf h e.numObs g)
    (hkS : ∀ f ∈ d.fields, KindsOK h f) (hkE : ∀ g ∈ e.fields, KindsOK h g)
    (ndS : (names d.fields).Nodup) (ndE : (names e.fields).Nodup)
    (hC : Consistent us h d.numObs e.numObs (itemsOf d.fields e.fields))
    (hO : ObjsAgree (itemsOf d.fields e.fields)) :
    ∃ s', s'.heap = h' ∧ MemoSem us h d.numObs e.numObs (itemsOf d.fields e.fields) s' ∧
      (∀ x ∈ d'.fields, DoneLeaf us h d.numObs e.numObs (itemsOf d.fields e.fields) d.fields s' x) ∧
      (∀ x ∈ names d.fields, x ∈ names d'.fields) ∧ d'.numObs = d.numObs + e.numObs ∧
      Items h (itemsOf d.fields e.fields) := by
  have kindOf : ∀ fs : List Field, (∀ f ∈ fs, KindsOK h f) → ∀ nm k o no u l, Field.leaf nm k o no u l ∈ fs →
      ∃ ob, h[o]? = some ob ∧ ob.kind = k := by
    intro fs hk nm k o no u l hin
    have := hk _ hin
    simpa [KindsOK] using this
  have cx : LCtx us h d.numObs e.numObs (itemsOf d.fields e.fields) d.fields e.fields := by
    refine ⟨⟨?_⟩, hC, hO, hn, hS, hE, ndS, ?_, ?_, ?_⟩
    · intro it hit o ho
      rcases hit with ⟨nm, k, a, no, u, l, nm2, b, no2, u2, l2, h1, h2, _, rfl⟩ | ⟨nm, k, a, no, u, l, h1, _, rfl⟩ |
        ⟨nm, k, b, no, u, l, h1, _, rfl⟩
      · have ha := kindOf _ hkS _ _ _ _ _ _ h1
        have hb := kindOf _ hkE _ _ _ _ _ _ h2
        simp only [Item.objs] at ho
        split at ho
        · simp only [List.mem_cons, List.not_mem_nil, or_false] at ho; subst ho; exact ha
        · simp only [List.mem_cons, List.not_mem_nil, or_false] at ho
          rcases ho with rfl | rfl
          · exact ha
          · exact hb
      · simp only [Item.objs, List.mem_cons, List.not_mem_nil, or_false] at ho; subst ho
        exact kindOf _ hkS _ _ _ _ _ _ h1
      · simp only [Item.objs, List.mem_cons, List.not_mem_nil, or_false] at ho; subst ho
        exact kindOf _ hkE _ _ _ _ _ _ h1
    · intro nm k o no u l nm2 o2 no2 u2 l2 h1 h2 h3
      exact Or.inl ⟨nm, k, o, no, u, l, nm2, o2, no2, u2, l2, h1, h2, h3, rfl⟩
    · intro nm k o no u l h1 h2
      exact Or.inr (Or.inl ⟨nm, k, o, no, u, l, h1, h2, rfl⟩)
    · intro nm k o no u l h1 h2
      exact Or.inr (Or.inr ⟨nm, k, o, no, u, l, h1, h2, rfl⟩)
  simp only [dsExtend] at hok
  split at hok
  · simp at hok
  · rename_i fs' s2 hfin
    cases hok.symm
    obtain ⟨ms2, hall, hsub⟩ := extendFields_flat cx ndE (MemoSem.start us h _ _ _) rfl hfin
    exact ⟨s2, rfl, ms2, hall, hsub, rfl, cx.items⟩

end Midgard.Dataset
