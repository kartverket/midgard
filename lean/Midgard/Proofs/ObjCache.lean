/-
Proofs for the per-object cache machine (C08, second machine): the depth-first clearing computes a
set closed under the dependency lists, and with transitive clearing and linked views (`⟨true, true⟩`, the mechanism
of `_position.py`: `Props.C08.Obj.good`) every read returns the snapshot of the *current* contents, for every operation
sequence.  The invariant `Inv` is kept by two kinds of step: those that change caches and memory only (`inv_mapIdx`) and those
that edit the dependency graph or append an object (`inv_rewire`); each operation is an instance of one of them.
-/
import Midgard.Model.ObjCache
import Midgard.Proofs.Lists
import Mathlib.Algebra.BigOperators.Group.List.Basic

namespace Midgard.ObjCache

/-- the loop invariant of the depth-first clearing, for object ids below `n`: `unv` are the ids not visited yet (those
not in `acc`), and every dependency of a visited object is visited or still on the work list `todo`.  Then the result
contains `acc` and `todo` and is closed under the dependency lists. -/
theorem closure_spec (objs : List Obj) (n : Nat) :
    ∀ (unv todo acc : List Nat), unv.Nodup → (∀ x, x ∈ unv ↔ (x < n ∧ x ∉ acc)) →
      (∀ a ∈ acc, ∀ b ∈ depsOf objs a, b < n → b ∈ acc ∨ b ∈ todo) →
      (∀ a ∈ acc, a ∈ closure objs unv todo acc) ∧
      (∀ t ∈ todo, t < n → t ∈ closure objs unv todo acc) ∧
      (∀ a ∈ closure objs unv todo acc, ∀ b ∈ depsOf objs a, b < n → b ∈ closure objs unv todo acc) := by
  intro unv todo acc
  induction unv, todo, acc using closure.induct (objs := objs) with
  | case1 unv acc =>
    intro _ _ hJ
    rw [closure]
    refine ⟨fun a h => h, fun t h => by simp at h, ?_⟩
    intro a ha b hb hbn
    rcases hJ a ha b hb hbn with h | h
    · exact h
    · simp at h
  | case2 unv a rest acc hmem ih =>
    intro hnd hu hJ
    rw [closure, if_pos hmem]
    have hnd' : (unv.erase a).Nodup := hnd.erase a
    have hu' : ∀ x, x ∈ unv.erase a ↔ (x < n ∧ x ∉ a :: acc) := by
      intro x
      rw [hnd.mem_erase_iff, hu x]
      simp only [List.mem_cons, not_or]
      tauto
    have hJ' : ∀ a' ∈ a :: acc, ∀ b ∈ depsOf objs a', b < n → b ∈ a :: acc ∨ b ∈ depsOf objs a ++ rest := by
      intro a' ha' b hb hbn
      rcases List.mem_cons.mp ha' with rfl | ha'
      · exact Or.inr (List.mem_append_left _ hb)
      · rcases hJ a' ha' b hb hbn with h | h
        · exact Or.inl (List.mem_cons_of_mem _ h)
        · rcases List.mem_cons.mp h with rfl | h
          · exact Or.inl List.mem_cons_self
          · exact Or.inr (List.mem_append_right _ h)
    obtain ⟨h1, h2, h3⟩ := ih hnd' hu' hJ'
    refine ⟨fun x hx => h1 x (List.mem_cons_of_mem _ hx), ?_, h3⟩
    intro t ht htn
    rcases List.mem_cons.mp ht with rfl | ht
    · exact h1 _ List.mem_cons_self
    · exact h2 t (List.mem_append_right _ ht) htn
  | case3 unv a rest acc hmem ih =>
    intro hnd hu hJ
    rw [closure, if_neg hmem]
    have ha : a < n → a ∈ acc := by
      intro han
      by_contra hc
      exact hmem ((hu a).mpr ⟨han, hc⟩)
    have hJ' : ∀ a' ∈ acc, ∀ b ∈ depsOf objs a', b < n → b ∈ acc ∨ b ∈ rest := by
      intro a' ha' b hb hbn
      rcases hJ a' ha' b hb hbn with h | h
      · exact Or.inl h
      · rcases List.mem_cons.mp h with rfl | h
        · exact Or.inl (ha hbn)
        · exact Or.inr h
    obtain ⟨h1, h2, h3⟩ := ih hnd hu hJ'
    refine ⟨h1, ?_, h3⟩
    intro t ht htn
    rcases List.mem_cons.mp ht with rfl | ht
    · exact h1 _ (ha htn)
    · exact h2 t ht htn

theorem closureF_eq (objs : List Obj) :
    ∀ (unv todo acc : List Nat) (fuel : Nat), budget objs unv todo ≤ fuel →
      closureF objs fuel unv todo acc = closure objs unv todo acc := by
  intro unv todo acc
  induction unv, todo, acc using closure.induct (objs := objs) with
  | case1 unv acc =>
    intro fuel _
    rw [closure]
    cases fuel <;> rfl
  | case2 unv a rest acc hmem ih =>
    intro fuel hf
    rw [closure, if_pos hmem]
    have hsum := List.sum_map_erase (fun a => 1 + (depsOf objs a).length) hmem
    cases fuel with
    | zero =>
      simp only [budget, List.length_cons] at hf
      omega
    | succ f =>
      simp only [closureF, if_pos hmem]
      apply ih
      simp only [budget, List.length_cons, List.length_append] at hf ⊢
      omega
  | case3 unv a rest acc hmem ih =>
    intro fuel hf
    rw [closure, if_neg hmem]
    cases fuel with
    | zero => simp only [budget, List.length_cons] at hf; omega
    | succ f =>
      simp only [closureF, if_neg hmem]
      apply ih
      simp only [budget, List.length_cons] at hf ⊢
      omega

theorem clearSet_closed (s : State) (o : Nat) (ho : o < s.objs.length) :
    o ∈ clearSet ⟨true, true⟩ s o ∧
    ∀ a ∈ clearSet ⟨true, true⟩ s o, ∀ b ∈ depsOf s.objs a, b < s.objs.length → b ∈ clearSet ⟨true, true⟩ s o := by
  have h := closure_spec s.objs s.objs.length (List.range s.objs.length) [o] []
    List.nodup_range (by intro x; simp) (by intro a ha; simp at ha)
  simp only [clearSet, if_true]
  rw [closureF_eq s.objs _ _ _ _ (Nat.le_refl _)]
  exact ⟨h.2.1 o (by simp) ho, h.2.2⟩

/-- reachability along the dependency lists (`vdeps ++ odeps`): what the clearing follows (`reach_in_closed`) -/
inductive Reach (objs : List Obj) : Nat → Nat → Prop
  | refl (a : Nat) : Reach objs a a
  | step {a b c : Nat} : b ∈ depsOf objs a → Reach objs b c → Reach objs a c

theorem Reach.trans {objs : List Obj} {a b c : Nat} (h1 : Reach objs a b) (h2 : Reach objs b c) : Reach objs a c := by
  induction h1 with
  | refl => exact h2
  | step hd _ ih => exact Reach.step hd (ih h2)

theorem Reach.single {objs : List Obj} {a b : Nat} (h : b ∈ depsOf objs a) : Reach objs a b :=
  Reach.step h (Reach.refl b)

theorem Reach.mono {objs objs' : List Obj} (hsub : ∀ a b, b ∈ depsOf objs a → b ∈ depsOf objs' a)
    {a b : Nat} (h : Reach objs a b) : Reach objs' a b := by
  induction h with
  | refl => exact Reach.refl _
  | step hd _ ih => exact Reach.step (hsub _ _ hd) ih

def vdepsOf (objs : List Obj) (a : Nat) : List Nat := (objs[a]?.map (·.vdeps)).getD []

theorem vdepsOf_sub (objs : List Obj) (a b : Nat) (h : b ∈ vdepsOf objs a) : b ∈ depsOf objs a := by
  unfold vdepsOf at h; unfold depsOf
  cases ho : objs[a]? with
  | none => simp [ho] at h
  | some o => simp [ho] at h ⊢; exact Or.inl h

theorem depsOf_get {objs : List Obj} {a : Nat} {o : Obj} (h : objs[a]? = some o) :
    depsOf objs a = o.vdeps ++ o.odeps := by
  simp [depsOf, h]

theorem vdepsOf_get {objs : List Obj} {a : Nat} {o : Obj} (h : objs[a]? = some o) : vdepsOf objs a = o.vdeps := by
  simp [vdepsOf, h]

theorem mem_depsOf {objs : List Obj} {a b : Nat} (h : b ∈ depsOf objs a) :
    ∃ o, objs[a]? = some o ∧ b ∈ o.vdeps ++ o.odeps := by
  cases ho : objs[a]? with
  | none => simp [depsOf, ho] at h
  | some o => exact ⟨o, rfl, depsOf_get ho ▸ h⟩

theorem mem_vdepsOf {objs : List Obj} {a b : Nat} (h : b ∈ vdepsOf objs a) : ∃ o, objs[a]? = some o ∧ b ∈ o.vdeps := by
  cases ho : objs[a]? with
  | none => simp [vdepsOf, ho] at h
  | some o => exact ⟨o, rfl, vdepsOf_get ho ▸ h⟩

/-- reachability along the view links only.  `Inv.share` is stated with it and not with `Reach`: `setOther` erases
`odeps` edges while `vdeps` edges only grow, so only paths of view links survive every step -/
inductive VReach (objs : List Obj) : Nat → Nat → Prop
  | refl (a : Nat) : VReach objs a a
  | step {a b c : Nat} : b ∈ vdepsOf objs a → VReach objs b c → VReach objs a c

theorem VReach.trans {objs : List Obj} {a b c : Nat} (h1 : VReach objs a b) (h2 : VReach objs b c) : VReach objs a c := by
  induction h1 with
  | refl => exact h2
  | step hd _ ih => exact VReach.step hd (ih h2)

theorem VReach.toReach {objs : List Obj} {a b : Nat} (h : VReach objs a b) : Reach objs a b := by
  induction h with
  | refl => exact Reach.refl _
  | step hd _ ih => exact Reach.step (vdepsOf_sub _ _ _ hd) ih

theorem VReach.mono {objs objs' : List Obj} (hsub : ∀ a b, b ∈ vdepsOf objs a → b ∈ vdepsOf objs' a)
    {a b : Nat} (h : VReach objs a b) : VReach objs' a b := by
  induction h with
  | refl => exact VReach.refl _
  | step hd _ ih => exact VReach.step (hsub _ _ hd) ih

theorem reach_in_closed {objs : List Obj} {n : Nat} {R : List Nat}
    (hvalid : ∀ a b, b ∈ depsOf objs a → b < n)
    (hclosed : ∀ a ∈ R, ∀ b ∈ depsOf objs a, b < n → b ∈ R) {a b : Nat} (ha : a ∈ R) (h : Reach objs a b) : b ∈ R := by
  induction h with
  | refl => exact ha
  | step hd _ ih => exact ih (hclosed _ ha _ hd (hvalid _ _ hd))

structure Inv (s : State) : Prop where
  /-- dependency ids are object ids -/
  depValid : ∀ a b, b ∈ depsOf s.objs a → b < s.objs.length
  /-- memory blocks exist -/
  memLt : ∀ (i : Nat) (o : Obj), s.objs[i]? = some o → o.mem < s.mems.length
  /-- a cached value is the snapshot of the current contents -/
  convOK : ∀ (i : Nat) (o : Obj) (snap : List Val), s.objs[i]? = some o → o.conv = some snap → snap = contentsOf s o
  derOK : ∀ (i : Nat) (o : Obj) (a b : List Val), s.objs[i]? = some o → o.der = some (a, b) →
    ∃ (q : Nat) (qo : Obj), o.other = some q ∧ s.objs[q]? = some qo ∧ a = contentsOf s o ∧ b = contentsOf s qo
  /-- objects sharing a memory block reach each other through the view links -/
  share : ∀ (i j : Nat) (oi oj : Obj), s.objs[i]? = some oi → s.objs[j]? = some oj → oi.mem = oj.mem → VReach s.objs i j
  /-- an object is registered with its `other` -/
  otherDep : ∀ (p : Nat) (po : Obj) (q : Nat), s.objs[p]? = some po → po.other = some q → p ∈ depsOf s.objs q ∧ q < s.objs.length

theorem inv_empty : Inv ({} : State) :=
  ⟨by intro a b h; simp [depsOf] at h, by intro i o h; simp at h, by intro i o snap h; simp at h,
   by intro i o a b h; simp at h, by intro i j oi oj h; simp at h, by intro p po q h; simp at h⟩

theorem contentsOf_block {s s' : State} {o o' : Obj} (hb : s'.mems[o'.mem]? = s.mems[o.mem]?) (h2 : o'.idx = o.idx) :
    contentsOf s' o' = contentsOf s o := by
  simp [contentsOf, cell, hb, h2]

def KeepsShape (g : Nat → Obj → Obj) : Prop :=
  ∀ i o, (g i o).mem = o.mem ∧ (g i o).idx = o.idx ∧ (g i o).other = o.other ∧ (g i o).vdeps = o.vdeps ∧
    (g i o).odeps = o.odeps

theorem depsOf_mapIdx {g : Nat → Obj → Obj} (hg : KeepsShape g) (objs : List Obj) (a : Nat) :
    depsOf (objs.mapIdx g) a = depsOf objs a := by
  unfold depsOf
  rw [List.getElem?_mapIdx]
  cases objs[a]? with
  | none => rfl
  | some o => simp [(hg a o).2.2.2]

theorem vdepsOf_mapIdx {g : Nat → Obj → Obj} (hg : KeepsShape g) (objs : List Obj) (a : Nat) :
    vdepsOf (objs.mapIdx g) a = vdepsOf objs a := by
  unfold vdepsOf
  rw [List.getElem?_mapIdx]
  cases objs[a]? with
  | none => rfl
  | some o => simp [(hg a o).2.2.2.1]

theorem keepsShape_clear (ids : List Nat) :
    KeepsShape fun i ob => if i ∈ ids then { ob with conv := none, der := none } else ob := by
  intro i o
  dsimp only
  split_ifs <;> exact ⟨rfl, rfl, rfl, rfl, rfl⟩

theorem keepsShape_at (p : Nat) (f : Obj → Obj) (hf : KeepsShape fun _ => f) :
    KeepsShape fun i ob => if i = p then f ob else ob := by
  intro i o
  dsimp only
  split_ifs
  · exact hf i o
  · exact ⟨rfl, rfl, rfl, rfl, rfl⟩

theorem inv_mapIdx {s s' : State} (hs : Inv s) {g : Nat → Obj → Obj} (hg : KeepsShape g)
    (hobjs : s'.objs = s.objs.mapIdx g) (hm : s'.mems.length = s.mems.length)
    (hconv : ∀ (i : Nat) (o : Obj) (snap : List Val), s.objs[i]? = some o → (g i o).conv = some snap →
      snap = contentsOf s' o)
    (hder : ∀ (i : Nat) (o : Obj) (a b : List Val), s.objs[i]? = some o → (g i o).der = some (a, b) →
      ∃ (q : Nat) (qo : Obj), o.other = some q ∧ s.objs[q]? = some qo ∧ a = contentsOf s' o ∧ b = contentsOf s' qo) :
    Inv s' := by
  have get : ∀ (i : Nat) (o' : Obj), s'.objs[i]? = some o' → ∃ o : Obj, s.objs[i]? = some o ∧ o' = g i o := by
    intro i o' h
    rw [hobjs, List.getElem?_mapIdx] at h
    cases ho : s.objs[i]? with
    | none => simp [ho] at h
    | some o => exact ⟨o, rfl, by simpa [ho] using h.symm⟩
  have cont : ∀ (i : Nat) (o : Obj), contentsOf s' (g i o) = contentsOf s' o :=
    fun i o => contentsOf_block (by rw [(hg i o).1]) (hg i o).2.1
  refine ⟨?_, ?_, ?_, ?_, ?_, ?_⟩
  · intro a b hb
    rw [hobjs, depsOf_mapIdx hg] at hb
    rw [hobjs, List.length_mapIdx]
    exact hs.depValid a b hb
  · intro i o' ho'
    obtain ⟨o, ho, rfl⟩ := get i o' ho'
    rw [hm, (hg i o).1]
    exact hs.memLt i o ho
  · intro i o' snap ho' hsnap
    obtain ⟨o, ho, rfl⟩ := get i o' ho'
    rw [cont]
    exact hconv i o snap ho hsnap
  · intro i o' a b ho' hab
    obtain ⟨o, ho, rfl⟩ := get i o' ho'
    obtain ⟨q, qo, h1, h2, h3, h4⟩ := hder i o a b ho hab
    refine ⟨q, g q qo, (hg i o).2.2.1.trans h1, ?_, by rw [cont]; exact h3, by rw [cont]; exact h4⟩
    rw [hobjs, List.getElem?_mapIdx, h2]
    rfl
  · intro i j oi oj hi hj hmem
    obtain ⟨oi0, hi0, rfl⟩ := get i oi hi
    obtain ⟨oj0, hj0, rfl⟩ := get j oj hj
    rw [(hg i oi0).1, (hg j oj0).1] at hmem
    rw [hobjs]
    exact VReach.mono (fun a b hb => by rwa [vdepsOf_mapIdx hg]) (hs.share i j oi0 oj0 hi0 hj0 hmem)
  · intro p po q hp hq
    obtain ⟨o, ho, rfl⟩ := get p po hp
    rw [(hg p o).2.2.1] at hq
    rw [hobjs, depsOf_mapIdx hg, List.length_mapIdx]
    exact hs.otherDep p o q ho hq

theorem inv_clearCaches {s : State} (hs : Inv s) (ids : List Nat) : Inv { s with objs := clearCaches s.objs ids } := by
  refine inv_mapIdx hs (keepsShape_clear ids) rfl rfl ?_ ?_
  · intro i o snap ho h
    by_cases hi : i ∈ ids
    · simp [hi] at h
    · exact hs.convOK i o snap ho (by simpa [hi] using h)
  · intro i o a b ho h
    by_cases hi : i ∈ ids
    · simp [hi] at h
    · exact hs.derOK i o a b ho (by simpa [hi] using h)

theorem readConv_current {s : State} (hs : Inv s) (p : Nat) :
    (step ⟨true, true⟩ s (.readConv p)).2 = (refStep s (.readConv p)).2 ∧ Inv (step ⟨true, true⟩ s (.readConv p)).1 := by
  cases hp : s.objs[p]? with
  | none => simp only [step, refStep, hp]; exact ⟨by trivial, hs⟩
  | some po =>
    cases hc : po.conv with
    | some snap =>
      simp only [step, refStep, hp, hc]
      exact ⟨by rw [hs.convOK p po snap hp hc], hs⟩
    | none =>
      simp only [step, refStep, hp, hc]
      refine ⟨by trivial, inv_mapIdx hs (keepsShape_at p (fun ob => { ob with conv := some (contentsOf s po) })
        fun _ _ => ⟨rfl, rfl, rfl, rfl, rfl⟩) rfl rfl ?_ ?_⟩
      · intro i o snap ho h
        by_cases hip : i = p
        · subst hip
          obtain rfl : po = o := Option.some.inj (hp.symm.trans ho)
          exact (by simpa using h.symm : snap = contentsOf s po)
        · exact hs.convOK i o snap ho (by simpa [hip] using h)
      · intro i o a b ho h
        refine hs.derOK i o a b ho ?_
        split_ifs at h <;> exact h

theorem readDer_current {s : State} (hs : Inv s) (p : Nat) :
    (step ⟨true, true⟩ s (.readDer p)).2 = (refStep s (.readDer p)).2 ∧ Inv (step ⟨true, true⟩ s (.readDer p)).1 := by
  cases hp : s.objs[p]? with
  | none => simp only [step, refStep, hp]; exact ⟨by trivial, hs⟩
  | some po =>
    cases hq : po.other with
    | none => simp only [step, refStep, hp, hq]; exact ⟨by trivial, hs⟩
    | some q =>
      cases hqo : s.objs[q]? with
      | none => simp only [step, refStep, hp, hq, hqo]; exact ⟨by trivial, hs⟩
      | some qo =>
        cases hc : po.der with
        | some ab =>
          obtain ⟨a, b⟩ := ab
          simp only [step, refStep, hp, hq, hqo, hc]
          obtain ⟨q', qo', h1, h2, h3, h4⟩ := hs.derOK p po a b hp hc
          obtain rfl : q = q' := Option.some.inj (hq.symm.trans h1)
          obtain rfl : qo = qo' := Option.some.inj (hqo.symm.trans h2)
          exact ⟨by rw [h3, h4], hs⟩
        | none =>
          simp only [step, refStep, hp, hq, hqo, hc]
          refine ⟨by trivial, inv_mapIdx hs (keepsShape_at p
            (fun ob => { ob with der := some (contentsOf s po, contentsOf s qo) })
            fun _ _ => ⟨rfl, rfl, rfl, rfl, rfl⟩) rfl rfl ?_ ?_⟩
          · intro i o snap ho h
            refine hs.convOK i o snap ho ?_
            split_ifs at h <;> exact h
          · intro i o a b ho h
            by_cases hip : i = p
            · subst hip
              obtain rfl : po = o := Option.some.inj (hp.symm.trans ho)
              obtain ⟨rfl, rfl⟩ : contentsOf s po = a ∧ contentsOf s qo = b := by simpa using h
              exact ⟨q, qo, hq, hqo, rfl, rfl⟩
            · exact hs.derOK i o a b ho (by simpa [hip] using h)

/-- memory after `p[k] = v` -/
def writeMem (mems : List (List Val)) (m r : Nat) (v : Val) : List (List Val) :=
  mems.mapIdx (fun m' blk => if m' = m then blk.set r v else blk)

theorem setItem_inv {s : State} (hs : Inv s) (p k : Nat) (v : Val) :
    (step ⟨true, true⟩ s (.setItem p k v)).2 = (refStep s (.setItem p k v)).2 ∧ Inv (step ⟨true, true⟩ s (.setItem p k v)).1 := by
  refine ⟨rfl, ?_⟩
  cases hp : s.objs[p]? with
  | none => simp only [step, hp]; exact hs
  | some po =>
    cases hr : po.idx[k]? with
    | none => simp only [step, hp, hr]; exact hs
    | some r =>
      simp only [step, hp, hr]
      obtain ⟨hpin, hclosed⟩ := clearSet_closed s p (Lists.lt_of_get hp)
      generalize clearSet ⟨true, true⟩ s p = C at hpin hclosed ⊢
      -- an object outside the cleared set does not look at the written block
      have untouched : ∀ (i : Nat) (o : Obj), s.objs[i]? = some o → i ∉ C →
          contentsOf s o = contentsOf { mems := writeMem s.mems po.mem r v, objs := clearCaches s.objs C } o := by
        intro i o ho hiC
        have hmem : o.mem ≠ po.mem := fun hmem =>
          hiC (reach_in_closed hs.depValid hclosed hpin (hs.share p i po o hp ho hmem.symm).toReach)
        exact (contentsOf_block (by simp [writeMem, List.getElem?_mapIdx, hmem]) rfl).symm
      refine inv_mapIdx hs (keepsShape_clear C) rfl (by simp) ?_ ?_
      · intro i o snap ho h
        by_cases hiC : i ∈ C
        · simp [hiC] at h
        · exact (hs.convOK i o snap ho (by simpa [hiC] using h)).trans (untouched i o ho hiC)
      · intro i o a b ho h
        by_cases hiC : i ∈ C
        · simp [hiC] at h
        · obtain ⟨q, qo, h1, h2, h3, h4⟩ := hs.derOK i o a b ho (by simpa [hiC] using h)
          -- the other is outside the cleared set too: otherwise i, registered with it, would be inside
          have hdep := (hs.otherDep i o q ho h1).1
          have hqC : q ∉ C := fun hq => hiC (hclosed q hq i hdep (hs.depValid q i hdep))
          exact ⟨q, qo, h1, h2, h3.trans (untouched i o ho hiC), h4.trans (untouched q qo h2 hqC)⟩

/-! ### Updates that change the dependency graph

Every step makes its object list from the old one as `objs.mapIdx e ++ nw.toList`: each object edited in place, at
most one appended. -/

section Edit
variable {objs : List Obj} {e : Nat → Obj → Obj} {nw : Option Obj}

theorem getElem?_edit_old {i : Nat} {o : Obj} (h : objs[i]? = some o) :
    (objs.mapIdx e ++ nw.toList)[i]? = some (e i o) := by
  rw [List.getElem?_append_left (by simpa using Lists.lt_of_get h), List.getElem?_mapIdx, h]; rfl

theorem getElem?_edit_new {o : Obj} (h : nw = some o) : (objs.mapIdx e ++ nw.toList)[objs.length]? = some o := by
  subst h; simp

theorem getElem?_edit {i : Nat} {o' : Obj} (h : (objs.mapIdx e ++ nw.toList)[i]? = some o') :
    (∃ o, objs[i]? = some o ∧ o' = e i o) ∨ (i = objs.length ∧ nw = some o') := by
  by_cases hlt : i < objs.length
  · rw [getElem?_edit_old (List.getElem?_eq_getElem hlt)] at h
    exact Or.inl ⟨_, List.getElem?_eq_getElem hlt, (Option.some.inj h).symm⟩
  · have hi := Lists.lt_of_get h
    cases nw with
    | none => simp at hi; omega
    | some o =>
      obtain rfl : i = objs.length := by simp at hi; omega
      rw [getElem?_edit_new rfl] at h
      exact Or.inr ⟨rfl, h⟩

end Edit

/-- what `inv_rewire` asks of the appended object `o` (its id is `s.objs.length`) -/
structure Appended (s s' : State) (e : Nat → Obj → Obj) (o : Obj) : Prop where
  mem_lt : o.mem < s'.mems.length
  conv : o.conv = none
  der : o.der = none
  deps_old : ∀ b ∈ o.vdeps ++ o.odeps, b < s.objs.length
  registered : ∀ q, o.other = some q →
    ∃ qo, s.objs[q]? = some qo ∧ s.objs.length ∈ (e q qo).vdeps ++ (e q qo).odeps
  placed : s.mems.length ≤ o.mem ∨
    ∃ p op, s.objs[p]? = some op ∧ op.mem = o.mem ∧ s.objs.length ∈ (e p op).vdeps ∧ p ∈ o.vdeps

/-- **Rewiring.**  Every object is edited in place by `e` and at most one object `nw` is appended; the hypotheses say that
`e` only adds dependencies and drops caches, and that the appended object is wired in (`Appended`). -/
theorem inv_rewire {s s' : State} (hs : Inv s) {e : Nat → Obj → Obj} {nw : Option Obj}
    (hobjs : s'.objs = s.objs.mapIdx e ++ nw.toList) (hlen : s.mems.length ≤ s'.mems.length)
    (hread : ∀ o : Obj, o.mem < s.mems.length → contentsOf s' o = contentsOf s o)
    (hwin : ∀ i o, (e i o).mem = o.mem ∧ (e i o).idx = o.idx ∧ ∀ d ∈ o.vdeps, d ∈ (e i o).vdeps)
    (hcache : ∀ i o, ((e i o).conv = none ∨ (e i o).conv = o.conv) ∧
      ((e i o).der = none ∨ ((e i o).der = o.der ∧ (e i o).other = o.other)))
    (hdeps : ∀ i o, ∀ b ∈ (e i o).vdeps ++ (e i o).odeps, b ∈ o.vdeps ++ o.odeps ∨ b < s'.objs.length)
    (hoth : ∀ i o q, (e i o).other = some q → o.other = some q ∨ q < s.objs.length)
    (hreg : ∀ i o q qo, s.objs[i]? = some o → s.objs[q]? = some qo → (e i o).other = some q →
      (o.other = some q → i ∈ qo.vdeps ++ qo.odeps) → i ∈ (e q qo).vdeps ++ (e q qo).odeps)
    (hnew : ∀ o, nw = some o → Appended s s' e o) : Inv s' := by
  have hn : s.objs.length ≤ s'.objs.length := by rw [hobjs]; simp
  have split : ∀ (i : Nat) (o' : Obj), s'.objs[i]? = some o' →
      (∃ o, s.objs[i]? = some o ∧ o' = e i o) ∨ (i = s.objs.length ∧ nw = some o') :=
    fun i o' h => getElem?_edit (hobjs ▸ h)
  have fwd : ∀ (i : Nat) (o : Obj), s.objs[i]? = some o → s'.objs[i]? = some (e i o) :=
    fun i o h => hobjs ▸ getElem?_edit_old h
  have cont : ∀ (i : Nat) (o : Obj), s.objs[i]? = some o → contentsOf s' (e i o) = contentsOf s o := fun i o h =>
    (contentsOf_block (by rw [(hwin i o).1]) (hwin i o).2.1).trans (hread o (hs.memLt i o h))
  have vm : ∀ {a b : Nat}, VReach s.objs a b → VReach s'.objs a b := by
    refine fun hr => VReach.mono (fun a b hb => ?_) hr
    obtain ⟨o, ho, hb⟩ := mem_vdepsOf hb
    rw [vdepsOf_get (fwd a o ho)]
    exact (hwin a o).2.2 b hb
  refine ⟨?_, ?_, ?_, ?_, ?_, ?_⟩
  · intro a b hb
    obtain ⟨o', ho', hb⟩ := mem_depsOf hb
    rcases split a o' ho' with ⟨o, ho, rfl⟩ | ⟨_, h⟩
    · exact (hdeps a o b hb).elim (fun h => Nat.lt_of_lt_of_le (hs.depValid a b (depsOf_get ho ▸ h)) hn) id
    · exact Nat.lt_of_lt_of_le ((hnew o' h).deps_old b hb) hn
  · intro i o' ho'
    rcases split i o' ho' with ⟨o, ho, rfl⟩ | ⟨_, h⟩
    · exact (hwin i o).1 ▸ Nat.lt_of_lt_of_le (hs.memLt i o ho) hlen
    · exact (hnew o' h).mem_lt
  · intro i o' snap ho' hsnap
    rcases split i o' ho' with ⟨o, ho, rfl⟩ | ⟨_, h⟩
    · rw [cont i o ho]
      rcases (hcache i o).1 with hc | hc <;> rw [hc] at hsnap
      · cases hsnap
      · exact hs.convOK i o snap ho hsnap
    · rw [(hnew o' h).conv] at hsnap; cases hsnap
  · intro i o' a b ho' hab
    rcases split i o' ho' with ⟨o, ho, rfl⟩ | ⟨_, h⟩
    · rcases (hcache i o).2 with hc | ⟨hc, hoth⟩ <;> rw [hc] at hab
      · cases hab
      · obtain ⟨q, qo, h1, h2, h3, h4⟩ := hs.derOK i o a b ho hab
        exact ⟨q, _, hoth.trans h1, fwd q qo h2, by rw [cont i o ho]; exact h3, by rw [cont q qo h2]; exact h4⟩
    · rw [(hnew o' h).der] at hab; cases hab
  · -- an appended object on fresh memory shares with nobody; on old memory it reaches, through `p`, what `p` reaches
    have old_new : ∀ (i : Nat) (oi o : Obj), s.objs[i]? = some oi → nw = some o → (e i oi).mem = o.mem →
        VReach s'.objs i s.objs.length ∧ VReach s'.objs s.objs.length i := by
      intro i oi o hi h hmem
      rw [(hwin i oi).1] at hmem
      rcases (hnew o h).placed with hfresh | ⟨p, op, hp, hpm, hpn, hnp⟩
      · have := hs.memLt i oi hi; omega
      · have h1 : VReach s'.objs p s.objs.length :=
          VReach.step (by rw [vdepsOf_get (fwd p op hp)]; exact hpn) (VReach.refl _)
        have h2 : VReach s'.objs s.objs.length p :=
          VReach.step (by rw [vdepsOf_get (hobjs ▸ getElem?_edit_new h)]; exact hnp) (VReach.refl _)
        exact ⟨(vm (hs.share i p oi op hi hp (hmem.trans hpm.symm))).trans h1,
          h2.trans (vm (hs.share p i op oi hp hi (hpm.trans hmem.symm)))⟩
    intro i j oi oj hi hj hmem
    rcases split i oi hi with ⟨oi0, hi0, rfl⟩ | ⟨rfl, h1⟩ <;> rcases split j oj hj with ⟨oj0, hj0, rfl⟩ | ⟨rfl, h2⟩
    · rw [(hwin i oi0).1, (hwin j oj0).1] at hmem
      exact vm (hs.share i j oi0 oj0 hi0 hj0 hmem)
    · exact (old_new i oi0 oj hi0 h2 hmem).1
    · exact (old_new j oj0 oi hj0 h1 hmem.symm).2
    · exact VReach.refl _
  · intro p po q hp hq
    rcases split p po hp with ⟨o, ho, rfl⟩ | ⟨rfl, h⟩
    · have hq' : q < s.objs.length := (hoth p o q hq).elim (fun h => (hs.otherDep p o q ho h).2) id
      have hqo := List.getElem?_eq_getElem hq'
      rw [depsOf_get (fwd q _ hqo)]
      exact ⟨hreg p o q _ ho hqo hq fun h => depsOf_get hqo ▸ (hs.otherDep p o q ho h).1, Nat.lt_of_lt_of_le hq' hn⟩
    · obtain ⟨qo, hqo, hreg'⟩ := (hnew po h).registered q hq
      rw [depsOf_get (fwd q qo hqo)]
      exact ⟨hreg', Nat.lt_of_lt_of_le (Lists.lt_of_get hqo) hn⟩

theorem depsOf_ge (objs : List Obj) (a : Nat) (h : objs.length ≤ a) : depsOf objs a = [] := by
  simp [depsOf, List.getElem?_eq_none h]

theorem inv_pushFresh {s : State} (hs : Inv s) (vals : List Val) :
    Inv { mems := s.mems ++ [vals], objs := s.objs ++ [{ mem := s.mems.length, idx := List.range vals.length }] } := by
  refine inv_rewire hs (e := fun _ o => o) (nw := some { mem := s.mems.length, idx := List.range vals.length })
    (hobjs := by simp [Lists.mapIdx_self]) (hlen := by simp) (hread := fun _ h => contentsOf_block (List.getElem?_append_left h) rfl)
    (hwin := fun _ _ => ⟨rfl, rfl, fun _ h => h⟩) (hcache := fun _ _ => ⟨Or.inr rfl, Or.inr ⟨rfl, rfl⟩⟩)
    (hdeps := fun _ _ _ h => Or.inl h) (hoth := fun _ _ _ h => Or.inl h) (hreg := fun _ _ _ _ _ _ h hold => hold h)
    (hnew := ?_)
  rintro o ⟨rfl⟩
  exact ⟨by simp, rfl, rfl, by simp, by simp, Or.inl (Nat.le_refl _)⟩

/-- for the five operations that are no reads the reference step *is* `step ⟨true, true⟩` (`refStep`), so the output half
of `create_inv`, `take_inv`, `view_inv`, `setOther_inv`, `setItem_inv` is `rfl` -/
theorem create_inv {s : State} (hs : Inv s) (vals : List Val) :
    (step ⟨true, true⟩ s (.create vals)).2 = (refStep s (.create vals)).2 ∧ Inv (step ⟨true, true⟩ s (.create vals)).1 :=
  ⟨rfl, by simp only [step]; exact inv_pushFresh hs vals⟩

theorem take_inv {s : State} (hs : Inv s) (p : Nat) (rows : List Nat) :
    (step ⟨true, true⟩ s (.take p rows)).2 = (refStep s (.take p rows)).2 ∧ Inv (step ⟨true, true⟩ s (.take p rows)).1 := by
  refine ⟨rfl, ?_⟩
  cases hp : s.objs[p]? with
  | none => simp only [step, hp]; exact hs
  | some po =>
    simp only [step, hp]
    have := inv_pushFresh hs ((rows.filterMap (po.idx[·]?)).map (cell s po.mem))
    simpa using this

/-- the object at an old position `i` once a view `n` of `p`, attached to `oth`, has been pushed -/
def linkAt (p n : Nat) (oth : Option Nat) (i : Nat) (ob : Obj) : Obj :=
  { ob with vdeps := ob.vdeps ++ (if i = p then [n] else []), odeps := ob.odeps ++ (if oth = some i then [n] else []) }

theorem mem_deps_linkAt {p n : Nat} {oth : Option Nat} {i : Nat} {ob : Obj} {b : Nat} :
    b ∈ (linkAt p n oth i ob).vdeps ++ (linkAt p n oth i ob).odeps ↔
      b ∈ ob.vdeps ++ ob.odeps ∨ (b = n ∧ (i = p ∨ oth = some i)) := by
  simp only [linkAt, List.mem_append, Lists.mem_ite_singleton]
  tauto

theorem length_pushed (objs : List Obj) (p : Nat) (po : Obj) (rows : List Nat) (oth : Option Nat) :
    (pushViewOth ⟨true, true⟩ objs p po rows oth).length = objs.length + 1 := by
  cases oth <;> simp [pushViewOth, pushView, addVDep, addODep]

theorem pushViewOth_eq {objs : List Obj} {p : Nat} (hp : p < objs.length) (po : Obj) (rows : List Nat)
    {oth : Option Nat} (hoth : ∀ t, oth = some t → t < objs.length) :
    pushViewOth ⟨true, true⟩ objs p po rows oth = objs.mapIdx (linkAt p objs.length oth) ++
      (some ({ mem := po.mem, idx := rows.filterMap (po.idx[·]?), other := oth, vdeps := [p] } : Obj)).toList := by
  have hpn : ¬ objs.length = p := Nat.ne_of_gt hp
  have hoi : ¬ oth = some objs.length := fun e => Nat.lt_irrefl _ (hoth _ e)
  -- the `mapIdx` passes of `pushViewOth` composed, then split at the appended object
  cases oth with
  | none =>
    simp only [pushViewOth, pushView, if_true, addVDep, List.mapIdx_mapIdx, List.mapIdx_concat, Option.toList_some]
    congr 1
    · refine List.mapIdx_eq_mapIdx_iff.mpr fun i hi => ?_
      simp only [Function.comp, linkAt, Nat.ne_of_lt hi, if_false, reduceCtorEq]
      split_ifs <;> simp
    · simp [hpn]
  | some t =>
    have htn : ¬ t = objs.length := fun e => hoi (e ▸ rfl)
    simp only [pushViewOth, pushView, if_true, addVDep, addODep, List.mapIdx_mapIdx, List.mapIdx_concat,
      Option.toList_some]
    congr 1
    · refine List.mapIdx_eq_mapIdx_iff.mpr fun i hi => ?_
      simp only [Function.comp, linkAt, Nat.ne_of_lt hi, if_false, Option.some.injEq, eq_comm (a := t)]
      split_ifs <;> simp
    · simp [hpn, Ne.symm htn]

/-- what pushing views keeps of the objects that were there: their place, memory window and attachment -/
def Keeps (objs objs' : List Obj) : Prop :=
  objs.length ≤ objs'.length ∧
  ∀ (i : Nat) (o : Obj), objs[i]? = some o → ∃ o' : Obj, objs'[i]? = some o' ∧ o'.mem = o.mem ∧ o'.idx = o.idx ∧ o'.other = o.other

theorem Keeps.trans {a b c : List Obj} (h1 : Keeps a b) (h2 : Keeps b c) : Keeps a c := by
  refine ⟨Nat.le_trans h1.1 h2.1, ?_⟩
  intro i o ho
  obtain ⟨o1, ho1, hm1, hi1, ht1⟩ := h1.2 i o ho
  obtain ⟨o2, ho2, hm2, hi2, ht2⟩ := h2.2 i o1 ho1
  exact ⟨o2, ho2, hm2.trans hm1, hi2.trans hi1, ht2.trans ht1⟩

theorem keeps_pushed {objs : List Obj} {p : Nat} (hp : p < objs.length) (po : Obj) (rows : List Nat) {oth : Option Nat}
    (hoth : ∀ t, oth = some t → t < objs.length) : Keeps objs (pushViewOth ⟨true, true⟩ objs p po rows oth) := by
  refine ⟨by rw [length_pushed]; omega, fun i o ho => ?_⟩
  rw [pushViewOth_eq hp po rows hoth, getElem?_edit_old ho]
  exact ⟨_, rfl, rfl, rfl, rfl⟩

theorem inv_pushed {s : State} (hs : Inv s) {p : Nat} {po op : Obj} (rows : List Nat) {oth : Option Nat}
    (hop : s.objs[p]? = some op) (hm : po.mem = op.mem) (hoth : ∀ t, oth = some t → t < s.objs.length) :
    Inv { mems := s.mems, objs := pushViewOth ⟨true, true⟩ s.objs p po rows oth } := by
  have hplt := Lists.lt_of_get hop
  refine inv_rewire hs (hobjs := pushViewOth_eq hplt po rows hoth) (hlen := Nat.le_refl _) (hread := fun _ _ => rfl)
    (hwin := fun _ _ => ⟨rfl, rfl, fun _ h => List.mem_append_left _ h⟩)
    (hcache := fun _ _ => ⟨Or.inr rfl, Or.inr ⟨rfl, rfl⟩⟩) (hdeps := ?_) (hoth := fun _ _ _ h => Or.inl h)
    (hreg := fun _ _ _ _ _ _ h hold => mem_deps_linkAt.mpr (Or.inl (hold h))) (hnew := ?_)
  · intro i o b hb
    show _ ∨ b < (pushViewOth ⟨true, true⟩ s.objs p po rows oth).length
    rw [length_pushed]
    rcases mem_deps_linkAt.mp hb with h | ⟨rfl, _⟩
    · exact Or.inl h
    · exact Or.inr (Nat.lt_succ_self _)
  · rintro o ⟨rfl⟩
    refine ⟨hm ▸ hs.memLt p op hop, rfl, rfl, by simpa using hplt, fun q hq => ?_,
      Or.inr ⟨p, op, hop, hm.symm, by simp [linkAt], by simp⟩⟩
    exact ⟨_, List.getElem?_eq_getElem (hoth q hq), mem_deps_linkAt.mpr (Or.inr ⟨rfl, Or.inr hq⟩)⟩

/-- **Attachment chains of any depth**: pushing the views of a whole chain (innermost first, each new view attached to and
registered with the view of its own attached object) keeps the invariant, whatever the length of the chain. -/
theorem pushChain_inv (rows : List Nat) : ∀ (fuel : Nat) (s : State), Inv s → ∀ (p : Nat) (objs' : List Obj) (n : Nat),
    pushChain ⟨true, true⟩ rows fuel s.objs p = some (objs', n) →
    Inv { mems := s.mems, objs := objs' } ∧ Keeps s.objs objs' ∧ n < objs'.length := by
  intro fuel
  induction fuel with
  | zero => intro s hs p objs' n h; simp [pushChain] at h
  | succ f ih =>
    intro s hs p objs' n h
    simp only [pushChain] at h
    cases hp : s.objs[p]? with
    | none => simp [hp] at h
    | some po =>
      simp only [hp] at h
      cases ho : po.other with
      | none =>
        simp only [ho, Option.some.injEq, Prod.mk.injEq] at h
        obtain ⟨h1, h2⟩ := h
        subst h1; subst h2
        exact ⟨inv_pushed hs rows hp rfl (by intro t ht; cases ht), keeps_pushed (Lists.lt_of_get hp) po rows (by intro t ht; cases ht),
          by rw [length_pushed]; omega⟩
      | some q =>
        simp only [ho] at h
        cases hr : pushChain ⟨true, true⟩ rows f s.objs q with
        | none => simp [hr] at h
        | some r =>
          obtain ⟨objs1, nq⟩ := r
          simp only [hr, Option.some.injEq, Prod.mk.injEq] at h
          obtain ⟨h1, h2⟩ := h
          obtain ⟨hs1, hk1, hnq⟩ := ih s hs q objs1 nq hr
          obtain ⟨op1, hop1, hm1, _, _⟩ := hk1.2 p po hp
          subst h1; subst h2
          have hoth : ∀ t, some nq = some t → t < objs1.length := by intro t ht; cases ht; exact hnq
          exact ⟨inv_pushed hs1 rows hop1 hm1.symm hoth, hk1.trans (keeps_pushed (Lists.lt_of_get hop1) po rows hoth),
            by rw [length_pushed]; omega⟩

theorem view_inv {s : State} (hs : Inv s) (p : Nat) (rows : List Nat) :
    (step ⟨true, true⟩ s (.view p rows)).2 = (refStep s (.view p rows)).2 ∧ Inv (step ⟨true, true⟩ s (.view p rows)).1 := by
  refine ⟨rfl, ?_⟩
  simp only [step]
  cases h : pushChain ⟨true, true⟩ rows (s.objs.length + 1) s.objs p with
  | none => exact hs
  | some r =>
    obtain ⟨objs', n⟩ := r
    exact (pushChain_inv rows _ s hs p objs' n h).1

/-- what `p.other = q` makes of the object at position `i` (`old`: the previous other of `p`) -/
def setOtherAt (p : Nat) (old q : Option Nat) (i : Nat) (ob : Obj) : Obj :=
  { ob with
    conv := if i = p then none else ob.conv
    der := if i = p then none else ob.der
    other := if i = p then q else ob.other
    odeps := (if old = some i then ob.odeps.erase p else ob.odeps) ++ (if q = some i then [p] else []) }

theorem setOtherObjs_eq (objs : List Obj) (p : Nat) (old q : Option Nat) :
    setOtherObjs objs p old q = objs.mapIdx (setOtherAt p old q) ++ (none : Option Obj).toList := by
  rw [Option.toList_none, List.append_nil]
  unfold setOtherObjs
  congr 1
  funext i ob
  unfold setOtherAt
  split_ifs <;> simp

theorem odeps_setOtherAt (p : Nat) (old q : Option Nat) (i : Nat) (ob : Obj) :
    (∀ d ∈ (setOtherAt p old q i ob).odeps, d ∈ ob.odeps ∨ d = p) ∧
    (∀ d ∈ ob.odeps, d ≠ p → d ∈ (setOtherAt p old q i ob).odeps) ∧
    (q = some i → p ∈ (setOtherAt p old q i ob).odeps) := by
  unfold setOtherAt
  refine ⟨fun d hd => ?_, fun d hd hne => List.mem_append_left _ ?_, fun hq => by simp [hq]⟩
  · rcases List.mem_append.mp hd with hd | hd
    · split_ifs at hd
      · exact Or.inl (List.mem_of_mem_erase hd)
      · exact Or.inl hd
    · split_ifs at hd <;> simp at hd
      exact Or.inr hd
  · split_ifs
    · exact (List.mem_erase_of_ne hne).mpr hd
    · exact hd

theorem setOtherCore_inv {s : State} (hs : Inv s) (p : Nat) (q : Option Nat) : Inv (setOtherCore s p q).1 := by
  cases hp : s.objs[p]? with
  | none => simp only [setOtherCore, hp]; exact hs
  | some po =>
    simp only [setOtherCore, hp]
    split_ifs with hguard
    · exact hs
    · have hqlt : ∀ t, q = some t → t < s.objs.length := by
        intro t ht; subst ht; simpa using hguard
      refine inv_rewire hs (hobjs := setOtherObjs_eq s.objs p po.other q) (hlen := Nat.le_refl _) (hread := fun _ _ => rfl)
        (hwin := fun _ _ => ⟨rfl, rfl, fun _ h => h⟩) (hcache := ?_) (hdeps := ?_) (hoth := ?_) (hreg := ?_)
        (hnew := fun _ h => by cases h)
      · intro i o
        by_cases hip : i = p <;> simp [setOtherAt, hip]
      · intro i o b hb
        rcases List.mem_append.mp hb with hb | hb
        · exact Or.inl (List.mem_append_left _ hb)
        · rcases (odeps_setOtherAt ..).1 b hb with h | rfl
          · exact Or.inl (List.mem_append_right _ h)
          · exact Or.inr (by simpa [setOtherObjs] using Lists.lt_of_get hp)
      · intro i o t ht
        by_cases hip : i = p
        · exact Or.inr (hqlt t (by simpa [setOtherAt, hip] using ht))
        · exact Or.inl (by simpa [setOtherAt, hip] using ht)
      · intro i o t qo _ _ ht hold
        by_cases hip : i = p
        · subst hip
          exact List.mem_append_right _ ((odeps_setOtherAt ..).2.2 (by simpa [setOtherAt] using ht))
        · rcases List.mem_append.mp (hold (by simpa [setOtherAt, hip] using ht)) with h | h
          · exact List.mem_append_left _ h
          · exact List.mem_append_right _ ((odeps_setOtherAt ..).2.1 i h hip)

theorem setOther_inv {s : State} (hs : Inv s) (p : Nat) (q : Option Nat) :
    (step ⟨true, true⟩ s (.setOther p q)).2 = (refStep s (.setOther p q)).2 ∧ Inv (step ⟨true, true⟩ s (.setOther p q)).1 := by
  refine ⟨rfl, ?_⟩
  cases hp : s.objs[p]? with
  | none => simp only [step, hp]; exact hs
  | some po =>
    simp only [step, hp]
    split
    · exact setOtherCore_inv (inv_clearCaches hs _) p q
    · exact setOtherCore_inv hs p q

end Midgard.ObjCache
