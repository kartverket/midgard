/-
C10 — `_write` of one array with the attributes `other` / `ref_pos` and `time` (`writeArrX`): what every array group of
the result looks like (`NodeW`), stated on lookups of the memo.
-/
import Midgard.Proofs.H5Write
import Midgard.Proofs.H5File

namespace Midgard.H5
open Midgard.Dataset

/-- one attribute `nm` with value `x` of a group at `q` with attribute text `r` and sub-groups `subs`: absent, a reference
by name that satisfies `H`, or the embedded sub-group `nm` written for `x` -/
def SlotW (H : Path → Nat → Prop) (q : Path) (subs : List (String × Grp)) (nm : String) (x : Option Nat) (r : Option Path) : Prop :=
  match x with
  | none => r = none ∧ subs.lookup nm = none
  | some x => (∃ qx, r = some qx ∧ H qx x ∧ subs.lookup nm = none) ∨
      (r = none ∧ ∃ g', subs.lookup nm = some g' ∧ g'.isArr = true ∧ g'.src = x ∧ g'.attrs.fieldname = q ++ [nm])

theorem SlotW.mono {H H' : Path → Nat → Prop} (hh : ∀ q x, H q x → H' q x) {q : Path} {subs : List (String × Grp)}
    {nm : String} {x : Option Nat} {r : Option Path} (s : SlotW H q subs nm x r) : SlotW H' q subs nm x r := by
  cases x with
  | none => exact s
  | some x =>
    simp only [SlotW] at s ⊢
    rcases s with ⟨qx, a, b, c⟩ | s
    · exact Or.inl ⟨qx, a, hh _ _ b, c⟩
    · exact Or.inr s

/-- the array group `g` at `q` is what `_write` makes of the object `g.src` -/
def NodeW (H : Path → Nat → Prop) (h : Heap) (tm : TM) (q : Path) (g : Grp) : Prop :=
  ∃ a ob subs, g = .mk a (some ob.strip) subs ∧ h[a.src]? = some ob ∧ a.fieldname = q ∧
    match attrName ob.kind with
    | none => a.ref = none ∧ a.tref = none ∧ subs = []
    | some nm => SlotW H q subs nm ob.ref a.ref ∧ SlotW H q subs "time" (tmE h tm a.src) a.tref

theorem NodeW.mono {H H' : Path → Nat → Prop} (hh : ∀ q x, H q x → H' q x) {h : Heap} {tm : TM} {q : Path} {g : Grp}
    (n : NodeW H h tm q g) : NodeW H' h tm q g := by
  obtain ⟨a, ob, subs, hg, hob, hf, hc⟩ := n
  refine ⟨a, ob, subs, hg, hob, hf, ?_⟩
  cases hat : attrName ob.kind with
  | none => rw [hat] at hc; exact hc
  | some nm => rw [hat] at hc; exact ⟨hc.1.mono hh, hc.2.mono hh⟩

theorem NodeW.nodeMono (h : Heap) (tm : TM) : NodePred.Mono (fun H => NodeW H h tm) := fun hh => NodeW.mono hh

theorem SlotW.congr_subs {H : Path → Nat → Prop} {p : Path} {subs subs' : List (String × Grp)} {n : String} {x : Option Nat}
    {r : Option Path} (he : subs'.lookup n = subs.lookup n) (s : SlotW H p subs n x r) : SlotW H p subs' n x r := by
  cases x with
  | none => simp only [SlotW] at s ⊢; rw [he]; exact s
  | some x => simp only [SlotW] at s ⊢; rw [he]; exact s

/-- what one turn of the attribute loop guarantees (`rec` is `writeArrX` with less fuel) -/
theorem slotWrite_spec {N : NodePred} {rec : Nat → Path → WMemo → M (Grp × WMemo)}
    (IH : ∀ x q memo g memo', rec x q memo = .ok (g, memo') → memo.lookup x = some q → ArrWritten N x none 3 q memo g memo')
    {p : Path} {nm : String} {x : Option Nat} {memo : WMemo} {r : Option Path} {subs : List (String × Grp)} {memo' : WMemo}
    (hs : slotWrite rec p nm x memo = .ok (r, subs, memo')) :
    WSpec N (Grp.nodes.nodesL p subs) [] memo memo' ∧ NamesOKG.NamesOKL subs ∧
    SlotW (fun q y => memo'.lookup y = some q) p subs nm x r ∧ (subs = [] ∨ ∃ g, subs = [(nm, g)]) := by
  cases x with
  | none =>
    simp only [slotWrite, Except.ok.injEq, Prod.mk.injEq] at hs
    obtain ⟨rfl, rfl, rfl⟩ := hs
    exact ⟨WSpec.refl _ _ _, trivial, ⟨rfl, rfl⟩, Or.inl rfl⟩
  | some x =>
    simp only [slotWrite] at hs
    split at hs
    · rename_i name hl
      cases hs
      exact ⟨WSpec.refl _ _ _, trivial, Or.inl ⟨name, rfl, hl, rfl⟩, Or.inl rfl⟩
    · rename_i hl
      split at hs
      · simp at hs
      · rename_i gc memoc hrec
        simp only [Except.ok.injEq, Prod.mk.injEq] at hs
        obtain ⟨rfl, rfl, rfl⟩ := hs
        have ih := IH x (p ++ [nm]) _ gc memoc hrec List.lookup_cons_self
        refine ⟨?_, ?_, Or.inr ⟨rfl, gc, by simp [List.lookup], ih.isArr, ih.src, ih.attrs.1⟩, Or.inr ⟨gc, rfl⟩⟩
        · rw [nodesL_single]
          exact ih.spec.push hl (root_mem_nodes _ ih.isArr) ih.src
        · exact namesOKL_single ih.names

theorem writeArrX_written (h : Heap) (tm : TM) : ∀ (fuel : Nat) (u : Option (List String)) (l o : Nat) (p : Path) (memo : WMemo)
    (g : Grp) (memo' : WMemo), writeArrX h tm u l fuel o p memo = .ok (g, memo') → memo.lookup o = some p →
    ArrWritten (fun H => NodeW H h tm) o u l p memo g memo'
  | 0, _, _, _, _, _, _, _, hw, _ => by simp [writeArrX] at hw
  | fuel + 1, u, l, o, p, memo, g, memo', hw, hp => by
    simp only [writeArrX] at hw
    split at hw
    · simp at hw
    · rename_i ob hob
      split at hw
      · rename_i hat
        cases hw
        refine ⟨rfl, rfl, ⟨rfl, rfl, rfl, rfl⟩, namesOKG_leaf _ _, ?_⟩
        rw [nodes_leaf]
        exact WSpec.single hp rfl ⟨_, ob, [], rfl, hob, rfl, by rw [hat]; exact ⟨rfl, rfl, rfl⟩⟩
      · rename_i nm hat
        split at hw
        · simp at hw
        · rename_i r1 subs1 memo1 hs1
          split at hw
          · simp at hw
          · rename_i r2 subs2 memo2 hs2
            cases hw
            rw [tmE_of hob] at hs2
            have IH := writeArrX_written h tm fuel none 3
            obtain ⟨w1, nm1, sl1, sh1⟩ := slotWrite_spec IH hs1
            obtain ⟨w2, nm2, sl2, sh2⟩ := slotWrite_spec IH hs2
            have w12 := w1.append (NodeW.nodeMono h tm) w2
            have st3 : Stable memo2 ((o, p) :: memo2) := Stable.cons (.inr (w12.stable o p hp))
            have hntime : nm ≠ "time" := by
              intro he
              have := attrName_ne_time hat
              rw [he] at this
              simp at this
            -- each slot finds its own sub-group among the combined sub-groups
            have hl1 : (subs1 ++ subs2).lookup nm = subs1.lookup nm := by
              rcases sh1 with rfl | ⟨g1, rfl⟩
              · rcases sh2 with rfl | ⟨g2, rfl⟩
                · rfl
                · have : (nm == "time") = false := by simpa using hntime
                  simp [List.lookup, this]
              · simp [List.lookup]
            have hl2 : (subs1 ++ subs2).lookup "time" = subs2.lookup "time" := by
              rcases sh1 with rfl | ⟨g1, rfl⟩
              · rfl
              · have : ("time" == nm) = false := attrName_ne_time hat
                simp [List.lookup, this]
            refine ⟨rfl, rfl, ⟨rfl, rfl, rfl, rfl⟩, ?_, ?_⟩
            · simp only [NamesOKG]
              rcases sh1 with rfl | ⟨g1, rfl⟩
              · exact nm2
              · rcases sh2 with rfl | ⟨g2, rfl⟩
                · simpa using nm1
                · simp only [NamesOKG.NamesOKL] at nm1 nm2 ⊢
                  refine ⟨nm1.1, ?_, nm2.1, by simp, trivial⟩
                  intro e he
                  have he' : e = ("time", g2) := by simpa using he
                  subst he'
                  exact fun h => hntime h.symm
            · rw [nodes_arr, nodesL_append]
              refine w12.root (NodeW.nodeMono h tm) hp rfl ⟨_, ob, subs1 ++ subs2, rfl, hob, rfl, ?_⟩
              rw [hat]
              exact ⟨(sl1.mono (fun q x hx => st3 x q (w2.stable x q hx))).congr_subs hl1,
                (sl2.mono (fun q x hx => st3 x q hx)).congr_subs hl2⟩

/-- `ArrWritten (fun H => NodeW H h tm)` spelt out on lookups of the memo; a statement form only: what is proved of `writeArrX` is
`writeArrX_written` -/
structure WArrX (h : Heap) (tm : TM) (o : Nat) (p : Path) (memo : WMemo) (g : Grp) (memo' : WMemo) : Prop where
  src : g.src = o
  isArr : g.isArr = true
  fn : g.attrs.fieldname = p
  node : ∀ q g', (q, g') ∈ Grp.nodes p g → NodeW (fun q x => memo'.lookup x = some q) h tm q g'
  stable : Stable memo memo'
  newIn : ∀ x q, memo'.lookup x = some q → memo.lookup x = some q ∨ ∃ g', (q, g') ∈ Grp.nodes p g ∧ g'.src = x
  own : ∀ q g', (q, g') ∈ Grp.nodes p g → memo'.lookup g'.src = some q
  names : NamesOKG g

/-- the heap conditions for the model with `time`: references point to older objects, a `time` is a time object -/
structure HeapX (h : Heap) (tm : TM) : Prop where
  below : Below h
  tmOK : ∀ o t, tmE h tm o = some t → ∃ tb, h[t]? = some tb ∧ tb.kind = .time

theorem slotWrite_total {rec : Nat → Path → WMemo → M (Grp × WMemo)} (p : Path) (nm : String) (x : Option Nat) (memo : WMemo)
    (hrec : ∀ y, x = some y → ∀ q m, ∃ g m', rec y q m = .ok (g, m')) :
    ∃ r, slotWrite rec p nm x memo = .ok r := by
  cases x with
  | none => exact ⟨_, rfl⟩
  | some y =>
    simp only [slotWrite]
    split
    · exact ⟨_, rfl⟩
    · obtain ⟨g, m', hw⟩ := hrec y rfl (p ++ [nm]) ((y, p ++ [nm]) :: memo)
      rw [hw]
      exact ⟨_, rfl⟩

/-- with fuel `o + 2` for an object with attributes (one step per older object and one for a `time`, which has none) and
fuel 1 for one without -/
theorem writeArrX_fuel (h : Heap) (tm : TM) (hx : HeapX h tm) : ∀ (fuel : Nat) (u : Option (List String)) (l : Nat) (o : Nat)
    (p : Path) (memo : WMemo) (ob : Obj), h[o]? = some ob → (attrName ob.kind = none ∧ 1 ≤ fuel ∨ o + 2 ≤ fuel) →
    ∃ g memo', writeArrX h tm u l fuel o p memo = .ok (g, memo')
  | 0, _, _, _, _, _, _, _, hf => by omega
  | fuel + 1, u, l, o, p, memo, ob, hob, hf => by
    simp only [writeArrX, hob]
    cases hat : attrName ob.kind with
    | none => exact ⟨_, _, rfl⟩
    | some nm =>
      have hfu : o + 2 ≤ fuel + 1 := by
        rcases hf with ⟨hn, _⟩ | hf
        · rw [hat] at hn; cases hn
        · exact hf
      simp only
      obtain ⟨⟨r1, subs1, memo1⟩, hs1⟩ := slotWrite_total (rec := writeArrX h tm none 3 fuel) p nm ob.ref memo (by
        intro y hy q m
        have hy' : y < o := hx.below o ob y hob hy
        have hyl : y < h.length := by
          have := (List.getElem?_eq_some_iff.mp hob).1; omega
        exact writeArrX_fuel h tm hx fuel none 3 y q m h[y] (List.getElem?_eq_getElem hyl) (Or.inr (by omega)))
      rw [hs1]
      simp only
      obtain ⟨⟨r2, subs2, memo2⟩, hs2⟩ := slotWrite_total (rec := writeArrX h tm none 3 fuel) p "time"
        (if ob.kind.hasOther then tmOf tm o else none) memo1 (by
        intro y hy q m
        rw [tmE_of hob] at hy
        obtain ⟨tb, htb, hk⟩ := hx.tmOK o y hy
        exact writeArrX_fuel h tm hx fuel none 3 y q m tb htb (Or.inl ⟨attrName_of_time hk, by omega⟩))
      rw [hs2]
      exact ⟨_, _, rfl⟩

/-- the fuel `FieldType.write` gives is enough for every object of the heap -/
theorem writeArrX_total {h : Heap} {tm : TM} (hx : HeapX h tm) (u : Option (List String)) (l o : Nat) (p : Path) (memo : WMemo)
    (ho : o < h.length) : ∃ g memo', writeArrX h tm u l (h.length + 1) o p memo = .ok (g, memo') :=
  writeArrX_fuel h tm hx (h.length + 1) u l o p memo h[o] (List.getElem?_eq_getElem ho) (Or.inr (by omega))

end Midgard.H5
