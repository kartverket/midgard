/-
C09 — `subset`.  One array object: `subsetObj` / `subsetPlain` build the image of the object, register it in the memo under
the old id and never overwrite a registration of an array of a memo-using kind — so every field (or attachment) that held
the same object afterwards holds the same new object (also under the sort of `merge_with`, which is a `subset`).  Fields
and datasets: the new field tree is the image of the old one (`FieldImg`: same names, kinds, units, levels, in the same
order; every object the image of the old object), it is rectangular with `idx.count` rows, and every memo-using leaf is
registered to its new array (`LeafMap`).
-/
import Midgard.Proofs.DatasetShape

namespace Midgard.Dataset

def Kind.plainish (k : Kind) : Bool := k.isPlain || k == .sigma

/-- registrations of objects whose kind uses the memo survive -/
def PersistK (s s' : St) : Prop :=
  ∀ k v ob, s.heap[k]? = some ob → ob.kind.plainish = false → s.find k = some v → s'.find k = some v

theorem PersistK.refl (s : St) : PersistK s s := fun _ _ _ _ _ h => h

theorem PersistK.trans {a b c : St} (e : HeapExt a.heap b.heap) (h1 : PersistK a b) (h2 : PersistK b c) : PersistK a c :=
  fun k v ob hob hk hf => h2 k v ob (e.get hob) hk (h1 k v ob hob hk hf)

theorem PersistK.set_fresh {s : St} {k v : Nat} (hn : s.find k = none) : PersistK s (s.set k v) := by
  intro k' v' ob _ _ hf
  rw [find_set]
  by_cases h : k' == k
  · have : k' = k := by simpa using h
    subst this; rw [hn] at hf; cases hf
  · simp [h, hf]

/-- what one `subsetObj` call guarantees for the memo -/
def RegOK (s s' : St) (o o' : Nat) : Prop :=
  HeapExt s.heap s'.heap ∧ PersistK s s' ∧ s'.find o = some o'

theorem viaMemo_full {idx : Index} {rec : Nat → St → M (Nat × St)}
    (hrec : ∀ a s a' s', rec a s = .ok (a', s') → RegOK s s' a a' ∧ (MemoInv idx s → MemoInv idx s' ∧ Img idx s'.heap a a'))
    {c : Bool} {r : Option Nat} {s : St} {r' : Option Nat} {s' : St}
    (h : (if c then viaMemo rec r s else .ok (none, s)) = .ok (r', s')) :
    (HeapExt s.heap s'.heap ∧ PersistK s s') ∧
      (MemoInv idx s → MemoInv idx s' ∧ (c = true → OptRel (Img idx s'.heap) r r')) := by
  cases c with
  | false =>
    cases h
    exact ⟨⟨HeapExt.refl _, PersistK.refl _⟩, fun hm => ⟨hm, nofun⟩⟩
  | true =>
    simp only [if_true] at h
    cases r with
    | none =>
      cases h
      exact ⟨⟨HeapExt.refl _, PersistK.refl _⟩, fun hm => ⟨hm, fun _ => .none⟩⟩
    | some a =>
      simp only [viaMemo] at h
      split at h
      · rename_i a' hf
        cases h
        exact ⟨⟨HeapExt.refl _, PersistK.refl _⟩, fun hm => ⟨hm, fun _ => .some (hm.find hf)⟩⟩
      · rename_i hnone
        obtain ⟨a', s1, hr, h⟩ := bindObj_ok h
        cases h
        obtain ⟨⟨e, p, _⟩, img⟩ := hrec _ _ _ _ hr
        refine ⟨⟨e, fun k v ob hob hk hf => ?_⟩, fun hm => ⟨(img hm).1.set (img hm).2, fun _ => .some (img hm).2⟩⟩
        rw [find_set]
        by_cases hka : k == a
        · rw [eq_of_beq hka, hnone] at hf; cases hf
        · simp only [hka, Bool.false_eq_true, if_false]
          exact p k v ob hob hk hf

/-- **`subsetObj` registers its result, never overwrites a registration, and — under the memo invariant — builds the
image of `o`** and keeps the invariant.  Whatever the fuel and the state; the heap only grows. -/
theorem subsetObj_full (idx : Index) : ∀ (fuel o : Nat) (s : St) (o' : Nat) (s' : St),
    subsetObj idx fuel o s = .ok (o', s') →
    RegOK s s' o o' ∧ (MemoInv idx s → MemoInv idx s' ∧ Img idx s'.heap o o')
  | 0, _, _, _, _, h => by cases h
  | fuel + 1, o, s, o', s', h => by
    simp only [subsetObj] at h
    split at h
    · rename_i v hf
      cases h
      exact ⟨⟨HeapExt.refl _, PersistK.refl _, hf⟩, fun hm => ⟨hm, hm.find hf⟩⟩
    · -- a miss: the new object is the image once its two references, each followed through the memo, are images
      rename_i hnone
      split at h
      · simp at h
      · rename_i obj hobj
        split at h
        · simp at h
        · rename_i rows hrows
          split at h
          · simp at h
          · rename_i oth s1 h1
            split at h
            · simp at h
            · rename_i rp s2 h2
              cases h
              obtain ⟨⟨e1, p1⟩, i1⟩ := viaMemo_full (subsetObj_full idx fuel) h1
              obtain ⟨⟨e2, p2⟩, i2⟩ := viaMemo_full (subsetObj_full idx fuel) h2
              have e3 := HeapExt.alloc s2 { obj with rows := rows, other := oth, refPos := rp }
              have e13 := (e1.trans e2).trans e3
              refine ⟨⟨e13, fun k v ob hob hk hf => ?_, by rw [find_set]; simp⟩, fun hm => ?_⟩
              · rw [find_set]
                by_cases hko : k == o
                · rw [eq_of_beq hko, hnone] at hf; cases hf
                · simp only [hko, Bool.false_eq_true, if_false, find_alloc]
                  exact PersistK.trans e1 p1 p2 k v ob hob hk hf
              · obtain ⟨m1, r1⟩ := i1 hm
                obtain ⟨m2, r2⟩ := i2 m1
                have himg := Img.mk (e13.get hobj) (alloc_get s2 _) hrows rfl rfl rfl
                  (fun hk => ((r1 hk).mono (fun _ _ => Img.ext e2)).mono (fun _ _ => Img.ext e3))
                  (fun hk => (r2 hk).mono (fun _ _ => Img.ext e3))
                exact ⟨MemoInv.set (s := (s2.alloc _).2) (m2.ext e3) himg, himg⟩

/-- `subsetPlain` only ever registers under the id of a plain / sigma array, so it cannot overwrite the registration of an
array of a memo-using kind -/
theorem subsetPlain_full {idx : Index} {o : Nat} {s : St} {o' : Nat} {s' : St}
    (h : subsetPlain idx o s = .ok (o', s')) :
    (HeapExt s.heap s'.heap ∧ PersistK s s') ∧ (MemoInv idx s → MemoInv idx s' ∧ Img idx s'.heap o o') := by
  simp only [subsetPlain] at h
  split at h
  · simp at h
  · rename_i obj hobj
    obtain ⟨hkind, h⟩ := guard_ok h
    split at h
    · simp at h
    · rename_i rows hrows
      cases h
      have hpl : obj.kind.plainish = true := by
        simp only [Kind.plainish]
        cases hp : (obj.kind.isPlain || obj.kind == .sigma) with
        | true => rfl
        | false => simp [hp] at hkind
      have e := HeapExt.alloc s { obj with rows := rows }
      refine ⟨⟨e, fun k v ob hob hk hf => ?_⟩, fun hm => ?_⟩
      · rw [find_set]
        by_cases hko : k == o
        · rw [eq_of_beq hko, hobj] at hob
          cases hob
          rw [hpl] at hk; cases hk
        · simp only [hko, Bool.false_eq_true, if_false, find_alloc]
          exact hf
      · have hk := Kind.no_refs_of_plainish (k := obj.kind) hpl
        have himg := Img.mk (e.get hobj) (alloc_get s _) hrows rfl rfl rfl
          (fun h' => by rw [hk.1] at h'; cases h') (fun h' => by rw [hk.2] at h'; cases h')
        exact ⟨MemoInv.set (s := (s.alloc _).2) (hm.ext e) himg, himg⟩

/-- every memo-using leaf of the old tree is mapped by `σ` to the leaf at the same place of the new
tree -/
def LeafMap (σ : Nat → Option Nat) : Field → Field → Prop
  | .leaf _ k o _ _ _, f' => ∃ n' o' no' u' l', f' = .leaf n' k o' no' u' l' ∧ (k.plainish = false → σ o = some o')
  | .coll _ _ _ fs, f' => ∃ n' no' l' fs', f' = .coll n' no' l' fs' ∧ LeafMaps fs fs'
where LeafMaps : List Field → List Field → Prop
  | [], fs' => fs' = []
  | f :: fs, fs' => ∃ f' r', fs' = f' :: r' ∧ LeafMap σ f f' ∧ LeafMaps fs r'

/-- `LeafMap` w.r.t. the memo of a state, transported to a later state -/
def LeafMapAt (h : Heap) (s : St) : Field → Field → Prop
  | .leaf _ k o _ _ _, f' => ∃ n' o' no' u' l', f' = .leaf n' k o' no' u' l' ∧
      (k.plainish = false → s.find o = some o' ∧ ∃ ob, h[o]? = some ob ∧ ob.kind = k)
  | .coll _ _ _ fs, f' => ∃ n' no' l' fs', f' = .coll n' no' l' fs' ∧ LeafMapsAt fs fs'
where LeafMapsAt : List Field → List Field → Prop
  | [], fs' => fs' = []
  | f :: fs, fs' => ∃ f' r', fs' = f' :: r' ∧ LeafMapAt h s f f' ∧ LeafMapsAt fs r'

mutual
theorem LeafMapAt.mono {h : Heap} {s s' : St} (e : HeapExt h s.heap) (p : PersistK s s') :
    ∀ (f f' : Field), LeafMapAt h s f f' → LeafMapAt h s' f f'
  | .leaf _ k o _ _ _, f', hh => by
    simp only [LeafMapAt] at hh ⊢
    obtain ⟨n', o', no', u', l', rfl, hreg⟩ := hh
    refine ⟨n', o', no', u', l', rfl, fun hk => ?_⟩
    obtain ⟨hf, ob, hob, hkind⟩ := hreg hk
    exact ⟨p o o' ob (e.get hob) (by rw [hkind]; exact hk) hf, ob, hob, hkind⟩
  | .coll _ _ _ fs, f', hh => by
    simp only [LeafMapAt] at hh ⊢
    obtain ⟨n', no', l', fs', rfl, h2⟩ := hh
    exact ⟨n', no', l', fs', rfl, LeafMapsAt.mono e p fs fs' h2⟩
theorem LeafMapsAt.mono {h : Heap} {s s' : St} (e : HeapExt h s.heap) (p : PersistK s s') :
    ∀ (fs fs' : List Field), LeafMapAt.LeafMapsAt h s fs fs' → LeafMapAt.LeafMapsAt h s' fs fs'
  | [], _, hh => by simpa [LeafMapAt.LeafMapsAt] using hh
  | f :: fs, _, hh => by
    simp only [LeafMapAt.LeafMapsAt] at hh ⊢
    obtain ⟨f', r', rfl, h1, h2⟩ := hh
    exact ⟨f', r', rfl, LeafMapAt.mono e p f f' h1, LeafMapsAt.mono e p fs r' h2⟩
end

mutual
theorem LeafMapAt.toMap {h : Heap} {s : St} : ∀ (f f' : Field), LeafMapAt h s f f' → LeafMap s.find f f'
  | .leaf _ k o _ _ _, f', hh => by
    simp only [LeafMapAt] at hh
    simp only [LeafMap]
    obtain ⟨n', o', no', u', l', rfl, hreg⟩ := hh
    exact ⟨n', o', no', u', l', rfl, fun hk => (hreg hk).1⟩
  | .coll _ _ _ fs, f', hh => by
    simp only [LeafMapAt] at hh
    simp only [LeafMap]
    obtain ⟨n', no', l', fs', rfl, h2⟩ := hh
    exact ⟨n', no', l', fs', rfl, LeafMapsAt.toMaps fs fs' h2⟩
theorem LeafMapsAt.toMaps {h : Heap} {s : St} : ∀ (fs fs' : List Field), LeafMapAt.LeafMapsAt h s fs fs' →
    LeafMap.LeafMaps s.find fs fs'
  | [], _, hh => by simpa [LeafMapAt.LeafMapsAt, LeafMap.LeafMaps] using hh
  | f :: fs, _, hh => by
    simp only [LeafMapAt.LeafMapsAt] at hh
    simp only [LeafMap.LeafMaps]
    obtain ⟨f', r', rfl, h1, h2⟩ := hh
    exact ⟨f', r', rfl, LeafMapAt.toMap f f' h1, LeafMapsAt.toMaps fs r' h2⟩
end

/-- the field tree after the selection, field by field: same names, kinds, units, levels and
order; every array the image of the old one; every `num_obs` the number of selected rows -/
def FieldImg (idx : Index) (h : Heap) : Field → Field → Prop
  | .leaf n k o _ u l, f' => ∃ o' no', f' = .leaf n k o' no' u l ∧ Img idx h o o' ∧ no' = idx.count
  | .coll n _ l fs, f' => ∃ no' fs', f' = .coll n no' l fs' ∧ FieldsImg fs fs' ∧ no' = idx.count
where FieldsImg : List Field → List Field → Prop
  | [], fs' => fs' = []
  | f :: fs, fs' => ∃ f' r', fs' = f' :: r' ∧ FieldImg idx h f f' ∧ FieldsImg fs r'

mutual
theorem FieldImg.ext {idx : Index} {h h' : Heap} (e : HeapExt h h') :
    ∀ (f f' : Field), FieldImg idx h f f' → FieldImg idx h' f f'
  | .leaf n k o no u l, f', hh => by
    simp only [FieldImg] at hh ⊢
    obtain ⟨o', no', h1, h2, h3⟩ := hh
    exact ⟨o', no', h1, h2.ext e, h3⟩
  | .coll n no l fs, f', hh => by
    simp only [FieldImg] at hh ⊢
    obtain ⟨no', fs', h1, h2, h3⟩ := hh
    exact ⟨no', fs', h1, FieldsImg.ext e fs fs' h2, h3⟩
theorem FieldsImg.ext {idx : Index} {h h' : Heap} (e : HeapExt h h') :
    ∀ (fs fs' : List Field), FieldImg.FieldsImg idx h fs fs' → FieldImg.FieldsImg idx h' fs fs'
  | [], fs', hh => by simpa [FieldImg.FieldsImg] using hh
  | f :: fs, fs', hh => by
    simp only [FieldImg.FieldsImg] at hh ⊢
    obtain ⟨f', r', h1, h2, h3⟩ := hh
    exact ⟨f', r', h1, FieldImg.ext e f f' h2, FieldsImg.ext e fs r' h3⟩
end

mutual
theorem FieldImg.sameShape {idx : Index} {h : Heap} : ∀ (f f' : Field), FieldImg idx h f f' → SameShape f f'
  | .leaf .., _, hh => by
    simp only [FieldImg] at hh
    obtain ⟨o', no', rfl, _, _⟩ := hh
    exact SameShape.leaf ..
  | .coll _ _ _ fs, _, hh => by
    simp only [FieldImg] at hh
    obtain ⟨no', fs', rfl, h2, _⟩ := hh
    exact SameShape.coll (FieldsImg.sameShapes fs fs' h2)
theorem FieldsImg.sameShapes {idx : Index} {h : Heap} : ∀ (fs fs' : List Field),
    FieldImg.FieldsImg idx h fs fs' → SameShape.SameShapes fs fs'
  | [], _, hh => by simp only [FieldImg.FieldsImg] at hh; subst hh; simp [SameShape.SameShapes]
  | f :: fs, _, hh => by
    simp only [FieldImg.FieldsImg] at hh
    obtain ⟨f', r', rfl, h1, h2⟩ := hh
    simp only [SameShape.SameShapes]
    exact ⟨f', r', rfl, FieldImg.sameShape f f' h1, FieldsImg.sameShapes fs r' h2⟩
end

theorem FieldsImg.nil_iff {idx : Index} {h : Heap} {fs fs' : List Field} (hh : FieldImg.FieldsImg idx h fs fs') :
    fs' = [] ↔ fs = [] :=
  SameShapes.nil_iff (FieldsImg.sameShapes fs fs' hh)

mutual
theorem FieldImg.rect {idx : Index} {h : Heap} : ∀ (f f' : Field), FieldImg idx h f f' → RectField h idx.count f'
  | .leaf n k o no u l, f', hh => by
    simp only [FieldImg] at hh
    obtain ⟨o', no', rfl, h2, h3⟩ := hh
    exact rectField_leaf_iff.mpr ⟨h2.good, h3⟩
  | .coll n no l fs, f', hh => by
    simp only [FieldImg] at hh
    obtain ⟨no', fs', rfl, h2, h3⟩ := hh
    simp only [RectField]
    exact ⟨FieldsImg.rect fs fs' h2, h3⟩
theorem FieldsImg.rect {idx : Index} {h : Heap} : ∀ (fs fs' : List Field), FieldImg.FieldsImg idx h fs fs' →
    RectField.RectFields h idx.count fs'
  | [], fs', hh => by simp only [FieldImg.FieldsImg] at hh; subst hh; simp [RectField.RectFields]
  | f :: fs, fs', hh => by
    simp only [FieldImg.FieldsImg] at hh
    obtain ⟨f', r', rfl, h2, h3⟩ := hh
    simp only [RectField.RectFields]
    exact ⟨FieldImg.rect f f' h2, FieldsImg.rect fs r' h3⟩
end

theorem FieldImg.len {idx : Index} {h : Heap} : ∀ (f f' : Field), FieldImg idx h f f' → Field.len h f' = idx.count :=
  fun f f' hh => RectField.len f' (FieldImg.rect f f' hh)

theorem FieldsImg.len {idx : Index} {h : Heap} (fs fs' : List Field) (hh : FieldImg.FieldsImg idx h fs fs')
    (hne : fs ≠ []) : Field.len.lenL h fs' = idx.count :=
  RectFields.len fs' (FieldsImg.rect fs fs' hh) (fun he => hne ((FieldsImg.nil_iff hh).mp he))

/-! `FieldType.subset` / `CollectionField._subset`: registrations survive, the new tree is the image under the memo invariant,
memo-using leaves are registered to their new arrays — one induction over the tree for the three. -/
mutual
theorem subsetField_full (idx : Index) (h : Heap) : ∀ (f : Field) (s : St) (f' : Field) (s' : St),
    subsetField idx f s = .ok (f', s') →
    (HeapExt s.heap s'.heap ∧ PersistK s s') ∧ (MemoInv idx s → MemoInv idx s' ∧ FieldImg idx s'.heap f f') ∧
      (HeapExt h s.heap → KindsOK h f → LeafMapAt h s' f f')
  | .leaf n k o no u l, s, f', s', hs => by
    simp only [subsetField] at hs
    obtain ⟨o', s1, hr, hs⟩ := bindObj_ok hs
    cases hs
    have key : (HeapExt s.heap s'.heap ∧ PersistK s s') ∧ (MemoInv idx s → MemoInv idx s' ∧ Img idx s'.heap o o') ∧
        (k.plainish = false → s'.find o = some o') := by
      by_cases hp : (k.isPlain || k == .sigma) = true
      · simp only [hp, if_true] at hr
        exact ⟨(subsetPlain_full hr).1, (subsetPlain_full hr).2, fun hn => by simp [Kind.plainish, hp] at hn⟩
      · simp only [hp] at hr
        obtain ⟨⟨a, b, c⟩, d⟩ := subsetObj_full idx _ o s o' s' hr
        exact ⟨⟨a, b⟩, d, fun _ => c⟩
    refine ⟨key.1, fun hm => ⟨(key.2.1 hm).1, ?_⟩, fun _ hk => ?_⟩
    · simp only [FieldImg]
      exact ⟨o', _, rfl, (key.2.1 hm).2, (key.2.1 hm).2.good.objLen⟩
    · simp only [KindsOK] at hk
      simp only [LeafMapAt]
      exact ⟨_, _, _, _, _, rfl, fun hn => ⟨key.2.2 hn, hk⟩⟩
  | .coll n no l fs, s, f', s', hs => by
    simp only [subsetField] at hs
    split at hs
    · simp at hs
    · rename_i fs' s1 hr
      obtain ⟨ep, img, lm⟩ := subsetFields_full idx h fs s fs' s1 hr
      have hno : ∃ no', f' = .coll n no' l fs' ∧ s' = s1 ∧
          (∀ hm : MemoInv idx s, no' = idx.count) := by
        split at hs
        · split at hs
          · simp at hs
          · rename_i sel hsel
            cases hs
            exact ⟨_, rfl, rfl, fun _ => pick_length idx _ _ hsel⟩
        · rename_i hne
          cases hs
          refine ⟨_, rfl, rfl, fun hm => FieldsImg.len fs fs' (img hm).2 (fun he => ?_)⟩
          simp [(FieldsImg.nil_iff (img hm).2).mpr he] at hne
      obtain ⟨no', rfl, rfl, hcount⟩ := hno
      refine ⟨ep, fun hm => ⟨(img hm).1, ?_⟩, fun e hk => ?_⟩
      · simp only [FieldImg]
        exact ⟨_, fs', rfl, (img hm).2, hcount hm⟩
      · simp only [KindsOK] at hk
        simp only [LeafMapAt]
        exact ⟨_, _, _, fs', rfl, lm e hk⟩
theorem subsetFields_full (idx : Index) (h : Heap) : ∀ (fs : List Field) (s : St) (fs' : List Field) (s' : St),
    subsetField.subsetFields idx fs s = .ok (fs', s') →
    (HeapExt s.heap s'.heap ∧ PersistK s s') ∧
      (MemoInv idx s → MemoInv idx s' ∧ FieldImg.FieldsImg idx s'.heap fs fs') ∧
      (HeapExt h s.heap → KindsOK.KindsOKs h fs → LeafMapAt.LeafMapsAt h s' fs fs')
  | [], s, fs', s', hs => by
    cases hs
    exact ⟨⟨HeapExt.refl _, PersistK.refl _⟩, fun hm => ⟨hm, by simp [FieldImg.FieldsImg]⟩,
      fun _ _ => by simp [LeafMapAt.LeafMapsAt]⟩
  | f :: fs, s, fs', s', hs => by
    simp only [subsetField.subsetFields] at hs
    split at hs
    · simp at hs
    · rename_i f1 s1 h1
      split at hs
      · simp at hs
      · rename_i fs1 s2 h2
        cases hs
        obtain ⟨⟨e1, p1⟩, i1, l1⟩ := subsetField_full idx h f s f1 s1 h1
        obtain ⟨⟨e2, p2⟩, i2, l2⟩ := subsetFields_full idx h fs s1 fs1 s' h2
        refine ⟨⟨e1.trans e2, PersistK.trans e1 p1 p2⟩, fun hm => ?_, fun e hk => ?_⟩
        · obtain ⟨m1, j1⟩ := i1 hm
          obtain ⟨m2, j2⟩ := i2 m1
          refine ⟨m2, ?_⟩
          simp only [FieldImg.FieldsImg]
          exact ⟨f1, fs1, rfl, FieldImg.ext e2 f f1 j1, j2⟩
        · simp only [KindsOK.KindsOKs] at hk
          simp only [LeafMapAt.LeafMapsAt]
          exact ⟨f1, fs1, rfl, LeafMapAt.mono (e.trans e1) p2 f f1 (l1 e hk.1), l2 (e.trans e1) hk.2⟩
end

theorem subsetField_spec (idx : Index) : ∀ (f : Field) (s : St) (f' : Field) (s' : St),
    subsetField idx f s = .ok (f', s') → MemoInv idx s →
    StepOK idx s s' ∧ FieldImg idx s'.heap f f' :=
  fun f s f' s' h hm =>
    have r := subsetField_full idx s.heap f s f' s' h
    ⟨⟨r.1.1, (r.2.1 hm).1⟩, (r.2.1 hm).2⟩

theorem subsetField_reg (idx : Index) (h : Heap) : ∀ (f : Field) (s : St) (f' : Field) (s' : St),
    subsetField idx f s = .ok (f', s') → HeapExt h s.heap → KindsOK h f →
    HeapExt s.heap s'.heap ∧ PersistK s s' ∧ LeafMapAt h s' f f' :=
  fun f s f' s' hs e hk =>
    have r := subsetField_full idx h f s f' s' hs
    ⟨r.1.1, r.1.2, r.2.2 e hk⟩

/-- the pass `Dataset.subset` and the sort of `merge_with` make: all fields under one fresh memo -/
theorem subsetFields_fresh {idx : Index} {h : Heap} {fs fs' : List Field} {s : St}
    (hr : subsetField.subsetFields idx fs { heap := h } = .ok (fs', s)) :
    HeapExt h s.heap ∧ FieldImg.FieldsImg idx s.heap fs fs' := by
  obtain ⟨⟨e, _⟩, img, _⟩ := subsetFields_full idx h fs { heap := h } fs' s hr
  exact ⟨e, (img (fun k v hkv => by cases hkv)).2⟩

/-- `Dataset.subset` makes a rectangular table whether or not the dataset was one before -/
theorem dsSubset_spec {idx : Index} {h : Heap} {d : DS} {h' : Heap} {d' : DS}
    (hok : dsSubset idx h d = .ok (h', d')) :
    HeapExt h h' ∧ FieldImg.FieldsImg idx h' d.fields d'.fields ∧ d'.numObs = idx.count ∧
    Rect h' d' := by
  simp only [dsSubset] at hok
  split at hok
  · simp at hok
  · rename_i fs s hr
    split at hok
    · simp at hok
    · rename_i sel hsel
      cases hok.symm
      obtain ⟨e, hi⟩ := subsetFields_fresh hr
      have hc : sel.length = idx.count := pick_length idx _ _ hsel
      refine ⟨e, hi, hc, ?_⟩
      simp only [Rect]; rw [hc]; exact FieldsImg.rect d.fields fs hi

end Midgard.Dataset
