/-
C05 — the accuracy clause near the surface.  On the box `|A − q| ≤ 0.0162`, `0.9966 ≤ q ≤ 1`, `e = 1 − q² ≤ 0.0067` (notation of
Proofs/GeoCofactors.lean; there `A ≤ 1.0162`, `P ≤ A/q ≤ 1.0197`, `S ≤ A`) the bounds of the cofactors (`H_upper` on this box, `K_lower` on it
widened to `A ≤ 1.0165`, `P ≤ 1.02`; Proofs/GeoBound.lean) bound the normalised offset, hence the model function (`|R| < 1e-6 m`); every point
within 100 km of the ellipsoid lies in the box.

Where the constants come from: `0.9966 ≤ √(1 − 0.0067)` and `0.0067` cover the `e²` of every registered ellipsoid (the two
are separate hypotheses: `1 − 0.9966² > 0.0067`); `0.0162` is `0.0157 = 100 km / 6 371 km` widened so that
`|√(q² + Δ) − q| ≤ 0.0162` follows from the bounds of the radicand (`sqrt_near`).
The theorems that Props/C05.lean restates under the property's names have their docstrings there.
-/
import Midgard.Proofs.GeoOffsetModel
import Midgard.Proofs.GeoBound
namespace Midgard.Geo.Acc

/-- from `|H| ≤ Hb`, `K1 ≥ k1 > 0`, `K2 ≥ k2 > 0`, `K0 ≥ 0`:  `|R/a|·q³·k1·k2³ ≤ e⁴·P·S³·|A − q|³·Hb` -/
theorem offset_core (q P S A s1 cc D W Hb k1 k2 : ℝ)
    (hq0 : 0 < q) (hq1 : q ≤ 1) (hP : 0 < P) (hS : 0 < S)
    (hAA : A * A = q * P * (q * P) + S * S)
    (hs1 : s1 = P * S * K1 A P q / 2) (hcc : cc = P ^ 2 * q * K2 A P q / 2)
    (hD : D = Real.sqrt (s1 * s1 + cc * cc)) (hW : W = Real.sqrt (q ^ 2 * (s1 * s1) + cc * cc))
    (hH : |HH A P q| ≤ Hb) (hk1 : k1 ≤ K1 A P q) (hk2 : k2 ≤ K2 A P q) (hk1p : 0 < k1) (hk2p : 0 < k2)
    (hK0 : 0 ≤ K0 A P q) :
    |(S * cc - P * s1) / D + (1 - q ^ 2) * s1 * cc / (D * W)| * (q ^ 3 * k1 * k2 ^ 3)
      ≤ (1 - q ^ 2) ^ 4 * P * S ^ 3 * |A - q| ^ 3 * Hb := by
  -- `k0 = 0`, and of the sum only `P²q²k2²` is kept
  have core := offset_core_le q P S A s1 cc D W 0 k1 k2 Hb hq0 hq1 hP hS hAA hs1 hcc hD hW le_rfl hk1p hk2p hK0 hk1 hk2 hH
  set X := |(S * cc - P * s1) / D + (1 - q ^ 2) * s1 * cc / (D * W)|
  have hdrop : 0 ≤ X * (q * k2 * (q * S ^ 2 * k1 ^ 2) * k1) := by positivity
  have hmain : X * (q ^ 3 * k1 * k2 ^ 3) * P ^ 2 ≤ (1 - q ^ 2) ^ 4 * P * S ^ 3 * |A - q| ^ 3 * Hb * P ^ 2 := by
    linarith only [core, hdrop]
  exact le_of_mul_le_mul_right hmain (by positivity)

theorem offset_near_normalised (q P S A s1 cc D W : ℝ)
    (hq : 0.9966 ≤ q) (hq1 : q ≤ 1) (he : 1 - q ^ 2 ≤ 0.0067) (hP : 0 < P) (hS : 0 < S) (hA0 : 0 < A)
    (hAA : A * A = q * P * (q * P) + S * S) (hnear : |A - q| ≤ 0.0162)
    (hs1 : s1 = P * S * K1 A P q / 2) (hcc : cc = P ^ 2 * q * K2 A P q / 2)
    (hD : D = Real.sqrt (s1 * s1 + cc * cc)) (hW : W = Real.sqrt (q ^ 2 * (s1 * s1) + cc * cc)) :
    |(S * cc - P * s1) / D + (1 - q ^ 2) * s1 * cc / (D * W)| ≤ 1.2949e-13 := by
  have hq0 : 0 < q := lt_of_lt_of_le (by norm_num) hq
  obtain ⟨hlo, hhi⟩ := abs_le.1 hnear
  have hAhi : A ≤ 1.0162 := by linarith only [hhi, hq1]
  have he0 := one_sub_sq_nonneg hq0.le hq1
  obtain ⟨hqP, hSA⟩ := legs_le (mul_pos hq0 hP).le hS.le hA0.le hAA
  have hP1 : P ≤ 1.0197 := by
    have := mul_le_mul_of_nonneg_right hq hP.le
    linarith only [this, hqP, hAhi]
  have hS1 : S ≤ 1.0162 := hSA.trans hAhi
  obtain ⟨hK0, hK1, hK2⟩ := K_lower q P A hq hq1 he hP.le (by linarith only [hP1]) (by linarith only [hlo, hq])
    (by linarith only [hAhi])
  have hH := H_upper q P A hq0.le hq1 he0 he hP.le hP1 hA0.le hAhi
  have core := offset_core q P S A s1 cc D W 111.2 1.6967 1.6737 hq0 hq1 hP hS hAA hs1 hcc hD hW hH hK1 hK2
    (by norm_num) (by norm_num) hK0
  -- `0.0067⁴·(1.0197·1.0162³·0.0162³·111.2) ≤ 1.2949e-13·0.9898·(1.6967·1.6737³)`
  refine offset_finish _ q (1.6967 * 1.6737 ^ 3) (P * S ^ 3 * |A - q| ^ 3 * 111.2) (1.0197 * 1.0162 ^ 3 * 0.0162 ^ 3 * 111.2) _
    (abs_nonneg _) hq he0 he (hc := by norm_num) (hR0 := by positivity) (key := by simpa only [mul_assoc] using core) (hR := ?_)
    (hnum := by norm_num)
  gcongr

theorem offsetBound_near : OffsetBound (fun A q => |A - q| ≤ 0.0162) 1.2949e-13 :=
  fun q P S A s1 cc D W hq hq1 he hP hS hA hAA hb hs1 hcc hD hW =>
    offset_near_normalised q P S A s1 cc D W hq hq1 he hP hS hA hAA hb hs1 hcc hD hW

open Midgard.Geo

theorem tangentialOffset_near (E : Ellipsoid ℝ) (ha : 0 < E.a) (ha' : E.a ≤ 6378140) (he0 : 0 ≤ E.e2) (he : E.e2 ≤ 0.0067)
    (p z : ℝ) (hp : 0 < p) (hz : 0 ≤ z)
    (hnear : |Real.sqrt (Real.sqrt (1 - E.e2) * (p / E.a) * (Real.sqrt (1 - E.e2) * (p / E.a)) + z / E.a * (z / E.a))
              - Real.sqrt (1 - E.e2)| ≤ 0.0162) :
    |tangentialOffset E p z| < 1e-6 :=
  (tangentialOffset_of_bound offsetBound_near (by norm_num) E ha ha' he0 he p z hp hz hnear).trans_lt (by norm_num)

/-- `|√(q² + Δ) − q| ≤ ε` when `Δ` lies between the values `∓2δq (+ δ²)` it takes for `|η| ≤ δ`; the lower side needs
`(q − ε)² ≤ q² − 2δq`, i.e. `ε² + 2δq ≤ 2εq` (so `ε` is a little wider than `δ`) -/
theorem sqrt_near (q Δ δ ε : ℝ) (hq : 0 ≤ q) (hδ : 0 ≤ δ) (hδε : δ ≤ ε) (hε : ε ^ 2 + 2 * δ * q ≤ 2 * ε * q)
    (hhi : Δ ≤ 2 * δ * q + δ ^ 2) (hlo : -(2 * δ * q) ≤ Δ) :
    |Real.sqrt (q ^ 2 + Δ) - q| ≤ ε := by
  rw [abs_le]
  constructor
  · have h1 : (q - ε) ^ 2 ≤ q ^ 2 + Δ := by
      rw [sub_sq]
      linarith only [hlo, hε]
    linarith only [Real.le_sqrt_of_sq_le h1]
  · have h1 : q ^ 2 + Δ ≤ (q + δ) ^ 2 := by
      rw [add_sq]
      linarith only [hhi]
    have := Real.sqrt_le_sqrt h1
    rw [Real.sqrt_sq (add_nonneg hq hδ)] at this
    linarith only [this, hδε]

/-- with `n = N/a` (`n²(1 − e²s²) = 1`), `η = h/a`, `P = (n + η)c`, `S = (n q² + η)s`, `A = √(q²P² + S²)` -/
theorem near_of_height_le (q n η s c δ ε : ℝ) (hq0 : 0 < q) (hq1 : q ≤ 1) (hsc : s ^ 2 + c ^ 2 = 1)
    (hn0 : 0 < n) (hn : n ^ 2 * (1 - (1 - q ^ 2) * s ^ 2) = 1) (hη : |η| ≤ δ) (hδε : δ ≤ ε) (hε : ε ^ 2 + 2 * δ * q ≤ 2 * ε * q) :
    |Real.sqrt (q * ((n + η) * c) * (q * ((n + η) * c)) + (n * q ^ 2 + η) * s * ((n * q ^ 2 + η) * s)) - q| ≤ ε := by
  have hδ : 0 ≤ δ := (abs_nonneg η).trans hη
  obtain ⟨hrad, hk0, hk1, hw0, hw1⟩ := radicand_eq q n η s c hq0 hq1 hsc hn0 hn
  rw [hrad]
  -- |η·k| ≤ δ and η²·w ≤ δ²
  have hηk : |η * (q * n)| ≤ δ * 1 := by
    rw [abs_mul, abs_of_pos hk0]
    exact mul_le_mul hη hk1 hk0.le hδ
  obtain ⟨hl, hu⟩ := abs_le.1 hηk
  have h2q : 0 ≤ 2 * q := by positivity
  have hlo := mul_le_mul_of_nonneg_left hl h2q
  have hhi := mul_le_mul_of_nonneg_left hu h2q
  have hη2 : η ^ 2 * (q ^ 2 * c ^ 2 + s ^ 2) ≤ δ ^ 2 * 1 :=
    mul_le_mul (sq_abs η ▸ pow_le_pow_left₀ (abs_nonneg η) hη 2) hw1 hw0 (sq_nonneg δ)
  have hη0 : 0 ≤ η ^ 2 * (q ^ 2 * c ^ 2 + s ^ 2) := by positivity
  exact sqrt_near q _ δ ε hq0.le hδ hδε hε (by linarith only [hhi, hη2]) (by linarith only [hlo, hη0])

/-- every point within `|h| ≤ 0.0157·a` (100 km for `a ≥ 6 371 000 m`) of the ellipsoid lies in the box of `tangentialOffset_near`
(`0.0162² ≤ 2·0.0005·q` for `q ≥ 0.9966`) -/
theorem near_of_height (q n η s c : ℝ) (hq : 0.9966 ≤ q) (hq1 : q ≤ 1) (hsc : s ^ 2 + c ^ 2 = 1)
    (hn0 : 0 < n) (hn : n ^ 2 * (1 - (1 - q ^ 2) * s ^ 2) = 1) (hη : |η| ≤ 0.0157) :
    |Real.sqrt (q * ((n + η) * c) * (q * ((n + η) * c)) + (n * q ^ 2 + η) * s * ((n * q ^ 2 + η) * s)) - q| ≤ 0.0162 :=
  near_of_height_le q n η s c 0.0157 0.0162 (lt_of_lt_of_le (by norm_num) hq) hq1 hsc hn0 hn hη (by norm_num)
    (by norm_num; linarith only [hq])

theorem tangentialOffset_within_100km (E : Ellipsoid ℝ) (ha : 6371000 ≤ E.a) (ha' : E.a ≤ 6378140) (he0 : 0 ≤ E.e2)
    (he : E.e2 ≤ 0.0067) (s c h : ℝ) (hsc : s ^ 2 + c ^ 2 = 1) (hc : 0 < c) (hs : 0 ≤ s) (hh : |h| ≤ 100000) :
    |tangentialOffset E ((E.a / Real.sqrt (1 - E.e2 * s ^ 2) + h) * c)
        ((E.a / Real.sqrt (1 - E.e2 * s ^ 2) * (1 - E.e2) + h) * s)| < 1e-6 := by
  have ha0 : 0 < E.a := lt_of_lt_of_le (by norm_num) ha
  obtain ⟨hhlo, hhhi⟩ := abs_le.1 hh
  obtain ⟨hq2, hqlo, hq1⟩ := sqrt_one_sub_range he0 he
  obtain ⟨hp, hz, e1, e2, hn0, hnn⟩ := geodetic_normalised E ha he0 he s c h hsc hc hs hhlo
  have hηb : |h / E.a| ≤ 0.0157 := by
    rw [abs_div, abs_of_pos ha0, div_le_iff₀ ha0]
    linarith only [hh, ha]
  apply tangentialOffset_near E ha0 ha' he0 he _ _ hp hz
  rw [e1, e2]
  exact near_of_height _ _ _ s c hqlo hq1 hsc hn0 hnn hηb

end Midgard.Geo.Acc
