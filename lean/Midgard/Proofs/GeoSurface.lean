/-
C05/C06 — the ellipsoid surface over the reals: the unit vector `n̂ = (cos φ cos λ, cos φ sin λ, sin φ)` of `llh2trs` is the outward normal of
the ellipsoid at the foot point; at both poles the pole-branch answer converts back to the input; and on the surface the one-step Halley
scheme of `_trs2llh` is exact (height `0`, round trip the identity).
-/
import Midgard.Proofs.GeoAccuracy
import Midgard.Model.Rotation

namespace Midgard.Geo

theorem radicand_pos (f cl sl : ℝ) (hf : f ≠ 1) (hl : cl ^ 2 + sl ^ 2 = 1) :
    0 < cl * cl + (1 - f) * (1 - f) * (sl * sl) := by
  have h1 : (1 - f) ≠ 0 := sub_ne_zero.mpr (Ne.symm hf)
  have hw : 0 < (1 - f) * (1 - f) := mul_self_pos.mpr h1
  have hs0 : 0 ≤ (1 - f) * (1 - f) * (sl * sl) := mul_nonneg hw.le (mul_self_nonneg sl)
  by_cases hc : cl = 0
  · have hs : sl * sl = 1 := by rw [hc] at hl; linarith
    rw [hc, hs]; linarith
  · have : 0 < cl * cl := mul_self_pos.mpr hc
    linarith

theorem normal_unit (cl sl co so : ℝ) (hl : cl ^ 2 + sl ^ 2 = 1) (ho : co ^ 2 + so ^ 2 = 1) :
    (normalCS cl sl co so).norm2 = 1 := by
  simp only [normalCS, V3.norm2, V3.dot]
  linear_combination (cl ^ 2) * ho + hl

theorem normal_parallel_gradient (E : Ellipsoid ℝ) (ha : E.a ≠ 0) (hf : E.f ≠ 1) (cl sl co so : ℝ) :
    let P := llh2trsCS E cl sl co so 0
    V3.cross ⟨P.x / E.a ^ 2, P.y / E.a ^ 2, P.z / E.b ^ 2⟩ (normalCS cl sl co so) = V3.zero := by
  intro P
  have h1f : (1 - E.f) ≠ 0 := sub_ne_zero.mpr (Ne.symm hf)
  apply V3.ext' <;>
    simp only [P, llh2trsCS, Ellipsoid.b, normalCS, V3.cross, V3.zero, trig_sqrt] <;>
    generalize Real.sqrt (cl * cl + (1 - E.f) * (1 - E.f) * (sl * sl)) = d <;>
    field_simp <;> ring

theorem normal_outward (E : Ellipsoid ℝ) (ha : 0 < E.a) (hf : E.f ≠ 1) (cl sl co so : ℝ)
    (hl : cl ^ 2 + sl ^ 2 = 1) (ho : co ^ 2 + so ^ 2 = 1) :
    let P := llh2trsCS E cl sl co so 0
    0 < V3.dot ⟨P.x / E.a ^ 2, P.y / E.a ^ 2, P.z / E.b ^ 2⟩ (normalCS cl sl co so) := by
  intro P
  have hpos := radicand_pos E.f cl sl hf hl
  have hd0 : 0 < Real.sqrt (cl * cl + (1 - E.f) * (1 - E.f) * (sl * sl)) := Real.sqrt_pos.mpr hpos
  have h1f : (1 - E.f) ≠ 0 := sub_ne_zero.mpr (Ne.symm hf)
  have key : V3.dot ⟨P.x / E.a ^ 2, P.y / E.a ^ 2, P.z / E.b ^ 2⟩ (normalCS cl sl co so)
      = (cl ^ 2 * (co ^ 2 + so ^ 2) + sl ^ 2)
        / (E.a * Real.sqrt (cl * cl + (1 - E.f) * (1 - E.f) * (sl * sl))) := by
    simp only [P, llh2trsCS, Ellipsoid.b, normalCS, V3.dot, trig_sqrt]
    generalize Real.sqrt (cl * cl + (1 - E.f) * (1 - E.f) * (sl * sl)) = d at hd0
    field_simp
    ring
  rw [key, ho, mul_one, hl]
  positivity

/-- both poles, every longitude: `sl = ±1`, and `sl·z − b` is the pole-branch height `|z| − b` -/
theorem pole_roundtrip_signed (E : Ellipsoid ℝ) (hf : E.f < 1) (z sl co so : ℝ) (hsl : sl * sl = 1) :
    llh2trsCS E 0 sl co so (sl * z - E.b) = ⟨0, 0, z⟩ := by
  have h1f : 0 < 1 - E.f := by linarith
  have hs : Real.sqrt ((0 : ℝ) * 0 + (1 - E.f) * (1 - E.f) * (sl * sl)) = 1 - E.f := by
    rw [hsl, show (0 : ℝ) * 0 + (1 - E.f) * (1 - E.f) * 1 = (1 - E.f) ^ 2 by ring]
    exact Real.sqrt_sq h1f.le
  apply V3.ext' <;> simp only [llh2trsCS, trig_sqrt, hs, Ellipsoid.b]
  · ring
  · ring
  · field_simp
    linear_combination z * hsl

/-- a point of the ellipsoid in reduced latitude, `p = a·C`, `|z| = b·S`: the Halley step returns the exact tangent
`s1/cc = tan β / (1 − f)` of the geodetic latitude, and the height formula gives `0` -/
theorem halley_exact_on_surface (E : Ellipsoid ℝ) (ha : 0 < E.a) (hf1 : E.f < 1)
    (C S : ℝ) (hCS : C ^ 2 + S ^ 2 = 1) (hC : 0 < C) :
    let sc := halley E (E.a * C) (E.b * S)
    sc.1 * ((1 - E.f) * C) = sc.2 * S ∧ 0 < sc.2 ∧
      halleyHeight E (E.a * C) (E.b * S) sc.1 sc.2 = 0 := by
  intro sc
  have hq : 0 < 1 - E.f := by linarith
  set q := 1 - E.f with hqd
  have ha0 : E.a ≠ 0 := ha.ne'
  have he2 : E.e2 = 1 - q ^ 2 := Acc.e2_eq E ha0
  have hb : E.b = E.a * q := rfl
  have hec : Real.sqrt (1 - E.e2) = q := Acc.sqrt_one_sub_e2 E ha0 hq.le
  have hs0 : E.b * S / E.a = q * S := by rw [hb]; field_simp
  have hpn : E.a * C / E.a = C := by field_simp
  have hrad : q * C * (q * C) + q * S * (q * S) = q ^ 2 := by linear_combination (q ^ 2) * hCS
  have ha0' : Real.sqrt (q * C * (q * C) + q * S * (q * S)) = q := by rw [hrad, Real.sqrt_sq hq.le]
  have hC2 : C ^ 2 ≤ 1 := by linarith only [hCS, sq_nonneg S]
  have hm : 0 < 1 - (1 - q ^ 2) * C ^ 2 := by
    have : 0 < q ^ 2 * C ^ 2 := by positivity
    linarith only [this, hC2]
  -- on the surface `a0 = ec = q`, so the correction `b0` vanishes: `s1 = d0·f0`, `cc = q·f0²` with
  -- `d0 = q³·S·m`, `f0 = q³·C·m`, `m = 1 − e²·C²`
  have hd : q * (q * S) * (q * q * q) + (1 - q ^ 2) * (q * S * (q * S) * (q * S)) = q ^ 3 * S * (1 - (1 - q ^ 2) * C ^ 2) := by
    linear_combination (q ^ 3 * S * (1 - q ^ 2)) * hCS
  have hf : C * (q * q * q) - (1 - q ^ 2) * (q * C * (q * C) * (q * C)) = q ^ 3 * C * (1 - (1 - q ^ 2) * C ^ 2) := by ring
  have hs1 : sc.1 = q ^ 6 * C * (1 - (1 - q ^ 2) * C ^ 2) ^ 2 * S := by
    simp only [sc, halley, trig_sqrt, cube]
    rw [hec, hs0, hpn, ha0', he2, sub_self, mul_zero, zero_mul, sub_zero, hd, hf]
    ring
  have hcc : sc.2 = q ^ 6 * C * (1 - (1 - q ^ 2) * C ^ 2) ^ 2 * (q * C) := by
    simp only [sc, halley, trig_sqrt, cube]
    rw [hec, hs0, hpn, ha0', he2, sub_self, mul_zero, zero_mul, sub_zero, hf]
    ring
  set K := q ^ 6 * C * (1 - (1 - q ^ 2) * C ^ 2) ^ 2 with hK
  have hKpos : 0 < K := by positivity
  clear_value K
  refine ⟨?_, ?_, ?_⟩
  · rw [hs1, hcc]; ring
  · rw [hcc]; positivity
  · simp only [halleyHeight, trig_sqrt, hs1, hcc, he2, hb]
    have h1 : (1 - (1 - q ^ 2)) * (K * S * (K * S)) + K * (q * C) * (K * (q * C)) = (q * K) ^ 2 := by
      linear_combination (q ^ 2 * K ^ 2) * hCS
    rw [h1, Real.sqrt_sq (by positivity)]
    have h2 : E.a * C * (K * (q * C)) + E.a * q * S * (K * S) - E.a * (q * K) = 0 := by
      linear_combination (E.a * q * K) * hCS
    rw [h2, zero_div]

theorem surface_halley (E : Ellipsoid ℝ) (ha : 0 < E.a) (hf1 : E.f < 1) (p z : ℝ) (hp : 0 < p)
    (hon : p * p / (E.a * E.a) + z * z / (E.b * E.b) = 1) :
    0 < p / E.a ∧ (p / E.a) ^ 2 + (z / E.b) ^ 2 = 1 ∧
    (halley E p z).1 * ((1 - E.f) * (p / E.a)) = (halley E p z).2 * (z / E.b) ∧ 0 < (halley E p z).2 ∧
    halleyHeight E p z (halley E p z).1 (halley E p z).2 = 0 := by
  have hb : 0 < E.b := mul_pos ha (sub_pos.2 hf1)
  have hCpos : 0 < p / E.a := div_pos hp ha
  have hCS : (p / E.a) ^ 2 + (z / E.b) ^ 2 = 1 := by
    rw [div_pow, div_pow, pow_two, pow_two, pow_two, pow_two]; exact hon
  have h := halley_exact_on_surface E ha hf1 _ _ hCS hCpos
  rw [mul_div_cancel₀ _ ha.ne', mul_div_cancel₀ _ hb.ne'] at h
  exact ⟨hCpos, hCS, h⟩

theorem surface_height_zero (E : Ellipsoid ℝ) (ha : 0 < E.a) (hf1 : E.f < 1) (v : V3 ℝ)
    (hon : (v.x * v.x + v.y * v.y) / (E.a * E.a) + (v.z * v.z) / (E.b * E.b) = 1)
    (hoff : ¬ v.x * v.x + v.y * v.y ≤ E.a * E.a * 1e-32) :
    (trs2llh E v).h = 0 := by
  have hp2 := off_axis_pos hoff
  rw [Acc.trs2llh_off_axis E v hoff]
  exact (surface_halley E ha hf1 _ (absOf v.z) (Real.sqrt_pos.2 hp2)
    (by rw [Real.mul_self_sqrt hp2.le, absOf_sq]; exact hon)).2.2.2.2

theorem surface_roundtrip (E : Ellipsoid ℝ) (ha : 0 < E.a) (hf1 : E.f < 1) (v : V3 ℝ)
    (hon : (v.x * v.x + v.y * v.y) / (E.a * E.a) + (v.z * v.z) / (E.b * E.b) = 1)
    (hoff : ¬ v.x * v.x + v.y * v.y ≤ E.a * E.a * 1e-32) :
    llh2trs E (trs2llh E v) = v := by
  have hp2 := off_axis_pos hoff
  have hq : 0 < 1 - E.f := sub_pos.2 hf1
  have hb : 0 < E.b := mul_pos ha hq
  obtain ⟨-, hCS, h1, h2, h3⟩ := surface_halley E ha hf1 _ (absOf v.z) (Real.sqrt_pos.2 hp2)
    (by rw [Real.mul_self_sqrt hp2.le, absOf_sq]; exact hon)
  refine Acc.roundtrip_of_offset_zero E ha hf1 v hoff h2 ?_
  set p := Real.sqrt (v.x * v.x + v.y * v.y)
  set s1 := (halley E p (absOf v.z)).1
  set cc := (halley E p (absOf v.z)).2
  have hpC : p = E.a * (p / E.a) := by field_simp
  have hzS : absOf v.z = E.a * (1 - E.f) * (absOf v.z / E.b) := by rw [Ellipsoid.b]; field_simp
  set C := p / E.a
  set S := absOf v.z / E.b
  have hD0 : 0 < Real.sqrt (s1 * s1 + cc * cc) :=
    Real.sqrt_pos.2 (add_pos_of_nonneg_of_pos (mul_self_nonneg s1) (mul_pos h2 h2))
  have hw0 := Acc.one_sub_e2_pos E ha.ne' hf1
  have hW0 : 0 < Real.sqrt ((1 - E.e2) * (s1 * s1) + cc * cc) :=
    Real.sqrt_pos.2 (add_pos_of_nonneg_of_pos (mul_nonneg hw0.le (mul_self_nonneg s1)) (mul_pos h2 h2))
  -- height `0`: `a·W = p·cc + |z|·s1`
  have haW : E.a * Real.sqrt ((1 - E.e2) * (s1 * s1) + cc * cc) = p * cc + absOf v.z * s1 := by
    simp only [halleyHeight, trig_sqrt] at h3
    linarith only [(div_eq_zero_iff.1 h3).resolve_right hD0.ne']
  show offsetAt E p (absOf v.z) s1 cc = 0
  simp only [offsetAt, trig_sqrt]
  set D := Real.sqrt (s1 * s1 + cc * cc)
  set W := Real.sqrt ((1 - E.e2) * (s1 * s1) + cc * cc)
  -- `a·D·W·R = (|z|·cc − p·s1)·(a·W) + a·(e²·a·s1·cc)`; with `a·W` from above, `p = a·C`, `|z| = b·S` it vanishes by the
  -- exact tangent `s1·(1 − f)·C = cc·S` and `C² + S² = 1`
  have key : (absOf v.z * cc - p * s1) * (E.a * W) + E.a * (E.e2 * E.a * s1 * cc) = 0 := by
    rw [haW, Acc.e2_eq E ha.ne', hpC, hzS]
    linear_combination (E.a ^ 2 * s1 * cc * ((1 - E.f) ^ 2 - 1)) * hCS - (E.a ^ 2 * ((1 - E.f) * C * cc + s1 * S)) * h1
  have : (absOf v.z * cc - p * s1) / D + E.e2 * E.a * s1 * cc / (D * W)
      = ((absOf v.z * cc - p * s1) * (E.a * W) + E.a * (E.e2 * E.a * s1 * cc)) / (E.a * D * W) := by
    field_simp
  rw [this, key, zero_div]

end Midgard.Geo
