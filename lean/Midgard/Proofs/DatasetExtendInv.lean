/-
C09 — the semantic memo invariant of `extend` for the flat array kinds (no references: bool, float, text, sigma, time,
time delta): every memo entry under an array of a unit of work (`Item`) holds what the table demands of that item, the
arrays of one item are registered to one new array, entries survive (`MemoSem`).  The invariant survives when keys
unknown so far are all registered to one array holding what the table demands (`MemoSem.update`); so one `insert` keeps it
(`insert_step`), and so does the extension or padding of one leaf, which leaves an array holding what the table demands
(`LeafPost`; `extendLeaf_flat_step`, `padField_flat_step`).
-/
import Midgard.Proofs.DatasetExtendLeaf

namespace Midgard.Dataset

/-- array kinds without references: `insert` does not recurse -/
def Kind.flat (k : Kind) : Bool := !k.hasOther && !k.isDelta

/-- what `insert(a, pos, b)` allocates for flat kinds -/
def flatNew (cv : Conv) (oa ob : Obj) (pos : Nat) : Obj :=
  { oa with rows := insertAt oa.rows pos (convRows cv oa.tag ob), other := none, refPos := none }

/-- (the flat kinds do not recurse, so no fuel induction) -/
theorem insertObj_flat_eq (fuel a pos b : Nat) (s : St) (oa ob : Obj)
    (hoa : s.heap[a]? = some oa) (hob : s.heap[b]? = some ob) (hf : oa.kind.flat = true) :
    insertObj (fuel + 1) a pos b s =
      match s.find a with
      | some r => .ok (r, s)
      | none =>
        match s.find b with
        | some r => .ok (r, s)
        | none =>
          if oa.kind != ob.kind || !convertible s.conv oa.tag ob then .error .unsupported
          else .ok (s.heap.length, ((s.alloc (flatNew s.conv oa ob pos)).2.set a s.heap.length).set b s.heap.length) := by
  have h1 : oa.kind.hasOther = false := by
    simp only [Kind.flat, Bool.and_eq_true, Bool.not_eq_true'] at hf; exact hf.1
  have h2 : oa.kind.isDelta = false := by
    simp only [Kind.flat, Bool.and_eq_true, Bool.not_eq_true'] at hf; exact hf.2
  simp only [insertObj, hoa, hob]
  cases s.find a <;> simp only []
  cases s.find b <;> simp only []
  split
  · rfl
  · simp [h1, h2, St.alloc, flatNew]

/-- one unit of work of `Collection._extend`: a leaf of self with the leaf of the same name of other, a leaf only self
has (padded at the end), a leaf only other has (padded in front) -/
inductive Item
  | both (k : Kind) (a : Nat) (u : Option (List String)) (b : Nat) (u2 : Option (List String))
  | selfOnly (k : Kind) (a : Nat)
  | otherOnly (k : Kind) (b : Nat)
  deriving DecidableEq, Repr

def Item.kind : Item → Kind
  | .both k .. => k
  | .selfOnly k _ => k
  | .otherOnly k _ => k

/-- the array objects an item is registered under in the memo: its array of self, its array of other (an array only
other has plays the role of `a` in `prepend_empty`) -/
def Item.objs : Item → List Nat
  | .both k a _ b _ => if k == .sigma then [a] else [a, b]   -- (`other.data * factors` of a sigma field is a fresh array)
  | .selfOnly _ a => [a]
  | .otherOnly _ b => [b]

/-- **what the table demands** of an item, read off the heap before the `extend` (`n`, `m`: rows of self, of other):
rows and scale/format tag of the column afterwards -/
def Item.exp (us : Units) (h0 : Heap) (n m : Nat) : Item → Option (List Row × String)
  | .both k a u b u2 =>
    match h0[a]?, h0[b]? with
    | some oa, some ob =>
      if k == .float then
        match unitFactors us u u2 with
        | .ok fs => some (oa.rows ++ ob.rows.map (scaleRow fs), oa.tag)
        | .error _ => none
      else if k == .sigma then
        match unitFactors us u u2 with
        | .ok fs => some (oa.rows ++ convRows us.conv oa.tag { ob with rows := ob.rows.map (scaleRow fs) }, oa.tag)
        | .error _ => none
      else if k.isPlain then some (oa.rows ++ ob.rows, oa.tag)
      else some (oa.rows ++ convRows us.conv oa.tag ob, oa.tag)
    | _, _ => none
  | .selfOnly k a =>
    match h0[a]? with
    | some oa => some (oa.rows ++ List.replicate m (emptyRow k oa.cols), oa.tag)
    | none => none
  | .otherOnly k b =>
    match h0[b]? with
    | some ob => some (List.replicate n (emptyRow k ob.cols) ++ ob.rows, ob.tag)
    | none => none

/-- array `v` holds exactly these rows in this scale / format -/
def IsRes (h : Heap) (v : Nat) (e : List Row × String) : Prop := ∃ ov, h[v]? = some ov ∧ ov.rows = e.1 ∧ ov.tag = e.2

theorem IsRes.ext {h h' v e} (x : HeapExt h h') (r : IsRes h v e) : IsRes h' v e := by
  obtain ⟨ov, a, b, c⟩ := r
  exact ⟨ov, x.get a, b, c⟩

/-- the items of this `extend` (a set), all about arrays of the heap before the `extend`, of the item's kind -/
structure Items (h0 : Heap) (W : Item → Prop) : Prop where
  lt : ∀ it, W it → ∀ o ∈ it.objs, ∃ ob, h0[o]? = some ob ∧ ob.kind = it.kind

/-- **consistency**: whenever two items are registered under one array, the table demands the same column for both.
(It is exactly what makes a memo hit right.  It is meant to follow from four conditions on the two datasets: `splitSharing =
false` (no array under a name the other dataset lacks and under a name it has), common names share arrays alike in both
datasets, shared sigma arrays have equal units, no array belongs to both datasets at different places; that implication is
not a theorem.) -/
def Consistent (us : Units) (h0 : Heap) (n m : Nat) (W : Item → Prop) : Prop :=
  ∀ i j, W i → W j → i.kind.isPlain = false → j.kind.isPlain = false → (∃ o, o ∈ i.objs ∧ o ∈ j.objs) →
    i.exp us h0 n m = j.exp us h0 n m

/-- items registered under a common array are registered under the same arrays (meant to follow from the conditions named at
`Consistent`, the one on units aside; not derived from them) -/
def ObjsAgree (W : Item → Prop) : Prop :=
  ∀ i j, W i → W j → i.kind.isPlain = false → j.kind.isPlain = false → (∃ o, o ∈ i.objs ∧ o ∈ j.objs) →
    ∀ x, x ∈ i.objs ↔ x ∈ j.objs

/-- entries under the arrays of the items (memo kinds) survive -/
def PersistW (W : Item → Prop) (s s' : St) : Prop :=
  ∀ it, W it → it.kind.isPlain = false → ∀ o ∈ it.objs, ∀ v, s.find o = some v → s'.find o = some v

theorem PersistW.refl (W : Item → Prop) (s : St) : PersistW W s s := fun _ _ _ _ _ _ h => h
theorem PersistW.trans {W : Item → Prop} {a b c : St} (h1 : PersistW W a b) (h2 : PersistW W b c) : PersistW W a c :=
  fun it hit hnp o ho v hv => h2 it hit hnp o ho v (h1 it hit hnp o ho v hv)

/-- **the memo invariant of `extend`**: keys are arrays that exist; the heap only grew; every entry under an array of an
item (of a kind that uses the memo) is an array holding what the table demands of that item; and the arrays of one item
are registered to one and the same new array (`agree`: what keeps two names of one array one array) -/
structure MemoSem (us : Units) (h0 : Heap) (n m : Nat) (W : Item → Prop) (s : St) : Prop where
  bound : ∀ k v, (k, v) ∈ s.memo → k < s.heap.length
  ext : HeapExt h0 s.heap
  sem : ∀ it, W it → it.kind.isPlain = false → ∀ o ∈ it.objs, ∀ v, s.find o = some v →
    ∃ e, it.exp us h0 n m = some e ∧ IsRes s.heap v e
  agree : ∀ it, W it → it.kind.isPlain = false → ∀ o ∈ it.objs, ∀ o' ∈ it.objs, ∀ v v',
    s.find o = some v → s.find o' = some v' → v = v'

theorem MemoSem.heap_get {us h0 n m W s} (ms : MemoSem us h0 n m W s) {o : Nat} {ob : Obj} (h : h0[o]? = some ob) :
    s.heap[o]? = some ob := ms.ext.get h

theorem MemoSem.start (us : Units) (h : Heap) (n m : Nat) (W : Item → Prop) :
    MemoSem us h n m W { heap := h, conv := us.conv } :=
  ⟨by intro k v hh; simp at hh, HeapExt.refl _, by intro it _ _ o _ v hh; simp [St.find] at hh,
   by intro it _ _ o _ o' _ v v' hh; simp [St.find] at hh⟩

/-- **how the memo may change under the invariant**: under the arrays of items it answers as before, except that a set `K`
of keys it did not know (`hnew`) now all answer with one array `r`; `K` holds, with an array of an item, all arrays of that
item, and `r` holds what the table demands of every item with an array in `K` (`hK`).  (`K` empty: nothing under an array of
an item changed.) -/
theorem MemoSem.update {us h0 n m W s s'} (ms : MemoSem us h0 n m W s) (e : HeapExt s.heap s'.heap)
    (hb : ∀ k v, (k, v) ∈ s'.memo → k < s'.heap.length) (K : Nat → Bool) (r : Nat)
    (hfind : ∀ j, W j → j.kind.isPlain = false → ∀ x ∈ j.objs, s'.find x = if K x then some r else s.find x)
    (hK : ∀ j, W j → j.kind.isPlain = false → ∀ o ∈ j.objs, K o = true →
      (∃ ex, j.exp us h0 n m = some ex ∧ IsRes s'.heap r ex) ∧ ∀ o' ∈ j.objs, K o' = true)
    (hnew : ∀ o, K o = true → s.find o = none) :
    MemoSem us h0 n m W s' ∧ PersistW W s s' := by
  refine ⟨⟨hb, ms.ext.trans e, ?_, ?_⟩, ?_⟩
  · intro j hj hjnp o ho v hv
    rw [hfind j hj hjnp o ho] at hv
    by_cases c : K o = true
    · rw [if_pos c] at hv
      cases hv
      exact (hK j hj hjnp o ho c).1
    · rw [if_neg c] at hv
      obtain ⟨ex, he, hr⟩ := ms.sem j hj hjnp o ho v hv
      exact ⟨ex, he, hr.ext e⟩
  · intro j hj hjnp o ho o' ho' v v' hv hv'
    rw [hfind j hj hjnp o ho] at hv
    rw [hfind j hj hjnp o' ho'] at hv'
    by_cases c : K o = true
    · rw [if_pos c] at hv
      rw [if_pos ((hK j hj hjnp o ho c).2 o' ho')] at hv'
      exact (Option.some.inj hv).symm.trans (Option.some.inj hv')
    · have c2 : ¬ K o' = true := fun c2 => c ((hK j hj hjnp o' ho' c2).2 o ho)
      rw [if_neg c] at hv
      rw [if_neg c2] at hv'
      exact ms.agree j hj hjnp o ho o' ho' v v' hv hv'
  · intro j hj hjnp o ho v hv
    rw [hfind j hj hjnp o ho]
    by_cases c : K o = true
    · rw [hnew o c] at hv
      cases hv
    · rw [if_neg c]
      exact hv

/-- the invariant only looks at the entries under arrays of items -/
theorem MemoSem.of_find_eq {us h0 n m W s s'} (ms : MemoSem us h0 n m W s) (e : HeapExt s.heap s'.heap)
    (hb : ∀ k v, (k, v) ∈ s'.memo → k < s'.heap.length)
    (hfind : ∀ j, W j → j.kind.isPlain = false → ∀ x ∈ j.objs, s'.find x = s.find x) :
    MemoSem us h0 n m W s' ∧ PersistW W s s' :=
  ms.update e hb (fun _ => false) 0 (fun j hj hjnp x hx => by simpa using hfind j hj hjnp x hx)
    (fun _ _ _ _ _ c => by cases c) (fun _ c => by cases c)

theorem MemoSem.alloc {us h0 n m W s} (ms : MemoSem us h0 n m W s) (o : Obj) : MemoSem us h0 n m W (s.alloc o).2 :=
  (ms.of_find_eq (HeapExt.alloc s o) (memoBound_alloc ms.bound o) (fun _ _ _ _ _ => rfl)).1

/-- `memo.pop(id(empty))`: the temporary is not an array of any item -/
theorem MemoSem.pop {us h0 n m W s} (hI : Items h0 W) (ms : MemoSem us h0 n m W s) (e : Nat) (he : h0.length ≤ e) :
    MemoSem us h0 n m W (s.pop e) ∧ PersistW W s (s.pop e) := by
  refine ms.of_find_eq (HeapExt.refl _) (fun k v hkv => ?_) (fun j hj _ x hx => ?_)
  · simp only [St.pop, List.mem_filter] at hkv
    exact ms.bound k v hkv.1
  · obtain ⟨ob, hob, _⟩ := hI.lt j hj x hx
    have hlt : x < h0.length := Lists.lt_of_get hob
    exact find_pop s (by omega)

/-- `memo[id(a)] = new` of a plain array (`np.insert` of bool / float / text): no item of a memo kind lives there -/
theorem MemoSem.setPlain {us h0 n m W s} (hI : Items h0 W) (ms : MemoSem us h0 n m W s) (a : Nat) (oa new : Obj)
    (hoa : s.heap[a]? = some oa) (hp : oa.kind.isPlain = true) :
    MemoSem us h0 n m W ((s.alloc new).2.set a s.heap.length) ∧ PersistW W s ((s.alloc new).2.set a s.heap.length) := by
  refine ms.of_find_eq (HeapExt.alloc s new)
    (memoBound_set (memoBound_alloc ms.bound new) (lt_heap_alloc (Lists.lt_of_get hoa) new) _) (fun j hj hjnp x hx => ?_)
  obtain ⟨ob, hob, hk⟩ := hI.lt j hj x hx
  have hne : (x == a) = false := by
    apply beq_false_of_ne
    intro hxa
    subst hxa
    have := ms.heap_get hob
    rw [hoa] at this; cases this
    rw [hk] at hp; rw [hp] at hjnp; cases hjnp
  rw [find_set, find_alloc]; simp [hne]

/-- **one `insert` of a flat memo kind under the invariant.**  `it` is the item made of `a` and `b`: `a` is one of its arrays,
every array of it is `a` or `b` (`hsub`), and `b` is one of its arrays or a temporary allocated during the `extend` that the
memo does not know (`hb`: the scaled copy of a sigma array, the empty array of a padding).  Whatever the memo answers — a
hit on `a`, a hit on `b`, a miss — the result holds what the table demands of `it`, it is registered under an array of `it`,
and the invariant is kept. -/
theorem insert_step {us : Units} {h0 : Heap} {n m : Nat} {W : Item → Prop} (hI : Items h0 W)
    (hC : Consistent us h0 n m W) (hO : ObjsAgree W) {it : Item} (hit : W it) (hnp : it.kind.isPlain = false)
    {fuel a pos b : Nat} {s : St} {oa ob : Obj} (ms : MemoSem us h0 n m W s) (hcv : s.conv = us.conv)
    (ha : a ∈ it.objs) (hoa : s.heap[a]? = some oa) (hob : s.heap[b]? = some ob) (hf : oa.kind.flat = true)
    (hb : b ∈ it.objs ∨ (s.find b = none ∧ h0.length ≤ b)) (hsub : ∀ x ∈ it.objs, x = a ∨ x = b)
    (hexp : it.exp us h0 n m = some (insertAt oa.rows pos (convRows us.conv oa.tag ob), oa.tag))
    {r : Nat} {s' : St} (h : insertObj (fuel + 1) a pos b s = .ok (r, s')) :
    IsRes s'.heap r (insertAt oa.rows pos (convRows us.conv oa.tag ob), oa.tag) ∧ HeapExt s.heap s'.heap ∧
      MemoSem us h0 n m W s' ∧ s'.conv = us.conv ∧ (∃ o ∈ it.objs, s'.find o = some r) ∧ PersistW W s s' := by
  rw [insertObj_flat_eq fuel a _ b s oa ob hoa hob hf] at h
  -- a hit under an array of the item: the entry holds what the table demands of it
  have hit_ok : ∀ o ∈ it.objs, ∀ v, s.find o = some v →
      IsRes s.heap v (insertAt oa.rows pos (convRows us.conv oa.tag ob), oa.tag) := by
    intro o ho v hfo
    obtain ⟨e, he, hr⟩ := ms.sem it hit hnp o ho v hfo
    rw [hexp] at he
    cases he
    exact hr
  cases hfa : s.find a with
  | some v =>
    simp only [hfa, Except.ok.injEq, Prod.mk.injEq] at h
    obtain ⟨rfl, rfl⟩ := h
    exact ⟨hit_ok a ha v hfa, HeapExt.refl _, ms, hcv, ⟨a, ha, hfa⟩, PersistW.refl _ _⟩
  | none =>
    cases hfb : s.find b with
    | some v =>
      simp only [hfa, hfb, Except.ok.injEq, Prod.mk.injEq] at h
      obtain ⟨rfl, rfl⟩ := h
      rcases hb with hb | hb
      · exact ⟨hit_ok b hb v hfb, HeapExt.refl _, ms, hcv, ⟨b, hb, hfb⟩, PersistW.refl _ _⟩
      · rw [hb.1] at hfb
        cases hfb
    | none =>
      simp only [hfa, hfb] at h
      split at h
      · simp at h
      · cases h.symm
        let new := flatNew s.conv oa ob pos
        have e1 : HeapExt s.heap (s.alloc new).2.heap := HeapExt.alloc s new
        have hnew : IsRes (s.alloc new).2.heap s.heap.length
            (insertAt oa.rows pos (convRows us.conv oa.tag ob), oa.tag) :=
          ⟨new, alloc_get s new, by simp [new, flatNew, hcv], rfl⟩
        have halt : a < s.heap.length := Lists.lt_of_get hoa
        have hblt : b < s.heap.length := Lists.lt_of_get hob
        have hfind : ∀ o, ((s.alloc new).2.set a s.heap.length |>.set b s.heap.length).find o =
            if (o == b || o == a) = true then some s.heap.length else s.find o := by
          intro o
          rw [find_set, find_set, find_alloc]
          by_cases h1 : (o == b) = true <;> by_cases h2 : (o == a) = true <;> simp [h1, h2]
        -- an array of any item that is `a` or `b` is an array of `it` (a temporary `b` is an array of no item)
        have hkey : ∀ j, W j → ∀ o ∈ j.objs, (o == b || o == a) = true → o ∈ it.objs := by
          intro j hj o ho hab
          rcases Bool.or_eq_true_iff.mp hab with hob' | hoa'
          · rcases hb with hb | hb
            · exact eq_of_beq hob' ▸ hb
            · obtain ⟨ob', hob'', _⟩ := hI.lt j hj o ho
              have : o < h0.length := Lists.lt_of_get hob''
              have : o = b := eq_of_beq hob'
              omega
          · exact eq_of_beq hoa' ▸ ha
        obtain ⟨ms', pw⟩ := MemoSem.update (s' := ((s.alloc new).2.set a s.heap.length).set b s.heap.length) ms e1
          (memoBound_set (memoBound_set (memoBound_alloc ms.bound new) (lt_heap_alloc halt new) _) (lt_heap_alloc hblt new) _)
          (fun o => o == b || o == a) s.heap.length (fun _ _ _ o _ => hfind o)
          (fun j hj hjnp o ho c =>
            -- the item shares an array with `it`: it demands the same column and has the same arrays, all `a` or `b`
            have hin := hkey j hj o ho c
            ⟨⟨_, (hC j it hj hit hjnp hnp ⟨o, ho, hin⟩).trans hexp, hnew⟩, fun o' ho' => by
              rcases hsub o' ((hO j it hj hit hjnp hnp ⟨o, ho, hin⟩ o').mp ho') with h | h <;> simp [h]⟩)
          (fun o c => by
            rcases Bool.or_eq_true_iff.mp c with h | h
            · rw [eq_of_beq h, hfb]
            · rw [eq_of_beq h, hfa])
        exact ⟨hnew, e1, ms', hcv, ⟨a, ha, by rw [hfind]; simp⟩, pw⟩

/-- the leaf a unit of work leaves behind: an array holding what the table demands, `num_obs` = its length -/
def LeafPost (us : Units) (h0 : Heap) (n m : Nat) (s' : St) (it : Item) (nm : String) (k : Kind)
    (u : Option (List String)) (l : Nat) (f' : Field) : Prop :=
  ∃ r no' e, f' = .leaf nm k r no' u l ∧ it.exp us h0 n m = some e ∧ IsRes s'.heap r e ∧ no' = e.1.length ∧
    (it.kind.isPlain = false → ∃ o ∈ it.objs, s'.find o = some r)

theorem LeafPost.of_res {us : Units} {h0 : Heap} {n m : Nat} {s' : St} {it : Item} {nm : String} {k : Kind}
    {u : Option (List String)} {l r : Nat} {e : List Row × String} (he : it.exp us h0 n m = some e)
    (hr : IsRes s'.heap r e) (ow : it.kind.isPlain = false → ∃ o ∈ it.objs, s'.find o = some r) :
    LeafPost us h0 n m s' it nm k u l (.leaf nm k r (objLen s'.heap r) u l) := by
  obtain ⟨ov, hv, hrows, htag⟩ := hr
  exact ⟨r, _, e, rfl, he, ⟨ov, hv, hrows, htag⟩, by rw [objLen_of_get hv, hrows], ow⟩

theorem LeafPost.name {us h0 n m s' it nm k u l f'} (lp : LeafPost us h0 n m s' it nm k u l f') : f'.name = nm := by
  obtain ⟨r, no', ex, h1, _⟩ := lp
  rw [h1]
  rfl

theorem LeafPost.mono {us h0 n m W s s' it nm k u l f'} (e : HeapExt s.heap s'.heap) (p : PersistW W s s')
    (hit : W it) (lp : LeafPost us h0 n m s it nm k u l f') : LeafPost us h0 n m s' it nm k u l f' := by
  obtain ⟨r, no', ex, h1, h2, h3, h4, h5⟩ := lp
  refine ⟨r, no', ex, h1, h2, h3.ext e, h4, fun hnp => ?_⟩
  obtain ⟨o, ho, hf⟩ := h5 hnp
  exact ⟨o, ho, p it hit hnp o ho r hf⟩

/-! the unit of work of a padding (`prepend_empty`: a leaf only other has; `append_empty`: only self) -/

theorem padItem_kind (front : Bool) (k : Kind) (o : Nat) :
    (if front then Item.otherOnly k o else Item.selfOnly k o).kind = k := by
  cases front <;> rfl

theorem padItem_objs (front : Bool) (k : Kind) (o : Nat) :
    (if front then Item.otherOnly k o else Item.selfOnly k o).objs = [o] := by
  cases front <;> rfl

theorem padItem_exp {us : Units} {h0 : Heap} {n m : Nat} {front : Bool} {k : Kind} {o no cnt : Nat} {oa : Obj}
    (hoa : h0[o]? = some oa) (hno : front = false → no = oa.rows.length) (hcnt : cnt = if front then n else m) :
    (if front then Item.otherOnly k o else Item.selfOnly k o).exp us h0 n m =
      some (insertAt oa.rows (if front then 0 else no) (List.replicate cnt (emptyRow k oa.cols)), oa.tag) := by
  cases front with
  | true => simp [Item.exp, hoa, hcnt, insertAt_zero]
  | false => simp [Item.exp, hoa, hcnt, hno rfl, insertAt_end]

theorem convRows_empty (cv : Conv) (t : String) (k : Kind) (nd c cnt : Nat) :
    convRows cv t (emptyObj k nd c cnt) = List.replicate cnt (emptyRow k c) := by
  simp [convRows, needsConv, emptyObj]

theorem MemoSem.fresh {us h0 n m W s} (ms : MemoSem us h0 n m W s) (t : Obj) :
    (s.alloc t).2.find s.heap.length = none ∧ h0.length ≤ s.heap.length := by
  refine ⟨find_none_of_ge s _ ms.bound (Nat.le_refl _), ?_⟩
  obtain ⟨l', hl'⟩ := ms.ext
  rw [hl', List.length_append]
  exact Nat.le_add_right _ _

theorem insertPlain_step {us : Units} {h0 : Heap} {n m : Nat} {W : Item → Prop} (hI : Items h0 W)
    {a pos : Nat} {brows : List Row} {s : St} {oa : Obj} (ms : MemoSem us h0 n m W s) (hcv : s.conv = us.conv)
    (hoa : s.heap[a]? = some oa) {r : Nat} {s' : St} (h : insertPlain a pos brows s = .ok (r, s')) :
    IsRes s'.heap r (insertAt oa.rows pos brows, oa.tag) ∧ HeapExt s.heap s'.heap ∧ MemoSem us h0 n m W s' ∧
      s'.conv = us.conv ∧ PersistW W s s' := by
  obtain ⟨oa', hoa', hp, rfl, rfl⟩ := insertPlain_ok h
  cases hoa.symm.trans hoa'
  obtain ⟨m1, p1⟩ := ms.setPlain hI a oa _ hoa hp
  exact ⟨⟨_, alloc_get s _, rfl, rfl⟩, HeapExt.alloc s _, m1, hcv, p1⟩

theorem extendLeaf_plain_step (us : Units) (h0 : Heap) (n m : Nat) (W : Item → Prop) (hI : Items h0 W)
    (nm : String) (k : Kind) (hk : k.isPlain = true)
    (o no : Nat) (u : Option (List String)) (l : Nat)
    (nm2 : String) (o2 no2 : Nat) (u2 : Option (List String)) (l2 : Nat) (s : St) (f' : Field) (s' : St)
    (ms : MemoSem us h0 n m W s) (hcv : s.conv = us.conv)
    (oa ob : Obj) (hoa : h0[o]? = some oa) (hob : h0[o2]? = some ob) (hno : no = oa.rows.length)
    (h : extendLeaf us nm k o no u l (.leaf nm2 k o2 no2 u2 l2) s = .ok (f', s')) :
    LeafPost us h0 n m s' (.both k o u o2 u2) nm k u l f' ∧ HeapExt s.heap s'.heap ∧
      MemoSem us h0 n m W s' ∧ s'.conv = us.conv ∧ PersistW W s s' := by
  obtain ⟨oa', ob', o', hoa', hob', _, _, rfl, hop⟩ := extendLeaf_ok h
  rw [ms.heap_get hoa] at hoa'; cases hoa'
  rw [ms.heap_get hob] at hob'; cases hob'
  rcases hop with ⟨hnp, _⟩ | ⟨hp, _, _, brows, hins, hb⟩ | ⟨rfl, _⟩
  · rw [hk] at hnp; cases hnp
  · obtain ⟨r1, e1, ms1, c1, pw⟩ := insertPlain_step hI ms hcv (ms.heap_get hoa) hins
    have hexp : (Item.both k o u o2 u2).exp us h0 n m = some (insertAt oa.rows no brows, oa.tag) := by
      rw [hno, insertAt_end]
      rcases hb with ⟨rfl, fs, hfs, rfl⟩ | ⟨hnf, rfl⟩
      · simp [Item.exp, hoa, hob, hfs]
      · have hnf' : (k == Kind.float) = false := by simpa using hnf
        have hns : (k == Kind.sigma) = false := by cases k <;> first | rfl | cases hp
        simp [Item.exp, hoa, hob, hnf', hns, hp]
    exact ⟨.of_res hexp r1 (fun hc => by rw [show (Item.both k o u o2 u2).kind = k from rfl, hp] at hc; cases hc),
      e1, ms1, c1, pw⟩
  · cases hk

/-- (a plain pair never consults the memo, it only writes `memo[id(a)]`, and need not be a unit of work of `W`: hence the
form of `hit`) -/
theorem extendLeaf_flat_step {us : Units} {h0 : Heap} {n m : Nat} {W : Item → Prop} (hI : Items h0 W)
    (hC : Consistent us h0 n m W) (hO : ObjsAgree W) {nm : String} {k : Kind} (hk : k.flat = true)
    {o no : Nat} {u : Option (List String)} {l : Nat}
    {nm2 : String} {o2 no2 : Nat} {u2 : Option (List String)} {l2 : Nat} {s : St} {f' : Field} {s' : St}
    (ms : MemoSem us h0 n m W s) (hcv : s.conv = us.conv) (hit : k.isPlain = false → W (.both k o u o2 u2))
    {oa ob : Obj} (hoa : h0[o]? = some oa) (hob : h0[o2]? = some ob) (hno : no = oa.rows.length)
    (h : extendLeaf us nm k o no u l (.leaf nm2 k o2 no2 u2 l2) s = .ok (f', s')) :
    LeafPost us h0 n m s' (.both k o u o2 u2) nm k u l f' ∧ HeapExt s.heap s'.heap ∧
      MemoSem us h0 n m W s' ∧ s'.conv = us.conv ∧ PersistW W s s' := by
  obtain ⟨oa', ob', o', hoa', hob', hka, _, rfl, hop⟩ := extendLeaf_ok h
  rw [ms.heap_get hoa] at hoa'; cases hoa'
  rw [ms.heap_get hob] at hob'; cases hob'
  have hflat : oa.kind.flat = true := by rw [hka]; exact hk
  rcases hop with ⟨hnp, hns, hins⟩ | ⟨hp, _, _, brows, hins, hb⟩ | ⟨rfl, _, fs, t, hfs, rfl, hins⟩
  · have hns' : (k == Kind.sigma) = false := by simpa using hns
    have hnf : (k == Kind.float) = false := by cases k <;> first | rfl | cases hnp
    have hexp : (Item.both k o u o2 u2).exp us h0 n m =
        some (insertAt oa.rows no (convRows us.conv oa.tag ob), oa.tag) := by
      rw [hno, insertAt_end]; simp [Item.exp, hoa, hob, hnf, hns', hnp]
    obtain ⟨r1, e1, ms1, c1, ow, pw⟩ := insert_step hI hC hO (hit hnp) hnp ms hcv
      (ha := by simp [Item.objs, hns']) (ms.heap_get hoa) (ms.heap_get hob) hflat
      (hb := Or.inl (by simp [Item.objs, hns'])) (hsub := by simp [Item.objs, hns']) hexp hins
    exact ⟨.of_res hexp r1 (fun _ => ow), e1, ms1, c1, pw⟩
  · exact extendLeaf_plain_step us h0 n m W hI nm k hp o no u l _ o2 _ u2 _ s _ s' ms hcv oa ob hoa hob hno h
  · -- `other.data * factors` is a fresh array
    have hexp : (Item.both .sigma o u o2 u2).exp us h0 n m =
        some (insertAt oa.rows no (convRows us.conv oa.tag { ob with rows := ob.rows.map (scaleRow fs) }), oa.tag) := by
      rw [hno, insertAt_end]; simp [Item.exp, hoa, hob, hfs]
    obtain ⟨r1, e1, ms1, c1, ow, pw⟩ := insert_step hI hC hO (hit rfl) rfl
      (ms.alloc _) hcv (ha := by simp [Item.objs]) ((HeapExt.alloc s _).get (ms.heap_get hoa)) (alloc_get s _) hflat
      (hb := Or.inr (ms.fresh _)) (hsub := by simp [Item.objs]) hexp hins
    exact ⟨.of_res hexp r1 (fun _ => ow), (HeapExt.alloc s _).trans e1, ms1, c1,
      PersistW.trans (fun _ _ _ _ _ _ h => h) pw⟩

theorem padField_plain_step (us : Units) (h0 : Heap) (n m : Nat) (W : Item → Prop) (hI : Items h0 W)
    (front : Bool) (nm : String) (k : Kind) (hk : k.isPlain = true)
    (o no : Nat) (u : Option (List String)) (l : Nat) (s : St) (f' : Field) (s' : St)
    (ms : MemoSem us h0 n m W s) (hcv : s.conv = us.conv)
    (oa : Obj) (hoa : h0[o]? = some oa) (hno : front = false → no = oa.rows.length)
    (cnt : Nat) (hcnt : cnt = if front then n else m)
    (h : padField front cnt (.leaf nm k o no u l) s = .ok (f', s')) :
    LeafPost us h0 n m s' (if front then .otherOnly k o else .selfOnly k o) nm k u l f' ∧ HeapExt s.heap s'.heap ∧
      MemoSem us h0 n m W s' ∧ s'.conv = us.conv ∧ PersistW W s s' := by
  obtain ⟨oa', o', hoa', _, rfl, hop⟩ := padLeaf_ok h
  rw [ms.heap_get hoa] at hoa'; cases hoa'
  rcases hop with ⟨hp, hins⟩ | ⟨hnp, _⟩ | ⟨hd, _⟩
  · obtain ⟨r1, e1, ms1, c1, pw⟩ := insertPlain_step hI ms hcv (ms.heap_get hoa) hins
    exact ⟨.of_res (padItem_exp hoa hno hcnt) r1 (fun hc => by rw [padItem_kind, hp] at hc; cases hc), e1, ms1, c1, pw⟩
  · rw [hk] at hnp; cases hnp
  · rw [Kind.not_plain_of_delta hd] at hk; cases hk

/-- **the padding of a leaf of a flat kind under the invariant** (`append_empty` of a leaf only self has: `front = false`,
`cnt = m`; `prepend_empty` of a leaf only other has: `front = true`, `cnt = n`) -/
theorem padField_flat_step {us : Units} {h0 : Heap} {n m : Nat} {W : Item → Prop} (hI : Items h0 W)
    (hC : Consistent us h0 n m W) (hO : ObjsAgree W) {front : Bool} {nm : String} {k : Kind} (hk : k.flat = true)
    {o no : Nat} {u : Option (List String)} {l : Nat} {s : St} {f' : Field} {s' : St}
    (ms : MemoSem us h0 n m W s) (hcv : s.conv = us.conv)
    (hit : k.isPlain = false → W (if front then .otherOnly k o else .selfOnly k o))
    {oa : Obj} (hoa : h0[o]? = some oa) (hno : front = false → no = oa.rows.length)
    {cnt : Nat} (hcnt : cnt = if front then n else m)
    (h : padField front cnt (.leaf nm k o no u l) s = .ok (f', s')) :
    LeafPost us h0 n m s' (if front then .otherOnly k o else .selfOnly k o) nm k u l f' ∧ HeapExt s.heap s'.heap ∧
      MemoSem us h0 n m W s' ∧ s'.conv = us.conv ∧ PersistW W s s' := by
  obtain ⟨oa', o', hoa', hka, rfl, hop⟩ := padLeaf_ok h
  rw [ms.heap_get hoa] at hoa'; cases hoa'
  have hexp := padItem_exp (us := us) (n := n) (m := m) (k := k) hoa hno hcnt
  rcases hop with ⟨hp, hins⟩ | ⟨hnp, _, e, s1, rfl, hins, rfl⟩ | ⟨hd, _⟩
  · exact padField_plain_step us h0 n m W hI front nm k hp o no u l s _ s' ms hcv oa hoa hno cnt hcnt h
  · -- the empty array is a temporary: unknown to the memo before, taken out of it afterwards
    rw [← convRows_empty us.conv oa.tag k oa.ndim oa.cols cnt] at hexp
    have hnp' := (padItem_kind front k o).symm ▸ hnp
    obtain ⟨r1, e1, ms1, c1, ⟨oo, hoo, hfo⟩, pw⟩ := insert_step hI hC hO (hit hnp) hnp'
      (ms.alloc _) hcv (by rw [padItem_objs]; simp) ((HeapExt.alloc s _).get (ms.heap_get hoa)) (alloc_get s _)
      (hf := by rw [hka]; exact hk) (hb := Or.inr (ms.fresh _)) (by rw [padItem_objs]; simp) hexp hins
    obtain ⟨ms2, pw2⟩ := ms1.pop hI s.heap.length (ms.fresh oa).2
    exact ⟨.of_res hexp r1 (fun _ => ⟨oo, hoo, pw2 _ (hit hnp) hnp' oo hoo o' hfo⟩), (HeapExt.alloc s _).trans e1, ms2, c1,
      (PersistW.trans (fun _ _ _ _ _ _ h => h) pw).trans pw2⟩
  · rw [Kind.flat, hd] at hk
    simp at hk

end Midgard.Dataset
