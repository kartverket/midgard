/-
C20 — `compute_dops`: the model's cofactor expansion is Mathlib's, so its adjugate inverse is the matrix inverse.  A change
of the satellites that acts on the rows of `H` by an orthogonal matrix conjugates `HᵀH` and its inverse; the rotation of
all azimuths is such a change, and its conjugation keeps the diagonal quantities the five values are read from.
-/
import Midgard.Model.Numeric
import Mathlib.Tactic.Ring
import Mathlib.LinearAlgebra.Matrix.NonsingularInverse

namespace Midgard.Proofs.C20
open Midgard.Numeric Matrix

theorem ofTable_table (m : Mat4) : ofTable (table m) = m := by
  funext i j
  simp [ofTable, table]

/-- `compute_dops` without the detour over the table of entries -/
theorem computeDops_eq (sats : List Sat) :
    computeDops sats = if det4 (normal sats) = 0 then none else some (dopsOf (inv4 (normal sats))) := by
  simp only [computeDops, ofTable_table]

theorem dopsOf_pythagoras (q : Mat4) :
    (dopsOf q).gdop2 = (dopsOf q).pdop2 + (dopsOf q).tdop2 ∧ (dopsOf q).pdop2 = (dopsOf q).hdop2 + (dopsOf q).vdop2 := by
  simp [dopsOf]

abbrev M4 := Matrix (Fin 4) (Fin 4) ℚ

/-- the model's 4×4 array as a Mathlib matrix -/
def toM (m : Mat4) : M4 := Matrix.of m

@[simp] theorem toM_apply (m : Mat4) (i j : Fin 4) : toM m i j = m i j := rfl

theorem skip_eq_succAbove : ∀ (r : Fin 4) (k : Fin 3), skip r k = r.succAbove k := by decide

theorem sgn_eq (i j : Fin 4) : sgn i j = (-1) ^ (i.val + j.val) := by
  unfold sgn
  split
  · rw [Even.neg_one_pow (Nat.even_iff.mpr ‹_›)]
  · rw [Odd.neg_one_pow (Nat.odd_iff.mpr (Nat.mod_two_ne_zero.mp ‹_›))]

theorem minor_eq_det (m : Mat4) (r c : Fin 4) :
    minor m r c = ((toM m).submatrix r.succAbove c.succAbove).det := by
  rw [det_fin_three]
  simp only [minor, det3, skip_eq_succAbove, submatrix_apply, toM_apply]
  ring

theorem det4_eq_det (m : Mat4) : det4 m = (toM m).det := by
  rw [det_succ_row _ 0, Fin.sum_univ_four]
  simp only [← minor_eq_det, det4, toM_apply]
  norm_num
  ring

theorem inv4_eq_inv (m : Mat4) : toM (inv4 m) = (toM m)⁻¹ := by
  ext i j
  -- `inv4 m i j` takes the minor `j i` (the adjugate is the transposed cofactor matrix): hence the `add_comm`
  rw [inv_def, Matrix.smul_apply, adjugate_fin_succ_eq_det_submatrix, ← minor_eq_det, ← det4_eq_det,
    Ring.inverse_eq_inv', toM_apply, inv4, sgn_eq, smul_eq_mul, add_comm j.val]
  ring

theorem mul_inv4 (m : Mat4) (h : det4 m ≠ 0) : toM m * toM (inv4 m) = 1 := by
  rw [inv4_eq_inv, mul_nonsing_inv]
  rwa [← det4_eq_det, isUnit_iff_ne_zero]

theorem normal_eq_sum (l : List Sat) : toM (normal l) = (l.map fun t => vecMulVec t.row t.row).sum := by
  induction l with
  | nil => ext i j; simp [normal]
  | cons t l ih => rw [List.map_cons, List.sum_cons, ← ih]; ext i j; simp [normal, vecMulVec_apply]

theorem normal_map (g : Sat → Sat) (R : M4) (hg : ∀ t, (g t).row = R *ᵥ t.row) (l : List Sat) :
    toM (normal (l.map g)) = R * toM (normal l) * Rᵀ := by
  induction l with
  | nil => simp [normal_eq_sum]
  | cons t l ih =>
    simp only [normal_eq_sum, List.map_cons, List.sum_cons] at ih ⊢
    rw [ih, hg, Matrix.mul_add, Matrix.add_mul, mul_vecMulVec, vecMulVec_mul, vecMul_transpose]

theorem det4_conj (R : M4) (hR : R * Rᵀ = 1) (m n : Mat4) (h : toM n = R * toM m * Rᵀ) : det4 n = det4 m := by
  rw [det4_eq_det, det4_eq_det, h, det_mul_right_comm, hR, Matrix.one_mul]

theorem inv4_conj (R : M4) (hR : R * Rᵀ = 1) (m n : Mat4) (h : toM n = R * toM m * Rᵀ) :
    toM (inv4 n) = R * toM (inv4 m) * Rᵀ := by
  rw [inv4_eq_inv, inv4_eq_inv, h, Matrix.mul_inv_rev, Matrix.mul_inv_rev, inv_eq_left_inv hR, inv_eq_right_inv hR,
    Matrix.mul_assoc]

/-- the satellite after all azimuths are increased by an angle with cosine `c` and sine `s`
(`cos (az + θ) = cos az · c − sin az · s`, `sin (az + θ) = sin az · c + cos az · s`) -/
def rotSat (c s : ℚ) (t : Sat) : Sat := ⟨t.ce, t.se, t.ca * c - t.sa * s, t.sa * c + t.ca * s⟩

/-- the rotation about the third axis -/
def rotM (c s : ℚ) : M4 := !![c, -s, 0, 0; s, c, 0, 0; 0, 0, 1, 0; 0, 0, 0, 1]

theorem rotSat_row (c s : ℚ) (t : Sat) : (rotSat c s t).row = rotM c s *ᵥ t.row := by
  rw [funext_iff]
  simp [Fin.forall_fin_succ, rotM, mulVec, dotProduct, Fin.sum_univ_four, Sat.row, rotSat]
  constructor <;> ring

theorem rot_mul_transpose (c s : ℚ) (h : c ^ 2 + s ^ 2 = 1) : rotM c s * (rotM c s)ᵀ = 1 := by
  have h' : c * c + s * s = 1 := by rw [← h]; ring
  rw [← Matrix.ext_iff]
  simp [Fin.forall_fin_succ, rotM, Matrix.mul_apply, Fin.sum_univ_four, h']
  exact ⟨by ring, by ring, by rw [← h']; ring⟩

theorem rot_conj_diag (c s : ℚ) (x : M4) :
    (rotM c s * x * (rotM c s)ᵀ) 0 0 + (rotM c s * x * (rotM c s)ᵀ) 1 1 = (c ^ 2 + s ^ 2) * (x 0 0 + x 1 1) ∧
    (rotM c s * x * (rotM c s)ᵀ) 2 2 = x 2 2 ∧ (rotM c s * x * (rotM c s)ᵀ) 3 3 = x 3 3 := by
  simp only [rotM, Matrix.mul_apply, Fin.sum_univ_four, transpose_apply]
  simp
  ring

/-- `hd`: the conjugation keeps `Q₀₀ + Q₁₁`, `Q₂₂`, `Q₃₃`, which the five values are sums of -/
theorem computeDops_map (g : Sat → Sat) (R : M4) (hg : ∀ t, (g t).row = R *ᵥ t.row) (hR : R * Rᵀ = 1)
    (hd : ∀ x : M4, (R * x * Rᵀ) 0 0 + (R * x * Rᵀ) 1 1 = x 0 0 + x 1 1 ∧ (R * x * Rᵀ) 2 2 = x 2 2 ∧
      (R * x * Rᵀ) 3 3 = x 3 3) (l : List Sat) :
    computeDops (l.map g) = computeDops l := by
  have hN := normal_map g R hg l
  obtain ⟨h01, h2, h3⟩ := hd (toM (inv4 (normal l)))
  rw [← inv4_conj R hR _ _ hN] at h01 h2 h3
  simp only [toM_apply] at h01 h2 h3
  simp only [computeDops_eq, det4_conj R hR _ _ hN, dopsOf, h01, h2, h3]

theorem normal_perm (l₁ l₂ : List Sat) (hp : l₁.Perm l₂) : normal l₁ = normal l₂ := by
  funext i j
  unfold normal
  exact (hp.map _).sum_eq

end Midgard.Proofs.C20
