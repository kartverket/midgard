/-
The printed side of the file models of both RINEX observation versions (`Spec/Rinex3ObsFile.lean`, on which
`Spec/Rinex2ObsFile.lean` builds): cells that carry their text and their value are read back as the value, no character of a
rendered line is a line break (`NoNl`), and the line styles and the `"\n"` strip option leave the cut fields alone.
The file model's own names (`Cell`, `Style`, `NoNl` …) carry the namespace `Midgard.Spec.Rinex3ObsFile`; the lemmas about them
stand in `Midgard.RinexObs`, where both versions look.
-/
import Midgard.Spec.Rinex3ObsFile
import Midgard.Proofs.RinexObsRecords
import Midgard.Proofs.Lines
import Midgard.Proofs.Digits

namespace Midgard.Spec.Rinex3ObsFile
open Midgard.Text Midgard.FixedCol Midgard.Decimal Midgard.ChainParser Midgard.RinexObs Midgard.Rinex3Obs
open Midgard.Spec.Rinex (RecSpec headerSpecs renderLabelled renderCells findKind epoch3 obs3 padTo obsLayout obsAligns)
open Midgard.RinexObs.Records (spec_facts labelOk label_ok labelled_line labelled_not_end slice_label)

def NoNl (s : Str) : Prop := ∀ c ∈ s, c ≠ '\n'

theorem nonl_nil : NoNl [] := fun _ h => by simp at h

theorem fileLines_joinLines (ls : List Str) (h : ∀ l ∈ ls, NoNl l) : ChainParser.fileLines (joinLines ls) = ls :=
  eq_joinNl (j := joinLines) rfl (fun _ _ => rfl) ▸ chainLines_joinNl ls h

end Midgard.Spec.Rinex3ObsFile

namespace Midgard.RinexObs
open Midgard.Text Midgard.FixedCol Midgard.Decimal Midgard.ChainParser Midgard.RinexObs Midgard.Rinex3Obs
open Midgard.Spec.Rinex (RecSpec headerSpecs renderLabelled renderCells findKind epoch3 obs3 padTo obsLayout obsAligns)
open Midgard.RinexObs.Records (spec_facts labelOk label_ok labelled_line labelled_not_end slice_label)
open Midgard.Spec.Rinex3ObsFile

theorem rstrip_styled (st : Style) (l : Str) : rstrip (styled st l) = rstrip l := by
  cases st
  · rfl
  · exact rstrip_idem l
  · exact rstrip_append_isBlank (isBlank_blanks _)

theorem findKind_mem {k : String} {sp : RecSpec} (h : findKind k = some sp) : sp ∈ headerSpecs :=
  List.mem_of_find?_eq_some h

theorem spec_eq {k : String} {sp : RecSpec} (h : findKind k = some sp) : spec k = sp := by
  simp [spec, h]

theorem rec_eq {k : String} {sp : RecSpec} (h : findKind k = some sp) (cells : List Str) : rec k cells = renderLabelled sp cells := by
  rw [rec, spec_eq h]

theorem okCells_iff {k : String} {cells : List Str} : okCells k cells = true ↔
    cells.length = (spec k).layout.length ∧ Fits (spec k).layout ((spec k).aligns.zip cells) = true ∧
      cells.all okText = true := by
  simp only [okCells, Bool.and_eq_true, decide_eq_true_eq, and_assoc]

theorem numChar_not_space {c : Char} (h : numChar c = true) : isSpace c = false := by
  simp only [numChar, Bool.or_eq_true, beq_iff_eq] at h
  rcases h with ((h | h) | h) | h
  · exact isSpace_of_isDigit h
  · subst h; decide
  · subst h; decide
  · subst h; decide

theorem numText_visible {v : Str} (h : numText v = true) {x : Char} (hx : x ∈ v) : isSpace x = false :=
  numChar_not_space (List.all_eq_true.mp h x hx)

theorem numText_clean {s : Str} (h : numText s = true) : Clean s = true := by
  have hall : ∀ c ∈ s, isSpace c = false := fun _ => numText_visible h
  cases s with
  | nil => rfl
  | cons c r =>
    simp only [Clean, Bool.and_eq_true, Bool.not_eq_eq_eq_not, Bool.not_true]
    refine ⟨hall c (by simp), ?_⟩
    cases hl : (c :: r).getLast? with
    | none => simp at hl
    | some z => exact hall z (List.mem_of_getLast? hl)

theorem digits_clean {s : Str} (h : allDigits s = true) : Clean s = true := by
  apply numText_clean
  simp only [numText, List.all_eq_true]
  intro c hc
  simp [numChar, isDigit_of_mem h hc]

theorem floatOpt_cell {w : Nat} {c : Cell} (h : c.wf w = true) : floatOpt c.text = .ok c.val := by
  simp only [Cell.wf, Bool.and_eq_true, decide_eq_true_eq] at h
  obtain ⟨⟨hn, _⟩, hv⟩ := h
  cases ht : c.text with
  | nil =>
    rw [ht] at hv
    simp only [List.isEmpty_nil, if_true, beq_iff_eq] at hv
    simp [floatOpt, isBlank, hv, pure, Except.pure]
  | cons ch r =>
    rw [ht] at hv hn
    have hs : isSpace ch = false := numText_visible hn (by simp)
    have hb : isBlank (ch :: r) = false := by simp [isBlank, hs]
    simp only [List.isEmpty_cons, Bool.false_eq_true, if_false] at hv
    unfold floatOpt
    rw [hb]
    cases hp : parseFloat (ch :: r) with
    | none => simp [hp] at hv
    | some q =>
      simp only [hp, beq_iff_eq] at hv
      simp [hv, pure, Except.pure]

theorem cell_fits {w : Nat} {c : Cell} (h : c.wf w = true) : c.text.length ≤ w ∧ Clean c.text = true := by
  simp only [Cell.wf, Bool.and_eq_true, decide_eq_true_eq] at h
  exact ⟨h.1.2, numText_clean h.1.1⟩

theorem triples_fit (start : Nat) : ∀ (k : Nat) (os : List Obs), os.all Obs.wf = true →
    Fits ((List.range' k os.length).flatMap fun j => Spec.Rinex.obsTriple j (start + 16 * j))
      (((List.range' k os.length).flatMap fun _ => [Spec.Rinex.R, Spec.Rinex.L, Spec.Rinex.L]).zip
        (os.flatMap fun o => [o.value.text, o.lli.text, o.ssi.text])) = true := by
  intro k os
  induction os generalizing k with
  | nil => intro _; rfl
  | cons o os ih =>
    intro hw
    simp only [List.all_cons, Bool.and_eq_true] at hw
    have ho := hw.1
    simp only [Obs.wf, Bool.and_eq_true] at ho
    have v := cell_fits ho.1.1
    have l := cell_fits ho.1.2
    have s := cell_fits ho.2
    simp only [List.length_cons, List.range'_succ, List.flatMap_cons, Spec.Rinex.obsTriple, List.cons_append, List.nil_append,
      List.zip_cons_cons, Fits, Field.width, Bool.and_eq_true, decide_eq_true_eq]
    refine ⟨⟨decide_eq_true (by omega), v.2⟩, ⟨decide_eq_true (by omega), l.2⟩, ⟨decide_eq_true (by omega), s.2⟩, ?_⟩
    exact ih (k + 1) hw.2

theorem obsCells_num (os : List Obs) (h : os.all Obs.wf = true) :
    ∀ t ∈ os.flatMap (fun o => [o.value.text, o.lli.text, o.ssi.text]), numText t = true := by
  intro t ht
  obtain ⟨o, ho, hto⟩ := List.mem_flatMap.mp ht
  have hw := List.all_eq_true.mp h o ho
  simp only [Obs.wf, Cell.wf, Bool.and_eq_true] at hw
  simp only [List.mem_cons, List.not_mem_nil, or_false] at hto
  rcases hto with rfl | rfl | rfl
  · exact hw.1.1.1.1
  · exact hw.1.2.1.1
  · exact hw.2.1.1

theorem obs_chars (L : Layout) (pos : Nat) (al : List Align) (os : List Obs) (h : os.all Obs.wf = true) :
    ∀ x ∈ renderFrom pos L (al.zip (os.flatMap fun o => [o.value.text, o.lli.text, o.ssi.text])), x = ' ' ∨ numChar x = true :=
  forall_renderFrom (Or.inl rfl) L pos _ fun cell hc x hx =>
    Or.inr (List.all_eq_true.mp (obsCells_num os h _ (List.of_mem_zip hc).2) x hx)

theorem intCell_digits {w : Nat} {c : IntCell} (h : c.wf w = true) : c.text ≠ [] ∧ allDigits c.text = true := by
  simp only [IntCell.wf, Bool.and_eq_true, Bool.not_eq_eq_eq_not, Bool.not_true, List.isEmpty_eq_false_iff] at h
  exact ⟨h.1.1.1, h.1.1.2⟩

theorem intCell_facts {w : Nat} {c : IntCell} (h : c.wf w = true) :
    c.text.length ≤ w ∧ Clean c.text = true ∧ isNumeric c.text = true ∧ pyInt c.text = .ok c.val := by
  simp only [IntCell.wf, Bool.and_eq_true, decide_eq_true_eq, beq_iff_eq, Bool.not_eq_eq_eq_not, Bool.not_true] at h
  obtain ⟨⟨⟨hne, hd⟩, hl⟩, hp⟩ := h
  refine ⟨hl, digits_clean hd, ?_, ?_⟩
  · simp only [isNumeric, Bool.and_eq_true, Bool.not_eq_eq_eq_not, Bool.not_true]
    exact ⟨hne, hd⟩
  · simp [pyInt, hp, req]; rfl

theorem numCell_facts {w : Nat} {c : NumCell} (h : c.wf w = true) :
    c.text.length ≤ w ∧ Clean c.text = true ∧ pyFloat c.text = .ok c.val := by
  simp only [NumCell.wf, Bool.and_eq_true, decide_eq_true_eq, beq_iff_eq] at h
  obtain ⟨⟨⟨_, hn⟩, hl⟩, hp⟩ := h
  exact ⟨hl, numText_clean hn, by simp [pyFloat, hp, req]; rfl⟩

theorem isAlpha_of_isDigit {c : Char} (h : isDigit c = true) : c.isAlpha = false := by
  simp only [isDigit, Bool.and_eq_true, decide_eq_true_eq] at h
  have h1 : (48 : UInt32) ≤ c.val := by
    have := h.1; rw [Char.le_def] at this; simpa using this
  have h2 : c.val ≤ (57 : UInt32) := by
    have := h.2; rw [Char.le_def] at this; simpa using this
  rw [UInt32.le_iff_toNat_le] at h1 h2
  simp only [Char.isAlpha, Char.isUpper, Char.isLower, Bool.or_eq_false_iff, Bool.and_eq_false_iff, decide_eq_false_iff_not, ge_iff_le,
    UInt32.le_iff_toNat_le]
  simp at h1 h2 ⊢
  omega

theorem numChar_not_alpha {c : Char} (h : numChar c = true) : c.isAlpha = false := by
  simp only [numChar, Bool.or_eq_true, beq_iff_eq] at h
  rcases h with ((h | h) | h) | h
  · exact isAlpha_of_isDigit h
  · subst h; decide
  · subst h; decide
  · subst h; decide

theorem alpha_ge {c : Char} (h : c.isAlpha = true) : 65 ≤ c.toNat := by
  simp only [Char.isAlpha, Char.isUpper, Char.isLower, Bool.or_eq_true, Bool.and_eq_true, decide_eq_true_eq, ge_iff_le,
    UInt32.le_iff_toNat_le] at h
  simp at h
  omega

theorem alpha_facts {c : Char} (h : c.isAlpha = true) : isSpace c = false ∧ c ≠ '>' ∧ c ≠ '\n' := by
  have hge := alpha_ge h
  refine ⟨?_, ?_, ?_⟩
  · cases hs : isSpace c with
    | false => rfl
    | true =>
      simp only [isSpace, Bool.or_eq_true, decide_eq_true_eq, Bool.and_eq_true] at hs
      rcases hs with (((((h1 | h1) | h1) | h1) | h1) | h1) | h1
      · subst h1; revert hge; decide
      · subst h1; revert hge; decide
      · subst h1; revert hge; decide
      · subst h1; revert hge; decide
      · omega
      · omega
      · omega
  · rintro rfl; revert hge; decide
  · rintro rfl; revert hge; decide

theorem stripChars_none (cs : List Char) (s : Str) (h : ∀ c ∈ s, cs.contains c = false) : stripChars cs s = s := by
  have dw : ∀ (t : Str), (∀ c ∈ t, cs.contains c = false) → t.dropWhile (cs.contains ·) = t := by
    intro t ht
    cases t with
    | nil => rfl
    | cons c r =>
      have := ht c (by simp)
      simp only [List.dropWhile_cons, this, Bool.false_eq_true, if_false]
  unfold stripChars
  rw [dw s h, dw s.reverse (fun c hc => h c (List.mem_reverse.mp hc))]
  simp

theorem stripChars_nonl {s : Str} (h : NoNl s) : stripChars ['\n'] s = s :=
  stripChars_none _ _ fun c hc => by simpa using h c hc

theorem nonl_slice {s : Str} (h : NoNl s) (a b : Nat) : NoNl (Text.slice a b s) :=
  fun c hc => h c (List.mem_of_mem_take (List.mem_of_mem_drop hc))

theorem values_newline (d : LabelDef) (hst : d.strip = .newline) (line : Str) (h : NoNl line) :
    d.values line = d.fields.map (fun f => (f.name, sliceRaw f line)) ++ d.openFields.map (fun na => (na.1, sliceFrom na.2 line)) := by
  unfold LabelDef.values
  rw [hst]
  congr 1
  · exact List.map_congr_left fun f _ => by
      show (f.name, stripChars ['\n'] (Text.slice f.start f.stop line)) = _
      rw [stripChars_nonl (nonl_slice h _ _)]; rfl
  · exact List.map_congr_left fun na _ => by
      show (na.1, stripChars ['\n'] (sliceFrom na.2 line)) = _
      rw [stripChars_nonl (s := sliceFrom na.2 line) fun c hc => h c (List.mem_of_mem_drop hc)]

theorem isDigit_ne_nl {c : Char} (h : isDigit c = true) : c ≠ '\n' :=
  visible_ne_nl (isSpace_of_isDigit h)

theorem nonl_numText {s : Str} (h : numText s = true) : NoNl s :=
  fun _ hc => visible_ne_nl (numText_visible h hc)

theorem nonl_digits {s : Str} (h : allDigits s = true) : NoNl s :=
  fun _ hc => isDigit_ne_nl (isDigit_of_mem h hc)

theorem nodup_of {l : List Str} (h : nodup l = true) : l.Nodup := by
  induction l with
  | nil => exact List.nodup_nil
  | cons x xs ih =>
    simp only [nodup, Bool.and_eq_true, Bool.not_eq_eq_eq_not, Bool.not_true] at h
    rw [List.nodup_cons]
    exact ⟨by simpa using h.1, ih h.2⟩

theorem nonl_okText {s : Str} (h : okText s = true) : NoNl s := by
  intro c hc e
  simp only [okText, List.all_eq_true, Bool.and_eq_true, decide_eq_true_eq] at h
  have := (h c hc).1
  rw [e] at this
  revert this; decide

theorem nonl_renderCells (sp : RecSpec) (cells : List Str) (h : ∀ t ∈ cells, NoNl t) : NoNl (renderCells sp cells) :=
  forall_renderFrom (by decide) _ 0 _ fun cell hc =>
    h _ (List.of_mem_zip hc).2

theorem nonl_ljust (w : Nat) {s : Str} (h : NoNl s) : NoNl (ljust w s) := by
  intro c hc
  rcases mem_pad (a := .left) hc with rfl | hs
  · decide
  · exact h c hs

theorem nonl_label (k : String) : NoNl (spec k).label.toList := by
  unfold spec
  cases hk : findKind k with
  | none => intro c hc; simp at hc
  | some sp =>
    have := Midgard.RinexObs.Records.label_ok (List.mem_of_find?_eq_some hk)
    simp only [Midgard.RinexObs.Records.labelOk, Bool.and_eq_true, List.all_eq_true, bne_iff_ne] at this
    exact fun c hc => this.1.2 c hc

theorem nonl_rec (k : String) (cells : List Str) (hok : cells.all okText = true) : NoNl (rec k cells) := by
  unfold rec renderLabelled
  refine List.forall_mem_append.mpr ⟨nonl_ljust 60 (nonl_renderCells _ _ ?_), nonl_label k⟩
  exact fun t ht => nonl_okText (List.all_eq_true.mp hok t ht)

theorem nonl_eoh : NoNl eohLine := by
  have : eohLine.all (fun c => c != '\n') = true := by decide +kernel
  intro c hc
  simpa using List.all_eq_true.mp this c hc

theorem nonl_intCell {w : Nat} {c : IntCell} (h : c.wf w = true) : NoNl c.text :=
  nonl_digits (intCell_digits h).2

theorem nonl_numCell {w : Nat} {c : NumCell} (h : c.wf w = true) : NoNl c.text := by
  simp only [NumCell.wf, Bool.and_eq_true] at h
  exact nonl_numText h.1.1.2

theorem nonl_cell {w : Nat} {c : Cell} (h : c.wf w = true) : NoNl c.text := by
  simp only [Cell.wf, Bool.and_eq_true] at h
  exact nonl_numText h.1.1

theorem nonl_styled (st : Style) {l : Str} (h : NoNl l) : NoNl (styled st l) := by
  cases st
  · exact h
  · exact fun c hc => h c (mem_rstrip hc)
  · exact nonl_ljust 80 h

theorem styled_head (st : Style) (c : Char) (t : Str) (hc : isSpace c = false) : ∃ t', styled st (c :: t) = c :: t' := by
  cases st
  · exact ⟨t, rfl⟩
  · exact ⟨_, rstrip_cons t hc⟩
  · exact ⟨_, rfl⟩

theorem styled_get_visible (st : Style) (l : Str) (i : Nat) (x : Char) (h : l[i]? = some x) (hx : isSpace x = false) :
    (styled st l ++ ['\n'])[i]? = some x := by
  have hi : i < l.length := by
    rcases Nat.lt_or_ge i l.length with hh | hh
    · exact hh
    · rw [List.getElem?_eq_none hh] at h; simp at h
  cases st
  · show (l ++ ['\n'])[i]? = some x
    rw [List.getElem?_append_left hi]; exact h
  · show (rstrip l ++ ['\n'])[i]? = some x
    have h' := get_rstrip_of_visible h hx
    have hi' : i < (rstrip l).length := by
      rcases Nat.lt_or_ge i (rstrip l).length with hh | hh
      · exact hh
      · rw [List.getElem?_eq_none hh] at h'; simp at h'
    rw [List.getElem?_append_left hi']; exact h'
  · show (ljust 80 l ++ ['\n'])[i]? = some x
    rw [List.getElem?_append_left (Nat.lt_of_lt_of_le hi (length_le_length_ljust 80 l)), getElem?_ljust_of_lt 80 hi]; exact h

theorem styled_get_of_visible (st : Style) (l : Str) (i : Nat) (d : Char) (h : (styled st l ++ ['\n'])[i]? = some d)
    (hd : isSpace d = false) : l[i]? = some d := by
  have hnl := visible_ne_nl hd
  have hsp := visible_ne_blank hd
  have tail : ∀ (a : Str), (a ++ ['\n'])[i]? = some d → a[i]? = some d := by
    intro a ha
    rcases Nat.lt_or_ge i a.length with hh | hh
    · rw [List.getElem?_append_left hh] at ha; exact ha
    · rw [List.getElem?_append_right hh] at ha
      have := List.mem_of_getElem? ha
      simp at this; exact absurd this hnl
  cases st
  · exact tail l h
  · exact get_rstrip_some (tail (rstrip l) h)
  · have := tail (ljust 80 l) h
    rcases Nat.lt_or_ge i l.length with hh | hh
    · rwa [getElem?_ljust_of_lt 80 hh] at this
    · rw [ljust, List.getElem?_append_right hh] at this
      exact absurd (mem_blanks (List.mem_of_getElem? this)) hsp

end Midgard.RinexObs
