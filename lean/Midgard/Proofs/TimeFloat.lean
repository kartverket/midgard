/-
C03 — rounding-error budget of the two-part arithmetic ("to better than 1 ns for durations up to decades").

`Rounding` states the two facts about IEEE-754 binary64 round-to-nearest that the budget needs: the relative error of one
operation is at most `u` (= 2⁻⁵³ for doubles; addition and subtraction never underflow), and multiples of 1/2 up to 2⁵² are
doubles.  `flPw R σ a b` is the model's part-by-part `a ± b` (`pw σ`, σ = ±1: `tAddD`, `tSubD`, `tSubT`, `dAddD`, `dSubD`,
`dAddT` are `pw 1` / `pw (-1)`, see `pw_ops`) with the result of each part rounded.  For operands whose day part is a
multiple of 1/2 the day part of every result is computed *exactly*, and the error sits in the fraction parts only.  That is
the hypothesis `Stored B1 B2` of every theorem here (with bounds on the two parts); it is a hypothesis, not derived: that
constructors store such a day part, with a fraction in [0, 1), is C02 `jd_normalised`, `jd_int_frac` / C03
`toJds_normalised`, the bounds are the caller's (Props/C03 builds one instance by hand, in the `example` of its section).
-/
import Midgard.Model.TimeArith
import Mathlib.Tactic.Linarith
import Mathlib.Tactic.Ring
import Mathlib.Tactic.NormNum
import Mathlib.Algebra.Order.Field.Rat
import Mathlib.Algebra.Order.Ring.Abs

namespace Midgard.TimeArith

structure Rounding where
  rnd : Rat → Rat
  u : Rat
  u_nonneg : 0 ≤ u
  /-- standard model of one rounded operation -/
  rel : ∀ x : Rat, |rnd x - x| ≤ u * |x|
  /-- multiples of 1/2 of magnitude ≤ 2⁵² are representable -/
  grid : ∀ k : Int, |((k : Rat) / 2)| ≤ 2 ^ 52 → rnd ((k : Rat) / 2) = (k : Rat) / 2

/-- exact arithmetic is a rounding (u = 0): the hypotheses below are satisfiable and the exact model is an instance -/
def Rounding.exact : Rounding := ⟨id, 0, le_refl 0, fun x => by simp, fun _ _ => rfl⟩

def HalfInt (x : Rat) : Prop := ∃ k : Int, x = (k : Rat) / 2

/-- part-by-part `a + σ·b` -/
def pw (σ : Rat) (a b : JD) : JD := ⟨a.jd1 + σ * b.jd1, a.jd2 + σ * b.jd2⟩

/-- the same with each part of the result rounded (what the NumPy expression `self.jd1 ± other.jd1`, `self.jd2 ± other.jd2` computes) -/
def flPw (R : Rounding) (σ : Rat) (a b : JD) : JD := ⟨R.rnd (a.jd1 + σ * b.jd1), R.rnd (a.jd2 + σ * b.jd2)⟩

theorem pw_ops (a b : JD) :
    tAddD a b = pw 1 a b ∧ dAddD a b = pw 1 a b ∧ dAddT a b = pw 1 a b ∧
    tSubD a b = pw (-1) a b ∧ tSubT a b = pw (-1) a b ∧ dSubD a b = pw (-1) a b := by
  simp only [tAddD, dAddD, dAddT, tSubD, tSubT, dSubD, pw, JD.mk.injEq]
  refine ⟨⟨?_, ?_⟩, ⟨?_, ?_⟩, ⟨?_, ?_⟩, ⟨?_, ?_⟩, ⟨?_, ?_⟩, ⟨?_, ?_⟩⟩ <;> ring

theorem flPw_exact (σ : Rat) (a b : JD) : flPw Rounding.exact σ a b = pw σ a b := rfl

/-- what a stored epoch / duration looks like: day part a multiple of 1/2 bounded by `B1`, fraction part bounded by `B2` -/
def Stored (B1 B2 : Rat) (j : JD) : Prop := HalfInt j.jd1 ∧ |j.jd1| ≤ B1 ∧ |j.jd2| ≤ B2

theorem halfInt_pm {x y σ : Rat} (hx : HalfInt x) (hy : HalfInt y) (hσ : σ = 1 ∨ σ = -1) : HalfInt (x + σ * y) := by
  obtain ⟨k, rfl⟩ := hx
  obtain ⟨l, rfl⟩ := hy
  rcases hσ with rfl | rfl
  · exact ⟨k + l, by push_cast; ring⟩
  · exact ⟨k - l, by push_cast; ring⟩

theorem abs_pm_le {x y σ : Rat} (hσ : σ = 1 ∨ σ = -1) : |x + σ * y| ≤ |x| + |y| := by
  rcases hσ with rfl | rfl
  · simpa using abs_add_le x y
  · have := abs_add_le x (-y); simpa [abs_neg, sub_eq_add_neg] using this

theorem rnd_halfInt (R : Rounding) {z : Rat} (hz : HalfInt z) (hb : |z| ≤ 2 ^ 52) : R.rnd z = z := by
  obtain ⟨k, rfl⟩ := hz
  exact R.grid k hb

theorem flPw_jd1 (R : Rounding) {σ B1 B2 C1 C2 : Rat} (hσ : σ = 1 ∨ σ = -1) {a b : JD}
    (ha : Stored B1 B2 a) (hb : Stored C1 C2 b) (hB : B1 + C1 ≤ 2 ^ 52) :
    (flPw R σ a b).jd1 = (pw σ a b).jd1 := by
  have h1 : |a.jd1 + σ * b.jd1| ≤ 2 ^ 52 := le_trans (abs_pm_le hσ) (by linarith [ha.2.1, hb.2.1])
  exact rnd_halfInt R (halfInt_pm ha.1 hb.1 hσ) h1

theorem flPw_err (R : Rounding) {σ B1 B2 C1 C2 : Rat} (hσ : σ = 1 ∨ σ = -1) {a b : JD}
    (ha : Stored B1 B2 a) (hb : Stored C1 C2 b) (hB : B1 + C1 ≤ 2 ^ 52) :
    |(flPw R σ a b).inst - (pw σ a b).inst| ≤ R.u * (B2 + C2) := by
  have h1 := flPw_jd1 R hσ ha hb hB
  have h2 : |a.jd2 + σ * b.jd2| ≤ B2 + C2 := le_trans (abs_pm_le hσ) (by linarith [ha.2.2, hb.2.2])
  have h3 := R.rel (a.jd2 + σ * b.jd2)
  have : (flPw R σ a b).inst - (pw σ a b).inst = R.rnd (a.jd2 + σ * b.jd2) - (a.jd2 + σ * b.jd2) := by
    simp only [JD.inst, h1]; simp only [flPw, pw]; ring
  rw [this]
  exact le_trans h3 (mul_le_mul_of_nonneg_left h2 R.u_nonneg)

/-- a result is stored again: the fraction bound is the sum of the bounds inflated by one rounding (in exact arithmetic, `u = 0`,
the bounds just add) -/
theorem flPw_stored (R : Rounding) {σ B1 B2 C1 C2 : Rat} (hσ : σ = 1 ∨ σ = -1) {a b : JD}
    (ha : Stored B1 B2 a) (hb : Stored C1 C2 b) (hB : B1 + C1 ≤ 2 ^ 52) :
    Stored (B1 + C1) ((1 + R.u) * (B2 + C2)) (flPw R σ a b) := by
  have h1 := flPw_jd1 R hσ ha hb hB
  have hh := halfInt_pm ha.1 hb.1 hσ
  have hb1 : |a.jd1 + σ * b.jd1| ≤ B1 + C1 := le_trans (abs_pm_le hσ) (by linarith [ha.2.1, hb.2.1])
  have h2 : |a.jd2 + σ * b.jd2| ≤ B2 + C2 := le_trans (abs_pm_le hσ) (by linarith [ha.2.2, hb.2.2])
  have h3 := R.rel (a.jd2 + σ * b.jd2)
  have h4 : R.u * |a.jd2 + σ * b.jd2| ≤ R.u * (B2 + C2) := mul_le_mul_of_nonneg_left h2 R.u_nonneg
  refine ⟨?_, ?_, ?_⟩
  · rw [h1]; exact hh
  · rw [h1]; exact hb1
  · show |R.rnd (a.jd2 + σ * b.jd2)| ≤ _
    have := abs_sub_abs_le_abs_sub (R.rnd (a.jd2 + σ * b.jd2)) (a.jd2 + σ * b.jd2)
    nlinarith

/-- The day part is exact; the first operation errs by `u·(1 + 1) = 2u`, the second works on a fraction part of size up to
`(1 + u)·2` and errs by `u·((1 + u)·2 + 1) = 3u + 2u²`, and `2u² ≤ u` because `u ≤ 1/2`: `6u` in all -/
theorem flPw_two_ops (R : Rounding) (hu : R.u ≤ 1 / 2) {σ τ : Rat} (hσ : σ = 1 ∨ σ = -1) (hτ : τ = 1 ∨ τ = -1) {a b c : JD}
    (ha : Stored (2 ^ 50) 1 a) (hb : Stored (2 ^ 50) 1 b) (hc : Stored (2 ^ 50) 1 c) {x : Rat}
    (hx : a.inst + σ * b.inst + τ * c.inst = x) : |(flPw R τ (flPw R σ a b) c).inst - x| ≤ 6 * R.u := by
  have hB : (2 : Rat) ^ 50 + 2 ^ 50 ≤ 2 ^ 52 := by norm_num
  have hs := flPw_stored R hσ ha hb hB
  have hB' : ((2 : Rat) ^ 50 + 2 ^ 50) + 2 ^ 50 ≤ 2 ^ 52 := by norm_num
  have e2 := flPw_err R hτ hs hc hB'
  have e1 := flPw_err R hσ ha hb hB
  -- exact second operation applied to the rounded and to the exact first result differ by the first error
  have hlin : (pw τ (flPw R σ a b) c).inst - x = (flPw R σ a b).inst - (pw σ a b).inst := by
    rw [← hx]; simp only [pw, JD.inst]; ring
  have htri := abs_sub_le (flPw R τ (flPw R σ a b) c).inst (pw τ (flPw R σ a b) c).inst x
  rw [hlin] at htri
  have hu0 := R.u_nonneg
  have hsq : R.u * R.u ≤ R.u * (1 / 2) := mul_le_mul_of_nonneg_left hu hu0
  have hexp : R.u * ((1 + R.u) * (1 + 1) + 1) = 3 * R.u + 2 * (R.u * R.u) := by ring
  rw [hexp] at e2
  linarith

/-- 6u days with u = 2⁻⁵³ is 5.8·10⁻¹¹ s: well below the nanosecond of the property -/
theorem budget_below_ns : 6 * ((1 : Rat) / 2 ^ 53) * 86400 < 1 / 10 ^ 9 := by norm_num

end Midgard.TimeArith
