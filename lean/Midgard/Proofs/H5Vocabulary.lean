/-
C10 — the terms the statements of `Props/C10.lean` are written in, beside the model's own: the fields with their full names,
fields and objects over other object numbers (the read gives new numbers), the `time` of an object, the objects a dataset can
reach, a dataset looked at by path.  Trap: a definition by cases on a `Field` shares its auxiliary matcher with the first such
definition of its file, so `fieldType` (`Proofs/H5Base.lean`) and `RepA` (`Proofs/H5PlainWrite.lean`) cannot stand beside
`renameField` without changing what it unfolds to.
-/
import Midgard.Model.H5Time

namespace Midgard.H5
open Midgard.Dataset

/-- the `time` of an object as `_write` sees it: only positions and posvels have the attribute -/
def tmE (h : Heap) (tm : TM) (o : Nat) : Option Nat :=
  match h[o]? with
  | some ob => if ob.kind.hasOther then tmOf tm o else none
  | none => none

/-- `(array object, full field name)` of every leaf field, collections flattened, in field order -/
def leafPaths : List Field → Path → List (Nat × Path)
  | [], _ => []
  | .leaf nm _ o _ _ _ :: fs, pre => (o, pre ++ [nm]) :: leafPaths fs pre
  | .coll nm _ _ sub :: fs, pre => leafPaths sub (pre ++ [nm]) ++ leafPaths fs pre

/-- the same fields over other object numbers -/
def renameFields (φ : Nat → Nat) : List Field → List Field
  | [] => []
  | .leaf nm k o no u l :: fs => .leaf nm k (φ o) no u l :: renameFields φ fs
  | .coll nm no l sub :: fs => .coll nm no l (renameFields φ sub) :: renameFields φ fs

def renameField (φ : Nat → Nat) : Field → Field
  | .leaf nm k o no u l => .leaf nm k (φ o) no u l
  | .coll nm no l sub => .coll nm no l (renameFields φ sub)

/-- the same array object over other object numbers -/
def _root_.Midgard.Dataset.Obj.rename (φ : Nat → Nat) (ob : Obj) : Obj :=
  { ob with other := ob.other.map φ, refPos := ob.refPos.map φ }

/-- the array objects a list of fields can reach: the arrays of the fields and, from a reachable array,
the object attached to it (`other` / `ref_pos`), to any depth -/
inductive Reach (h : Heap) (fs : List Field) : Nat → Prop
  | field {o : Nat} : o ∈ leafObjs fs → Reach h fs o
  | ref {x y : Nat} {ob : Obj} : Reach h fs x → h[x]? = some ob → ob.ref = some y → Reach h fs y

/-- the objects reachable from the fields through `other` / `ref_pos` and `time` -/
inductive ReachX (h : Heap) (tm : TM) (fs : List Field) : Nat → Prop
  | field {o : Nat} : o ∈ leafObjs fs → ReachX h tm fs o
  | ref {x y : Nat} {ob : Obj} : ReachX h tm fs x → h[x]? = some ob → ob.ref = some y → ReachX h tm fs y
  | time {x t : Nat} : ReachX h tm fs x → tmE h tm x = some t → ReachX h tm fs t

/-- the array object of the leaf field `dset[path]` -/
def leafAt (fs : List Field) (p : Path) : Option Nat :=
  match findField fs p with
  | some (.leaf _ _ o _ _ _) => some o
  | _ => none

/-- `dset[path]` exists and the field and every collection around it has write level ≥ `lvl` -/
def visible (lvl : Nat) : List Field → Path → Bool
  | _, [] => false
  | fs, [n] =>
    match getField fs n with
    | some f => decide (lvl ≤ Field.level f)
    | none => false
  | fs, n :: rest =>
    match getField fs n with
    | some (.coll _ _ l sub) => decide (lvl ≤ l) && visible lvl sub rest
    | _ => false

end Midgard.H5
