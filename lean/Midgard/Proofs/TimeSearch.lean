/-
C01 — the regenerated control flow of `_time.py` (`Generated/SourceTimeFlow.lean`: `_find_conversion_hops`, the route and
fold of `to_scale`, the row selection of `_taiutc_idx`) is the hand-written model, for every registry, table and scale pair
(the search for every iteration bound, `route` and `convert` at the model's bound 64).  The proofs follow the generated text: a rewrite of the source that changes the search (queue end, order of
the target / visited tests, what is remembered as visited, neighbour order) changes that text and these proofs stop checking.
-/
import Midgard.Proofs.TimeScale
import Midgard.Generated.SourceTimeFlow

namespace Midgard.TimeScale
open Midgard.TimeArith (JD Scale)
open Midgard.TimeScale.Flow
open Midgard.Generated

/-- the model's treatment of one neighbour that is not the target -/
def visitStep (fromS : Scale) (hops : List Hop) (acc : List (Scale × List Hop) × List Hop) (t : Scale) :
    List (Scale × List Hop) × List Hop :=
  let h : Hop := (fromS, t)
  if acc.2.contains h then acc else (acc.1 ++ [(t, hops ++ [h])], acc.2 ++ [h])

theorem forBody_eq (target fromS : Scale) (hops : List Hop) (t : Scale) (st : SrcFlow.Q × List Hop) :
    SrcFlow.findHopsForBodySrc target fromS hops t st =
      if t = target then .ret (hops ++ [(fromS, target)]) else .next (visitStep fromS hops st t) := by
  rcases st with ⟨q, v⟩
  by_cases ht : t = target
  · subst ht; simp [SrcFlow.findHopsForBodySrc]
  · by_cases hv : v.contains (fromS, t) = true
    · simp [SrcFlow.findHopsForBodySrc, visitStep, ht]
    · simp [SrcFlow.findHopsForBodySrc, visitStep, ht]

/-- the source's `for` with its early return is: return at the first neighbour equal to the target, otherwise the fold -/
theorem forReturn_eq (target fromS : Scale) (hops : List Hop) (succs : List Scale) (st : SrcFlow.Q × List Hop) :
    forReturn (SrcFlow.findHopsForBodySrc target fromS hops) succs st =
      match succs.find? (· = target) with
      | some _ => .ret (hops ++ [(fromS, target)])
      | none => .next (succs.foldl (visitStep fromS hops) st) := by
  induction succs generalizing st with
  | nil => rfl
  | cons t rest ih =>
    rw [forReturn, forBody_eq]
    by_cases ht : t = target
    · simp [ht]
    · simp only [ht, if_false, List.find?_cons, decide_false, List.foldl_cons]
      exact ih _

theorem bfs_eq_src (g : List Hop) (target : Scale) (fuel : Nat) (queue : List (Scale × List Hop)) (visited : List Hop) :
    whileReturn (fun st => !st.1.isEmpty) (SrcFlow.findHopsWhileBodySrc g target) fuel (queue, visited)
      = bfs g target fuel queue visited := by
  induction fuel generalizing queue visited with
  | zero => simp [whileReturn, bfs]
  | succ n ih =>
    cases queue with
    | nil => simp [whileReturn, bfs]
    | cons e rest =>
      rcases e with ⟨fromS, hops⟩
      simp only [whileReturn, List.isEmpty_cons, Bool.not_false, if_true, SrcFlow.findHopsWhileBodySrc, popFront, forReturn_eq, bfs]
      cases hfind : List.find? (fun x => decide (x = target)) (List.map (fun ft => ft.2) (List.filter (fun ft => decide (ft.1 = fromS)) g)) with
      | some x => simp
      | none =>
        simp only
        exact ih _ _

theorem findHopsSrc_eq (g : List Hop) (a b : Scale) (fuel : Nat) :
    SrcFlow.findHopsSrc g a b fuel = if a = b then some [(a, b)] else bfs g b fuel [(a, [])] [] := by
  by_cases h : a = b
  · simp [SrcFlow.findHopsSrc, h]
  · simp only [SrcFlow.findHopsSrc, h, decide_false, if_false, Bool.false_eq_true]
    exact bfs_eq_src g b fuel _ _

theorem toScaleRouteSrc_eq (g : List Hop) (a b : Scale) : SrcFlow.toScaleRouteSrc g a b 64 = route g a b := by
  by_cases h : b = a
  · subst h; simp [SrcFlow.toScaleRouteSrc, route]
  · have h' : a ≠ b := fun e => h e.symm
    by_cases hc : (a, b) ∈ g
    · simp [SrcFlow.toScaleRouteSrc, route, h, h', hc]
    · simp [SrcFlow.toScaleRouteSrc, route, h, h', hc, findHopsSrc_eq]

theorem toScaleSrc_eq (tbl : List Row) (c : Consts) (g : List Hop) (a b : Scale) (j : JD) :
    SrcFlow.toScaleSrc g (hopFn tbl c) a b 64 j = convert tbl c g a b j := by
  by_cases h : b = a
  · subst h; simp [SrcFlow.toScaleSrc, convert, route]
  · have h' : a ≠ b := fun e => h e.symm
    by_cases hc : g.contains (a, b) = true
    · simp only [SrcFlow.toScaleSrc, convert, route, h, h', hc, decide_false, if_false, if_true, Bool.false_eq_true,
        Option.bind_eq_bind, Option.bind_some, List.foldlM_cons, List.foldlM_nil]
      cases hopFn tbl c (a, b) <;> simp
    · simp only [Bool.not_eq_true] at hc
      simp only [SrcFlow.toScaleSrc, convert, route, h, h', hc, decide_false, if_false, Bool.false_eq_true, findHopsSrc_eq,
        Option.bind_eq_bind]

theorem countTrue_map {α : Type} (l : List α) (p : α → Bool) : countTrue (l.map p) = (l.countP p : Nat) := by
  simp [countTrue, List.count_eq_countP, List.countP_map, Function.comp_def]

theorem rowOf_idx {α : Type} [Inhabited α] (tbl : List α) (n : Nat) :
    rowOf tbl (max ((n : Int) - 1) 0) = tbl.getD (n - 1) (tbl.headD default) := by
  unfold rowOf
  congr 1
  omega

end Midgard.TimeScale
