/-
C10 — `Dataset.read` of a faithful file: the invariant, and one attribute of an array group.  The invariant `RInv` relates the
read state (new heap, memo `field name ↦ new object`) to the heap that was written through a growing partial injection
`ρ : old object ↦ new object`: every new object is the image of its old one (same kind, shape, rows; its reference is the image of
the old reference), the memo names only array groups of the file and gives the image of the object the group was written for,
and an object of a registering class that has been read is known to the memo under the path of its group — so that no group is
read twice and an attached object is the very object read for its field.
-/
import Midgard.Proofs.H5File

namespace Midgard.H5
open Midgard.Dataset

abbrev Rho := List (Nat × Nat)

/-- the new reference is the image of the old one -/
def RefRel (ρ : Rho) (r r' : Option Nat) : Prop :=
  match r with
  | none => r' = none
  | some y => ∃ m, r' = some m ∧ ρ.lookup y = some m

def Ext (ρ ρ' : Rho) : Prop := ∀ x n, ρ.lookup x = some n → ρ'.lookup x = some n

theorem Ext.refl (ρ : Rho) : Ext ρ ρ := fun _ _ h => h
theorem Ext.trans {a b c : Rho} (h1 : Ext a b) (h2 : Ext b c) : Ext a c := fun x n h => h2 x n (h1 x n h)

theorem Ext.cons {ρ : Rho} {x : Nat} (n : Nat) (hx : ρ.lookup x = none) : Ext ρ ((x, n) :: ρ) := by
  intro z m hz
  rw [Lists.lookup_cons_ite]
  by_cases hzx : z = x
  · subst hzx; rw [hx] at hz; cases hz
  · simp [hzx, hz]

theorem RefRel.mono {ρ ρ' : Rho} (he : Ext ρ ρ') {r r' : Option Nat} (h : RefRel ρ r r') : RefRel ρ' r r' := by
  cases r with
  | none => exact h
  | some y =>
    obtain ⟨m, h1, h2⟩ := h
    exact ⟨m, h1, he y m h2⟩

def Registers (h : Heap) (x : Nat) : Prop := ∃ ob, h[x]? = some ob ∧ ob.kind.registers = true

/-- the conditions of `heapOK` (which `Writable`, `WritableS`, `WritableX` share) as propositions -/
structure HeapWF (h : Heap) : Prop where
  below : Below h
  delta : ∀ (o : Nat) (ob : Obj), h[o]? = some ob → ob.kind.isDelta = true → ob.ref ≠ none
  refReg : ∀ (o : Nat) (ob : Obj) (x : Nat), h[o]? = some ob → ob.ref = some x → Registers h x
  normal : ∀ (o : Nat) (ob : Obj), h[o]? = some ob → ob.normal = true

/-- the read state against the heap that was written, through the partial injection `ρ` (see the head of this file) -/
structure RInv (h : Heap) (file : File) (ρ : Rho) (s : RSt) : Prop where
  lt : ∀ x n, ρ.lookup x = some n → n < s.heap.length
  inj : ∀ x x' n, ρ.lookup x = some n → ρ.lookup x' = some n → x = x'
  img : ∀ x n, ρ.lookup x = some n → ∃ ob r', h[x]? = some ob ∧ s.heap[n]? = some (ob.strip.withRef r') ∧ RefRel ρ ob.ref r'
  memo : ∀ q n, s.memo.lookup q = some n → ∃ g, lookupGrp file.groups q = some g ∧ ρ.lookup g.src = some n
  reg : ∀ x n, ρ.lookup x = some n → Registers h x → ∀ q g, lookupGrp file.groups q = some g → g.isArr = true →
    g.src = x → s.memo.lookup q = some n

theorem RInv.empty (h : Heap) (file : File) : RInv h file [] {} where
  lt := by intro x n hx; simp [List.lookup] at hx
  inj := by intro x x' n hx; simp [List.lookup] at hx
  img := by intro x n hx; simp [List.lookup] at hx
  memo := by intro q n hq; simp [List.lookup] at hq
  reg := by intro x n hx; simp [List.lookup] at hx

theorem RInv.memo_hit {h : Heap} {file : File} {ρ : Rho} {s : RSt} (inv : RInv h file ρ s) {q : Path} {g : Grp} {n : Nat}
    (hl : lookupGrp file.groups q = some g) (hm : s.memo.lookup q = some n) : ρ.lookup g.src = some n := by
  obtain ⟨g', h1, h3⟩ := inv.memo q n hm
  rw [hl] at h1
  cases h1
  exact h3

theorem RInv.unread_of_miss {h : Heap} {file : File} {ρ : Rho} {s : RSt} (inv : RInv h file ρ s) {q : Path} {g : Grp}
    (hl : lookupGrp file.groups q = some g) (ha : g.isArr = true) (hreg : Registers h g.src)
    (hm : s.memo.lookup q = none) : ρ.lookup g.src = none := by
  cases hol : ρ.lookup g.src with
  | none => rfl
  | some m =>
    have := inv.reg _ m hol hreg q g hl ha rfl
    rw [hm] at this
    cases this

/-- `memo[name] = obj` for the array group of that name and the image of its object -/
theorem RInv.set {h : Heap} {file : File} {ρ : Rho} {s : RSt} (inv : RInv h file ρ s) {q : Path} {g : Grp} {n : Nat}
    (hl : lookupGrp file.groups q = some g) (hr : ρ.lookup g.src = some n) :
    RInv h file ρ (s.set q n) := by
  refine ⟨inv.lt, inv.inj, inv.img, fun q' n' hq => ?_, fun x0 n0 hx0 hreg q' g' hl' ha' hs' => ?_⟩
  · rcases Lists.lookup_cons_some hq with ⟨rfl, rfl⟩ | ⟨_, hq⟩
    · exact ⟨g, hl, hr⟩
    · exact inv.memo q' n' hq
  · show List.lookup q' ((q, n) :: s.memo) = some n0
    rw [Lists.lookup_cons_ite]
    split
    · next hqq =>
      subst hqq
      rw [hl] at hl'
      cases hl'
      rw [hs', hx0] at hr
      exact hr.symm
    · exact inv.reg x0 n0 hx0 hreg q' g' hl' ha' hs'

/-- an invariant of reading that has `RInv` in it and, like `RInv`, survives `memo[name] = obj` for an array group and the image
of its object (`RInv` itself; with the `time` attribute `RInvX`) -/
structure InvAbove (h : Heap) (file : File) (I : Rho → RSt → Prop) : Prop where
  toR : ∀ {ρ s}, I ρ s → RInv h file ρ s
  set : ∀ {ρ s q g n}, I ρ s → lookupGrp file.groups q = some g → ρ.lookup g.src = some n → I ρ (s.set q n)

theorem RInv.above (h : Heap) (file : File) : InvAbove h file (RInv h file) :=
  ⟨fun inv => inv, fun inv hl hr => inv.set hl hr⟩

/-- a new array is made for an object not read so far, and (if its class does that) registered -/
theorem RInv.alloc {h : Heap} {file : File} {ρ : Rho} {s : RSt} (ag : ArrGroups file) (inv : RInv h file ρ s)
    {x : Nat} {ob : Obj} {r' : Option Nat} {q : Path} {g : Grp} (hx : ρ.lookup x = none) (hob : h[x]? = some ob)
    (hrr : RefRel ρ ob.ref r') (hl : lookupGrp file.groups q = some g) (ha : g.isArr = true) (hs : g.src = x)
    {s' : RSt} (hheap : s'.heap = s.heap ++ [ob.strip.withRef r'])
    (hmemo : s'.memo = s.memo ∨ s'.memo = (q, s.heap.length) :: s.memo)
    (hreg : ob.kind.registers = true → s'.memo = (q, s.heap.length) :: s.memo) :
    RInv h file ((x, s.heap.length) :: ρ) s' := by
  have hext : Ext ρ ((x, s.heap.length) :: ρ) := Ext.cons _ hx
  have hnew : ((x, s.heap.length) :: ρ).lookup x = some s.heap.length := List.lookup_cons_self
  refine ⟨fun z n hz => ?_, fun z z' n hz hz' => ?_, fun z n hz => ?_, fun q' n' hq => ?_,
    fun z n hz hregz q' g' hl' ha' hs' => ?_⟩
  · rw [hheap, List.length_append, List.length_singleton]
    rcases Lists.lookup_cons_some hz with ⟨_, rfl⟩ | ⟨_, hz⟩
    · omega
    · have := inv.lt z n hz; omega
  · -- the new object number is not among the old ones
    rcases Lists.lookup_cons_some hz with ⟨rfl, rfl⟩ | ⟨_, hz⟩
    · rcases Lists.lookup_cons_some hz' with ⟨rfl, _⟩ | ⟨_, hz'⟩
      · rfl
      · have := inv.lt z' _ hz'; omega
    · rcases Lists.lookup_cons_some hz' with ⟨_, rfl⟩ | ⟨_, hz'⟩
      · have := inv.lt z _ hz; omega
      · exact inv.inj z z' n hz hz'
  · rcases Lists.lookup_cons_some hz with ⟨rfl, rfl⟩ | ⟨_, hz⟩
    · exact ⟨ob, r', hob, by rw [hheap]; simp, hrr.mono hext⟩
    · obtain ⟨ob0, r0, h1, h2, h3⟩ := inv.img z n hz
      exact ⟨ob0, r0, h1, by rw [hheap, List.getElem?_append_left (inv.lt z n hz)]; exact h2, h3.mono hext⟩
  · have hold : s.memo.lookup q' = some n' → ∃ g, lookupGrp file.groups q' = some g ∧
        List.lookup g.src ((x, s.heap.length) :: ρ) = some n' :=
      fun hq => (inv.memo q' n' hq).imp fun g' hg => ⟨hg.1, hext _ _ hg.2⟩
    rcases hmemo with hm | hm
    · exact hold (hm ▸ hq)
    · rcases Lists.lookup_cons_some (hm ▸ hq) with ⟨rfl, rfl⟩ | ⟨_, hq⟩
      · exact ⟨g, hl, hs ▸ hnew⟩
      · exact hold hq
  · rcases Lists.lookup_cons_some hz with ⟨rfl, rfl⟩ | ⟨hzx, hz⟩
    · obtain ⟨obz, hobz, hrz⟩ := hregz
      rw [hob] at hobz
      cases hobz
      rw [hreg hrz, ag.uniq q' g' q g hl' hl ha' ha (hs'.trans hs.symm), List.lookup_cons_self]
    · have hold := inv.reg z n hz hregz q' g' hl' ha' hs'
      rcases hmemo with hm | hm
      · rw [hm]; exact hold
      · rw [hm, Lists.lookup_cons_ite, if_neg, hold]
        intro hqq
        rw [hqq, hl] at hl'
        cases hl'
        exact hzx (hs'.symm.trans hs)

@[simp] theorem strip_kind (ob : Obj) : ob.strip.kind = ob.kind := rfl

theorem strip_withRef_none (ob : Obj) : ob.strip.withRef none = ob.strip := by
  cases ob with
  | mk k nd c rows ot rp =>
    simp only [Obj.withRef, Obj.strip]
    by_cases hk : k.hasOther = true <;> simp [hk]

theorem registers_of_attr {k : Kind} {nm : String} (hk : attrName k = some nm) : k.registers = true := by
  simp [Kind.registers, hk]

theorem registers_plain {k : Kind} (hk : attrName k = none) : k.registers = (k == .time || k == .timeDelta) := by
  simp [Kind.registers, hk]

/-- a delta whose `ref_pos` has been read passes the check of `_read` -/
theorem delta_ok {h : Heap} (hh : HeapWF h) {x : Nat} {ob : Obj} (hob : h[x]? = some ob) {ρ : Rho} {r : Option Nat}
    (hrel : RefRel ρ ob.ref r) : (ob.kind.isDelta && r.isNone) = false := by
  cases hd : ob.kind.isDelta with
  | false => rfl
  | true =>
    cases hro : ob.ref with
    | none => exact absurd hro (hh.delta x ob hob hd)
    | some y =>
      rw [hro] at hrel
      obtain ⟨m, hm, _⟩ := hrel
      simp [hm]

theorem readRef_none (rd : Grp → RSt → M (Nat × RSt)) (s : RSt) : readRef rd none s = .ok (none, s) := rfl

def MemoMono (s s' : RSt) : Prop := ∀ q, s.memo.lookup q ≠ none → s'.memo.lookup q ≠ none

theorem MemoMono.refl (s : RSt) : MemoMono s s := fun _ h => h
theorem MemoMono.trans {a b c : RSt} (h1 : MemoMono a b) (h2 : MemoMono b c) : MemoMono a c := fun q h => h2 q (h1 q h)

theorem MemoMono.set (s : RSt) (k : Path) (v : Nat) : MemoMono s (s.set k v) := by
  intro q hq
  simp only [RSt.set]
  rw [Lists.lookup_cons_ite]
  split
  · simp
  · exact hq

/-- from `(ρ, s)` to `(ρ', s')` the injection and the memo only grow, and every object newly read is in `N` -/
structure Grows (ρ : Rho) (s : RSt) (ρ' : Rho) (s' : RSt) (N : Nat → Prop) : Prop where
  ext : Ext ρ ρ'
  memo : MemoMono s s'
  new : ∀ z, ρ'.lookup z ≠ none → ρ.lookup z ≠ none ∨ N z

section
variable {ρ ρ1 ρ2 : Rho} {s s1 s2 : RSt} {N N' : Nat → Prop}

theorem Grows.refl (ρ : Rho) (s : RSt) (N : Nat → Prop) : Grows ρ s ρ s N := ⟨Ext.refl ρ, MemoMono.refl s, fun _ h => Or.inl h⟩

theorem Grows.trans (a : Grows ρ s ρ1 s1 N) (b : Grows ρ1 s1 ρ2 s2 N) : Grows ρ s ρ2 s2 N :=
  ⟨a.ext.trans b.ext, a.memo.trans b.memo, fun z hz => (b.new z hz).elim (a.new z) Or.inr⟩

theorem Grows.mono (a : Grows ρ s ρ1 s1 N) (hN : ∀ z, N z → N' z) : Grows ρ s ρ1 s1 N' :=
  ⟨a.ext, a.memo, fun z hz => (a.new z hz).imp_right (hN z)⟩

theorem Grows.set (a : Grows ρ s ρ1 s1 N) (k : Path) (v : Nat) : Grows ρ s ρ1 (s1.set k v) N :=
  ⟨a.ext, a.memo.trans (MemoMono.set _ _ _), a.new⟩

theorem Grows.alloc {x : Nat} (n : Nat) (hx : ρ.lookup x = none) (hm : MemoMono s s1) (hN : N x) :
    Grows ρ s ((x, n) :: ρ) s1 N := by
  refine ⟨Ext.cons n hx, hm, fun z hz => ?_⟩
  rw [Lists.lookup_cons_ite] at hz
  split at hz
  · next e => exact Or.inr (e ▸ hN)
  · exact Or.inl hz

theorem Grows.unread (a : Grows ρ s ρ1 s1 N) {x : Nat} (hx : ρ.lookup x = none) (hN : ¬ N x) : ρ1.lookup x = none :=
  Classical.byContradiction fun hne => (a.new x hne).elim (fun h0 => h0 hx) hN

end

/-- `rd` reads the array group of an object not read so far, given `F` of the object (enough fuel), keeps the invariant `I`,
and reads besides the object `x` itself only objects `V x` -/
def ArrStep (h : Heap) (file : File) (I : Rho → RSt → Prop) (rd : Grp → RSt → M (Nat × RSt)) (F : Nat → Prop)
    (V : Nat → Nat → Prop) : Prop :=
  ∀ (q : Path) (g : Grp) (s : RSt) (ρ : Rho), I ρ s → lookupGrp file.groups q = some g → g.isArr = true → F g.src →
    ρ.lookup g.src = none →
    ∃ n s' ρ', rd g s = .ok (n, s') ∧ I ρ' s' ∧ ρ'.lookup g.src = some n ∧ Grows ρ s ρ' s' (fun z => z = g.src ∨ V g.src z)

theorem ArrStep.mono {h : Heap} {file : File} {I : Rho → RSt → Prop} {rd : Grp → RSt → M (Nat × RSt)} {F F' : Nat → Prop}
    {V V' : Nat → Nat → Prop} (a : ArrStep h file I rd F V) (hF : ∀ x, F' x → F x) (hV : ∀ x z, V x z → V' x z) :
    ArrStep h file I rd F' V' := fun q g s ρ inv hl ha hf hx =>
  let ⟨n, s', ρ', hrd, inv', hlk, gr⟩ := a q g s ρ inv hl ha (hF _ hf) hx
  ⟨n, s', ρ', hrd, inv', hlk, gr.mono fun _ => Or.imp_right (hV _ _)⟩

/-- one attribute of an array group (`readRef`): the memo has the image of the attached object `y`, or `y` — which registers
itself, so the memo would know it — has not been read and is read now by `rd`; what is read lies in `U`: `y` and what `y`
allocates -/
theorem readSlot {h : Heap} {file : File} {I : Rho → RSt → Prop} (A : InvAbove h file I)
    {rd : Grp → RSt → M (Nat × RSt)} {F : Nat → Prop} {V : Nat → Nat → Prop} (IH : ArrStep h file I rd F V)
    {U : Nat → Prop} {target : Option (Path × Option Grp)} {x : Option Nat}
    (htg : match x with
      | none => target = none
      | some y => ∃ qy gy, target = some (qy, some gy) ∧ lookupGrp file.groups qy = some gy ∧ gy.isArr = true ∧ gy.src = y)
    (hx : ∀ y, x = some y → Registers h y ∧ F y ∧ U y ∧ ∀ z, V y z → U z)
    {s : RSt} {ρ : Rho} (inv : I ρ s) :
    ∃ r s1 ρ1, readRef rd target s = .ok (r, s1) ∧ I ρ1 s1 ∧ RefRel ρ1 x r ∧ Grows ρ s ρ1 s1 U := by
  cases x with
  | none =>
    rw [show target = none from htg]
    exact ⟨none, s, ρ, rfl, inv, rfl, .refl ρ s U⟩
  | some y =>
    obtain ⟨hyreg, hyF, hyU, hVU⟩ := hx y rfl
    obtain ⟨qy, gy, rfl, hly, hay, rfl⟩ := htg
    simp only [readRef]
    cases hml : s.memo.lookup qy with
    | some m => exact ⟨some m, s, ρ, rfl, inv, ⟨m, rfl, (A.toR inv).memo_hit hly hml⟩, .refl ρ s U⟩
    | none =>
      obtain ⟨m, s1, ρ1, hrd, inv1, hlk1, gr⟩ := IH qy gy s ρ inv hly hay hyF ((A.toR inv).unread_of_miss hly hay hyreg hml)
      exact ⟨some m, s1.set qy m, ρ1, by simp only [hrd], A.set inv1 hly hlk1, ⟨m, rfl, hlk1⟩,
        (gr.mono fun z h0 => h0.elim (fun e => e ▸ hyU) (hVU z)).set qy m⟩

end Midgard.H5
