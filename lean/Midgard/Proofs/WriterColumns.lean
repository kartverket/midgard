/-
C17 — what a parser column reads of a written line.  `column_reads_cell`: the columns `[a, b)` of a rendered line, stripped, are
the text of a writer cell when everything else in `[a, b)` is a literal blank and `[a, b)` contains the part of the cell its text
occupies; `columnReads` is that condition as a check on the tables, `columns_roundtrip` the statement for a parser's whole table
of named columns.  The tables it is applied to: Bernese STA TYPE 002 against both STA parsers (`sta_tables`), SINEX-TMS
TIMESERIES/REF_COORDINATE (`tms_ref_tables`).
-/
import Midgard.Proofs.WriterFiles

namespace Midgard.WriterFiles
open Midgard.Text Midgard.Decimal Midgard.FixedCol Midgard.WriterCells Midgard.Writers

/-- all columns `≥ a` of the cells (laid out from column `pos`) are literal blanks -/
def blankFrom (a pos : Nat) : List Cell → Bool
  | [] => true
  | .lit t :: cs => (t.toList.drop (a - pos)).all (· = ' ') && blankFrom a (pos + t.toList.length) cs
  | .fld _ sp :: cs => decide (pos + sp.width ≤ a) && blankFrom a (pos + sp.width) cs
  | .other _ :: _ => false

/-- all columns `< b` of the cells (laid out from column `pos`) are literal blanks -/
def blankUpTo (b pos : Nat) : List Cell → Bool
  | [] => true
  | .lit t :: cs => (t.toList.take (b - pos)).all (· = ' ') && blankUpTo b (pos + t.toList.length) cs
  | .fld _ _ :: _ => decide (b ≤ pos)
  | .other _ :: _ => decide (b ≤ pos)

theorem blankFrom_sem (a : Nat) (cells : List Cell) (vals : List Value) (hf : allFit cells vals = true) (pos : Nat)
    (P : Str) (hb : blankFrom a pos cells = true) (hr : renderCells cells vals = some P) :
    isBlank (P.drop (a - pos)) = true := by
  induction cells, vals, hf using allFit_induction generalizing pos P with
  | nil => cases hr; rw [List.drop_nil]; rfl
  | lit t cs vals _ ih =>
    rw [blankFrom, Bool.and_eq_true] at hb
    obtain ⟨P', hP', rfl⟩ := Option.map_eq_some_iff.mp hr
    rw [List.drop_append, isBlank_append, isBlank_of_spaces hb.1, Nat.sub_sub, ih _ P' hb.2 hP']; rfl
  | fld n sp cs v vs hok hfit _ ih =>
    simp only [blankFrom, Bool.and_eq_true, decide_eq_true_eq] at hb
    rw [renderCells_fld hok] at hr
    obtain ⟨P', hP', rfl⟩ := Option.map_eq_some_iff.mp hr
    have hw := length_fmtValue sp v hfit
    rw [List.drop_append, List.drop_eq_nil_of_le (by omega), hw, Nat.sub_sub, List.nil_append]
    exact ih _ P' hb.2 hP'

theorem blankUpTo_sem (b : Nat) (cells : List Cell) (vals : List Value) (Q : Str) (hr : renderCells cells vals = some Q)
    (pos : Nat) (hb : blankUpTo b pos cells = true) : isBlank (Q.take (b - pos)) = true := by
  induction cells, vals, Q, hr using renderCells_induction generalizing pos with
  | nil => rw [List.take_nil]; rfl
  | lit t cs vals Q' _ ih =>
    rw [blankUpTo, Bool.and_eq_true] at hb
    rw [List.take_append, isBlank_append, isBlank_of_spaces hb.1, Nat.sub_sub, ih _ hb.2]; rfl
  | fld n sp cs v vs Q' _ _ _ => rw [Nat.sub_eq_zero_of_le (of_decide_eq_true hb)]; rfl

def fieldCount : List Cell → Nat
  | [] => 0
  | .fld _ _ :: cs => fieldCount cs + 1
  | _ :: cs => fieldCount cs

theorem render_append (xs ys : List Cell) (vals : List Value) : renderCells (xs ++ ys) vals =
    (renderCells xs vals).bind fun P => (renderCells ys (vals.drop (fieldCount xs))).map (P ++ ·) := by
  fun_induction renderCells xs vals <;> simp [renderCells, fieldCount, Option.bind_map, Function.comp_def, *]

theorem render_append_some (xs ys : List Cell) (vals : List Value) (line : Str)
    (h : renderCells (xs ++ ys) vals = some line) :
    ∃ P Q, renderCells xs vals = some P ∧ renderCells ys (vals.drop (fieldCount xs)) = some Q ∧ line = P ++ Q := by
  rw [render_append] at h
  obtain ⟨P, hP, h⟩ := Option.bind_eq_some_iff.mp h
  obtain ⟨Q, hQ, rfl⟩ := Option.map_eq_some_iff.mp h
  exact ⟨P, Q, hP, hQ, rfl⟩

theorem allFit_append (xs ys : List Cell) (vals : List Value) :
    allFit (xs ++ ys) vals = (allFit xs vals && allFit ys (vals.drop (fieldCount xs))) := by
  fun_induction allFit xs vals <;> simp [allFit, fieldCount, Bool.and_assoc, *]

theorem render_length (xs : List Cell) (vals : List Value) (P : Str) (hf : allFit xs vals = true)
    (h : renderCells xs vals = some P) : P.length = nominalWidth xs := by
  obtain ⟨l, h1, h2, _⟩ := fields_in_columns_aux xs vals hf
  rw [h] at h1; cases h1; exact h2

/-- the value is right-aligned in the cell: its text stands at the right end, the padding blanks in front of it
(`rightAligned` of Model/WriterFiles.lean, with the spec and the value as two arguments) -/
def padsRight (sp : Spec) (v : Value) : Bool := (sp.align.getD v.defaultAlign) == Align.right

theorem cell_blanks (sp : Spec) (v : Value) :
    ∃ k1 k2, fmtValue sp v = blanks k1 ++ v.text sp ++ blanks k2 ∧ k1 + k2 = sp.width - (v.text sp).length ∧
      (if padsRight sp v then k2 = 0 else k1 = 0) := by
  have h := fmtValue_split (sp, v)
  by_cases hr : rightAligned (sp, v) = true
  · exact ⟨sp.width - (v.text sp).length, 0, by rw [h, leftBlanks, rightBlanks, if_pos hr, if_pos hr]; rfl, rfl,
      by rw [show padsRight sp v = true from hr]; rfl⟩
  · exact ⟨0, sp.width - (v.text sp).length, by rw [h, leftBlanks, rightBlanks, if_neg hr, if_neg hr]; rfl, by omega,
      by rw [show padsRight sp v = false from Bool.eq_false_iff.mpr hr]; rfl⟩

theorem column_reads_cell (pre post : List Cell) (n : String) (sp : Spec) (vals : List Value) (line : Str) (a b : Nat)
    (hfit : allFit (pre ++ [.fld n sp]) vals = true)
    (hr : renderCells (pre ++ .fld n sp :: post) vals = some line)
    (hpre : blankFrom a 0 pre = true) (hpost : blankUpTo b (nominalWidth pre + sp.width) post = true) :
    ∃ v rest, vals.drop (fieldCount pre) = v :: rest ∧
      (Clean (v.text sp) = true →
       (if padsRight sp v then a + (v.text sp).length ≤ nominalWidth pre + sp.width ∧ nominalWidth pre + sp.width ≤ b
        else a ≤ nominalWidth pre ∧ nominalWidth pre + (v.text sp).length ≤ b) →
       strip (Text.slice a b line) = v.text sp) := by
  rw [allFit_append, Bool.and_eq_true] at hfit
  obtain ⟨hfpre, hfc⟩ := hfit
  obtain ⟨P, R, hP, hR, rfl⟩ := render_append_some pre (.fld n sp :: post) vals line hr
  have hPlen := render_length pre vals P hfpre hP
  cases hd : vals.drop (fieldCount pre) with
  | nil => rw [hd] at hfc; simp [allFit] at hfc
  | cons v rest =>
    rw [hd] at hfc hR
    simp only [allFit, Bool.and_eq_true] at hfc
    rw [renderCells_fld hfc.1.1] at hR
    obtain ⟨Q, hQ, rfl⟩ := Option.map_eq_some_iff.mp hR
    refine ⟨v, rest, rfl, fun hclean hcond => ?_⟩
    have hw : (v.text sp).length ≤ sp.width := by simpa [fitsCell] using hfc.1.2
    obtain ⟨k1, k2, hC, hsum, hside⟩ := cell_blanks sp v
    have hPb := blankFrom_sem a pre vals hfpre 0 P hpre hP
    have hQb := blankUpTo_sem b post rest Q hQ _ hpost
    rw [Nat.sub_zero] at hPb
    rw [← List.append_assoc, hC]
    -- the blanks on the padded side lie inside `[a, b)` or not: either way only blanks surround the text there
    have hk : a ≤ P.length + k1 ∧ P.length + k1 + (v.text sp).length ≤ b := by
      split at hcond <;> rename_i hp
      · rw [if_pos hp] at hside; omega
      · rw [if_neg hp] at hside; omega
    refine strip_slice_cell P Q _ k1 k2 a b hclean hk.1 hk.2 hPb ?_
    · rwa [show P.length + k1 + (v.text sp).length + k2 = nominalWidth pre + sp.width by omega]

open Midgard.Generated.WriterLayouts

/-- table check for one parser column: the cell is the `i`-th cell of the line, its value is right-aligned (`padsRight`) iff
`right`, its text has at most `m` characters -/
def columnReads (cells : List Cell) (i : Nat) (right : Bool) (m a b : Nat) : Bool :=
  match cells.drop i with
  | .fld _ sp :: post =>
    let pre := cells.take i
    let s := nominalWidth pre
    blankFrom a 0 pre && blankUpTo b (s + sp.width) post &&
      (if right then decide (a + m ≤ s + sp.width) && decide (s + sp.width ≤ b) else decide (a ≤ s) && decide (s + m ≤ b))
  | _ => false

theorem columnReads_sem (cells : List Cell) (i : Nat) (right : Bool) (m a b : Nat)
    (h : columnReads cells i right m a b = true) (vals : List Value) (line : Str)
    (hfit : allFit (cells.take (i + 1)) vals = true) (hr : renderCells cells vals = some line) :
    ∃ n sp v rest, cells[i]? = some (.fld n sp) ∧ vals.drop (fieldCount (cells.take i)) = v :: rest ∧
      (Clean (v.text sp) = true → padsRight sp v = right → (v.text sp).length ≤ m →
        strip (Text.slice a b line) = v.text sp) := by
  unfold columnReads at h
  split at h
  · rename_i n sp post hd
    simp only [Bool.and_eq_true] at h
    obtain ⟨⟨hpre, hpost⟩, hcond⟩ := h
    have hi : cells[i]? = some (.fld n sp) := by rw [← List.head?_drop, hd]; rfl
    rw [List.take_add_one, hi] at hfit
    rw [← List.take_append_drop i cells, hd] at hr
    obtain ⟨v, rest, hv, hread⟩ := column_reads_cell (cells.take i) post n sp vals line a b hfit hr hpre hpost
    refine ⟨n, sp, v, rest, hi, hv, fun hc hp hm => hread hc ?_⟩
    rw [hp]
    cases right
    · simp only [Bool.false_eq_true, if_false, Bool.and_eq_true, decide_eq_true_eq] at hcond ⊢
      exact ⟨hcond.1, by omega⟩
    · simp only [if_true, Bool.and_eq_true, decide_eq_true_eq] at hcond ⊢
      exact ⟨by omega, hcond.2⟩
  · cases h

theorem open_column_reads_cell (pre : List Cell) (n : String) (sp : Spec) (t : String) (vals : List Value) (line : Str) (a : Nat)
    (hfit : allFit pre vals = true) (hr : renderCells (pre ++ [.fld n sp, .lit t]) vals = some line)
    (hpre : blankFrom a 0 pre = true) (ha : a ≤ nominalWidth pre) (ht : isBlank t.toList = true) :
    ∃ v rest, vals.drop (fieldCount pre) = v :: rest ∧
      (Clean (v.text sp) = true → v.okFor sp = true → padsRight sp v = false →
        strip (sliceFrom a (rstrip line)) = v.text sp) := by
  obtain ⟨P, R, hP, hR, rfl⟩ := render_append_some pre _ vals line hr
  cases hd : vals.drop (fieldCount pre) with
  | nil => rw [hd] at hR; simp [renderCells] at hR
  | cons v rest =>
    refine ⟨v, rest, rfl, fun hc hok hleft => ?_⟩
    rw [hd] at hR
    simp only [renderCells, hok, if_true, Option.map_some, Option.some.injEq] at hR
    subst hR
    obtain ⟨k1, k2, hC, _, hside⟩ := cell_blanks sp v
    rw [hleft, if_neg Bool.false_ne_true] at hside
    subst hside
    -- the line is `P`, the text, and blanks: those of the cell and the literal behind it
    have hQ : isBlank (blanks k2 ++ (t.toList ++ [])) = true := by
      rw [List.append_nil, isBlank_append, isBlank_blanks, ht]
      rfl
    rw [hC, show P ++ (blanks 0 ++ v.text sp ++ blanks k2 ++ (t.toList ++ [])) = P ++ v.text sp ++ (blanks k2 ++ (t.toList ++ [])) by
      simp [blanks, List.append_assoc]]
    generalize blanks k2 ++ (t.toList ++ []) = Q at hQ ⊢
    have hPb := blankFrom_sem a pre vals hfit 0 P hpre hP
    rw [Nat.sub_zero] at hPb
    have hlen := render_length pre vals P hfit hP
    obtain ⟨ws, hws, hb⟩ := rstrip_decomp (P ++ v.text sp ++ Q)
    have h1 : strip (sliceFrom a (rstrip (P ++ v.text sp ++ Q))) = strip (sliceFrom a (P ++ v.text sp ++ Q)) := by
      conv => rhs; rw [hws]
      unfold sliceFrom
      rw [List.drop_append, strip_append_isBlank (isBlank_drop hb _)]
    rw [h1]
    unfold sliceFrom
    rw [List.append_assoc, List.drop_append]
    have h0 : a - P.length = 0 := by omega
    rw [h0, List.drop_zero, ← List.append_assoc, strip_append_isBlank hQ, strip_blank_append hPb, strip_of_clean hc]

abbrev ColEntry := Nat × Bool × Nat × Nat × Nat   -- cell index, pads right, max text length, column start, column stop

theorem allFit_take (cells : List Cell) (vals : List Value) (j k : Nat) (hjk : j ≤ k) (h : allFit (cells.take k) vals = true) :
    allFit (cells.take j) vals = true := by
  have e : cells.take k = cells.take j ++ (cells.take k).drop j := by
    conv => lhs; rw [← List.take_append_drop j (cells.take k)]
    rw [List.take_take, Nat.min_eq_left hjk]
  rw [e, allFit_append, Bool.and_eq_true] at h
  exact h.1

def cellIndex (cells : List Cell) (name : String) : Nat :=
  cells.findIdx fun c => match c with | .fld n _ => n == name | _ => false

def colEntry (cells : List Cell) (fields : List (String × Nat × Nat)) (m : String × String × Nat) : ColEntry :=
  let i := cellIndex cells m.2.1
  let right := match cells[i]? with | some (.fld _ sp) => sp.align == some Align.right | _ => false
  let ab := (fields.lookup m.1).getD (0, 0)
  (i, right, m.2.2, ab.1, ab.2)

/-- `fields` is a parser's table of named columns, `map` sends its names to the writer's cells; the parser looks at `line.rstrip()` -/
theorem columns_roundtrip (row : List Cell) (fields : List (String × Nat × Nat)) (map : List (String × String × Nat))
    (k : Nat)
    (htab : ((map.map (colEntry row fields)).all fun e => columnReads row e.1 e.2.1 e.2.2.1 e.2.2.2.1 e.2.2.2.2) = true ∧
      (∀ e ∈ map.map (colEntry row fields), e.1 < k))
    (vals : List Value) (line : Str) (hfit : allFit (row.take k) vals = true) (hr : renderCells row vals = some line) :
    ∀ m ∈ map, ∃ n sp v rest, row[cellIndex row m.2.1]? = some (.fld n sp) ∧
      vals.drop (fieldCount (row.take (cellIndex row m.2.1))) = v :: rest ∧
      (Clean (v.text sp) = true → padsRight sp v = (sp.align == some Align.right) → (v.text sp).length ≤ m.2.2 →
        strip (Text.slice ((fields.lookup m.1).getD (0, 0)).1 ((fields.lookup m.1).getD (0, 0)).2 (rstrip line)) = v.text sp) := by
  intro m hm
  have he : colEntry row fields m ∈ map.map (colEntry row fields) := List.mem_map_of_mem hm
  obtain ⟨n, sp, v, rest, h1, h2, h3⟩ := columnReads_sem row _ _ _ _ _ (List.all_eq_true.mp htab.1 _ he) vals line
    (allFit_take row vals _ k (htab.2 _ he) hfit) hr
  refine ⟨n, sp, v, rest, h1, h2, fun hc hp hl => ?_⟩
  rw [strip_slice_rstrip]
  refine h3 hc ?_ hl
  -- the side `colEntry` records is the one the spec of the cell names
  simp only [colEntry] at h1 ⊢
  rw [h1, hp]

/-- parser field ↦ writer cell and the greatest text length the parser's column still contains -/
def sta002Map : List (String × String × Nat) :=
  [("station", "station", 4), ("domes", "domes", 9), ("flag", "flag", 10), ("date_from", "date_from", 20),
   ("date_to", "date_to", 20), ("receiver_type", "rcv", 20), ("receiver_serial_number", "rcv_serial", 21),
   ("receiver_serial_number_short", "rcv_serial_short", 7), ("antenna_type", "ant", 15), ("radome_type", "radome", 4),
   ("antenna_serial_number", "ant_serial", 21), ("antenna_serial_number_short", "ant_serial_short", 7),
   ("eccentricity_north", "north", 9), ("eccentricity_east", "east", 9), ("eccentricity_up", "up", 9),
   ("description", "description", 22)]

/-- the TYPE 002 line of writers/bernese_sta.py -/
def sta002Row : List Cell := rowWith "bernese_sta" "rcv_serial"

/-- the regenerated column tables of both STA parsers against the regenerated TYPE 002 line, in one evaluation (the cell
lookups on the line are shared): every column of parsers/bernese_sta_v52.py up to `description` and the first 15 columns of
parsers/bernese_sta.py pass the table check; the map names the cells it means; the remark cell is the last but one cell,
zero wide, without an alignment of its own (so text in it is left-aligned: `padsRight` is `false`), followed by the newline only, and the columns from 226 on contain nothing else -/
theorem sta_tables : (((sta002Map.map (colEntry sta002Row staV52ParserFields)).all fun e =>
      columnReads sta002Row e.1 e.2.1 e.2.2.1 e.2.2.2.1 e.2.2.2.2) = true ∧
      (∀ e ∈ sta002Map.map (colEntry sta002Row staV52ParserFields), e.1 < 22)) ∧
    ((((sta002Map.take 15).map (colEntry sta002Row staParserFields)).all fun e =>
      columnReads sta002Row e.1 e.2.1 e.2.2.1 e.2.2.2.1 e.2.2.2.2) = true ∧
      (∀ e ∈ (sta002Map.take 15).map (colEntry sta002Row staParserFields), e.1 < 22)) ∧
    ((sta002Map.all fun m => match sta002Row[cellIndex sta002Row m.2.1]? with
        | some (.fld n _) => n == m.2.1 | _ => false) = true ∧
      sta002Row.drop 22 = [.fld "remark" ⟨none, 0, none, .any⟩, .lit "\n"] ∧
      blankFrom 226 0 (sta002Row.take 22) = true ∧ 226 ≤ nominalWidth (sta002Row.take 22) ∧
      fieldCount (sta002Row.take 22) = 16) := by decide +kernel

/-- the TIMESERIES/REF_COORDINATE line of writers/sinex_tms.py -/
def tmsRefRow : List Cell := rowWith "sinex_tms" "ref_pos.trs.x"

/-- parser field of `timeseries_ref_coordinate` ↦ writer cell, greatest text length -/
def tmsRefMap : List (String × String × Nat) :=
  [("site_code", "self.station.upper()", 9),
   ("epoch", "Time(datetime.fromisoformat(self.dset.meta['ref_epoch']), scale='utc', fmt='datetime').yyyydddsssss", 14),
   ("ref_x", "ref_pos.trs.x", 13), ("ref_y", "ref_pos.trs.y", 13), ("ref_z", "ref_pos.trs.z", 13),
   ("system", "self.dset.meta['ref_frame']", 6)]

/-- `[start, next start)` of a SinexField table; the last field ends at `total` (as `FixedCol.ofStarts`, on name–start pairs
and giving name–start–stop triples that `colEntry` can look up) -/
def sinexFieldIntervals (fields : List (String × Nat)) (total : Nat) : List (String × Nat × Nat) :=
  fields.zipIdx.map fun (f, i) => (f.1, f.2, ((fields.drop (i + 1)).head?.map (·.2)).getD total)

/-- the regenerated `timeseries_ref_coordinate` table against the regenerated line, in one evaluation (the lookup of the
line is shared): the `columnReads` check of the mapped columns, that the map names the cells it means (used by no theorem;
for STA that conjunct is `Props/C17.sta_002_map_names`), and the `fieldReads` check of `Props/C17.tms_ref_coordinate_aligned` -/
theorem tms_ref_tables :
    (((tmsRefMap.map (colEntry tmsRefRow (sinexFieldIntervals tmsRefCoordFields (nominalWidth (tmsRefRow.dropLast))))).all fun e =>
      columnReads tmsRefRow e.1 e.2.1 e.2.2.1 e.2.2.2.1 e.2.2.2.2) = true ∧
    (∀ e ∈ tmsRefMap.map (colEntry tmsRefRow (sinexFieldIntervals tmsRefCoordFields (nominalWidth (tmsRefRow.dropLast)))),
      e.1 < tmsRefRow.length) ∧
    (tmsRefMap.all fun m => match tmsRefRow[cellIndex tmsRefRow m.2.1]? with
      | some (.fld n _) => n == m.2.1 | _ => false) = true) ∧
    (let row := rowWith "sinex_tms" "ref_pos.trs.x"
    let starts := tmsRefCoordFields.map (·.2)
    let col (n : String) : Nat := (tmsRefCoordFields.lookup n).getD 0
    let next (n : String) : Nat := ((starts.filter (fun s => col n < s)).head?).getD 1000
    (fieldReads row "self.station.upper()" false 9 (col "site_code") (next "site_code") &&
     fieldReads row "ref_pos.trs.x" true 1000 (col "ref_x") (next "ref_x") &&
     fieldReads row "ref_pos.trs.y" true 1000 (col "ref_y") (next "ref_y") &&
     fieldReads row "ref_pos.trs.z" true 1000 (col "ref_z") (next "ref_z") &&
     fieldReads row "self.dset.meta['ref_frame']" false 1000 (col "system") (next "system")) = true) := by
  decide +kernel

end Midgard.WriterFiles
