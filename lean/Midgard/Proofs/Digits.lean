/-
Digit-level lemmas about `Midgard.Core.Decimal` over `List Char`, for all numbers (core Lean only): a digit string and its value,
`natDigits` / `fixedDigits` / `fracDigits` as printers of that value with their lengths, and what the parsers read back
from what the printers print.  The hub of the read-back lemmas is `parseDecimalWith_body`: a text that strips to `[-]digits[.digits]`
parses to the value of its digits over `10^(number of fraction digits)`.  The rounding bound and the width condition of `fmtFixed`
are in `Proofs/FmtFixed.lean`.
-/
import Midgard.Proofs.Decimal

namespace Midgard.Decimal
open Midgard.Text

/-! ### digit strings and their value -/

theorem digitsValAux_shift (acc : Nat) (b : Str) :
    digitsValAux acc b = acc * 10 ^ b.length + digitsValAux 0 b := by
  induction b generalizing acc with
  | nil => simp [digitsValAux_nil]
  | cons d b ih =>
    rw [digitsValAux_cons, digitsValAux_cons, List.length_cons]
    rw [ih (acc * 10 + digitVal d), ih (0 * 10 + digitVal d), Nat.pow_succ]
    rw [Nat.zero_mul, Nat.zero_add, Nat.add_mul, Nat.mul_assoc, Nat.mul_comm 10, Nat.add_assoc]

theorem digitsVal_app (a b : Str) : digitsVal (a ++ b) = digitsVal a * 10 ^ b.length + digitsVal b := by
  unfold digitsVal
  rw [digitsValAux_append, digitsValAux_shift]

theorem digitsVal_cons (c : Char) (r : Str) : digitsVal (c :: r) = digitVal c * 10 ^ r.length + digitsVal r := by
  have := digitsVal_app [c] r
  simpa [digitsVal, digitsValAux_cons, digitsValAux_nil] using this

theorem digitsVal_zero_cons (s : Str) : digitsVal ('0' :: s) = digitsVal s := by
  unfold digitsVal
  rw [digitsValAux_cons]
  have : digitVal '0' = 0 := by decide
  rw [this]

theorem digitsVal_nil : digitsVal [] = 0 := rfl

theorem digitsVal_replicate_zero (k : Nat) : digitsVal (List.replicate k '0') = 0 := by
  induction k with
  | zero => rfl
  | succ k ih =>
    rw [List.replicate_succ, digitsVal_cons, ih]
    have : digitVal '0' = 0 := by decide
    simp [this]

theorem allDigits_replicate_zero (k : Nat) : allDigits (List.replicate k '0') = true := by
  have : isDigit '0' = true := by decide
  simp [allDigits, this]

theorem allDigits_append (a b : Str) : allDigits (a ++ b) = (allDigits a && allDigits b) := by
  simp [allDigits, List.all_append]

theorem allDigits_cons (c : Char) (r : Str) : allDigits (c :: r) = (isDigit c && allDigits r) := List.all_cons

theorem isDigit_of_mem {s : Str} (h : allDigits s = true) {c : Char} (hc : c ∈ s) : isDigit c = true := by
  simp only [allDigits, List.all_eq_true] at h
  exact h c hc

theorem digitsVal_lt (s : Str) (h : allDigits s = true) : digitsVal s < 10 ^ s.length := by
  induction s with
  | nil => simp [digitsVal_nil]
  | cons c r ih =>
    simp only [allDigits, List.all_cons, Bool.and_eq_true] at h
    have hv := digitVal_le h.1
    have := ih h.2
    rw [digitsVal_cons, List.length_cons, Nat.pow_succ]
    have h9 : digitVal c * 10 ^ r.length ≤ 9 * 10 ^ r.length := Nat.mul_le_mul_right _ hv
    omega

/-! ### `natDigits` = `str(n)` -/

theorem natDigits_of_lt {n : Nat} (h : n < 10) : natDigits n = [digitChar n] := by
  rw [natDigits]; simp [h]

theorem natDigits_of_ge {n : Nat} (h : ¬ n < 10) : natDigits n = natDigits (n / 10) ++ [digitChar (n % 10)] := by
  rw [natDigits]; simp [h]

theorem digitChar_mod (n : Nat) : digitChar (n % 10) = digitChar n := by
  unfold digitChar; rw [Nat.mod_mod]

theorem allDigits_digitChar (n : Nat) : allDigits [digitChar n] = true := by
  show (isDigit (digitChar n) && true) = true
  rw [isDigit_digitChar]
  rfl

theorem allDigits_natDigits' (n : Nat) : allDigits (natDigits n) = true := by
  induction n using Nat.strongRecOn with
  | _ n ih =>
    by_cases h : n < 10
    · rw [natDigits_of_lt h]
      exact allDigits_digitChar n
    · rw [natDigits_of_ge h, allDigits_append, ih (n / 10) (by omega), allDigits_digitChar]
      rfl

theorem digitsVal_natDigits' (n : Nat) : digitsVal (natDigits n) = n := by
  induction n using Nat.strongRecOn with
  | _ n ih =>
    by_cases h : n < 10
    · rw [natDigits_of_lt h, ← List.nil_append [digitChar n], digitsVal_append_digit, digitVal_digitChar,
        Nat.mod_eq_of_lt h]
      exact Nat.zero_add n
    · rw [natDigits_of_ge h, digitsVal_append_digit, ih (n / 10) (by omega), digitVal_digitChar, Nat.mod_mod]
      exact Nat.div_add_mod' n 10

theorem natDigits_ne_nil' (n : Nat) : natDigits n ≠ [] := by
  by_cases h : n < 10
  · rw [natDigits_of_lt h]; simp
  · rw [natDigits_of_ge h]; simp

theorem natDigits_length_pos (n : Nat) : 0 < (natDigits n).length :=
  List.length_pos_iff.mpr (natDigits_ne_nil' n)

theorem natDigits_head_digit (n : Nat) : ∃ c r, natDigits n = c :: r ∧ isDigit c = true := by
  cases h : natDigits n with
  | nil => exact absurd h (natDigits_ne_nil' n)
  | cons c r =>
    refine ⟨c, r, rfl, ?_⟩
    have := allDigits_natDigits' n
    rw [h] at this
    exact isDigit_of_mem this (by simp)

theorem parseNat_natDigits' (n : Nat) : parseNat? (natDigits n) = some n := by
  unfold parseNat?
  simp [natDigits_ne_nil', allDigits_natDigits', digitsVal_natDigits']

theorem parseNat_of_allDigits {s : Str} (h : allDigits s = true) (hne : s ≠ []) :
    parseNat? s = some (digitsVal s) := by
  unfold parseNat?
  have : s.isEmpty = false := by cases s with
    | nil => exact absurd rfl hne
    | cons _ _ => rfl
  simp [this, h]

theorem takeSign_natDigits (n : Nat) : takeSign (natDigits n) = (false, natDigits n) := by
  obtain ⟨c, r, h, hd⟩ := natDigits_head_digit n
  rw [h]
  exact takeSign_of_digit hd

theorem parseExp_of_takeSign {t r : Str} {neg : Bool} {n : Nat} (hts : takeSign t = (neg, r))
    (hn : parseNat? r = some n) : parseExp? t = some (if neg then -(n : Int) else (n : Int)) := by
  unfold parseExp?
  rw [hts]
  simp only [hn]
  rfl

theorem parseInt_eq_parseExp (s : Str) : parseInt? s = parseExp? (strip s) := rfl

theorem parseInt_natDigits' (n : Nat) : parseInt? (natDigits n) = some (n : Int) := by
  rw [parseInt_eq_parseExp, strip_of_allDigits (allDigits_natDigits' n),
    parseExp_of_takeSign (takeSign_natDigits n) (parseNat_natDigits' n)]
  rfl

theorem length_natDigits_le_iff (k n : Nat) (hk : 0 < k) : (natDigits n).length ≤ k ↔ n < 10 ^ k := by
  induction k generalizing n with
  | zero => omega
  | succ k ih =>
    by_cases h10 : n < 10
    · rw [natDigits_of_lt h10]
      exact iff_of_true (Nat.succ_le_succ (Nat.zero_le k)) (Nat.lt_of_lt_of_le h10 (Nat.le_self_pow (Nat.succ_ne_zero k) 10))
    · rw [natDigits_of_ge h10, List.length_append, List.length_singleton, Nat.add_le_add_iff_right]
      rcases Nat.eq_zero_or_pos k with rfl | h0
      · have := List.length_pos_iff.mpr (natDigits_ne_nil' (n / 10))
        exact iff_of_false (by omega) (by omega)
      · rw [ih (n / 10) h0, Nat.div_lt_iff_lt_mul (by decide), Nat.pow_succ]

theorem lt_pow_length_natDigits (n : Nat) : n < 10 ^ (natDigits n).length := by
  have := digitsVal_lt (natDigits n) (allDigits_natDigits' n)
  rwa [digitsVal_natDigits'] at this

theorem length_natDigits_eq (k n : Nat) (hlo : 10 ^ k ≤ n) (hhi : n < 10 ^ (k + 1)) :
    (natDigits n).length = k + 1 := by
  apply Nat.le_antisymm ((length_natDigits_le_iff (k + 1) n (Nat.succ_pos k)).mpr hhi)
  -- fewer digits would make `n < 10^k`
  apply Nat.lt_of_not_le
  intro hle
  have := Nat.pow_le_pow_right (show 0 < 10 by decide) hle
  have := lt_pow_length_natDigits n
  omega

/-! ### `fixedDigits` = zero padding -/

theorem fixedDigits_zero (p : Nat) : fixedDigits p 0 = List.replicate p '0' := by
  induction p with
  | zero => rfl
  | succ p ih =>
    have : digitChar 0 = '0' := by decide
    rw [fixedDigits, Nat.zero_div, ih, this, ← List.replicate_succ']

theorem fixedDigits_mod (p n : Nat) : fixedDigits p (n % 10 ^ p) = fixedDigits p n := by
  induction p generalizing n with
  | zero => rfl
  | succ p ih =>
    rw [fixedDigits, fixedDigits]
    have h1 : n % 10 ^ (p + 1) / 10 = (n / 10) % 10 ^ p := by
      rw [Nat.pow_succ, Nat.mul_comm, Nat.mod_mul_right_div_self]
    have h2 : digitChar (n % 10 ^ (p + 1)) = digitChar n := by
      unfold digitChar
      have : n % 10 ^ (p + 1) % 10 = n % 10 := by
        rw [Nat.pow_succ]; exact Nat.mod_mul_left_mod n (10 ^ p) 10
      rw [this]
    rw [h1, ih, h2]

theorem fixedDigits_of_length_le (p n : Nat) (h : (natDigits n).length ≤ p) :
    fixedDigits p n = List.replicate (p - (natDigits n).length) '0' ++ natDigits n := by
  induction p generalizing n with
  | zero => exact absurd (List.eq_nil_of_length_eq_zero (Nat.le_zero.mp h)) (natDigits_ne_nil' n)
  | succ p ih =>
    rw [fixedDigits]
    by_cases h10 : n < 10
    · rw [natDigits_of_lt h10, Nat.div_eq_of_lt h10, fixedDigits_zero]
      rfl
    · rw [natDigits_of_ge h10, List.length_append, List.length_singleton] at h ⊢
      rw [ih (n / 10) (Nat.le_of_succ_le_succ h), digitChar_mod, Nat.add_sub_add_right, List.append_assoc]

/-- Python `'%0pd' % n`, `str(n).zfill(p)` -/
theorem fixedDigits_eq_pad (p n : Nat) (hp : 0 < p) (h : n < 10 ^ p) :
    fixedDigits p n = List.replicate (p - (natDigits n).length) '0' ++ natDigits n :=
  fixedDigits_of_length_le p n ((length_natDigits_le_iff p n hp).mpr h)

theorem clean_fixedDigits (p n : Nat) : Clean (fixedDigits p n) = true :=
  clean_of_no_space fun _ hc => isSpace_of_isDigit (isDigit_of_mem (allDigits_fixedDigits p n) hc)

/-- `fracDigits` (pad, never cut) and `fixedDigits` (exactly `p` digits) agree on numbers that have at most
`p` digits -/
theorem fracDigits_eq_fixedDigits (p n : Nat) (hp : 0 < p) (h : n < 10 ^ p) : fracDigits p n = fixedDigits p n := by
  rw [fixedDigits_eq_pad p n hp h]; rfl

theorem length_fracDigits' (p n : Nat) (hp : 0 < p) (h : n < 10 ^ p) : (fracDigits p n).length = p := by
  rw [fracDigits_eq_fixedDigits p n hp h, length_fixedDigits]

theorem parseNat_fracDigits (p n : Nat) (hp : 0 < p) (h : n < 10 ^ p) : parseNat? (fracDigits p n) = some n := by
  rw [fracDigits_eq_fixedDigits p n hp h, parseNat_fixedDigits hp, Nat.mod_eq_of_lt h]

theorem parseInt_fracDigits (p n : Nat) (hp : 0 < p) (h : n < 10 ^ p) : parseInt? (fracDigits p n) = some (n : Int) := by
  rw [fracDigits_eq_fixedDigits p n hp h, parseInt_fixedDigits hp, Nat.mod_eq_of_lt h]

theorem fracDigits_of_ge (p n : Nat) (h : p ≤ (natDigits n).length) : fracDigits p n = natDigits n := by
  unfold fracDigits
  have : p - (natDigits n).length = 0 := by omega
  simp [this]

/-! ### signed integers: `fmtInt` = `'{:d}'`, `parseInt?` = `int` -/

theorem no_space_natDigits (n : Nat) : ∀ c ∈ natDigits n, isSpace c = false :=
  fun _ hc => isSpace_of_isDigit (isDigit_of_mem (allDigits_natDigits' n) hc)

theorem fmtInt_eq (i : Int) : fmtInt i = (if i < 0 then ['-'] else []) ++ natDigits i.natAbs := by
  unfold fmtInt
  split <;> rfl

theorem fmtInt_natCast (n : Nat) : fmtInt (n : Int) = natDigits n := by
  rw [fmtInt_eq, if_neg (Int.not_lt.mpr (Int.natCast_nonneg n)), Int.natAbs_natCast, List.nil_append]

theorem no_space_fmtInt (i : Int) : ∀ c ∈ fmtInt i, isSpace c = false := by
  intro c hc
  unfold fmtInt at hc
  split at hc
  · simp only [List.mem_cons] at hc
    rcases hc with rfl | hc
    · decide
    · exact no_space_natDigits _ c hc
  · exact no_space_natDigits _ c hc

theorem fmtInt_ne_nil (i : Int) : fmtInt i ≠ [] := by
  unfold fmtInt; split
  · simp
  · exact natDigits_ne_nil' _

theorem parseInt_fmtInt (i : Int) : parseInt? (fmtInt i) = some i := by
  rw [parseInt_eq_parseExp, strip_of_no_space (no_space_fmtInt i)]
  unfold fmtInt
  by_cases hi : i < 0
  · rw [if_pos hi, parseExp_of_takeSign (neg := true) rfl (parseNat_natDigits' _), if_pos rfl,
      ← Int.eq_neg_natAbs_of_nonpos (Int.le_of_lt hi)]
  · rw [if_neg hi, parseExp_of_takeSign (takeSign_natDigits _) (parseNat_natDigits' _), if_neg Bool.false_ne_true,
      Int.natAbs_of_nonneg (Int.not_lt.mp hi)]

theorem parseInt_fmtIntW (w : Nat) (i : Int) : parseInt? (fmtIntW w i) = some i := by
  have h1 : parseInt? (fmtIntW w i) = parseInt? (fmtInt i) := by
    unfold parseInt? fmtIntW
    rw [strip_rjust (clean_of_no_space (no_space_fmtInt i)), strip_of_no_space (no_space_fmtInt i)]
  rw [h1, parseInt_fmtInt]

theorem length_fmtInt (i : Int) : (fmtInt i).length = (if i < 0 then 1 else 0) + (natDigits i.natAbs).length := by
  unfold fmtInt; split <;> simp <;> omega

theorem length_fmtIntW_eq_iff (w : Nat) (i : Int) (hw : (if i < 0 then 1 else 0) < w) :
    (fmtIntW w i).length = w ↔ i.natAbs < 10 ^ (w - (if i < 0 then 1 else 0)) := by
  unfold fmtIntW
  rw [length_rjust_eq_iff, length_fmtInt, ← length_natDigits_le_iff _ _ (Nat.sub_pos_of_lt hw)]
  generalize (if i < 0 then 1 else 0) = s at hw ⊢
  omega

/-! ### `parseFloat` on plain digit strings -/

theorem scale10_zero' (q : Rat) : scale10 q 0 = q := by
  simp [scale10, pow10]

theorem pow10_zero : pow10 0 = 1 := by simp [pow10]

theorem ne_point_of_digit {c : Char} (h : isDigit c = true) : (decide (c ≠ '.')) = true := by
  simpa using (isDigit_not_sign h).2.2

theorem parseMantissa_digits {s : Str} (h : allDigits s = true) (hne : s ≠ []) :
    parseMantissa? s = some (s, 0) := by
  unfold parseMantissa?
  have hall : ∀ x ∈ s, (decide (x ≠ '.')) = true := fun x hx => ne_point_of_digit (isDigit_of_mem h hx)
  have he : s.isEmpty = false := by
    cases s with
    | nil => exact absurd rfl hne
    | cons _ _ => rfl
  simp only [takeWhile_eq_self _ _ hall, dropWhile_eq_nil _ _ hall]
  simp [he, h]

theorem parseMantissa_point {a b : Str} (ha : allDigits a = true) (hb : allDigits b = true) (hne : a ≠ []) :
    parseMantissa? (a ++ '.' :: b) = some (a ++ b, b.length) := by
  unfold parseMantissa?
  have hall : ∀ x ∈ a, (decide (x ≠ '.')) = true := fun x hx => ne_point_of_digit (isDigit_of_mem ha hx)
  have hpt : (decide ('.' ≠ '.')) = false := by decide
  have he : a.isEmpty = false := by
    cases a with
    | nil => exact absurd rfl hne
    | cons _ _ => rfl
  rw [takeWhile_append_stop _ _ _ _ hall hpt, dropWhile_append_stop _ _ _ _ hall hpt]
  simp [he, ha, hb]

/-- `P` stands for "the number is negative" (`q < 0`, `n < 0`, `neg = true`) here and in the two lemmas below -/
theorem no_space_signed (P : Prop) [Decidable P] {body : Str} (hchars : ∀ c ∈ body, isDigit c = true ∨ c = '.') :
    ∀ c ∈ (if P then ['-'] else []) ++ body, isSpace c = false := by
  intro c hc
  rcases List.mem_append.mp hc with hc | hc
  · split at hc
    · rw [List.mem_singleton.mp hc]; decide
    · exact absurd hc List.not_mem_nil
  · rcases hchars c hc with h | h
    · exact isSpace_of_isDigit h
    · rw [h]; decide

theorem takeSign_signed (P : Prop) [Decidable P] {body : Str} (hhead : ∃ c r, body = c :: r ∧ isDigit c = true) :
    takeSign ((if P then ['-'] else []) ++ body) = (decide P, body) := by
  by_cases h : P
  · rw [if_pos h, decide_eq_true h]; rfl
  · obtain ⟨c, r, rfl, hd⟩ := hhead
    rw [if_neg h, decide_eq_false h]
    exact takeSign_of_digit hd

/-- the parser's view of a text that strips to `[-]body`, where the unsigned `body` (`digits` or `digits.digits`)
contains none of the exponent letters: the value of its digits over `10^(number of fraction digits)`, with the sign -/
theorem parseDecimalWith_body (exps : List Char) (hex : ∀ c ∈ exps, isDigit c = false ∧ c ≠ '.')
    (P : Prop) [Decidable P] (body ds : Str) (k : Nat)
    (hm : parseMantissa? body = some (ds, k))
    (hchars : ∀ c ∈ body, isDigit c = true ∨ c = '.')
    (hhead : ∃ c r, body = c :: r ∧ isDigit c = true)
    (s : Str) (hs : strip s = (if P then ['-'] else []) ++ body) :
    parseDecimalWith exps s =
      some (if P then -((digitsVal ds : Rat) / pow10 k) else (digitsVal ds : Rat) / pow10 k) := by
  unfold parseDecimalWith
  rw [hs, takeSign_signed P hhead]
  have hall : ∀ x ∈ body, (!exps.contains x) = true := by
    intro x hx
    rw [Bool.not_eq_true', ← Bool.not_eq_true, List.contains_iff_mem]
    intro hmem
    rcases hchars x hx with h | h
    · rw [(hex x hmem).1] at h; exact Bool.false_ne_true h
    · exact (hex x hmem).2 h
  simp only [takeWhile_eq_self _ _ hall, dropWhile_eq_nil _ _ hall, hm, scale10_zero', decide_eq_true_eq]

theorem parseFloat_body (neg : Bool) (body ds : Str) (k : Nat)
    (hm : parseMantissa? body = some (ds, k))
    (hchars : ∀ c ∈ body, isDigit c = true ∨ c = '.')
    (hhead : ∃ c r, body = c :: r ∧ isDigit c = true) :
    parseFloat ((if neg then ['-'] else []) ++ body) =
      some (if neg then -((digitsVal ds : Rat) / pow10 k) else (digitsVal ds : Rat) / pow10 k) :=
  parseDecimalWith_body ['e', 'E'] (hex := by decide) (P := neg = true) body ds k hm hchars hhead
    (hs := strip_of_no_space (no_space_signed _ hchars))

theorem parseFloat_digits {s : Str} (h : allDigits s = true) (hne : s ≠ []) :
    parseFloat s = some (digitsVal s : Rat) := by
  have hhead : ∃ c r, s = c :: r ∧ isDigit c = true := by
    cases s with
    | nil => exact absurd rfl hne
    | cons c r => exact ⟨c, r, rfl, isDigit_of_mem h (by simp)⟩
  have := parseFloat_body false s s 0 (parseMantissa_digits h hne)
    (fun c hc => Or.inl (isDigit_of_mem h hc)) hhead
  have e : (digitsVal s : Rat) / 1 = (digitsVal s : Rat) := by grind
  simpa only [Bool.false_eq_true, if_false, List.nil_append, pow10_zero, e] using this

/-! ### the unsigned body `digits.pdigits` of a fixed-point text -/

def decBody (p a : Nat) : Str := natDigits (a / 10 ^ p) ++ '.' :: fixedDigits p a

theorem parseMantissa_decBody (p a : Nat) :
    parseMantissa? (decBody p a) = some (natDigits (a / 10 ^ p) ++ fixedDigits p a, p) := by
  have := parseMantissa_point (allDigits_natDigits' (a / 10 ^ p)) (allDigits_fixedDigits p a) (natDigits_ne_nil' _)
  rwa [length_fixedDigits] at this

theorem digitsVal_decBody (p a : Nat) : digitsVal (natDigits (a / 10 ^ p) ++ fixedDigits p a) = a := by
  rw [digitsVal_app, digitsVal_natDigits', digitsVal_fixedDigits, length_fixedDigits]
  exact Nat.div_add_mod' a (10 ^ p)

theorem mem_decBody {p a : Nat} {c : Char} (h : c ∈ decBody p a) : isDigit c = true ∨ c = '.' := by
  simp only [decBody, List.mem_append, List.mem_cons] at h
  rcases h with h | h | h
  · exact Or.inl (isDigit_of_mem (allDigits_natDigits' _) h)
  · exact Or.inr h
  · exact Or.inl (isDigit_of_mem (allDigits_fixedDigits _ _) h)

theorem decBody_head (p a : Nat) : ∃ c r, decBody p a = c :: r ∧ isDigit c = true := by
  obtain ⟨c, r, h, hd⟩ := natDigits_head_digit (a / 10 ^ p)
  exact ⟨c, r ++ '.' :: fixedDigits p a, by simp [decBody, h], hd⟩

/-! ### `fmtFixedCore` = `'{:.pf}'`: shape, exact length, read-back -/

/-- the integer the text of `'{:.pf}'.format(q)` is made of: `round_half_even(|q| · 10^p)` -/
def fixedScaled (q : Rat) (p : Nat) : Nat :=
  (roundHalfEven ((if q < 0 then -q else q) * pow10 p)).toNat

def fixedBody (p n : Nat) : Str :=
  natDigits (n / 10 ^ p) ++ (if p = 0 then [] else '.' :: fixedDigits p n)

theorem fixedBody_of_pos {p : Nat} (hp : p ≠ 0) (n : Nat) : fixedBody p n = decBody p n := by
  simp [fixedBody, decBody, hp]

theorem fixedBody_zero (n : Nat) : fixedBody 0 n = natDigits n := by
  simp [fixedBody]

theorem fmtFixedCore_eq (q : Rat) (p : Nat) :
    fmtFixedCore q p = (if q < 0 then ['-'] else []) ++ fixedBody p (fixedScaled q p) := by
  unfold fmtFixedCore fixedBody fixedScaled
  simp only [List.append_assoc]
  by_cases hp : p = 0
  · simp [hp]
  · have hp' : 0 < p := by omega
    simp only [hp, if_false]
    rw [fracDigits_eq_fixedDigits p _ hp' (Nat.mod_lt _ (Nat.pow_pos (by decide))), fixedDigits_mod]

theorem length_fixedBody (p n : Nat) :
    (fixedBody p n).length = (natDigits (n / 10 ^ p)).length + (if p = 0 then 0 else p + 1) := by
  unfold fixedBody
  by_cases hp : p = 0
  · simp [hp]
  · simp [hp, length_fixedDigits]

theorem length_fmtFixedCore (q : Rat) (p : Nat) :
    (fmtFixedCore q p).length =
      (if q < 0 then 1 else 0) + (natDigits (fixedScaled q p / 10 ^ p)).length + (if p = 0 then 0 else p + 1) := by
  rw [fmtFixedCore_eq, List.length_append, length_fixedBody]
  by_cases hq : q < 0 <;> simp [hq] <;> omega

theorem fixedBody_chars (p n : Nat) : ∀ c ∈ fixedBody p n, isDigit c = true ∨ c = '.' := by
  intro c hc
  by_cases hp : p = 0
  · subst hp
    rw [fixedBody_zero] at hc
    exact Or.inl (isDigit_of_mem (allDigits_natDigits' _) hc)
  · rw [fixedBody_of_pos hp] at hc
    exact mem_decBody hc

theorem fixedBody_head (p n : Nat) : ∃ c r, fixedBody p n = c :: r ∧ isDigit c = true := by
  by_cases hp : p = 0
  · subst hp
    rw [fixedBody_zero]
    exact natDigits_head_digit n
  · rw [fixedBody_of_pos hp]
    exact decBody_head p n

theorem parseMantissa_fixedBody (p n : Nat) :
    ∃ ds, parseMantissa? (fixedBody p n) = some (ds, p) ∧ digitsVal ds = n := by
  by_cases hp : p = 0
  · subst hp
    rw [fixedBody_zero]
    exact ⟨natDigits n, parseMantissa_digits (allDigits_natDigits' _) (natDigits_ne_nil' _), digitsVal_natDigits' n⟩
  · rw [fixedBody_of_pos hp]
    exact ⟨_, parseMantissa_decBody p n, digitsVal_decBody p n⟩

/-- the value a printed fixed-point text denotes -/
def fixedValue (q : Rat) (p : Nat) : Rat :=
  if q < 0 then -((fixedScaled q p : Rat) / pow10 p) else (fixedScaled q p : Rat) / pow10 p

theorem no_space_fmtFixedCore (q : Rat) (p : Nat) : ∀ c ∈ fmtFixedCore q p, isSpace c = false := by
  rw [fmtFixedCore_eq]
  exact no_space_signed _ (fixedBody_chars _ _)

theorem clean_fmtFixedCore (q : Rat) (p : Nat) : Clean (fmtFixedCore q p) = true :=
  clean_of_no_space (no_space_fmtFixedCore q p)

theorem fmtFixedCore_ne_nil (q : Rat) (p : Nat) : fmtFixedCore q p ≠ [] := by
  rw [fmtFixedCore_eq]
  obtain ⟨c, r, h, _⟩ := fixedBody_head p (fixedScaled q p)
  rw [h]; simp

theorem strip_fmtFixed (q : Rat) (w p : Nat) : strip (fmtFixed q w p) = fmtFixedCore q p :=
  strip_rjust (clean_fmtFixedCore q p)

theorem parseFloat_of_strip_eq_fmtFixedCore (q : Rat) (p : Nat) (s : Str) (hs : strip s = fmtFixedCore q p) :
    parseFloat s = some (fixedValue q p) := by
  obtain ⟨ds, hm, hv⟩ := parseMantissa_fixedBody p (fixedScaled q p)
  rw [fmtFixedCore_eq] at hs
  have h := parseDecimalWith_body ['e', 'E'] (hex := by decide) (P := q < 0) (ds := ds) (k := p) (hm := hm)
    (hchars := fixedBody_chars _ _) (hhead := fixedBody_head _ _) (s := s) (hs := hs)
  rw [hv] at h
  exact h

theorem parseFloat_fmtFixedCore (q : Rat) (p : Nat) : parseFloat (fmtFixedCore q p) = some (fixedValue q p) :=
  parseFloat_of_strip_eq_fmtFixedCore q p _ (strip_of_no_space (no_space_fmtFixedCore q p))

/-- for every width, also when the text overflows it -/
theorem parseFloat_fmtFixed (q : Rat) (w p : Nat) : parseFloat (fmtFixed q w p) = some (fixedValue q p) :=
  parseFloat_of_strip_eq_fmtFixedCore q p _ (strip_fmtFixed q w p)

theorem length_fmtFixed_eq_iff (q : Rat) (w p : Nat) :
    (fmtFixed q w p).length = w ↔ (fmtFixedCore q p).length ≤ w :=
  length_rjust_eq_iff

/-- **exact width condition on the digits**: with `s` the sign column (1 for `q < 0`) and `d` the point and
decimals (`p + 1`, or `0` for `p = 0`), the cell `'{:w.pf}'` of width `w > s + d` is exactly `w` wide iff the
rounded scaled magnitude has at most `w − s − d` integer digits, i.e. is below `10^(w − s − d + p)` -/
theorem length_fmtFixed_eq_iff_scaled (q : Rat) (w p : Nat)
    (hw : (if q < 0 then 1 else 0) + (if p = 0 then 0 else p + 1) < w) :
    (fmtFixed q w p).length = w ↔
      fixedScaled q p < 10 ^ (w - (if q < 0 then 1 else 0) - (if p = 0 then 0 else p + 1) + p) := by
  rw [length_fmtFixed_eq_iff, length_fmtFixedCore, Nat.pow_add, ← Nat.div_lt_iff_lt_mul (Nat.pow_pos (by decide))]
  generalize (if q < 0 then 1 else 0) = s at hw ⊢
  generalize (if p = 0 then 0 else p + 1) = d at hw ⊢
  rw [← length_natDigits_le_iff _ _ (by omega)]
  omega

/-! ### `zfill` -/

theorem zfill_natDigits (w n : Nat) : zfill w (natDigits n) = fracDigits w n := by
  obtain ⟨c, r, h, hd⟩ := natDigits_head_digit n
  unfold zfill fracDigits
  rw [h]
  have := isDigit_not_sign hd
  simp [this.1, this.2.1]

theorem natDigits_zero : natDigits 0 = ['0'] := by
  rw [natDigits_of_lt (by decide)]; decide

/-- a text that begins with a digit has no sign for `zfill` to step over -/
theorem zfill_digit (w n : Nat) (r : Str) :
    zfill w (digitChar n :: r) = List.replicate (w - (r.length + 1)) '0' ++ digitChar n :: r := by
  have hs : ¬ (digitChar n = '+' ∨ digitChar n = '-') := fun hh => hh.elim (digitChar_ne_plus n) (digitChar_ne_minus n)
  simp only [zfill, Bool.or_eq_true, decide_eq_true_eq, hs, if_false, List.length_cons]

theorem zfill_digits (w : Nat) (s : Str) (hne : s ≠ []) (hd : allDigits s = true) : allDigits (zfill w s) = true := by
  cases s with
  | nil => exact absurd rfl hne
  | cons c r =>
    have hc : isDigit c = true := isDigit_of_mem hd (by simp)
    obtain ⟨h1, h2, _⟩ := isDigit_not_sign hc
    simp only [zfill, h1, h2, decide_false, Bool.or_self, Bool.false_eq_true, if_false]
    rw [allDigits_append, allDigits_replicate_zero, hd]
    rfl

/-! ### `float` of a printed integer -/

theorem parseFloat_fmtInt (i : Int) : parseFloat (fmtInt i) = some (i : Rat) := by
  have hd := allDigits_natDigits' i.natAbs
  have hs : strip (fmtInt i) = (if i < 0 then ['-'] else []) ++ natDigits i.natAbs := by
    rw [strip_of_no_space (no_space_fmtInt i), fmtInt_eq]
  have e1 : ∀ x : Rat, x / 1 = x := by intro x; grind
  unfold parseFloat
  rw [parseDecimalWith_body ['e', 'E'] (hex := by decide) (P := i < 0) (k := 0)
    (hm := parseMantissa_digits hd (natDigits_ne_nil' _)) (hchars := fun c hc => Or.inl (isDigit_of_mem hd hc))
    (hhead := natDigits_head_digit _) (hs := hs), digitsVal_natDigits', pow10_zero]
  congr 1
  -- `i` is `± |i|`
  by_cases hn : i < 0
  · rw [if_pos hn, e1, ← Rat.intCast_natCast, ← Rat.intCast_neg, ← Int.eq_neg_natAbs_of_nonpos (Int.le_of_lt hn)]
  · rw [if_neg hn, e1, ← Rat.intCast_natCast, Int.natAbs_of_nonneg (Int.not_lt.mp hn)]

theorem parseFloat_nan : parseFloat "nan".toList = none := by decide +kernel

/-! ### the characters of a printed number: digits, `-`, `.`, at least one digit -/

theorem fmtInt_chars (i : Int) : (∀ c ∈ fmtInt i, isDigit c = true ∨ c = '-' ∨ c = '.') ∧ (∃ c ∈ fmtInt i, isDigit c = true) := by
  have hd : ∀ c ∈ natDigits i.natAbs, isDigit c = true := fun c hc => isDigit_of_mem (allDigits_natDigits' _) hc
  obtain ⟨c0, r, hcr, hc0⟩ := natDigits_head_digit i.natAbs
  unfold fmtInt
  split
  · exact ⟨fun c hc => by rcases List.mem_cons.mp hc with rfl | hc; exact Or.inr (Or.inl rfl); exact Or.inl (hd c hc),
      c0, by rw [hcr]; simp, hc0⟩
  · exact ⟨fun c hc => Or.inl (hd c hc), c0, by rw [hcr]; simp, hc0⟩

theorem fmtFixedCore_chars (q : Rat) (p : Nat) :
    (∀ c ∈ fmtFixedCore q p, isDigit c = true ∨ c = '-' ∨ c = '.') ∧ (∃ c ∈ fmtFixedCore q p, isDigit c = true) := by
  rw [fmtFixedCore_eq]
  obtain ⟨c0, r, hcr, hc0⟩ := fixedBody_head p (fixedScaled q p)
  constructor
  · intro c hc
    rcases List.mem_append.mp hc with h | h
    · split at h
      · simp at h; exact Or.inr (Or.inl h)
      · simp at h
    · rcases fixedBody_chars _ _ c h with h | h
      · exact Or.inl h
      · exact Or.inr (Or.inr h)
  · exact ⟨c0, by rw [hcr]; simp, hc0⟩

/-! ### `int` of a digit text -/

theorem parseInt_digits (s : Str) (hne : s ≠ []) (hall : allDigits s = true) : parseInt? s = some (digitsVal s : Int) := by
  cases s with
  | nil => exact absurd rfl hne
  | cons c r =>
    rw [parseInt_eq_parseExp, strip_of_allDigits hall,
      parseExp_of_takeSign (takeSign_of_digit (isDigit_of_mem hall (List.mem_cons_self ..))) (parseNat_of_allDigits hall hne)]
    rfl

end Midgard.Decimal
