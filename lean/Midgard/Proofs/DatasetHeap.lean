/-
C09 — the heap of array objects and the memo, as every operation sees them: the heap only grows (`HeapExt`), what a memo
look-up answers after `set` / `pop` / an allocation, the image of an object under a row selection (`Img`: the selected rows,
references re-wired to images; built by `subset` and by the indexing of `difference`), the memo that only ever holds such
images (`MemoInv`), and "everything reachable has `n` rows" (`Good`).
-/
import Midgard.Proofs.DatasetLists
import Midgard.Proofs.Lists

namespace Midgard.Dataset

theorem Kind.not_plain_of_delta {k : Kind} (h : k.isDelta = true) : k.isPlain = false := by
  cases k <;> first | rfl | cases h

/-- a plain or sigma array has no references (`other` is an attribute of the position kinds, `ref_pos` of the deltas) -/
theorem Kind.no_refs_of_plainish {k : Kind} (h : (k.isPlain || k == .sigma) = true) :
    k.hasOther = false ∧ k.isDelta = false := by
  cases k <;> simp [Kind.isPlain] at h <;> simp [Kind.hasOther, Kind.isDelta]

theorem objLen_of_get {h : Heap} {o : Nat} {ob : Obj} (hh : h[o]? = some ob) : objLen h o = ob.rows.length := by
  simp [objLen, hh]

inductive OptRel {α β} (R : α → β → Prop) : Option α → Option β → Prop
  | none : OptRel R none none
  | some {a b} : R a b → OptRel R (some a) (some b)

theorem OptRel.of_some_right {α β} {R : α → β → Prop} {x : Option α} {b : β} (h : OptRel R x (Option.some b)) :
    ∃ a, x = Option.some a ∧ R a b := by
  generalize hy : Option.some b = y at h
  cases h with
  | none => cases hy
  | some r => cases hy; exact ⟨_, rfl, r⟩

theorem OptRel.of_none_left {α β} {R : α → β → Prop} {y : Option β} (h : OptRel R Option.none y) : y = Option.none := by
  generalize hx : (Option.none : Option α) = x at h
  cases h with
  | none => rfl
  | some r => cases hx

theorem OptRel.mono {α β} {R S : α → β → Prop} (h : ∀ a b, R a b → S a b) :
    ∀ {x y}, OptRel R x y → OptRel S x y
  | _, _, .none => .none
  | _, _, .some r => .some (h _ _ r)

/-- the heap only grows: old objects keep their identity and their contents -/
structure HeapExt (h h' : Heap) : Prop where
  ex : ∃ l, h' = h ++ l

theorem HeapExt.refl (h : Heap) : HeapExt h h := ⟨[], by simp⟩
theorem HeapExt.trans {a b c : Heap} (h1 : HeapExt a b) (h2 : HeapExt b c) : HeapExt a c := by
  obtain ⟨l1, rfl⟩ := h1.ex; obtain ⟨l2, rfl⟩ := h2.ex; exact ⟨l1 ++ l2, by simp⟩
theorem HeapExt.get {h h' : Heap} (e : HeapExt h h') {o : Nat} {ob : Obj} (hh : h[o]? = some ob) :
    h'[o]? = some ob := by
  obtain ⟨l, rfl⟩ := e.ex; exact Lists.getElem?_append_of_some hh
theorem HeapExt.alloc (s : St) (o : Obj) : HeapExt s.heap (s.alloc o).2.heap := ⟨[o], rfl⟩

theorem HeapExt.snoc (h : Heap) (x : Obj) : HeapExt h (h ++ [x]) := ⟨⟨[x], rfl⟩⟩

theorem alloc_get (s : St) (o : Obj) : (s.alloc o).2.heap[(s.alloc o).1]? = some o := by
  simp [St.alloc]

theorem find_set (s : St) (k v k' : Nat) : (s.set k v).find k' = if k' == k then some v else s.find k' := by
  simp only [St.set, St.find, List.lookup]
  by_cases h : k' == k <;> simp [h]

theorem find_alloc (s : St) (o : Obj) (k : Nat) : (s.alloc o).2.find k = s.find k := rfl

theorem lookup_filter_ne (k e : Nat) (hne : k ≠ e) : ∀ (l : List (Nat × Nat)),
    List.lookup k (l.filter (fun p => p.1 != e)) = List.lookup k l
  | [] => rfl
  | (a, v) :: l => by
    by_cases hae : a = e
    · subst hae
      have hka : (k == a) = false := by simpa using hne
      simp [List.filter, List.lookup, hka, lookup_filter_ne k a hne l]
    · have : (a != e) = true := by simpa using hae
      simp only [List.filter, this, List.lookup]
      split <;> simp_all [lookup_filter_ne k e hne l]

theorem find_pop (s : St) {k e : Nat} (hne : k ≠ e) : (s.pop e).find k = s.find k :=
  lookup_filter_ne k e hne s.memo

theorem lt_heap_alloc {s : St} {a : Nat} (ha : a < s.heap.length) (o : Obj) : a < (s.alloc o).2.heap.length := by
  simp only [St.alloc, List.length_append, List.length_singleton]
  omega

theorem memoBound_alloc {s : St} (hb : ∀ k v, (k, v) ∈ s.memo → k < s.heap.length) (o : Obj) :
    ∀ k v, (k, v) ∈ (s.alloc o).2.memo → k < (s.alloc o).2.heap.length := by
  intro k v hkv
  have := hb k v hkv
  simp only [St.alloc, List.length_append, List.length_singleton]
  omega

theorem memoBound_set {s : St} (hb : ∀ k v, (k, v) ∈ s.memo → k < s.heap.length) {a : Nat} (ha : a < s.heap.length)
    (r : Nat) : ∀ k v, (k, v) ∈ (s.set a r).memo → k < (s.set a r).heap.length := by
  intro k v hkv
  simp only [St.set, List.mem_cons, Prod.mk.injEq] at hkv ⊢
  rcases hkv with ⟨rfl, _⟩ | hkv
  · exact ha
  · exact hb k v hkv

theorem find_none_of_ge (s : St) (k : Nat) (hb : ∀ k v, (k, v) ∈ s.memo → k < s.heap.length) (hk : s.heap.length ≤ k) :
    s.find k = none := by
  cases h : s.find k with
  | none => rfl
  | some v => have := hb k v (Lists.lookup_mem h); omega

/-- `o'` is `o` with the rows `idx` selects, and its references are images of `o`'s references
(unfolded to depth `fuel`) -/
def ImgF (idx : Index) (h : Heap) : Nat → Nat → Nat → Prop
  | 0, _, _ => False
  | f + 1, o, o' => ∃ ob ob', h[o]? = some ob ∧ h[o']? = some ob' ∧ pick idx ob.rows = .ok ob'.rows ∧
      ob'.kind = ob.kind ∧ ob'.ndim = ob.ndim ∧ ob'.cols = ob.cols ∧
      (ob.kind.hasOther = true → OptRel (ImgF idx h f) ob.other ob'.other) ∧
      (ob.kind.isDelta = true → OptRel (ImgF idx h f) ob.refPos ob'.refPos)

def Img (idx : Index) (h : Heap) (o o' : Nat) : Prop := ∃ f, ImgF idx h f o o'

theorem ImgF.succ {idx h} : ∀ {f o o'}, ImgF idx h f o o' → ImgF idx h (f + 1) o o'
  | 0, _, _, hh => by simp [ImgF] at hh
  | f + 1, o, o', hh => by
    obtain ⟨ob, ob', h1, h2, h3, h4, h5, h6, h7, h8⟩ := hh
    exact ⟨ob, ob', h1, h2, h3, h4, h5, h6, fun hk => (h7 hk).mono (fun _ _ => ImgF.succ),
      fun hk => (h8 hk).mono (fun _ _ => ImgF.succ)⟩

theorem ImgF.le {idx h o o'} : ∀ {f g}, f ≤ g → ImgF idx h f o o' → ImgF idx h g o o' := by
  intro f g hle hh
  induction hle with
  | refl => exact hh
  | step _ ih => exact ih.succ

theorem ImgF.ext {idx h h'} (e : HeapExt h h') : ∀ {f o o'}, ImgF idx h f o o' → ImgF idx h' f o o'
  | 0, _, _, hh => by simp [ImgF] at hh
  | f + 1, o, o', hh => by
    obtain ⟨ob, ob', h1, h2, h3, h4, h5, h6, h7, h8⟩ := hh
    exact ⟨ob, ob', e.get h1, e.get h2, h3, h4, h5, h6, fun hk => (h7 hk).mono (fun _ _ => ImgF.ext e),
      fun hk => (h8 hk).mono (fun _ _ => ImgF.ext e)⟩

theorem Img.ext {idx h h' o o'} (e : HeapExt h h') (hh : Img idx h o o') : Img idx h' o o' := by
  obtain ⟨f, hf⟩ := hh; exact ⟨f, hf.ext e⟩

theorem OptRel_Img_fuel {idx h} : ∀ {r r'}, OptRel (Img idx h) r r' → ∃ f, OptRel (ImgF idx h f) r r'
  | _, _, .none => ⟨0, .none⟩
  | _, _, .some ⟨f, hf⟩ => ⟨f, .some hf⟩

theorem OptRel_Img_fuel' {idx h} {P : Prop} {r r'} (hr : P → OptRel (Img idx h) r r') :
    ∃ f, P → OptRel (ImgF idx h f) r r' := by
  by_cases hp : P
  · obtain ⟨f, hf⟩ := OptRel_Img_fuel (hr hp); exact ⟨f, fun _ => hf⟩
  · exact ⟨0, fun h => absurd h hp⟩

theorem Img.mk {idx h o o' ob ob'} (h1 : h[o]? = some ob) (h2 : h[o']? = some ob')
    (h3 : pick idx ob.rows = .ok ob'.rows) (h4 : ob'.kind = ob.kind) (h5 : ob'.ndim = ob.ndim)
    (h6 : ob'.cols = ob.cols) (h7 : ob.kind.hasOther = true → OptRel (Img idx h) ob.other ob'.other)
    (h8 : ob.kind.isDelta = true → OptRel (Img idx h) ob.refPos ob'.refPos) : Img idx h o o' := by
  obtain ⟨f1, g1⟩ := OptRel_Img_fuel' h7
  obtain ⟨f2, g2⟩ := OptRel_Img_fuel' h8
  refine ⟨max f1 f2 + 1, ob, ob', h1, h2, h3, h4, h5, h6, ?_, ?_⟩
  · exact fun hk => (g1 hk).mono (fun _ _ => ImgF.le (Nat.le_max_left _ _))
  · exact fun hk => (g2 hk).mono (fun _ _ => ImgF.le (Nat.le_max_right _ _))

theorem Img.dest {idx : Index} {h : Heap} {o o' : Nat} (hi : Img idx h o o') :
    ∃ ob ob', h[o]? = some ob ∧ h[o']? = some ob' ∧ pick idx ob.rows = .ok ob'.rows ∧ ob'.kind = ob.kind ∧
      ob'.ndim = ob.ndim ∧ ob'.cols = ob.cols ∧
      (ob.kind.hasOther = true → OptRel (Img idx h) ob.other ob'.other) ∧
      (ob.kind.isDelta = true → OptRel (Img idx h) ob.refPos ob'.refPos) := by
  obtain ⟨f, hf⟩ := hi
  cases f with
  | zero => simp [ImgF] at hf
  | succ f =>
    obtain ⟨ob, ob', h1, h2, h3, h4, h5, h6, h7, h8⟩ := hf
    exact ⟨ob, ob', h1, h2, h3, h4, h5, h6, fun hk => (h7 hk).mono (fun _ _ hh => ⟨f, hh⟩),
      fun hk => (h8 hk).mono (fun _ _ hh => ⟨f, hh⟩)⟩

/-- the memo of a `subset` only ever maps an object to its image -/
def MemoInv (idx : Index) (s : St) : Prop := ∀ k v, (k, v) ∈ s.memo → Img idx s.heap k v

theorem MemoInv.find {idx s k v} (hm : MemoInv idx s) (hf : s.find k = some v) : Img idx s.heap k v :=
  hm k v (Lists.lookup_mem hf)

theorem MemoInv.set {idx} {s : St} {k v} (hm : MemoInv idx s) (hi : Img idx s.heap k v) : MemoInv idx (s.set k v) := by
  intro a b hab
  simp only [St.set, List.mem_cons] at hab
  rcases hab with h | h
  · cases h; exact hi
  · exact hm a b h

theorem MemoInv.ext {idx} {s : St} {h' : Heap} (hm : MemoInv idx s) (e : HeapExt s.heap h') :
    MemoInv idx { s with heap := h' } := fun k v hkv => (hm k v hkv).ext e

/-- what a successful recursive call guarantees -/
def StepOK (idx : Index) (s s' : St) : Prop := HeapExt s.heap s'.heap ∧ MemoInv idx s'

def GoodF (h : Heap) (n : Nat) : Nat → Nat → Prop
  | 0, _ => False
  | f + 1, o => ∃ ob, h[o]? = some ob ∧ ob.rows.length = n ∧
      (∀ a, ob.kind.hasOther = true → ob.other = some a → GoodF h n f a) ∧
      (∀ a, ob.kind.isDelta = true → ob.refPos = some a → GoodF h n f a)

/-- object `o` and every object attached to it (`other`, `ref_pos`, recursively) has `n` rows -/
def Good (h : Heap) (n : Nat) (o : Nat) : Prop := ∃ f, GoodF h n f o

theorem GoodF.ext {h h' n} (e : HeapExt h h') : ∀ {f o}, GoodF h n f o → GoodF h' n f o
  | 0, _, hh => by simp [GoodF] at hh
  | f + 1, o, hh => by
    obtain ⟨ob, h1, h2, h3, h4⟩ := hh
    exact ⟨ob, e.get h1, h2, fun a hk ha => (h3 a hk ha).ext e, fun a hk ha => (h4 a hk ha).ext e⟩

theorem Good.ext {h h' n o} (e : HeapExt h h') (g : Good h n o) : Good h' n o := by
  obtain ⟨f, hf⟩ := g; exact ⟨f, hf.ext e⟩

theorem GoodF.succ {h : Heap} {n : Nat} : ∀ {f o}, GoodF h n f o → GoodF h n (f + 1) o
  | 0, _, hh => by simp [GoodF] at hh
  | f + 1, o, hh => by
    obtain ⟨ob, a1, a2, a3, a4⟩ := hh
    exact ⟨ob, a1, a2, fun a hk ha => (a3 a hk ha).succ, fun a hk ha => (a4 a hk ha).succ⟩

theorem GoodF.le {h : Heap} {n o : Nat} : ∀ {f g}, f ≤ g → GoodF h n f o → GoodF h n g o := by
  intro f g hle hh
  induction hle with
  | refl => exact hh
  | step _ ih => exact ih.succ

/-- one fuel for an optional reference that a kind may or may not have -/
theorem Good.fuel_of_ref {h : Heap} {n : Nat} {P : Prop} {r : Option Nat} (hr : ∀ a, P → r = some a → Good h n a) :
    ∃ f, ∀ a, P → r = some a → GoodF h n f a := by
  by_cases hp : P
  · cases r with
    | none => exact ⟨0, by simp⟩
    | some a =>
      obtain ⟨f, hf⟩ := hr a hp rfl
      exact ⟨f, by intro a' _ ha'; cases ha'; exact hf⟩
  · exact ⟨0, fun a h' => absurd h' hp⟩

theorem Good.mk {h : Heap} {n o : Nat} {ob : Obj} (h1 : h[o]? = some ob) (h2 : ob.rows.length = n)
    (h3 : ∀ a, ob.kind.hasOther = true → ob.other = some a → Good h n a)
    (h4 : ∀ a, ob.kind.isDelta = true → ob.refPos = some a → Good h n a) : Good h n o := by
  obtain ⟨f1, g1⟩ := Good.fuel_of_ref h3
  obtain ⟨f2, g2⟩ := Good.fuel_of_ref h4
  exact ⟨max f1 f2 + 1, ob, h1, h2, fun a hk ha => GoodF.le (Nat.le_max_left _ _) (g1 a hk ha),
    fun a hk ha => GoodF.le (Nat.le_max_right _ _) (g2 a hk ha)⟩

theorem Good.dest {h : Heap} {n o : Nat} (g : Good h n o) : ∃ ob, h[o]? = some ob ∧ ob.rows.length = n ∧
    (∀ a, ob.kind.hasOther = true → ob.other = some a → Good h n a) ∧
    (∀ a, ob.kind.isDelta = true → ob.refPos = some a → Good h n a) := by
  obtain ⟨f, hf⟩ := g
  cases f with
  | zero => simp [GoodF] at hf
  | succ f =>
    obtain ⟨ob, h1, h2, h3, h4⟩ := hf
    exact ⟨ob, h1, h2, fun a hk ha => ⟨f, h3 a hk ha⟩, fun a hk ha => ⟨f, h4 a hk ha⟩⟩

theorem ImgF.good {idx h} : ∀ {f o o'}, ImgF idx h f o o' → GoodF h idx.count f o'
  | 0, _, _, hh => by simp [ImgF] at hh
  | f + 1, o, o', hh => by
    obtain ⟨ob, ob', _, h2, h3, h4, _, _, h7, h8⟩ := hh
    refine ⟨ob', h2, pick_length idx _ _ h3, ?_, ?_⟩
    · intro a hk ha
      have h7' := h7 (by rw [← h4]; exact hk)
      rw [ha] at h7'
      obtain ⟨_, _, r⟩ := h7'.of_some_right
      exact r.good
    · intro a hk ha
      have h8' := h8 (by rw [← h4]; exact hk)
      rw [ha] at h8'
      obtain ⟨_, _, r⟩ := h8'.of_some_right
      exact r.good

/-- the image of anything under a successful selection is rectangular with `idx.count` rows —
no assumption on the object it came from -/
theorem Img.good {idx h o o'} (hi : Img idx h o o') : Good h idx.count o' := by
  obtain ⟨f, hf⟩ := hi; exact ⟨f, hf.good⟩

theorem Good.objLen {h n o} (g : Good h n o) : objLen h o = n := by
  obtain ⟨f, hf⟩ := g
  cases f with
  | zero => simp [GoodF] at hf
  | succ f =>
    obtain ⟨ob, h1, h2, _, _⟩ := hf
    rw [objLen_of_get h1, h2]

end Midgard.Dataset
