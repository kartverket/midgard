/-
C09 — every dataset-level operation keeps a world of datasets rectangular and well formed.  The vocabulary of the history
invariant is here: a well-formed dataset (`DSOK`), a world in which every dataset is a rectangular, well-formed table
(`WOK`), what has to be assumed of an operation's arguments (`Valid`), a history of successful operations (`Run`); one
lemma per operation (`ds…_ok`) and `step_ok` for a step of the world.  `Dataset.extend` is `extend` of two collection fields
taken at the root (`DS.root`, `dsExtend_root`), so its lemma is the field-level theorem.
-/
import Midgard.Proofs.DatasetSubset
import Midgard.Proofs.DatasetDiff
import Midgard.Proofs.DatasetExtendContent

namespace Midgard.Dataset

/-- structural well-formedness of a dataset: unique names in every collection -/
structure DSOK (d : DS) : Prop where
  nodup : (names d.fields).Nodup
  wff : ∀ f ∈ d.fields, WFF f

theorem DSOK.of_sameShapes {d : DS} {n : Nat} {fs' : List Field} (sh : SameShape.SameShapes d.fields fs') (ok : DSOK d) :
    DSOK { numObs := n, fields := fs' } :=
  ⟨by show (names fs').Nodup; rw [SameShapes.names sh]; exact ok.nodup,
   (WFFs_iff fs').mp (SameShapes.wffs d.fields fs' sh ((WFFs_iff d.fields).mpr ok.wff))⟩

theorem dsSubset_ok {idx : Index} {h : Heap} {d : DS} {h' : Heap} {d' : DS}
    (hok : dsSubset idx h d = .ok (h', d')) (ok : DSOK d) :
    HeapExt h h' ∧ Rect h' d' ∧ DSOK d' ∧ d'.numObs = idx.count := by
  obtain ⟨e, hi, hc, hr⟩ := dsSubset_spec hok
  exact ⟨e, hr, DSOK.of_sameShapes (n := d'.numObs) (FieldsImg.sameShapes d.fields d'.fields hi) ok, hc⟩

/-- the fields of a dataset as one collection field (`class Dataset(collection.Collection)`): what is proved of
`CollectionField.extend` holds of `Dataset.extend` by taking it at the root -/
def DS.root (d : DS) : Field := .coll "" d.numObs 0 d.fields

theorem DS.rect_root {h : Heap} {d : DS} : RectField h d.numObs d.root ↔ Rect h d := by
  simp [DS.root, rectField_coll_iff, Rect, rectFields_iff]

theorem DS.wff_root {d : DS} : WFF d.root ↔ DSOK d := by
  simp only [DS.root, wff_coll_iff]
  exact ⟨fun h => ⟨h.1, h.2⟩, fun h => ⟨h.nodup, h.wff⟩⟩

/-- `Dataset.extend` of rectangular tables is `extend` of the root collections (both read their lengths off `num_obs`) -/
theorem dsExtend_root {us : Units} {h : Heap} {d e : DS} {h' : Heap} {d' : DS}
    (hok : dsExtend us h d e = .ok (h', d')) (hd : Rect h d) (he : Rect h e) :
    ∃ no' s', extendField us d.root e.root { heap := h, conv := us.conv } = .ok (.coll "" no' 0 d'.fields, s') ∧
      s'.heap = h' ∧ d'.numObs = d.numObs + e.numObs := by
  simp only [dsExtend] at hok
  split at hok
  · simp at hok
  · rename_i fs s hfin
    cases hok
    simp only [extendFields] at hfin
    refine ⟨if fs.isEmpty then d.numObs + e.numObs else collLen s.heap fs, s, ?_, rfl, rfl⟩
    simp only [DS.root, extendField, collRows_eq (DS.rect_root.mpr hd), collRows_eq (DS.rect_root.mpr he), hfin]

theorem dsExtend_ok {us : Units} {h : Heap} {d e : DS} {h' : Heap} {d' : DS}
    (hok : dsExtend us h d e = .ok (h', d')) (hd : Rect h d) (he : Rect h e) (okd : DSOK d) (oke : DSOK e) :
    HeapExt h h' ∧ Rect h' d' ∧ DSOK d' ∧ d'.numObs = d.numObs + e.numObs := by
  obtain ⟨no', s', hx, rfl, hn⟩ := dsExtend_root hok hd he
  obtain ⟨⟨e1, _⟩, r, w, _⟩ := extendField_spec us d.numObs e.numObs _ _ _ _ _ hx (fun a v hav => by cases hav)
    (DS.rect_root.mpr hd) (DS.rect_root.mpr he) (DS.wff_root.mpr okd) (DS.wff_root.mpr oke)
  have w' := (DS.wff_root (d := ⟨no', d'.fields⟩)).mp w
  refine ⟨e1, ?_, ⟨w'.nodup, w'.wff⟩, hn⟩
  simp only [Rect, hn]
  exact (rectFields_iff _).mpr (rectField_coll_iff.mp r).1

/-- **`Dataset.difference`**: the result is a rectangular, well-formed table with one row per paired row —
whatever the operands were (the selections have the right length or the operation fails) -/
theorem dsDifference_ok {us : Units} {h : Heap} {d e : DS} {ib : Option (List String)} {cs co : Bool} {h' : Heap} {r : DS}
    (hok : dsDifference us h d e ib cs co = .ok (h', r)) : HeapExt h h' ∧ Rect h' r ∧ DSOK r := by
  obtain ⟨si, oi, cnt, hidx, _, hn, e1, nd, hall⟩ := dsDifference_spec hok
  obtain ⟨hs, ho⟩ := diffIndex_counts hidx
  have each : ∀ x ∈ r.fields, RectField h' cnt x ∧ WFF x := by
    intro x hx
    rcases hall x hx with h0 | h0
    · exact ⟨(DiffAny.ok _ _ x h0).2 hs ho, (DiffAny.ok _ _ x h0).1⟩
    · exact h0.1.rect hs
  refine ⟨e1, ?_, ⟨nd, fun x hx => (each x hx).2⟩⟩
  simp only [Rect]; rw [hn]
  exact (rectFields_iff r.fields).mpr (fun x hx => (each x hx).1)

theorem findField_rect : ∀ (p : Path) (fs : List Field) (f : Field) (h : Heap) (n : Nat),
    findField fs p = some f → RectField.RectFields h n fs → RectField h n f
  | [], _, _, _, _, hf, _ => by simp [findField] at hf
  | [nm], fs, f, h, n, hf, hr => by
    simp only [findField] at hf
    exact (rectFields_iff fs).mp hr f (getField_some hf).1
  | nm :: nm2 :: rest, fs, f, h, n, hf, hr => by
    simp only [findField] at hf
    split at hf
    · rename_i a b c sub hget
      have := (rectFields_iff fs).mp hr _ (getField_some hget).1
      rw [rectField_coll_iff] at this
      exact findField_rect (nm2 :: rest) sub f h n hf ((rectFields_iff sub).mpr this.1)
    · simp at hf

theorem keyColumn_length {h : Heap} {n : Nat} {f : Field} {keys : List Scalar}
    (hk : keyColumn h f = .ok keys) (hr : RectField h n f) : keys.length = n := by
  cases f with
  | coll => simp [keyColumn] at hk
  | leaf nm k o no u l =>
    simp only [keyColumn] at hk
    obtain ⟨ob, h1, h2, _, _⟩ := (rectField_leaf_iff.mp hr).1.dest
    rw [h1] at hk
    simp only at hk
    split at hk
    · simp at hk
    · split at hk <;> (simp only [Except.ok.injEq] at hk; subst hk; simp [h2])

/-- **`merge_with(sort_by=…)`, the sorting half, is the `subset` by the sort index**: with `keys` the key column of the
sort field, the new field tree is the image of the old one under the integer index `argsortStable keys` — every column at
every depth, and every attached array, permuted by that one permutation (stable and sorted by key:
`argsortStable_perm/_sorted/_stable`); the declared number of observations is left alone -/
theorem dsSort_spec {h : Heap} {d : DS} {p : Path} {h' : Heap} {d' : DS} (hok : dsSort h d p = .ok (h', d')) :
    ∃ f keys, findField d.fields p = some f ∧ keyColumn h f = .ok keys ∧ HeapExt h h' ∧
      FieldImg.FieldsImg (.ints ((argsortStable keys).map Int.ofNat)) h' d.fields d'.fields ∧ d'.numObs = d.numObs := by
  simp only [dsSort] at hok
  split at hok
  · simp at hok
  · rename_i f hfind
    split at hok
    · simp at hok
    · rename_i keys hkeys
      split at hok
      · simp at hok
      · rename_i fs s hr
        cases hok.symm
        obtain ⟨e, hi⟩ := subsetFields_fresh hr
        exact ⟨f, keys, hfind, hkeys, e, hi, rfl⟩

/-- the sorting half keeps a rectangular table one, with the same number of rows: the index selects as many rows as the
sort field has, which is the number of rows of the table -/
theorem dsSort_ok {h : Heap} {d : DS} {p : Path} {h' : Heap} {d' : DS}
    (hok : dsSort h d p = .ok (h', d')) (hd : Rect h d) (ok : DSOK d) :
    HeapExt h h' ∧ Rect h' d' ∧ DSOK d' ∧ d'.numObs = d.numObs := by
  obtain ⟨f, keys, hfind, hkeys, e, hi, hn⟩ := dsSort_spec hok
  have hlen : keys.length = d.numObs := keyColumn_length hkeys (findField_rect p d.fields f h d.numObs hfind hd)
  have hcount : (Index.ints ((argsortStable keys).map Int.ofNat)).count = d'.numObs := by
    simp only [Index.count, List.length_map]
    rw [(argsortStable_perm keys).length_eq, List.length_range, hlen, hn]
  refine ⟨e, ?_, DSOK.of_sameShapes (n := d'.numObs) (FieldsImg.sameShapes d.fields d'.fields hi) ok, hn⟩
  have := FieldsImg.rect d.fields d'.fields hi
  rw [hcount] at this
  exact this

theorem dsDel_ok {h : Heap} {d : DS} {p : Path} {d' : DS} (hok : dsDel d p = .ok d') (hd : Rect h d) (ok : DSOK d) :
    Rect h d' ∧ DSOK d' ∧ d'.numObs = d.numObs := by
  have hrect := (rectFields_iff d.fields).mp hd
  simp only [dsDel] at hok
  split at hok
  · -- top-level field
    split at hok
    · cases hok.symm
      refine ⟨(rectFields_iff _).mpr (fun c hc => hrect c (delField_sub _ _ c hc)),
        ⟨names_delField_nodup ok.nodup, fun c hc => ok.wff c (delField_sub _ _ c hc)⟩, rfl⟩
    · simp at hok
  · -- a field of a top-level collection
    rename_i c n
    split at hok
    · rename_i nm no l sub hget
      split at hok
      · cases hok.symm
        obtain ⟨hmem, hnm⟩ := getField_some hget
        have hrc := hrect _ hmem
        have hwc := ok.wff _ hmem
        rw [rectField_coll_iff] at hrc
        rw [wff_coll_iff] at hwc
        have newRect : RectField h d.numObs (.coll c no l (delField sub n)) :=
          rectField_coll_iff.mpr ⟨fun x hx => hrc.1 x (delField_sub _ _ x hx), hrc.2⟩
        have newWff : WFF (.coll c no l (delField sub n)) :=
          wff_coll_iff.mpr ⟨names_delField_nodup hwc.1, fun x hx => hwc.2 x (delField_sub _ _ x hx)⟩
        refine ⟨(rectFields_iff _).mpr ?_, ⟨nodup_setField ok.nodup, ?_⟩, rfl⟩
        · intro x hx
          rcases mem_setField_nodup ok.nodup hx with rfl | hx
          · exact newRect
          · exact hrect x hx.1
        · intro x hx
          rcases mem_setField_nodup ok.nodup hx with rfl | hx
          · exact newWff
          · exact ok.wff x hx.1
      · simp at hok
    · simp at hok
  · simp at hok

def FieldOK (h : Heap) (n : Nat) (c : Field) : Prop := RectField h n c ∧ WFF c

theorem coll_ok_of_children {h : Heap} {n : Nat} {nm : String} {no l : Nat} {sub : List Field}
    (hno : no = n) (hall : ∀ c ∈ sub, FieldOK h n c) (hnd : (names sub).Nodup) :
    FieldOK h n (.coll nm no l sub) :=
  ⟨rectField_coll_iff.mpr ⟨fun c hc => (hall c hc).1, hno⟩, wff_coll_iff.mpr ⟨hnd, fun c hc => (hall c hc).2⟩⟩

/-- `_add_field`: creating the missing collections and putting the new field into its container -/
theorem addAt_spec (h : Heap) (n : Nat) (f : Field) (hf : FieldOK h n f) : ∀ (p : Path)
    (fs fs' : List Field), addAt n f p fs = .ok fs' → (∀ c ∈ fs, FieldOK h n c) → (names fs).Nodup →
    (∀ c ∈ fs', FieldOK h n c) ∧ (names fs').Nodup
  | [], fs, fs', hok, hall, hnd => by
    simp only [addAt] at hok
    split at hok
    · rename_i g hget
      cases hok.symm
      exact ⟨hall, hnd⟩
    · rename_i hget
      cases hok.symm
      refine ⟨?_, ?_⟩
      · intro c hc
        rcases List.mem_append.mp hc with hc | hc
        · exact hall c hc
        · simp at hc; subst hc; exact hf
      · simp only [names, List.map_append, List.map_cons, List.map_nil]
        exact List.nodup_append.mpr ⟨hnd, by simp, by
          intro a ha b hb; simp at hb; subst hb; intro he; exact getField_none hget (he ▸ ha)⟩
  | c :: rest, fs, fs', hok, hall, hnd => by
    simp only [addAt] at hok
    split at hok
    · -- the collection does not exist yet
      rename_i hget
      split at hok
      · simp at hok
      · rename_i sub hsub
        cases hok.symm
        obtain ⟨a1, a2⟩ := addAt_spec h n f hf rest [] sub hsub (by simp) (by simp [names])
        refine ⟨?_, ?_⟩
        · intro x hx
          rcases List.mem_append.mp hx with hx | hx
          · exact hall x hx
          · simp at hx; subst hx; exact coll_ok_of_children rfl a1 a2
        · simp only [names, List.map_append, List.map_cons, List.map_nil]
          exact List.nodup_append.mpr ⟨hnd, by simp, by
            intro a ha b hb; simp [Field.name] at hb; subst hb; intro he; exact getField_none hget (he ▸ ha)⟩
    · rename_i nm no l sub hget
      split at hok
      · simp at hok
      · rename_i sub' hsub
        cases hok.symm
        obtain ⟨hmem, hnm⟩ := getField_some hget
        obtain ⟨hr, hw⟩ := hall _ hmem
        rw [rectField_coll_iff] at hr
        rw [wff_coll_iff] at hw
        obtain ⟨a1, a2⟩ := addAt_spec h n f hf rest sub sub' hsub
          (fun x hx => ⟨hr.1 x hx, hw.2 x hx⟩) hw.1
        refine ⟨?_, nodup_setField hnd⟩
        intro x hx
        rcases mem_setField_nodup hnd hx with rfl | hx
        · exact coll_ok_of_children hr.2 a1 a2
        · exact hall x hx.1
    · simp at hok

theorem addAt_ds {h : Heap} {d : DS} {f : Field} {p : Path} {fs : List Field} (hf : FieldOK h d.numObs f)
    (hfs : addAt d.numObs f p d.fields = .ok fs) (hd : Rect h d) (ok : DSOK d) :
    Rect h { d with fields := fs } ∧ DSOK { d with fields := fs } ∧ ({ d with fields := fs } : DS).numObs = d.numObs := by
  have hrect := (rectFields_iff d.fields).mp hd
  obtain ⟨a1, a2⟩ := addAt_spec h d.numObs _ hf p d.fields fs hfs (fun c hc => ⟨hrect c hc, ok.wff c hc⟩) ok.nodup
  exact ⟨(rectFields_iff fs).mpr (fun c hc => (a1 c hc).1), ⟨a2, fun c hc => (a1 c hc).2⟩, rfl⟩

/-- **`dset.add_<type>(…)`**: adding an array that has `num_obs` rows itself *and in everything attached
to it* keeps the table rectangular.  (The code checks the length of the array only; a position whose
`other` has another length is the caller's inconsistency and is excluded by `hgood`.) -/
theorem dsAdd_ok {h : Heap} {d : DS} {p : Path} {k : Kind} {o : Nat} {u : Option String} {l : Nat} {d' : DS}
    (hok : dsAdd h d p k o u l = .ok d') (hd : Rect h d) (ok : DSOK d) (hgood : Good h d.numObs o) :
    Rect h d' ∧ DSOK d' ∧ d'.numObs = d.numObs := by
  simp only [dsAdd] at hok
  split at hok
  · simp at hok
  · rename_i nm revColl _
    split at hok
    · simp at hok
    · split at hok
      · cases hok.symm; exact ⟨hd, ok, rfl⟩
      · split at hok
        · simp at hok
        · rename_i ob hob
          split at hok
          · simp at hok
          · split at hok
            · simp at hok
            · split at hok
              · simp at hok
              · rename_i fs hfs
                cases hok.symm
                exact addAt_ds ⟨rectField_leaf_iff.mpr ⟨hgood, rfl⟩, wff_leaf ..⟩ hfs hd ok

/-- **`dset.add_collection(path)`** keeps the table rectangular: the new collection field remembers the
number of rows of the dataset (at any nesting depth) -/
theorem dsAddColl_ok {h : Heap} {d : DS} {p : Path} {l : Nat} {d' : DS}
    (hok : dsAddColl d p l = .ok d') (hd : Rect h d) (ok : DSOK d) :
    Rect h d' ∧ DSOK d' ∧ d'.numObs = d.numObs := by
  simp only [dsAddColl] at hok
  split at hok
  · simp at hok
  · rename_i nm revColl _
    split at hok
    · simp at hok
    · split at hok
      · cases hok.symm; exact ⟨hd, ok, rfl⟩
      · split at hok
        · simp at hok
        · rename_i fs hfs
          cases hok.symm
          exact addAt_ds ⟨(rectField_coll_iff (fs := [])).mpr ⟨nofun, rfl⟩, (wff_coll_iff (fs := [])).mpr ⟨List.nodup_nil, nofun⟩⟩
            hfs hd ok

/-- every dataset of the world is a rectangular, well-formed table -/
def WOK (w : W) : Prop := ∀ i x, w.getDs i = .ok x → Rect w.heap x ∧ DSOK x

theorem getDs_setDs {w : W} {d : Nat} {x : DS} {i : Nat} {y : DS} (h : (w.setDs d x).getDs i = .ok y) :
    (i = d ∧ y = x) ∨ (i ≠ d ∧ w.getDs i = .ok y) := by
  simp only [W.setDs, W.getDs] at h ⊢
  by_cases hid : i = d
  · subst hid
    left
    split at h
    · rename_i z hz
      by_cases hl : w.ds.length ≤ i
      · simp only [hl, if_true] at hz
        rw [List.getElem?_set_self (by simp; omega)] at hz
        simp only [Option.some.injEq] at hz; subst hz
        simp only [Except.ok.injEq] at h; exact ⟨rfl, h.symm⟩
      · simp only [hl, if_false] at hz
        rw [List.getElem?_set_self (by omega)] at hz
        simp only [Option.some.injEq] at hz; subst hz
        simp only [Except.ok.injEq] at h; exact ⟨rfl, h.symm⟩
    · simp at h
  · right
    refine ⟨hid, ?_⟩
    split at h
    · rename_i z hz
      cases h.symm
      by_cases hl : w.ds.length ≤ d
      · simp only [hl, if_true] at hz
        rw [List.getElem?_set_ne (by omega)] at hz
        by_cases hi : i < w.ds.length
        · rw [List.getElem?_append_left hi] at hz
          simp [hz]
        · rw [List.getElem?_append_right (by omega)] at hz
          simp only [List.getElem?_replicate] at hz
          split at hz <;> simp at hz
      · simp only [hl, if_false] at hz
        rw [List.getElem?_set_ne (by omega)] at hz
        simp [hz]
    · simp at h

theorem WOK.set {w : W} (ok : WOK w) {d : Nat} {x : DS} {h' : Heap} (hx : HeapExt w.heap h' ∧ Rect h' x ∧ DSOK x) :
    WOK { w.setDs d x with heap := h' } ∧ HeapExt w.heap h' := by
  refine ⟨fun i y hy => ?_, hx.1⟩
  have hy' : (w.setDs d x).getDs i = .ok y := hy
  rcases getDs_setDs hy' with ⟨_, rfl⟩ | ⟨_, hold⟩
  · exact hx.2
  · obtain ⟨r, k⟩ := ok i y hold
    exact ⟨RectFields.ext hx.1 y.fields r, k⟩

/-- the objects handed to `add` are consistent: everything attached to the array has as many rows
as the dataset (the code checks only the array itself) -/
def Valid (w : W) : Op → Prop
  | .add d _ _ val _ _ => ∀ o x, w.resolve val = .ok o → w.getDs d = .ok x → Good w.heap x.numObs o
  | _ => True

theorem mergeLoop_ok (us : Units) (w : W) (okw : WOK w) (di : Nat) : ∀ (es : List Nat) (h : Heap) (d : DS) (h' : Heap) (d' : DS),
    mergeLoop us h d w di es = .ok (h', d') → HeapExt w.heap h → Rect h d → DSOK d →
    HeapExt w.heap h' ∧ Rect h' d' ∧ DSOK d'
  | [], h, d, h', d', hok, e, r, k => by
    cases hok.symm
    exact ⟨e, r, k⟩
  | x :: es, h, d, h', d', hok, e, r, k => by
    simp only [mergeLoop] at hok
    split at hok
    · simp at hok
    · rename_i y hy
      split at hok
      · simp at hok
      · rename_i h1 d1 hext
        have hyok : Rect h y ∧ DSOK y := by
          split at hy
          · cases hy.symm; exact ⟨r, k⟩
          · obtain ⟨a, b⟩ := okw x y hy
            exact ⟨RectFields.ext e y.fields a, b⟩
        obtain ⟨e1, r1, k1, _⟩ := dsExtend_ok hext r hyok.1 k hyok.2
        exact mergeLoop_ok us w okw di es h1 d1 h' d' hok (e.trans e1) r1 k1

theorem step_ok (w : W) (op : Op) (w' : W) (out : Out) (hs : step w op = .ok (w', out)) (ok : WOK w)
    (hv : Valid w op) : WOK w' ∧ HeapExt w.heap w'.heap := by
  -- every case: look the operands up, apply the `ds…_ok` of the operation, put the result back (`WOK.set`)
  cases op with
  | new d n =>
    cases hs.symm
    exact ok.set ⟨.refl _, by simp [Rect, RectField.RectFields], ⟨by simp [names], by simp⟩⟩
  | obj k ndim cols rows other refPos tag =>
    simp only [step] at hs
    split at hs
    · rename_i o r _ _
      cases hs.symm
      have e := HeapExt.snoc w.heap { kind := k, ndim := ndim, cols := cols, rows := rows, other := o, refPos := r, tag := tag }
      refine ⟨?_, e⟩
      intro i y hy
      obtain ⟨r, k⟩ := ok i y hy
      exact ⟨RectFields.ext e y.fields r, k⟩
    · simp at hs
    · simp at hs
  | add d path k val u l =>
    simp only [step] at hs
    split at hs
    · rename_i x o hx ho
      split at hs
      · simp at hs
      · rename_i x' hadd
        cases hs.symm
        obtain ⟨r, kk⟩ := ok d x hx
        obtain ⟨r', k', _⟩ := dsAdd_ok hadd r kk (hv o x ho hx)
        exact ok.set ⟨.refl _, r', k'⟩
    · simp at hs
    · simp at hs
  | addColl d path l =>
    simp only [step] at hs
    split at hs
    · simp at hs
    · rename_i x hx
      split at hs
      · simp at hs
      · rename_i x' hadd
        cases hs.symm
        obtain ⟨r, kk⟩ := ok d x hx
        obtain ⟨r', k', _⟩ := dsAddColl_ok hadd r kk
        exact ok.set ⟨.refl _, r', k'⟩
  | del d path =>
    simp only [step] at hs
    split at hs
    · simp at hs
    · rename_i x hx
      split at hs
      · simp at hs
      · rename_i x' hdel
        cases hs.symm
        obtain ⟨r, kk⟩ := ok d x hx
        obtain ⟨r', k', _⟩ := dsDel_ok hdel r kk
        exact ok.set ⟨.refl _, r', k'⟩
  | subset d idx =>
    simp only [step] at hs
    split at hs
    · simp at hs
    · rename_i x hx
      split at hs
      · simp at hs
      · rename_i h' x' hsub
        cases hs.symm
        obtain ⟨_, kk⟩ := ok d x hx
        obtain ⟨e, r', k', _⟩ := dsSubset_ok hsub kk
        exact ok.set ⟨e, r', k'⟩
  | extend d e =>
    simp only [step] at hs
    split at hs
    · rename_i x y hx hy
      split at hs
      · simp at hs
      · rename_i h' x' hext
        cases hs.symm
        obtain ⟨rx, kx⟩ := ok d x hx
        obtain ⟨ry, ky⟩ := ok e y hy
        obtain ⟨e1, r', k', _⟩ := dsExtend_ok hext rx ry kx ky
        exact ok.set ⟨e1, r', k'⟩
    · simp at hs
    · simp at hs
  | merge d es sortBy =>
    simp only [step] at hs
    split at hs
    · simp at hs
    · rename_i x hx
      split at hs
      · simp at hs
      · rename_i h1 x1 hloop
        obtain ⟨rx, kx⟩ := ok d x hx
        obtain ⟨e1, r1, k1⟩ := mergeLoop_ok w.units w ok d es w.heap x h1 x1 hloop (HeapExt.refl _) rx kx
        split at hs
        · cases hs.symm
          exact ok.set ⟨e1, r1, k1⟩
        · rename_i p
          split at hs
          · simp at hs
          · rename_i h2 x2 hsort
            cases hs.symm
            obtain ⟨e2, r2, k2, _⟩ := dsSort_ok hsort r1 k1
            exact ok.set ⟨e1.trans e2, r2, k2⟩
  | filterSubset d filters =>
    simp only [step] at hs
    split at hs
    · simp at hs
    · rename_i x hx
      split at hs
      · simp at hs
      · rename_i m hm
        split at hs
        · simp at hs
        · rename_i h' x' hsub
          cases hs.symm
          obtain ⟨_, kk⟩ := ok d x hx
          obtain ⟨e, r', k', _⟩ := dsSubset_ok hsub kk
          exact ok.set ⟨e, r', k'⟩
  | unique d path =>
    simp only [step] at hs
    split at hs
    · simp at hs
    · split at hs
      · simp at hs
      · cases hs.symm
        exact ⟨ok, HeapExt.refl _⟩
  | difference d e r ib cs co =>
    simp only [step] at hs
    split at hs
    · rename_i x y hx hy
      split at hs
      · simp at hs
      · rename_i h' z hdiff
        cases hs.symm
        exact ok.set (dsDifference_ok hdiff)
    · simp at hs
    · simp at hs

/-- a history: every operation succeeds and every `add` is handed a consistent object -/
inductive Run : W → List Op → W → Prop
  | nil (w : W) : Run w [] w
  | cons {w w1 w' : W} {op : Op} {ops : List Op} {out : Out} :
      Valid w op → step w op = .ok (w1, out) → Run w1 ops w' → Run w (op :: ops) w'

end Midgard.Dataset
