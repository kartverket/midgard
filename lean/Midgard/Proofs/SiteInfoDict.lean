/-
C18 — the dictionaries of `Model/SiteInfo.lean` seen through `dictGet?`, and the three loops that fill a
dictionary key by key (`collect`, `siteCollect`, `siteModules`) as instances of one (`fill`); then the general facts
about letter case, `splitComma`, `strip` and the key order that `Props/C18.lean` uses.  Mathlib-free.
-/
import Midgard.Model.SiteInfo
import Midgard.Proofs.Lists

namespace Midgard.SiteInfo

theorem dictGet?_dictSet {κ ν} [DecidableEq κ] (d : List (κ × ν)) (k k' : κ) (v : ν) :
    dictGet? (dictSet d k v) k' = if k = k' then some v else dictGet? d k' := by
  induction d with
  | nil => simp [dictSet, dictGet?]
  | cons q t ih =>
    obtain ⟨k0, v0⟩ := q
    simp only [dictSet]
    by_cases hq : k0 = k
    · subst hq
      by_cases hk : k0 = k' <;> simp [dictGet?, hk]
    · simp only [hq, if_false, dictGet?, ih]
      by_cases hk : k0 = k'
      · have : k ≠ k' := fun h => hq (hk.trans h.symm)
        simp [hk, this]
      · simp [hk]

theorem dictSet_find_key {κ ν} [DecidableEq κ] (P : κ → Bool) (h : List (κ × ν)) (k0 : κ) (v0 : ν) :
    (dictSet h k0 v0).find? (fun p => P p.1) =
      match h.find? (fun p => P p.1) with
      | some p => some (p.1, if p.1 = k0 then v0 else p.2)
      | none => if P k0 then some (k0, v0) else none := by
  induction h with
  | nil => by_cases hc : P k0 = true <;> simp [dictSet, hc]
  | cons p t ih =>
    obtain ⟨k', v'⟩ := p
    by_cases hk : k' = k0
    · subst hk
      by_cases hc : P k' = true
      · simp [dictSet, hc]
      · simp only [dictSet, if_true, List.find?_cons, hc]
        cases hf : List.find? (fun p => P p.1) t with
        | none => simp
        | some q =>
          have hq := List.find?_some hf
          have hne : q.1 ≠ k' := by intro e; rw [e] at hq; exact hc hq
          simp [hne]
    · by_cases hc : P k' = true
      · simp [dictSet, hk, hc]
      · simp only [dictSet, hk, if_false, List.find?_cons, hc]
        exact ih

/-- `d[k] = f(k)` for the keys of `l` in turn; the first error aborts -/
def fill {κ ν ε} [DecidableEq κ] (f : κ → Except ε ν) : List κ → List (κ × ν) → Except ε (List (κ × ν))
  | [], acc => .ok acc
  | k :: t, acc => match f k with | .error e => .error e | .ok v => fill f t (dictSet acc k v)

theorem fill_get {κ ν ε} [DecidableEq κ] {f : κ → Except ε ν} {l : List κ} {acc res : List (κ × ν)}
    (h : fill f l acc = .ok res) :
    (∀ k ∈ l, ∃ v, f k = .ok v ∧ dictGet? res k = some v) ∧ ∀ k ∉ l, dictGet? res k = dictGet? acc k := by
  induction l generalizing acc with
  | nil =>
    cases h
    exact ⟨by simp, fun _ _ => rfl⟩
  | cons a t ih =>
    simp only [fill] at h
    cases hf : f a with
    | error e => simp [hf] at h
    | ok v =>
      simp only [hf] at h
      obtain ⟨h1, h2⟩ := ih h
      constructor
      · intro k hk
        by_cases hkt : k ∈ t
        · exact h1 k hkt
        · obtain rfl : k = a := by simpa [hkt] using hk
          exact ⟨v, hf, by rw [h2 k hkt, dictGet?_dictSet, if_pos rfl]⟩
      · intro k hk
        rw [List.mem_cons, not_or] at hk
        rw [h2 k hk.2, dictGet?_dictSet, if_neg (Ne.symm hk.1)]

theorem collect_eq_fill (f : Str → Except Err Val) (l : List Str) (acc : List (Str × Val)) :
    collect f l acc = fill f l acc := by
  induction l generalizing acc with
  | nil => rfl
  | cons s t ih => simp only [collect, fill]; cases f s <;> simp [ih]

theorem siteCollect_eq_fill (f : Str → Except Err (List (Module × Val))) (l : List Str)
    (acc : List (Str × List (Module × Val))) : siteCollect f l acc = fill f l acc := by
  induction l generalizing acc with
  | nil => rfl
  | cons s t ih => simp only [siteCollect, fill]; cases f s <;> simp [ih]

theorem siteModules_eq_fill (src : Source) (sta : Str) (date : Option DateQ) (skip : Bool) (ms : List Module)
    (acc : List (Module × Val)) :
    siteModules src sta date skip ms acc =
      fill (fun m => (moduleGet m src (.text sta) (if m = .identifier then none else date)).map (pick · sta))
        (ms.filter fun m => !(skip && decide (m = .identifier))) acc := by
  induction ms generalizing acc with
  | nil => rfl
  | cons m t ih =>
    simp only [siteModules, List.filter_cons]
    by_cases hsk : (skip && decide (m = .identifier)) = true
    · simp [hsk, ih]
    · simp only [Bool.not_eq_true] at hsk
      simp only [hsk, Bool.not_false, if_true, fill, Bool.false_eq_true, if_false]
      cases moduleGet m src (.text sta) (if m = .identifier then none else date) <;> simp [Except.map, ih]

theorem module_result {m : Module} {src : Source} {st : Stations} {date : Option DateQ} {res : List (Str × Val)}
    (h : moduleGet m src st date = .ok res) (s : Str) (hs : s ∈ normStations st) :
    moduleGet1 m src (lower s) date = .ok (pick res s) := by
  rw [moduleGet, collect_eq_fill] at h
  obtain ⟨v, hv, hget⟩ := (fill_get h).1 s hs
  rw [hv, pick, hget, Option.getD_some]

theorem combined_get {src : Source} {st : Stations} {date : Option DateQ} {skip : Bool}
    {all : List (Str × List (Module × Val))}
    (hall : siteCollect (fun s => siteModules src s date skip modules []) (normStations st) [] = .ok all)
    {m : Module} (hm : (skip && decide (m = .identifier)) = false) {res : List (Str × Val)}
    (hres : moduleGet m src st (if m = .identifier then none else date) = .ok res)
    {s : Str} (hs : s ∈ normStations st) (hclean : normStations (.text s) = [s]) :
    ∃ ms, dictGet? all s = some ms ∧ dictGet? ms m = some (pick res s) := by
  rw [siteCollect_eq_fill] at hall
  obtain ⟨ms, hms, hget⟩ := (fill_get hall).1 s hs
  rw [siteModules_eq_fill] at hms
  have hmem : m ∈ modules.filter fun m => !(skip && decide (m = .identifier)) := by
    rw [List.mem_filter, hm]
    exact ⟨by cases m <;> simp [modules], rfl⟩
  obtain ⟨v, hv, hgetm⟩ := (fill_get hms).1 m hmem
  refine ⟨ms, hget, ?_⟩
  -- the module asked with the single station answers as it does within the full list
  cases hentry : moduleGet m src (.text s) (if m = .identifier then none else date) with
  | error e => simp [hentry, Except.map] at hv
  | ok entry =>
    have e1 := module_result hentry s (by rw [hclean]; simp)
    rw [module_result hres s hs] at e1
    rw [hentry] at hv
    cases hv
    rw [hgetm, Except.ok.inj e1]

theorem Source.snx_isEmpty {dd : List (Str × SnxStation)} (hne : dd ≠ []) : (Source.snx dd).isEmpty = false := by
  cases dd <;> simp_all [Source.isEmpty]

theorem Source.ssc_isEmpty {dd : List (Str × SscStation)} (hne : dd ≠ []) : (Source.ssc dd).isEmpty = false := by
  cases dd <;> simp_all [Source.isEmpty]

end Midgard.SiteInfo

namespace Midgard.Props.C18
open Midgard.SiteInfo

theorem keyLe_total (a b : Interval) : keyLe a b = true ∨ keyLe b a = true := by
  simp only [keyLe, Bool.or_eq_true, Bool.and_eq_true, decide_eq_true_eq]; omega

theorem keyLe_trans (a b c : Interval) : keyLe a b = true → keyLe b c = true → keyLe a c = true := by
  simp only [keyLe, Bool.or_eq_true, Bool.and_eq_true, decide_eq_true_eq]; omega

theorem keyLe_refl (a : Interval) : keyLe a a = true := by
  simp [keyLe]

theorem histGet_map {α β} (f : α → β) (h : History α) (d : Date) :
    histGet (h.map (fun (k, a) => (k, f a))) d = (histGet h d).map f := by
  induction h with
  | nil => rfl
  | cons p t ih =>
    obtain ⟨k, a⟩ := p
    simp only [List.map_cons, histGet]
    split <;> simp [ih]

theorem lowerC_upperC (n : Nat) : lowerC (upperC n) = lowerC n := by
  simp only [lowerC, upperC]; repeat' split
  all_goals omega

theorem lowerC_idem (n : Nat) : lowerC (lowerC n) = lowerC n := by
  simp only [lowerC]; repeat' split
  all_goals omega

theorem lower_idem (s : Str) : lower (lower s) = lower s := by
  simp [lower, List.map_map, Function.comp_def, lowerC_idem]

theorem splitComma_cons (c : Nat) (t : Str) : ∃ p ps, splitComma t = p :: ps ∧
    splitComma (c :: t) = if c = 44 then [] :: p :: ps else (c :: p) :: ps := by
  have hne : splitComma t ≠ [] := by
    cases t with
    | nil => simp [splitComma]
    | cons c' t' =>
      simp only [splitComma]
      cases splitComma t' with
      | nil => simp
      | cons p ps => simp only; split <;> simp
  obtain ⟨p, ps, hs⟩ := List.exists_cons_of_ne_nil hne
  exact ⟨p, ps, hs, by simp only [splitComma, hs]⟩

theorem splitComma_nocomma (a : Str) (h : 44 ∉ a) : splitComma a = [a] := by
  induction a with
  | nil => simp [splitComma]
  | cons c t ih =>
    rw [List.mem_cons, not_or] at h
    simp [splitComma, ih h.2, Ne.symm h.1]

theorem splitComma_append (a r : Str) (h : 44 ∉ a) : splitComma (a ++ 44 :: r) = a :: splitComma r := by
  induction a with
  | nil =>
    obtain ⟨p, ps, hs, hc⟩ := splitComma_cons 44 r
    rw [List.nil_append, hc, hs, if_pos rfl]
  | cons c t ih =>
    rw [List.mem_cons, not_or] at h
    simp [splitComma, ih h.2, Ne.symm h.1]

/-- a map of character codes that changes only codes between `A` (65) and `z` (122), into that range (`str.upper`,
`str.lower` on ASCII): it moves neither the comma (44) nor a blank -/
def LetterMap (g : Nat → Nat) : Prop := ∀ c, g c = c ∨ (65 ≤ c ∧ c ≤ 122 ∧ 65 ≤ g c ∧ g c ≤ 122)

theorem LetterMap.comma {g : Nat → Nat} (hg : LetterMap g) (c : Nat) : g c = 44 ↔ c = 44 := by
  rcases hg c with h | h
  · rw [h]
  · omega

theorem LetterMap.blank {g : Nat → Nat} (hg : LetterMap g) (c : Nat) : isBlank (g c) = isBlank c := by
  rcases hg c with h | h
  · rw [h]
  · have h1 : isBlank (g c) = false := by simp [isBlank]; omega
    have h2 : isBlank c = false := by simp [isBlank]; omega
    rw [h1, h2]

theorem letterMap_upperC : LetterMap upperC := by
  intro c
  simp only [upperC]
  split <;> omega

theorem letterMap_lowerC : LetterMap lowerC := by
  intro c
  simp only [lowerC]
  split <;> omega

theorem splitComma_map (g : Nat → Nat) (hg : ∀ c, g c = 44 ↔ c = 44) (s : Str) :
    splitComma (s.map g) = (splitComma s).map (·.map g) := by
  induction s with
  | nil => simp [splitComma]
  | cons c t ih =>
    obtain ⟨p, ps, hs, hc⟩ := splitComma_cons c t
    simp only [List.map_cons, splitComma, ih, hs]
    by_cases h : c = 44 <;> simp [h, hg]

theorem dropWhile_map_blank (g : Nat → Nat) (hg : ∀ c, isBlank (g c) = isBlank c) (s : Str) :
    (s.map g).dropWhile isBlank = (s.dropWhile isBlank).map g := by
  rw [List.dropWhile_map, show isBlank ∘ g = isBlank from funext hg]

theorem strip_map (g : Nat → Nat) (hg : ∀ c, isBlank (g c) = isBlank c) (s : Str) :
    strip (s.map g) = (strip s).map g := by
  simp only [strip, rstrip, lstrip]
  rw [dropWhile_map_blank g hg, ← List.map_reverse, dropWhile_map_blank g hg, List.map_reverse]

theorem rstrip_idem (s : Str) : rstrip (rstrip s) = rstrip s := by
  simp [rstrip, Lists.dropWhile_twice]

theorem rstrip_prefix (u : Str) : rstrip u <+: u := by
  have h : (u.reverse.dropWhile isBlank) <:+ u.reverse := List.dropWhile_suffix _
  have := List.reverse_prefix.2 h
  simpa [rstrip] using this

theorem lstrip_head (s : Str) : ∀ a, (lstrip s).head? = some a → isBlank a = false := by
  intro a ha
  have := List.head?_dropWhile_not isBlank s
  simp only [lstrip] at ha
  rw [ha] at this
  simpa using this

theorem lstrip_of_prefix (w u : Str) (hp : w <+: u) (hu : ∀ a, u.head? = some a → isBlank a = false) :
    lstrip w = w := by
  cases w with
  | nil => simp [lstrip]
  | cons a w' =>
    obtain ⟨r, hr⟩ := hp
    have : u.head? = some a := by rw [← hr]; simp
    simp [lstrip, hu a this]

theorem splitComma_pieces (s : Str) : ∀ p ∈ splitComma s, 44 ∉ p := by
  induction s with
  | nil => simp [splitComma]
  | cons c t ih =>
    obtain ⟨q, qs, hs, hc⟩ := splitComma_cons c t
    rw [hs] at ih
    rw [hc]
    intro p hp
    by_cases h44 : c = 44
    · rw [if_pos h44] at hp
      rcases List.mem_cons.1 hp with rfl | h
      · simp
      · exact ih p h
    · rw [if_neg h44] at hp
      rcases List.mem_cons.1 hp with rfl | h
      · simpa [Ne.symm h44] using ih q (by simp)
      · exact ih p (List.mem_cons_of_mem _ h)

theorem strip_subset (q : Str) : ∀ c ∈ strip q, c ∈ q := by
  intro c hc
  have h1 : c ∈ lstrip q := (rstrip_prefix (lstrip q)).subset hc
  exact (List.dropWhile_suffix isBlank).subset h1

theorem text_recase (g : Nat → Nat) (hg : LetterMap g) (hl : ∀ c, lowerC (g c) = lowerC c) (s : Str) :
    normStations (.text (s.map g)) = normStations (.text s) := by
  simp only [normStations]
  rw [splitComma_map g hg.comma]
  simp only [List.map_map, Function.comp_def]
  congr 1
  funext p
  rw [strip_map g hg.blank]
  simp [lower, List.map_map, Function.comp_def, hl]

end Midgard.Props.C18

#print axioms Midgard.Props.C18.keyLe_total
#print axioms Midgard.Props.C18.keyLe_trans
#print axioms Midgard.Props.C18.keyLe_refl
#print axioms Midgard.Props.C18.lowerC_upperC
#print axioms Midgard.Props.C18.lowerC_idem
#print axioms Midgard.Props.C18.lower_idem
#print axioms Midgard.Props.C18.splitComma_cons
#print axioms Midgard.Props.C18.splitComma_nocomma
#print axioms Midgard.Props.C18.splitComma_append
#print axioms Midgard.Props.C18.splitComma_map
#print axioms Midgard.Props.C18.dropWhile_map_blank
#print axioms Midgard.Props.C18.strip_map
#print axioms Midgard.Props.C18.rstrip_idem
#print axioms Midgard.Props.C18.rstrip_prefix
#print axioms Midgard.Props.C18.lstrip_head
#print axioms Midgard.Props.C18.lstrip_of_prefix
#print axioms Midgard.Props.C18.splitComma_pieces
#print axioms Midgard.Props.C18.strip_subset
#print axioms Midgard.Props.C18.histGet_map
#print axioms Midgard.Props.C18.LetterMap.comma
#print axioms Midgard.Props.C18.LetterMap.blank
#print axioms Midgard.Props.C18.letterMap_upperC
#print axioms Midgard.Props.C18.letterMap_lowerC
#print axioms Midgard.Props.C18.text_recase
