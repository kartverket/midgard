/-
RINEX 2 observation lines as text.  The line is read in two ways because the parser strips it first: the values are stripped
fixed-column slices, and those are the same on the stripped line (`slice_renderA_rstrip`), so `FixedCol` gives them; the label
heuristic and the end marker test single columns, which `rstrip` may have removed, so for them the line is laid out as
16-column blocks (`obsLine_flat`, `obsLine_get`) and a column is followed to the visible character that protects it.
-/
import Midgard.Proofs.Rinex2ObsEpoch
import Midgard.Proofs.RinexObsCells

namespace Midgard.Spec.Rinex2ObsFile
open Midgard.Text Midgard.FixedCol Midgard.Decimal Midgard.ChainParser Midgard.RinexObs Midgard.Rinex2Obs
open Midgard.Spec.Rinex (renderCells obs2 obsLayout obsTriple obsAligns renderRecord)
open Midgard.Spec.Rinex3ObsFile (NoNl Obs Cell Style styled numChar numText)

def obsCells (c : List Obs) : List Str := c.flatMap fun o => [o.value.text, o.lli.text, o.ssi.text]

def obsLine (c : List Obs) : Str := renderCells (obs2 c.length) (obsCells c)

theorem obsCells_length (c : List Obs) : (obsCells c).length = 3 * c.length :=
  Lists.length_flatMap_three _ _ fun _ => rfl

theorem obs2_cells (m : Nat) (cells : List Str) (hlen : cells.length = 3 * m)
    (hf : Fits (obs2 m).layout ((obs2 m).aligns.zip cells) = true) :
    (obs2 m).layout.map (fun g => FixedCol.slice g (rstrip (renderCells (obs2 m) cells))) = cells := by
  have hs : Sorted (obs2 m).layout = true := Records.sortedFrom_obsLayout (Nat.le_refl 0) m
  have hal : (obs2 m).aligns.length = 3 * m := Records.length_obsAligns m
  have h := slice_renderA_rstrip (obs2 m).layout ((obs2 m).aligns.zip cells) hs hf
  rwa [List.map_snd_zip (by omega)] at h

theorem obsLine_eq (c : List Obs) (h : c.length ≤ 5) :
    (renderRecord "OBS2" (c.flatMap fun o => [o.value.text, o.lli.text, o.ssi.text])).getD [] = obsLine c := by
  have hl := obsCells_length c
  unfold obsCells at hl
  have h1 : (c.flatMap fun o => [o.value.text, o.lli.text, o.ssi.text]).length % 3 = 0 := by rw [hl]; omega
  have h2 : (c.flatMap fun o => [o.value.text, o.lli.text, o.ssi.text]).length ≤ 15 := by rw [hl]; omega
  have h3 : (c.flatMap fun o => [o.value.text, o.lli.text, o.ssi.text]).length / 3 = c.length := by rw [hl]; omega
  simp only [renderRecord, String.reduceEq, if_false, if_true]
  rw [if_pos ⟨h1, h2⟩, h3]
  rfl

theorem triple_slices2' (line : Str) (j : Nat) :
    let w := ljust 16 (Text.slice (16 * j) (16 * j + 16) line)
    [strip (Text.slice 0 14 w), strip (Text.slice 14 15 w), strip (Text.slice 15 16 w)] =
      (obsTriple j (0 + 16 * j)).map (fun g => FixedCol.slice g line) := by
  have e : ∀ a, a ≤ 16 → min (16 * j + a) (16 * j + 16) = 16 * j + a := fun a h => by omega
  simp only [obsTriple, List.map_cons, List.map_nil, FixedCol.slice, sliceRaw, strip_slice_ljust, slice_slice, Nat.zero_add,
    Nat.add_zero, e 14 (by decide), e 15 (by decide), e 16 (by decide)]

theorem field_some (line : Str) (j : Nat) (o : Obs) (ho : o.wf = true)
    (h : (obsTriple j (0 + 16 * j)).map (fun g => FixedCol.slice g line) = [o.value.text, o.lli.text, o.ssi.text]) :
    tripleOf (Text.slice (16 * j) (16 * j + 16) line) = .ok (o.value.val, o.lli.val, o.ssi.val) := by
  have hs := triple_slices2' line j
  simp only at hs
  rw [h] at hs
  simp only [List.cons.injEq, and_true] at hs
  obtain ⟨h1, h2, h3⟩ := hs
  simp only [Obs.wf, Bool.and_eq_true] at ho
  unfold tripleOf
  simp only
  rw [← floatOpt_strip (Text.slice 0 14 _), ← floatOpt_strip (Text.slice 14 15 _), ← floatOpt_strip (Text.slice 15 16 _), h1, h2, h3,
    floatOpt_cell ho.1.1, floatOpt_cell ho.1.2, floatOpt_cell ho.2]
  rfl

theorem field_none (line : Str) (j : Nat) (hlen : line.length ≤ 16 * j) :
    tripleOf (Text.slice (16 * j) (16 * j + 16) line) = .ok none3 := by
  have he : Text.slice (16 * j) (16 * j + 16) line = [] := by
    unfold Text.slice
    apply List.drop_eq_nil_of_le
    simp; omega
  unfold tripleOf
  rw [he]
  have hb : ∀ a b, floatOpt (Text.slice a b (ljust 16 [])) = .ok none := by
    intro a b
    have : isBlank (Text.slice a b (ljust 16 [])) = true := isBlank_slice (by rw [ljust_nil]; exact isBlank_blanks 16) a b
    simp [floatOpt, this, pure, Except.pure]
  simp only [hb, bind, Except.bind, pure, Except.pure]
  rfl

/-- a line holds at most five observations: the layouts `obs2 0 … obs2 5` -/
theorem obs2_sorted : (List.range 6).all (fun m => Sorted (obs2 m).layout && Within (16 * m) (obs2 m).layout) = true := by
  decide +kernel

theorem obsLine_fits (c : List Obs) (h : c.all Obs.wf = true) :
    Fits (obs2 c.length).layout ((obs2 c.length).aligns.zip (obsCells c)) = true := by
  show Fits (obsLayout 0 c.length) ((obsAligns c.length).zip (obsCells c)) = true
  rw [Records.obsLayout_eq, Records.obsAligns_eq]
  exact triples_fit 0 0 c h

theorem obsLine_slices (c : List Obs) (hm : c.length ≤ 5) (h : c.all Obs.wf = true) :
    (obs2 c.length).layout.map (fun g => FixedCol.slice g (rstrip (obsLine c))) = obsCells c ∧ (rstrip (obsLine c)).length ≤ 16 * c.length := by
  have hs := List.all_eq_true.mp obs2_sorted c.length (List.mem_range.mpr (by omega))
  simp only [Bool.and_eq_true] at hs
  have hf := obsLine_fits c h
  refine ⟨obs2_cells c.length (obsCells c) (obsCells_length c) hf, ?_⟩
  have h1 := length_rstrip_le (obsLine c)
  have h2 : (obsLine c).length ≤ 16 * c.length := renderA_length_le hs.1 hf hs.2
  omega

/-- two `flatMap`s of blocks of three that are equal are equal block by block -/
theorem flat3_get (F : Nat → List Str) (G : Obs → List Str) (hF : ∀ k, (F k).length = 3) (hG : ∀ o, (G o).length = 3) :
    ∀ (c : List Obs) (base : Nat), (List.range' base c.length).flatMap F = c.flatMap G →
      ∀ j o, c[j]? = some o → F (base + j) = G o := by
  intro c
  induction c with
  | nil => intro base _ j o h; simp at h
  | cons o0 os ih =>
    intro base h j o hj
    simp only [List.length_cons, List.range'_succ, List.flatMap_cons] at h
    have := List.append_inj h (by rw [hF, hG])
    cases j with
    | zero =>
      simp only [List.getElem?_cons_zero, Option.some.injEq] at hj
      subst hj
      simpa using this.1
    | succ j =>
      simp only [List.getElem?_cons_succ] at hj
      have := ih (base + 1) this.2 j o hj
      rw [← this]; congr 1; omega

def tripleAt (c : List Obs) (j : Nat) : Triple :=
  match c[j]? with
  | some o => (o.value.val, o.lli.val, o.ssi.val)
  | none => none3

theorem pad5_eq (c : List Obs) (h : c.length ≤ 5) : pad5 (triples c) = (List.range 5).map (tripleAt c) := by
  match c, h with
  | [], _ => rfl
  | [_], _ => rfl
  | [_, _], _ => rfl
  | [_, _, _], _ => rfl
  | [_, _, _, _], _ => rfl
  | [_, _, _, _, _], _ => rfl
  | _ :: _ :: _ :: _ :: _ :: _ :: _, h => simp at h

def epochDef : LabelDef := ⟨"False", "_parse_observation_epoch", .newline,
      [⟨"year", 0, 3⟩, ⟨"month", 3, 6⟩, ⟨"day", 6, 9⟩, ⟨"hour", 9, 12⟩, ⟨"minute", 12, 15⟩, ⟨"second", 15, 26⟩,
       ⟨"epoch_flag", 26, 29⟩, ⟨"num_sat", 29, 32⟩, ⟨"sat_list", 32, 68⟩, ⟨"rcv_clk_offset", 68, 80⟩], []⟩

def obsDef : LabelDef := ⟨"True", "_parse_observation", .newline,
        [⟨"obs_1", 0, 16⟩, ⟨"obs_2", 16, 32⟩, ⟨"obs_3", 32, 48⟩, ⟨"obs_4", 48, 64⟩, ⟨"obs_5", 64, 80⟩], []⟩

def obsNames : List String := ["obs_1", "obs_2", "obs_3", "obs_4", "obs_5"]

theorem obsNames_facts : obsNames.all (named "obs_") = true ∧ keysSorted obsNames = true := by decide +kernel

theorem obsLine_chars (c : List Obs) (h : c.all Obs.wf = true) : ∀ x ∈ obsLine c, x = ' ' ∨ numChar x = true :=
  obs_chars _ 0 _ c h

theorem nonl_obsLine (c : List Obs) (h : c.all Obs.wf = true) : NoNl (obsLine c) := by
  intro x hx
  rcases obsLine_chars c h x hx with rfl | hn
  · decide
  · exact visible_ne_nl (numChar_not_space hn)

theorem obs_text_values (st : Style) (c : List Obs) (hm : c.length ≤ 5) (h : c.all Obs.wf = true) :
    (fieldsWithPrefix (obsDef.values (rstrip (styled st (obsLine c)))) "obs_").mapM (fun f => tripleOf f.2) =
      .ok (pad5 (triples c)) := by
  rw [rstrip_styled]
  obtain ⟨hall, hlen⟩ := obsLine_slices c hm h
  have hnl : NoNl (rstrip (obsLine c)) := fun x hx => nonl_obsLine c h x (mem_rstrip hx)
  generalize rstrip (obsLine c) = line at hall hlen hnl
  have hv : obsDef.values line =
      obsNames.zip [Text.slice (16 * 0) (16 * 0 + 16) line, Text.slice (16 * 1) (16 * 1 + 16) line,
        Text.slice (16 * 2) (16 * 2 + 16) line, Text.slice (16 * 3) (16 * 3 + 16) line, Text.slice (16 * 4) (16 * 4 + 16) line] := by
    rw [values_newline obsDef rfl line hnl]
    rfl
  rw [hv, fieldsWithPrefix_zip "obs_" obsNames _ obsNames_facts.1 obsNames_facts.2]
  have hflat : (List.range' 0 c.length).flatMap (fun k => (obsTriple k (0 + 16 * k)).map fun g => FixedCol.slice g line) =
      c.flatMap fun o => [o.value.text, o.lli.text, o.ssi.text] := by
    rw [show (obs2 c.length).layout = _ from Records.obsLayout_eq 0 c.length, List.map_flatMap] at hall
    exact hall
  have hget := flat3_get (fun k => (obsTriple k (0 + 16 * k)).map fun g => FixedCol.slice g line)
    (fun o => [o.value.text, o.lli.text, o.ssi.text]) (fun k => by simp [obsTriple]) (fun o => rfl) c 0 hflat
  have hT : ∀ j, tripleOf (Text.slice (16 * j) (16 * j + 16) line) = .ok (tripleAt c j) := by
    intro j
    unfold tripleAt
    cases hj : c[j]? with
    | some o =>
      have ho : o.wf = true := List.all_eq_true.mp h o (List.mem_of_getElem? hj)
      have := hget j o hj
      have e0 : 0 + j = j := Nat.zero_add j
      rw [e0] at this
      exact field_some line j o ho this
    | none =>
      have : c.length ≤ j := by simpa using hj
      exact field_none line j (by have := Nat.mul_le_mul_left 16 this; omega)
  rw [pad5_eq c hm]
  simp only [obsNames, List.zip_cons_cons, List.zip_nil_right, List.mapM_cons, List.mapM_nil, hT, bind, Except.bind, pure, Except.pure]
  rfl

theorem charAt_get (l : Str) (i : Nat) : charAt l i = l[i]? := by
  unfold charAt Text.slice
  rw [List.head?_drop, List.getElem?_take]
  simp

def field16 (o : Obs) : Str := rjust 14 o.value.text ++ (ljust 1 o.lli.text ++ ljust 1 o.ssi.text)

theorem field16_length (o : Obs) (h : o.wf = true) : (field16 o).length = 16 := by
  simp only [Obs.wf, Bool.and_eq_true] at h
  have v := (cell_fits h.1.1).1
  have l := (cell_fits h.1.2).1
  have s := (cell_fits h.2).1
  simp [field16, length_rjust v, length_ljust l, length_ljust s]

theorem render_triple (k : Nat) (o : Obs) (L : Layout) (cs : List (Align × Str)) :
    renderFrom (16 * k) (obsTriple k (0 + 16 * k) ++ L)
      ((Align.right, o.value.text) :: (Align.left, o.lli.text) :: (Align.left, o.ssi.text) :: cs) =
    field16 o ++ renderFrom (16 * (k + 1)) L cs := by
  have e : 0 + 16 * k + 15 + 1 = 16 * (k + 1) := by omega
  simp only [obsTriple, List.cons_append, List.nil_append, renderFrom, Field.width, pad, field16, Nat.zero_add, Nat.sub_self,
    Nat.add_sub_cancel_left, Nat.add_sub_add_left, Nat.reduceSub, blanks, List.replicate_zero, List.append_assoc, e]
  rfl

theorem render_blocks : ∀ (os : List Obs) (k : Nat),
    renderFrom (16 * k) ((List.range' k os.length).flatMap fun j => obsTriple j (0 + 16 * j))
      (((List.range' k os.length).flatMap fun _ => [Spec.Rinex.R, Spec.Rinex.L, Spec.Rinex.L]).zip
        (os.flatMap fun o => [o.value.text, o.lli.text, o.ssi.text])) = (os.map field16).flatten := by
  intro os
  induction os with
  | nil => intro k; rfl
  | cons o os ih =>
    intro k
    rw [List.length_cons, List.range'_succ, List.flatMap_cons, List.flatMap_cons, List.flatMap_cons, List.map_cons,
      List.flatten_cons, ← ih (k + 1)]
    exact render_triple k o _ _

theorem obsLine_flat (c : List Obs) : obsLine c = (c.map field16).flatten := by
  show renderFrom 0 (obsLayout 0 c.length) ((obsAligns c.length).zip (obsCells c)) = _
  rw [Records.obsLayout_eq, Records.obsAligns_eq]
  exact render_blocks c 0

def ChunkOk (c : List Obs) : Prop := c.all Obs.wf = true ∧ c.all obsShape = true

theorem obsLine_noalpha (c : List Obs) (h : c.all Obs.wf = true) (l : Str) (hl : ∀ x ∈ l, x ∈ obsLine c) (i : Nat) :
    alphaAt l i = false := by
  unfold alphaAt
  rw [charAt_get]
  cases hx : l[i]? with
  | none => rfl
  | some x =>
    have hm : x ∈ l := List.mem_of_getElem? hx
    rcases obsLine_chars c h x (hl x hm) with rfl | hn
    · rfl
    · simpa using numChar_not_alpha hn

/-- in a right-aligned number a digit is never followed by a blank: if column `i` of the field holds a digit, column
`i + 1` (still inside the field) holds a visible character of the number -/
theorem rjust_digit_next (w : Nat) (v : Str) (hv : numText v = true) (hl : v.length ≤ w) (i : Nat) (hi : i + 1 < w) (d : Char)
    (hd : (rjust w v)[i]? = some d) (hdig : isDigit d = true) :
    ∃ y, (rjust w v)[i + 1]? = some y ∧ isSpace y = false := by
  have hge : w - v.length ≤ i := by
    rcases Nat.lt_or_ge i (w - v.length) with hh | hh
    · rw [rjust_get_blank w v i hh] at hd
      simp only [Option.some.injEq] at hd
      exact absurd hd.symm (visible_ne_blank (isSpace_of_isDigit hdig))
    · exact hh
  have hidx : i + 1 - (w - v.length) < v.length := by omega
  refine ⟨v[i + 1 - (w - v.length)], ?_, numText_visible hv (List.getElem_mem _)⟩
  rw [rjust_get_text w v (i + 1) (by omega)]
  exact List.getElem?_eq_getElem hidx

theorem field16_get_value (o : Obs) (h : o.wf = true) (i : Nat) (hi : i < 14) : (field16 o)[i]? = (rjust 14 o.value.text)[i]? := by
  simp only [Obs.wf, Bool.and_eq_true] at h
  have v := (cell_fits h.1.1).1
  unfold field16
  rw [List.getElem?_append_left (by rw [length_rjust v]; exact hi)]

theorem obs_value_num (o : Obs) (h : o.wf = true) : numText o.value.text = true ∧ o.value.text.length ≤ 14 := by
  simp only [Obs.wf, Cell.wf, Bool.and_eq_true, decide_eq_true_eq] at h
  exact ⟨h.1.1.1.1, h.1.1.1.2⟩

theorem obsLine_get (c : List Obs) (h : c.all Obs.wf = true) (k i : Nat) (hi : i < 16) :
    (obsLine c)[16 * k + i]? = (c[k]?).bind fun o => (field16 o)[i]? := by
  rw [obsLine_flat, flatten_get_blockW 16 _ (by
    intro b hb
    simp only [List.mem_map] at hb
    obtain ⟨o, ho, rfl⟩ := hb
    exact field16_length o (List.all_eq_true.mp h o ho)) k i hi]
  simp only [List.getElem?_map]
  cases c[k]? <;> rfl

theorem obsLine_digit_next (c : List Obs) (h : c.all Obs.wf = true) (k i : Nat) (hi : i + 1 < 14) (d : Char)
    (hd : (obsLine c)[16 * k + i]? = some d) (hdig : isDigit d = true) :
    ∃ y, (obsLine c)[16 * k + (i + 1)]? = some y ∧ isSpace y = false := by
  rw [obsLine_get c h k i (by omega)] at hd
  rw [obsLine_get c h k (i + 1) (by omega)]
  cases hk : c[k]? with
  | none => rw [hk] at hd; simp at hd
  | some o =>
    rw [hk] at hd
    simp only [Option.bind_some] at hd ⊢
    have ho : o.wf = true := List.all_eq_true.mp h o (List.mem_of_getElem? hk)
    rw [field16_get_value o ho i (by omega)] at hd
    rw [field16_get_value o ho (i + 1) (by omega)]
    obtain ⟨hn, hl⟩ := obs_value_num o ho
    exact rjust_digit_next 14 _ hn hl i (by omega) d hd hdig

theorem digitAt_get (l : Str) (i : Nat) (h : digitAt l i = true) : ∃ d, l[i]? = some d ∧ isDigit d = true := by
  unfold digitAt at h
  rw [charAt_get] at h
  cases hx : l[i]? with
  | none => rw [hx] at h; simp at h
  | some d => rw [hx] at h; exact ⟨d, rfl, by simpa using h⟩

/-- condition 3 of the label heuristic never fires on an observation line: a digit in column 35 is not followed by a
blank or the end of the line -/
theorem obs_cond3 (c : List Obs) (h : c.all Obs.wf = true) :
    (digitAt (rstrip (obsLine c)) 34 && blankOrEndAt (rstrip (obsLine c)) 35) = false := by
  cases hdg : digitAt (rstrip (obsLine c)) 34 with
  | false => rfl
  | true =>
    obtain ⟨d, hd, hdig⟩ := digitAt_get _ _ hdg
    have hd' := get_rstrip_some hd
    obtain ⟨y, hy, hys⟩ := obsLine_digit_next c h 2 2 (by omega) d hd' hdig
    have hy' := get_rstrip_of_visible hy hys
    simp only [Bool.true_and]
    unfold blankOrEndAt
    rw [slice_one]
    have e35 : 16 * 2 + (2 + 1) = 35 := rfl
    rw [e35] at hy'
    rw [hy']
    simp [isBlank, hys]

/-- condition 1 of the label heuristic: the decimal point of the first value stands in column 11, or the first 16
columns are blank -/
theorem obs_cond1 (o1 : Obs) (rest : List Obs) (h : (o1 :: rest).all Obs.wf = true) (hs : obsShape o1 = true)
    (hnb : rstrip (obsLine (o1 :: rest)) ≠ []) :
    (charAt (rstrip (obsLine (o1 :: rest))) 10 = some '.' || pyIsSpace (Text.slice 0 16 (rstrip (obsLine (o1 :: rest))))) = true := by
  have ho : o1.wf = true := by simp only [List.all_cons, Bool.and_eq_true] at h; exact h.1
  obtain ⟨hn, hl⟩ := obs_value_num o1 ho
  unfold obsShape at hs
  cases hv : o1.value.text.isEmpty with
  | false =>
    rw [hv] at hs
    simp only [Bool.false_eq_true, if_false, dot3, Bool.and_eq_true, decide_eq_true_eq, beq_iff_eq] at hs
    have hget : (obsLine (o1 :: rest))[10]? = some '.' := by
      have := obsLine_get (o1 :: rest) h 0 10 (by omega)
      simp only [Nat.mul_zero, Nat.zero_add, List.getElem?_cons_zero, Option.bind_some] at this
      rw [this, field16_get_value o1 ho 10 (by omega), rjust_get_text 14 _ 10 (by omega)]
      have : 10 - (14 - o1.value.text.length) = o1.value.text.length - 4 := by omega
      rw [this]; exact hs.2
    have := get_rstrip_of_visible hget (by decide)
    rw [charAt_get, this]
    rfl
  | true =>
    rw [hv] at hs
    simp only [if_true, Bool.and_eq_true, List.isEmpty_iff] at hs
    have hve : o1.value.text = [] := List.isEmpty_iff.mp hv
    have hf : field16 o1 = blanks 16 := by
      rw [field16, hve, hs.1, hs.2, rjust_nil, ljust_nil, ← blanks_add, ← blanks_add]
    have hline : obsLine (o1 :: rest) = blanks 16 ++ (rest.map field16).flatten := by
      rw [obsLine_flat]; simp [hf]
    rw [hline] at hnb ⊢
    have hr := rstrip_blank_append _ _ (isBlank_blanks 16) hnb
    rw [rstrip_append_visible _ _ hr]
    have hsl : Text.slice 0 16 (blanks 16 ++ rstrip (rest.map field16).flatten) = blanks 16 := by
      have := slice_prefix (blanks 16) (rstrip (rest.map field16).flatten)
      rwa [length_blanks] at this
    rw [hsl]
    have hp : pyIsSpace (blanks 16) = true := by decide
    rw [hp, Bool.or_true]

theorem obs_label (c : List Obs) (h : c.all Obs.wf = true) (hs : c.all obsShape = true) (hnb : rstrip (obsLine c) ≠ []) :
    obsLabel (rstrip (obsLine c)) = "True" := by
  cases c with
  | nil => exact absurd (by decide) hnb
  | cons o1 rest =>
    have h1 := obs_cond1 o1 rest h (by simp only [List.all_cons, Bool.and_eq_true] at hs; exact hs.1) hnb
    have h3 := obs_cond3 (o1 :: rest) h
    have ha : ∀ i, alphaAt (rstrip (obsLine (o1 :: rest))) i = false :=
      fun i => obsLine_noalpha (o1 :: rest) h _ (fun x hx => mem_rstrip hx) i
    unfold obsLabel
    rw [h1, h3, ha 32, ha 60]
    rfl

theorem records_def : Midgard.Generated.Rinex2ObsCols.records.find? (·.label == "True") = some obsDef ∧
    Midgard.Generated.Rinex2ObsCols.records.find? (·.label == "False") = some epochDef := by decide +kernel

theorem obsParser_label (l : Str) (n : Nat) : obsParser.label l n = obsLabel l := by simp only [obsParser]

theorem parseLine_num (l : Str) (n : Nat) (s : State) : parseLine obsParser l n s = parseLine obsParser l 0 s := by
  unfold parseLine
  rw [obsParser_label, obsParser_label]

theorem parseLine_true (line : Str) (n : Nat) (s : State) (h : obsLabel (rstrip line) = "True") :
    parseLine obsParser line n s = parseObservation (obsDef.values line) s := by
  have hd : obsParser.defs.find? (·.label == obsParser.label (rstrip line) n) = some obsDef := by
    rw [obsParser_label, h]; exact records_def.1
  rw [parseLine_found obsParser line n s obsDef rfl hd]
  simp only [obsParser, obsDef, handle, String.reduceEq, if_false, if_true]

theorem parseLine_false (line : Str) (n : Nat) (s : State) (h : obsLabel (rstrip line) = "False") :
    parseLine obsParser line n s = parseObservationEpoch (epochDef.values line) s := by
  have hd : obsParser.defs.find? (·.label == obsParser.label (rstrip line) n) = some epochDef := by
    rw [obsParser_label, h]; exact records_def.2
  rw [parseLine_found obsParser line n s epochDef rfl hd]
  simp only [obsParser, epochDef, handle, String.reduceEq, if_false, if_true]

/-- an all-blank line (empty after `read_data`'s `rstrip`) reaches `_parse_observation_epoch`, which hands it to
`_parse_observation` with five blank fields as long as satellites of the epoch are outstanding -/
theorem blank_line_fx (s : State) :
    parseObservationEpoch (epochDef.values []) s =
      if s.cache.satList.getD [] = [] then .ok s else parseObservation (obsDef.values []) s := by
  by_cases h : s.cache.satList.getD [] = []
  · simp [epochDef, parseObservationEpoch, LabelDef.values, getv, Values.get, req, StripOpt.apply,
      stripChars, sliceRaw, Text.slice, strip, lstrip, rstrip, isNumeric, isBlank, h, bind, Except.bind, pure, Except.pure]
  · simp [epochDef, obsDef, blankObsValues, parseObservationEpoch, LabelDef.values, getv, Values.get, req, StripOpt.apply,
      stripChars, sliceRaw, Text.slice, strip, lstrip, rstrip, isNumeric, isBlank, h, bind, Except.bind, pure, Except.pure]

theorem label_nil : obsLabel (rstrip []) = "False" := by decide +kernel

/-- a rendered observation line (1 to 5 observations, any style) reaches `_parse_observation` with its five fields — also when
it is all blank, unless no satellite of the epoch is outstanding -/
theorem obs_line_parse (st : Style) (c : List Obs) (h : c.all Obs.wf = true) (hs : c.all obsShape = true) (n : Nat) (s : State) :
    parseLine obsParser (rstrip (styled st (obsLine c))) n s =
      if rstrip (obsLine c) = [] ∧ s.cache.satList.getD [] = [] then .ok s
      else parseObservation (obsDef.values (rstrip (obsLine c))) s := by
  rw [rstrip_styled]
  by_cases hnb : rstrip (obsLine c) = []
  · rw [hnb, parseLine_false [] n s label_nil, blank_line_fx]
    simp only [true_and]
  · rw [if_neg (fun hh => hnb hh.1), parseLine_true _ n s (by rw [rstrip_idem]; exact obs_label c h hs hnb)]

/-- **one observation line** of a kept epoch with satellites outstanding — a line with 1 to 5 observations, as formatted,
right-stripped or filled to 80 columns, all blank or not — adds its five fields (missing ones absent) to the values of the
satellite being read -/
theorem obs_line_fx (st : Style) (c : List Obs) (hm : c.length ≤ 5) (h : c.all Obs.wf = true) (hs : c.all obsShape = true)
    (n : Nat) (s : State) (e : EpochInfo) (q : Rat) (he : s.cache.epoch = some e) (hq : e.obsSec = some q)
    (hsat : (s.cache.satList.getD []) ≠ []) :
    parseLine obsParser (rstrip (styled st (obsLine c))) n s = lineFx e (pad5 (triples c)) s := by
  have hvals := obs_text_values st c hm h
  rw [rstrip_styled] at hvals
  rw [obs_line_parse st c h hs, if_neg (fun hh => hsat hh.2)]
  exact parseObservation_five _ s e q _ he hq hvals

/-- … and of a decimated epoch nothing -/
theorem obs_line_skip (st : Style) (c : List Obs) (h : c.all Obs.wf = true) (hs : c.all obsShape = true)
    (n : Nat) (s : State) (e : EpochInfo) (he : s.cache.epoch = some e) (hq : e.obsSec = none) :
    parseLine obsParser (rstrip (styled st (obsLine c))) n s = .ok s := by
  rw [obs_line_parse st c h hs]
  split
  · rfl
  · simp [parseObservation, he, hq, req, bind, Except.bind, pure, Except.pure]

/-- `ChainParser.runLines obsParser` written out: Props `sat_lines2`, `block_run2'` are stated with it, the lemmas here with
`runLines` -/
def runObs (ls : List Str) (s : State) : Except Err State :=
  ls.foldlM (fun s l => parseLine obsParser (rstrip l) 0 s) s

theorem sat_lines_run (st : Style) (types : List Str) (m : Str) (e : EpochInfo) (q : Rat) (hq : e.obsSec = some q) (obs : List Obs)
    (hl : types.length = obs.length) (hpos : obs ≠ []) (hwf : obs.all Obs.wf = true) (hsh : obs.all obsShape = true)
    (s : State) (he : s.cache.epoch = some e) (sat : Str) (rest : List Str) (hs : s.cache.satList = some (sat :: rest))
    (hne : sat ≠ []) (num : Int) (hnum : pyInt (sat.drop 1) = .ok num) (hc : SatCtx types m s) (h0 : Holds [] s) :
    runLines obsParser ((chunks 5 obs.length obs).map fun c => styled st (obsLine c)) s =
      match rowData s.data types obs e (lower m) sat num with
      | .ok d => .ok (doneSat s d rest)
      | .error err => .error err := by
  rw [runLines, List.foldlM_map]
  refine sat_chunks (val := fun o => (o.value.val, o.lli.val, o.ssi.val)) (R := fun o => o.wf = true ∧ obsShape o = true)
    (Q := fun s => s.cache.epoch = some e) (step := fun c s => parseLine obsParser (rstrip (styled st (obsLine c))) 0 s)
    types m e obs hl sat rest hne num hnum (hQ := fun _ _ _ _ h => h) (hstep := ?_) _ obs [] s (Nat.le_refl _) hpos
    (fun o ho => ⟨List.all_eq_true.mp hwf o ho, List.all_eq_true.mp hsh o ho⟩) rfl h0 he hs hc
  intro c s hc5 hR hes hss
  exact obs_line_fx st c hc5 (List.all_eq_true.mpr fun o ho => (hR o ho).1) (List.all_eq_true.mpr fun o ho => (hR o ho).2)
    0 s e q hes hq (by rw [hss]; simp)

end Midgard.Spec.Rinex2ObsFile
