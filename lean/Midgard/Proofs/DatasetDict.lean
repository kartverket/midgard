/-
C09 — the dict of fields of a collection (`Collection._fields`): `getField`, `setField` (`dict[name] = field`: an existing key keeps
its position, a new one goes last), `delField` and the list of keys `names`; what they do to membership and to the uniqueness
of the keys.
-/
import Midgard.Model.Dataset

namespace Midgard.Dataset

theorem getField_some : ∀ {fs : List Field} {n : String} {f : Field}, getField fs n = some f → f ∈ fs ∧ f.name = n := by
  intro fs n f h
  simp only [getField] at h
  have h1 := List.find?_some h
  have h2 := List.mem_of_find?_eq_some h
  exact ⟨h2, by simpa using h1⟩

theorem mem_setField : ∀ {acc : List Field} {f x : Field}, x ∈ setField acc f → x = f ∨ x ∈ acc
  | [], f, x, h => by simp [setField] at h; exact Or.inl h
  | g :: gs, f, x, h => by
    simp only [setField] at h
    split at h
    · exact (List.mem_cons.mp h).imp id (List.mem_cons_of_mem _)
    · rcases List.mem_cons.mp h with h | h
      · exact Or.inr (by simp [h])
      · exact (mem_setField h).imp id (List.mem_cons_of_mem _)

theorem mem_setField_nodup : ∀ {acc : List Field} {f x : Field}, (names acc).Nodup → x ∈ setField acc f →
    x = f ∨ (x ∈ acc ∧ x.name ≠ f.name)
  | [], f, x, _, h => by simp [setField] at h; exact Or.inl h
  | g :: gs, f, x, hn, h => by
    simp only [names, List.map_cons, List.nodup_cons] at hn
    simp only [setField] at h
    split at h
    · rename_i heq
      have heq' : g.name = f.name := by simpa using heq
      rcases List.mem_cons.mp h with h | h
      · exact Or.inl h
      · refine Or.inr ⟨List.mem_cons_of_mem _ h, ?_⟩
        intro hx
        apply hn.1
        rw [heq', ← hx]
        exact List.mem_map_of_mem h
    · rename_i hne
      have hne' : g.name ≠ f.name := by simpa using hne
      rcases List.mem_cons.mp h with h | h
      · subst h; exact Or.inr ⟨by simp, hne'⟩
      · rcases mem_setField_nodup (by simpa [names] using hn.2) h with h | h
        · exact Or.inl h
        · exact Or.inr ⟨List.mem_cons_of_mem _ h.1, h.2⟩

theorem self_mem_setField : ∀ (acc : List Field) (f : Field), f ∈ setField acc f
  | [], f => by simp [setField]
  | g :: gs, f => by
    simp only [setField]
    split
    · simp
    · exact List.mem_cons_of_mem _ (self_mem_setField gs f)

theorem names_setField : ∀ (acc : List Field) (f : Field),
    names (setField acc f) = if f.name ∈ names acc then names acc else names acc ++ [f.name]
  | [], f => by simp [setField, names]
  | g :: gs, f => by
    simp only [setField]
    split
    · rename_i heq
      have heq' : g.name = f.name := by simpa using heq
      simp [names, heq']
    · rename_i hne
      have hne' : g.name ≠ f.name := by simpa using hne
      have ih := names_setField gs f
      simp only [names] at ih ⊢
      simp only [List.map_cons, ih, List.mem_cons]
      by_cases hm : f.name ∈ List.map Field.name gs
      · simp [hm]
      · simp [hm, Ne.symm hne']

theorem nodup_setField {acc : List Field} {f : Field} (hn : (names acc).Nodup) : (names (setField acc f)).Nodup := by
  rw [names_setField]
  split
  · exact hn
  · rename_i hm
    exact List.nodup_append.mpr ⟨hn, by simp, by intro a ha b hb; simp at hb; subst hb; intro he; exact hm (he ▸ ha)⟩

theorem setField_ne_nil (acc : List Field) (f : Field) : setField acc f ≠ [] := by
  cases acc with
  | nil => simp [setField]
  | cons g gs => simp only [setField]; split <;> simp

theorem names_sub_setField (acc : List Field) (f : Field) (x : String) (hx : x ∈ names acc) : x ∈ names (setField acc f) := by
  rw [names_setField]
  split
  · exact hx
  · exact List.mem_append_left _ hx

theorem mem_foldl_setField : ∀ (new acc : List Field) (x : Field), x ∈ new.foldl setField acc → x ∈ acc ∨ x ∈ new
  | [], acc, x, hx => Or.inl hx
  | f :: new, acc, x, hx => by
    simp only [List.foldl_cons] at hx
    rcases mem_foldl_setField new (setField acc f) x hx with h1 | h1
    · rcases mem_setField h1 with h2 | h2
      · exact Or.inr (by simp [h2])
      · exact Or.inl h2
    · exact Or.inr (List.mem_cons_of_mem _ h1)

theorem nodup_foldl_setField : ∀ (new acc : List Field), (names acc).Nodup → (names (new.foldl setField acc)).Nodup
  | [], _, hn => hn
  | f :: new, acc, hn => by
    simp only [List.foldl_cons]
    exact nodup_foldl_setField new (setField acc f) (nodup_setField hn)

theorem delField_sub (fs : List Field) (n : String) : ∀ c ∈ delField fs n, c ∈ fs := by
  intro c hc; simp only [delField, List.mem_filter] at hc; exact hc.1

theorem not_mem_names_delField (fs : List Field) (n : String) : n ∉ names (delField fs n) := by
  simp only [names, delField, List.mem_map, List.mem_filter]
  rintro ⟨c, ⟨_, hc⟩, rfl⟩
  simp at hc

theorem names_delField_nodup {fs : List Field} {n : String} (h : (names fs).Nodup) : (names (delField fs n)).Nodup := by
  simp only [names, delField]
  exact (List.Sublist.map Field.name List.filter_sublist).nodup h

/-- `del dict[n]; dict[n] = f`: the key goes to the end -/
theorem names_delField_append_nodup {fs : List Field} {n : String} {f : Field} (hn : (names fs).Nodup) (hf : f.name = n) :
    (names (delField fs n ++ [f])).Nodup := by
  simp only [names, List.map_append, List.map_cons, List.map_nil]
  refine List.nodup_append.mpr ⟨names_delField_nodup hn, by simp, ?_⟩
  intro a ha b hb he
  simp only [List.mem_singleton] at hb
  rw [he, hb, hf] at ha
  exact not_mem_names_delField fs n ha

theorem getField_none {fs : List Field} {n : String} (h : getField fs n = none) : n ∉ names fs := by
  simp only [getField, List.find?_eq_none] at h
  intro hin
  simp only [names, List.mem_map] at hin
  obtain ⟨c, hc, rfl⟩ := hin
  exact h c hc (by simp)

theorem getField_none_of_not_mem {fs : List Field} {n : String} (h : n ∉ names fs) : getField fs n = none := by
  simp only [getField, List.find?_eq_none]
  intro f hf hfn
  apply h
  simp only [names, List.mem_map]
  exact ⟨f, hf, by simpa using hfn⟩

end Midgard.Dataset
