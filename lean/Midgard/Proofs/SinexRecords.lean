/-
The lines of one block: records rendered into the columns of the block's table, and comment lines (`Item`,
`content`, `records`).  The data lines `parse_blocks` keeps are the records (`dataLines_content`), because a record
begins with a blank (`render_lead`); `parse_lines` is a map over the lines it keeps (`parseLines_map`).
In sinex_tms the last field ends where the longest line of the block ends.  That end column does not matter once it is
beyond the line (`cutLine_total`), so records written with or without their trailing blanks (`emit`, `RecsOk`) are cut
as if the table ended at its nominal width.
-/
import Midgard.Proofs.SinexScan
import Midgard.Proofs.FixedCol

namespace Midgard.Props.C14
open Midgard.Sinex Midgard.FixedCol Midgard.Text Midgard.Decimal

/-- the record begins with a blank: the table is not empty and its first field starts after column 0 -/
def leadOk : Layout → Bool
  | f :: _ => decide (1 ≤ f.start)
  | [] => false

theorem render_lead (L : Layout) (cells : List (Align × Str)) (hl : leadOk L = true) (hf : Fits L cells = true) :
    ∃ r, renderA L cells = ' ' :: r := by
  cases L with
  | nil => simp [leadOk] at hl
  | cons f L =>
    refine ⟨renderFrom 1 (f :: L) cells, ?_⟩
    rw [renderA, renderFrom_lead (f :: L) cells 0 1 hf (by omega) (by simpa [leadOk] using hl)]
    rfl

/-- a line inside a block: a record (texts placed in the columns of the table) or a comment line -/
inductive Item
  | record (cells : List (Align × Str))
  | comment (line : Str)

def Item.line (fs : List FieldDef) (total : Nat) : Item → Str
  | .record cells => renderA (layoutOf fs total) cells
  | .comment l => l

def Item.wf (fs : List FieldDef) (total : Nat) : Item → Prop
  | .record cells => Fits (layoutOf fs total) cells = true
  | .comment l => startsWith ['*'] l = true

instance (fs : List FieldDef) (total : Nat) (i : Item) : Decidable (i.wf fs total) := by
  cases i <;> (simp only [Item.wf]; infer_instance)

/-- the lines between `+MARKER` and `-MARKER` -/
def content (fs : List FieldDef) (total : Nat) (items : List Item) : List Str := items.map (Item.line fs total)

def records : List Item → List (List (Align × Str))
  | [] => []
  | .record c :: rest => c :: records rest
  | .comment _ :: rest => records rest

theorem dataLines_content (fs : List FieldDef) (total : Nat) (hl : leadOk (layoutOf fs total) = true) (items : List Item)
    (hwf : ∀ i ∈ items, i.wf fs total) :
    dataLines (content fs total items) = (records items).map (renderA (layoutOf fs total)) := by
  induction items with
  | nil => rfl
  | cons i rest ih =>
    have hrest := ih (fun j hj => hwf j (by simp [hj]))
    have hi := hwf i (by simp)
    cases i with
    | record cells =>
      obtain ⟨r, hr⟩ := render_lead _ cells hl hi
      have hsw : startsWith [' '] (renderA (layoutOf fs total) cells) = true := by
        rw [hr, startsWith_cons]; decide
      simp only [content, List.map_cons, Item.line, dataLines, List.filter_cons, hsw, if_true, records]
      simp only [content, dataLines] at hrest
      rw [hrest]
    | comment c =>
      have hsw : startsWith [' '] c = false := startsWith_other (by decide) hi
      simp only [content, List.map_cons, Item.line, dataLines, List.filter_cons, hsw, Bool.false_eq_true, if_false, records]
      simp only [content, dataLines] at hrest
      exact hrest

theorem records_fits (fs : List FieldDef) (total : Nat) (items : List Item) (hwf : ∀ i ∈ items, i.wf fs total) :
    ∀ c ∈ records items, Fits (layoutOf fs total) c = true := by
  induction items with
  | nil => intro c hc; simp [records] at hc
  | cons i rest ih =>
    have hrest := ih (fun j hj => hwf j (by simp [hj]))
    have hi := hwf i (by simp)
    cases i with
    | record cells =>
      intro c hc
      simp only [records, List.mem_cons] at hc
      rcases hc with rfl | hc
      · exact hi
      · exact hrest c hc
    | comment l => intro c hc; exact hrest c (by simpa [records] using hc)

theorem parseLines_map {α} (fs : List FieldDef) (total : Nat) (line : α → Str) (row : α → Row) (xs : List α)
    (hvis : ∀ x ∈ xs, (dropComment (line x)).isEmpty = false)
    (hrow : ∀ x ∈ xs, parseLine fs total (line x) = row x) :
    parseLines fs total (xs.map line) = xs.map row := by
  rw [parseLines, List.filter_eq_self.mpr (List.forall_mem_map.mpr fun x hx => by rw [hvis x hx]; rfl), List.map_map]
  exact List.map_congr_left hrow

theorem cutLine_total (fs : List FieldDef) (t t' : Nat) (line : Str) (h : line.length ≤ t) (h' : line.length ≤ t') :
    cutLine fs t line = cutLine fs t' line := by
  unfold cutLine layoutOf dropComment
  exact ofStarts_slice_total line t t' h h' _ _

theorem layoutOf_last_stop (total : Nat) : ∀ (fs : List FieldDef), fs ≠ [] →
    ((layoutOf fs total).getLast?.map (·.stop)) = some total := by
  intro fs
  induction fs with
  | nil => intro h; exact absurd rfl h
  | cons f rest ih =>
    intro _
    cases rest with
    | nil => simp [layoutOf, ofStarts]
    | cons g rest' =>
      have hcons : layoutOf (f :: g :: rest') total = ⟨f.name, f.start, g.start⟩ :: layoutOf (g :: rest') total := by
        simp [layoutOf, ofStarts]
      have hne : layoutOf (g :: rest') total ≠ [] := by
        cases rest' <;> simp [layoutOf, ofStarts]
      rw [hcons]
      cases hL : layoutOf (g :: rest') total with
      | nil => exact absurd hL hne
      | cons x L =>
        rw [List.getLast?_cons_cons, ← hL]
        exact ih (by simp)

theorem length_render (fs : List FieldDef) (total : Nat) (cells : List (Align × Str)) (hne : fs ≠ [])
    (hs : Sorted (layoutOf fs total) = true) (hf : Fits (layoutOf fs total) cells = true) :
    (renderA (layoutOf fs total) cells).length = total := by
  have := length_renderFrom (layoutOf fs total) 0 cells hs hf
  rw [layoutOf_last_stop total fs hne] at this
  simpa [renderA] using this

theorem le_maxChar (lines : List Str) : ∀ l ∈ lines, l.length + 1 ≤ maxChar lines := by
  unfold maxChar
  suffices H : ∀ (ls : List Str) (m : Nat), m ≤ ls.foldl (fun m l => max m (l.length + 1)) m ∧
      ∀ l ∈ ls, l.length + 1 ≤ ls.foldl (fun m l => max m (l.length + 1)) m from fun l hl => (H lines 0).2 l hl
  intro ls
  induction ls with
  | nil => intro m; exact ⟨Nat.le_refl _, fun l hl => by simp at hl⟩
  | cons a rest ih =>
    intro m
    simp only [List.foldl_cons]
    obtain ⟨h1, h2⟩ := ih (max m (a.length + 1))
    constructor
    · omega
    · intro l hl
      rcases List.mem_cons.mp hl with rfl | hin
      · omega
      · exact h2 l hin

/-- how a writer leaves a record in the file: as rendered, or without its trailing blanks -/
def emit (stripped : Bool) (l : Str) : Str := if stripped then rstrip l else l

theorem emit_lead (L : Layout) (hl : leadOk L = true) (r : Bool × List (Align × Str)) (hf : Fits L r.2 = true)
    (hvis : emit r.1 (renderA L r.2) ≠ []) : startsWith [' '] (emit r.1 (renderA L r.2)) = true := by
  obtain ⟨r0, hr0⟩ := render_lead L r.2 hl hf
  unfold emit at hvis ⊢
  by_cases hb : r.1 = true
  · simp only [hb, if_true] at hvis ⊢
    obtain ⟨ws, hdec, _⟩ := rstrip_decomp (renderA L r.2)
    cases hrs : rstrip (renderA L r.2) with
    | nil => exact absurd hrs hvis
    | cons c t =>
      rw [hrs, hr0] at hdec
      simp only [List.cons_append, List.cons.injEq] at hdec
      rw [← hdec.1, startsWith_cons]; decide
  · simp only [hb, if_false, Bool.false_eq_true, hr0, startsWith_cons]; decide

def emitted (fs : List FieldDef) (W : Nat) (recs : List (Bool × List (Align × Str))) : List Str :=
  recs.map fun r => emit r.1 (renderA (layoutOf fs W) r.2)

/-- well-formed written records of a table whose last field ends at column `W` -/
structure RecsOk (fs : List FieldDef) (W : Nat) (recs : List (Bool × List (Align × Str))) : Prop where
  ne : fs ≠ []
  sorted : Sorted (layoutOf fs W) = true
  lead : leadOk (layoutOf fs W) = true
  fits : ∀ r ∈ recs, Fits (layoutOf fs W) r.2 = true
  vis : ∀ r ∈ recs, emit r.1 (renderA (layoutOf fs W) r.2) ≠ []

end Midgard.Props.C14
