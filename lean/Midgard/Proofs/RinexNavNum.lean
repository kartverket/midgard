/-
The numbers a navigation record is printed with read back as what they were printed from: the 19-column reals through
`_float` (`D`, `d`, `E`, `e` exponents, blank = 0), the two- and four-digit integers of the epoch lines through `int` /
`float` / `zfill`, the two-digit year with the 80 pivot.  Also what the parsers' stray-header-line tests see of a printed
real: it neither ends nor starts with a letter.  Core Lean only.
-/
import Midgard.Spec.RinexNavFile
import Midgard.Proofs.PrintableLines

namespace Midgard.Spec.RinexNavFile
open Midgard.Text Midgard.Decimal Midgard.FixedCol Midgard.RinexNav Midgard.Spec.NumText
open Midgard.Spec.Sp3File (okText)
open Midgard.Printable

theorem floatField_num19 (n : Num19) (h : n.wf = true) : floatField n.text = some n.val := by
  cases n with
  | blank => rfl
  | sci x lead neg m e =>
    simp only [Num19.wf, Bool.and_eq_true] at h
    have hx := h.1
    simp only [Num19.text, Num19.val]
    unfold floatField
    have hne : (fmtSci x 12 lead neg m e).isEmpty = false := by simpa using fmtSci_ne_nil x 12 lead neg m e
    have hpt : '.' ∈ fmtSci x 12 lead neg m e := by simp [fmtSci, sciBody]
    have hnb : isBlank (fmtSci x 12 lead neg m e) = false := isBlank_false_of_mem hpt (by decide)
    simp only [hne, hnb, Bool.or_self, Bool.false_eq_true, if_false]
    obtain ⟨x', hx', hrep⟩ := replace_fmtSci x hx 12 lead neg m e
    rw [hrep]
    have hx'l : isExpLetter x' = true := by rcases hx' with rfl | rfl <;> decide
    exact parseDecimalWith_sci ['e', 'E'] (by decide) x' (by rcases hx' with rfl | rfl <;> simp) 12 (by decide)
      lead neg m e _ (strip_of_no_space (noSpace_fmtSci x' hx'l 12 lead neg m e))

theorem clean_num19 (n : Num19) (h : n.wf = true) : Clean n.text = true := by
  cases n with
  | blank => rfl
  | sci x lead neg m e =>
    simp only [Num19.wf, Bool.and_eq_true] at h
    exact clean_of_no_space (noSpace_fmtSci x h.1 12 lead neg m e)

theorem length_num19 (n : Num19) (h : n.wf = true) : n.text.length ≤ 19 := by
  cases n with
  | blank => simp [Num19.text]
  | sci x lead neg m e =>
    simp only [Num19.wf, Bool.and_eq_true, decide_eq_true_eq] at h
    exact h.2

theorem okText_num19 (n : Num19) (h : n.wf = true) : okText n.text = true := by
  cases n with
  | blank => rfl
  | sci x lead neg m e =>
    simp only [Num19.wf, Bool.and_eq_true, isExpLetter, Bool.or_eq_true, beq_iff_eq] at h
    rw [Num19.text, okText, List.all_eq_true]
    intro c hc
    rcases mem_fmtSci hc with h' | rfl
    · exact List.all_eq_true.mp (okText_numChars (s := [c]) (by simpa using h')) c (by simp)
    · rcases h.1 with ((rfl | rfl) | rfl) | rfl <;> decide

theorem isAlpha_of_isNumChar {c : Char} (h : isNumChar c = true) : isAlpha c = false := by
  have := numChar_range h
  have h1 : ¬ 'a' ≤ c := fun hh => by
    have : 97 ≤ c.toNat := hh
    omega
  have h2 : ¬ 'A' ≤ c := fun hh => by
    have : 65 ≤ c.toNat := hh
    omega
  simp [isAlpha, h1, h2]

theorem num19_last_not_alpha (n : Num19) : ((n.text.getLast?).map isAlpha).getD false = false := by
  cases n with
  | blank => rfl
  | sci x lead neg m e =>
    cases hl : (fmtExp e).getLast? with
    | none => simp [fmtExp] at hl
    | some c =>
      have hc := isAlpha_of_isNumChar (mem_fmtExp (List.mem_of_getLast? hl))
      simp [Num19.text, fmtSci, List.getLast?_append, List.getLast?_cons, hl, hc]

theorem num19_head_not_alpha (n : Num19) : ((n.text.head?).map isAlpha).getD false = false := by
  cases n with
  | blank => rfl
  | sci x lead neg m e =>
    simp only [Num19.text, fmtSci]
    cases neg with
    | true => rfl
    | false =>
      cases lead with
      | false => rfl
      | true =>
        obtain ⟨c, r, h, hd⟩ := natDigits_head_digit (m / 10 ^ 12)
        simp [sciBody, h, isAlpha_of_isNumChar (c := c) (by simp [isNumChar, hd])]

theorem parseFloat_i22 (n : Nat) (h : n < 100) : parseFloat (i22 n) = some (n : Rat) := by
  unfold i22
  rw [parseFloat_digits (allDigits_fixedDigits 2 n) (fixedDigits_ne_nil (by decide) n), digitsVal_fixedDigits]
  have : n % 10 ^ 2 = n := Nat.mod_eq_of_lt (by simpa using h)
  rw [this]

theorem parseInt_i22 (n : Nat) (h : n < 100) : parseInt? (i22 n) = some (n : Int) :=
  parseInt_fixedDigits_lt (p := 2) (by decide) n (by simpa using h)

theorem i22_eq (n : Nat) : i22 n = [digitChar (n / 10), digitChar n] := by
  simp [i22, fixedDigits]

/-- `str(n).zfill(2)` is `'{:02d}'.format(n)` -/
theorem zfill_natDigits (n : Nat) (h : n < 100) : zfill 2 (natDigits n) = i22 n := by
  rw [Decimal.zfill_natDigits, fracDigits_eq_fixedDigits 2 n (by decide) (by simpa using h)]
  rfl

theorem zfill_i22 (n : Nat) : zfill 2 (i22 n) = i22 n := by
  rw [i22_eq, zfill_digit]
  rfl

theorem year4_back (year : Nat) (h1 : 1980 ≤ year) (h2 : year < 2080) :
    parseInt? ((if (80 : Int) ≤ ((year % 100 : Nat) : Int) ∧ ((year % 100 : Nat) : Int) ≤ 99 then ['1', '9'] else ['2', '0']) ++
      zfill 2 (i22 (year % 100))) = some (year : Int) := by
  rw [zfill_i22]
  have hall : ∀ pre : Str, allDigits pre = true → allDigits (pre ++ i22 (year % 100)) = true := by
    intro pre hp
    simp only [allDigits, List.all_append, Bool.and_eq_true] at hp ⊢
    exact ⟨hp, allDigits_fixedDigits 2 _⟩
  have hval : ∀ pre : Str, digitsVal (pre ++ i22 (year % 100)) = digitsVal pre * 100 + year % 100 := by
    intro pre
    rw [digitsVal_app, i22, digitsVal_fixedDigits, length_fixedDigits]
    have : year % 100 % 10 ^ 2 = year % 100 := Nat.mod_eq_of_lt (by omega)
    rw [this]
  have d19 : digitsVal ['1', '9'] = 19 := by decide +kernel
  have d20 : digitsVal ['2', '0'] = 20 := by decide +kernel
  by_cases hy : (80 : Int) ≤ ((year % 100 : Nat) : Int) ∧ ((year % 100 : Nat) : Int) ≤ 99
  · simp only [hy, and_self, if_true]
    rw [parseInt_digits _ (by simp) (hall _ (by decide)), hval, d19]
    congr 1; omega
  · simp only [hy, if_false]
    rw [parseInt_digits _ (by simp) (hall _ (by decide)), hval, d20]
    congr 1; omega

theorem sec_back (s : Nat) : parseFloat (fmtDec 1 ((s : Int) * 10)) = some (s : Rat) := by
  rw [parseFloat_fmtDec]
  congr 1
  unfold decVal pow10
  rw [Rat.intCast_mul]
  have : ((10 ^ 1 : Nat) : Rat) = 10 := by decide +kernel
  rw [this, Rat.intCast_natCast]
  grind

end Midgard.Spec.RinexNavFile
