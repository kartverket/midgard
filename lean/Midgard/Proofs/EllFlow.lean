/-
C05 — the ellipsoid attribute machine of `Model/Geodetic.lean` (`step`, `run`, `convertedOn`) and the arithmetic and histories of
`Model/EllArith.lean` keep the tag a position was created with, when every constructor call forwards the ellipsoid: one step, one
operation over the regenerated operator tables against the specification (`arith_table`), a whole history.  The statements of the
property, and the inductions `ell_flow`, `answers_current` over the machine, are in Props/C05.lean.
-/
import Midgard.Model.EllArith
import Midgard.Generated.EllipsoidArith

namespace Midgard.Props.C05
open Midgard.Geo

theorem resolve_subset (tbl : List Site) (c : PCls) (m : String) (s : Site)
    (hs : s ∈ resolve tbl c m) : s ∈ tbl := by
  unfold resolve at hs
  cases c with
  | position => exact (List.mem_filter.mp hs).1
  | posvel =>
    by_cases hE : (sitesOf tbl "PosVelArray" m).isEmpty = true
    · simp only [hE, if_true] at hs; exact (List.mem_filter.mp hs).1
    · simp only [hE] at hs; exact (List.mem_filter.mp hs).1

theorem step_keeps (tbl : List Site) (h : ∀ s ∈ tbl, s.fwd = Fwd.keep) (p : PosTag) (o : Op) :
    (step tbl p o).ell = p.ell := by
  unfold step
  by_cases ha : o.applies p.cls
  · simp only [ha, Bool.not_true, Bool.false_eq_true, if_false]
    cases hm : o.method with
    | none => rfl
    | some m =>
      have hall : (resolve tbl p.cls m).all (fun s => s.fwd == Fwd.keep) = true := by
        rw [List.all_eq_true]
        intro s hs
        simp [h s (resolve_subset tbl p.cls m s hs)]
      simp only [hall, if_true]
  · simp [ha]

/-- a round trip is never evaluated on two different ellipsoids -/
theorem conversions_on_creation_ellipsoid (tbl : List Site) (h : ∀ s ∈ tbl, s.fwd = Fwd.keep) :
    ∀ (ops : List Op) (p : PosTag), ∀ e ∈ convertedOn tbl p ops, e = p.ell := by
  intro ops
  induction ops with
  | nil => intro p e he; simp [convertedOn] at he
  | cons o os ih =>
    intro p e he
    simp only [convertedOn, List.mem_append] at he
    rcases he with he | he
    · split at he
      · simpa using he
      · simp at he
    · have := ih (step tbl p o) e he
      rw [this, step_keeps tbl h p o]

section Arith
open Midgard.Generated.EllipsoidArith

/-- over the regenerated tables the operator protocol (`binop … plus sameSystem`) computes what the property asks
(`specBinop`) for operands of one reference system; for operands of different systems every branch declines and Python
raises `TypeError` -/
theorem arith_table (plus same : Bool) (l r : Operand) :
    wellTyped l r = true →
      binop branches factories plus same l r = if same then specBinop plus l r else .typeError := by
  rcases l with ⟨⟨lc, le⟩⟩ | ⟨lc, ⟨lrc, lre⟩⟩ <;> rcases r with ⟨⟨rc, re⟩⟩ | ⟨rc, ⟨rrc, rre⟩⟩
  · cases plus <;> cases lc <;> cases rc <;> (intro h; first | exact Bool.noConfusion h | (cases same <;> rfl))
  · cases plus <;> cases lc <;> cases rc <;> cases rrc <;> (intro h; first | exact Bool.noConfusion h | (cases same <;> rfl))
  · cases plus <;> cases lc <;> cases rc <;> cases lrc <;> (intro h; first | exact Bool.noConfusion h | (cases same <;> rfl))
  · cases plus <;> cases lc <;> cases rc <;> cases lrc <;> cases rrc <;>
      (intro h; first | exact Bool.noConfusion h | (cases same <;> rfl))

theorem hstep_keeps (sites : List Site) (hs : ∀ s ∈ sites, s.fwd = Fwd.keep) (p : PosTag) (o : HOp) :
    ∃ q, hstep sites branches factories p o = some q ∧ q.ell = tagAfter p.ell [o] := by
  cases o with
  | un o => exact ⟨_, rfl, step_keeps sites hs p o⟩
  | withDelta plus deltaLeft ref =>
    rcases p with ⟨c, e⟩
    refine ⟨⟨c, e⟩, ?_, rfl⟩
    simp only [hstep]
    cases deltaLeft
    · rw [if_neg (by decide), arith_table _ true _ _ (by cases c <;> rfl)]
      cases c <;> rfl
    · rw [if_pos rfl, arith_table _ true _ _ (by cases c <;> rfl)]
      cases c <;> rfl
  | retag e => exact ⟨_, rfl, rfl⟩
  | poke => exact ⟨_, rfl, rfl⟩

theorem tagAfter_cons (e : Option Nat) (o : HOp) (os : List HOp) : tagAfter e (o :: os) = tagAfter (tagAfter e [o]) os := by
  cases o <;> rfl

theorem history_keeps_ellipsoid (sites : List Site) (hs : ∀ s ∈ sites, s.fwd = Fwd.keep) :
    ∀ (ops : List HOp) (p : PosTag), ∃ q, hrun sites branches factories p ops = some q ∧ q.ell = tagAfter p.ell ops := by
  intro ops
  induction ops with
  | nil => intro p; exact ⟨p, rfl, rfl⟩
  | cons o os ih =>
    intro p
    obtain ⟨q, hq, he⟩ := hstep_keeps sites hs p o
    obtain ⟨q', hq', he'⟩ := ih q
    exact ⟨q', by simp only [hrun, hq, hq'], by rw [he', he, ← tagAfter_cons]⟩

end Arith

end Midgard.Props.C05

#print axioms Midgard.Props.C05.resolve_subset
#print axioms Midgard.Props.C05.step_keeps
#print axioms Midgard.Props.C05.conversions_on_creation_ellipsoid
#print axioms Midgard.Props.C05.arith_table
#print axioms Midgard.Props.C05.hstep_keeps
#print axioms Midgard.Props.C05.tagAfter_cons
#print axioms Midgard.Props.C05.history_keeps_ellipsoid
