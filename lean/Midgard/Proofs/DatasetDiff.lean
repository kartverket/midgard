/-
C09 — `Dataset.difference`: indexing without a memo builds images; what every field of the result is
(`DiffOf`: row k = row k of the self selection − row k of the other selection · unit factor, with ONE pair of
row indices for the whole field tree); the result is a rectangular, well-formed table.
-/
import Midgard.Proofs.DatasetShape
import Midgard.Proofs.DatasetDict

namespace Midgard.Dataset

theorem getItemOpt_spec {idx : Index} {rec : Nat → Heap → M (Nat × Heap)}
    (hrec : ∀ a h a' h', rec a h = .ok (a', h') → HeapExt h h' ∧ Img idx h' a a')
    {c : Bool} {r : Option Nat} {h : Heap} {r' : Option Nat} {h' : Heap}
    (hh : (if c then getItemOpt rec r h else .ok (none, h)) = .ok (r', h')) :
    HeapExt h h' ∧ (c = true → OptRel (Img idx h') r r') := by
  cases c with
  | false =>
    cases hh
    exact ⟨HeapExt.refl _, nofun⟩
  | true =>
    simp only [if_true] at hh
    cases r with
    | none =>
      cases hh
      exact ⟨HeapExt.refl _, fun _ => .none⟩
    | some a =>
      simp only [getItemOpt] at hh
      obtain ⟨a', h1, hr, hh⟩ := bindHeap_ok hh
      cases hh
      obtain ⟨e, hi⟩ := hrec _ _ _ _ hr
      exact ⟨e, fun _ => .some hi⟩

theorem getItemObj_spec (idx : Index) : ∀ (fuel o : Nat) (h : Heap) (o' : Nat) (h' : Heap),
    getItemObj idx fuel o h = .ok (o', h') → HeapExt h h' ∧ Img idx h' o o'
  | 0, _, _, _, _, hh => by cases hh
  | fuel + 1, o, h, o', h', hh => by
    simp only [getItemObj] at hh
    split at hh
    · simp at hh
    · rename_i obj hobj
      split at hh
      · simp at hh
      · rename_i rows hrows
        split at hh
        · simp at hh
        · rename_i oth h1 q1
          split at hh
          · simp at hh
          · rename_i rp h2 q2
            cases hh
            obtain ⟨e1, r1⟩ := getItemOpt_spec (getItemObj_spec idx fuel) q1
            obtain ⟨e2, r2⟩ := getItemOpt_spec (getItemObj_spec idx fuel) q2
            have e3 := HeapExt.snoc h2 { obj with rows := rows, other := oth, refPos := rp }
            have e13 := (e1.trans e2).trans e3
            exact ⟨e13, Img.mk (e13.get hobj) List.getElem?_concat_length hrows rfl rfl rfl
              (fun hk => ((r1 hk).mono (fun _ _ => Img.ext e2)).mono (fun _ _ => Img.ext e3))
              (fun hk => (r2 hk).mono (fun _ _ => Img.ext e3))⟩

/-- the array `r` of a subtracted field: its rows are, position by position, the rows `si` selects from the
array `o` of self minus the rows `oi` selects from the array `o2` of other times the unit factors; it has no
`other`; a position difference refers to the selected rows of self (`Img si`), a difference of deltas keeps
the (selected) reference position of self -/
def DiffObj (us : Units) (si oi : Index) (h : Heap) (k : Kind) (u u2 : Option (List String)) (o o2 r : Nat) : Prop :=
  ∃ oa ob orr ra rb fs, h[o]? = some oa ∧ h[o2]? = some ob ∧ h[r]? = some orr ∧
    pick si oa.rows = .ok ra ∧ pick oi ob.rows = .ok rb ∧ diffFactors us u u2 = .ok fs ∧
    orr.rows = List.zipWith subRow ra (rb.map (scaleRow fs)) ∧ orr.other = none ∧
    (k.diffKind = some orr.kind ∧ orr.ndim = oa.ndim ∧ orr.cols = oa.cols) ∧
    (k.hasOther = true → ∃ a, orr.refPos = some a ∧ Img si h o a) ∧
    (k.isDelta = true → OptRel (Img si h) oa.refPos orr.refPos) ∧
    (k.hasOther = false → k.isDelta = false → orr.refPos = none)

theorem DiffObj.ext {us si oi h h' k u u2 o o2 r} (e : HeapExt h h') (d : DiffObj us si oi h k u u2 o o2 r) :
    DiffObj us si oi h' k u u2 o o2 r := by
  obtain ⟨oa, ob, orr, ra, rb, fs, h1, h2, h3, h4, h5, h6, h7, h8, hk', h9, h10, h11⟩ := d
  refine ⟨oa, ob, orr, ra, rb, fs, e.get h1, e.get h2, e.get h3, h4, h5, h6, h7, h8, hk', ?_, ?_, h11⟩
  · intro hk; obtain ⟨a, ha, hi⟩ := h9 hk; exact ⟨a, ha, hi.ext e⟩
  · intro hk; exact (h10 hk).mono (fun _ _ => Img.ext e)

/-- `r` is what `Collection._difference` makes of the common field pair `f` (self) / `g` (other), with the row
indices `si` / `oi` and `cnt` paired rows: the difference field, or a `_self` / `_other` copy of a field that
does not support `-`, or — for collections — a collection of such fields **built with the same `si`, `oi`** -/
def DiffOf (us : Units) (si oi : Index) (cnt : Nat) (h : Heap) : Field → Field → Field → Prop
  | .leaf nm k o _ u l, .leaf _ k2 o2 _ u2 l2, r => k2 = k ∧
      ((∃ k' ro, k.diffKind = some k' ∧ r = .leaf nm k' ro cnt u l ∧ DiffObj us si oi h k u u2 o o2 ro) ∨
       (k.diffKind = none ∧ ∃ a, r = .leaf (nm ++ "_self") k a cnt u l ∧ Img si h o a) ∨
       (k.diffKind = none ∧ ∃ b, r = .leaf (nm ++ "_other") k b cnt u2 l2 ∧ Img oi h o2 b))
  | .coll nm _ l fs, .coll _ _ _ gs, r =>
      ∃ rs, r = .coll nm cnt l rs ∧ (names rs).Nodup ∧ ∀ x ∈ rs, DiffAny fs gs x
  | .leaf .., .coll .., _ => False
  | .coll .., .leaf .., _ => False
where
  /-- `r` comes from one of the fields of `fs` and the field of the same name in `gs` -/
  DiffAny : List Field → List Field → Field → Prop
    | [], _, _ => False
    | f :: fs, gs, r => (∃ g, getField gs f.name = some g ∧ DiffOf us si oi cnt h f g r) ∨ DiffAny fs gs r

theorem DiffAny.iff {us si oi cnt h} : ∀ (fs gs : List Field) (r : Field),
    DiffOf.DiffAny us si oi cnt h fs gs r ↔ ∃ f ∈ fs, ∃ g, getField gs f.name = some g ∧ DiffOf us si oi cnt h f g r
  | [], _, _ => by simp [DiffOf.DiffAny]
  | f :: fs, gs, r => by
    simp only [DiffOf.DiffAny, DiffAny.iff fs gs r, List.mem_cons]
    constructor
    · rintro (⟨g, hg, hd⟩ | ⟨f', hf', g, hg, hd⟩)
      · exact ⟨f, Or.inl rfl, g, hg, hd⟩
      · exact ⟨f', Or.inr hf', g, hg, hd⟩
    · rintro ⟨f', (rfl | hf'), g, hg, hd⟩
      · exact Or.inl ⟨g, hg, hd⟩
      · exact Or.inr ⟨f', hf', g, hg, hd⟩

mutual
theorem DiffOf.ext {us si oi cnt h h'} (e : HeapExt h h') : ∀ (f g r : Field),
    DiffOf us si oi cnt h f g r → DiffOf us si oi cnt h' f g r
  | .leaf nm k o no u l, .leaf nm2 k2 o2 no2 u2 l2, r, hd => by
    simp only [DiffOf] at hd ⊢
    obtain ⟨hk, hd⟩ := hd
    refine ⟨hk, ?_⟩
    rcases hd with ⟨k', ro, a, b, c⟩ | ⟨a, x, b, c⟩ | ⟨a, x, b, c⟩
    · exact Or.inl ⟨k', ro, a, b, c.ext e⟩
    · exact Or.inr (Or.inl ⟨a, x, b, c.ext e⟩)
    · exact Or.inr (Or.inr ⟨a, x, b, c.ext e⟩)
  | .coll nm no l fs, .coll nm2 no2 l2 gs, r, hd => by
    simp only [DiffOf] at hd ⊢
    obtain ⟨rs, a, b, c⟩ := hd
    exact ⟨rs, a, b, fun x hx => DiffAny.ext e fs gs x (c x hx)⟩
  | .leaf .., .coll .., _, hd => by simp [DiffOf] at hd
  | .coll .., .leaf .., _, hd => by simp [DiffOf] at hd
theorem DiffAny.ext {us si oi cnt h h'} (e : HeapExt h h') : ∀ (fs gs : List Field) (r : Field),
    DiffOf.DiffAny us si oi cnt h fs gs r → DiffOf.DiffAny us si oi cnt h' fs gs r
  | [], _, _, hd => by simp [DiffOf.DiffAny] at hd
  | f :: fs, gs, r, hd => by
    simp only [DiffOf.DiffAny] at hd ⊢
    rcases hd with ⟨g, hg, hd⟩ | hd
    · exact Or.inl ⟨g, hg, DiffOf.ext e f g r hd⟩
    · exact Or.inr (DiffAny.ext e fs gs r hd)
end

theorem length_zipWith_subRow (a b : List Row) : (List.zipWith subRow a b).length = min a.length b.length := by
  simp

theorem DiffObj.good {us si oi h k u u2 o o2 r} {cnt : Nat} (hs : si.count = cnt) (ho : oi.count = cnt)
    (d : DiffObj us si oi h k u u2 o o2 r) : Good h cnt r := by
  obtain ⟨oa, ob, orr, ra, rb, fs, h1, h2, h3, h4, h5, h6, h7, h8, hk', h9, h10, h11⟩ := d
  have hkind : orr.kind.isDelta = true → k.hasOther = true ∨ k.isDelta = true := by
    intro hd
    have := hk'.1
    cases k <;> simp [Kind.diffKind] at this <;> simp [← this, Kind.isDelta, Kind.hasOther] at hd ⊢
  have la : ra.length = cnt := by rw [pick_length si _ _ h4, hs]
  have lb : rb.length = cnt := by rw [pick_length oi _ _ h5, ho]
  refine Good.mk h3 (by rw [h7]; simp [la, lb]) ?_ ?_
  · intro a _ ha; rw [h8] at ha; cases ha
  · intro a hk ha
    rcases hkind hk with hh | hh
    · obtain ⟨a', ha', hi⟩ := h9 hh
      rw [ha] at ha'; cases ha'
      rw [← hs]; exact hi.good
    · have := h10 hh
      rw [ha] at this
      obtain ⟨x, _, hi⟩ := this.of_some_right
      rw [← hs]; exact hi.good

mutual
theorem DiffOf.ok {us si oi cnt h} : ∀ (f g r : Field), DiffOf us si oi cnt h f g r →
    WFF r ∧ (si.count = cnt → oi.count = cnt → RectField h cnt r)
  | .leaf nm k o no u l, .leaf nm2 k2 o2 no2 u2 l2, r, hd => by
    simp only [DiffOf] at hd
    rcases hd.2 with ⟨k', ro, _, rfl, c⟩ | ⟨_, x, rfl, c⟩ | ⟨_, x, rfl, c⟩
    · exact ⟨wff_leaf .., fun hs ho => rectField_leaf_iff.mpr ⟨c.good hs ho, rfl⟩⟩
    · exact ⟨wff_leaf .., fun hs _ => rectField_leaf_iff.mpr ⟨hs ▸ c.good, rfl⟩⟩
    · exact ⟨wff_leaf .., fun _ ho => rectField_leaf_iff.mpr ⟨ho ▸ c.good, rfl⟩⟩
  | .coll nm no l fs, .coll nm2 no2 l2 gs, r, hd => by
    simp only [DiffOf] at hd
    obtain ⟨rs, rfl, b, c⟩ := hd
    exact ⟨wff_coll_iff.mpr ⟨b, fun x hx => (DiffAny.ok fs gs x (c x hx)).1⟩,
      fun hs ho => rectField_coll_iff.mpr ⟨fun x hx => (DiffAny.ok fs gs x (c x hx)).2 hs ho, rfl⟩⟩
  | .leaf .., .coll .., _, hd => by simp [DiffOf] at hd
  | .coll .., .leaf .., _, hd => by simp [DiffOf] at hd
theorem DiffAny.ok {us si oi cnt h} : ∀ (fs gs : List Field) (r : Field), DiffOf.DiffAny us si oi cnt h fs gs r →
    WFF r ∧ (si.count = cnt → oi.count = cnt → RectField h cnt r)
  | [], _, _, hd => by simp [DiffOf.DiffAny] at hd
  | f :: fs, gs, r, hd => by
    simp only [DiffOf.DiffAny] at hd
    rcases hd with ⟨g, _, hd⟩ | hd
    · exact DiffOf.ok f g r hd
    · exact DiffAny.ok fs gs r hd
end

theorem DiffOf.wff {us si oi cnt h} : ∀ (f g r : Field), DiffOf us si oi cnt h f g r → WFF r :=
  fun f g r hd => (DiffOf.ok f g r hd).1

theorem DiffOf.rect {us si oi cnt h} (hs : si.count = cnt) (ho : oi.count = cnt) : ∀ (f g r : Field),
    DiffOf us si oi cnt h f g r → RectField h cnt r :=
  fun f g r hd => (DiffOf.ok f g r hd).2 hs ho

theorem diffLeaf_spec {us : Units} {si oi : Index} {cnt : Nat} {cs co : Bool} {nm : String} {k : Kind} {o : Nat} (no : Nat)
    {u : Option (List String)} {l : Nat} (nm2 : String) {k2 : Kind} {o2 : Nat} (no2 : Nat) {u2 : Option (List String)} {l2 : Nat}
    {h : Heap} {new : List Field} {h' : Heap}
    (hh : diffLeaf us si oi cnt cs co nm k o u l k2 o2 u2 l2 h = .ok (new, h')) :
    HeapExt h h' ∧ ∀ r ∈ new, DiffOf us si oi cnt h' (.leaf nm k o no u l) (.leaf nm2 k2 o2 no2 u2 l2) r := by
  unfold diffLeaf at hh
  cases hfs : diffFactors us u u2 with
  | error e => rw [hfs] at hh; cases hh
  | ok fs =>
    rw [hfs] at hh
    dsimp only at hh
    by_cases hkk : (k != k2) = true
    · rw [if_pos hkk] at hh; cases hh
    rw [if_neg hkk] at hh
    have hk2 : k2 = k := Eq.symm (by simpa using hkk)
    obtain ⟨a, h1, ha, hh⟩ := bindHeap_ok hh
    obtain ⟨b, h2, hb, hh⟩ := bindHeap_ok hh
    obtain ⟨e1, ia⟩ := getItemObj_spec si _ o h a h1 ha
    obtain ⟨e2, ib⟩ := getItemObj_spec oi _ o2 h1 b h2 hb
    have ia2 : Img si h2 o a := ia.ext e2
    obtain ⟨xa, oa, a1, hoa, a3, a4, a5, a6, _, a8⟩ := ia2.dest
    obtain ⟨xb, ob, b1, hob, b3, _⟩ := ib.dest
    rw [hoa, hob] at hh
    dsimp only at hh
    by_cases hkinds : (oa.kind != k || ob.kind != k) = true
    · rw [if_pos hkinds] at hh; cases hh
    rw [if_neg hkinds] at hh
    have hka : oa.kind = k := by
      have : ¬ (oa.kind != k) = true := fun hc => hkinds (by rw [hc]; rfl)
      simpa using this
    cases hdk : k.diffKind with
    | none =>
      -- `TypeError`: the `_self` / `_other` copies
      rw [hdk] at hh
      cases hh
      refine ⟨e1.trans e2, fun r hr => ?_⟩
      simp only [DiffOf]
      refine ⟨hk2, ?_⟩
      rcases List.mem_append.mp hr with hr | hr
      · cases cs
        · cases hr
        · exact Or.inr (Or.inl ⟨hdk, a, List.mem_singleton.mp hr, ia2⟩)
      · cases co
        · cases hr
        · exact Or.inr (Or.inr ⟨hdk, b, List.mem_singleton.mp hr, ib⟩)
    | some k' =>
      rw [hdk] at hh
      dsimp only at hh
      obtain ⟨_, hh⟩ := guard_ok hh
      obtain ⟨_, hh⟩ := guard_ok hh
      cases hh
      have key : ∀ X : Obj, X.rows = List.zipWith subRow oa.rows (ob.rows.map (scaleRow fs)) →
          X.other = none → X.kind = k' → X.ndim = oa.ndim → X.cols = oa.cols →
          X.refPos = (if k.hasOther then some a else if k.isDelta then oa.refPos else none) →
          DiffObj us si oi (h2 ++ [X]) k u u2 o o2 h2.length := by
        intro X x1 x2 x3 x4 x5 x6
        have e3 := HeapExt.snoc h2 X
        refine ⟨xa, xb, X, oa.rows, ob.rows, fs, e3.get a1, e3.get b1, List.getElem?_concat_length, a3, b3,
          hfs, x1, x2, ⟨by rw [x3]; exact hdk, x4.trans a5, x5.trans a6⟩, ?_, ?_, ?_⟩
        · intro hk
          exact ⟨a, by rw [x6]; simp [hk], ia2.ext e3⟩
        · intro hk
          have hno : k.hasOther = false := by cases k <;> first | rfl | cases hk
          rw [x6]
          simp only [hno, Bool.false_eq_true, if_false, hk, if_true]
          exact (a8 (by rw [← a4, hka]; exact hk)).mono (fun _ _ => Img.ext e3)
        · intro hk1 hk2'
          rw [x6]; simp [hk1, hk2']
      refine ⟨(e1.trans e2).trans (HeapExt.snoc h2 _), fun r hr => ?_⟩
      cases List.mem_singleton.mp hr
      simp only [DiffOf]
      -- (the six `rfl`: rows, `other`, kind, `ndim`, `cols` and `ref_pos` of the array just allocated)
      exact ⟨hk2, Or.inl ⟨k', h2.length, hdk, rfl, key _ rfl rfl rfl rfl rfl rfl⟩⟩

mutual
theorem diffField_spec (us : Units) (si oi : Index) (cnt : Nat) (cs co : Bool) : ∀ (f g : Field) (h : Heap)
    (new : List Field) (h' : Heap), diffField us si oi cnt cs co f g h = .ok (new, h') →
    HeapExt h h' ∧ ∀ r ∈ new, DiffOf us si oi cnt h' f g r
  | .leaf nm k o no u l, .leaf nm2 k2 o2 no2 u2 l2, h, new, h', hh => by
    simp only [diffField] at hh
    exact diffLeaf_spec no nm2 no2 hh
  | .coll nm no l fs, .coll nm2 no2 l2 gs, h, new, h', hh => by
    simp only [diffField] at hh
    split at hh
    · simp at hh
    · rename_i rs h1 hloop
      simp only [Except.ok.injEq, Prod.mk.injEq] at hh
      obtain ⟨rfl, rfl⟩ := hh
      obtain ⟨e, hn, hall⟩ := diffLoop_spec us si oi cnt cs co fs gs [] h rs h1 hloop (by simp [names])
      refine ⟨e, ?_⟩
      intro r hr
      simp only [List.mem_singleton] at hr
      subst hr
      simp only [DiffOf]
      refine ⟨rs, rfl, hn, fun x hx => ?_⟩
      rcases hall x hx with h0 | h0
      · simp at h0
      · exact h0
  | .leaf .., .coll .., _, _, _, hh => by simp [diffField] at hh
  | .coll .., .leaf .., _, _, _, hh => by simp [diffField] at hh
termination_by structural f => f
theorem diffLoop_spec (us : Units) (si oi : Index) (cnt : Nat) (cs co : Bool) : ∀ (fs gs acc : List Field) (h : Heap)
    (acc' : List Field) (h' : Heap), diffField.diffLoop us si oi cnt cs co fs gs acc h = .ok (acc', h') →
    (names acc).Nodup →
    HeapExt h h' ∧ (names acc').Nodup ∧ ∀ r ∈ acc', r ∈ acc ∨ DiffOf.DiffAny us si oi cnt h' fs gs r
  | [], gs, acc, h, acc', h', hh, hn => by
    cases hh.symm
    exact ⟨HeapExt.refl _, hn, fun r hr => Or.inl hr⟩
  | f :: fs, gs, acc, h, acc', h', hh, hn => by
    simp only [diffField.diffLoop] at hh
    split at hh
    · -- the field is missing in other: dropped
      obtain ⟨e, n', hall⟩ := diffLoop_spec us si oi cnt cs co fs gs acc h acc' h' hh hn
      refine ⟨e, n', fun r hr => ?_⟩
      rcases hall r hr with h0 | h0
      · exact Or.inl h0
      · exact Or.inr (by simp only [DiffOf.DiffAny]; exact Or.inr h0)
    · rename_i g hget
      split at hh
      · simp at hh
      · rename_i new h1 hstep
        obtain ⟨e1, hnew⟩ := diffField_spec us si oi cnt cs co f g h new h1 hstep
        obtain ⟨e2, n', hall⟩ := diffLoop_spec us si oi cnt cs co fs gs (new.foldl setField acc) h1 acc' h' hh
          (nodup_foldl_setField new acc hn)
        refine ⟨e1.trans e2, n', fun r hr => ?_⟩
        rcases hall r hr with h0 | h0
        · rcases mem_foldl_setField new acc r h0 with h3 | h3
          · exact Or.inl h3
          · refine Or.inr ?_
            simp only [DiffOf.DiffAny]
            exact Or.inl ⟨g, hget, DiffOf.ext e2 f g r (hnew r h3)⟩
        · exact Or.inr (by simp only [DiffOf.DiffAny]; exact Or.inr h0)
end

/-- an index field of the result: the field of that name in self with the rows `si` selects (`Img si`) -/
def IndexCopy (si : Index) (cnt : Nat) (h : Heap) (selfFields : List Field) (r : Field) : Prop :=
  ∃ nm k o no u l a, getField selfFields nm = some (.leaf nm k o no u l) ∧ r = .leaf nm k a cnt u l ∧ Img si h o a

theorem IndexCopy.ext {si cnt h h' fs r} (e : HeapExt h h') (c : IndexCopy si cnt h fs r) : IndexCopy si cnt h' fs r := by
  obtain ⟨nm, k, o, no, u, l, a, h1, h2, h3⟩ := c
  exact ⟨nm, k, o, no, u, l, a, h1, h2, h3.ext e⟩

theorem indexFields_spec (si : Index) (cnt : Nat) (selfFields : List Field) : ∀ (nms : List String) (acc : List Field)
    (h : Heap) (acc' : List Field) (h' : Heap), indexFields si cnt selfFields nms acc h = .ok (acc', h') →
    (names acc).Nodup →
    HeapExt h h' ∧ (names acc').Nodup ∧ ∀ r ∈ acc', r ∈ acc ∨ (IndexCopy si cnt h' selfFields r ∧ r.name ∈ nms)
  | [], acc, h, acc', h', hh, hn => by
    cases hh.symm
    exact ⟨HeapExt.refl _, hn, fun r hr => Or.inl hr⟩
  | nm :: rest, acc, h, acc', h', hh, hn => by
    simp only [indexFields] at hh
    split at hh
    · rename_i nm' k o no u l hget
      split at hh
      · simp at hh
      · rename_i a h1 ha
        obtain ⟨e1, ia⟩ := getItemObj_spec si _ o h a h1 ha
        have hnm : nm' = nm := (getField_some hget).2
        subst hnm
        obtain ⟨e2, n', hall⟩ := indexFields_spec si cnt selfFields rest _ h1 acc' h' hh
          (names_delField_append_nodup (f := .leaf nm' k a cnt u l) hn rfl)
        refine ⟨e1.trans e2, n', fun r hr => ?_⟩
        rcases hall r hr with h0 | h0
        · rcases List.mem_append.mp h0 with h3 | h3
          · exact Or.inl (delField_sub _ _ r h3)
          · simp only [List.mem_singleton] at h3
            exact Or.inr ⟨⟨nm', k, o, no, u, l, a, hget, h3, ia.ext e2⟩, by subst h3; simp [Field.name]⟩
        · exact Or.inr ⟨h0.1, List.mem_cons_of_mem _ h0.2⟩
    · simp at hh

/-- every field of the result is the difference of a common pair of fields (at any depth, all built with the one pair of row
indices `diffIndex` returned) or an index field copied from self -/
theorem dsDifference_spec {us : Units} {h : Heap} {d e : DS} {ib : Option (List String)} {cs co : Bool} {h' : Heap} {r : DS}
    (hok : dsDifference us h d e ib cs co = .ok (h', r)) :
    ∃ si oi cnt, diffIndex h d e ib = .ok (si, oi, cnt) ∧ cnt ≠ 0 ∧ r.numObs = cnt ∧ HeapExt h h' ∧
      (names r.fields).Nodup ∧
      ∀ x ∈ r.fields, DiffOf.DiffAny us si oi cnt h' d.fields e.fields x ∨
        (IndexCopy si cnt h' d.fields x ∧ x.name ∈ ib.getD []) := by
  simp only [dsDifference] at hok
  split at hok
  · simp at hok
  · rename_i si oi cnt hidx
    split at hok
    · simp at hok
    · rename_i hcnt
      split at hok
      · simp at hok
      · rename_i fs h1 hloop
        split at hok
        · simp at hok
        · rename_i fs' h2 hix
          simp only [Except.ok.injEq, Prod.mk.injEq] at hok
          obtain ⟨rfl, rfl⟩ := hok
          obtain ⟨e1, n1, hall1⟩ := diffLoop_spec us si oi cnt cs co d.fields e.fields [] h fs h1 hloop (by simp [names])
          obtain ⟨e2, n2, hall2⟩ := indexFields_spec si cnt d.fields _ fs h1 fs' h2 hix n1
          refine ⟨si, oi, cnt, hidx, by simpa using hcnt, rfl, e1.trans e2, n2, fun x hx => ?_⟩
          rcases hall2 x hx with h0 | h0
          · rcases hall1 x h0 with h3 | h3
            · simp at h3
            · exact Or.inl (DiffAny.ext e2 _ _ x h3)
          · exact Or.inr h0

theorem IndexCopy.rect {si : Index} {cnt : Nat} {h : Heap} {fs : List Field} {r : Field} (hs : si.count = cnt)
    (c : IndexCopy si cnt h fs r) : RectField h cnt r ∧ WFF r := by
  obtain ⟨nm, k, o, no, u, l, a, _, rfl, h3⟩ := c
  exact ⟨rectField_leaf_iff.mpr ⟨hs ▸ h3.good, rfl⟩, wff_leaf ..⟩

theorem diffIndex_keyed {h : Heap} {d e : DS} {nms : List String} {si oi : Index} {cnt : Nat}
    (hh : diffIndex h d e (some nms) = .ok (si, oi, cnt)) :
    ∃ ca cb A B, nms.mapM (indexColumn h d) = .ok ca ∧ nms.mapM (indexColumn h e) = .ok cb ∧
      keyRows ca = .ok A ∧ keyRows cb = .ok B ∧
      si = .ints ((commonKeys A B).map (fun k => Int.ofNat (A.idxOf k))) ∧
      oi = .ints ((commonKeys A B).map (fun k => Int.ofNat (B.idxOf k))) ∧ cnt = (commonKeys A B).length := by
  simp only [diffIndex] at hh
  split at hh
  · simp at hh
  · rename_i ca hca
    split at hh
    · simp at hh
    · rename_i cb hcb
      split at hh
      · rename_i A B hA hB
        cases hh.symm
        refine ⟨ca, cb, A, B, hca, hcb, hA, hB, ?_, ?_, ?_⟩
        · simp [intersectKeys_eq, List.map_map, Function.comp_def]
        · simp [intersectKeys_eq, List.map_map, Function.comp_def]
        · simp [intersectKeys_eq]
      · simp at hh
      · simp at hh

theorem diffIndex_positional {h : Heap} {d e : DS} {si oi : Index} {cnt : Nat}
    (hh : diffIndex h d e none = .ok (si, oi, cnt)) :
    d.numObs = e.numObs ∧ cnt = d.numObs ∧ si = .mask (List.replicate cnt true) ∧ oi = .mask (List.replicate cnt true) := by
  simp only [diffIndex] at hh
  split at hh
  · simp at hh
  · rename_i hne
    have heq : d.numObs = e.numObs := by simpa using hne
    cases hh.symm
    exact ⟨heq, rfl, rfl, by rw [heq]⟩

theorem diffIndex_counts {h : Heap} {d e : DS} {ib : Option (List String)} {si oi : Index} {cnt : Nat}
    (hh : diffIndex h d e ib = .ok (si, oi, cnt)) : si.count = cnt ∧ oi.count = cnt := by
  cases ib with
  | none =>
    obtain ⟨_, _, rfl, rfl⟩ := diffIndex_positional hh
    exact ⟨count_mask_true _, count_mask_true _⟩
  | some nms =>
    obtain ⟨_, _, _, _, _, _, _, _, rfl, rfl, rfl⟩ := diffIndex_keyed hh
    simp [Index.count]

end Midgard.Dataset
