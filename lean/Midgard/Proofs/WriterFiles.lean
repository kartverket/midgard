/-
C17 — whole files through the `np.genfromtxt` model.  A written line is a sequence of segments, each a cell with the literal
blanks in front of it; a parser whose `delimiter` widths are the segment widths cuts the line into exactly these segments, strips
them to the cells, and its converters read each cell back (`gftRow_line_prefix`).  A file is a header the parser skips exactly
(`header_ok`) followed by such lines, read in text mode line by line: `gft_file_records`.
-/
import Midgard.Model.WriterFiles
import Midgard.Proofs.WriterCells
import Midgard.Proofs.OptionMapM

namespace Midgard.WriterFiles
open Midgard.Text Midgard.Decimal Midgard.FixedCol Midgard.WriterCells Midgard.Writers
open Midgard.Generated.WriterLayouts

theorem mapM_forall₂ {α β : Type} (f : α → Option β) (l : List α) (r : List β) (h : l.mapM f = some r) :
    List.Forall₂ (fun a b => f a = some b) l r := by
  have := (mapM_eq_some_iff f l r).mp h
  rwa [← List.forall₂_eq_eq_eq, List.forall₂_map_left_iff, List.forall₂_map_right_iff] at this

theorem unlAux_of_noCR (s : Str) (h : ∀ c ∈ s, c ≠ '\r') : unlAux false s = s := by
  induction s with
  | nil => rfl
  | cons c r ih =>
    have hc : c ≠ '\r' := h c (by simp)
    simp [unlAux, hc, ih (fun d hd => h d (by simp [hd]))]

theorem universalNewlines_of_noCR (s : Str) (h : ∀ c ∈ s, c ≠ '\r') : universalNewlines s = s :=
  unlAux_of_noCR s h

theorem fileLinesAux_line (l : Str) (hl : ∀ c ∈ l, c ≠ '\n') :
    ∀ (cur rest : Str), fileLinesAux (l ++ '\n' :: rest) cur = (cur.reverse ++ l ++ ['\n']) :: fileLinesAux rest [] := by
  induction l with
  | nil => intro cur rest; simp [fileLinesAux]
  | cons c l ih =>
    intro cur rest
    have hc : c ≠ '\n' := hl c (by simp)
    have := ih (fun d hd => hl d (by simp [hd])) (c :: cur) rest
    simp [fileLinesAux, hc, this]

theorem fileLines_lines (ls : List Str) (h : ∀ l ∈ ls, ∀ c ∈ l, c ≠ '\n') :
    fileLines ((ls.map (· ++ ['\n'])).flatten) = ls.map (· ++ ['\n']) := by
  unfold fileLines
  induction ls with
  | nil => rfl
  | cons l ls ih =>
    have := fileLinesAux_line l (h l (by simp)) [] ((ls.map (· ++ ['\n'])).flatten)
    simp only [List.map_cons, List.flatten_cons, List.append_assoc, List.singleton_append]
    rw [this, ih (fun m hm => h m (by simp [hm]))]
    simp

theorem fileLinesAux_drop_header (body : Str) : ∀ (h cur : Str),
    (fileLinesAux (h ++ '\n' :: body) cur).drop (h.count '\n' + 1) = fileLines body
  | [], cur => by simp [fileLinesAux, fileLines]
  | c :: h, cur => by
    by_cases hc : c = '\n'
    · subst hc
      simp only [List.cons_append, fileLinesAux, if_true, List.count_cons_self, List.drop_succ_cons]
      exact fileLinesAux_drop_header body h []
    · simp only [List.cons_append, fileLinesAux, hc, if_false, List.count_cons_of_ne hc]
      exact fileLinesAux_drop_header body h (c :: cur)

theorem fileLines_drop_header (hdr body : Str) (k : Nat) (hk : hdr.count '\n' = k) (hl : hdr.getLast? = some '\n') :
    (fileLines (hdr ++ body)).drop k = fileLines body := by
  rw [← hk, ← List.dropLast_append_getLast? _ hl, List.count_append, List.append_assoc]
  exact fileLinesAux_drop_header body _ []

theorem cutWidths_flatten (ss : List Str) (tl : Str) : cutWidths (ss.map List.length) (ss.flatten ++ tl) = ss := by
  induction ss with
  | nil => rfl
  | cons s ss ih =>
    simp only [List.map_cons, List.flatten_cons, cutWidths, List.append_assoc]
    rw [List.take_left', List.drop_left']
    · rw [ih]
    · rfl
    · rfl

theorem renderCells_induction
    {motive : (cells : List Cell) → (vals : List Value) → (line : Str) → renderCells cells vals = some line → Prop}
    (nil : ∀ vals, motive [] vals [] rfl)
    (lit : ∀ t cs vals line (h : renderCells cs vals = some line), motive cs vals line h →
      motive (.lit t :: cs) vals (t.toList ++ line) (by simp [renderCells, h]))
    (fld : ∀ n spec cs v vs line (hok : v.okFor spec = true) (h : renderCells cs vs = some line), motive cs vs line h →
      motive (.fld n spec :: cs) (v :: vs) (fmtValue spec v ++ line) (by rw [renderCells_fld hok, h]; rfl)) :
    ∀ cells vals line (h : renderCells cells vals = some line), motive cells vals line h := by
  intro cells
  induction cells with
  | nil => intro vals line h; cases h; exact nil vals
  | cons c cs ih =>
    intro vals line h
    cases c with
    | lit t =>
      obtain ⟨l, hl, rfl⟩ := Option.map_eq_some_iff.mp h
      exact lit t cs vals l hl (ih vals l hl)
    | other n => cases h
    | fld n spec =>
      cases vals with
      | nil => cases h
      | cons v vs =>
        have h' := h
        simp only [renderCells] at h'
        split at h'
        · obtain ⟨l, hl, rfl⟩ := Option.map_eq_some_iff.mp h'
          exact fld n spec cs v vs l (by assumption) hl (ih vs l hl)
        · cases h'

theorem render_segs (cells : List Cell) (vals : List Value) (line : Str) (h : renderCells cells vals = some line)
    (pre : Str) : pre ++ line = (segsFrom pre cells vals).flatten ++ tailLitFrom pre cells := by
  induction cells, vals, line, h using renderCells_induction generalizing pre with
  | nil => simp [segsFrom, tailLitFrom]
  | lit t cs vals line _ ih => rw [segsFrom, tailLitFrom, ← ih, List.append_assoc]
  | fld n spec cs v vs line _ _ ih =>
    have := ih []
    simp only [segsFrom, tailLitFrom, List.flatten_cons, List.nil_append] at this ⊢
    rw [List.append_assoc, ← this, List.append_assoc]

theorem segs_length (cells : List Cell) (vals : List Value) (h : allFit cells vals = true) (pre : Str) :
    (segsFrom pre cells vals).map List.length = segWidthsFrom pre.length cells := by
  induction cells, vals, h using allFit_induction generalizing pre with
  | nil => rfl
  | lit t cs vals _ ih => rw [segsFrom, segWidthsFrom, ih, List.length_append]
  | fld n spec cs v vs _ hfit _ ih =>
    rw [segsFrom, segWidthsFrom, List.map_cons, ih, List.length_append, length_fmtValue spec v hfit]; rfl

theorem segs_strip (cells : List Cell) (vals : List Value) (h : allFit cells vals = true) (pre : Str)
    (hs : leadSpacesFrom pre cells = true) :
    (segsFrom pre cells vals).map strip = (cellValues cells vals).map fun sv => strip (fmtValue sv.1 sv.2) := by
  induction cells, vals, h using allFit_induction generalizing pre with
  | nil => rfl
  | lit t cs vals _ ih => exact ih _ hs
  | fld n spec cs v vs _ _ _ ih =>
    rw [leadSpacesFrom, Bool.and_eq_true] at hs
    rw [segsFrom, cellValues, List.map_cons, List.map_cons, ih [] hs.2, strip_blank_append (isBlank_of_spaces hs.1)]

theorem fmtValue_split (sv : Spec × Value) : fmtValue sv.1 sv.2 = leftBlanks sv ++ sv.2.text sv.1 ++ rightBlanks sv := by
  unfold fmtValue leftBlanks rightBlanks rightAligned
  cases h : sv.1.align.getD sv.2.defaultAlign <;> simp [pad, ljust, rjust]

theorem segs_all (P : Char → Bool) (hP : P ' ' = true) (cells : List Cell) (vals : List Value)
    (h : allFit cells vals = true) (pre : Str) (hs : leadSpacesFrom pre cells = true)
    (ht : textsAll P cells vals = true) : ∀ s ∈ segsFrom pre cells vals, s.all P = true := by
  induction cells, vals, h using allFit_induction generalizing pre with
  | nil => intro s hs; cases hs
  | lit t cs vals _ ih => exact ih _ hs ht
  | fld n spec cs v vs _ _ _ ih =>
    rw [leadSpacesFrom, Bool.and_eq_true] at hs
    rw [textsAll, Bool.and_eq_true] at ht
    intro s hsm
    rcases List.mem_cons.mp hsm with rfl | hsm
    · rw [List.all_append, all_fmtValue P hP _ _ ht.1, Bool.and_true]
      exact List.all_eq_true.mpr fun c hc => of_decide_eq_true (List.all_eq_true.mp hs.1 c hc) ▸ hP
    · exact ih [] hs.2 ht.2 s hsm

theorem renderNamed_of_envValues (cells : List Cell) (env : Env) : ∀ (vals : List Value),
    envValues cells env = some vals → renderNamed cells env = renderCells cells vals := by
  induction cells with
  | nil => intro vals _; rfl
  | cons c cs ih =>
    intro vals h
    cases c with
    | lit t =>
      have h' : envValues cs env = some vals := h
      rw [renderNamed, renderCells, ih vals h']
    | other n => rfl
    | fld n spec =>
      simp only [envValues, fieldNames, List.filterMap_cons, List.mapM_cons] at h
      obtain ⟨v, hl, h⟩ := Option.bind_eq_some_iff.mp h
      obtain ⟨vs, hvs, hv⟩ := Option.bind_eq_some_iff.mp h
      cases hv
      simp only [renderNamed, hl, renderCells, ih vs hvs]

/-- what the parser's converter makes of a written cell: the exact counterpart, for a parser with declared dtypes, of the relation
`ReadsBack` (Proofs/WriterCells.lean); `expectField_fix` reduces it to `readBack p`, which `Props.C17.readback_is_rounding` ties to
the tolerance form -/
def expectField : Dtype → Spec × Value → FieldVal
  | .f8, (sp, .num q) => .f8 (some (fixedValue q (sp.prec.getD 6)))
  | .f8, (_, .int i) => .f8 (some (i : Rat))
  | .f8, (_, .negz) => .f8 (some 0)
  | .f8, (_, .nan) => .f8 none
  | .f8, (sp, .str s) => .f8 (parseFloat (Value.text sp (.str s)))
  | .u n, (sp, v) => .u ((v.text sp).take n)

theorem convert_cell (d : Dtype) (sp : Spec) (v : Value) (hc : Clean (v.text sp) = true) :
    convert d (strip (fmtValue sp v)) = expectField d (sp, v) := by
  rw [strip_fmtValue sp v hc]
  cases d with
  | u n => rfl
  | f8 =>
    cases v with
    | num q => simp [convert, expectField, Value.text, parseFloat_fmtFixedCore]
    | int i => simp [convert, expectField, Value.text, parseFloat_fmtInt]
    | negz => simp [convert, expectField, Value.text, Writers.parseFloat_negz]
    | nan => show FieldVal.f8 (parseFloat "nan".toList) = FieldVal.f8 none; rw [parseFloat_nan]
    | str s => rfl

theorem convertRow_cells : ∀ (l : List (Spec × Value)) (dts : List Dtype),
    (∀ sv ∈ l, Clean (sv.2.text sv.1) = true) →
    convertRow dts (l.map fun sv => strip (fmtValue sv.1 sv.2)) = List.zipWith expectField dts l := by
  intro l
  induction l with
  | nil => intro dts _; simp [convertRow]
  | cons sv l ih =>
    intro dts h
    cases dts with
    | nil => simp [convertRow]
    | cons d dts =>
      have := ih dts (fun x hx => h x (by simp [hx]))
      simp only [convertRow] at this ⊢
      simp only [List.map_cons, List.zipWith_cons_cons, List.cons.injEq]
      exact ⟨convert_cell d sv.1 sv.2 (h sv (by simp)), this⟩

theorem clean_cellValues (cells : List Cell) (vals : List Value) (h : allFit cells vals = true)
    (hc : allClean cells vals = true) : ∀ sv ∈ cellValues cells vals, Clean (sv.2.text sv.1) = true := by
  induction cells, vals, h using allFit_induction with
  | nil => intro sv hsv; cases hsv
  | lit t cs vals _ ih => exact ih hc
  | fld n spec cs v vs _ _ _ ih =>
    rw [allClean, Bool.and_eq_true] at hc
    intro sv hsv
    rcases List.mem_cons.mp hsv with rfl | hsv
    · exact hc.1
    · exact ih hc.2 sv hsv

theorem plainFor_iff {cm c : Char} : plainFor cm c = true ↔ c ≠ cm ∧ c ≠ '\n' ∧ c ≠ '\r' := by
  simp only [plainFor, Bool.and_eq_true, bne_iff_ne, ne_eq, and_assoc]

/-- The rendered line is its segments followed by the newline (`render_segs`); no character of it is the comment marker
(`segs_all`), so nothing is cut off; the segments have their nominal lengths (`segs_length`), so `cutWidths` returns the first
`k` of them (`cutWidths_flatten`; a line may have more segments than the parser has columns), and each strips to its cell because
the literal text in front of it is blank (`segs_strip`). -/
theorem gftRow_line_prefix (sp : GftSpec) (cells : List Cell) (vals : List Value) (k : Nat)
    (hw : (segWidthsFrom 0 cells).take k = sp.widths) (hlead : leadSpacesFrom [] cells = true)
    (htail : tailLitFrom [] cells = ['\n']) (hcm : sp.comment ≠ ' ' ∧ sp.comment ≠ '\n') (hauto : sp.autostrip = true)
    (hv : valsOk sp cells vals = true) :
    ∃ body row, renderCells cells vals = some (body ++ ['\n']) ∧ (∀ c ∈ body, c ≠ '\n') ∧ (∀ c ∈ body, c ≠ '\r') ∧
      gftRow sp (body ++ ['\n']) = some row ∧
      convertRow sp.dtypes row = List.zipWith expectField sp.dtypes ((cellValues cells vals).take k) := by
  simp only [valsOk, Bool.and_eq_true] at hv
  obtain ⟨⟨hfit, hclean⟩, hplain⟩ := hv
  obtain ⟨line, hr, _, _⟩ := fields_in_columns_aux cells vals hfit
  have hsp : plainFor sp.comment ' ' = true := plainFor_iff.mpr ⟨Ne.symm hcm.1, by decide, by decide⟩
  have hline := render_segs cells vals line hr []
  rw [List.nil_append, htail] at hline
  subst hline
  have hbody : ∀ c ∈ (segsFrom [] cells vals).flatten, c ≠ sp.comment ∧ c ≠ '\n' ∧ c ≠ '\r' := by
    intro c hc
    obtain ⟨s, hs, hcs⟩ := List.mem_flatten.mp hc
    exact plainFor_iff.mp (List.all_eq_true.mp (segs_all (plainFor sp.comment) hsp cells vals hfit [] hlead hplain s hs) c hcs)
  refine ⟨_, _, hr, fun c hc => (hbody c hc).2.1, fun c hc => (hbody c hc).2.2, ?_,
    convertRow_cells _ _ fun sv hsv => clean_cellValues _ _ hfit hclean sv (List.mem_of_mem_take hsv)⟩
  have hnc : ∀ c ∈ (segsFrom [] cells vals).flatten ++ ['\n'], decide (c ≠ sp.comment) = true := by
    intro c hc
    rcases List.mem_append.mp hc with h | h
    · simpa using (hbody c h).1
    · simp at h; subst h; simpa using fun h => hcm.2 h.symm
  have hflat : (segsFrom [] cells vals).flatten ++ ['\n'] =
      ((segsFrom [] cells vals).take k).flatten ++ (((segsFrom [] cells vals).drop k).flatten ++ ['\n']) := by
    rw [← List.append_assoc, ← List.flatten_append, List.take_append_drop]
  have hcut : cutWidths sp.widths ((segsFrom [] cells vals).flatten ++ ['\n']) = (segsFrom [] cells vals).take k := by
    rw [← hw, ← List.length_nil (α := Char), ← segs_length cells vals hfit [], ← List.map_take, hflat]
    exact cutWidths_flatten _ _
  unfold gftRow
  simp only [takeWhile_eq_self _ _ hnc, hauto, if_true]
  rw [if_neg (by simp), hcut, List.map_take, segs_strip cells vals hfit [] hlead, List.map_take]

theorem gftRow_line (sp : GftSpec) (cells : List Cell) (hm : lineMatches sp cells = true) (vals : List Value)
    (hv : valsOk sp cells vals = true) :
    ∃ body row, renderCells cells vals = some (body ++ ['\n']) ∧ (∀ c ∈ body, c ≠ '\n') ∧ (∀ c ∈ body, c ≠ '\r') ∧
      gftRow sp (body ++ ['\n']) = some row ∧
      convertRow sp.dtypes row = List.zipWith expectField sp.dtypes (cellValues cells vals) := by
  simp only [lineMatches, Bool.and_eq_true, beq_iff_eq, bne_iff_ne, ne_eq] at hm
  obtain ⟨⟨⟨⟨⟨hw, hlead⟩, htail⟩, hc1⟩, hc2⟩, hauto⟩ := hm
  have h := gftRow_line_prefix sp cells vals (segWidthsFrom 0 cells).length (by rw [List.take_length, hw]) hlead htail
    ⟨hc1, hc2⟩ hauto hv
  simp only [valsOk, Bool.and_eq_true] at hv
  have h1 := congrArg List.length (segs_strip cells vals hv.1.1 [] hlead)
  have h2 := congrArg List.length (segs_length cells vals hv.1.1 [])
  simp only [List.length_map, List.length_nil] at h1 h2
  rwa [List.take_of_length_le (by omega)] at h

/-- the literal text of a line: what it writes whatever the values are -/
def litText : List Cell → Str
  | [] => []
  | .lit t :: cs => t.toList ++ litText cs
  | .fld _ _ :: cs => litText cs
  | .other _ :: cs => litText cs

theorem render_count (c : Char) (hc : c ≠ ' ') (cells : List Cell) (vals : List Value) (line : Str)
    (h : renderCells cells vals = some line) (ht : textsAll (· != c) cells vals = true) :
    line.count c = (litText cells).count c := by
  induction cells, vals, line, h using renderCells_induction with
  | nil => rfl
  | lit t cs vals line _ ih => rw [litText, List.count_append, List.count_append, ih ht]
  | fld n spec cs v vs line _ _ ih =>
    rw [textsAll, Bool.and_eq_true] at ht
    have h0 : (v.text spec).count c = 0 :=
      List.count_eq_zero.mpr fun hm => absurd rfl (bne_iff_ne.mp (List.all_eq_true.mp ht.1 c hm))
    rw [litText, List.count_append, count_fmtValue c hc, h0, Nat.zero_add]
    exact ih ht.2

theorem render_all (P : Char → Bool) (hP : P ' ' = true) (cells : List Cell) (vals : List Value) (line : Str)
    (h : renderCells cells vals = some line) (hl : (litText cells).all P = true) (ht : textsAll P cells vals = true) :
    line.all P = true := by
  induction cells, vals, line, h using renderCells_induction with
  | nil => rfl
  | lit t cs vals line _ ih =>
    rw [litText, List.all_append, Bool.and_eq_true] at hl
    rw [List.all_append, hl.1, ih hl.2 ht]; rfl
  | fld n spec cs v vs line _ _ ih =>
    rw [textsAll, Bool.and_eq_true] at ht
    rw [List.all_append, all_fmtValue P hP _ _ ht.1, ih hl ht.2]; rfl

/-- what a header table has to satisfy so that parser `sp` skips it exactly: its literal text has `skip_header` newlines
and no carriage return, and its last literal ends the last line -/
def headerMatches (sp : GftSpec) (cells : List Cell) : Bool :=
  (litText cells).count '\n' == sp.skip && (litText cells).all (· != '\r') && (tailLitFrom [] cells).getLast? == some '\n'

theorem textsAll_str (P : Char → Bool) (cells : List Cell) : ∀ texts : List Str, (∀ t ∈ texts, t.all P = true) →
    textsAll P cells (texts.map .str) = true := by
  induction cells with
  | nil => intro _ _; rfl
  | cons c cs ih =>
    intro texts h
    cases c with
    | lit t => exact ih texts h
    | other n => exact ih texts h
    | fld n spec =>
      cases texts with
      | nil => rfl
      | cons t ts =>
        have ht := h t List.mem_cons_self
        simp only [List.map_cons, textsAll, Bool.and_eq_true, Value.text]
        refine ⟨?_, ih ts fun u hu => h u (List.mem_cons_of_mem _ hu)⟩
        cases spec.prec with
        | none => exact ht
        | some p => exact List.all_eq_true.mpr fun c hc => List.all_eq_true.mp ht c (List.mem_of_mem_take hc)

def noBreaks (t : Str) : Prop := t.all (· != '\n') = true ∧ t.all (· != '\r') = true

theorem header_ok (sp : GftSpec) (w : String) (texts : List Str) (ht : ∀ t ∈ texts, noBreaks t)
    (hok : (headerText w texts).isSome = true) (hm : headerMatches sp (headerOf w) = true) :
    ∃ hdr, headerText w texts = some hdr ∧ headerOk sp hdr = true := by
  obtain ⟨hdr, hr⟩ := Option.isSome_iff_exists.mp hok
  have hnl := textsAll_str (· != '\n') (headerOf w) texts fun t h => (ht t h).1
  have hcr := textsAll_str (· != '\r') (headerOf w) texts fun t h => (ht t h).2
  simp only [headerMatches, Bool.and_eq_true, beq_iff_eq] at hm
  refine ⟨hdr, hr, ?_⟩
  simp only [headerOk, Bool.and_eq_true, beq_iff_eq]
  refine ⟨⟨?_, ?_⟩, render_all (· != '\r') (by decide) _ _ hdr hr hm.1.2 hcr⟩
  · rw [render_count '\n' (by decide) _ _ hdr hr hnl, hm.1.1]
  · have := render_segs _ _ hdr hr []
    rw [List.nil_append] at this
    have hne : tailLitFrom [] (headerOf w) ≠ [] := by intro h; rw [h] at hm; cases hm.2
    rw [this, List.getLast?_append_of_ne_nil _ hne, hm.2]

theorem gft_file_of {α} (sp : GftSpec) (render : α → Option Str) (record : α → List FieldVal) (hdr : Str)
    (hh : headerOk sp hdr = true) (items : List α)
    (hitem : ∀ a ∈ items, ∃ body row, render a = some (body ++ ['\n']) ∧ (∀ c ∈ body, c ≠ '\n') ∧ (∀ c ∈ body, c ≠ '\r') ∧
      gftRow sp (body ++ ['\n']) = some row ∧ convertRow sp.dtypes row = record a) :
    ∃ lines, items.mapM render = some lines ∧ gftParse sp (hdr ++ lines.flatten) = items.map record := by
  have hb : ∃ bodies : List Str, items.mapM render = some (bodies.map (· ++ ['\n'])) ∧
      (∀ b ∈ bodies, (∀ c ∈ b, c ≠ '\n') ∧ ∀ c ∈ b, c ≠ '\r') ∧
      ((bodies.map (· ++ ['\n'])).filterMap (gftRow sp)).map (convertRow sp.dtypes) = items.map record := by
    induction items with
    | nil => exact ⟨[], rfl, by simp, rfl⟩
    | cons a rest ih =>
      obtain ⟨bodies, hb1, hb2, hb4⟩ := ih fun x hx => hitem x (List.mem_cons_of_mem _ hx)
      obtain ⟨body, row, hr, hnl, hcr, hrow, hrec⟩ := hitem a List.mem_cons_self
      exact ⟨body :: bodies, by simp [List.mapM_cons, hr, hb1], List.forall_mem_cons.mpr ⟨⟨hnl, hcr⟩, hb2⟩,
        by rw [List.map_cons, List.filterMap_cons_some hrow, List.map_cons, hrec, hb4, List.map_cons]⟩
  obtain ⟨bodies, hb1, hb2, hb4⟩ := hb
  refine ⟨_, hb1, ?_⟩
  simp only [headerOk, Bool.and_eq_true, beq_iff_eq, List.all_eq_true, bne_iff_ne, ne_eq] at hh
  obtain ⟨⟨hcount, hlast⟩, hcr⟩ := hh
  have hnocr : ∀ c ∈ hdr ++ (bodies.map (· ++ ['\n'])).flatten, c ≠ '\r' := by
    intro c hc
    rcases List.mem_append.mp hc with h | h
    · exact hcr c h
    · obtain ⟨l, hl, hcl⟩ := List.mem_flatten.mp h
      obtain ⟨b, hb, rfl⟩ := List.mem_map.mp hl
      rcases List.mem_append.mp hcl with h' | h'
      · exact (hb2 b hb).2 c h'
      · simp at h'; subst h'; decide
  unfold gftParse gftRows
  rw [universalNewlines_of_noCR _ hnocr, fileLines_drop_header hdr _ sp.skip hcount hlast, fileLines_lines bodies (fun b hb => (hb2 b hb).1)]
  exact hb4

theorem gft_file_records {α} (sp : GftSpec) (w : String) (texts : List Str) (render : α → Option Str)
    (record : α → List FieldVal) (items : List α)
    (hh : ∃ hdr, headerText w texts = some hdr ∧ headerOk sp hdr = true)
    (hitem : ∀ a ∈ items, ∃ body row, render a = some (body ++ ['\n']) ∧ (∀ c ∈ body, c ≠ '\n') ∧ (∀ c ∈ body, c ≠ '\r') ∧
      gftRow sp (body ++ ['\n']) = some row ∧ convertRow sp.dtypes row = record a ∧
      (record a)[sp.names.idxOf "station"]? ≠ some (.u [])) :
    ∃ file, fileOf (headerText w texts) (items.mapM render) = some file ∧
      dropBlankStations sp (gftParse sp file) = items.map record := by
  obtain ⟨hdr, hht, hh⟩ := hh
  obtain ⟨lines, hl, hp⟩ := gft_file_of sp render record hdr hh items fun a ha =>
    let ⟨body, row, h1, h2, h3, h4, h5, _⟩ := hitem a ha
    ⟨body, row, h1, h2, h3, h4, h5⟩
  refine ⟨hdr ++ lines.flatten, by rw [hht, hl]; rfl, ?_⟩
  rw [hp]
  unfold dropBlankStations
  rw [List.filter_eq_self]
  intro r hr
  obtain ⟨a, ha, rfl⟩ := List.mem_map.mp hr
  obtain ⟨_, _, _, _, _, _, _, hst⟩ := hitem a ha
  exact bne_iff_ne.mpr hst

end Midgard.WriterFiles
