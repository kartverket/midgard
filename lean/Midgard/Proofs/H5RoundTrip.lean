/-
C10 — `read (write d ℓ) = restrict d ℓ`.  The Boolean conditions of `WritableS` / `WritableX` as the propositions the two sides
work with, and what the read invariant says in the terms of the statement (`Obj.rename`, the objects a dataset can reach).  The
theorem for the model with the `time` attribute of positions (the file is as `writeDS_okX` says, then the loop over the top-level
fields with `readFieldX`), and from it, with no `time` attached anywhere, for the model without; both for any bounds of the read
that are large enough.
-/
import Midgard.Proofs.H5WriteFile
import Midgard.Proofs.H5ReadTime
import Midgard.Proofs.H5Time

namespace Midgard.H5
open Midgard.Dataset

theorem nodupB_nodup : ∀ (l : List Nat), nodupB l = true → l.Nodup
  | [], _ => List.nodup_nil
  | x :: xs, hn => by
    simp only [nodupB, Bool.and_eq_true, Bool.not_eq_true', List.contains_eq_mem, decide_eq_false_iff_not] at hn
    exact List.nodup_cons.mpr ⟨hn.1, nodupB_nodup xs hn.2⟩

theorem heapOK_obj {h : Heap} (hk : heapOK h = true) {o : Nat} {ob : Obj} (hob : h[o]? = some ob) : objOK h o ob = true := by
  have ho : o < h.length := Lists.lt_of_get hob
  simp only [heapOK, List.all_eq_true, List.mem_range] at hk
  have := hk o ho
  rw [hob] at this
  exact this

theorem heapOK_wf {h : Heap} (hk : heapOK h = true) : HeapWF h where
  below := by
    intro o ob x hob hr
    have := heapOK_obj hk hob
    simp only [objOK, hr, Bool.and_eq_true, decide_eq_true_eq] at this
    exact this.2.1
  delta := by
    intro o ob hob hd hr
    have := heapOK_obj hk hob
    simp [objOK, hr, hd] at this
  refReg := by
    intro o ob x hob hr
    have := heapOK_obj hk hob
    simp only [objOK, hr, Bool.and_eq_true, decide_eq_true_eq] at this
    have h2 := this.2.2
    cases hx : h[x]? with
    | none => simp [hx] at h2
    | some t => simp only [hx] at h2; exact ⟨t, hx, h2⟩
  normal := by
    intro o ob hob
    have := heapOK_obj hk hob
    simp only [objOK, Bool.and_eq_true] at this
    exact this.1.1

theorem tmOKB_spec {h : Heap} {tm : TM} (hk : tmOKB h tm = true) : ∀ o t, tmE h tm o = some t → IsTime h t := by
  intro o t ht
  simp only [tmE] at ht
  cases hob : h[o]? with
  | none => rw [hob] at ht; cases ht
  | some ob =>
    rw [hob] at ht
    simp only at ht
    have ho : o < h.length := (List.getElem?_eq_some_iff.mp hob).1
    simp only [tmOKB, List.all_eq_true, List.mem_range] at hk
    have := hk o ho
    rw [hob] at this
    simp only at this
    split at ht
    · rename_i hko
      simp only [hko, if_true, ht] at this
      cases htb : h[t]? with
      | none => rw [htb] at this; cases this
      | some tb =>
        rw [htb] at this
        exact ⟨tb, htb, by simpa using this⟩
    · cases ht

theorem fieldsDepth_restrict (lvl : Nat) (fs : List Field) : fieldsDepth (restrictFields lvl fs) ≤ fieldsDepth fs := by
  induction fs using restrictFields.induct lvl with
  | case1 => simp [restrictFields]
  | case2 f fs hlv ih =>
    rw [restrict_skip hlv]
    cases f <;> simp only [fieldsDepth] <;> omega
  | case3 fs nm k o no u l hlv ih =>
    rw [restrict_keep hlv]
    simp only [restrictField, fieldsDepth]
    omega
  | case4 fs nm no l sub hlv ih1 ih2 =>
    rw [restrict_keep hlv]
    simp only [restrictField, fieldsDepth]
    omega

theorem leafObjs_lt (h : Heap) (n : Nat) (fs : List Field) (hk : fieldsOK h n fs = true) : ∀ o ∈ leafObjs fs, o < h.length := by
  induction fs using leafObjs.induct with
  | case1 => intro o ho; simp [leafObjs] at ho
  | case2 nm k o' no u l fs ih =>
    obtain ⟨h1, h2⟩ := fieldsOK_cons h _ _ fs hk
    intro o ho
    simp only [leafObjs, List.mem_cons] at ho
    rcases ho with rfl | ho
    · exact (fieldsOK_leaf h1).1
    · exact ih h2 o ho
  | case3 nm no l sub fs ih1 ih2 =>
    obtain ⟨h1, h2⟩ := fieldsOK_cons h _ _ fs hk
    intro o ho
    simp only [leafObjs, List.mem_append] at ho
    exact ho.elim (ih1 (fieldsOK_coll h1).2 o) (ih2 h2 o)

theorem rename_ref (φ : Nat → Nat) (ob : Obj) : (ob.rename φ).ref = ob.ref.map φ := by
  by_cases h1 : ob.kind.hasOther = true <;> by_cases h2 : ob.kind.isDelta = true <;>
    simp [Obj.ref, Obj.rename, h1, h2]

theorem image_eq_rename {ρ : Rho} {ob : Obj} {r' : Option Nat} (hn : ob.normal = true) (hr : RefRel ρ ob.ref r') :
    ob.strip.withRef r' = ob.rename (phi ρ) := by
  have hr' : r' = ob.ref.map (phi ρ) := by
    cases hro : ob.ref with
    | none => rw [hro] at hr; exact hr
    | some y =>
      rw [hro] at hr
      obtain ⟨m, h1, h2⟩ := hr
      simp [h1, phi_of_lookup h2]
  subst hr'
  cases ob with
  | mk k nd c rows ot rp =>
    simp only [Obj.normal, Bool.and_eq_true, Bool.or_eq_true, Option.isNone_iff_eq_none] at hn
    cases k <;> simp_all [Obj.withRef, Obj.strip, Obj.rename, Obj.ref, Kind.hasOther, Kind.isDelta]

theorem ReachX.known {h : Heap} {tm : TM} {file : File} {fs : List Field} {ρ : Rho} {s : RSt} (inv : RInvX h tm file ρ s)
    (hdom : ∀ o ∈ leafObjs fs, ρ.lookup o ≠ none) {x : Nat} (hx : ReachX h tm fs x) : ∃ n, ρ.lookup x = some n := by
  induction hx with
  | field ho => exact Option.ne_none_iff_exists'.mp (hdom _ ho)
  | @ref x y ob _ hob hr ih =>
    obtain ⟨n, hl⟩ := ih
    obtain ⟨ob', r', h1, _, h3, _⟩ := inv.img x n hl
    rw [hob] at h1
    cases h1
    rw [hr] at h3
    obtain ⟨m, _, hm⟩ := h3
    exact ⟨m, hm⟩
  | @time x t _ ht ih =>
    obtain ⟨n, hl⟩ := ih
    have h4 := inv.tmRel x n hl
    rw [ht] at h4
    obtain ⟨m, _, hm⟩ := h4
    exact ⟨m, hm⟩

theorem refRel_map {ρ : Rho} {r r' : Option Nat} (hr : RefRel ρ r r') : r' = r.map (phi ρ) := by
  cases r with
  | none => exact hr
  | some y =>
    obtain ⟨m, h1, h2⟩ := hr
    rw [h1]
    simp [phi_of_lookup h2]

/-- **`read (write d ℓ) = restrict d ℓ`** with the `time` attribute: the fields of `restrict d ℓ` renumbered by `φ`; every
reachable object (also through `time`) is mapped to an object of the same kind, shape and rows whose `other` / `ref_pos` *and* `time` are
the images of the old ones; the map is injective on the reachable objects.  For any two bounds that are at least those `readBackX`
gives to `readTopX`; `s'` is the state at the end of the read -/
theorem roundTrip_coreX (h : Heap) (tm : TM) (d : DS) (lvl : Nat) (hw : WritableX h tm d lvl) {fa fd : Nat}
    (hfa : h.length + 1 ≤ fa) (hfd : fieldsDepth d.fields + 1 ≤ fd) :
    ∃ (file : File) (s' : RSt) (φ : Nat → Nat), writeDSX h tm d lvl = .ok file ∧ file.numObs = d.numObs ∧
      readTopX file fa fd file.members {} = .ok (renameFields φ (restrictFields lvl d.fields), s') ∧
      (∀ x, ReachX h tm (restrictFields lvl d.fields) x → ∃ ob, h[x]? = some ob ∧ s'.heap[φ x]? = some (ob.rename φ) ∧
        tmOf s'.tm (φ x) = (tmE h tm x).map φ) ∧
      (∀ x y, ReachX h tm (restrictFields lvl d.fields) x → ReachX h tm (restrictFields lvl d.fields) y → φ x = φ y → x = y) := by
  simp only [WritableX, writableXB, writableSB, Bool.and_eq_true] at hw
  obtain ⟨⟨⟨hheap, hok⟩, hnames⟩, htm⟩ := hw
  have hwf := heapOK_wf hheap
  have hh : HeapWFX h tm := ⟨hwf, tmOKB_spec htm⟩
  have hx : HeapX h tm := ⟨hwf.below, tmOKB_spec htm⟩
  have hlt := leafObjs_lt h d.numObs _ hok
  obtain ⟨file, hwr, hno, hmem, hrep, fo⟩ := writeDS_okX h tm hx d lvl hnames hlt
  have hok' : fieldsOK h file.numObs (restrictFields lvl d.fields) = true := by rw [hno]; exact hok
  -- at the start nothing has been read, and no group is left to visit after the top-level fields
  have hfr : Fr h file [] {} (pathsOf (restrictFields lvl d.fields) [] ++ []) := fun x _ hx => by simp [List.lookup] at hx
  have hnd : (pathsOf (restrictFields lvl d.fields) [] ++ []).Nodup := by
    rw [List.append_nil]; exact leafPaths_nodup _ [] hnames
  have hdepth : fieldsDepth (restrictFields lvl d.fields) ≤ fd := by
    have := fieldsDepth_restrict lvl d.fields; omega
  obtain ⟨s', ρ, hrd, inv, post, _⟩ := fieldsLoop_spec (RInvX.above h tm file) (constructMemo lvl d.fields [] [])
    (readFieldX_reads hh fo hfa _ fd) (pre := []) (subs := file.groups) fo.names
    (lookupGrp_top fo.names) (regTop_keeps (RInvX.above h tm file) _) (fs := restrictFields lvl d.fields) (s := {}) (ρ := [])
    (rest := []) (RInvX.empty h tm file)
    (RepGL_mem _ _ _ hrep) hok' hfr hnd (aliasOrd_constructMemo lvl d.fields) hdepth
  refine ⟨file, s', phi ρ, hwr, hno, ?_, ?_, ?_⟩
  · rw [hmem, readTopX_loop, hrd]
  · intro x hx
    obtain ⟨n, hl⟩ := ReachX.known inv post.dom hx
    obtain ⟨ob, r', h1, h2, h3, h4⟩ := inv.img x n hl
    exact ⟨ob, h1, by rw [phi_of_lookup hl, h2, image_eq_rename (hwf.normal x ob h1) h3],
      by rw [phi_of_lookup hl]; exact refRel_map h4⟩
  · intro x y hx hy hxy
    obtain ⟨n, hlx⟩ := ReachX.known inv post.dom hx
    obtain ⟨m, hly⟩ := ReachX.known inv post.dom hy
    rw [phi_of_lookup hlx, phi_of_lookup hly] at hxy
    subst hxy
    exact inv.inj x y n hlx hly

theorem Reach.toX {h : Heap} {fs : List Field} {x : Nat} (tm : TM) (hx : Reach h fs x) : ReachX h tm fs x := by
  induction hx with
  | field ho => exact .field ho
  | ref _ hob hr ih => exact .ref ih hob hr

theorem WritableS.toX {h : Heap} {d : DS} {lvl : Nat} (hw : WritableS h d lvl) : WritableX h [] d lvl := by
  refine Bool.and_eq_true_iff.mpr ⟨hw, List.all_eq_true.mpr fun o _ => ?_⟩
  cases h[o]? with
  | none => rfl
  | some ob => simp [tmOf_nil]

theorem Writable.toS {h : Heap} {d : DS} {lvl : Nat} (hw : Writable h d lvl) : WritableS h d lvl :=
  (Bool.and_eq_true_iff.mp hw).1

/-- **`read (write d ℓ) = restrict d ℓ` up to the numbering of the array objects, arrays shared between fields included**:
the model with `time` on a dataset without any.  For `Dataset.read` with any two bounds that are at least those of `readBack` -/
theorem roundTrip_coreS (h : Heap) (d : DS) (lvl : Nat) (hw : WritableS h d lvl) {fa fd : Nat}
    (hfa : h.length + 1 ≤ fa) (hfd : fieldsDepth d.fields + 1 ≤ fd) :
    ∃ (file : File) (h' : Heap) (φ : Nat → Nat), writeDS h d lvl = .ok file ∧
      readDS fa fd file = .ok (h', { numObs := d.numObs, fields := renameFields φ (restrictFields lvl d.fields) }) ∧
      (∀ x, Reach h (restrictFields lvl d.fields) x → ∃ ob, h[x]? = some ob ∧ h'[φ x]? = some (ob.rename φ)) ∧
      (∀ x y, Reach h (restrictFields lvl d.fields) x → Reach h (restrictFields lvl d.fields) y → φ x = φ y → x = y) := by
  obtain ⟨file, s', φ, hwr, hno, hrd, himg, hinj⟩ := roundTrip_coreX h [] d lvl hw.toX hfa hfd
  rw [writeDSX_eq h [] (tmE_nil h) d lvl] at hwr
  refine ⟨file, s'.heap, φ, hwr, ?_, fun x hx => ?_, fun x y hx hy => hinj x y (hx.toX []) (hy.toX [])⟩
  · simp only [readDS, ← readTopX_eq file (writeDS_noTime h d lvl file hwr), hrd, hno]
  · obtain ⟨ob, h1, h2, _⟩ := himg x (hx.toX [])
    exact ⟨ob, h1, h2⟩

/-- **`read (write d ℓ) = restrict d ℓ` up to the numbering of the array objects** -/
theorem roundTrip_core (h : Heap) (d : DS) (lvl : Nat) (hw : Writable h d lvl) :
    ∃ (file : File) (h' : Heap) (φ : Nat → Nat), writeDS h d lvl = .ok file ∧
      readBack h d file = .ok (h', { numObs := d.numObs, fields := renameFields φ (restrictFields lvl d.fields) }) ∧
      (∀ x, Reach h (restrictFields lvl d.fields) x → ∃ ob, h[x]? = some ob ∧ h'[φ x]? = some (ob.rename φ)) ∧
      (∀ x y, Reach h (restrictFields lvl d.fields) x → Reach h (restrictFields lvl d.fields) y → φ x = φ y → x = y) :=
  roundTrip_coreS h d lvl hw.toS (Nat.le_refl _) (Nat.le_refl _)

end Midgard.H5
