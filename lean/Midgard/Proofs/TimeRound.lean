/-
Floor, fraction, integer quotient and `roundHalfEven` (of `Model/TimeArith.lean`) over ℚ; the floor split `JD.split` that the
floor-splitting constructors store; the instants of the six operators.
-/
import Midgard.Model.TimeArith
import Midgard.Proofs.Decimal
import Mathlib.Tactic.Linarith
import Mathlib.Tactic.Ring
import Mathlib.Tactic.NormNum
import Mathlib.Algebra.Order.Field.Rat
import Mathlib.Algebra.Order.Field.Basic
import Mathlib.Algebra.Order.Ring.Abs

namespace Midgard.TimeArith

theorem frac_range (x : Rat) : 0 ≤ x - (x.floor : Rat) ∧ x - (x.floor : Rat) < 1 := by
  have h1 := Rat.floor_le x
  have h2 : x < (x.floor : Rat) + 1 := by exact_mod_cast Rat.lt_floor_add_one x
  constructor <;> linarith

theorem floor_add_frac (n : Int) (x : Rat) (h0 : 0 ≤ x) (h1 : x < 1) : ((n : Rat) + x).floor = n := by
  have a : n ≤ ((n : Rat) + x).floor := Rat.le_floor_iff.mpr (by linarith)
  have b : ((n : Rat) + x).floor < n + 1 := Rat.floor_lt_iff.mpr (by push_cast; linarith)
  omega

/-- day part `c + ⌊x⌋`, fraction part `x − ⌊x⌋`: what the constructors of jd, mjd, gps_ws, gps_seconds, jyear and of the
durations jd / days / seconds store, each for its own `c` and `x` (datetime, decimalyear and timedelta are not brought to this form).
Read through it: the `*_normalised` statements and the numeric round trips of C02, `splitFloor_normalised`; the laws `toJds_inst`,
`fromJds_toJds`, `sub_eq_add_neg` of Props/C03 are arithmetic on the unfolded pair (the `δ` of `splitFloor` cancels in the sum) -/
def JD.split (c x : Rat) : JD := ⟨c + (x.floor : Rat), x - (x.floor : Rat)⟩

theorem JD.split_inst (c x : Rat) : (JD.split c x).inst = c + x := by
  simp only [JD.split, JD.inst]; ring

theorem JD.split_jd2 (c x : Rat) : 0 ≤ (JD.split c x).jd2 ∧ (JD.split c x).jd2 < 1 := frac_range x

theorem splitFloor_eq (v v2 : Rat) : splitFloor v v2 = JD.split 0 (v + v2) := by
  simp only [splitFloor, JD.split, JD.mk.injEq]; constructor <;> ring

theorem splitFloor_normalised (v v2 : Rat) :
    (∃ k : Int, (splitFloor v v2).jd1 = (k : Rat)) ∧ 0 ≤ (splitFloor v v2).jd2 ∧ (splitFloor v v2).jd2 < 1 := by
  rw [splitFloor_eq]
  exact ⟨⟨_, zero_add _⟩, JD.split_jd2 _ _⟩

theorem tAddD_inst (t d : JD) : (tAddD t d).inst = t.inst + d.inst := by simp only [tAddD, JD.inst]; ring
theorem tSubD_inst (t d : JD) : (tSubD t d).inst = t.inst - d.inst := by simp only [tSubD, JD.inst]; ring
theorem tSubT_inst (t u : JD) : (tSubT t u).inst = t.inst - u.inst := by simp only [tSubT, JD.inst]; ring
theorem dAddD_inst (d e : JD) : (dAddD d e).inst = d.inst + e.inst := by simp only [dAddD, JD.inst]; ring
theorem dSubD_inst (d e : JD) : (dSubD d e).inst = d.inst - e.inst := by simp only [dSubD, JD.inst]; ring
theorem dAddT_inst (d t : JD) : (dAddT d t).inst = d.inst + t.inst := by simp only [dAddT, JD.inst]; ring

theorem rem_range (a : Int) {n : Int} (hn : 0 < n) : 0 ≤ a - a / n * n ∧ a - a / n * n < n := by
  have e := Int.emod_def a n
  rw [Int.mul_comm] at e
  rw [← e]
  exact ⟨Int.emod_nonneg a (ne_of_gt hn), Int.emod_lt_of_pos a hn⟩

theorem rem_div_range (a : Int) {n : Int} (hn : 0 < n) :
    0 ≤ ((a - a / n * n : Int) : Rat) / (n : Rat) ∧ ((a - a / n * n : Int) : Rat) / (n : Rat) < 1 := by
  obtain ⟨h0, h1⟩ := rem_range a hn
  have hn' : (0 : Rat) < (n : Rat) := by exact_mod_cast hn
  exact ⟨div_nonneg (by exact_mod_cast h0) hn'.le, (div_lt_one hn').mpr (by exact_mod_cast h1)⟩

/-- `Model/TimeArith.lean` and `Core/Decimal.lean` define round-half-even by the same text -/
theorem roundHalfEven_eq_decimal (x : Rat) : roundHalfEven x = Decimal.roundHalfEven x := rfl

theorem roundHalfEven_int (n : Int) : roundHalfEven (n : Rat) = n := by
  rw [roundHalfEven_eq_decimal]
  exact Decimal.rhe_int n

theorem roundHalfEven_close (x : Rat) : |((roundHalfEven x : Int) : Rat) - x| ≤ 1 / 2 := by
  rw [roundHalfEven_eq_decimal]
  exact abs_sub_le_iff.mpr (Decimal.rhe_near x)

end Midgard.TimeArith
