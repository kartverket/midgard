/-
A text and its lines (core Lean only; no format is imported).  The file specifications write a file as its lines, each closed by a
line feed (`joinNl`; every specification has its own `joinLines`, which `eq_joinNl` identifies with it); the parsers read it back with
`ChainParser.fileLines`, with the expression `dropEmptyLast_joinNl` spells out (SINEX, SP3, RINEX navigation) or by text-mode iteration
`TextLines.textLines` (ANTEX).  For each reader: lines free of line breaks come back as they were written.
-/
import Midgard.Model.TextLines
import Midgard.Model.ChainParser

namespace Midgard.Text

def joinNl : List Str → Str
  | [] => []
  | l :: ls => l ++ '\n' :: joinNl ls

theorem eq_joinNl {j : List Str → Str} (hnil : j [] = []) (hcons : ∀ l ls, j (l :: ls) = l ++ '\n' :: j ls) :
    j = joinNl := by
  funext ls
  induction ls with
  | nil => exact hnil
  | cons l ls ih => rw [hcons, ih]; rfl

theorem joinNl_append (a b : List Str) : joinNl (a ++ b) = joinNl a ++ joinNl b := by
  induction a with
  | nil => rfl
  | cons l t ih => simp [joinNl, ih]

theorem splitOnAux_last (sep : Char) (l : Str) (hl : ∀ c ∈ l, c ≠ sep) (cur : Str) :
    splitOnAux sep l cur = [cur.reverse ++ l] := by
  induction l generalizing cur with
  | nil => simp [splitOnAux]
  | cons c l ih =>
    simp only [splitOnAux, hl c (by simp), if_false]
    rw [ih (fun x hx => hl x (by simp [hx]))]
    simp

theorem splitOnAux_line (sep : Char) (l : Str) (hl : ∀ c ∈ l, c ≠ sep) (rest cur : Str) :
    splitOnAux sep (l ++ sep :: rest) cur = (cur.reverse ++ l) :: splitOnAux sep rest [] := by
  induction l generalizing cur with
  | nil => simp [splitOnAux]
  | cons c l ih =>
    simp only [List.cons_append, splitOnAux, hl c (by simp), if_false]
    rw [ih (fun x hx => hl x (by simp [hx]))]
    simp

/-- `last` is the unclosed rest, empty when the text ends in a line feed -/
theorem splitOn_joinNl (ls : List Str) (last : Str) (h : ∀ l ∈ ls, ∀ c ∈ l, c ≠ '\n') (hlast : ∀ c ∈ last, c ≠ '\n') :
    splitOn '\n' (joinNl ls ++ last) = ls ++ [last] := by
  unfold splitOn
  induction ls with
  | nil => simpa [joinNl] using splitOnAux_last '\n' last hlast []
  | cons l ls ih =>
    simp only [joinNl, List.append_assoc, List.cons_append]
    rw [splitOnAux_line '\n' l (h l (by simp)), ih (fun x hx => h x (by simp [hx]))]
    simp

theorem splitOn_joinNl_closed (ls : List Str) (h : ∀ l ∈ ls, ∀ c ∈ l, c ≠ '\n') :
    splitOn '\n' (joinNl ls) = ls ++ [[]] := by
  simpa using splitOn_joinNl ls [] h (by simp)

theorem chainLines_joinNl (ls : List Str) (h : ∀ l ∈ ls, ∀ c ∈ l, c ≠ '\n') :
    ChainParser.fileLines (joinNl ls) = ls := by
  simp [ChainParser.fileLines, splitOn_joinNl_closed ls h]

/-- the reader that `Sinex.fileLines`, `RinexNav.textLines` and `Sp3.parseFile` each spell out: the empty piece after the
last line feed is dropped -/
theorem dropEmptyLast_joinNl (ls : List Str) (h : ∀ l ∈ ls, ∀ c ∈ l, c ≠ '\n') :
    (match (splitOn '\n' (joinNl ls)).reverse with
      | [] :: r => r.reverse
      | _ => splitOn '\n' (joinNl ls)) = ls := by
  simp [splitOn_joinNl_closed ls h]

open Midgard.TextLines in
theorem textLinesAux_line (l : Str) (hl : ∀ c ∈ l, isLineEnd c = false) (rest cur : Str) :
    textLinesAux (l ++ '\n' :: rest) cur false = (cur.reverse ++ l) :: textLinesAux rest [] false := by
  induction l generalizing cur with
  | nil => simp [textLinesAux]
  | cons c l ih =>
    have hc : isLineEnd c = false := hl c (by simp)
    simp only [isLineEnd, Bool.or_eq_false_iff, decide_eq_false_iff_not] at hc
    simp only [List.cons_append, textLinesAux, hc.1, hc.2, if_false]
    rw [ih (fun x hx => hl x (by simp [hx]))]
    simp

/-- form feed, vertical tab, FS/GS/RS, NEL, U+2028/9 do not end a line of a text-mode file -/
theorem textLines_joinNl (ls : List Str) (h : ∀ l ∈ ls, ∀ c ∈ l, TextLines.isLineEnd c = false) :
    TextLines.textLines (joinNl ls) = ls := by
  unfold TextLines.textLines
  induction ls with
  | nil => rfl
  | cons l ls ih =>
    simp only [joinNl]
    rw [textLinesAux_line l (h l (by simp)), ih (fun x hx => h x (by simp [hx]))]
    simp

end Midgard.Text
