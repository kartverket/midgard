/-
C09 — the two loops of `Collection._extend` (`extendField.loop1` over the fields of other, `appendLoop` over the dict it
leaves), gone through once for the proofs that carry an invariant through them (the content simulation `loop1_abs` goes
through `loop1` by an induction of its own): a proof chooses a fact `I` about the state (its memo invariant), a
preorder `R` on states along which what it knows of single fields persists, and what it says of a field.  Also induction
over a field tree with the fields of a collection given by membership, for statements whose list half is a membership
statement (the others go by mutual recursion with one of the list predicates `RectFields`, `SameShapes`, `FieldsImg`).
-/
import Midgard.Proofs.DatasetDict

namespace Midgard.Dataset

mutual
theorem Field.induct {P : Field → Prop} (leaf : ∀ n k o no u l, P (.leaf n k o no u l))
    (coll : ∀ n no l fs, (∀ f ∈ fs, P f) → P (.coll n no l fs)) : ∀ f, P f
  | .leaf .. => leaf ..
  | .coll n no l fs => coll n no l fs (Field.inductList leaf coll fs)
theorem Field.inductList {P : Field → Prop} (leaf : ∀ n k o no u l, P (.leaf n k o no u l))
    (coll : ∀ n no l fs, (∀ f ∈ fs, P f) → P (.coll n no l fs)) : ∀ (fs : List Field), ∀ f ∈ fs, P f
  | [], _, h => by cases h
  | c :: cs, f, h => (List.mem_cons.mp h).elim (fun e => e ▸ Field.induct leaf coll c) (Field.inductList leaf coll cs f)
end

structure IsPre (R : St → St → Prop) : Prop where
  refl : ∀ s, R s s
  trans : ∀ {a b c}, R a b → R b c → R a c

/-- **the loop over `other._fields.items()`.**  `Todo s x`: what is known of a field of self not yet touched; `Done s x`:
what is known of a finished field.  A step pads a field only other has (or any field of other, when self is empty), or
extends the still untouched field of self of that name; `s0` is the state the loop started in, so a step may use what it
knows of the fields of other there.  Afterwards every field of the dict is finished and bears a name of other, or is an
untouched field of the dict at the start. -/
theorem loop1_induct {R : St → St → Prop} (hR : IsPre R) {I : St → Prop} {Todo Done : St → Field → Prop}
    (todo_mono : ∀ s s' x, R s s' → Todo s x → Todo s' x)
    (done_mono : ∀ s s' x, R s s' → Done s x → Done s' x)
    (us : Units) (sk : List String) (n : Nat) (s0 : St) :
    ∀ (gs : List Field),
    (∀ g ∈ gs, ∀ s f' s', R s0 s → I s → (!sk.contains g.name || n == 0) = true →
        padField true n g s = .ok (f', s') → R s s' ∧ I s' ∧ Done s' f' ∧ f'.name = g.name) →
    (∀ g ∈ gs, ∀ f s f' s', R s0 s → I s → ¬ (!sk.contains g.name || n == 0) = true → Todo s f → f.name = g.name →
        extendField us f g s = .ok (f', s') → R s s' ∧ I s' ∧ Done s' f' ∧ f'.name = g.name) →
    (names gs).Nodup →
    ∀ (acc : List Field) (s : St) (acc' : List Field) (s' : St),
    extendField.loop1 us sk n acc gs s = .ok (acc', s') → R s0 s → I s → (names acc).Nodup →
    (∀ x ∈ acc, x.name ∈ names gs → Todo s x) →
    R s s' ∧ I s' ∧ (names acc').Nodup ∧ (∀ x ∈ names acc, x ∈ names acc') ∧
      ∀ x ∈ acc', (x.name ∈ names gs ∧ Done s' x) ∨ (x.name ∉ names gs ∧ x ∈ acc)
  | [], _, _, _, acc, s, acc', s', h, _, hi, hn, _ => by
    cases h.symm
    exact ⟨hR.refl _, hi, hn, fun x hx => hx, fun x hx => Or.inr ⟨by simp [names], hx⟩⟩
  | g :: gs, hpad, hext, hnd, acc, s, acc', s', h, hr0, hi, hn, htodo => by
    simp only [extendField.loop1] at h
    split at h
    · simp at h
    · rename_i f1 s1 hstep
      simp only [names, List.map_cons, List.nodup_cons] at hnd
      have key : R s s1 ∧ I s1 ∧ Done s1 f1 ∧ f1.name = g.name := by
        split at hstep
        · rename_i hc
          exact hpad g (by simp) s f1 s1 hr0 hi hc hstep
        · rename_i hc
          split at hstep
          · simp at hstep
          · rename_i f hget
            obtain ⟨hfin, hfn⟩ := getField_some hget
            exact hext g (by simp) f s f1 s1 hr0 hi hc (htodo f hfin (by simp [names, hfn])) hfn hstep
      obtain ⟨r1, i1, d1, nm1⟩ := key
      -- the names of other are unique: the field just made is not looked at again, the others are as they were
      obtain ⟨r2, i2, n2, sub2, all2⟩ := loop1_induct hR todo_mono done_mono us sk n s0 gs
        (fun g' hg' => hpad g' (List.mem_cons_of_mem _ hg')) (fun g' hg' => hext g' (List.mem_cons_of_mem _ hg'))
        hnd.2 (setField acc f1) s1 acc' s' h (hR.trans hr0 r1) i1 (nodup_setField hn)
        (fun x hx hxn => by
          rcases mem_setField_nodup hn hx with rfl | ⟨hin, _⟩
          · exact absurd (nm1 ▸ hxn) hnd.1
          · exact todo_mono _ _ _ r1 (htodo x hin (by simp only [names, List.map_cons]; exact List.mem_cons_of_mem _ hxn)))
      refine ⟨hR.trans r1 r2, i2, n2, fun x hx => sub2 x (names_sub_setField acc f1 x hx), fun x hx => ?_⟩
      rcases all2 x hx with ⟨hin, hd⟩ | ⟨hnin, hx1⟩
      · exact Or.inl ⟨by simp only [names, List.map_cons]; exact List.mem_cons_of_mem _ hin, hd⟩
      · rcases mem_setField_nodup hn hx1 with rfl | ⟨hin, hne⟩
        · exact Or.inl ⟨by simp [names, nm1], done_mono _ _ _ r2 d1⟩
        · refine Or.inr ⟨?_, hin⟩
          simp only [names, List.map_cons, List.mem_cons, not_or]
          exact ⟨fun hc => hne (hc.trans nm1.symm), hnin⟩

/-- (core has no `List.Forall₂`) -/
inductive All₂ {α β} (B : α → β → Prop) : List α → List β → Prop
  | nil : All₂ B [] []
  | cons {a b l l'} : B a b → All₂ B l l' → All₂ B (a :: l) (b :: l')

theorem All₂.names_eq {B : Field → Field → Prop} (hn : ∀ f f', B f f' → f'.name = f.name) :
    ∀ {l l' : List Field}, All₂ B l l' → names l' = names l
  | _, _, .nil => rfl
  | _, _, .cons h t => by
    simp only [names, List.map_cons]
    rw [hn _ _ h]
    exact congrArg _ (All₂.names_eq hn t)

theorem All₂.mem_right {α β} {B : α → β → Prop} : ∀ {l : List α} {l' : List β}, All₂ B l l' →
    ∀ y ∈ l', ∃ x ∈ l, B x y
  | _, _, .nil, _, h => by cases h
  | _, _, .cons h t, y, hy => by
    rcases List.mem_cons.mp hy with rfl | hy
    · exact ⟨_, by simp, h⟩
    · obtain ⟨x, hx, hb⟩ := t.mem_right y hy
      exact ⟨x, List.mem_cons_of_mem _ hx, hb⟩

/-- **the second loop** (`append_empty` of the fields `p` selects).  `B s x y`: what is known of a field `x` and what has
become of it, `y`; `s0` is the state the loop started in, so a step may use what it knows of the fields there. -/
theorem appendLoop_thread {R : St → St → Prop} (hR : IsPre R) {I : St → Prop} {B : St → Field → Field → Prop}
    (b_mono : ∀ s s' x y, R s s' → B s x y → B s' x y) (p : String → Bool) (m : Nat) (s0 : St) :
    ∀ (acc : List Field),
    (∀ f ∈ acc, p f.name = true → ∀ s f' s', R s0 s → I s → padField false m f s = .ok (f', s') →
        R s s' ∧ I s' ∧ B s' f f') →
    (∀ f ∈ acc, p f.name = false → B s0 f f) →
    ∀ (s : St) (acc' : List Field) (s' : St), appendLoop p m acc s = .ok (acc', s') → R s0 s → I s →
    R s s' ∧ I s' ∧ All₂ (B s') acc acc'
  | [], _, _, s, acc', s', h, _, hi => by
    cases h.symm
    exact ⟨hR.refl _, hi, .nil⟩
  | f :: fs, hpad, hkeep, s, acc', s', h, hr0, hi => by
    simp only [appendLoop] at h
    split at h
    · simp at h
    · rename_i f1 s1 hstep
      split at h
      · simp at h
      · rename_i fs1 s2 hrest
        simp only [Except.ok.injEq, Prod.mk.injEq] at h
        obtain ⟨rfl, rfl⟩ := h
        have key : R s s1 ∧ I s1 ∧ B s1 f f1 := by
          split at hstep
          · rename_i hp
            exact hpad f (by simp) hp s f1 s1 hr0 hi hstep
          · rename_i hp
            cases hstep.symm
            exact ⟨hR.refl _, hi, b_mono _ _ _ _ hr0 (hkeep f (by simp) (by simpa using hp))⟩
        obtain ⟨r1, i1, b1⟩ := key
        obtain ⟨r2, i2, all2⟩ := appendLoop_thread hR b_mono p m s0 fs
          (fun x hx => hpad x (List.mem_cons_of_mem _ hx)) (fun x hx => hkeep x (List.mem_cons_of_mem _ hx))
          s1 fs1 s2 hrest (hR.trans hr0 r1) i1
        exact ⟨hR.trans r1 r2, i2, .cons (b_mono _ _ _ _ r2 b1) all2⟩

theorem onlyInSelf_iff {sk ok : List String} {len : Nat} {x : String} :
    onlyInSelf sk ok len x = true ↔ x ∈ sk ∧ x ∉ ok := by
  simp [onlyInSelf]

end Midgard.Dataset
