/-
C05 — the core shared by the near and the far bound of the normalised offset `R/a = (S·cc − P·s1)/D + e·s1·cc/(D·W)`
(`D = √(s1² + cc²)`, `W = √(q²s1² + cc²)`, notation of Proofs/GeoCofactors.lean): by the third-order identity `|R/a|` times a product of the
cofactors is at most `e⁴·P³·S³·|A − q|³·|H|` (`offset_core2`; with bounds in place of the cofactors and of `|H|`: `offset_core_le`, from which the
near and the far bound start).  `OffsetBound box bound` says that `bound` bounds `|R/a|` on a region `box` of `(A, q)`.
-/
import Midgard.Proofs.GeoThirdOrder
import Mathlib.Analysis.Real.Sqrt
import Mathlib.Tactic.FieldSimp
import Mathlib.Tactic.Positivity
import Mathlib.Tactic.Linarith
namespace Midgard.Geo.Acc

/-- Cauchy–Schwarz for `(s1, cc)·(q·s1, cc)`: `q·s1² + cc² ≤ D·W` -/
theorem cauchy_DW (q s1 cc D W : ℝ) (hq0 : 0 ≤ q) (hD : 0 ≤ D) (hW : 0 ≤ W)
    (hDD : D * D = s1 * s1 + cc * cc) (hWW : W * W = q ^ 2 * (s1 * s1) + cc * cc) :
    q * (s1 * s1) + cc * cc ≤ D * W := by
  have h0 : 0 ≤ q * (s1 * s1) + cc * cc := add_nonneg (mul_nonneg hq0 (mul_self_nonneg s1)) (mul_self_nonneg cc)
  have h1 : (q * (s1 * s1) + cc * cc) ^ 2 ≤ (D * W) ^ 2 := by
    have : (D * W) ^ 2 = (D * D) * (W * W) := by ring
    rw [this, hDD, hWW]
    nlinarith [mul_self_nonneg (s1 * cc * (1 - q))]
  have h2 := Real.sqrt_le_sqrt h1
  rwa [Real.sqrt_sq h0, Real.sqrt_sq (mul_nonneg hD hW)] at h2

theorem legs_le {q P S A : ℝ} (hqP : 0 ≤ q * P) (hS : 0 ≤ S) (hA : 0 ≤ A) (hAA : A * A = q * P * (q * P) + S * S) :
    q * P ≤ A ∧ S ≤ A :=
  ⟨(mul_self_le_mul_self_iff hqP hA).2 (hAA ▸ le_add_of_nonneg_right (mul_self_nonneg S)),
    (mul_self_le_mul_self_iff hS hA).2 (hAA ▸ le_add_of_nonneg_left (mul_self_nonneg (q * P)))⟩

/-- the last step of the near and of the far bound (`0.9898 ≤ 0.9966³`) -/
theorem offset_finish (X q c R Rmax bound : ℝ) (hX0 : 0 ≤ X) (hq : 0.9966 ≤ q) (he0 : 0 ≤ 1 - q ^ 2) (he : 1 - q ^ 2 ≤ 0.0067)
    (hc : 0 < c) (hR0 : 0 ≤ R) (key : X * (q ^ 3 * c) ≤ (1 - q ^ 2) ^ 4 * R) (hR : R ≤ Rmax)
    (hnum : 0.0067 ^ 4 * Rmax ≤ bound * (0.9898 * c)) : X ≤ bound := by
  have hq3 : (0.9898 : ℝ) ≤ q ^ 3 := le_trans (by norm_num) (pow_le_pow_left₀ (by norm_num) hq 3)
  have hden : X * (0.9898 * c) ≤ X * (q ^ 3 * c) := mul_le_mul_of_nonneg_left (mul_le_mul_of_nonneg_right hq3 hc.le) hX0
  have hrhs : (1 - q ^ 2) ^ 4 * R ≤ 0.0067 ^ 4 * Rmax := mul_le_mul (pow_le_pow_left₀ he0 he 4) hR hR0 (by norm_num)
  exact le_of_mul_le_mul_right (hden.trans (key.trans (hrhs.trans hnum))) (mul_pos (by norm_num) hc)

/-- core of the accuracy bound, from the third-order identity with `D·W ≥ q·s1² + cc²` (Cauchy–Schwarz) and
`e·s1·cc + M·W ≥ cc·(e·s1 + M)` (`M = P·s1 − S·cc`):
`|R/a| · q·K2·(q·S²·K1² + P²·q²·K2²)·(K1 + P·K0) ≤ e⁴·P³·S³·|A − q|³·|H|` -/
theorem offset_core2 (q P S A s1 cc D W : ℝ)
    (hq0 : 0 < q) (hq1 : q ≤ 1) (hP : 0 < P) (hS : 0 < S)
    (hAA : A * A = q * P * (q * P) + S * S)
    (hs1 : s1 = P * S * K1 A P q / 2) (hcc : cc = P ^ 2 * q * K2 A P q / 2)
    (hD : D = Real.sqrt (s1 * s1 + cc * cc)) (hW : W = Real.sqrt (q ^ 2 * (s1 * s1) + cc * cc))
    (hK1 : 0 < K1 A P q) (hK2 : 0 < K2 A P q) (hK0 : 0 ≤ K0 A P q) :
    |(S * cc - P * s1) / D + (1 - q ^ 2) * s1 * cc / (D * W)|
        * (q * K2 A P q * (q * S ^ 2 * K1 A P q ^ 2 + P ^ 2 * q ^ 2 * K2 A P q ^ 2) * (K1 A P q + P * K0 A P q))
      ≤ (1 - q ^ 2) ^ 4 * P ^ 3 * S ^ 3 * |A - q| ^ 3 * |HH A P q| := by
  set e := 1 - q ^ 2 with he
  have he0 : 0 ≤ e := one_sub_sq_nonneg hq0.le hq1
  have hs1p : 0 < s1 := by rw [hs1]; positivity
  have hccp : 0 < cc := by rw [hcc]; positivity
  have hM : P * s1 - S * cc = e * P ^ 2 * S * K0 A P q / 2 := by
    rw [hs1, hcc]; exact M_as_cofactor q P S A
  have hM0 : 0 ≤ P * s1 - S * cc := by rw [hM]; positivity
  have hDp : 0 < D := by rw [hD]; exact Real.sqrt_pos.2 (by positivity)
  have hWp : 0 < W := by rw [hW]; exact Real.sqrt_pos.2 (by positivity)
  have hWW : W * W = q ^ 2 * (s1 * s1) + cc * cc := by rw [hW]; exact Real.mul_self_sqrt (by positivity)
  have hDD : D * D = s1 * s1 + cc * cc := by rw [hD]; exact Real.mul_self_sqrt (by positivity)
  have hWcc : cc ≤ W := by
    rw [hW]
    exact Real.le_sqrt_of_sq_le ((sq cc).trans_le (le_add_of_nonneg_left (by positivity)))
  have hCS : q * (s1 * s1) + cc * cc ≤ D * W := cauchy_DW q s1 cc D W hq0.le hDp.le hWp.le hDD hWW
  set M := P * s1 - S * cc with hMd
  set N := e * s1 * cc - M * W with hN
  have hR : (S * cc - P * s1) / D + e * s1 * cc / (D * W) = N / (D * W) := by
    rw [hN, hMd]; field_simp; ring
  rw [hR]
  have hthird := third_order q P S A s1 cc hAA hs1 hcc hM
  have hprod : N * (e * s1 * cc + M * W) = -(e ^ 5 * P ^ 8 * (S * S) ^ 2 * (A - q) ^ 3 * HH A P q / 16) := by
    have : N * (e * s1 * cc + M * W) = (e * s1 * cc) ^ 2 - M ^ 2 * (W * W) := by rw [hN]; ring
    rw [this, hWW]; exact hthird
  rcases he0.eq_or_lt with he00 | hepos
  · have hM00 : M = 0 := by rw [hM, ← he00]; ring
    have hN0 : N = 0 := by rw [hN, hM00, ← he00]; ring
    rw [hN0, ← he00]; simp
  · have hden : 0 < e * s1 * cc + M * W := add_pos_of_pos_of_nonneg (by positivity) (mul_nonneg hM0 hWp.le)
    have hden' : cc * (e * s1 + M) ≤ e * s1 * cc + M * W := by
      rw [mul_add, mul_comm cc M, mul_comm cc]
      exact add_le_add_right (mul_le_mul_of_nonneg_left hWcc hM0) _
    have h1 : |N| * (e * s1 * cc + M * W) = e ^ 5 * P ^ 8 * (S * S) ^ 2 * |A - q| ^ 3 * |HH A P q| / 16 := by
      rw [← abs_of_pos hden, ← abs_mul, hprod, abs_neg, abs_div, abs_mul, abs_mul, abs_mul, abs_mul, abs_pow, abs_pow, abs_pow,
        abs_pow, abs_of_pos hepos, abs_of_pos hP, abs_of_nonneg (mul_self_nonneg S)]
      norm_num
    have hesM : 0 < e * s1 + M := add_pos_of_pos_of_nonneg (by positivity) hM0
    have h2 : |N| * (cc * (e * s1 + M)) ≤ |N| * (e * s1 * cc + M * W) := mul_le_mul_of_nonneg_left hden' (abs_nonneg _)
    have hstep : |N / (D * W)| * (q * (s1 * s1) + cc * cc) ≤ |N| := by
      rw [abs_div, abs_of_pos (mul_pos hDp hWp), div_mul_eq_mul_div, div_le_iff₀ (mul_pos hDp hWp)]
      exact mul_le_mul_of_nonneg_left hCS (abs_nonneg _)
    have hX : |N / (D * W)| * ((q * (s1 * s1) + cc * cc) * (cc * (e * s1 + M)))
        ≤ e ^ 5 * P ^ 8 * (S * S) ^ 2 * |A - q| ^ 3 * |HH A P q| / 16 := by
      have := mul_le_mul_of_nonneg_right hstep (by positivity : 0 ≤ cc * (e * s1 + M))
      calc _ = |N / (D * W)| * (q * (s1 * s1) + cc * cc) * (cc * (e * s1 + M)) := by ring
        _ ≤ |N| * (cc * (e * s1 + M)) := this
        _ ≤ _ := by rw [← h1]; exact h2
    have e1 : (q * (s1 * s1) + cc * cc) * (cc * (e * s1 + M))
        = (q * K2 A P q * (q * S ^ 2 * K1 A P q ^ 2 + P ^ 2 * q ^ 2 * K2 A P q ^ 2) * (K1 A P q + P * K0 A P q)) * (e * P ^ 5 * S / 16) := by
      rw [hM, hs1, hcc]; ring
    have e2 : e ^ 5 * P ^ 8 * (S * S) ^ 2 * |A - q| ^ 3 * |HH A P q| / 16
        = (e ^ 4 * P ^ 3 * S ^ 3 * |A - q| ^ 3 * |HH A P q|) * (e * P ^ 5 * S / 16) := by ring
    rw [e1, e2, ← mul_assoc] at hX
    exact le_of_mul_le_mul_right hX (by positivity)

/-- `offset_core2` with bounds in place of the cofactors: its left side is monotone in `K0 K1 K2 ≥ 0`, its right side in `|H|` -/
theorem offset_core_le (q P S A s1 cc D W k0 k1 k2 Hb : ℝ)
    (hq0 : 0 < q) (hq1 : q ≤ 1) (hP : 0 < P) (hS : 0 < S)
    (hAA : A * A = q * P * (q * P) + S * S)
    (hs1 : s1 = P * S * K1 A P q / 2) (hcc : cc = P ^ 2 * q * K2 A P q / 2)
    (hD : D = Real.sqrt (s1 * s1 + cc * cc)) (hW : W = Real.sqrt (q ^ 2 * (s1 * s1) + cc * cc))
    (hk0 : 0 ≤ k0) (hk1 : 0 < k1) (hk2 : 0 < k2)
    (hK0 : k0 ≤ K0 A P q) (hK1 : k1 ≤ K1 A P q) (hK2 : k2 ≤ K2 A P q) (hH : |HH A P q| ≤ Hb) :
    |(S * cc - P * s1) / D + (1 - q ^ 2) * s1 * cc / (D * W)|
        * (q * k2 * (q * S ^ 2 * k1 ^ 2 + P ^ 2 * q ^ 2 * k2 ^ 2) * (k1 + P * k0))
      ≤ (1 - q ^ 2) ^ 4 * P ^ 3 * S ^ 3 * |A - q| ^ 3 * Hb := by
  have he0 := one_sub_sq_nonneg hq0.le hq1
  have hK0p := hk0.trans hK0
  have hK1p := hk1.trans_le hK1
  have hK2p := hk2.trans_le hK2
  calc _ ≤ _ := by gcongr
    _ ≤ _ := offset_core2 q P S A s1 cc D W hq0 hq1 hP hS hAA hs1 hcc hD hW hK1p hK2p hK0p
    _ ≤ _ := by gcongr

/-- `bound` bounds the normalised offset `R/a` of the Halley step at every normalised point (`q = √(1 − e²) ∈ [0.9966, 1]`,
`1 − q² ≤ 0.0067`, `P = p/a > 0`, `S = z/a > 0`, `A = √(q²P² + S²)`) whose `(A, q)` lies in `box` (`0.9966` and `0.0067` cover every
registered ellipsoid: head comment of Proofs/GeoNear.lean) -/
def OffsetBound (box : ℝ → ℝ → Prop) (bound : ℝ) : Prop :=
  ∀ q P S A s1 cc D W : ℝ, 0.9966 ≤ q → q ≤ 1 → 1 - q ^ 2 ≤ 0.0067 → 0 < P → 0 < S → 0 < A →
    A * A = q * P * (q * P) + S * S → box A q →
    s1 = P * S * K1 A P q / 2 → cc = P ^ 2 * q * K2 A P q / 2 →
    D = Real.sqrt (s1 * s1 + cc * cc) → W = Real.sqrt (q ^ 2 * (s1 * s1) + cc * cc) →
    |(S * cc - P * s1) / D + (1 - q ^ 2) * s1 * cc / (D * W)| ≤ bound

theorem OffsetBound.union {b1 b2 : ℝ → ℝ → Prop} {bound : ℝ} (h1 : OffsetBound b1 bound) (h2 : OffsetBound b2 bound) :
    OffsetBound (fun A q => b1 A q ∨ b2 A q) bound :=
  fun q P S A s1 cc D W hq hq1 he hP hS hA hAA hb =>
    hb.elim (h1 q P S A s1 cc D W hq hq1 he hP hS hA hAA) (h2 q P S A s1 cc D W hq hq1 he hP hS hA hAA)

/-- a smaller region (`q ≥ 0.9966` may be used to show it smaller) and a larger bound -/
theorem OffsetBound.mono {b1 b2 : ℝ → ℝ → Prop} {B1 B2 : ℝ} (h : OffsetBound b1 B1)
    (hb : ∀ A q, 0.9966 ≤ q → b2 A q → b1 A q) (hB : B1 ≤ B2) : OffsetBound b2 B2 :=
  fun q P S A s1 cc D W hq hq1 he hP hS hA hAA hbox hs1 hcc hD hW =>
    (h q P S A s1 cc D W hq hq1 he hP hS hA hAA (hb A q hq hbox) hs1 hcc hD hW).trans hB

end Midgard.Geo.Acc
