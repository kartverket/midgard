/-
C20 — midgard.math.nputil: the squared norm `normSq` of a list by its recursion (`normSq_cons`), from which it is
non-negative, vanishes only on the zero vector and scales quadratically; `take` along the last axis by position.
-/
import Midgard.Model.Numeric
import Mathlib.Tactic.Ring
import Mathlib.Tactic.Linarith
import Mathlib.Algebra.Order.Field.Rat

namespace Midgard.Proofs.C20
open Midgard.Numeric

theorem normSq_nil : normSq [] = 0 := rfl
theorem normSq_cons (a : ℚ) (v : List ℚ) : normSq (a :: v) = a * a + normSq v := by simp [normSq]

theorem normSq_nonneg : ∀ v : List ℚ, 0 ≤ normSq v
  | [] => by simp [normSq]
  | a :: v => by rw [normSq_cons]; have := normSq_nonneg v; linarith [mul_self_nonneg a]

theorem normSq_eq_zero : ∀ v : List ℚ, normSq v = 0 → ∀ a ∈ v, a = 0
  | [], _ => by simp
  | b :: v, h => by
    rw [normSq_cons] at h
    have h1 := normSq_nonneg v
    have h2 := mul_self_nonneg b
    have hb : b * b = 0 := by linarith
    have hv : normSq v = 0 := by linarith
    intro a ha
    rcases List.mem_cons.mp ha with rfl | ha
    · exact mul_self_eq_zero.mp hb
    · exact normSq_eq_zero v hv a ha

theorem normSq_eq_zero_iff (v : List ℚ) : normSq v = 0 ↔ ∀ a ∈ v, a = 0 := by
  refine ⟨normSq_eq_zero v, fun h => ?_⟩
  induction v with
  | nil => rfl
  | cons b v ih =>
    rw [normSq_cons, h b List.mem_cons_self, ih fun a ha => h a (List.mem_cons_of_mem _ ha)]
    ring

theorem normSq_scale (a : ℚ) : ∀ v : List ℚ, normSq (v.map (a * ·)) = a * a * normSq v
  | [] => by simp [normSq]
  | b :: v => by rw [List.map_cons, normSq_cons, normSq_cons, normSq_scale a v]; ring

theorem normSq_div (n : ℚ) (v : List ℚ) : normSq (v.map (· / n)) = normSq v / (n * n) := by
  rw [show (fun x : ℚ => x / n) = (fun x => n⁻¹ * x) from funext fun x => div_eq_inv_mul x n, normSq_scale, div_eq_inv_mul,
    mul_inv]

theorem normSq_sub_const (c : ℚ) : ∀ l : List ℚ,
    normSq (l.map (· - c)) = normSq l - 2 * c * l.sum + (l.length : ℚ) * c * c
  | [] => by simp [normSq]
  | a :: l => by
    have ih := normSq_sub_const c l
    rw [List.map_cons, normSq_cons, normSq_cons, ih]
    simp only [List.sum_cons, List.length_cons]
    push_cast; ring

theorem takeLast_getD (rows : List (List ℚ)) (i k : ℕ) (hk : k < rows.length) :
    (takeLast rows i).getD k 0 = (rows.getD k []).getD i 0 := by
  simp [takeLast, List.getD_eq_getElem?_getD, hk]

theorem takeLast_length (rows : List (List ℚ)) (i : ℕ) : (takeLast rows i).length = rows.length := by
  simp [takeLast]

end Midgard.Proofs.C20
