/-
The RINEX 2 header at value level: every plain record kind leaves alone the `meta` keys the data section reads;
`# / TYPES OF OBSERV` with its continuation records through one loop invariant (`TInv`); `MARKER NAME`; `TIME OF FIRST OBS` (a
year ≥ 10 leaves a time string that starts with two digits, so the century of every epoch is readable); the invariant `HI`
record by record, and `facts2_of_wf`: what the data section needs from the header holds for every well-formed header.
-/
import Midgard.Proofs.Rinex2ObsFile

namespace Midgard.Spec.Rinex2ObsFile
open Midgard.Text Midgard.FixedCol Midgard.Decimal Midgard.ChainParser Midgard.RinexObs Midgard.Rinex2Obs
open Midgard.Spec.Rinex3ObsFile (addType EmptyCols IntCell spec)

theorem foldl_except_inv {σ α} (step : Except Err σ → α → Except Err σ) (P : List α → σ → Prop)
    (hstep : ∀ done st x st', P done st → step (.ok st) x = .ok st' → P (done ++ [x]) st')
    (herr : ∀ e x, step (.error e) x = .error e) :
    ∀ (l done : List α) (st s' : σ), P done st → l.foldl step (.ok st) = .ok s' → P (done ++ l) s' :=
  Lists.foldl_except_ok step P hstep herr

theorem keysOk2_zip (ns : List String) (cells : List Str) (h : ns.all freeName = true) : keysOk2 (ns.zip cells) := by
  intro kv hkv
  have : kv.1 ∈ ns := (List.of_mem_zip hkv).1
  exact unprot2_free _ (List.all_eq_true.mp h kv.1 this)

theorem plain_not_special (k : String) (h : plainKinds2.any (·.1 == k) = true) :
    k ≠ "MNAME" ∧ k ≠ "TFIRST" ∧ k ≠ "TYPES2" ∧ k ≠ "TYPES2C" := by
  obtain ⟨x, hx, hxk⟩ := List.any_eq_true.mp h
  simp only [beq_iff_eq] at hxk
  unfold plainKinds2 at hx
  rw [List.mem_filter] at hx
  have := hx.2
  simp only [Bool.and_eq_true, bne_iff_ne, ne_eq] at this
  rw [hxk] at this
  exact ⟨this.1.1.1, this.1.1.2, this.1.2, this.2⟩

/-- **a plain header record leaves alone what the data section reads.**  The kind's handler is one of `plainHandlers2`
(`line_table2`); the cases below follow the order of that list (`Rinex2ObsFile.lean`), one frame lemma each. -/
theorem plain_frame2 (k : String) (hk : plainKinds2.any (·.1 == k) = true) (cells : List Str) (s s' : State)
    (h : handle (handlerOf k) (valuesOf k cells) s = .ok s') : Frame2 s s' := by
  obtain ⟨n1, n2, n3, n4⟩ := plain_not_special k hk
  have hk' : kinds.any (·.1 == k) = true := by
    obtain ⟨x, hx, hxk⟩ := List.any_eq_true.mp hk
    exact List.any_eq_true.mpr ⟨x, (List.mem_filter.mp hx).1, hxk⟩
  obtain ⟨sp, _, hsp, _, _, _, _, _, _, hpl⟩ := line_facts2 k hk'
  obtain ⟨hmem, hkeys⟩ := hpl n1 n2 n3 n4
  have hv := keysOk2_zip (names k) cells (by rw [names_eq, spec_eq hsp]; exact hkeys)
  rw [valuesOf_plain _ _ n4] at h
  generalize (names k).zip cells = v at h hv
  generalize handlerOf k = hn at h hmem
  simp only [plainHandlers2, List.mem_cons, List.not_mem_nil, or_false] at hmem
  rcases hmem with rfl | rfl | rfl | rfl | rfl | rfl | rfl | rfl | rfl <;>
    simp only [handle, String.reduceEq, if_false, if_true] at h
  · simp only [pure, Except.pure, Except.ok.injEq] at h; subst h; exact frame2_parseString v s hv
  · simp only [pure, Except.pure, Except.ok.injEq] at h; subst h; exact frame2_parseVersionType v s hv
  · exact frame2_parseComment v s s' h
  · exact frame2_parseApproxPosition v s s' hv h
  · exact frame2_parseFloatFields v s s' hv h
  · exact frame2_parseTimeOf "time_last_obs" (unprot2_free _ (by decide)) v s s' h
  · simp only [pure, Except.pure, Except.ok.injEq] at h; subst h; exact frame2_parseLeapSeconds v s
  · exact frame2_parseIntegerFields v s s' hv h
  · exact frame2_parseWavelengthFact v s s' h

def typeNames2 : List String := ["type_1", "type_2", "type_3", "type_4", "type_5", "type_6", "type_7", "type_8", "type_9"]

theorem types2_names : names "TYPES2" = "num_obstypes" :: typeNames2 ∧ handlerOf "TYPES2" = "_parse_types_of_observ" ∧
    named "type_" "num_obstypes" = false ∧ typeNames2.all (named "type_") = true ∧ keysSorted typeNames2 = true := by
  decide +kernel

/-- first and continuation record have the same dictionary: the count (blank on a continuation record) and nine types -/
theorem handle_types2 (c : Str) (tcs : List Str) (s : State) :
    handle (handlerOf "TYPES2") (valuesOf "TYPES2" (c :: tcs)) s =
      parseTypesOfObserv (("num_obstypes", c) :: typeNames2.zip tcs) s := by
  rw [types2_names.2.1, valuesOf_plain _ _ (by decide), types2_names.1]
  simp only [handle, String.reduceEq, if_false, if_true, List.zip_cons_cons]

theorem fields_types2 (c : Str) (tcs : List Str) :
    fieldsWithPrefix (("num_obstypes", c) :: typeNames2.zip tcs) "type_" = typeNames2.zip tcs := by
  obtain ⟨_, _, h1, h3, h4⟩ := types2_names
  rw [fieldsWithPrefix_cons_other h1, fieldsWithPrefix_zip _ _ _ h3 h4]

theorem getv_types2 (c : Str) (tcs : List Str) : getv (("num_obstypes", c) :: typeNames2.zip tcs) "num_obstypes" = .ok c := by
  rw [getv_cons, if_pos rfl]

def nonEmpty (l : List Str) : List Str := l.filter fun t => !t.isEmpty

/-- the parser state while the types of a record are collected: `l` is the type list so far, `m0` the dictionary the loop
started from -/
structure TInv (base : State) (m0 : Meta) (l : List Str) (st : State) : Prop where
  rate : st.rate = base.rate
  rows : rowCols st.data = rowCols base.data
  micros : st.data.timeMicros = base.data.timeMicros
  typ : st.metaD.get [key "obstypes"] = some (.list l)
  others : ∀ p, Prot2 p → p ≠ [key "obstypes"] → m0.get p ≠ some .empty → st.metaD.get p = m0.get p
  cols : EmptyCols st.data (l.foldl addType [])

theorem tinv_add {base : State} {m0 : Meta} {l : List Str} {st : State} (h : TInv base m0 l st) (t : Str) :
    TInv base m0 (l ++ [t])
      { st with metaD := st.metaD.set [key "obstypes"] (.list (l ++ [t])), data := st.data.declareType t } := by
  refine ⟨h.rate, h.rows, h.micros, get_set_same _ _ _, ?_, ?_⟩
  · intro p hp hne he
    show (st.metaD.set [key "obstypes"] _).get p = _
    have e := h.others p hp hne he
    rw [get_set_ne _ _ _ _ (Ne.symm hne) (by rw [e]; exact he), e]
  · rw [List.foldl_append]
    exact declareType_empty _ _ t h.cols

theorem nonEmpty_snoc (l : List Str) (t : Str) : nonEmpty (l ++ [t]) = nonEmpty l ++ (if t = [] then [] else [t]) := by
  unfold nonEmpty
  rw [List.filter_append]
  cases t with
  | nil => simp
  | cons a r => simp

/-- the loop over the type fields, given that it succeeds: the non-empty ones are appended in order -/
theorem types_loop (base : State) (m0 : Meta) (l0 : List Str) (v : Values) (s0 s' : State) (h0 : TInv base m0 l0 s0)
    (h : (fieldsWithPrefix v "type_").foldl (fun (acc : Except Err State) (f : String × Str) => do
        let st ← acc
        if f.2 = [] then pure st else
          match st.metaD.get [key "obstypes"] with
          | some (.list l) =>
            pure { st with metaD := st.metaD.set [key "obstypes"] (.list (l ++ [f.2])), data := st.data.declareType f.2 }
          | _ => throw .other) (.ok s0) = .ok s') :
    TInv base m0 (l0 ++ nonEmpty ((fieldsWithPrefix v "type_").map (·.2))) s' := by
  have := foldl_except_inv _ (fun done st => TInv base m0 (l0 ++ nonEmpty (done.map (·.2))) st) ?_ ?_
    (fieldsWithPrefix v "type_") [] s0 s' (by simpa [nonEmpty] using h0) h
  · simpa using this
  · intro done st x st' hp hx
    simp only [bind, Except.bind, pure, Except.pure] at hx
    simp only [List.map_append, List.map_cons, List.map_nil, nonEmpty_snoc]
    split at hx
    · rename_i hx2
      simp only [Except.ok.injEq] at hx; subst hx
      simpa [hx2] using hp
    · rename_i hx2
      rw [hp.typ] at hx
      simp only [Except.ok.injEq] at hx
      subst hx
      simp only [hx2, if_false, ← List.append_assoc]
      exact tinv_add hp x.2
  · intro e x; rfl

theorem emptyCols_hasObs {d : Data} {all : List Str} (h : EmptyCols d all) : EmptyCols { d with hasObs := true } all :=
  ⟨h.1, h.2.1, h.2.2⟩

/-- **the first `# / TYPES OF OBSERV` record**: `num_obstypes` is the count, the type list starts afresh -/
theorem types2_first (n : Nat) (c : Str) (tcs : List Str) (hc : countOk n (c :: tcs) = true) (hlen : tcs.length = 9) (s s' : State)
    (hcols : EmptyCols s.data [])
    (h : handle (handlerOf "TYPES2") (valuesOf "TYPES2" (c :: tcs)) s = .ok s') :
    TInv s ((s.metaD.set [key "num_obstypes"] (.int n)).set [key "obstypes"] (.list [])) (nonEmpty tcs) s' := by
  rw [handle_types2] at h
  simp only [countOk, Bool.and_eq_true, Bool.not_eq_eq_eq_not, Bool.not_true, beq_iff_eq] at hc
  obtain ⟨⟨hce, hcd⟩, hcv⟩ := hc
  have hcne : c ≠ [] := by intro e; subst e; simp at hce
  unfold parseTypesOfObserv at h
  rw [getv_types2] at h
  simp only [bind, Except.bind, hcne, ne_eq, not_false_eq_true, if_true,
    pyInt_digits c hcne hcd, pure, Except.pure, hcv] at h
  have hz : (typeNames2.zip tcs).map (·.2) = tcs := List.map_snd_zip (Nat.le_of_eq (by rw [hlen]; rfl))
  have := types_loop s ((s.metaD.set [key "num_obstypes"] (.int n)).set [key "obstypes"] (.list [])) []
    (("num_obstypes", c) :: typeNames2.zip tcs)
    { s with metaD := (s.metaD.set [key "num_obstypes"] (.int n)).set [key "obstypes"] (.list []), data := { s.data with hasObs := true } } s'
    ⟨rfl, rfl, rfl, get_set_same _ _ _, fun _ _ _ _ => rfl, emptyCols_hasObs hcols⟩ h
  rw [fields_types2, hz] at this
  simpa using this

theorem types2_cont (tcs : List Str) (hlen : tcs.length = 9) (l0 : List Str) (s s' : State)
    (htyp : s.metaD.get [key "obstypes"] = some (.list l0)) (hcols : EmptyCols s.data (l0.foldl addType []))
    (h : handle (handlerOf "TYPES2C") (valuesOf "TYPES2C" tcs) s = .ok s') :
    TInv s s.metaD (l0 ++ nonEmpty tcs) s' := by
  obtain ⟨_, _, _, hhandler, _⟩ := types2c_spec
  rw [valuesOf_types2c, hhandler, handle_types2] at h
  unfold parseTypesOfObserv at h
  rw [getv_types2] at h
  simp only [bind, Except.bind, ne_eq, not_true_eq_false, if_false, pure, Except.pure] at h
  have hz : (typeNames2.zip tcs).map (·.2) = tcs := List.map_snd_zip (Nat.le_of_eq (by rw [hlen]; rfl))
  have := types_loop s s.metaD l0 (("num_obstypes", []) :: typeNames2.zip tcs)
    { s with metaD := s.metaD, data := { s.data with hasObs := true } } s'
    ⟨rfl, rfl, rfl, htyp, fun _ _ _ _ => rfl, emptyCols_hasObs hcols⟩ h
  rw [fields_types2, hz] at this
  exact this

def TwoDig (t : Str) : Prop := ∃ a b, t.take 2 = [a, b] ∧ isDigit a = true ∧ isDigit b = true

theorem twoDig_iso (n : Nat) (hn : 10 ≤ n) (mo d h mi : Int) (sec : Rat) : TwoDig (isoTime (n : Int) mo d h mi sec) := by
  have hd := allDigits_natDigits' n
  have hlen : ¬ (natDigits n).length ≤ 1 := by
    rw [length_natDigits_le_iff 1 n (by omega)]
    omega
  cases hD : natDigits n with
  | nil => rw [hD] at hlen; simp at hlen
  | cons a r =>
    cases r with
    | nil => rw [hD] at hlen; simp at hlen
    | cons b r =>
      rw [hD] at hd
      simp only [allDigits_cons, Bool.and_eq_true] at hd
      refine ⟨a, b, ?_, hd.1, hd.2.1⟩
      simp [isoTime, fmtInt_natCast, hD]

/-- the century in front of a printed two-digit year is a readable year -/
theorem year_readable (t : Str) (ht : TwoDig t) (yy : IntCell) (hw : yy.wf 2 = true) :
    ∃ y, pyInt (t.take 2 ++ zfill 2 yy.text) = .ok y := by
  obtain ⟨a, b, htk, ha, hb⟩ := ht
  obtain ⟨hne, hd⟩ := intCell_digits hw
  refine ⟨_, pyInt_digits _ (by rw [htk]; simp) ?_⟩
  rw [htk, allDigits_append, zfill_digits 2 _ hne hd]
  rw [allDigits_cons, allDigits_cons, ha, hb]
  rfl

/-- the parser state inside the header: `seen` = a first `# / TYPES OF OBSERV` record has been read, `ts` the types so far,
`hasM` / `hasT` = a `MARKER NAME` / `TIME OF FIRST OBS` record has been read -/
structure HI (rate : Option Rat) (n : Nat) (seen : Bool) (ts : List Str) (hasM hasT : Bool) (s : State) : Prop where
  rate : s.rate = rate
  rows : rowCols s.data = ([], [], [], [], [], [], [])
  micros : s.data.timeMicros = []
  marker : ∃ o : Option Str, s.metaD.get [key "marker_name"] = o.map Leaf.text ∧ (hasM = true → o.isSome = true)
  tfirst : ∃ o : Option Str, s.metaD.get [key "time_first_obs"] = o.map Leaf.text ∧ (hasT = true → o.isSome = true) ∧
    ∀ t, o = some t → TwoDig t
  num : s.metaD.get [key "num_obstypes"] = if seen = true then some (.int (n : Int)) else none
  typ : s.metaD.get [key "obstypes"] = if seen = true then some (.list ts) else none
  fresh : seen = false → ts = []
  cols : EmptyCols s.data (ts.foldl addType [])

theorem HI.ne {rate n seen ts hasM hasT s} (h : HI rate n seen ts hasM hasT s) :
    ∀ p, Prot2 p → s.metaD.get p ≠ some .empty := by
  intro p hp
  rcases hp with rfl | rfl | rfl | rfl
  · rw [h.num]; split <;> simp
  · rw [h.typ]; split <;> simp
  · obtain ⟨o, ho, _⟩ := h.marker; rw [ho]; exact marker_not_empty o
  · obtain ⟨o, ho, _⟩ := h.tfirst; rw [ho]; exact marker_not_empty o

theorem prot_num : Prot2 [key "num_obstypes"] := Or.inl rfl
theorem prot_typ : Prot2 [key "obstypes"] := Or.inr (Or.inl rfl)
theorem prot_mark : Prot2 [key "marker_name"] := Or.inr (Or.inr (Or.inl rfl))
theorem prot_first : Prot2 [key "time_first_obs"] := Or.inr (Or.inr (Or.inr rfl))

theorem hi_frame {rate n seen ts hasM hasT s s'} (h : HI rate n seen ts hasM hasT s) (f : Frame2 s s') :
    HI rate n seen ts hasM hasT s' := by
  have hk : ∀ p, Prot2 p → s'.metaD.get p = s.metaD.get p := fun p hp => f.metaS p hp (h.ne p hp)
  obtain ⟨c1, c2, c3⟩ := h.cols
  exact ⟨by rw [f.rate, h.rate], by rw [f.rows, h.rows], by rw [f.micros, h.micros],
    by rw [hk _ prot_mark]; exact h.marker, by rw [hk _ prot_first]; exact h.tfirst,
    by rw [hk _ prot_num]; exact h.num, by rw [hk _ prot_typ]; exact h.typ, h.fresh,
    ⟨by rw [f.obs, c1], by rw [f.lli, c2], by rw [f.snr, c3]⟩⟩

theorem hi_marker {rate n seen ts hasM hasT s} (h : HI rate n seen ts hasM hasT s) (m : Str) :
    HI rate n seen ts true hasT { s with metaD := s.metaD.set [key "marker_name"] (.text m) } := by
  have hk : ∀ p, Prot2 p → p ≠ [key "marker_name"] →
      (s.metaD.set [key "marker_name"] (.text m)).get p = s.metaD.get p :=
    fun p hp hne => get_set_ne _ _ _ _ (Ne.symm hne) (h.ne p hp)
  refine ⟨h.rate, h.rows, h.micros, ⟨some m, get_set_same _ _ _, fun _ => rfl⟩, ?_, ?_, ?_, h.fresh, h.cols⟩
  · show ∃ o, (s.metaD.set [key "marker_name"] (.text m)).get _ = _ ∧ _
    rw [hk _ prot_first (keyPath_ne (by decide))]; exact h.tfirst
  · show (s.metaD.set [key "marker_name"] (.text m)).get _ = _
    rw [hk _ prot_num (keyPath_ne (by decide))]; exact h.num
  · show (s.metaD.set [key "marker_name"] (.text m)).get _ = _
    rw [hk _ prot_typ (keyPath_ne (by decide))]; exact h.typ

theorem tfirst_table : names "TFIRST" = ["year", "month", "day", "hour", "minute", "second", "time_sys"] ∧
    handlerOf "TFIRST" = "_parse_time_of_first_obs" ∧ (spec "TFIRST").layout.length = 7 := by
  decide +kernel

theorem mname_table : names "MNAME" = ["marker_name"] ∧ handlerOf "MNAME" = "_parse_string" ∧
    (spec "MNAME").layout.length = 1 := by
  decide +kernel

/-- a first `# / TYPES OF OBSERV` record has the count and nine types, a continuation record nine types -/
theorem types2_lengths : (spec "TYPES2").layout.length = 10 ∧ (spec "TYPES2C").layout.length = 9 := by
  decide +kernel

theorem hi_tfirst {rate n seen ts hasM hasT s} (h : HI rate n seen ts hasM hasT s) (y : Str) (rest : List Str)
    (hy : y ≠ []) (hyd : allDigits y = true) (hy10 : 10 ≤ digitsVal y) (s' : State)
    (he : parseTimeOf "time_first_obs" (["year", "month", "day", "hour", "minute", "second", "time_sys"].zip (y :: rest)) s = .ok s') :
    HI rate n seen ts hasM true s' := by
  obtain ⟨tsys, y1, hy1, hcase⟩ := parseTimeOf_ok _ _ s s' he
  have hyy : y1 = y := by
    have : getv (["year", "month", "day", "hour", "minute", "second", "time_sys"].zip (y :: rest)) "year" = .ok y := by
      rw [List.zip_cons_cons, getv_cons, if_pos rfl]
    rw [this] at hy1
    exact (Except.ok.inj hy1).symm
  subst hyy
  obtain ⟨_, t, ht, he⟩ := hcase.resolve_left fun h0 => hy h0.1
  have htd : TwoDig t := by
    unfold timeString at ht
    obtain ⟨y2, hy2, ht⟩ := bind_ok' ht
    rw [hy1] at hy2
    have := Except.ok.inj hy2
    subst this
    obtain ⟨Y, hY, ht⟩ := bind_ok' ht
    rw [pyInt_digits y1 hy hyd] at hY
    have := Except.ok.inj hY
    subst this
    iterate 10 (obtain ⟨_, _, ht⟩ := bind_ok' ht)
    simp only [pure, Except.pure, Except.ok.injEq] at ht
    subst ht
    exact twoDig_iso _ hy10 _ _ _ _ _
  subst he
  have hm1 := MSame2_timeSys tsys s.metaD
  generalize (if tsys ≠ [] then s.metaD.set [key "time_sys"] (Leaf.text tsys) else s.metaD) = m1 at hm1
  have hk : ∀ p, Prot2 p → p ≠ [key "time_first_obs"] →
      (m1.set [key "time_first_obs"] (.text t)).get p = s.metaD.get p := by
    intro p hp hne
    have e := hm1 p hp (h.ne p hp)
    rw [get_set_ne _ _ _ _ (Ne.symm hne) (by rw [e]; exact h.ne p hp), e]
  refine ⟨h.rate, h.rows, h.micros, ?_, ⟨some t, get_set_same _ _ _, fun _ => rfl, ?_⟩, ?_, ?_, h.fresh, h.cols⟩
  · show ∃ o, (m1.set [key "time_first_obs"] (.text t)).get _ = _ ∧ _
    rw [hk _ prot_mark (keyPath_ne (by decide))]; exact h.marker
  · intro t' ht'
    have := Option.some.inj ht'
    subst this
    exact htd
  · show (m1.set [key "time_first_obs"] (.text t)).get _ = _
    rw [hk _ prot_num (keyPath_ne (by decide))]; exact h.num
  · show (m1.set [key "time_first_obs"] (.text t)).get _ = _
    rw [hk _ prot_typ (keyPath_ne (by decide))]; exact h.typ

theorem hi_of_tinv {rate n ts hasM hasT} {seen : Bool} {s s' : State} {m0 : Meta} {l : List Str}
    (h : HI rate n seen ts hasM hasT s) (t : TInv s m0 l s')
    (hnum : m0.get [key "num_obstypes"] = some (.int (n : Int)))
    (hmark : m0.get [key "marker_name"] = s.metaD.get [key "marker_name"])
    (hfirst : m0.get [key "time_first_obs"] = s.metaD.get [key "time_first_obs"]) :
    HI rate n true l hasM hasT s' := by
  refine ⟨by rw [t.rate, h.rate], by rw [t.rows, h.rows], by rw [t.micros, h.micros], ?_, ?_, ?_, ?_, fun e => by simp at e, t.cols⟩
  · rw [t.others _ prot_mark (keyPath_ne (by decide)) (by rw [hmark]; exact h.ne _ prot_mark), hmark]; exact h.marker
  · rw [t.others _ prot_first (keyPath_ne (by decide)) (by rw [hfirst]; exact h.ne _ prot_first), hfirst]; exact h.tfirst
  · rw [t.others _ prot_num (keyPath_ne (by decide)) (by rw [hnum]; simp), hnum]; rfl
  · rw [t.typ]; rfl

def seenT (pre : List (String × List Str)) : Bool := pre.any (·.1 == "TYPES2")
def hasM (pre : List (String × List Str)) : Bool := pre.any (·.1 == "MNAME")
def hasT (pre : List (String × List Str)) : Bool := pre.any (·.1 == "TFIRST")

def HInv2 (rate : Option Rat) (n : Nat) (pre : List (String × List Str)) (s : State) : Prop :=
  HI rate n (seenT pre) (types pre) (hasM pre) (hasT pre) s

theorem types_snoc (pre : List (String × List Str)) (kc : String × List Str) :
    types (pre ++ [kc]) = types pre ++
      (if kc.1 = "TYPES2" then nonEmpty (kc.2.drop 1) else if kc.1 = "TYPES2C" then nonEmpty kc.2 else []) := by
  simp only [types, List.flatMap_append, List.flatMap_cons, List.flatMap_nil, List.append_nil, nonEmpty]

theorem any_snoc (pre : List (String × List Str)) (kc : String × List Str) (k : String) :
    (pre ++ [kc]).any (·.1 == k) = (pre.any (·.1 == k) || kc.1 == k) := by
  simp [List.any_append]

theorem kinds_split (k : String) (h : kinds.any (·.1 == k) = true) :
    k = "MNAME" ∨ k = "TFIRST" ∨ k = "TYPES2" ∨ k = "TYPES2C" ∨ plainKinds2.any (·.1 == k) = true := by
  by_cases h1 : k = "MNAME"
  · exact Or.inl h1
  by_cases h2 : k = "TFIRST"
  · exact Or.inr (Or.inl h2)
  by_cases h3 : k = "TYPES2"
  · exact Or.inr (Or.inr (Or.inl h3))
  by_cases h4 : k = "TYPES2C"
  · exact Or.inr (Or.inr (Or.inr (Or.inl h4)))
  refine Or.inr (Or.inr (Or.inr (Or.inr ?_)))
  obtain ⟨x, hx, hxk⟩ := List.any_eq_true.mp h
  simp only [beq_iff_eq] at hxk
  rw [List.any_eq_true]
  refine ⟨x, ?_, by simpa using hxk⟩
  unfold plainKinds2
  rw [List.mem_filter]
  exact ⟨hx, by simp [hxk, h1, h2, h3, h4]⟩

theorem cells_len (kc : String × List Str) (h : okCells kc.1 kc.2 = true) : kc.2.length = (spec kc.1).layout.length := by
  exact (okCells2_iff.mp h).1

theorem hinv2_step (rate : Option Rat) (n : Nat) (pre : List (String × List Str)) (kc : String × List Str) (s s' : State)
    (h : HInv2 rate n pre s) (hp : PairOk kc) (htf : tfirstOk kc = true)
    (h2 : kc.1 = "TYPES2" → seenT pre = false ∧ countOk n kc.2 = true) (h2c : kc.1 = "TYPES2C" → seenT pre = true)
    (he : pairFx2 kc s = .ok s') : HInv2 rate n (pre ++ [kc]) s' := by
  obtain ⟨hnT, hhT, hlenT⟩ := tfirst_table
  obtain ⟨hnM, hhM, hlenM⟩ := mname_table
  obtain ⟨hlenT2, hlenT2C⟩ := types2_lengths
  obtain ⟨k, cells⟩ := kc
  obtain ⟨hk, hok⟩ := hp
  have hlen := cells_len (k, cells) hok
  simp only at hk hok htf h2 h2c hlen
  unfold pairFx2 at he
  simp only at he
  unfold HInv2 at h ⊢
  unfold seenT hasM hasT at *
  rw [types_snoc, any_snoc, any_snoc, any_snoc]
  simp only
  rcases kinds_split k hk with rfl | rfl | rfl | rfl | hpl
  · -- MARKER NAME
    rw [hlenM] at hlen
    obtain ⟨m, rfl⟩ := List.length_eq_one_iff.mp hlen
    · have : handle (handlerOf "MNAME") (valuesOf "MNAME" [m]) s =
          .ok { s with metaD := s.metaD.set [key "marker_name"] (.text m) } := by
        rw [hhM, valuesOf_plain _ _ (by decide), hnM]
        simp [handle, parseString, pure, Except.pure]
      rw [this] at he
      have := Except.ok.inj he
      subst this
      simpa using hi_marker h m
  · -- TIME OF FIRST OBS
    rw [hlenT] at hlen
    obtain ⟨y, rest, rfl⟩ := List.exists_cons_of_length_eq_add_one hlen
    · simp only [tfirstOk, if_true, Bool.and_eq_true, Bool.not_eq_eq_eq_not, Bool.not_true, List.isEmpty_eq_false_iff,
        decide_eq_true_eq] at htf
      rw [hhT, valuesOf_plain _ _ (by decide), hnT] at he
      have he' : parseTimeOf "time_first_obs" (["year", "month", "day", "hour", "minute", "second", "time_sys"].zip (y :: rest)) s = .ok s' := by
        simpa [handle] using he
      simpa using hi_tfirst h y rest htf.1.1 htf.1.2 htf.2 s' he'
  · -- # / TYPES OF OBSERV
    rw [hlenT2] at hlen
    obtain ⟨hns, hc⟩ := h2 rfl
    obtain ⟨c, tcs, rfl⟩ := List.exists_cons_of_length_eq_add_one hlen
    · have hl9 : tcs.length = 9 := by simpa using hlen
      rw [hns] at h
      have hts : types pre = [] := h.fresh rfl
      rw [hts] at h ⊢
      have t := types2_first n c tcs hc hl9 s s' (by simpa using h.cols) he
      have hne := h.ne
      have hi := hi_of_tinv h t
        (by rw [get_set_ne _ _ _ _ (keyPath_ne (by decide)) (by rw [get_set_same]; simp), get_set_same])
        (get_set2 _ _ _ _ _ _ (keyPath_ne (by decide)) (keyPath_ne (by decide)) (hne _ prot_mark))
        (get_set2 _ _ _ _ _ _ (keyPath_ne (by decide)) (keyPath_ne (by decide)) (hne _ prot_first))
      simpa using hi
  · -- continuation record
    rw [hlenT2C] at hlen
    have hs := h2c rfl
    rw [hs] at h
    have htyp : s.metaD.get [key "obstypes"] = some (.list (types pre)) := by rw [h.typ]; rfl
    have hnum : s.metaD.get [key "num_obstypes"] = some (.int (n : Int)) := by rw [h.num]; rfl
    have t := types2_cont cells hlen (types pre) s s' htyp h.cols he
    have hi := hi_of_tinv h t hnum rfl rfl
    simpa [hs] using hi
  · -- a plain record
    obtain ⟨n1, n2, n3, n4⟩ := plain_not_special k hpl
    have f := plain_frame2 k hpl cells s s' he
    have b1 : (k == "MNAME") = false := beq_eq_false_iff_ne.mpr n1
    have b2 : (k == "TFIRST") = false := beq_eq_false_iff_ne.mpr n2
    have b3 : (k == "TYPES2") = false := beq_eq_false_iff_ne.mpr n3
    simpa [n1, n2, n3, n4, b1, b2, b3] using hi_frame h f

theorem hinv2_init (rate : Option Rat) (n : Nat) : HInv2 rate n [] { rate := rate } :=
  ⟨rfl, rfl, rfl, ⟨none, rfl, fun e => by simp [hasM] at e⟩, ⟨none, rfl, fun e => by simp [hasT] at e, fun _ e => by simp at e⟩,
   rfl, rfl, fun _ => rfl, ⟨rfl, rfl, rfl⟩⟩

/-- the test on the `# / TYPES OF OBSERV` records, from a record inside the header onwards: `seen` has become "a first record
stands before" -/
theorem typesRecsOk_append (n : Nat) : ∀ (pre post : List (String × List Str)) (seen : Bool),
    typesRecsOk n seen (pre ++ post) = true → typesRecsOk n (seen || seenT pre) post = true := by
  intro pre
  induction pre with
  | nil => intro post seen h; simpa [seenT] using h
  | cons kc pre ih =>
    intro post seen h
    have hs : seenT (kc :: pre) = (kc.1 == "TYPES2" || seenT pre) := rfl
    rw [List.cons_append, typesRecsOk] at h
    rw [hs]
    by_cases h1 : kc.1 = "TYPES2"
    · simp only [h1, if_true, Bool.and_eq_true] at h
      simpa [h1] using ih post true h.2
    · have b1 : (kc.1 == "TYPES2") = false := beq_eq_false_iff_ne.mpr h1
      rw [b1, Bool.false_or]
      by_cases h2 : kc.1 = "TYPES2C"
      · simp only [h2, String.reduceEq, if_false, if_true, Bool.and_eq_true] at h
        exact ih post seen h.2
      · simp only [h1, h2, if_false] at h
        exact ih post seen h

theorem hinv2_fold (rate : Option Rat) (n : Nat) (hdr : List (String × List Str)) (H : State)
    (hw : ∀ kc ∈ hdr, PairOk kc ∧ tfirstOk kc = true) (ht : typesRecsOk n false hdr = true)
    (hf : hdr.foldlM (fun s kc => pairFx2 kc s) { rate := rate } = .ok H) : HInv2 rate n hdr H ∧ seenT hdr = true := by
  refine ⟨Lists.foldlM_inv _ (HInv2 rate n) hdr ?_ hdr [] _ H rfl (hinv2_init rate n) hf, ?_⟩
  · intro pre kc post s s' ha h he
    obtain ⟨hp, htf⟩ := hw kc (by rw [ha]; simp)
    have hrec := typesRecsOk_append n pre (kc :: post) false (ha ▸ ht)
    rw [Bool.false_or, typesRecsOk] at hrec
    refine hinv2_step rate n pre kc s s' h hp htf ?_ ?_ he
    · intro h1
      simp only [h1, if_true, Bool.and_eq_true, Bool.not_eq_eq_eq_not, Bool.not_true] at hrec
      exact hrec.1
    · intro h2
      simp only [h2, String.reduceEq, if_false, if_true, Bool.and_eq_true] at hrec
      exact hrec.1
  · simpa [typesRecsOk] using typesRecsOk_append n hdr [] false (by simpa using ht)

/-- **the header of a well-formed RINEX 2 file leaves what the data section relies on** -/
theorem facts2_of_hdr (rate : Option Rat) (F : File) (hpairs : ∀ kc ∈ F.hdr, PairOk kc) (hnd : (types F.hdr).Nodup)
    (htf : F.hdr.all tfirstOk = true) (hrec : typesRecsOk (types F.hdr).length false F.hdr = true)
    (hm : F.hdr.any (·.1 == "MNAME") = true) (ht : F.hdr.any (·.1 == "TFIRST") = true)
    (heps : ∀ e ∈ F.epochs, e.yy.wf 2 = true)
    (H : State) (hH : headerState rate F.hdr = .ok H) : ∃ m t, Facts2 rate F H m t := by
  obtain ⟨hi, hseen⟩ := hinv2_fold rate (types F.hdr).length F.hdr H
    (fun kc hkc => ⟨hpairs kc hkc, List.all_eq_true.mp htf kc hkc⟩) hrec hH
  unfold HInv2 at hi
  rw [hseen] at hi
  obtain ⟨om, hom, homs⟩ := hi.marker
  obtain ⟨ot, hot, hots, hotd⟩ := hi.tfirst
  obtain ⟨m, rfl⟩ := Option.isSome_iff_exists.mp (homs hm)
  obtain ⟨t, rfl⟩ := Option.isSome_iff_exists.mp (hots ht)
  refine ⟨m, t, ⟨by rw [hi.num]; rfl, by rw [hi.typ]; rfl, hom, hot⟩, hi.rate, ?_, ?_⟩
  · intro e he
    exact year_readable t (hotd t rfl) e.yy (heps e he)
  · obtain ⟨c1, c2, c3⟩ := hi.cols
    rw [foldl_addType_self _ [] (by simpa using hnd)] at c1 c2 c3
    simp only [List.nil_append] at c1 c2 c3
    exact data_eq_empty H.data (types F.hdr) ⟨c1, c2, c3⟩ hi.rows hi.micros

theorem facts2_of_wf (rate : Option Rat) (F : File) (hwf : F.wf = true) (H : State) (hH : headerState rate F.hdr = .ok H) :
    ∃ m t, Facts2 rate F H m t := by
  obtain ⟨hnd, hpairs, heps⟩ := epochWf_of_wf F hwf
  simp only [File.wf, Bool.and_eq_true] at hwf
  obtain ⟨⟨⟨⟨⟨_, hm⟩, ht⟩, _⟩, hrec⟩, htf⟩ := hwf
  exact facts2_of_hdr rate F hpairs hnd htf hrec hm ht (fun e he => (heps e he).ok.yy) H hH

end Midgard.Spec.Rinex2ObsFile
