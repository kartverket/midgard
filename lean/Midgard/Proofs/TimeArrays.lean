/-
C03 — lemmas about `Model/TimeArrays.lean`: the scalar model inside the array model, NumPy broadcasting (`broadcast2_spec`:
shapes, length, elements; it is symmetric, `broadcast2_swap`; composition of two broadcast operations), and the heap
(allocation only appends; stored results read back).
-/
import Midgard.Model.TimeArrays
import Midgard.Proofs.Lists
import Mathlib.Tactic.SplitIfs

namespace Midgard.TimeArith

theorem binop_binopFn (op : Op) (ka : Kind) (sa : Scale) (a : JD) (kb : Kind) (sb : Scale) (b : JD) :
    binop op ka sa a kb sb b =
      if sa ≠ sb then .notImplemented else
        match binopFn op ka kb with
        | none => .notImplemented
        | some (k, f) => .ok k (f a b) := by
  by_cases h : sa = sb <;> cases op <;> cases ka <;> cases kb <;> simp [binop, binopFn, h]

/-- on scalar operands the array model is the scalar model -/
theorem binopV_scalar (op : Op) (ka : Kind) (sa : Scale) (a : JD) (kb : Kind) (sb : Scale) (b : JD) :
    binopV op ka sa (.scalar a) kb sb (.scalar b) =
      match binop op ka sa a kb sb b with
      | .notImplemented => .notImplemented
      | .ok k j => .ok k (.scalar j) := by
  rw [binop_binopFn]
  by_cases h : sa = sb <;> cases op <;> cases ka <;> cases kb <;> simp [binopV, binopFn, broadcast2, h]

theorem getB_map (g : JD → JD) (l : List JD) (i : Nat) (hi : i < l.length ∨ l.length = 1) :
    (Val.array (l.map g)).getB i = g ((Val.array l).getB i) := by
  simp only [Val.getB, List.length_map]
  split_ifs with h1
  · exact Lists.getD_map_of_lt l g default default 0 (by omega)
  · exact Lists.getD_map_of_lt l g default default i (hi.resolve_right h1)

theorem getB_zipWith (f : JD → JD → JD) (as bs : List JD) (he : as.length = bs.length) (i : Nat)
    (hi : i < bs.length ∨ bs.length = 1) :
    (Val.array (List.zipWith f as bs)).getB i = f ((Val.array as).getB i) ((Val.array bs).getB i) := by
  simp only [Val.getB, List.length_zipWith, he, Nat.min_self]
  split_ifs with h1
  · exact Lists.getD_zipWith_lt f as bs 0 default default default (by omega) (by omega)
  · exact Lists.getD_zipWith_lt f as bs i default default default (by omega) (hi.resolve_right h1)

theorem broadcast2_spec (f : JD → JD → JD) (a b v : Val) (h : broadcast2 f a b = some v) :
    (a.size = b.size ∨ a.size = 1 ∨ b.size = 1) ∧
    v.size = (if a.size = 1 then b.size else a.size) ∧
    ∀ i, (i < v.size ∨ v.size = 1) → v.getB i = f (a.getB i) (b.getB i) := by
  cases a with
  | scalar x =>
    cases b with
    | scalar y => cases h; exact ⟨Or.inl rfl, rfl, fun _ _ => rfl⟩
    | array bs =>
      cases h
      exact ⟨Or.inr (Or.inl rfl), by simp [Val.size], fun i hi => getB_map (f x) bs i (by simpa [Val.size] using hi)⟩
  | array as =>
    cases b with
    | scalar y =>
      cases h
      refine ⟨Or.inr (Or.inr rfl), ?_, fun i hi => getB_map (fun a => f a y) as i (by simpa [Val.size] using hi)⟩
      simp only [Val.size, List.length_map]
      split_ifs with h1 <;> simp [h1]
    | array bs =>
      simp only [broadcast2] at h
      split_ifs at h with he ha hb <;> cases h
      · exact ⟨Or.inl he, by simp [Val.size, he], fun i hi => getB_zipWith f as bs he i (by simpa [Val.size, he] using hi)⟩
      · refine ⟨Or.inr (Or.inl ha), by simp [Val.size, ha], fun i hi => ?_⟩
        rw [getB_map _ bs i (by simpa [Val.size] using hi)]
        simp [Val.getB, ha]
      · refine ⟨Or.inr (Or.inr hb), by simp [Val.size, ha], fun i hi => ?_⟩
        rw [getB_map (fun a => f a (bs.getD 0 default)) as i (by simpa [Val.size] using hi)]
        simp [Val.getB, hb]

theorem broadcast2_isSome (f : JD → JD → JD) (a b : Val) :
    (broadcast2 f a b).isSome = true ↔ (a.size = b.size ∨ a.size = 1 ∨ b.size = 1) := by
  constructor
  · intro h
    obtain ⟨v, hv⟩ := Option.isSome_iff_exists.mp h
    exact (broadcast2_spec f a b v hv).1
  · intro h
    cases a with
    | scalar x => cases b <;> simp [broadcast2]
    | array as =>
      cases b with
      | scalar y => simp [broadcast2]
      | array bs =>
        simp only [Val.size] at h
        simp only [broadcast2]
        by_cases he : as.length = bs.length
        · simp [he]
        · by_cases ha : as.length = 1
          · rw [if_neg he, if_pos ha]; rfl
          · have hb : bs.length = 1 := by omega
            rw [if_neg he, if_neg ha, if_pos hb]; rfl

theorem broadcast2_swap (f : JD → JD → JD) (a b : Val) : broadcast2 (fun x y => f y x) b a = broadcast2 f a b := by
  cases a with
  | scalar x => cases b <;> rfl
  | array as =>
    cases b with
    | scalar y => rfl
    | array bs =>
      simp only [broadcast2]
      by_cases h : as.length = bs.length
      · rw [if_pos h, if_pos h.symm, List.zipWith_comm]
      · rw [if_neg h, if_neg (Ne.symm h)]
        -- not both have length 1, so at most one of the two stretching branches is taken on either side
        by_cases ha : as.length = 1 <;> by_cases hb : bs.length = 1 <;> simp only [ha, hb, if_true, if_false]
        exact absurd (ha.trans hb.symm) h

theorem broadcast2_comp_left (f g : JD → JD → JD) (a b c s r : Val)
    (hs : broadcast2 f a b = some s) (hr : broadcast2 g s c = some r) (i : Nat) (hi : i < r.size) :
    r.getB i = g (f (a.getB i) (b.getB i)) (c.getB i) := by
  obtain ⟨_, hsz, hget⟩ := broadcast2_spec g s c r hr
  obtain ⟨_, _, hget'⟩ := broadcast2_spec f a b s hs
  rw [hget i (Or.inl hi), hget' i]
  by_cases h1 : s.size = 1
  · exact Or.inr h1
  · left; rw [hsz] at hi; simpa [h1] using hi

theorem broadcast2_comp_right (f g : JD → JD → JD) (a b c s r : Val)
    (hs : broadcast2 f a b = some s) (hr : broadcast2 g c s = some r) (i : Nat) (hi : i < r.size) :
    r.getB i = g (c.getB i) (f (a.getB i) (b.getB i)) :=
  broadcast2_comp_left f (fun x y => g y x) a b c s r hs (by rw [broadcast2_swap]; exact hr) i hi

theorem binopV_ok {op : Op} {ka kb : Kind} {sa sb : Scale} {a b v : Val} {k : Kind} {f : JD → JD → JD}
    (hf : binopFn op ka kb = some (k, f)) (h : binopV op ka sa a kb sb b = .ok k v) : broadcast2 f a b = some v := by
  unfold binopV at h
  by_cases hs : sa = sb
  · simp only [hs, ne_eq, not_true_eq_false, if_false, hf] at h
    cases hb : broadcast2 f a b with
    | none => simp [hb] at h
    | some w => simp only [hb, ResV.ok.injEq, true_and] at h; rw [h]
  · simp [hs] at h

theorem allocVal_prefix (h : Heap) (v : Val) : h <+: (h.allocVal v).1 := by
  cases v with
  | scalar j => exact List.prefix_refl h
  | array js => exact List.prefix_append h _

/-- **frame condition of the operators**: no buffer that existed (operand parts, caller arrays, anything else) has other contents or
another flag after `a ± b` -/
theorem binopH_prefix (h : Heap) (op : Op) (a b : Obj) : h <+: (binopH h op a b).1 := by
  unfold binopH
  split
  · split
    · exact List.prefix_refl h
    · exact List.prefix_refl h
    · exact allocVal_prefix h _
  · exact List.prefix_refl h

theorem prefix_getElem? {h h' : Heap} (hp : h <+: h') (i : Nat) (hi : i < h.length) : h'[i]? = h[i]? := by
  obtain ⟨t, rfl⟩ := hp
  simp [List.getElem?_append_left hi]

/-- the result's buffers are new (beyond every buffer that existed) and frozen -/
theorem allocVal_fresh (h : Heap) (js : List JD) :
    (h.allocVal (.array js)).2 = (.ref h.length, .ref (h.length + 1)) ∧
    (h.allocVal (.array js)).1[h.length]? = some ⟨js.map (·.jd1), false⟩ ∧
    (h.allocVal (.array js)).1[h.length + 1]? = some ⟨js.map (·.jd2), false⟩ := by
  refine ⟨rfl, ?_, ?_⟩ <;> simp [Heap.allocVal]

theorem zipWith_mk_map (js : List JD) : List.zipWith JD.mk (js.map (·.jd1)) (js.map (·.jd2)) = js := by
  induction js with
  | nil => rfl
  | cons j rest ih => simp [ih]

theorem readVal_allocVal (h : Heap) (v : Val) :
    (h.allocVal v).1.readVal (h.allocVal v).2.1 (h.allocVal v).2.2 = some v := by
  cases v with
  | scalar j => simp [Heap.allocVal, Heap.readVal, Heap.read]
  | array js =>
    simp [Heap.allocVal, Heap.readVal, Heap.read]

/-- **refinement**: on the heap the operators compute `binopV` of the operand values -/
theorem binopH_refines (h : Heap) (op : Op) (a b : Obj) (va vb : Val)
    (ha : h.readVal a.p1 a.p2 = some va) (hb : h.readVal b.p1 b.p2 = some vb) :
    match binopV op a.kind a.scale va b.kind b.scale vb with
    | .notImplemented => binopH h op a b = (h, .notImplemented)
    | .shapeError => binopH h op a b = (h, .shapeError)
    | .ok k v => ∃ o, (binopH h op a b).2 = .ok o ∧ o.kind = k ∧ o.scale = a.scale ∧
        (binopH h op a b).1.readVal o.p1 o.p2 = some v := by
  cases hres : binopV op a.kind a.scale va b.kind b.scale vb with
  | notImplemented => simp only [binopH, ha, hb, hres]
  | shapeError => simp only [binopH, ha, hb, hres]
  | ok k v =>
    simp only [binopH, ha, hb, hres]
    exact ⟨_, rfl, rfl, rfl, readVal_allocVal h v⟩

theorem ctorH_prefix (h : Heap) (f : DFmt) (s : Scale) (val : Part) (val2 : Option Part) :
    h <+: (ctorH false h f s val val2).1 := by
  unfold ctorH
  split
  · split
    · exact List.prefix_refl h
    · exact allocVal_prefix h _
  · exact List.prefix_refl h

theorem allocVal_freshFrom (h : Heap) (v : Val) :
    (h.allocVal v).2.1.freshFrom h.length ∧ (h.allocVal v).2.2.freshFrom h.length := by
  cases v with
  | scalar j => exact ⟨trivial, trivial⟩
  | array js => exact ⟨Nat.le_refl _, Nat.le_succ _⟩

/-- **frame condition of the epoch constructors** (`false`: no `_to_jds` hands its arguments on un-copied) -/
theorem ctorTimeH_prefix (split : Rat → Rat → JD) (h : Heap) (s : Scale) (val : Part) (val2 : Option Part) :
    h <+: (ctorTimeH false split h s val val2).1 := by
  unfold ctorTimeH
  split
  · split
    · exact List.prefix_refl h
    · simp only [Bool.false_and]
      exact allocVal_prefix h _
  · exact List.prefix_refl h

theorem ctorTimeH_fresh (split : Rat → Rat → JD) (h : Heap) (s : Scale) (val : Part) (val2 : Option Part) (o : Obj)
    (ho : (ctorTimeH false split h s val val2).2 = .ok o) : o.p1.freshFrom h.length ∧ o.p2.freshFrom h.length := by
  unfold ctorTimeH at ho
  split at ho
  · split at ho
    · simp at ho
    · simp only [Bool.false_and] at ho
      rename_i r _
      simp only [ResH.ok.injEq] at ho
      subst ho
      exact allocVal_freshFrom h r
  · simp at ho

theorem read_write_ne (h : Heap) (a : Nat) (f : List Rat → List Rat) (p : Part) (hp : p.freshFrom (a + 1)) :
    (h.write a f).read p = h.read p := by
  cases p with
  | imm x => rfl
  | ref b =>
    have hb : a ≠ b := by simp only [Part.freshFrom] at hp; omega
    simp [Heap.read, Heap.write, hb]

theorem readVal_write_fresh (h : Heap) (n a : Nat) (ha : a < n) (f : List Rat → List Rat) (p1 p2 : Part)
    (h1 : p1.freshFrom n) (h2 : p2.freshFrom n) : (h.write a f).readVal p1 p2 = h.readVal p1 p2 := by
  have w : ∀ p : Part, p.freshFrom n → p.freshFrom (a + 1) := by
    intro p hp; cases p with
    | imm x => trivial
    | ref b => simp only [Part.freshFrom] at hp ⊢; omega
  simp only [Heap.readVal, read_write_ne h a f p1 (w p1 h1), read_write_ne h a f p2 (w p2 h2)]

end Midgard.TimeArith

#print axioms Midgard.TimeArith.binopV_ok
