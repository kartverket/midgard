/-
The date part of a SINEX epoch: what `strptime(…, "%Y:%j")` makes of four year digits, a colon and three
day-of-year digits as a conforming writer prints them.  Both epoch forms (`YY:DDD:SSSSS` after the century
has been put in front, `YYYY:DDD:SSSSS`) go through this.
-/
import Midgard.Model.Sinex
import Midgard.Proofs.Decimal

namespace Midgard.Props.C14
open Midgard.Sinex Midgard.Text Midgard.Decimal

theorem parseDoy_fixed (d : Nat) (h1 : 1 ≤ d) (h2 : d ≤ 366) : parseDoy? (fixedDigits 3 d) = some d := by
  unfold parseDoy?
  have hv : digitsVal (fixedDigits 3 d) = d := by rw [digitsVal_fixedDigits]; omega
  simp [length_fixedDigits, allDigits_fixedDigits, hv, h1, h2]

theorem eq_zero_of_threeZero (d : Nat) (h : d < 1000) : fixedDigits 3 d = ['0', '0', '0'] → d = 0 := by
  intro he
  have := digitsVal_fixedDigits 3 d
  rw [he] at this
  have h0 : digitsVal ['0', '0', '0'] = 0 := by decide
  rw [h0] at this
  omega

theorem strptimeYj_fixed (y ddd : Nat) (hy1 : 1 ≤ y) (hy : y < 10000) (hd1 : 1 ≤ ddd) (hd2 : ddd ≤ 366) :
    strptimeYj? (fixedDigits 4 y ++ ':' :: fixedDigits 3 ddd) = some (jan1 y + ddd - 1) := by
  have hlen : (fixedDigits 4 y).length = 4 := length_fixedDigits 4 y
  have hval : digitsVal (fixedDigits 4 y) = y := by rw [digitsVal_fixedDigits]; omega
  have hy' : ¬ ((y : Int) < 1) := by omega
  unfold strptimeYj?
  rw [List.take_left' hlen, List.drop_left' hlen]
  simp [hlen, allDigits_fixedDigits, parseDoy_fixed ddd hd1 hd2, hval, hy']

end Midgard.Props.C14
