/-
The reals as the number type of the analytic models: the instance `Trig ℝ`, and what the proofs of C05–C07 share about the `|z|` and
`sign z` of `_trs2llh` (`absOf`, `signOf`), the norm of a 3-vector, and `arctan2` / `arctan` against cosine and sine.
-/
import Mathlib.Analysis.SpecialFunctions.Trigonometric.Basic
import Mathlib.Analysis.SpecialFunctions.Trigonometric.Inverse
import Mathlib.Analysis.SpecialFunctions.Trigonometric.Arctan
import Mathlib.Analysis.SpecialFunctions.Trigonometric.Deriv
import Mathlib.Analysis.SpecialFunctions.Complex.Arg
import Mathlib.Analysis.Real.Sqrt
import Mathlib.Tactic.Ring
import Mathlib.Tactic.LinearCombination
import Mathlib.Tactic.FieldSimp
import Mathlib.Tactic.Linarith
import Mathlib.Tactic.Positivity
import Mathlib.Tactic.NormNum
import Midgard.Model.Vec3

namespace Midgard.Geo

/-- `Trig ℝ`: the functions the `Float` instance approximates.  `atan2 y x` is the argument of
`x + i y` (NumPy's `arctan2`, range (-π, π]). -/
noncomputable instance instTrigReal : Trig ℝ where
  sin := Real.sin
  cos := Real.cos
  sqrt := Real.sqrt
  atan := Real.arctan
  asin := Real.arcsin
  atan2 := fun y x => Complex.arg ⟨x, y⟩
  pi := Real.pi

@[simp] theorem trig_sin (x : ℝ) : Trig.sin x = Real.sin x := rfl
@[simp] theorem trig_cos (x : ℝ) : Trig.cos x = Real.cos x := rfl
@[simp] theorem trig_sqrt (x : ℝ) : Trig.sqrt x = Real.sqrt x := rfl
@[simp] theorem trig_atan (x : ℝ) : Trig.atan x = Real.arctan x := rfl
@[simp] theorem trig_asin (x : ℝ) : Trig.asin x = Real.arcsin x := rfl
@[simp] theorem trig_pi : (Trig.pi : ℝ) = Real.pi := rfl
theorem trig_atan2 (y x : ℝ) : Trig.atan2 y x = Complex.arg ⟨x, y⟩ := rfl

theorem V3.ext' {α : Type} {u v : V3 α} (hx : u.x = v.x) (hy : u.y = v.y) (hz : u.z = v.z) : u = v := by
  cases u; cases v; simp_all

theorem M3.ext' {α : Type} {m n : M3 α} (h1 : m.r1 = n.r1) (h2 : m.r2 = n.r2) (h3 : m.r3 = n.r3) : m = n := by
  cases m; cases n; simp_all

theorem V6.ext' {α : Type} {u v : V6 α} (hp : u.p = v.p) (hv : u.v = v.v) : u = v := by
  cases u; cases v; simp_all

def M3.entry {α : Type} (m : M3 α) (i j : Fin 3) : α :=
  let r := match i with | 0 => m.r1 | 1 => m.r2 | 2 => m.r3
  match j with | 0 => r.x | 1 => r.y | 2 => r.z

theorem V3.norm2_nonneg (u : V3 ℝ) : 0 ≤ u.norm2 := by
  simp only [V3.norm2, V3.dot]; nlinarith [mul_self_nonneg u.x, mul_self_nonneg u.y, mul_self_nonneg u.z]

theorem V3.norm_eq (u : V3 ℝ) : u.norm = Real.sqrt u.norm2 := by
  simp only [V3.norm, trig_sqrt, V3.norm2, V3.dot]

theorem V3.norm_sq (u : V3 ℝ) : u.norm ^ 2 = u.norm2 := by
  rw [V3.norm_eq, Real.sq_sqrt u.norm2_nonneg]

theorem V3.norm_pos {u : V3 ℝ} (h : u.norm2 ≠ 0) : 0 < u.norm := by
  rw [V3.norm_eq]
  exact Real.sqrt_pos.mpr (lt_of_le_of_ne u.norm2_nonneg (Ne.symm h))

theorem V3.norm2_eq_zero {u : V3 ℝ} (h : u.norm2 = 0) : u = ⟨0, 0, 0⟩ := by
  simp only [V3.norm2, V3.dot] at h
  have hx : u.x = 0 := by nlinarith [mul_self_nonneg u.x, mul_self_nonneg u.y, mul_self_nonneg u.z]
  have hy : u.y = 0 := by nlinarith [mul_self_nonneg u.x, mul_self_nonneg u.y, mul_self_nonneg u.z]
  have hz : u.z = 0 := by nlinarith [mul_self_nonneg u.x, mul_self_nonneg u.y, mul_self_nonneg u.z]
  exact V3.ext' hx hy hz

theorem V3.unit_norm2 {u : V3 ℝ} (h : u.norm2 ≠ 0) : u.unit.norm2 = 1 := by
  have hp := V3.norm_pos h
  have hs := V3.norm_sq u
  simp only [V3.unit, V3.sdiv, V3.norm2, V3.dot] at hs ⊢
  field_simp
  linear_combination -hs

theorem V3.unit_of_norm2_one {u : V3 ℝ} (h : u.norm2 = 1) : u.unit = u := by
  have : u.norm = 1 := by rw [V3.norm_eq, h, Real.sqrt_one]
  apply V3.ext' <;> simp [V3.unit, V3.sdiv, this]

theorem dot_zero_of_parallel (g n e : V3 ℝ) (hc : V3.cross g n = V3.zero) (hn : n.norm2 = 1) (he : V3.dot e n = 0) :
    V3.dot g e = 0 := by
  simp only [V3.cross, V3.zero, V3.mk.injEq] at hc
  obtain ⟨c1, c2, c3⟩ := hc
  simp only [V3.norm2, V3.dot] at hn he ⊢
  linear_combination (-(g.x * e.x + g.y * e.y + g.z * e.z)) * hn + (g.x * n.x + g.y * n.y + g.z * n.z) * he
    - (n.y * e.z - n.z * e.y) * c1 - (n.z * e.x - n.x * e.z) * c2 - (n.x * e.y - n.y * e.x) * c3

theorem absOf_of_nonneg {z : ℝ} (h : 0 ≤ z) : absOf z = z := by unfold absOf; simp [not_lt.2 h]
theorem absOf_of_neg {z : ℝ} (h : z < 0) : absOf z = -z := by unfold absOf; simp [h]
theorem absOf_zero : absOf (0 : ℝ) = 0 := absOf_of_nonneg le_rfl
theorem absOf_nonneg (z : ℝ) : 0 ≤ absOf z := by unfold absOf; split <;> linarith
theorem absOf_sq (z : ℝ) : absOf z * absOf z = z * z := by unfold absOf; split <;> ring
theorem absOf_pos {z : ℝ} (h : z ≠ 0) : 0 < absOf z := lt_of_le_of_ne (absOf_nonneg z) fun h0 => h (by
  have := absOf_sq z
  rw [← h0, zero_mul] at this
  exact mul_self_eq_zero.1 this.symm)
theorem signOf_of_pos {z : ℝ} (h : 0 < z) : signOf z = 1 := by
  unfold signOf; simp [h, not_lt.2 h.le]
theorem signOf_of_neg {z : ℝ} (h : z < 0) : signOf z = -1 := by unfold signOf; simp [h]
theorem signOf_zero : signOf (0 : ℝ) = 0 := by unfold signOf; simp

theorem signOf_mul_absOf (z : ℝ) : signOf z * absOf z = z := by
  rcases lt_trichotomy z 0 with h | h | h
  · rw [signOf_of_neg h, absOf_of_neg h]; ring
  · rw [h, signOf_zero, zero_mul]
  · rw [signOf_of_pos h, absOf_of_nonneg h.le, one_mul]

theorem absOf_neg (z : ℝ) : absOf (-z) = absOf z := by
  have h := absOf_sq (-z)
  rw [neg_mul_neg, ← absOf_sq z] at h
  exact (mul_self_inj (absOf_nonneg _) (absOf_nonneg _)).1 h

theorem signOf_neg (z : ℝ) : signOf (-z) = -signOf z := by
  rcases lt_trichotomy z 0 with h | h | h
  · rw [signOf_of_neg h, signOf_of_pos (neg_pos.2 h), neg_neg]
  · rw [h, neg_zero, signOf_zero, neg_zero]
  · rw [signOf_of_pos h, signOf_of_neg (neg_neg_of_pos h)]

theorem signOf_sq_mul {z t : ℝ} (h0 : z = 0 → t = 0) : signOf z * signOf z * t = t := by
  rcases lt_trichotomy z 0 with h | h | h
  · rw [signOf_of_neg h]; ring
  · rw [h0 h, mul_zero]
  · rw [signOf_of_pos h]; ring

theorem mul_signOf_cases {x B z : ℝ} (hx : z ≠ 0 → 0 < x) (hB : x ≤ B) :
    (0 < z → 0 < x * signOf z ∧ x * signOf z ≤ B) ∧ (z < 0 → x * signOf z < 0 ∧ -B ≤ x * signOf z) ∧
    (z = 0 → x * signOf z = 0) :=
  ⟨fun h => by rw [signOf_of_pos h, mul_one]; exact ⟨hx h.ne', hB⟩,
   fun h => by rw [signOf_of_neg h, mul_neg, mul_one]; exact ⟨neg_lt_zero.2 (hx h.ne), neg_le_neg hB⟩,
   fun h => by rw [h, signOf_zero, mul_zero]⟩

/-- the latitude is returned as `x·sign z` with `x ≥ 0` computed from `|z|` (so `x = 0` on the equatorial plane) -/
theorem cos_sin_mul_signOf (x z : ℝ) (h0 : z = 0 → x = 0) :
    Real.cos (x * signOf z) = Real.cos x ∧ Real.sin (x * signOf z) = signOf z * Real.sin x := by
  rcases lt_trichotomy z 0 with h | h | h
  · rw [signOf_of_neg h]; simp
  · rw [h0 h, h, signOf_zero]; simp
  · rw [signOf_of_pos h]; simp

theorem atan2_pair_eq (k θ : ℝ) :
    (⟨k * Real.cos θ, k * Real.sin θ⟩ : ℂ) = (k : ℂ) * (Complex.cos θ + Complex.sin θ * Complex.I) := by
  apply Complex.ext <;>
    simp [Complex.cos_ofReal_re, Complex.sin_ofReal_re, Complex.cos_ofReal_im, Complex.sin_ofReal_im]

theorem atan2_pos_mul (k θ : ℝ) (hk : 0 < k) (hθ : θ ∈ Set.Ioc (-Real.pi) Real.pi) :
    Trig.atan2 (k * Real.sin θ) (k * Real.cos θ) = θ := by
  rw [trig_atan2, atan2_pair_eq, Complex.arg_mul_cos_add_sin_mul_I hk hθ]

theorem cos_sin_arctan_div {s c D : ℝ} (hc : 0 < c) (hD : 0 < D) (hDD : D * D = s * s + c * c) :
    Real.cos (Real.arctan (s / c)) = c / D ∧ Real.sin (Real.arctan (s / c)) = s / D := by
  have h : Real.sqrt (1 + (s / c) ^ 2) = D / c := by
    rw [show 1 + (s / c) ^ 2 = (D / c) ^ 2 by rw [div_pow, div_pow, pow_two D, hDD]; field_simp; ring]
    exact Real.sqrt_sq (div_pos hD hc).le
  rw [Real.cos_arctan, Real.sin_arctan, h]
  constructor <;> field_simp

theorem cos_sin_arg {x y : ℝ} (h : 0 < x * x + y * y) :
    Real.cos (Complex.arg ⟨x, y⟩) = x / Real.sqrt (x * x + y * y) ∧
    Real.sin (Complex.arg ⟨x, y⟩) = y / Real.sqrt (x * x + y * y) := by
  have hne : (⟨x, y⟩ : ℂ) ≠ 0 := fun h0 => h.ne' (by simpa [Complex.normSq_mk] using congrArg Complex.normSq h0)
  have hnorm : ‖(⟨x, y⟩ : ℂ)‖ = Real.sqrt (x * x + y * y) := by rw [Complex.norm_def, Complex.normSq_mk]
  exact ⟨by rw [Complex.cos_arg hne, hnorm], by rw [Complex.sin_arg, hnorm]⟩

/-- off the pole branch of `_trs2llh` (`x² + y² > a²·1e-32`) the point is off the axis -/
theorem off_axis_pos {r a : ℝ} (h : ¬ r ≤ a * a * 1e-32) : 0 < r :=
  lt_of_le_of_lt (mul_nonneg (mul_self_nonneg a) (by norm_num)) (not_le.1 h)

theorem atan2_pos_mul_mod (k θ : ℝ) (hk : 0 < k) :
    (∃ n : ℤ, Trig.atan2 (k * Real.sin θ) (k * Real.cos θ) = θ + 2 * Real.pi * n) ∧
    -Real.pi < Trig.atan2 (k * Real.sin θ) (k * Real.cos θ) ∧
    Trig.atan2 (k * Real.sin θ) (k * Real.cos θ) ≤ Real.pi := by
  rw [trig_atan2]
  refine ⟨?_, Complex.neg_pi_lt_arg _, Complex.arg_le_pi _⟩
  rw [atan2_pair_eq]
  exact ⟨_, by linarith [Complex.arg_mul_cos_add_sin_mul_I_sub hk θ]⟩

end Midgard.Geo
