/-
C19, text round trip: what `update_from_file` sees of a value.  `ConfigParser` hands out a value as the
lines it collected; `joinValue` (`Model/Config.lean`) joins them, turns the line breaks into blanks and strips the
result.  For lines that each hold a run of words joined by single blanks the outcome is the words joined by single
blanks, and an empty line at the end changes nothing.  Mathlib-free.
-/
import Midgard.Proofs.ConfigRead

namespace Midgard.Proofs.ConfigText
open Midgard.Config

theorem joinLines_cons2 (l l' : List Char) (t : List (List Char)) :
    joinLines (l :: l' :: t) = l ++ '\n' :: joinLines (l' :: t) := rfl

theorem joinLines_snoc (L : List (List Char)) (hL : L ≠ []) (l : List Char) :
    joinLines (L ++ [l]) = joinLines L ++ '\n' :: l := by
  induction L with
  | nil => exact absurd rfl hL
  | cons a t ih =>
    cases t with
    | nil => rfl
    | cons b r =>
      rw [List.cons_append, List.cons_append, joinLines_cons2, ← List.cons_append, ih (by simp), joinLines_cons2]
      simp

theorem nl_blank : isBlank '\n' = true := by decide

theorem noNL_unwords (g : List (List Char)) (hw : ∀ x ∈ g, ReaderWord x) : '\n' ∉ unwords g := by
  intro h
  rcases mem_unwords _ g h with h | ⟨x, hx, h⟩
  · exact absurd h (by decide)
  · exact noNL_of_noBlank (hw x hx).2 h

def nl2sp (c : Char) : Char := if c = '\n' then ' ' else c

theorem isBlank_nl2sp (c : Char) : isBlank (nl2sp c) = isBlank c := by
  simp only [nl2sp]; split
  · rename_i h; subst h; decide
  · rfl

theorem dropWhile_blank_map (l : List Char) :
    (l.map nl2sp).dropWhile isBlank = (l.dropWhile isBlank).map nl2sp := by
  induction l with
  | nil => rfl
  | cons c t ih =>
    simp only [List.map_cons, List.dropWhile_cons, isBlank_nl2sp]
    split
    · exact ih
    · simp

theorem rstripBlanks_map (l : List Char) : rstripBlanks (l.map nl2sp) = (rstripBlanks l).map nl2sp := by
  simp only [rstripBlanks, ← List.map_reverse, dropWhile_blank_map]

theorem map_nl2sp_id (l : List Char) (h : '\n' ∉ l) : l.map nl2sp = l := by
  induction l with
  | nil => rfl
  | cons c t ih =>
    have hc : c ≠ '\n' := by intro e; subst e; simp at h
    simp [nl2sp, hc, ih (fun hm => h (List.mem_cons_of_mem _ hm))]

theorem joinLines_groups (G : List (List (List Char))) (hG : G ≠ []) (hne : ∀ g ∈ G, g ≠ [])
    (hw : ∀ g ∈ G, ∀ x ∈ g, ReaderWord x) :
    (joinLines (G.map unwords)).map nl2sp = unwords G.flatten := by
  induction G with
  | nil => exact absurd rfl hG
  | cons g t ih =>
    have hg : (unwords g).map nl2sp = unwords g := map_nl2sp_id _ (noNL_unwords g (hw g (by simp)))
    cases t with
    | nil => simpa [joinLines] using hg
    | cons g' t' =>
      have h1 := ih (by simp) (fun x hx => hne x (List.mem_cons_of_mem _ hx))
        (fun x hx => hw x (List.mem_cons_of_mem _ hx))
      have hrest : (g' :: t').flatten ≠ [] := by
        have := hne g' (by simp)
        cases g' with
        | nil => exact absurd rfl this
        | cons a b => simp
      simp only [List.map_cons] at h1 ⊢
      rw [joinLines_cons2, List.flatten_cons, unwords_append g _ (hne g (by simp)) hrest, ← h1]
      simp [hg, nl2sp]

theorem stripBlanks_blanks_unwords (bl : List Char) (ws : List (List Char)) (hbl : ∀ c ∈ bl, isBlank c = true)
    (hw : ∀ x ∈ ws, ReaderWord x) : stripBlanks (rstripBlanks (bl ++ unwords ws)) = unwords ws := by
  cases ws with
  | nil =>
    have : rstripBlanks (bl ++ unwords []) = [] := by
      have := rstripBlanks_append_blanks [] bl hbl
      simpa [unwords_nil, rstripBlanks] using this
    rw [this]; rfl
  | cons x t =>
    have hne := unwords_ne_nil (hw x (by simp)).1 t
    have hlast := unwords_getLast (x :: t) (by simp) hw
    rw [rstripBlanks_id _ (by rw [Text.getLast?_append_ne _ _ hne]; exact hlast),
      stripBlanks_blanks_append _ _ hbl, stripBlanks_unwords _ hw]

theorem joinValue_groups (g0 : List (List Char)) (gr : List (List (List Char))) (hne : ∀ g ∈ gr, g ≠ [])
    (hw : ∀ x ∈ g0 ++ gr.flatten, ReaderWord x) :
    joinValue (unwords g0 :: gr.map unwords) = String.ofList (unwords (g0 ++ gr.flatten)) := by
  have hw0 : ∀ x ∈ g0, ReaderWord x := fun x hx => hw x (List.mem_append_left _ hx)
  have hwr : ∀ g ∈ gr, ∀ x ∈ g, ReaderWord x := fun g hg x hx =>
    hw x (List.mem_append_right _ (List.mem_flatten.2 ⟨g, hg, hx⟩))
  have hfun : (fun c => if c = '\n' then ' ' else c) = nl2sp := rfl
  simp only [joinValue, hfun, ← rstripBlanks_map]
  -- a first line without words leaves one blank (its line break) in front of the rest
  have hbody : ∃ bl, (∀ c ∈ bl, isBlank c = true) ∧
      (joinLines (unwords g0 :: gr.map unwords)).map nl2sp = bl ++ unwords (g0 ++ gr.flatten) := by
    cases g0 with
    | nil =>
      cases gr with
      | nil => exact ⟨[], by simp, by simp [joinLines, unwords_nil]⟩
      | cons g t =>
        refine ⟨[' '], by simp [isBlank_space], ?_⟩
        have := joinLines_groups (g :: t) (by simp) hne hwr
        simp only [List.map_cons] at this
        have h0 : nl2sp '\n' = ' ' := by decide
        rw [List.map_cons, unwords_nil, joinLines_cons2, List.nil_append,
          List.map_cons, this, h0]
        rfl
    | cons x r =>
      refine ⟨[], by simp, ?_⟩
      have := joinLines_groups ((x :: r) :: gr) (by simp) (List.forall_mem_cons.2 ⟨by simp, hne⟩)
        (List.forall_mem_cons.2 ⟨hw0, hwr⟩)
      simpa using this
  obtain ⟨bl, hbl, hb⟩ := hbody
  rw [hb, stripBlanks_blanks_unwords bl _ hbl hw]

theorem joinValue_snoc_nil (vs : List (List Char)) : joinValue (vs ++ [[]]) = joinValue vs := by
  cases vs with
  | nil => rfl
  | cons a t =>
    simp only [joinValue]
    rw [joinLines_snoc _ (by simp), rstripBlanks_append_blanks _ ['\n'] (by simp [nl_blank])]

end Midgard.Proofs.ConfigText
