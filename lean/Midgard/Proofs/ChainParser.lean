/-
What `ChainParser.read_data` does on rendered text.  A labelled 80-column record (ANTEX, RINEX headers: 60 data columns of a fixed-column
layout, then the label) is dispatched by its label and cut back into its cells; a group of lines with known effects is applied in order
(`runFx`, `runLines`) up to the line the end marker picks — looking at the line (`readData_group`) or at the next one (`readData_block_of`);
a whole file is two folds: the header records, then the groups of the repeated parser.
-/
import Midgard.Model.ChainParser
import Midgard.Proofs.FixedCol

namespace Midgard.ChainParser
open Midgard.Text Midgard.FixedCol

theorem labelled_covers (L P : Layout) (cells : List (Align × Str)) (label : Str)
    (hs : Sorted L = true) (hf : Fits L cells = true) (hc : Covers 0 L P = true) :
    P.map (fun p => slice p (rstrip (ljust 60 (renderA L cells) ++ label))) = cells.map (·.2) := by
  rw [← slice_renderFrom_covers L P 0 cells [] (blanks (60 - (renderA L cells).length) ++ label) hs hf rfl hc]
  apply List.map_congr_left
  intro p _
  rw [slice_rstrip]
  simp [ljust, renderA, List.append_assoc]

theorem labelled_fields (L : Layout) (cells : List (Align × Str)) (label : Str)
    (hs : Sorted L = true) (hf : Fits L cells = true) :
    L.map (fun f => slice f (rstrip (ljust 60 (renderA L cells) ++ label))) = cells.map (·.2) :=
  labelled_covers L L cells label hs hf (covers_self L 0 hs)

theorem labelled_label (L : Layout) (cells : List (Align × Str)) (label : Str)
    (hs : Sorted L = true) (hf : Fits L cells = true) (hw : Within 60 L = true)
    (hc : Clean label = true) (hne : label ≠ []) :
    sliceFrom 60 (rstrip (ljust 60 (renderA L cells) ++ label)) = label := by
  rw [rstrip_append_of_clean hc hne]
  have hlen : (ljust 60 (renderA L cells)).length = 60 := length_ljust (renderA_length_le hs hf hw)
  unfold sliceFrom
  rw [List.drop_append_of_le_length (by omega)]
  simp [hlen]

theorem labelled_rstrip (L : Layout) (cells : List (Align × Str)) (label : Str)
    (hc : Clean label = true) (hne : label ≠ []) :
    rstrip (ljust 60 (renderA L cells) ++ label) = ljust 60 (renderA L cells) ++ label :=
  rstrip_append_of_clean hc hne


/-! ### the table lookup of `parseLine`; handlers in `Except Err` -/

theorem parseLine_found {S} (p : ParserDef S) (line : Str) (n : Nat) (s : S) (d : LabelDef) (hs : p.skipLine line = false)
    (hd : p.defs.find? (·.label == p.label (rstrip line) n) = some d) :
    parseLine p line n s = p.handle d.handler (d.values line) s := by
  unfold parseLine
  rw [hd, hs]
  rfl

theorem parseLine_none {S} (p : ParserDef S) (line : Str) (n : Nat) (s : S) (hs : p.skipLine line = false)
    (hd : p.defs.find? (·.label == p.label (rstrip line) n) = none) : parseLine p line n s = .ok s := by
  unfold parseLine
  rw [hs, hd]
  rfl

theorem throw_ne_ok {α} (e : Err) (a : α) : (throw e : Except Err α) ≠ .ok a := by
  simp [throw, throwThe, MonadExcept.throw, MonadExceptOf.throw]

theorem bind_ok' {α β} {x : Except Err α} {f : α → Except Err β} {b : β} (h : (x >>= f) = .ok b) :
    ∃ a, x = .ok a ∧ f a = .ok b := by
  cases x with
  | error e => simp [bind, Except.bind] at h
  | ok a => exact ⟨a, rfl, h⟩

/-! ### `read_data` over a group of lines whose effects are known -/

/-- the effects of a group of lines applied in order -/
def runFx {S} : List (S → Except Err S) → S → Except Err S
  | [], s => pure s
  | f :: fs, s =>
    match f s with
    | .ok s' => runFx fs s'
    | .error e => .error e

theorem runFx_append {S} (a b : List (S → Except Err S)) (s : S) :
    runFx (a ++ b) s = match runFx a s with
      | .ok s' => runFx b s'
      | .error e => .error e := by
  induction a generalizing s with
  | nil => rfl
  | cons f fs ih =>
    simp only [List.cons_append, runFx]
    cases f s with
    | error e => rfl
    | ok s' => exact ih s'

/-- A run of lines of which only the last one satisfies the end marker (whatever the next line is): `read_data` applies their
effects in order, resets the cache and goes on with the repeated parser and line number 0 — also when the file ends there. -/
theorem readData_group {S} (first rest : ParserDef S) (reset : S → S) (inFirst : Bool)
    (g : List (Str × (S → Except Err S))) (last : Str × (S → Except Err S)) (more : List Str)
    (heff : ∀ x ∈ g ++ [last], ∀ n s, parseLine (if inFirst then first else rest) (rstrip x.1) n s = x.2 s)
    (hno : ∀ x ∈ g, ∀ n nx, (if inFirst then first else rest).endMarker (rstrip x.1) n nx = false)
    (hend : ∀ n nx, (if inFirst then first else rest).endMarker (rstrip last.1) n nx = true) :
    ∀ (n : Nat) (s : S),
    readData first rest reset ((g ++ [last]).map (·.1) ++ more) inFirst n s =
      match runFx ((g ++ [last]).map (·.2)) s with
      | .error e => .error e
      | .ok s' => readData first rest reset more false 0 (reset s') := by
  induction g with
  | nil =>
    intro n s
    have h1 := heff last (by simp) (n + 1) s
    simp only [List.nil_append, List.map_cons, List.map_nil, List.cons_append, readData, h1, runFx]
    cases hl : last.2 s with
    | error e => rfl
    | ok s' =>
      simp only
      cases more with
      | nil => simp [readData, runFx, pure, Except.pure]
      | cons nx more' => simp [hend, runFx, pure, Except.pure]
  | cons x g ih =>
    intro n s
    have h1 := heff x (by simp) (n + 1) s
    have ih' := ih (fun y hy => heff y (by simp at hy ⊢; rcases hy with h | h; exact Or.inr (Or.inl h); exact Or.inr (Or.inr h)))
      (fun y hy => hno y (by simp [hy]))
    simp only [List.cons_append, List.map_cons, readData, h1, runFx]
    cases hx : x.2 s with
    | error e => rfl
    | ok s' =>
      simp only
      have hne : (List.map (fun x => x.1) (g ++ [last]) ++ more) ≠ [] := by simp
      cases hm : (List.map (fun x => x.1) (g ++ [last]) ++ more) with
      | nil => exact absurd hm hne
      | cons nx rest' =>
        simp only [hno x (by simp)]
        rw [← hm]
        simp only [Bool.false_eq_true, if_false]
        exact ih' (n + 1) s'

/-! ### the lines of a group, and `read_data` over a group that ends where the next line says so -/

/-- the lines of a group applied in order -/
def runLines {S} (p : ParserDef S) (ls : List Str) (s : S) : Except Err S :=
  ls.foldlM (fun s l => parseLine p (rstrip l) 0 s) s

theorem runLines_cons {S} (p : ParserDef S) (l : Str) (ls : List Str) (s : S) :
    runLines p (l :: ls) s = match parseLine p (rstrip l) 0 s with
      | .ok s' => runLines p ls s'
      | .error e => .error e := by
  simp only [runLines, List.foldlM_cons, bind, Except.bind]
  cases parseLine p (rstrip l) 0 s <;> rfl

theorem runLines_append {S} (p : ParserDef S) (a b : List Str) (s : S) :
    runLines p (a ++ b) s = match runLines p a s with
      | .ok s' => runLines p b s'
      | .error e => .error e := by
  induction a generalizing s with
  | nil => rfl
  | cons l a ih =>
    rw [List.cons_append, runLines_cons, runLines_cons]
    cases parseLine p (rstrip l) 0 s with
    | error e => rfl
    | ok s' => exact ih s'

theorem runLines_same {S} (p : ParserDef S) (s : S) : ∀ (ls : List Str), (∀ l ∈ ls, parseLine p (rstrip l) 0 s = .ok s) →
    runLines p ls s = .ok s := by
  intro ls
  induction ls with
  | nil => intro _; rfl
  | cons l ls ih =>
    intro h
    rw [runLines_cons, h l (by simp)]
    exact ih (fun l' hl' => h l' (by simp [hl']))

/-- When the end marker of `rest` looks at the next line only (`isEnd`) and the line number plays no part, a group starts at its
first line and runs as long as the next line is not marked: `read_data` applies the lines in order, resets the cache and starts the
next group (`read_data` on no further lines returns the state). -/
theorem readData_block_of {S} (first rest : ParserDef S) (reset : S → S) (isEnd : Str → Bool)
    (hend : ∀ l n next, rest.endMarker l n next = isEnd next)
    (hnum : ∀ l n s, parseLine rest l n s = parseLine rest l 0 s) :
    ∀ (ls : List Str) (l0 : Str) (more : List Str),
    (∀ l ∈ ls, isEnd (l ++ ['\n']) = false) →
    (more = [] ∨ ∃ m ms, more = m :: ms ∧ isEnd (m ++ ['\n']) = true) →
    ∀ (n : Nat) (s : S), readData first rest reset (l0 :: (ls ++ more)) false n s =
      match runLines rest (l0 :: ls) s with
      | .error e => .error e
      | .ok s' => readData first rest reset more false 0 (reset s') := by
  intro ls
  induction ls with
  | nil =>
    intro l0 more _ hmore n s
    simp only [List.nil_append, readData, Bool.false_eq_true, if_false, hnum _ (n + 1), runLines_cons, hend]
    cases parseLine rest (rstrip l0) 0 s with
    | error e => rfl
    | ok s' =>
      simp only [runLines, List.foldlM_nil, pure, Except.pure]
      rcases hmore with rfl | ⟨m, ms, rfl, hm⟩
      · rfl
      · simp only [hm, if_true]
  | cons l1 ls ih =>
    intro l0 more hls hmore n s
    rw [List.cons_append, readData, runLines_cons rest l0 (l1 :: ls) s]
    simp only [Bool.false_eq_true, if_false, hnum _ (n + 1), hend, hls l1 List.mem_cons_self]
    cases parseLine rest (rstrip l0) 0 s with
    | error e => rfl
    | ok s' =>
      simp only
      exact ih l1 more (fun l hl => hls l (List.mem_cons_of_mem _ hl)) hmore (n + 1) s'

/-! ### a whole file: the header records, then the groups of the repeated parser -/

/-- **The header group is a fold.**  Records none of which is the end record, each with a known effect, then the end
record (no effect): `read_data` folds the effects, resets the cache and goes on with the repeated parser. -/
theorem readData_header {S β} (first rest : ParserDef S) (reset : S → S) (line : β → Str) (fx : β → S → Except Err S)
    (eoh : Str) (recs : List β) (more : List Str)
    (hline : ∀ r ∈ recs, ∀ n s, parseLine first (rstrip (line r)) n s = fx r s)
    (hno : ∀ r ∈ recs, ∀ n nx, first.endMarker (rstrip (line r)) n nx = false)
    (heoh : ∀ n s, parseLine first (rstrip eoh) n s = .ok s)
    (hend : ∀ n nx, first.endMarker (rstrip eoh) n nx = true) (n : Nat) (s : S) :
    readData first rest reset (recs.map line ++ eoh :: more) true n s =
      match recs.foldlM (fun s r => fx r s) s with
      | .error e => .error e
      | .ok H => readData first rest reset more false 0 (reset H) := by
  induction recs generalizing n s with
  | nil =>
    simp only [List.map_nil, List.nil_append, readData, if_true, heoh, List.foldlM_nil, pure, Except.pure]
    cases more with
    | nil => rfl
    | cons nx more' => simp only [hend, if_true]
  | cons r recs ih =>
    simp only [List.map_cons, List.cons_append, readData, if_true, hline r (by simp) (n + 1) s, List.foldlM_cons, bind,
      Except.bind]
    cases fx r s with
    | error e => rfl
    | ok s' =>
      simp only
      cases hm : (recs.map line ++ eoh :: more) with
      | nil => simp at hm
      | cons nx rest' =>
        simp only [hno r (by simp), Bool.false_eq_true, if_false]
        rw [← hm]
        exact ih (fun r' hr' => hline r' (by simp [hr'])) (fun r' hr' => hno r' (by simp [hr'])) (n + 1) s'

/-- **The data section is a fold.**  Blocks `head b :: tail b` whose head, and no other line, is marked as a start by the
end marker of `rest`; states `σ r` indexed by what has been read so far; every block takes `σ r` to `σ (next b r)` up to the
cache that `reset` erases: `read_data` over all the blocks folds `next`. -/
theorem readData_blocks {S β ρ} (first rest : ParserDef S) (reset : S → S) (isEnd : Str → Bool)
    (hend : ∀ l n next, rest.endMarker l n next = isEnd next)
    (hnum : ∀ l n s, parseLine rest l n s = parseLine rest l 0 s)
    (head : β → Str) (tail : β → List Str) (σ : ρ → S) (next : β → ρ → ρ) :
    ∀ (bs : List β) (r : ρ),
      (∀ b ∈ bs, isEnd (head b ++ ['\n']) = true ∧ ∀ l ∈ tail b, isEnd (l ++ ['\n']) = false) →
      (∀ b ∈ bs, ∀ r, ∃ s', runLines rest (head b :: tail b) (σ r) = .ok s' ∧ reset s' = σ (next b r)) →
      readData first rest reset (bs.flatMap fun b => head b :: tail b) false 0 (σ r) =
        .ok (σ (bs.foldl (fun r b => next b r) r)) := by
  intro bs
  induction bs with
  | nil => intro r _ _; rfl
  | cons b bs ih =>
    intro r hm hrun
    obtain ⟨s', hs', hr⟩ := hrun b (by simp) r
    have hmore : (bs.flatMap fun b => head b :: tail b) = [] ∨ ∃ m ms, (bs.flatMap fun b => head b :: tail b) = m :: ms ∧
        isEnd (m ++ ['\n']) = true := by
      cases bs with
      | nil => exact Or.inl rfl
      | cons b' bs' => exact Or.inr ⟨head b', _, by rw [List.flatMap_cons, List.cons_append], (hm b' (by simp)).1⟩
    rw [List.flatMap_cons, List.cons_append,
      readData_block_of first rest reset isEnd hend hnum (tail b) (head b) _ (hm b (by simp)).2 hmore 0 (σ r), hs']
    simp only [hr, List.foldl_cons]
    exact ih (next b r) (fun b' hb' => hm b' (by simp [hb'])) (fun b' hb' => hrun b' (by simp [hb']))

end Midgard.ChainParser
