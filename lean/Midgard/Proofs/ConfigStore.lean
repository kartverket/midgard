/-
C19, text round trip: from the options the reader returns to the updates `update_from_file` issues and the store they
leave behind.  Mathlib-free.
-/
import Midgard.Proofs.ConfigDoc
import Midgard.Proofs.ConfigFlatten

namespace Midgard.Proofs.ConfigText
open Midgard.Config

/-- `metaOf` of the model on normalised options (name, joined value) -/
def metaOfN (nopts : List (List Char × Option String)) (key : List Char) : List (String × Option String) :=
  (nopts.filterMap fun m =>
    if isPrefix (key ++ [':']) m.1 then some (String.ofList (partitionAt ':' m.1).2.2, m.2) else none).foldl
      (fun acc p => dset acc p.1 p.2) []

/-- the filter of `sectionUpdates` on one normalised option, the metadata lookup abstracted -/
def updFilter (src : String) (allowNew : Bool) (n : String) (M : List Char → List (String × Option String))
    (o : List Char × Option String) : Option (String × Upd) :=
  if o.1.contains ':' then none else
  some (String.ofList o.1,
    ⟨String.ofList (partDunder n.toList).1, String.ofList o.1, o.2.getD "None",
     if (partDunder n.toList).2.1 then some (String.ofList (partDunder n.toList).2.2) else none, src, M o.1, allowNew⟩)

/-- `sectionUpdates` of the model on normalised options; `sectionUpdates_norm` is the link -/
def sectionUpdatesN (source : String) (allowNew : Bool) (cfgSection : String)
    (nopts : List (List Char × Option String)) : List (String × Upd) :=
  if (partDunder cfgSection.toList).1.isEmpty then [] else
  nopts.filterMap (updFilter source allowNew cfgSection (metaOfN nopts))

theorem metaOf_norm (opts : List RawOpt) (key : List Char) : metaOf opts key = metaOfN (opts.map normOpt) key := by
  simp only [metaOf, metaOfN, List.filterMap_map]
  rfl

theorem sectionUpdates_norm (source : String) (allowNew : Bool) (cfgSection : String) (opts : List RawOpt) :
    sectionUpdates source allowNew cfgSection opts = sectionUpdatesN source allowNew cfgSection (opts.map normOpt) := by
  simp only [sectionUpdates, sectionUpdatesN, List.filterMap_map, metaOf_norm]
  rfl

theorem fileUpdates_norm (src : String) (allowNew : Bool) (raw : List (String × List RawOpt)) :
    fileUpdates src allowNew raw =
      (raw.map normSec).flatMap fun s => sectionUpdatesN src allowNew s.1 s.2 := by
  simp only [fileUpdates, List.flatMap_map, normSec, sectionUpdates_norm]

theorem metaFilter_other (k : List Char) (k' : String) (e' : Entry) (hk : ':' ∉ k) (hk' : ':' ∉ k'.toList)
    (hne : k'.toList ≠ k) :
    (entryOpts k' e').filterMap (fun m : Opt =>
      if isPrefix (k ++ [':']) m.1 then some (String.ofList (partitionAt ':' m.1).2.2, m.2) else none) = [] := by
  have hno : ∀ x : List Char, (partitionAt ':' x).1 = k'.toList → isPrefix (k ++ [':']) x = false := by
    intro x hx
    cases h : isPrefix (k ++ [':']) x with
    | false => rfl
    | true =>
      obtain ⟨r, rfl⟩ := (isPrefix_spec _ _).1 h
      rw [show k ++ [':'] ++ r = k ++ ':' :: r by simp, partitionAt_append ':' k r hk] at hx
      exact absurd hx.symm hne
  rw [entryOpts, List.filterMap_cons, hno _ (congrArg Prod.fst (partitionAt_none ':' _ hk'))]
  simp only [Bool.false_eq_true, if_false]
  rw [List.filterMap_map]
  apply List.filterMap_eq_nil_iff.2
  intro m _
  simp [Function.comp, hno _ (keyOf_meta k' m.1 hk')]

theorem metaFilter_same (k : String) (e : Entry) (hk : ':' ∉ k.toList) :
    (entryOpts k e).filterMap (fun m : Opt =>
      if isPrefix (k.toList ++ [':']) m.1 then some (String.ofList (partitionAt ':' m.1).2.2, m.2) else none) =
      e.metas := by
  have h0 : isPrefix (k.toList ++ [':']) k.toList = false := by
    cases h : isPrefix (k.toList ++ [':']) k.toList with
    | false => rfl
    | true =>
      obtain ⟨r, hr⟩ := (isPrefix_spec _ _).1 h
      have : ':' ∈ k.toList := by rw [hr]; simp
      exact absurd this hk
  rw [entryOpts, List.filterMap_cons, h0]
  simp only [Bool.false_eq_true, if_false]
  rw [List.filterMap_map]
  apply Lists.filterMap_some_id
  intro m _
  have hp : isPrefix (k.toList ++ [':']) (metaKey k m.1) = true :=
    (isPrefix_spec _ _).2 ⟨m.1.toList, by simp [metaKey]⟩
  simp only [Function.comp, hp, if_true]
  simp [metaKey, partitionAt_append ':' _ _ hk]

theorem metaOfN_flatOpts (s : Section) (hs : ∀ ke ∈ s, PlainKey ke.1 ke.2) (hk : (s.map (·.1)).Nodup)
    (k : String) (e : Entry) (hke : (k, e) ∈ s) : metaOfN (flatOpts s) k.toList = e.metas := by
  have hkc := (hs (k, e) hke).1
  have hfilter : (flatOpts s).filterMap (fun m : Opt =>
      if isPrefix (k.toList ++ [':']) m.1 then some (String.ofList (partitionAt ':' m.1).2.2, m.2) else none) =
      e.metas := by
    rw [flatOpts, List.filterMap_flatMap]
    -- only the entry of `k` contributes
    induction s with
    | nil => cases hke
    | cons ke' t ih =>
      simp only [List.map_cons, List.nodup_cons] at hk
      simp only [List.flatMap_cons]
      rcases List.mem_cons.1 hke with rfl | h
      · rw [metaFilter_same k e hkc, List.append_right_eq_self]
        exact List.flatMap_eq_nil_iff.2 fun x hx =>
          metaFilter_other k.toList x.1 x.2 hkc (hs x (List.mem_cons_of_mem _ hx)).1
            fun heq => hk.1 (List.mem_map.2 ⟨x, hx, String.toList_injective heq⟩)
      · rw [metaFilter_other k.toList ke'.1 ke'.2 hkc (hs ke' (by simp)).1
            fun heq => hk.1 (List.mem_map.2 ⟨(k, e), h, (String.toList_injective heq).symm⟩),
          ih (fun x hx => hs x (List.mem_cons_of_mem _ hx)) hk.2 h]
        rfl
  rw [metaOfN, hfilter, foldl_dset_nodup e.metas [] (by simpa using (hs (k, e) hke).2)]
  rfl

/-- the profile a section name stands for (`name__profile`) -/
def profileOf (n : String) : Profile :=
  if (partDunder n.toList).2.1 then some (String.ofList (partDunder n.toList).2.2) else none

/-- the section a section name stands for -/
def baseOf (n : String) : String := String.ofList (partDunder n.toList).1

/-- the update one entry of the written section `n` becomes -/
def updOf (src : String) (allowNew : Bool) (n : String) (ke : String × Entry) : String × Upd :=
  (ke.1, ⟨baseOf n, ke.1, ke.2.value, profileOf n, src, ke.2.metas, allowNew⟩)

theorem sectionUpdatesN_flatOpts (src : String) (allowNew : Bool) (n : String)
    (s : Section) (hn : wfNameB n = true) (hs : ∀ ke ∈ s, PlainKey ke.1 ke.2) (hk : (s.map (·.1)).Nodup) :
    sectionUpdatesN src allowNew n (flatOpts s) = s.map (updOf src allowNew n) := by
  have hbase : (partDunder n.toList).1.isEmpty = false := by
    simp only [wfNameB, Bool.and_eq_true, Bool.not_eq_true'] at hn
    exact hn.1.2
  rw [sectionUpdatesN]
  simp only [hbase, Bool.false_eq_true, if_false]
  -- entry by entry: the filter keeps the entry line, with the metadata found in the whole section
  have hM : ∀ ke ∈ s, metaOfN (flatOpts s) ke.1.toList = ke.2.metas := fun ke hke =>
    metaOfN_flatOpts s hs hk ke.1 ke.2 hke
  generalize metaOfN (flatOpts s) = M at hM
  rw [flatOpts, List.filterMap_flatMap, List.map_eq_flatMap]
  apply Lists.flatMap_congr
  intro ke hke
  have hc1 : ke.1.toList.contains ':' = false := by simpa using (hs ke hke).1
  have hmetas : (ke.2.metas.map (fun m => (metaKey ke.1 m.1, m.2))).filterMap
      (updFilter src allowNew n M) = [] := by
    rw [List.filterMap_map]
    apply List.filterMap_eq_nil_iff.2
    intro m _
    simp [Function.comp, metaKey, updFilter]
  rw [entryOpts, List.filterMap_cons, hmetas]
  simp only [updFilter, hc1, Bool.false_eq_true, if_false, updOf, baseOf, profileOf, String.ofList_toList,
    Option.getD_some, hM ke hke]

/-- the source `update` stores: `src`, or `src (profile)` for an entry of a profile -/
def sourceFor (src : String) (p : Profile) : String :=
  match p with
  | none => src
  | some p => s!"{src} ({p})"

/-- `_profile_sections[profile][section][key] = entry` -/
def putE (ps : List (Profile × Sections)) (p : Profile) (b k : String) (e : Entry) : List (Profile × Sections) :=
  dset ps p (dset (storeView ps p) b (dset ((dget? (storeView ps p) b).getD []) k e))

def putU (ps : List (Profile × Sections)) (u : Upd) : List (Profile × Sections) :=
  putE ps u.profile u.sect u.key ⟨u.value, sourceFor u.source u.profile, u.metas⟩

theorem updateRaw_ok (c : Cfg) (u : Upd) (h : u.allowNew = true) :
    ∃ n, c.updateRaw u = .ok { c with profileSections := putU c.profileSections u, updateCount := n } := by
  simp only [Cfg.updateRaw, h, if_true]
  exact ⟨_, rfl⟩

theorem updateMany_ok (ups : List (String × Upd)) (h : ∀ tu ∈ ups, tu.2.allowNew = true) :
    ∀ (c : Cfg) (done : List String), ∃ n,
      (c.updateMany false ups done).1 =
        ({ c with profileSections := ups.foldl (fun ps tu => putU ps tu.2) c.profileSections,
                  updateCount := n } : Cfg).refresh ∧
      (c.updateMany false ups done).2.1 = none := by
  induction ups with
  | nil => intro c done; exact ⟨c.updateCount, rfl, rfl⟩
  | cons tu t ih =>
    intro c done
    obtain ⟨n1, h1⟩ := updateRaw_ok c tu.2 (h tu (by simp))
    obtain ⟨n, h2, h3⟩ := ih (fun x hx => h x (List.mem_cons_of_mem _ hx))
      { c with profileSections := putU c.profileSections tu.2, updateCount := n1 } (done ++ [tu.1])
    refine ⟨n, ?_, ?_⟩
    · simp only [Cfg.updateMany, h1]; exact h2
    · simp only [Cfg.updateMany, h1]; exact h3

theorem storeView_put_same (ps : List (Profile × Sections)) (p : Profile) (b k : String) (e : Entry) :
    storeView (putE ps p b k e) p =
      dset (storeView ps p) b (dset ((dget? (storeView ps p) b).getD []) k e) := by
  simp only [storeView, putE, dget_dset, if_true, Option.getD_some]

theorem storeView_put_other (ps : List (Profile × Sections)) (p q : Profile) (b k : String) (e : Entry)
    (h : q ≠ p) : storeView (putE ps p b k e) q = storeView ps q := by
  simp only [storeView, putE, dget_dset, if_neg (Ne.symm h)]

theorem storeView_fold_other (p q : Profile) (hq : q ≠ p) (b : String) (E : Entry → Entry) (t : Section)
    (ps : List (Profile × Sections)) :
    storeView (t.foldl (fun ps ke => putE ps p b ke.1 (E ke.2)) ps) q = storeView ps q :=
  Lists.foldl_preserved _ (storeView · q) t ps fun _ _ _ => storeView_put_other _ _ _ _ _ _ hq

theorem store_entries (p : Profile) (b : String) (E : Entry → Entry) (t : Section) :
    ∀ (ps : List (Profile × Sections)), t ≠ [] →
      (((dget? (storeView ps p) b).getD [] ++ t).map (·.1)).Nodup →
      storeView (t.foldl (fun ps ke => putE ps p b ke.1 (E ke.2)) ps) p =
        dset (storeView ps p) b ((dget? (storeView ps p) b).getD [] ++ t.map (fun ke => (ke.1, E ke.2))) := by
  induction t with
  | nil => intro _ h; exact absurd rfl h
  | cons ke r ih =>
    intro ps _ hnd
    have h1 : storeView (putE ps p b ke.1 (E ke.2)) p =
        dset (storeView ps p) b ((dget? (storeView ps p) b).getD [] ++ [(ke.1, E ke.2)]) := by
      rw [storeView_put_same, dset_of_not_mem ((dget? (storeView ps p) b).getD []) ke.1 _
        (Lists.not_mem_of_nodup_append_cons (by simpa using hnd))]
    cases r with
    | nil => exact h1
    | cons ke' r' =>
      have hg : (dget? (storeView (putE ps p b ke.1 (E ke.2)) p) b).getD [] =
          (dget? (storeView ps p) b).getD [] ++ [(ke.1, E ke.2)] := by
        rw [h1, dget_dset, if_pos rfl, Option.getD_some]
      rw [List.foldl_cons, ih _ (by simp) (by rw [hg]; simpa using hnd), hg, h1, dset_dset]
      simp

theorem name_inj (n n' : String) (hb : baseOf n = baseOf n') (hp : profileOf n = profileOf n') : n = n' := by
  apply String.toList_injective
  rw [partDunder_spec n.toList, partDunder_spec n'.toList, String.ofList_injective hb]
  simp only [profileOf] at hp
  cases h1 : (partDunder n.toList).2.1 <;> cases h2 : (partDunder n'.toList).2.1 <;> simp_all
  exact String.ofList_injective hp

/-- an entry as it is read back: same value and metadata, the source is that of the file -/
def readEntry (src : String) (p : Profile) (e : Entry) : Entry := ⟨e.value, sourceFor src p, e.metas⟩

/-- what is read back for a profile: the sections written under a name that stands for that profile, in order, under their
base names -/
def readBack (src : String) (p : Profile) (secs : Sections) : Sections :=
  (secs.filter (fun ns => decide (profileOf ns.1 = p))).map
    (fun ns => (baseOf ns.1, ns.2.map (fun ke => (ke.1, readEntry src p ke.2))))

theorem readBack_nil (src : String) (p : Profile) : readBack src p [] = [] := rfl

theorem readBack_cons_same (src : String) (ns : String × Section) (t : Sections) :
    readBack src (profileOf ns.1) (ns :: t) =
      (baseOf ns.1, ns.2.map (fun ke => (ke.1, readEntry src (profileOf ns.1) ke.2))) :: readBack src (profileOf ns.1) t := by
  simp [readBack]

theorem readBack_cons_other (src : String) (p : Profile) (ns : String × Section) (t : Sections) (h : profileOf ns.1 ≠ p) :
    readBack src p (ns :: t) = readBack src p t := by
  simp [readBack, h]

theorem mem_readBack (src : String) (p : Profile) (secs : Sections) (x : String × Section) :
    x ∈ readBack src p secs ↔
      ∃ ns ∈ secs, profileOf ns.1 = p ∧ (baseOf ns.1, ns.2.map (fun ke => (ke.1, readEntry src p ke.2))) = x := by
  simp [readBack, and_assoc]

theorem readBack_append (src : String) (p : Profile) (a b : Sections) :
    readBack src p (a ++ b) = readBack src p a ++ readBack src p b := by
  simp [readBack, List.filter_append]

theorem base_notin (src : String) (L : Sections) (n : String) (h : n ∉ L.map (·.1)) :
    baseOf n ∉ (readBack src (profileOf n) L).map (·.1) := by
  intro hm
  obtain ⟨x, hx, hb⟩ := List.mem_map.1 hm
  obtain ⟨ns, hns, hp, rfl⟩ := (mem_readBack _ _ _ _).1 hx
  have : ns.1 = n := name_inj ns.1 n hb hp
  exact h (List.mem_map.2 ⟨ns, hns, this⟩)

/-- by induction over the sections with the invariant that each profile holds what was read back from the sections done: a
section's name is new for its profile (`base_notin`), so its entries are appended as one new section (`store_entries`) and
the other profiles are untouched -/
theorem store_file (src : String) (allowNew : Bool) (secs : Sections) :
    ∀ (done : Sections) (ps : List (Profile × Sections)),
      (∀ q, storeView ps q = readBack src q done) →
      ((done ++ secs).map (·.1)).Nodup →
      (∀ ns ∈ secs, ns.2 ≠ [] ∧ (ns.2.map (·.1)).Nodup) →
      ∀ q, storeView ((secs.flatMap (fun ns => ns.2.map (updOf src allowNew ns.1))).foldl
          (fun ps tu => putU ps tu.2) ps) q = readBack src q (done ++ secs) := by
  induction secs with
  | nil => intro done ps h _ _ q; simpa using h q
  | cons ns t ih =>
    intro done ps h hnd hs q
    obtain ⟨n, s⟩ := ns
    obtain ⟨hne, hk⟩ := hs (n, s) (by simp)
    simp only at hne hk
    have hnew : n ∉ done.map (·.1) := Lists.not_mem_of_nodup_append_cons (by simpa using hnd)
    have hb : baseOf n ∉ (storeView ps (profileOf n)).map (·.1) := by
      rw [h]; exact base_notin src done n hnew
    rw [List.flatMap_cons, List.foldl_append]
    -- the updates of this section
    have hfold : (s.map (updOf src allowNew n)).foldl (fun ps tu => putU ps tu.2) ps =
        s.foldl (fun ps ke => putE ps (profileOf n) (baseOf n) ke.1 (readEntry src (profileOf n) ke.2)) ps := by
      rw [List.foldl_map]; rfl
    have h1 := store_entries (profileOf n) (baseOf n) (readEntry src (profileOf n)) s ps hne
      (by rw [dget_eq_none _ _ hb]; simpa using hk)
    rw [dget_eq_none _ _ hb, dset_of_not_mem _ _ _ hb] at h1
    have hinv : ∀ q, storeView ((s.map (updOf src allowNew n)).foldl (fun ps tu => putU ps tu.2) ps) q =
        readBack src q (done ++ [(n, s)]) := by
      intro q
      rw [hfold, readBack_append]
      by_cases hq : q = profileOf n
      · subst hq
        rw [h1, h, show readBack src (profileOf n) [(n, s)] = _ from readBack_cons_same src (n, s) [], readBack_nil]
        simp
      · rw [storeView_fold_other _ _ hq, h, readBack_cons_other src q (n, s) [] fun e => hq e.symm, readBack_nil,
          List.append_nil]
    have := ih (done ++ [(n, s)]) _ hinv (by simpa using hnd) (fun x hx => hs x (List.mem_cons_of_mem _ hx)) q
    simpa using this

theorem readBack_nodup (src : String) (p : Profile) (secs : Sections) (h : (secs.map (·.1)).Nodup) :
    ((readBack src p secs).map (·.1)).Nodup := by
  induction secs with
  | nil => simp [readBack_nil]
  | cons ns t ih =>
    simp only [List.map_cons, List.nodup_cons] at h
    have ht := ih h.2
    by_cases hp : profileOf ns.1 = p
    · subst hp
      rw [readBack_cons_same, List.map_cons, List.nodup_cons]
      exact ⟨base_notin src t ns.1 h.1, ht⟩
    · rw [readBack_cons_other _ _ _ _ hp]; exact ht

theorem readBack_inner_nodup (src : String) (p : Profile) (secs : Sections)
    (h : ∀ ns ∈ secs, (ns.2.map (·.1)).Nodup) : ∀ ns ∈ readBack src p secs, (ns.2.map (·.1)).Nodup := by
  intro ns hns
  obtain ⟨ns', hm, _, rfl⟩ := (mem_readBack _ _ _ _).1 hns
  simp only [List.map_map]
  exact h ns' hm

end Midgard.Proofs.ConfigText
