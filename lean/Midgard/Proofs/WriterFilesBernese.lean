/-
C17 — the three Bernese files as instances of the file theorem `gft_file_records`: CRD (the record the parser holds for a written
station, `crd_record`; explicit bounds that put an input inside `crdInRange`, `crdEntryOk_of`), VEL (read by the library's CRD
parser: the first seven columns are the CRD columns, the plate column lies beyond the parser's `delimiter` widths) and CLU (whose
16-column cluster cell straddles two parser columns: that line is cut by hand); `header_tables` for the headers of all three.
-/
import Midgard.Proofs.WriterFiles

namespace Midgard.WriterFiles
open Midgard.Text Midgard.Decimal Midgard.FixedCol Midgard.WriterCells Midgard.Writers
open Midgard.Generated.WriterLayouts

/-- what `float` reads in a numeric cell printed with `p` decimals -/
def readBack (p : Nat) : Value → Option Rat
  | .num q => some (fixedValue q p)
  | .int i => some (i : Rat)
  | .negz => some 0
  | .nan => none
  | .str s => parseFloat s

theorem expectField_fix (w p : Nat) (a : Option Align) (v : Value) (h : v.okFor ⟨a, w, some p, .fix⟩ = true) :
    expectField .f8 (⟨a, w, some p, .fix⟩, v) = .f8 (readBack p v) := by
  cases v <;> simp [Value.okFor] at h <;> rfl

/-- the record the CRD parser holds for a written station -/
def crdRecord (e : XyzEntry) : List FieldVal :=
  [.f8 (some ((e.1 : Nat) : Rat)), .u (upper e.2.1.key), .u (e.2.1.domes.getD []),
   .f8 (readBack 5 e.2.2.1), .f8 (readBack 5 e.2.2.2.1), .f8 (readBack 5 e.2.2.2.2), .u ['A']]

/-- the CRD line of writers/bernese_crd.py, cell by cell (checked against the regenerated table) -/
theorem crd_row_is : rowOf "bernese_crd" =
    [.fld "number" ⟨some .right, 3, none, .any⟩, .lit "  ", .fld "station" ⟨none, 4, none, .any⟩, .lit " ",
     .fld "domes" ⟨none, 9, none, .any⟩, .lit " ", .fld "x" ⟨none, 16, some 5, .fix⟩, .lit " ",
     .fld "y" ⟨none, 14, some 5, .fix⟩, .lit " ", .fld "z" ⟨none, 14, some 5, .fix⟩, .lit " ",
     .fld "flag" ⟨some .right, 4, none, .any⟩, .lit "\n"] := by decide +kernel

theorem crd_dtypes : crdSpec.dtypes = [.f8, .u 4, .u 10, .f8, .f8, .f8, .u 1] := by decide +kernel

theorem crd_station_idx : crdSpec.names.idxOf "station" = 1 := by decide +kernel

theorem crd_envValues (e : XyzEntry) : envValues (rowOf "bernese_crd") (crdEnv e) = some (crdVals e) := by
  rw [crd_row_is]
  rfl

theorem crd_record (e : XyzEntry) (hfit : allFit (rowOf "bernese_crd") (crdVals e) = true) :
    List.zipWith expectField crdSpec.dtypes (cellValues (rowOf "bernese_crd") (crdVals e)) = crdRecord e := by
  rw [crd_row_is] at hfit ⊢
  rw [crd_dtypes]
  simp only [crdVals, allFit, fitsCell, Bool.and_eq_true, Value.text] at hfit
  obtain ⟨_, ⟨⟨_, hk⟩, ⟨⟨_, hd⟩, ⟨⟨hx, _⟩, ⟨⟨hy, _⟩, ⟨⟨hz, _⟩, _⟩⟩⟩⟩⟩⟩ := hfit
  simp only [crdVals, cellValues, List.zipWith_cons_cons, List.zipWith_nil_right, crdRecord]
  rw [expectField_fix 16 5 none _ hx, expectField_fix 14 5 none _ hy, expectField_fix 14 5 none _ hz]
  simp only [expectField, Value.text]
  have hk' := of_decide_eq_true hk
  have hd' := of_decide_eq_true hd
  rw [List.take_of_length_le hk', List.take_of_length_le (by omega : (e.2.1.domes.getD []).length ≤ 10)]
  simp

theorem crdInRange_iff (texts : List Str) (wn : Bool) (sts : List Station) : crdInRange texts wn sts = true ↔
    (∃ hdr, headerText "bernese_crd" texts = some hdr ∧ headerOk crdSpec hdr = true) ∧
      ∀ e ∈ xyzEntries wn sts, crdEntryOk e = true := by
  rw [crdInRange, Bool.and_eq_true, List.all_eq_true]
  cases headerText "bernese_crd" texts <;>
    simp only [Bool.false_eq_true, false_and, reduceCtorEq, exists_false, Option.some.injEq, exists_eq_left']

theorem plain_numChar {c : Char} (h : isDigit c = true ∨ c = '-' ∨ c = '.') : plainFor '#' c = true := by
  rcases h with h | rfl | rfl
  · simp only [plainFor, Bool.and_eq_true, bne_iff_ne, ne_eq]
    refine ⟨⟨?_, ?_⟩, ?_⟩ <;> (intro e; subst e; revert h; decide)
  · decide
  · decide

/-- a coordinate of the property's domain: a number up to ±9 999 999.9999, NaN, or the double `-0.0` -/
def coordOk : Value → Prop
  | .num q => -(99999999999 / 10000 : Rat) ≤ q ∧ q ≤ 99999999999 / 10000
  | .nan => True
  | .negz => True
  | _ => False

theorem coord_cell_ok (v : Value) (h : coordOk v) (w : Nat) (hw : w = 14 ∨ w = 16) :
    (v.okFor ⟨none, w, some 5, .fix⟩ && fitsCell ⟨none, w, some 5, .fix⟩ v) = true ∧
    Clean (v.text ⟨none, w, some 5, .fix⟩) = true ∧ (v.text ⟨none, w, some 5, .fix⟩).all (plainFor '#') = true := by
  cases v with
  | num q =>
    obtain ⟨_, h14, h16⟩ := coordinate_fits q h.1 h.2
    refine ⟨?_, clean_fmtFixedCore q 5, List.all_eq_true.mpr fun c hc => plain_numChar ((fmtFixedCore_chars q 5).1 c hc)⟩
    rcases hw with rfl | rfl
    · simpa [Value.okFor] using h14
    · simpa [Value.okFor] using h16
  | nan => rcases hw with rfl | rfl <;> decide +kernel
  | negz => rcases hw with rfl | rfl <;> decide +kernel
  | str s => exact absurd h (by simp [coordOk])
  | int i => exact absurd h (by simp [coordOk])

/-- a text cell of the property's domain: at most `w` characters, no outer blanks, no `#`, no line break -/
def textOk (w : Nat) (s : Str) : Prop := s.length ≤ w ∧ Clean s = true ∧ s.all (plainFor '#') = true

theorem number_cell_ok (n : Nat) (h : n ≤ 999) :
    fitsCell ⟨some .right, 3, none, .any⟩ (.int (n : Nat)) = true ∧
    Clean (Value.text ⟨some .right, 3, none, .any⟩ (.int (n : Nat))) = true ∧
    (Value.text ⟨some .right, 3, none, .any⟩ (.int (n : Nat))).all (plainFor '#') = true := by
  refine ⟨?_, clean_of_no_space (no_space_fmtInt _), List.all_eq_true.mpr fun c hc => plain_numChar ((fmtInt_chars _).1 c hc)⟩
  unfold fitsCell
  apply decide_eq_true
  show (fmtInt (n : Int)).length ≤ 3
  rw [length_fmtInt]
  have hneg : ¬ ((n : Int) < 0) := by omega
  simp only [hneg, if_false, Nat.zero_add, Int.natAbs_natCast]
  exact (length_natDigits_le_iff 3 n (by decide)).mpr (by omega)

theorem fits_str (a : Option Align) (w : Nat) (s : Str) (h : s.length ≤ w) : fitsCell ⟨a, w, none, .any⟩ (.str s) = true :=
  decide_eq_true h

theorem crdEntryOk_of (e : XyzEntry) (hn : e.1 ≤ 999) (hk : textOk 4 (upper e.2.1.key)) (hne : upper e.2.1.key ≠ [])
    (hd : textOk 9 (e.2.1.domes.getD [])) (hx : coordOk e.2.2.1) (hy : coordOk e.2.2.2.1) (hz : coordOk e.2.2.2.2) :
    crdEntryOk e = true := by
  obtain ⟨n1, n2, n3⟩ := number_cell_ok e.1 hn
  obtain ⟨x1, x2, x3⟩ := coord_cell_ok _ hx 16 (Or.inr rfl)
  obtain ⟨y1, y2, y3⟩ := coord_cell_ok _ hy 14 (Or.inl rfl)
  obtain ⟨z1, z2, z3⟩ := coord_cell_ok _ hz 14 (Or.inl rfl)
  simp only [Bool.and_eq_true] at x1 y1 z1
  have hA : Clean ['A'] = true ∧ ['A'].all (plainFor '#') = true := by decide +kernel
  have hcm : crdSpec.comment = '#' := by decide +kernel
  simp only [crdEntryOk, valsOk, Bool.and_eq_true, Bool.not_eq_true', List.isEmpty_eq_false_iff]
  rw [crd_row_is, hcm]
  refine ⟨⟨⟨?_, ?_⟩, ?_⟩, hne⟩
  · simp only [crdVals, allFit, Bool.and_eq_true]
    exact ⟨⟨rfl, n1⟩, ⟨rfl, fits_str _ _ _ hk.1⟩, ⟨rfl, fits_str _ _ _ hd.1⟩, x1, y1, z1, ⟨rfl, by decide⟩, trivial⟩
  · simp only [crdVals, allClean, Bool.and_eq_true, Value.text]
    exact ⟨n2, hk.2.1, hd.2.1, x2, y2, z2, hA.1, trivial⟩
  · simp only [crdVals, textsAll, Bool.and_eq_true, Value.text]
    exact ⟨n3, hk.2.2, hd.2.2, x3, y3, z3, hA.2, trivial⟩

theorem mem_xyzEntries (wn : Bool) (sts : List Station) (e : XyzEntry) (h : e ∈ xyzEntries wn sts) :
    e.2.1 ∈ sts ∧ e.1 ≤ sts.length ∧ e.2.1.xyz = some (e.2.2.1, e.2.2.2.1, e.2.2.2.2) := by
  simp only [xyzEntries, List.mem_filterMap] at h
  obtain ⟨p, hp, hpe⟩ := h
  simp only [sortedStations, enumerate, List.mem_map] at hp
  obtain ⟨⟨st, i⟩, hsi, rfl⟩ := hp
  have hget := List.mem_zipIdx_iff_getElem?.mp hsi
  simp only at hget
  obtain ⟨hi, _⟩ := List.getElem?_eq_some_iff.mp hget
  have hmem : st ∈ sts := (sortBy_perm _ _).mem_iff.mp (List.mem_of_getElem? hget)
  rw [(sortBy_perm _ _).length_eq] at hi
  simp only at hpe
  cases hx : st.xyz with
  | none => simp [hx] at hpe
  | some t =>
    obtain ⟨x, y, z⟩ := t
    simp only [hx] at hpe
    split at hpe
    · simp at hpe
    · simp only [Option.some.injEq] at hpe
      subst hpe
      exact ⟨hmem, Nat.succ_le_of_lt hi, hx⟩

/-- The table lookup is done by `simp` and every literal is turned into its characters before the kernel evaluates the check:
decoding a string literal in the kernel is quadratic in its length.  (VEL is read by the CRD parser.) -/
theorem header_tables : headerMatches crdSpec (headerOf "bernese_crd") = true ∧
    headerMatches crdSpec (headerOf "bernese_vel") = true ∧ headerMatches cluSpec (headerOf "bernese_clu") = true := by
  simp only [headerOf, headers, List.find?, String.reduceEq, decide_false, decide_true, headerMatches, litText, tailLitFrom]
  repeat rw [String.toList_ofList]
  decide +kernel

theorem vel_row_is : rowOf "bernese_vel" =
    [.fld "number" ⟨some .right, 3, none, .any⟩, .lit "  ", .fld "station" ⟨none, 4, none, .any⟩, .lit " ",
     .fld "domes" ⟨none, 9, none, .any⟩, .lit " ", .fld "x" ⟨none, 16, some 5, .fix⟩, .lit " ",
     .fld "y" ⟨none, 14, some 5, .fix⟩, .lit " ", .fld "z" ⟨none, 14, some 5, .fix⟩, .lit " ",
     .fld "flag" ⟨some .right, 4, none, .any⟩, .lit " ", .fld "plate" ⟨some .right, 7, none, .any⟩, .lit "\n"] := by
  decide +kernel

theorem vel_envValues (e : XyzEntry) (plate : Str) :
    envValues (rowOf "bernese_vel") (crdEnv e ++ [("plate", .str plate)]) = some (velVals e plate) := by
  rw [vel_row_is]
  rfl

theorem vel_record (e : XyzEntry) (plate : Str) (h : allFit (rowOf "bernese_vel") (velVals e plate) = true) :
    List.zipWith expectField crdSpec.dtypes ((cellValues (rowOf "bernese_vel") (velVals e plate)).take 7) = crdRecord e := by
  have hfit : allFit (rowOf "bernese_crd") (crdVals e) = true := by
    rw [vel_row_is] at h
    rw [crd_row_is]
    simp only [velVals, crdVals, List.cons_append, List.nil_append, allFit, Bool.and_eq_true] at h ⊢
    obtain ⟨a, b, c, d, f, g, i, _⟩ := h
    exact ⟨a, b, c, d, f, g, i, trivial⟩
  rw [← crd_record e hfit, vel_row_is, crd_row_is]
  rfl

theorem vel_tables : (segWidthsFrom 0 (rowOf "bernese_vel")).take 7 = crdSpec.widths ∧
    leadSpacesFrom [] (rowOf "bernese_vel") = true ∧ tailLitFrom [] (rowOf "bernese_vel") = ['\n'] ∧
    crdSpec.comment ≠ ' ' ∧ crdSpec.comment ≠ '\n' ∧ crdSpec.autostrip = true := by decide +kernel

theorem velInRange_iff (texts : List Str) (wn : Bool) (sts : List Station) : velInRange texts wn sts = true ↔
    (∃ hdr, headerText "bernese_vel" texts = some hdr ∧ headerOk crdSpec hdr = true) ∧
      ∀ e ∈ xyzEntries wn sts, velEntryOk e = true := by
  rw [velInRange, Bool.and_eq_true, List.all_eq_true]
  cases headerText "bernese_vel" texts <;>
    simp only [Bool.false_eq_true, false_and, reduceCtorEq, exists_false, Option.some.injEq, exists_eq_left']

def cluRecord (k : Str) : List FieldVal := [.u (upper k), .u [], .f8 (some 1)]

theorem clu_row_is : rowOf "bernese_clu" =
    [.fld "station" ⟨none, 4, none, .any⟩, .lit " ", .fld "cluster" ⟨none, 16, none, .any⟩, .lit "\n"] := by
  decide +kernel

/-- the CLU line, cut by hand.  Behind the 4-column station cell stand 17 characters `"                1"`: the separator blank
and the cluster cell `{:16}` of the integer 1; the parser's widths `[4, 10, 7]` cut them into 10 blanks (the empty `domes`
column) and the 7 columns that hold the `1` -/
theorem clu_line (k : Str) (h : cluKeyOk k = true) :
    ∃ body, renderNamed (rowOf "bernese_clu") [("station", .str (upper k)), ("cluster", .int 1)] = some (body ++ ['\n']) ∧
      (∀ c ∈ body, c ≠ '\n') ∧ (∀ c ∈ body, c ≠ '\r') ∧
      gftRow cluSpec (body ++ ['\n']) = some [upper k, [], ['1']] := by
  simp only [cluKeyOk, Bool.and_eq_true, decide_eq_true_eq] at h
  obtain ⟨⟨⟨hlen, hclean⟩, hplain⟩, _⟩ := h
  have hl4 : (ljust 4 (upper k)).length = 4 := length_ljust hlen
  have hbody : ∀ c ∈ ljust 4 (upper k) ++ "                1".toList, c ≠ '#' ∧ c ≠ '\n' ∧ c ≠ '\r' := by
    intro c hc
    refine plainFor_iff.mp ?_
    rcases List.mem_append.mp hc with h | h
    · exact List.all_eq_true.mp (all_pad (plainFor '#') (by decide) .left 4 _ hplain) c h
    · exact List.all_eq_true.mp (by decide +kernel : "                1".toList.all (plainFor '#') = true) c h
  refine ⟨ljust 4 (upper k) ++ "                1".toList, ?_, fun c hc => (hbody c hc).2.1, fun c hc => (hbody c hc).2.2, ?_⟩
  · rw [clu_row_is]
    simp [renderNamed, List.lookup, Value.okFor, fmtValue, Value.text, Value.defaultAlign, pad]
    decide +kernel
  · have hcm : cluSpec.comment = '#' := by decide +kernel
    have hwd : cluSpec.widths = [4, 10, 7] := by decide +kernel
    have hau : cluSpec.autostrip = true := by decide +kernel
    have hnc : ∀ c ∈ ljust 4 (upper k) ++ "                1".toList ++ ['\n'], (decide (c ≠ cluSpec.comment)) = true := by
      rw [hcm]
      intro c hc
      rcases List.mem_append.mp hc with h | h
      · simpa using (hbody c h).1
      · simp at h; subst h; decide
    unfold gftRow
    simp only [takeWhile_eq_self _ _ hnc, hau, hwd, if_true]
    rw [if_neg (by simp)]
    simp only [cutWidths, List.append_assoc, Option.some.injEq, List.map_cons, List.map_nil]
    rw [List.take_left' hl4, List.drop_left' hl4]
    have e1 : strip (List.take 10 ("                1".toList ++ ['\n'])) = [] := by decide +kernel
    have e2 : strip (List.take 7 (List.drop 10 ("                1".toList ++ ['\n']))) = ['1'] := by decide +kernel
    rw [e1, e2, strip_ljust hclean]

theorem clu_convert (k : Str) (h : cluKeyOk k = true) : convertRow cluSpec.dtypes [upper k, [], ['1']] = cluRecord k := by
  simp only [cluKeyOk, Bool.and_eq_true, decide_eq_true_eq] at h
  have hd : cluSpec.dtypes = [.u 4, .u 9, .f8] := by decide +kernel
  have h1 : parseFloat ['1'] = some 1 := by decide +kernel
  rw [hd]
  simp [convertRow, convert, cluRecord, List.take_of_length_le h.1.1.1, h1]

theorem cluInRange_iff (texts keys : List Str) : cluInRange texts keys = true ↔
    (∃ hdr, headerText "bernese_clu" texts = some hdr ∧ headerOk cluSpec hdr = true) ∧ ∀ k ∈ keys, cluKeyOk k = true := by
  rw [cluInRange, Bool.and_eq_true, List.all_eq_true]
  cases headerText "bernese_clu" texts <;>
    simp only [Bool.false_eq_true, false_and, reduceCtorEq, exists_false, Option.some.injEq, exists_eq_left']

end Midgard.WriterFiles
