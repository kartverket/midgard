/-
C20 — not-a-knot cubic spline (specification of SciPy's interp1d(cubic) and InterpolatedUnivariateSpline(k=3)).  The
defining equations `NakEqs` are linear and a cubic solves them with its own second derivative; reduced by the two
not-a-knot conditions the system is strictly diagonally dominant, so the moments are determined by the data
(`nakEqs_ext`), and the spline of a column is the piece of any solution (`nakAt_eq`): linear in the data, exact on cubics.
The model accepts the result of its elimination only when it satisfies `NakEqs`; that it always succeeds is not proved.
-/
import Midgard.Proofs.C20Linear
import Mathlib.Tactic.Ring
import Mathlib.Tactic.FieldSimp
import Mathlib.Tactic.LinearCombination
import Mathlib.Tactic.Linarith
import Mathlib.Data.Finset.Max
import Mathlib.Algebra.Order.Ring.Abs
import Mathlib.Order.Interval.Finset.Nat

namespace Midgard.Proofs.C20
open Midgard.Numeric

theorem pieceEval_left (x0 x1 y0 y1 m0 m1 : ℚ) (h : x1 ≠ x0) : pieceEval x0 x1 y0 y1 m0 m1 x0 = y0 := by
  have h' : x1 - x0 ≠ 0 := sub_ne_zero.mpr h
  unfold pieceEval
  field_simp
  ring

theorem pieceEval_right (x0 x1 y0 y1 m0 m1 : ℚ) (h : x1 ≠ x0) : pieceEval x0 x1 y0 y1 m0 m1 x1 = y1 := by
  have h' : x1 - x0 ≠ 0 := sub_ne_zero.mpr h
  unfold pieceEval
  field_simp
  ring

theorem pieceEval_linear (x0 x1 y0 y1 m0 m1 y0' y1' m0' m1' a b x : ℚ) :
    pieceEval x0 x1 (a * y0 + b * y0') (a * y1 + b * y1') (a * m0 + b * m0') (a * m1 + b * m1') x
      = a * pieceEval x0 x1 y0 y1 m0 m1 x + b * pieceEval x0 x1 y0' y1' m0' m1' x := by
  unfold pieceEval
  ring

theorem nakEqs_linear (n : ℕ) (x y₁ y₂ m₁ m₂ : ℕ → ℚ) (a b : ℚ)
    (h₁ : NakEqs n x y₁ m₁) (h₂ : NakEqs n x y₂ m₂) :
    NakEqs n x (fun i => a * y₁ i + b * y₂ i) (fun i => a * m₁ i + b * m₂ i) := by
  obtain ⟨e₁, f₁, g₁⟩ := h₁
  obtain ⟨e₂, f₂, g₂⟩ := h₂
  refine ⟨?_, ?_, ?_⟩
  · intro i hi h1 h2
    have p := e₁ i hi h1 h2
    have q := e₂ i hi h1 h2
    simp only
    linear_combination a * p + b * q
  · simp only; linear_combination a * f₁ + b * f₂
  · simp only; linear_combination a * g₁ + b * g₂

/-- a cubic polynomial `c₀ + c₁t + c₂t² + c₃t³` -/
def cubicAt (c0 c1 c2 c3 t : ℚ) : ℚ := c0 + c1 * t + c2 * t * t + c3 * t * t * t
/-- its second derivative -/
def cubicDD (c2 c3 t : ℚ) : ℚ := 2 * c2 + 6 * c3 * t

theorem nakEqs_cubic (n : ℕ) (x : ℕ → ℚ) (c0 c1 c2 c3 : ℚ) (hx : ∀ i, i + 1 < n → x (i + 1) ≠ x i) :
    NakEqs n x (fun i => cubicAt c0 c1 c2 c3 (x i)) (fun i => cubicDD c2 c3 (x i)) := by
  refine ⟨?_, ?_, ?_⟩
  · intro i hi h1 h2
    have ha : x (i + 1) - x i ≠ 0 := sub_ne_zero.mpr (hx i h2)
    have hb : x i - x (i - 1) ≠ 0 := by
      have := hx (i - 1) (by omega)
      rw [Nat.sub_add_cancel h1] at this
      exact sub_ne_zero.mpr this
    simp only [cubicAt, cubicDD]
    field_simp
    ring
  · simp only [cubicDD]; ring
  · simp only [cubicDD]; ring

theorem pieceEval_cubic (x0 x1 c0 c1 c2 c3 t : ℚ) (h : x1 ≠ x0) :
    pieceEval x0 x1 (cubicAt c0 c1 c2 c3 x0) (cubicAt c0 c1 c2 c3 x1) (cubicDD c2 c3 x0) (cubicDD c2 c3 x1) t
      = cubicAt c0 c1 c2 c3 t := by
  have h' : x1 - x0 ≠ 0 := sub_ne_zero.mpr h
  unfold pieceEval cubicAt cubicDD
  field_simp
  ring

theorem nakAt_seg (sx col ms : List ℚ) (x : ℚ) : nakAt sx col ms x =
    pieceEval (sx.getD (seg sx x - 1) 0) (sx.getD (seg sx x) 0) (col.getD (seg sx x - 1) 0) (col.getD (seg sx x) 0)
      (ms.getD (seg sx x - 1) 0) (ms.getD (seg sx x) 0) x := rfl

theorem nakAt_node (xs ys ms : List ℚ) (k : ℕ) (hp : xs.Pairwise (· < ·)) (hn : 2 ≤ xs.length) (hk : k < xs.length) :
    nakAt xs ys ms (xs.getD k 0) = ys.getD k 0 := by
  rw [nakAt_seg, seg_node xs k hp hn hk]
  split
  · subst k
    exact pieceEval_left _ _ _ _ _ _ (ne_of_gt (getD_mem_lt xs hp 0 1 (by omega) (by omega)))
  · exact pieceEval_right _ _ _ _ _ _ (ne_of_gt (getD_mem_lt xs hp (k - 1) k (by omega) hk))

/-- one row `D·u + r = 0` whose diagonal entry dominates the rest -/
theorem dominant_zero (u r D E : ℚ) (h : D * u + r = 0) (hD : 0 < D) (hE : E < D) (hr : |r| ≤ E * |u|) : u = 0 := by
  have e : D * |u| = |r| := by rw [← abs_of_pos hD, ← abs_mul, eq_neg_of_add_eq_zero_left h, abs_neg]
  have : (D - E) * |u| ≤ 0 := by linarith
  exact abs_nonpos_iff.mp (nonpos_of_mul_nonpos_right this (sub_pos.mpr hE))

/-- an interior row, `u` of largest modulus among its neighbours -/
theorem interior_row_zero (u v w a b : ℚ) (h : a * v + 2 * (a + b) * u + b * w = 0) (ha : 0 < a) (hb : 0 < b)
    (hv : |v| ≤ |u|) (hw : |w| ≤ |u|) : u = 0 := by
  refine dominant_zero u (a * v + b * w) (2 * (a + b)) (a + b) (by linarith) (by linarith) (by linarith) ?_
  calc |a * v + b * w| ≤ |a * v| + |b * w| := abs_add_le _ _
    _ = a * |v| + b * |w| := by rw [abs_mul, abs_mul, abs_of_pos ha, abs_of_pos hb]
    _ ≤ a * |u| + b * |u| := add_le_add (mul_le_mul_of_nonneg_left hv ha.le) (mul_le_mul_of_nonneg_left hw hb.le)
    _ = (a + b) * |u| := (add_mul _ _ _).symm

/-- the row next to an end: the not-a-knot condition `hk` eliminates the end moment `v`, and the reduced row
`(a + 2b)·u + (b − a)·w = 0` is still dominated by `u` -/
theorem end_row_zero (u v w a b : ℚ) (h : a * v + 2 * (a + b) * u + b * w = 0) (hk : (u - v) * b = (w - u) * a)
    (ha : 0 < a) (hb : 0 < b) (hw : |w| ≤ |u|) : u = 0 := by
  have e : (a + b) * ((a + 2 * b) * u + (b - a) * w) = 0 := by linear_combination b * h + a * hk
  refine dominant_zero u ((b - a) * w) (a + 2 * b) |b - a| ((mul_eq_zero.mp e).resolve_left (by linarith))
    (by linarith) (abs_lt.mpr ⟨by linarith, by linarith⟩) ?_
  rw [abs_mul]
  exact mul_le_mul_of_nonneg_left hw (abs_nonneg _)

theorem all_zero_of_max_zero (s : Finset ℕ) (m : ℕ → ℚ)
    (h : ∀ p ∈ s, (∀ i ∈ s, |m i| ≤ |m p|) → m p = 0) : ∀ i ∈ s, m i = 0 := by
  intro i hi
  obtain ⟨p, hp, hmax⟩ := Finset.exists_max_image s (fun i => |m i|) ⟨i, hi⟩
  have := hmax i hi
  rw [h p hp hmax, abs_zero] at this
  exact abs_nonpos_iff.mp this

theorem nakEqs_zero (k : ℕ) (x y m : ℕ → ℚ) (hx : ∀ i, i + 1 < k + 4 → x i < x (i + 1))
    (hy : ∀ i, i < k + 4 → y i = 0) (h : NakEqs (k + 4) x y m) : ∀ i, i < k + 4 → m i = 0 := by
  obtain ⟨hE, hF, hG⟩ := h
  -- `NakEqs (k + 4)` states the last condition with `k + 4 - 2`, `k + 4 - 3`: the same with the subtractions evaluated
  replace hG : (m (k + 2) - m (k + 1)) * (x (k + 3) - x (k + 2)) = (m (k + 3) - m (k + 2)) * (x (k + 2) - x (k + 1)) := hG
  have pos : ∀ i, i < k + 3 → 0 < x (i + 1) - x i := fun i hi => sub_pos.mpr (hx i (Nat.add_lt_add_right hi 1))
  have E : ∀ i, i < k + 2 → (x (i + 1) - x i) * m i
      + 2 * ((x (i + 1) - x i) + (x (i + 2) - x (i + 1))) * m (i + 1) + (x (i + 2) - x (i + 1)) * m (i + 2) = 0 := by
    intro i hi
    have := hE (i + 1) (by omega) (by omega) (by omega)
    simp only [Nat.add_sub_cancel, hy (i + 2) (by omega), hy (i + 1) (by omega), hy i (by omega), sub_self, zero_div,
      mul_zero] at this
    linear_combination this
  -- the moments 1 … k+2: one of largest modulus sits in a dominated row
  have hin : ∀ i ∈ Finset.Icc 1 (k + 2), m i = 0 := by
    apply all_zero_of_max_zero
    intro p hp hmax
    rw [Finset.mem_Icc] at hp
    have le : ∀ i, 1 ≤ i → i ≤ k + 2 → |m i| ≤ |m p| := fun i h1 h2 => hmax i (Finset.mem_Icc.mpr ⟨h1, h2⟩)
    rcases Nat.eq_or_lt_of_le hp.1 with rfl | h1
    · exact end_row_zero _ (m 0) (m 2) _ _ (E 0 (by omega)) (by linear_combination hF) (pos 0 (by omega))
        (pos 1 (by omega)) (le 2 (by omega) (by omega))
    rcases Nat.eq_or_lt_of_le hp.2 with rfl | h2
    · have e : (x (k + 2) - x (k + 1)) * m (k + 1) + 2 * ((x (k + 2) - x (k + 1)) + (x (k + 3) - x (k + 2))) * m (k + 2)
          + (x (k + 3) - x (k + 2)) * m (k + 3) = 0 := E (k + 1) (by omega)
      exact end_row_zero _ (m (k + 3)) (m (k + 1)) (x (k + 3) - x (k + 2)) (x (k + 2) - x (k + 1)) (by linear_combination e) (by linear_combination hG)
        (pos (k + 2) (by omega)) (pos (k + 1) (by omega)) (le (k + 1) (by omega) (by omega))
    · obtain ⟨q, rfl⟩ : ∃ q, p = q + 1 := ⟨p - 1, by omega⟩
      exact interior_row_zero _ (m q) (m (q + 2)) _ _ (E q (by omega)) (pos q (by omega)) (pos (q + 1) (by omega))
        (le q (by omega) (by omega)) (le (q + 2) (by omega) (by omega))
  have z : ∀ i, 1 ≤ i → i ≤ k + 2 → m i = 0 := fun i h1 h2 => hin i (Finset.mem_Icc.mpr ⟨h1, h2⟩)
  -- the two end moments follow from the not-a-knot conditions
  rw [z 1 le_rfl (by omega), z 2 (by omega) (by omega)] at hF
  rw [z (k + 1) (by omega) (by omega), z (k + 2) (by omega) le_rfl] at hG
  intro i hi
  rcases Nat.eq_zero_or_pos i with rfl | h1
  · have : m 0 * (x 2 - x 1) = 0 := by linear_combination -hF
    exact (mul_eq_zero.mp this).resolve_right (pos 1 (by omega)).ne'
  rcases Nat.lt_or_ge i (k + 3) with h2 | h2
  · exact z i h1 (by omega)
  · obtain rfl : i = k + 3 := by omega
    have : m (k + 3) * (x (k + 2) - x (k + 1)) = 0 := by linear_combination -hG
    exact (mul_eq_zero.mp this).resolve_right (pos (k + 1) (by omega)).ne'

theorem nakEqs_ext (n : ℕ) (x y y' m m' : ℕ → ℚ) (hn : 4 ≤ n) (hx : ∀ i, i + 1 < n → x i < x (i + 1))
    (hy : ∀ i, i < n → y i = y' i) (h : NakEqs n x y m) (h' : NakEqs n x y' m') : ∀ i, i < n → m i = m' i := by
  obtain ⟨k, rfl⟩ : ∃ k, n = k + 4 := ⟨n - 4, by omega⟩
  intro i hi
  linarith [nakEqs_zero k x _ _ hx (fun i hi => by rw [hy i hi]; ring) (nakEqs_linear _ x y y' m m' 1 (-1) h h') i hi]

theorem nakMoments_spec (sx col ms : List ℚ) (h : nakMoments sx col = some ms) :
    NakEqs sx.length (fun i => sx.getD i 0) (fun i => col.getD i 0) (fun i => ms.getD i 0) := by
  unfold nakMoments at h
  split at h
  · exact absurd h (by simp)
  · split at h
    · rename_i hq
      injection h with h
      rw [← h]; exact hq
    · exact absurd h (by simp)

theorem nakAt_eq (sx col ms : List ℚ) (hp : sx.Pairwise (· < ·)) (hn : 4 ≤ sx.length)
    (hms : NakEqs sx.length (fun i => sx.getD i 0) (fun i => col.getD i 0) (fun i => ms.getD i 0)) (y m : ℕ → ℚ)
    (hy : ∀ k, k < sx.length → col.getD k 0 = y k) (h : NakEqs sx.length (fun i => sx.getD i 0) y m) (x : ℚ) :
    nakAt sx col ms x = pieceEval (sx.getD (seg sx x - 1) 0) (sx.getD (seg sx x) 0) (y (seg sx x - 1)) (y (seg sx x))
      (m (seg sx x - 1)) (m (seg sx x)) x := by
  have huniq := nakEqs_ext sx.length _ _ _ _ _ hn (fun i hi => getD_mem_lt sx hp i (i + 1) (by omega) hi) hy hms h
  have i2 := seg_lt sx x (by omega)
  rw [nakAt_seg, huniq (seg sx x - 1) (by omega), huniq _ i2, hy (seg sx x - 1) (by omega), hy _ i2]

theorem nakAt_cubic (sx col ms : List ℚ) (hp : sx.Pairwise (· < ·)) (hn : 4 ≤ sx.length)
    (hms : NakEqs sx.length (fun i => sx.getD i 0) (fun i => col.getD i 0) (fun i => ms.getD i 0)) (c0 c1 c2 c3 : ℚ)
    (hdata : ∀ k, k < sx.length → col.getD k 0 = cubicAt c0 c1 c2 c3 (sx.getD k 0)) (x : ℚ) :
    nakAt sx col ms x = cubicAt c0 c1 c2 c3 x := by
  have hne : ∀ i, i + 1 < sx.length → sx.getD (i + 1) 0 ≠ sx.getD i 0 := fun i hi =>
    (getD_mem_lt sx hp i (i + 1) (by omega) hi).ne'
  rw [nakAt_eq sx col ms hp hn hms _ _ hdata (nakEqs_cubic sx.length _ c0 c1 c2 c3 hne)]
  have := hne (seg sx x - 1) (by have := seg_lt sx x (by omega); have := seg_pos sx x; omega)
  rw [Nat.sub_add_cancel (seg_pos sx x)] at this
  exact pieceEval_cubic _ _ c0 c1 c2 c3 _ this

theorem nakAt_linear (sx col₁ col₂ col₃ m₁ m₂ m₃ : List ℚ) (hp : sx.Pairwise (· < ·)) (hn : 4 ≤ sx.length)
    (q₁ : NakEqs sx.length (fun i => sx.getD i 0) (fun i => col₁.getD i 0) (fun i => m₁.getD i 0))
    (q₂ : NakEqs sx.length (fun i => sx.getD i 0) (fun i => col₂.getD i 0) (fun i => m₂.getD i 0))
    (q₃ : NakEqs sx.length (fun i => sx.getD i 0) (fun i => col₃.getD i 0) (fun i => m₃.getD i 0)) (a b : ℚ)
    (hcol : ∀ k, k < sx.length → col₃.getD k 0 = a * col₁.getD k 0 + b * col₂.getD k 0) (x : ℚ) :
    nakAt sx col₃ m₃ x = a * nakAt sx col₁ m₁ x + b * nakAt sx col₂ m₂ x := by
  rw [nakAt_eq sx col₃ m₃ hp hn q₃ _ _ hcol (nakEqs_linear _ _ _ _ _ _ a b q₁ q₂), nakAt_seg, nakAt_seg]
  exact pieceEval_linear _ _ _ _ _ _ _ _ _ _ a b _

/-- cubic pieces whose moments satisfy the defining equations, on at least four strictly increasing abscissae -/
def nakR : Scheme := fun sx col x v =>
  sx.Pairwise (· < ·) ∧ 4 ≤ sx.length ∧
    ∃ ms, NakEqs sx.length (fun i => sx.getD i 0) (fun i => col.getD i 0) (fun i => ms.getD i 0) ∧ v = nakAt sx col ms x

theorem nakR_nodes : nakR.Nodes := by
  rintro sx col k v hp hk ⟨_, h4, ms, _, rfl⟩
  exact nakAt_node sx col ms k hp (by omega) hk

theorem nakR_exact (c0 c1 c2 c3 : ℚ) : nakR.Exact (cubicAt c0 c1 c2 c3) := by
  rintro sx col x v hp hdata ⟨_, h4, ms, hms, rfl⟩
  exact nakAt_cubic sx col ms hp h4 hms c0 c1 c2 c3 hdata x

theorem nakR_linear : nakR.Linear := by
  rintro sx c₁ c₂ c₃ a b x v₁ v₂ v₃ hcomb ⟨hp, h4, m₁, q₁, rfl⟩ ⟨_, _, m₂, q₂, rfl⟩ ⟨_, _, m₃, q₃, rfl⟩
  exact nakAt_linear sx c₁ c₂ c₃ m₁ m₂ m₃ hp h4 q₁ q₂ q₃ a b hcomb x

theorem nakSpline_returns {xs : List ℚ} {rows : List (List ℚ)} {dim : ℕ} {xnew : List ℚ} {out : List (List ℚ)}
    (h : nakSpline xs rows dim xnew = .ok out) :
    rows.length = xs.length ∧ Ascending xs false ∧ Returns nakR xs rows false dim xnew out := by
  unfold nakSpline at h
  obtain ⟨hshape, h⟩ := of_guard_ok h
  obtain ⟨hshort, h⟩ := of_guard_ok h
  obtain ⟨hinc, h⟩ := of_guard_ok h
  -- the two bounds checks
  obtain ⟨-, h⟩ := of_guard_ok h
  obtain ⟨-, h⟩ := of_guard_ok h
  obtain ⟨hsolver, h⟩ := of_guard_ok h
  have hl : rows.length = xs.length := by simpa using hshape
  have hinc : strictInc ((sortedPairs xs rows false).map (·.1)) = true := by simpa [sortedPairs] using hinc
  rw [← Except.ok.inj h]
  refine ⟨hl, ascending_of_strictInc hl hinc, Returns.of_map xnew _ hl (by simp) fun x c hc => ?_⟩
  -- the moments of column `c` passed the check of `nakMoments`
  simp only [List.any_eq_true, not_exists, not_and, List.mem_map, List.mem_range] at hsolver
  have hsome := hsolver _ ⟨c, hc, rfl⟩
  rw [Option.isNone_iff_eq_none, ← ne_eq, Option.ne_none_iff_exists'] at hsome
  obtain ⟨ms, hms⟩ := hsome
  refine ⟨strictInc_pairwise _ hinc, by simp [sortedPairs_length xs rows false hl]; omega, ms,
    nakMoments_spec _ _ _ hms, ?_⟩
  rw [List.map_map, Lists.getD_map_range dim c hc]
  simp only [Function.comp, hms, Option.getD_some]
  rfl

theorem nakSpline_computes (xs : List ℚ) (rows : List (List ℚ)) (dim : ℕ) :
    Computes (nakSpline xs rows dim) nakR xs rows false dim :=
  fun _ _ h => (nakSpline_returns h).2

end Midgard.Proofs.C20
