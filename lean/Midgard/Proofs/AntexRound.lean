/-
C15: the file level.  An antenna section with its unread lines is one group of `read_data` and stores `storeAntenna`
(`antenna_runs`, `antenna_group`); so does every section of a file, followed by the trailer (`antennas_run`); the header group
(`header_runs`, `header_group`); no rendered line holds a line end (`nonl_file`), so text-mode iteration gives the rendered lines
back; together `file_roundtrip : F.wf → parseText (render F) = calibrations F`.  And, over `Spec/AntexFile` alone: rms sections
and unread lines contribute nothing to what a file says (`calibrations_core`).
-/
import Midgard.Proofs.AntexSection
import Midgard.Proofs.Lines
namespace Midgard.Antex.File
open Midgard.Text Midgard.FixedCol Midgard.ChainParser Midgard.Antex Midgard.Decimal Midgard.Antex.Records
open Midgard.Spec.Antex14 (RecSpec specs renderLabelled renderRow findKind findLabel)
open Midgard.Spec.AntexFile

theorem antenna_runs (a : AntM) (ha : a.wf = true) :
    ∃ (ys : List Str) (F : Fx), antennaLines a = ys ++ [rec "EOA" []] ∧ Runs corrParser ys F ∧
      ∀ s : State, s.cache = {} → mapR (F s) = storeAntenna a s := by
  obtain ⟨F, hF, hst⟩ := sig_runs a ha
  simp only [AntM.wf, Bool.and_eq_true, List.all_eq_true] at ha
  obtain ⟨ys, hys, hr⟩ := hF.weave_last (rec "EOA" []) (ds := a.deco.map (·.map inertLine)) fun d hd l hl => by
    obtain ⟨d0, hd0, rfl⟩ := List.mem_map.mp hd
    obtain ⟨i, hi, rfl⟩ := List.mem_map.mp hl
    exact inert_lineOk i (ha.2 d0 hd0 i hi)
  exact ⟨ys, F, hys, hr, hst⟩

theorem nonl_antenna (a : AntM) (ha : a.wf = true) : ∀ l ∈ antennaLines a, NoNl l := by
  obtain ⟨ys, F, hys, hr, _⟩ := antenna_runs a ha
  rw [hys]
  intro l hl
  rcases List.mem_append.mp hl with h | h
  · exact hr.nonl l h
  · rw [List.mem_singleton.mp h]
    exact nonl_rec _ _ (by simp)

theorem antenna_group (a : AntM) (ha : a.wf = true) (more : List Str) (s : State) (hc : s.cache = {}) (n : Nat) :
    readData headerParser corrParser resetCache (antennaLines a ++ more) false n s =
      match storeAntenna a s with
      | .error e => .error e
      | .ok s' => readData headerParser corrParser resetCache more false 0 s' := by
  obtain ⟨ys, F, hys, hr, hst⟩ := antenna_runs a ha
  have hend := end_line corr_reads "EOA" (he := by decide +kernel) (hok := by decide +kernel) (hm := by decide +kernel)
  rw [hys, List.append_assoc, List.singleton_append, Runs.group false rfl hr hend.1 hend.2 more n s, ← hst s hc]
  simp only [seqFx, mapR, idFx]
  cases F s <;> rfl

theorem resetCache_of_empty (s : State) (hc : s.cache = {}) : resetCache s = s := by
  cases s
  simp only at hc
  subst hc
  rfl

theorem trailer_run : ∀ (tr : List Inert), (∀ i ∈ tr, i.wf = true) → ∀ (n : Nat) (s : State), s.cache = {} →
    readData headerParser corrParser resetCache (tr.map inertLine) false n s = .ok s
  | [], _, _, _, _ => rfl
  | i :: tr, h, n, s, hc => by
    have hi := inert_lineOk i (h i (by simp))
    have h1 : parseLine corrParser (rstrip (inertLine i)) (n + 1) s = .ok s := hi.1 (n + 1) s
    simp only [List.map_cons, readData, Bool.false_eq_true, if_false, h1]
    cases htr : tr.map inertLine with
    | nil => simp [resetCache_of_empty s hc, pure, Except.pure]
    | cons nx rest =>
      have h2 : corrParser.endMarker (rstrip (inertLine i)) (n + 1) (nx ++ ['\n']) = false := hi.2.1 _ _
      simp only [h2, Bool.false_eq_true, if_false]
      rw [← htr]
      exact trailer_run tr (fun j hj => h j (by simp [hj])) (n + 1) s hc

theorem storeAntenna_cache {a : AntM} {s s' : State} (h : storeAntenna a s = .ok s') : s'.cache = {} := by
  unfold storeAntenna at h
  cases hf : storeFreqs a a.freqs 0 s with
  | error e => simp [hf] at h
  | ok t =>
    simp only [hf, pure, Except.pure, Except.ok.injEq] at h
    rw [← h]; rfl

theorem antennas_run (trailer : List Inert) (htr : ∀ i ∈ trailer, i.wf = true) :
    ∀ (as : List AntM), (∀ a ∈ as, a.wf = true) → ∀ (s : State), s.cache = {} →
      readData headerParser corrParser resetCache ((as.map antennaLines).flatten ++ trailer.map inertLine) false 0 s =
        storeAntennas as s
  | [], _, s, hc => by
    simp only [List.map_nil, List.flatten_nil, List.nil_append, storeAntennas, pure, Except.pure]
    exact trailer_run trailer htr 0 s hc
  | a :: as, h, s, hc => by
    simp only [List.map_cons, List.flatten_cons, List.append_assoc, storeAntennas]
    rw [antenna_group a (h a (by simp)) _ s hc 0]
    cases hs : storeAntenna a s with
    | error e => rfl
    | ok s' => exact antennas_run trailer htr as (fun b hb => h b (by simp [hb])) s' (storeAntenna_cache hs)

def metaFx (v : Values) : Fx := fun s => .ok { s with metaText := dictUpdate s.metaText v }
def commentFx (t : Str) : Fx := fun s => .ok { s with comments := some (s.comments.getD [] ++ [strip t]) }

theorem ver_line (v sy : Str) (h : okRec "VER" [v, sy] = true) :
    LineOk headerParser (rec "VER" [v, sy], metaFx [("version", v), ("sat_sys", sy)]) :=
  lineOk_of_kind header_reads (e := ⟨"VER", some "parse_string", ["version", "sat_sys"]⟩) (he := by decide +kernel)
    (hne := by decide +kernel) h fun s => by simp [kindFx, handle, metaFx, pure, Except.pure]

theorem pcv_line (p ra rs : Str) (h : okRec "PCV" [p, ra, rs] = true) :
    LineOk headerParser (rec "PCV" [p, ra, rs], metaFx [("pcv_type", p), ("ref_antenna", ra), ("ref_serial_num", rs)]) :=
  lineOk_of_kind header_reads (e := ⟨"PCV", some "parse_string", ["pcv_type", "ref_antenna", "ref_serial_num"]⟩)
    (he := by decide +kernel) (hne := by decide +kernel) h fun s => by simp [kindFx, handle, metaFx, pure, Except.pure]

theorem hcomment_line (t : Str) (ht : okText t = true) (h : t.length ≤ 60) :
    LineOk headerParser (rec "COM" [t], commentFx t) := by
  refine ⟨fun n s => ?_, fun n nx => ?_, nonl_rec _ _ (by simpa using ht)⟩
  · rw [(comment_line header_reads t h n).1 s, (label_of_body COM_mem (length_ljust h)).1,
      show headerParser.defs.find? (·.label == "COMMENT") =
        some ⟨"COMMENT", "parse_comment", .whitespace, [⟨"comment", 0, 60⟩], []⟩ by decide +kernel]
    have hv : (⟨"COMMENT", "parse_comment", .whitespace, [⟨"comment", 0, 60⟩], []⟩ : LabelDef).values
        (ljust 60 t ++ "COMMENT".toList) = [("comment", strip t)] := by
      have h60 : (ljust 60 t).length = 60 := length_ljust h
      simp only [LabelDef.values, List.map_cons, List.map_nil, List.append_nil, StripOpt.apply, sliceRaw]
      rw [show Text.slice 0 60 (ljust 60 t ++ "COMMENT".toList) = ljust 60 t from slice_cell (pre := []) rfl ((Nat.zero_add _).trans h60),
        strip_ljust_eq_strip]
    show handle "parse_comment" _ s = _
    rw [hv]
    simp [handle, Values.get, req, commentFx, bind, Except.bind, pure, Except.pure]
  · rw [(comment_line header_reads t h n).2 nx]
    decide +kernel

def commentsOn (cs : List Str) (s : State) : State :=
  { s with comments := if cs = [] then s.comments else some (s.comments.getD [] ++ cs.map strip) }

theorem comments_runs : ∀ cs : List Str, (∀ c ∈ cs, okText c = true ∧ c.length ≤ 60) →
    Runs headerParser (cs.map fun c => rec "COM" [c]) fun s => .ok (commentsOn cs s)
  | [], _ => Runs.nil
  | c :: cs, h => by
    refine (Runs.cons (hcomment_line c (h c List.mem_cons_self).1 (h c List.mem_cons_self).2)
      (comments_runs cs fun d hd => h d (List.mem_cons_of_mem _ hd))).congr fun s => ?_
    show Except.ok _ = Except.ok _
    simp only [commentsOn]
    by_cases hc : cs = [] <;> simp [hc]

theorem header_runs (F : FileM) (hwf : F.wf = true) :
    Runs headerParser ([rec "VER" [F.version, F.satSys]] ++ F.comments1.map (fun c => rec "COM" [c]) ++
        [rec "PCV" [F.pcvType, F.refAntenna, F.refSerial]] ++ F.comments2.map (fun c => rec "COM" [c]))
      (seqFx (seqFx (seqFx (metaFx [("version", F.version), ("sat_sys", F.satSys)]) fun s => .ok (commentsOn F.comments1 s))
        (metaFx [("pcv_type", F.pcvType), ("ref_antenna", F.refAntenna), ("ref_serial_num", F.refSerial)]))
        fun s => .ok (commentsOn F.comments2 s)) := by
  simp only [FileM.wf, Bool.and_eq_true, List.all_eq_true, decide_eq_true_eq] at hwf
  obtain ⟨⟨⟨⟨hver, hpcv⟩, hcom⟩, _⟩, _⟩ := hwf
  exact (((Runs.line (ver_line _ _ hver)).append (comments_runs _ fun c hc => hcom c (by simp [hc]))).append
    (Runs.line (pcv_line _ _ _ hpcv))).append (comments_runs _ fun c hc => hcom c (by simp [hc]))

theorem header_group (F : FileM) (hwf : F.wf = true) (more : List Str) :
    readData headerParser corrParser resetCache (headerLines F ++ more) true 0 {} =
      readData headerParser corrParser resetCache more false 0 (headerState F) := by
  have hend := end_line header_reads "EOH" (he := by decide +kernel) (hok := by decide +kernel) (hm := by decide +kernel)
  rw [headerLines, List.append_assoc, show [rec "EOH" []] ++ more = rec "EOH" [] :: more from rfl,
    Runs.group true rfl (header_runs F hwf) hend.1 hend.2]
  -- from the empty state: the five keys are distinct, so `dictUpdate` appends them in order
  simp only [seqFx, metaFx, commentsOn, idFx, headerState, allComments, resetCache, dictUpdate, dictSet, List.foldl]
  by_cases h1 : F.comments1 = [] <;> by_cases h2 : F.comments2 = [] <;> simp [h1, h2, dictSet]

theorem nonl_file (F : FileM) (hwf : F.wf = true) : ∀ l ∈ Spec.AntexFile.fileLines F, NoNl l := by
  intro l hl
  rcases List.mem_append.mp hl with hl | hl
  · rcases List.mem_append.mp hl with hl | hl
    · rw [headerLines] at hl
      rcases List.mem_append.mp hl with hl | hl
      · exact (header_runs F hwf).nonl l hl
      · rw [List.mem_singleton.mp hl]
        exact nonl_rec _ _ (by simp)
    · simp only [FileM.wf, Bool.and_eq_true, List.all_eq_true] at hwf
      obtain ⟨ls, hls, hl⟩ := List.mem_flatten.mp hl
      obtain ⟨a, ha, rfl⟩ := List.mem_map.mp hls
      exact nonl_antenna a (hwf.1.2 a ha) l hl
  · simp only [FileM.wf, Bool.and_eq_true, List.all_eq_true] at hwf
    obtain ⟨i, hi, rfl⟩ := List.mem_map.mp hl
    exact (inert_lineOk i (hwf.2 i hi)).2.2

/-- **line splitting**: a text made of lines free of `\n` and `\r`, each closed by a newline, is iterated as exactly
those lines — whatever else they contain (form feed, vertical tab, FS/GS/RS, NEL, U+2028/9 do not end a line) -/
theorem fileLines_joinLines (ls : List Str) (h : ∀ l ∈ ls, NoNl l) : Midgard.TextLines.textLines (joinLines ls) = ls :=
  (eq_joinNl rfl fun _ _ => rfl : joinLines = joinNl) ▸ textLines_joinNl ls h

theorem file_roundtrip (F : FileM) (hwf : F.wf = true) : parseText (Spec.AntexFile.render F) = calibrations F := by
  unfold parseText Spec.AntexFile.render
  rw [fileLines_joinLines _ (nonl_file F hwf)]
  unfold parseLines Spec.AntexFile.fileLines calibrations
  rw [List.append_assoc, header_group F hwf]
  have h := hwf
  simp only [FileM.wf, Bool.and_eq_true, List.all_eq_true] at h
  exact antennas_run F.trailer h.2 F.antennas h.1.2 (headerState F) rfl

end Midgard.Antex.File

namespace Midgard.Antex.File
open Midgard.Text Midgard.FixedCol Midgard.ChainParser Midgard.Antex Midgard.Decimal
open Midgard.Spec.AntexFile

/-! ### rms sections and unread lines contribute nothing

About `Spec/AntexFile` alone — `calibrations` and the structures of the file model; no lemma about the parser is used.  (`FileM.core`
stands in `Midgard.Antex.File`, not in the namespace of `FileM`: write `File.FileM.core F`.) -/

/-- the frequency section alone -/
def FreqM.core (f : FreqM) : FreqM := { f with rms := none }

/-- the antenna section without rms sections and unread lines -/
def AntM.core (a : AntM) : AntM := { a with freqs := a.freqs.map FreqM.core, rmsAfter := [], deco := [] }

/-- the file without rms sections and unread lines (header comments stay: the parser keeps them) -/
def FileM.core (F : FileM) : FileM := { F with antennas := F.antennas.map AntM.core, trailer := [] }

theorem storeFreqs_core (a : AntM) : ∀ (fs : List FreqM) (k : Nat) (s : State),
    storeFreqs (AntM.core a) (fs.map FreqM.core) k s = storeFreqs a fs k s
  | [], _, _ => rfl
  | f :: fs, k, s => by
    simp only [List.map_cons, storeFreqs]
    have : cacheAt (AntM.core a) k (FreqM.core f) = cacheAt a k f := rfl
    rw [this]
    cases saveCorrection { s with cache := cacheAt a k f } with
    | error e => rfl
    | ok s' => exact storeFreqs_core a fs (k + 1) s'

theorem storeAntenna_core (a : AntM) (s : State) : storeAntenna (AntM.core a) s = storeAntenna a s := by
  unfold storeAntenna
  have : (AntM.core a).freqs = a.freqs.map FreqM.core := rfl
  rw [this, storeFreqs_core]

theorem storeAntennas_core : ∀ (as : List AntM) (s : State), storeAntennas (as.map AntM.core) s = storeAntennas as s
  | [], _ => rfl
  | a :: as, s => by
    simp only [List.map_cons, storeAntennas, storeAntenna_core]
    cases storeAntenna a s with
    | error e => rfl
    | ok s' => exact storeAntennas_core as s'

theorem calibrations_core (F : FileM) : calibrations (FileM.core F) = calibrations F := by
  unfold calibrations
  have h1 : (FileM.core F).antennas = F.antennas.map AntM.core := rfl
  have h2 : headerState (FileM.core F) = headerState F := rfl
  rw [h1, h2, storeAntennas_core]

end Midgard.Antex.File
