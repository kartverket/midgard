/-
The obligations C14 puts on the regenerated SINEX tables, as Boolean checkers (evaluated by the kernel in
`Props/C14.lean`), and the form in which the kernel evaluates the ones that compare names.
-/
import Midgard.Proofs.SinexNames
import Midgard.Spec.Sinex202

namespace Midgard.Props.C14
open Midgard.Sinex
open Midgard.Spec.Sinex (SField SBlock Kind)

/-- the validated name, as code points (`validName` is `String.ofList` of exactly this) -/
def vcodes (n : String) : List Nat := validCodes (nameCodes n)

/-- the conversion the code declares for a field agrees with the kind of value the standard puts
there; for text the dtype is at least as wide as the standard's field (**no truncation**).  No table of
`Spec/Sinex202.lean` has an `epoch4` field (the sinex_tms specification is the harness's): that row is reached by none -/
def kindOk (k : Kind) (width : Nat) (f : FieldDef) : Bool :=
  match k, f.dtype, f.conv with
  | .text, .u n, .none => decide (width ≤ n)
  | .text, .u n, .utf8 => decide (width ≤ n)
  | .int, .i8, .none => true
  | .flt, .f8, .none => true
  | .exp, .f8, .exponent => true
  | .dms, .f8, .dms2deg => true
  | .epoch, .obj, .epoch => true
  | .epoch4, .obj, .yyyydddsssss => true
  | .tup, .obj, .tuple => true
  | _, _, _ => false

/-- a standard field lies inside the columns the code cuts for the field of the same (validated)
name, with the declared conversion (`stop` = start of the code's next field, or the record end) -/
def fieldCovered (f : FieldDef) (stop : Nat) (sf : SField) : Bool :=
  (vcodes f.name == nameCodes sf.name) && decide (f.start ≤ sf.start) && decide (sf.start + sf.width ≤ stop) &&
    decide (sf.start + sf.width ≤ 80) && kindOk sf.kind sf.width f

/-- code fields and standard fields correspond position by position -/
def fieldsCovered : List FieldDef → Nat → List SField → Bool
  | [], _, [] => true
  | [f], total, [sf] => fieldCovered f total sf
  | f :: g :: fs, total, sf :: sfs => fieldCovered f g.start sf && fieldsCovered (g :: fs) total sfs
  | _, _, _ => false

def blockCovered (code : List BlockDef) (sb : SBlock) : Bool :=
  match code.find? (·.marker = sb.marker) with
  | Option.none => false
  | some b => fieldsCovered b.fields 81 sb.fields

/-! `fieldCovered`, `fieldsCovered`, `blockCovered` with the function that reads the code points of a name
as a parameter: at `nameCodes` they are the checkers above, at `asciiCodes` (the same function) they are
what the kernel evaluates. -/

def fieldCoveredBy (codes : String → List Nat) (f : FieldDef) (stop : Nat) (sf : SField) : Bool :=
  (validCodes (codes f.name) == codes sf.name) && decide (f.start ≤ sf.start) && decide (sf.start + sf.width ≤ stop) &&
    decide (sf.start + sf.width ≤ 80) && kindOk sf.kind sf.width f

def fieldsCoveredBy (codes : String → List Nat) : List FieldDef → Nat → List SField → Bool
  | [], _, [] => true
  | [f], total, [sf] => fieldCoveredBy codes f total sf
  | f :: g :: fs, total, sf :: sfs => fieldCoveredBy codes f g.start sf && fieldsCoveredBy codes (g :: fs) total sfs
  | _, _, _ => false

def blockCoveredBy (codes : String → List Nat) (code : List BlockDef) (sb : SBlock) : Bool :=
  match code.find? (·.marker = sb.marker) with
  | Option.none => false
  | some b => fieldsCoveredBy codes b.fields 81 sb.fields

theorem fieldsCovered_eq : fieldsCovered = fieldsCoveredBy asciiCodes := by
  rw [← nameCodes_eq_asciiCodes]
  funext fs total sfs
  induction fs generalizing sfs with
  | nil => cases sfs <;> rfl
  | cons f fs ih =>
    cases fs with
    | nil =>
      cases sfs with
      | nil => rfl
      | cons sf sfs => cases sfs <;> rfl
    | cons g fs =>
      cases sfs with
      | nil => rfl
      | cons sf sfs => simp only [fieldsCovered, fieldsCoveredBy, ih]; rfl

theorem blockCovered_eq : blockCovered = blockCoveredBy asciiCodes := by
  funext code sb
  simp only [blockCovered, blockCoveredBy, fieldsCovered_eq]

end Midgard.Props.C14
