/-
A SINEX file as its header line and the pieces of its body (`Seg`, `SnxFile`), and what `parse_blocks` finds in it:
`scan_body` (the first block of each wanted marker, in file order, whatever lies between the blocks) and the
look-up `rawOf (expected w segs)` the block parsers see.  `blocksOf` equals a `filterMap` (`blocksOf_eq`) and `rawOf` is a
`find?`, so what is found for a marker in a body put together from parts follows from the list facts
(`firstBlock_look`, `rawOf_invisible`).
-/
import Midgard.Model.SinexFile
import Midgard.Proofs.Lines
import Midgard.Proofs.Text

namespace Midgard.Props.C14
open Midgard.Sinex Midgard.Text

theorem rawOf_cons (x : RawBlock) (xs : List RawBlock) (m : String) :
    rawOf (x :: xs) m = if x.marker = m then some x else rawOf xs m := by
  unfold rawOf
  by_cases h : x.marker = m <;> simp [h]

theorem rawOf_append (a b : List RawBlock) (m : String) : rawOf (a ++ b) m = (rawOf a m).or (rawOf b m) :=
  List.find?_append

theorem rawOf_isSome (a : List RawBlock) (m : String) (h : m ∈ a.map (·.marker)) : ∃ x, rawOf a m = some x := by
  obtain ⟨x, hx, rfl⟩ := List.mem_map.mp h
  exact Option.isSome_iff_exists.mp (List.find?_isSome.mpr ⟨x, hx, by simp⟩)

theorem rawOf_none (a : List RawBlock) (m : String) (h : m ∉ a.map (·.marker)) : rawOf a m = Option.none :=
  List.find?_eq_none.mpr fun x hx e => h (List.mem_map.mpr ⟨x, hx, by simpa using e⟩)

theorem rawOf_perm {a b : List RawBlock} (h : a.Perm b) (hnd : (a.map (·.marker)).Nodup) (m : String) :
    rawOf a m = rawOf b m := by
  induction h with
  | nil => rfl
  | cons x _ ih => rw [rawOf_cons, rawOf_cons, ih (List.nodup_cons.mp hnd).2]
  | swap x y l =>
    -- two adjacent blocks cannot both have the marker `m`
    have hne : y.marker ≠ x.marker := fun e => (List.nodup_cons.mp hnd).1 (by show y.marker ∈ _; rw [e]; exact List.mem_cons_self)
    simp only [rawOf_cons]
    by_cases hx : x.marker = m
    · simp only [hx, if_true, if_neg fun hy : y.marker = m => hne (hy.trans hx.symm)]
    · simp only [hx, if_false]
  | trans h1 _ ih1 ih2 => rw [ih1 hnd, ih2 ((h1.map _).nodup_iff.mp hnd)]

/-- a piece of a SINEX file body: either a line outside any block that does not open one (comment,
`%ENDSNX`, blank line, content or end line of a foreign block …) or a complete block -/
inductive Seg
  | noise (line : Str)
  | block (header : Str) (marker : Str) (params : List Str) (content : List Str) (footer : Str)

def Seg.lines : Seg → List Str
  | .noise l => [l]
  | .block h _ _ c f => h :: c ++ [f]

/-- well-formed pieces: a noise line does not start with `+`; a block's title line is `+MARKER params…`,
none of its content lines starts with `-` or `+`, its last line starts with `-` -/
def Seg.wf : Seg → Prop
  | .noise l => startsWith ['+'] l = false
  | .block h mk ps c f =>
      startsWith ['+'] h = true ∧ split (strip (h.drop 1)) = mk :: ps ∧
      (∀ l ∈ c, startsWith ['-'] l = false ∧ startsWith ['+'] l = false) ∧ startsWith ['-'] f = true

instance (s : Seg) : Decidable s.wf := by
  cases s <;> (simp only [Seg.wf]; infer_instance)

def body (segs : List Seg) : List Str := segs.flatMap Seg.lines

/-- the data lines of a block: the ones that start with a blank (comment lines `*…` are dropped) -/
def dataLines (c : List Str) : List Str := c.filter (startsWith [' '])

theorem dataLines_eq_self {c : List Str} (h : ∀ l ∈ c, startsWith [' '] l = true) : dataLines c = c :=
  List.filter_eq_self.mpr h

/-- what `parse_blocks` must deliver: the first block of each wanted marker, in file order -/
def expected : List String → List Seg → List RawBlock
  | _, [] => []
  | w, .noise _ :: rest => expected w rest
  | w, .block _ mk ps c _ :: rest =>
    if w.contains (asString mk) then ⟨asString mk, ps, dataLines c⟩ :: expected (w.erase (asString mk)) rest
    else expected w rest

theorem expected_nil (segs : List Seg) : expected [] segs = [] := by
  induction segs with
  | nil => rfl
  | cons s rest ih => cases s <;> simp [expected, ih]

theorem scan_nil_wanted (ls : List Str) : scan ls [] .search = some [] := by
  cases ls <;> simp [scan]

theorem scan_collect (c : List Str) (f : Str) (tail : List Str) (w : List String) (m : String) (p : List Str) :
    ∀ acc : List Str, (∀ l ∈ c, startsWith ['-'] l = false) → startsWith ['-'] f = true →
      scan (c ++ f :: tail) w (.collect m p acc) =
        (scan tail (w.erase m) .search).map (⟨m, p, acc.reverse ++ dataLines c⟩ :: ·) := by
  induction c with
  | nil =>
    intro acc _ hf
    simp [scan, hf, dataLines]
  | cons l c ih =>
    intro acc hc hf
    have hl : startsWith ['-'] l = false := hc l (by simp)
    have hc' : ∀ l' ∈ c, startsWith ['-'] l' = false := fun l' h' => hc l' (by simp [h'])
    by_cases hb : startsWith [' '] l = true
    · simp only [List.cons_append, scan, hl, Bool.false_eq_true, if_false, hb, if_true]
      rw [ih (l :: acc) hc' hf]
      simp [dataLines, hb]
    · have hb' : startsWith [' '] l = false := by simpa using hb
      simp only [List.cons_append, scan, hl, Bool.false_eq_true, if_false, hb']
      rw [ih acc hc' hf]
      simp [dataLines, hb']

theorem scan_skip (w : List String) (hw : w.isEmpty = false) : ∀ (ls : List Str), (∀ l ∈ ls, startsWith ['+'] l = false) →
    ∀ tl, scan (ls ++ tl) w .search = scan tl w .search
  | [], _, _ => rfl
  | l :: ls, hls, tl => by
    simp only [List.cons_append, scan, hw, Bool.false_eq_true, if_false, hls l List.mem_cons_self]
    exact scan_skip w hw ls (fun l' h' => hls l' (List.mem_cons_of_mem _ h')) tl

theorem scan_body (segs : List Seg) (hwf : ∀ s ∈ segs, s.wf) :
    ∀ w : List String, scan (body segs) w .search = some (expected w segs) := by
  induction segs with
  | nil => intro w; simp [body, scan, expected]
  | cons s rest ih =>
    intro w
    have ih := ih fun s' h' => hwf s' (List.mem_cons_of_mem _ h')
    have hs : s.wf := hwf s List.mem_cons_self
    by_cases hw : w = []
    · subst hw
      rw [scan_nil_wanted, expected_nil]
    · have hwe : w.isEmpty = false := by cases w <;> simp_all
      rw [body, List.flatMap_cons, ← body]
      cases s with
      | noise l => exact (scan_skip w hwe [l] (by simpa [Seg.wf] using hs) _).trans (ih w)
      | block h mk ps c f =>
        obtain ⟨hh, hsplit, hc, hf⟩ := hs
        by_cases hin : w.contains (asString mk) = true
        · simp only [Seg.lines, List.cons_append, scan, hwe, Bool.false_eq_true, if_false, hh, if_true, hsplit, expected, hin]
          rw [List.append_assoc, List.singleton_append,
            scan_collect c f _ w (asString mk) ps [] (fun l h' => (hc l h').1) hf, ih]
          simp
        · -- a foreign block: its content and end line are skipped like lines outside a block
          simp only [Seg.lines, List.cons_append, scan, hwe, Bool.false_eq_true, if_false, hh, if_true, hsplit, expected, hin]
          refine (scan_skip w hwe (c ++ [f]) (fun l hl => ?_) _).trans (ih w)
          rcases List.mem_append.mp hl with h' | h'
          · exact (hc l h').2
          · rw [List.mem_singleton.mp h']; exact startsWith_other (by decide) hf

/-- all blocks of a body, as `parse_blocks` would store them -/
def blocksOf : List Seg → List RawBlock
  | [] => []
  | .noise _ :: rest => blocksOf rest
  | .block _ mk ps c _ :: rest => ⟨asString mk, ps, dataLines c⟩ :: blocksOf rest

/-- the raw block a piece contributes: `blocksOf` keeps these, in order -/
def rawSeg? : Seg → Option RawBlock
  | .noise _ => Option.none
  | .block _ mk ps c _ => some ⟨asString mk, ps, dataLines c⟩

theorem blocksOf_eq (segs : List Seg) : blocksOf segs = segs.filterMap rawSeg? := by
  induction segs with
  | nil => rfl
  | cons s rest ih =>
    cases s with
    | noise l => rw [blocksOf, ih]; rfl
    | block h mk ps c f => rw [blocksOf, ih]; rfl

theorem blocksOf_append (a b : List Seg) : blocksOf (a ++ b) = blocksOf a ++ blocksOf b := by
  simp only [blocksOf_eq, List.filterMap_append]

theorem rawOf_expected (segs : List Seg) : ∀ (w : List String) (m : String),
    rawOf (expected w segs) m = if m ∈ w then rawOf (blocksOf segs) m else Option.none := by
  induction segs with
  | nil => intro w m; simp [expected, blocksOf, rawOf]
  | cons s rest ih =>
    intro w m
    cases s with
    | noise l => simp only [expected, blocksOf]; exact ih w m
    | block h mk ps c f =>
      simp only [expected, blocksOf]
      by_cases hin : w.contains (asString mk) = true
      · have hmem : asString mk ∈ w := by simpa using hin
        simp only [hin, if_true, rawOf_cons]
        by_cases hm : asString mk = m
        · subst hm; simp [hmem]
        · simp only [hm, if_false]
          rw [ih (w.erase (asString mk)) m]
          have : (m ∈ w.erase (asString mk)) ↔ m ∈ w := List.mem_erase_of_ne (Ne.symm hm)
          simp only [this]
      · have hin' : w.contains (asString mk) = false := by simpa using hin
        have hmem : asString mk ∉ w := by simpa using hin'
        simp only [hin', Bool.false_eq_true, if_false, rawOf_cons]
        rw [ih w m]
        by_cases hm : asString mk = m
        · subst hm; simp [hmem]
        · simp [hm]

theorem blocksOf_perm {a b : List Seg} (h : a.Perm b) : (blocksOf a).Perm (blocksOf b) := by
  rw [blocksOf_eq, blocksOf_eq]
  exact h.filterMap _

theorem rawOf_expected_perm (segs segs' : List Seg) (hperm : segs.Perm segs')
    (hdistinct : ((blocksOf segs).map (·.marker)).Nodup) (w : List String) :
    rawOf (expected w segs') = rawOf (expected w segs) := by
  funext m
  rw [rawOf_expected, rawOf_expected, rawOf_perm (blocksOf_perm hperm) hdistinct m]

/-- a piece is invisible after the pieces `pre` for a parser wanting the markers `w`: a line outside any
block, a block whose marker was not declared, or a block whose marker already occurred (**a block
given twice: the first one is read, the second is skipped like a foreign block**) -/
def Invisible (w : List String) (pre : List Seg) : Seg → Prop
  | .noise _ => True
  | .block _ mk _ _ _ => asString mk ∉ w ∨ asString mk ∈ (blocksOf pre).map (·.marker)

theorem rawOf_invisible (w : List String) (pre post : List Seg) (s : Seg) (hinv : Invisible w pre s) (m : String)
    (hm : m ∈ w) : rawOf (blocksOf (pre ++ s :: post)) m = rawOf (blocksOf (pre ++ post)) m := by
  rw [blocksOf_append, blocksOf_append, rawOf_append, rawOf_append]
  cases s with
  | noise l => rfl
  | block h mk ps c f =>
    rw [blocksOf, rawOf_cons]
    by_cases hmk : asString mk = m
    · -- a block of the wanted marker `m` is invisible only behind another one, and that one is found
      subst hmk
      obtain ⟨x, hx⟩ := rawOf_isSome _ _ (hinv.resolve_left fun hn => hn hm)
      rw [hx]
      rfl
    · rw [if_neg hmk]

/-- the body holds a block of marker `m` with title parameters `ps` and content `c`, and no block of that
marker before it -/
def FirstBlock (segs : List Seg) (m : String) (ps : List Str) (c : List Str) : Prop :=
  ∃ pre post h mk f, segs = pre ++ Seg.block h mk ps c f :: post ∧ asString mk = m ∧ m ∉ (blocksOf pre).map (·.marker)

theorem firstBlock_look (segs : List Seg) (m : String) (ps c : List Str) (hfb : FirstBlock segs m ps c)
    (w : List String) (hw : m ∈ w) : rawOf (expected w segs) m = some ⟨m, ps, dataLines c⟩ := by
  obtain ⟨pre, post, h, mk, f, rfl, rfl, hfirst⟩ := hfb
  rw [rawOf_expected, if_pos hw, blocksOf_append, rawOf_append, rawOf_none _ _ hfirst, blocksOf, rawOf_cons, if_pos rfl]
  rfl

/-- every line closed by a line feed -/
def joinLines : List Str → Str
  | [] => []
  | l :: ls => l ++ '\n' :: joinLines ls

def NoNl (l : Str) : Prop := ∀ c ∈ l, c ≠ '\n'

theorem joinLines_eq : joinLines = joinNl := eq_joinNl rfl fun _ _ => rfl

/-- an abstract SINEX file: the header line and the pieces of the body (blocks in any order, with
comment lines, blank lines, `%ENDSNX` and blocks nobody asked for between them) -/
structure SnxFile where
  header : Str
  segs : List Seg

def SnxFile.lines (F : SnxFile) : List Str := F.header :: body F.segs

def SnxFile.text (F : SnxFile) : Str := joinLines F.lines

def SnxFile.wf (F : SnxFile) : Prop := (∀ l ∈ F.lines, NoNl l) ∧ ∀ s ∈ F.segs, s.wf

/-- what `parse_header_line` stores in `meta` -/
def headerRow (tag : Str) (header : List FieldDef) (total : Str → Nat) (h : Str) : Row :=
  if startsWith tag h then (if (dropComment h).isEmpty then [] else parseLine header (total h) h) else []

theorem SnxFile.wf_subset {h : Str} {segs segs' : List Seg} (hsub : segs' ⊆ segs) (hwf : SnxFile.wf ⟨h, segs⟩) :
    SnxFile.wf ⟨h, segs'⟩ := by
  refine ⟨fun l hl => hwf.1 l ?_, fun s hs => hwf.2 s (hsub hs)⟩
  simp only [SnxFile.lines, body, List.mem_cons, List.mem_flatMap] at hl ⊢
  exact hl.imp id fun ⟨s, hs, hls⟩ => ⟨s, hsub hs, hls⟩

end Midgard.Props.C14
