/-
C19, text round trip: reading the lines of a whole option and the blocks of a section; the reader's state is
looked at through `normOpt`, as `update_from_file` does.
Mathlib-free.
-/
import Midgard.Proofs.ConfigValue
import Midgard.Proofs.Lists

namespace Midgard.Proofs.ConfigText
open Midgard.Config

/-- an option as `update_from_file` sees it: name and joined value -/
def normOpt (o : RawOpt) : List Char × Option String := (o.key, o.value.map joinValue)

/-- a section as `update_from_file` sees it -/
def normSec (so : String × List RawOpt) : String × List (List Char × Option String) := (so.1, so.2.map normOpt)

/-- the fold of `readIniRaw` -/
def readLines (lower : Bool) (p : PState) (ls : List (List Char)) : Except IniErr PState :=
  ls.foldl (fun acc l => match acc with
    | .error e => .error e
    | .ok p => readLine lower p l) (.ok p)

theorem foldl_error (lower : Bool) (e : IniErr) (ls : List (List Char)) :
    ls.foldl (fun acc l => match acc with
      | .error e => .error e
      | .ok p => readLine lower p l) (.error e : Except IniErr PState) = .error e :=
  Lists.foldl_except_error _ (fun _ _ => rfl) ls e

theorem readLines_nil (lower : Bool) (p : PState) : readLines lower p [] = .ok p := rfl

theorem readLines_cons (lower : Bool) (p p' : PState) (l : List Char) (ls : List (List Char))
    (h : readLine lower p l = .ok p') : readLines lower p (l :: ls) = readLines lower p' ls := by
  simp only [readLines, List.foldl_cons, h]

theorem readLines_append (lower : Bool) (p p' : PState) (a b : List (List Char))
    (h : readLines lower p a = .ok p') : readLines lower p (a ++ b) = readLines lower p' b := by
  simp only [readLines, List.foldl_append] at h ⊢
  rw [h]

theorem read_conts (lower : Bool) (hang : Nat) (hhang : 0 < hang) (gr : List (List (List Char)))
    (hne : ∀ g ∈ gr, g ≠ []) (hw : ∀ g ∈ gr, ∀ x ∈ g, ValueWord x)
    (p : PState) (c : String × List RawOpt) (k : List Char) (vs : List (List Char))
    (hcur : p.cur = some c) (hopt : p.opt = some ⟨k, some vs⟩) (hind : p.indent = 0) :
    readLines lower p (gr.map (contLine hang)) =
      .ok { p with opt := some ⟨k, some (vs ++ gr.map unwords)⟩ } := by
  induction gr generalizing p vs with
  | nil =>
    simp only [List.map_nil, List.append_nil, readLines_nil]
    obtain ⟨d, cu, o, i⟩ := p
    simp only at hopt; subst hopt; rfl
  | cons g t ih =>
    have h1 := readLine_cont lower p c k vs hang g hcur hopt hind hhang (hne g (by simp)) (hw g (by simp))
    rw [List.map_cons, readLines_cons lower p _ _ _ h1,
      ih (fun g hg => hne g (List.mem_cons_of_mem _ hg)) (fun g hg => hw g (List.mem_cons_of_mem _ hg))
        { p with opt := some ⟨k, some (vs ++ [unwords g])⟩ } (vs ++ [unwords g]) hcur rfl hind]
    simp

/-- an option of a section as `update_from_file` sees it, and as it is written: its name (`key` or `key:meta`) and its
value (`none`: the name alone on a line) -/
abbrev Opt := List Char × Option String

/-- `entry_as_str` for one option: the wrapped `key = value`, or the name alone -/
def optLines (w kw : Nat) (o : Opt) : List (List Char) :=
  match o.2 with
  | none => fill w (kw + 3) o.1
  | some v => fill w (kw + 3) (entryText kw o.1 v.toList)

/-- an option the reader gives back as written: a name it accepts unchanged; name, padding and `=` fit on a line; the
value is words joined by single blanks -/
def OptOK (lower : Bool) (w kw : Nat) (o : Opt) : Prop :=
  KeyOK lower o.1 ∧
  ∀ v, o.2 = some v → o.1.length + (padOf kw o.1).length + 1 ≤ w ∧
    ∃ ws, unwords ws = v.toList ∧ ∀ x ∈ ws, ValueWord x

theorem KeyOK.isWord {lower : Bool} {k : List Char} (h : KeyOK lower k) : IsWord k :=
  isWord_of_noBlank h.1 fun c hc => (h.2.1 c hc).1

theorem KeyOK.noCtl {lower : Bool} {k : List Char} (h : KeyOK lower k) : NoCtl k :=
  noCtl_of_noBlank fun c hc => (h.2.1 c hc).1

theorem noCtl_entryText (kw : Nat) (key : List Char) (ws : List (List Char)) (hk : NoCtl key)
    (hw : ∀ x ∈ ws, ReaderWord x) : NoCtl (entryText kw key (unwords ws)) := by
  intro c hc
  simp only [entryText_eq, List.mem_append, List.mem_cons] at hc
  rcases hc with (h | h) | h | h | h
  · exact hk c h
  · rw [(isSpaces_pad kw key).2 c h]; decide
  · subst h; decide
  · subst h; decide
  · rcases mem_unwords c ws h with rfl | ⟨x, hx, h⟩
    · decide
    · exact (hw x hx).noCtl c h

theorem optLines_shape (lower : Bool) (w kw : Nat) (o : Opt) (hok : OptOK lower w kw o) :
    (o.2 = none ∧ optLines w kw o = [o.1]) ∨
    (∃ (v : String) (g0 : List (List Char)) (gr : List (List (List Char))), o.2 = some v ∧ (∀ g ∈ gr, g ≠ []) ∧
      unwords (g0 ++ gr.flatten) = v.toList ∧ (∀ x ∈ g0 ++ gr.flatten, ValueWord x) ∧
      optLines w kw o = firstLine kw o.1 g0 :: gr.map (contLine (kw + 3))) := by
  obtain ⟨key, value⟩ := o
  obtain ⟨hkey, hval⟩ := hok
  simp only at hkey hval
  cases value with
  | none =>
    left
    exact ⟨rfl, by simp only [optLines, fill_single_word w (kw + 3) key hkey.isWord hkey.noCtl]⟩
  | some v =>
    right
    obtain ⟨hfit, ws, hu, hws⟩ := hval v rfl
    have hwso : ∀ x ∈ ws, ReaderWord x := fun x hx => (hws x hx).1
    simp only [optLines, ← hu]
    cases ws with
    | nil =>
      refine ⟨v, [], [], rfl, by simp, by simpa using hu, by simp, ?_⟩
      simpa [unwords_nil] using fill_empty_value w kw key hkey.isWord hkey.noCtl hfit
    | cons w1 t =>
      obtain ⟨g0, gr, h1, h2, h3⟩ := fill_entry_lines w kw key w1 t hkey.isWord (fun x hx => (hwso x hx).isWord)
        (noCtl_entryText kw key (w1 :: t) hkey.noCtl hwso) hfit
      exact ⟨v, g0, gr, rfl, h1, by rw [h2, hu], by rw [h2]; exact hws, h3⟩

theorem read_opt (lower : Bool) (w kw : Nat) (o : Opt) (hok : OptOK lower w kw o)
    (p : PState) (n : String) (os : List RawOpt) (hcur : p.cur = some (n, os))
    (hnew : o.1 ∉ (os ++ p.opt.toList).map (·.key)) :
    ∃ r, normOpt r = o ∧
      readLines lower p (optLines w kw o) =
        .ok { done := p.done, cur := some (n, os ++ p.opt.toList), opt := some r, indent := 0 } := by
  rcases optLines_shape lower w kw o hok with ⟨hv, hl⟩ | ⟨v, g0, gr, hv, hgne, hu, hws, hl⟩
  · refine ⟨⟨o.1, none⟩, by simp [normOpt, ← hv], ?_⟩
    rw [hl, readLines_cons lower p _ _ _ (readLine_valueless lower p n os o.1 hcur hok.1 hnew)]
    rfl
  · have hg0 : ∀ x ∈ g0, ReaderWord x := fun x hx => (hws x (List.mem_append_left _ hx)).1
    have hgr : ∀ g ∈ gr, ∀ x ∈ g, ValueWord x := fun g hg x hx =>
      hws x (List.mem_append_right _ (List.mem_flatten.2 ⟨g, hg, hx⟩))
    refine ⟨⟨o.1, some (unwords g0 :: gr.map unwords)⟩, ?_, ?_⟩
    · simp [normOpt, ← hv, joinValue_groups g0 gr hgne fun x hx => (hws x hx).1, hu]
    · rw [hl, readLines_cons lower p _ _ _ (readLine_first lower p n os kw o.1 g0 hcur hok.1 hg0 hnew),
        read_conts lower (kw + 3) (by omega) gr hgne hgr _ (n, os ++ p.opt.toList) o.1 [unwords g0] rfl rfl rfl]
      simp

/-- what a section's text is made of: the lines of an option, or an empty line -/
inductive Block
  | opt (o : Opt)
  | blank

def blockLines (w kw : Nat) : Block → List (List Char)
  | .opt o => optLines w kw o
  | .blank => [[]]

def blockOpts : List Block → List Opt
  | [] => []
  | .opt o :: t => o :: blockOpts t
  | .blank :: t => blockOpts t

/-- the reader is inside section `n`, at column 0, and what it holds is, to `update_from_file`, `opts` -/
def SecState (p : PState) (n : String) (opts : List Opt) : Prop :=
  ∃ os, p.cur = some (n, os) ∧ p.indent = 0 ∧ (os ++ p.opt.toList).map normOpt = opts

/-- by induction over the blocks with the invariant `SecState`; an empty line only lengthens the open value, which `normOpt`
does not see (`joinValue_snoc_nil`) -/
theorem read_blocks (lower : Bool) (w kw : Nat) (bs : List Block) :
    ∀ (p : PState) (n : String) (opts : List Opt),
      SecState p n opts →
      (∀ o ∈ blockOpts bs, OptOK lower w kw o) →
      ((opts ++ blockOpts bs).map (·.1)).Nodup →
      ∃ p', readLines lower p (bs.flatMap (blockLines w kw)) = .ok p' ∧ p'.done = p.done ∧
        SecState p' n (opts ++ blockOpts bs) := by
  induction bs with
  | nil => intro p n opts hs _ _; exact ⟨p, rfl, rfl, by simpa [blockOpts] using hs⟩
  | cons b t ih =>
    intro p n opts hs hok hnd
    obtain ⟨os, hcur, hind, hraw⟩ := hs
    cases b with
    | opt o =>
      simp only [blockOpts] at hok hnd
      have hkeys : (os ++ p.opt.toList).map (·.key) = opts.map (·.1) := by
        simpa [List.map_map, Function.comp_def, normOpt] using congrArg (List.map Prod.fst) hraw
      have hnew : o.1 ∉ (os ++ p.opt.toList).map (·.key) :=
        hkeys ▸ Lists.not_mem_of_nodup_append_cons (by simpa using hnd)
      obtain ⟨r, hr, hread⟩ := read_opt lower w kw o (hok o (by simp)) p n os hcur hnew
      simp only [List.flatMap_cons, blockLines]
      rw [readLines_append lower p _ _ _ hread]
      obtain ⟨p', h1, h2, h3⟩ := ih
        { done := p.done, cur := some (n, os ++ p.opt.toList), opt := some r, indent := 0 } n (opts ++ [o])
        ⟨os ++ p.opt.toList, rfl, rfl, by simpa [hr] using congrArg (· ++ [o]) hraw⟩
        (fun x hx => hok x (by simp [hx])) (by simpa using hnd)
      exact ⟨p', h1, h2, by simpa [blockOpts] using h3⟩
    | blank =>
      simp only [blockOpts] at hok hnd
      simp only [List.flatMap_cons, blockLines, List.singleton_append]
      rw [readLines_cons lower p _ [] _ (readLine_blank lower p)]
      have hs' : SecState (match p.opt with
          | some ⟨k, some vs⟩ => { p with opt := some ⟨k, some (vs ++ [[]])⟩ }
          | _ => p) n opts := by
        split
        · rename_i k vs hopt
          refine ⟨os, hcur, hind, ?_⟩
          rw [← hraw, hopt]
          simp [normOpt, joinValue_snoc_nil]
        · exact ⟨os, hcur, hind, hraw⟩
      obtain ⟨p', h1, h2, h3⟩ := ih _ n opts hs' hok hnd
      refine ⟨p', h1, ?_, by simpa [blockOpts] using h3⟩
      rw [h2]; split <;> rfl

end Midgard.Proofs.ConfigText
