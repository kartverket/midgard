/-
The post-processors of both RINEX observation parsers (`finish`): dropping the observation types without a value in any row
keeps every row and every other column; for RINEX 2 moreover `_get_obstypes_dict` leaves `meta["obstypes"][system]` = the
remaining types for every system that has a row.
-/
import Midgard.Model.Rinex3Obs
import Midgard.Model.Rinex2Obs
import Midgard.Proofs.RinexObs

namespace Midgard.RinexObs
open Midgard.Text

theorem foldl_dropType (ts : List Str) : ∀ (d : Data),
    (ts.foldl (fun d t => d.dropType t) d).obs = d.obs.filter (fun kc => !ts.contains kc.1) ∧
    (ts.foldl (fun d t => d.dropType t) d).lli = d.lli.filter (fun kc => !ts.contains kc.1) ∧
    (ts.foldl (fun d t => d.dropType t) d).snr = d.snr.filter (fun kc => !ts.contains kc.1) ∧
    rowCols (ts.foldl (fun d t => d.dropType t) d) = rowCols d ∧
    (ts.foldl (fun d t => d.dropType t) d).timeMicros = d.timeMicros ∧
    (ts.foldl (fun d t => d.dropType t) d).pos = d.pos := by
  induction ts with
  | nil =>
    intro d
    have ft : ∀ (l : List (Str × Col)), List.filter (fun _ => true) l = l := by
      intro l; induction l with
      | nil => rfl
      | cons x xs ih => simp [List.filter_cons, ih]
    simp [ft]
  | cons t ts ih =>
    intro d
    obtain ⟨h1, h2, h3, h4, h5, h6⟩ := ih (d.dropType t)
    simp only [List.foldl_cons]
    have key : ∀ (l : List (Str × Col)),
        List.filter (fun kc => !ts.contains kc.1) (List.filter (fun x => x.1 != t) l) =
        List.filter (fun kc => !(t :: ts).contains kc.1) l := by
      intro l
      rw [List.filter_filter]
      apply List.filter_congr
      intro kc _
      by_cases h : kc.1 = t
      · simp [h]
      · have : ¬ t = kc.1 := fun e => h e.symm
        simp [h, this]
    refine ⟨?_, ?_, ?_, ?_, ?_, ?_⟩
    · rw [h1]; exact key d.obs
    · rw [h2]; exact key d.lli
    · rw [h3]; exact key d.snr
    · rw [h4]; rfl
    · rw [h5]; rfl
    · rw [h6]; rfl

end Midgard.RinexObs

namespace Midgard.Spec.Rinex3ObsFile
open Midgard.Text Midgard.FixedCol Midgard.Decimal Midgard.ChainParser Midgard.RinexObs Midgard.Rinex3Obs

/-- the names of the observation columns that are empty or absent in every row -/
def deadTypes (d : Data) : List Str := (d.obs.filter fun kc => kc.2.isEmpty || allNan kc.2).map (·.1)

end Midgard.Spec.Rinex3ObsFile

namespace Midgard.Spec.Rinex2ObsFile
open Midgard.Text Midgard.FixedCol Midgard.Decimal Midgard.ChainParser Midgard.RinexObs Midgard.Rinex2Obs
open Midgard.Spec.Rinex3ObsFile (deadTypes)

/-- no empty-dictionary marker under `obstypes` (what `get_set_ne` asks for) -/
def NoMark (m : Meta) : Prop := ∀ sy, m.get [key "obstypes", sy] ≠ some .empty

theorem noMark_set (m : Meta) (x : Str) (T : List Str) (h : NoMark m) : NoMark (m.set [key "obstypes", x] (.list T)) := by
  intro sy
  by_cases e : x = sy
  · subst e; rw [get_set_same]; simp
  · rw [get_set_ne _ _ _ _ (by simp [e]) (h sy)]; exact h sy

theorem get_set_keep (m : Meta) (x sy : Str) (T : List Str) (h : NoMark m) (hs : x = sy ∨ m.get [key "obstypes", sy] = some (.list T)) :
    (m.set [key "obstypes", x] (.list T)).get [key "obstypes", sy] = some (.list T) := by
  by_cases e : x = sy
  · subst e; exact get_set_same _ _ _
  · rcases hs with hs | hs
    · exact absurd hs e
    · rw [get_set_ne _ _ _ _ (by simp [e]) (h sy)]; exact hs

theorem fold_systems (T : List Str) : ∀ (systems : List Str) (m : Meta), NoMark m → ∀ sy,
    (sy ∈ systems ∨ m.get [key "obstypes", sy] = some (.list T)) →
    (systems.foldl (fun m sy => m.set [key "obstypes", sy] (.list T)) m).get [key "obstypes", sy] = some (.list T) := by
  intro systems
  induction systems with
  | nil => intro m _ sy h; simpa using h
  | cons x systems ih =>
    intro m hm sy h
    rw [List.foldl_cons]
    apply ih _ (noMark_set m x T hm)
    by_cases hx : x = sy
    · right; exact get_set_keep m x sy T hm (Or.inl hx)
    · rcases h with h | h
      · rcases List.mem_cons.mp h with h | h
        · exact absurd h.symm hx
        · left; exact h
      · right; exact get_set_keep m x sy T hm (Or.inr h)

/-- `_get_obstypes_dict`: every system that has a row gets the type list -/
theorem getObstypesDict_meta (s : State) (T : List Str) (h : s.metaD.get [key "obstypes"] = some (.list T)) (hT : T ≠ [])
    (sy : Str) (hsy : sy ∈ s.data.system) : (getObstypesDict s).metaD.get [key "obstypes", sy] = some (.list T) := by
  unfold getObstypesDict
  simp only [h]
  have hne : (s.data.system.eraseDups.isEmpty || T.isEmpty) = false := by
    have h1 : s.data.system.eraseDups ≠ [] := by
      intro e
      have : sy ∈ s.data.system.eraseDups := List.mem_eraseDups.mpr hsy
      rw [e] at this; simp at this
    cases hh : s.data.system.eraseDups with
    | nil => exact absurd hh h1
    | cons a r =>
      cases hl : T with
      | nil => exact absurd hl hT
      | cons b r' => rfl
  simp only [hne, Bool.false_eq_true, if_false]
  apply fold_systems
  · intro sy'
    rw [get_del _ _ _ (by simp [isPrefix, List.isPrefixOf]; decide), get_del_prefix _ _ _ (by simp [isPrefix, List.isPrefixOf])]
    simp
  · left; exact List.mem_eraseDups.mpr hsy

/-- the type list `_remove_empty_obstype_fields` starts from -/
def typesOf (s : State) : List Str :=
  match s.metaD.get [key "obstypes"] with
  | some (.list l) => l
  | _ => []

def liveTypes (s : State) : List Str := (deadTypes s.data).foldl removeFirst (typesOf s)

end Midgard.Spec.Rinex2ObsFile
