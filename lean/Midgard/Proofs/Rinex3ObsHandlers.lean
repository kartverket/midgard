/-
The `meta` keys the data section of a RINEX 3 file reads (`Prot`), and every header handler of the plain record kinds writes
none of them (and possibly the header position): `Frame`.
-/
import Midgard.Model.Rinex3Obs
import Midgard.Proofs.RinexObs

namespace Midgard.Spec.Rinex3ObsFile
open Midgard.Text Midgard.FixedCol Midgard.Decimal Midgard.ChainParser Midgard.RinexObs Midgard.Rinex3Obs

/-- the keys the data section reads -/
def Prot (p : List Str) : Prop := p = [key "marker_name"] ∨ ∃ sy, p = [key "obstypes", sy]

def Unprot (q : List Str) : Prop := ∀ p, Prot p → q ≠ p

/-- `MSameOn Prot` (`Proofs/RinexObs.lean`) written out; its lemmas apply as they are -/
def MSame (m m' : Meta) : Prop := ∀ p, Prot p → m.get p ≠ some .empty → m'.get p = m.get p

theorem MSame_foldl_set {α} (f : α → List Str) (g : α → Leaf) : ∀ (l : List α) (m : Meta), (∀ x ∈ l, Unprot (f x)) →
    MSame m (l.foldl (fun m x => m.set (f x) (g x)) m) :=
  fun l m h => MSameOn.foldl_set f g l m h

theorem unprot_long {a b c : Str} (r : List Str) : Unprot (a :: b :: c :: r) := by
  intro p hp
  rcases hp with rfl | ⟨sy, rfl⟩ <;> simp

theorem unprot_pair (a b : Str) (h : a ≠ key "obstypes") : Unprot [a, b] := by
  intro p hp
  rcases hp with rfl | ⟨sy, rfl⟩
  · simp
  · intro e
    simp only [List.cons.injEq] at e
    exact h e.1

theorem unprot_single (a : Str) (h : a ≠ key "marker_name") : Unprot [a] := by
  intro p hp
  rcases hp with rfl | ⟨sy, rfl⟩
  · intro e
    simp only [List.cons.injEq, and_true] at e
    exact h e
  · simp

/-- a handler that only writes unprotected `meta` keys (and possibly the header position) -/
structure Frame (s s' : State) : Prop where
  all : s'.obstypesAll = s.obstypesAll
  rate : s'.rate = s.rate
  obs : s'.data.obs = s.data.obs
  lli : s'.data.lli = s.data.lli
  snr : s'.data.snr = s.data.snr
  rows : rowCols s'.data = rowCols s.data
  micros : s'.data.timeMicros = s.data.timeMicros
  metaS : MSame s.metaD s'.metaD

theorem Frame.refl (s : State) : Frame s s := ⟨rfl, rfl, rfl, rfl, rfl, rfl, rfl, MSameOn.refl _⟩

theorem Frame.trans {a b c : State} (h1 : Frame a b) (h2 : Frame b c) : Frame a c :=
  ⟨h2.all.trans h1.all, h2.rate.trans h1.rate, h2.obs.trans h1.obs, h2.lli.trans h1.lli, h2.snr.trans h1.snr,
   h2.rows.trans h1.rows, h2.micros.trans h1.micros, MSameOn.trans h1.metaS h2.metaS⟩

theorem frame_meta (s : State) (m' : Meta) (h : MSame s.metaD m') : Frame s { s with metaD := m' } :=
  ⟨rfl, rfl, rfl, rfl, rfl, rfl, rfl, h⟩

theorem frame_pos (s : State) (p : Option (List Rat)) : Frame s { s with data := { s.data with pos := p } } :=
  ⟨rfl, rfl, rfl, rfl, rfl, rfl, rfl, MSameOn.refl _⟩

/-- no field of the record is named like a key the data section reads -/
def keysOk (v : Values) : Prop := ∀ kv ∈ v, Unprot [key kv.1]

theorem frame_parseString (v : Values) (s : State) (hv : keysOk v) : Frame s (parseString v s) :=
  frame_meta s _ (MSameOn.foldl_set (fun (x : String × Str) => [key x.1]) (fun x => .text x.2) v s.metaD hv)

theorem frame_parseFloatFields (v : Values) (s s' : State) (hv : keysOk v) (h : parseFloatFields v s = .ok s') : Frame s s' := by
  unfold parseFloatFields at h
  obtain ⟨nums, hn, h⟩ := bind_ok' h
  simp only [pure, Except.pure, Except.ok.injEq] at h
  subst h
  exact frame_meta s _ (MSameOn.numbers pyFloat Leaf.num v nums s.metaD hv hn)

theorem frame_parseIntegerFields (v : Values) (s s' : State) (hv : keysOk v) (h : parseIntegerFields v s = .ok s') : Frame s s' := by
  unfold parseIntegerFields at h
  obtain ⟨nums, hn, h⟩ := bind_ok' h
  simp only [pure, Except.pure, Except.ok.injEq] at h
  subst h
  exact frame_meta s _ (MSameOn.numbers pyInt Leaf.int v nums s.metaD hv hn)

theorem frame_parseComment (v : Values) (s s' : State) (h : parseComment v s = .ok s') : Frame s s' := by
  unfold parseComment at h
  obtain ⟨t, _, h⟩ := bind_ok' h
  simp only [pure, Except.pure, Except.ok.injEq] at h
  subst h
  exact frame_meta s _ (MSameOn.set _ _ _ (unprot_single _ (key_ne_key (by simp))))

theorem frame_parseApproxPosition (v : Values) (s s' : State) (hv : keysOk v) (h : parseApproxPosition v s = .ok s') : Frame s s' := by
  unfold parseApproxPosition at h
  obtain ⟨_, _, h⟩ := bind_ok' h
  obtain ⟨x, _, h⟩ := bind_ok' h
  obtain ⟨_, _, h⟩ := bind_ok' h
  obtain ⟨y, _, h⟩ := bind_ok' h
  obtain ⟨_, _, h⟩ := bind_ok' h
  obtain ⟨z, _, h⟩ := bind_ok' h
  exact (frame_pos s (some [x, y, z])).trans (frame_parseFloatFields v _ s' hv h)

theorem MSame_setTimeSys (ts : Str) (m : Meta) : MSameOn Prot m (setTimeSys ts m) := by
  unfold setTimeSys
  split
  · exact MSameOn.refl m
  · exact MSameOn.set _ _ _ (unprot_single _ (key_ne_key (by simp)))

theorem frame_parseTimeOfFirstObs (v : Values) (s s' : State) (h : parseTimeOfFirstObs v s = .ok s') : Frame s s' := by
  unfold parseTimeOfFirstObs at h
  obtain ⟨ts, _, h⟩ := bind_ok' h
  obtain ⟨y, _, h⟩ := bind_ok' h
  split at h
  · obtain ⟨t, _, h⟩ := bind_ok' h
    simp only [pure, Except.pure, Except.ok.injEq] at h
    subst h
    exact frame_meta s _ ((MSame_setTimeSys ts _).trans (MSameOn.set _ _ _ (unprot_single _ (key_ne_key (by simp)))))
  · simp only [pure, Except.pure, Except.ok.injEq] at h
    subst h
    exact frame_meta s _ (MSame_setTimeSys ts _)

theorem frame_parseTimeOfLastObs (v : Values) (s s' : State) (h : parseTimeOfLastObs v s = .ok s') : Frame s s' := by
  unfold parseTimeOfLastObs at h
  obtain ⟨ts, _, h⟩ := bind_ok' h
  obtain ⟨y, _, h⟩ := bind_ok' h
  have hm : MSameOn Prot s.metaD (if ts ≠ [] then setTimeSys ts s.metaD else s.metaD) := by
    split
    · exact MSame_setTimeSys ts _
    · exact MSameOn.refl _
  split at h
  · obtain ⟨t, _, h⟩ := bind_ok' h
    simp only [pure, Except.pure, Except.ok.injEq] at h
    subst h
    exact frame_meta s _ (hm.trans (MSameOn.set _ _ _ (unprot_single _ (key_ne_key (by simp)))))
  · simp only [pure, Except.pure, Except.ok.injEq] at h
    subst h
    exact frame_meta s _ hm

theorem frame_parseLeapSeconds (v : Values) (s : State) : Frame s (parseLeapSeconds v s) :=
  frame_meta s _ (MSameOn.foldl_set (fun (x : String × Str) => [key "leap_seconds", key x.1]) (fun x => .text x.2) v s.metaD
    fun _ _ => unprot_pair _ _ (key_ne_key (by simp)))

theorem frame_parseApplied (name : String) (hn : key name ≠ key "obstypes") (v : Values) (s s' : State)
    (h : parseApplied name v s = .ok s') : Frame s s' := by
  unfold parseApplied at h
  obtain ⟨sy, _, h⟩ := bind_ok' h
  obtain ⟨prg, _, h⟩ := bind_ok' h
  obtain ⟨url, _, h⟩ := bind_ok' h
  simp only [pure, Except.pure, Except.ok.injEq] at h
  subst h
  apply frame_meta
  refine ((MSameOn.del _ _ ?_).trans (MSameOn.set _ _ _ (unprot_long _))).trans (MSameOn.set _ _ _ (unprot_long _))
  intro p hp
  rcases hp with rfl | ⟨sy', rfl⟩
  · simp [isPrefix, List.isPrefixOf]
  · have : (key name == key "obstypes") = false := by simp [hn]
    simp [isPrefix, List.isPrefixOf, this]

/-- the GLONASS records: under the dictionary `K` one entry per non-blank field, `first word ↦ converted second word` -/
theorem frame_pairs {α} (K pre : String) (hm : K ≠ "marker_name") (ho : K ≠ "obstypes") (conv : Str → Except Err α)
    (leaf : α → Leaf) (v : Values) (s s' : State)
    (h : (do
      let m ← (fieldsWithPrefix v pre).foldl (fun (acc : Except Err Meta) (f : String × Str) => do
        let m ← acc
        if f.2 = [] then pure m else
          match split f.2 with
          | a :: b :: _ => do
            let x ← conv b
            pure (m.set [key K, a] (leaf x))
          | _ => throw Err.other) (pure (s.metaD.setdefaultDict [key K]))
      pure { s with metaD := m }) = .ok s') : Frame s s' := by
  obtain ⟨m, hm', h⟩ := bind_ok' h
  simp only [pure, Except.pure, Except.ok.injEq] at h
  subst h
  apply frame_meta
  refine (MSameOn.setdefault s.metaD [key K] (unprot_single (key K) (key_ne_key hm))).trans ?_
  refine MSameOn.foldl_except _ ?_ ?_ _ _ _ hm'
  · intro m0 x m1 hx
    simp only [bind, Except.bind, pure, Except.pure] at hx
    split at hx
    · simp only [Except.ok.injEq] at hx; subst hx; exact MSameOn.refl _
    · split at hx
      · obtain ⟨i, _, hx⟩ := bind_ok' hx
        simp only [pure, Except.pure, Except.ok.injEq] at hx
        subst hx
        exact MSameOn.set _ _ _ (unprot_pair _ _ (key_ne_key ho))
      · exact absurd hx (throw_ne_ok _ _)
  · intro e x; rfl

theorem frame_parseGlonassSlot (v : Values) (s s' : State) (h : parseGlonassSlot v s = .ok s') : Frame s s' :=
  frame_pairs "glonass_slot" "slot_" (by simp) (by simp) pyInt .int v s s' h

theorem frame_parseGlonassBias (v : Values) (s s' : State) (h : parseGlonassBias v s = .ok s') : Frame s s' :=
  frame_pairs "glonass_bias" "type_" (by simp) (by simp) pyFloat .num v s s' h

/-! ### `SYS / PHASE SHIFT` (writes `meta["phase_shift"]…` and its own cache fields) -/

theorem frame_meta_cache (s : State) (m' : Meta) (c : Cache) (h : MSame s.metaD m') : Frame s { s with metaD := m', cache := c } :=
  ⟨rfl, rfl, rfl, rfl, rfl, rfl, rfl, h⟩

theorem MSame_ps1 (m : Meta) (sy : Str) :
    MSameOn Prot m (if (m.setdefaultDict [key "phase_shift"]).has [key "phase_shift", sy] = true then m.setdefaultDict [key "phase_shift"]
      else (m.setdefaultDict [key "phase_shift"]).set [key "phase_shift", sy] Leaf.empty) := by
  have h0 := MSameOn.setdefault m [key "phase_shift"] (unprot_single (key "phase_shift") (key_ne_key (by simp)))
  split
  · exact h0
  · exact h0.trans (MSameOn.set _ _ _ (unprot_pair _ _ (key_ne_key (by simp))))

theorem MSame_ps2 (m : Meta) (sy t corr : Str) (l : List Str) :
    MSameOn Prot m (((if (m.setdefaultDict [key "phase_shift"]).has [key "phase_shift", sy] = true then m.setdefaultDict [key "phase_shift"]
      else (m.setdefaultDict [key "phase_shift"]).set [key "phase_shift", sy] Leaf.empty).set
        [key "phase_shift", sy, t, key "corr"] (Leaf.text corr)).set [key "phase_shift", sy, t, key "sat"] (Leaf.list l)) :=
  ((MSame_ps1 m sy).trans (MSameOn.set _ _ _ (unprot_long _))).trans (MSameOn.set _ _ _ (unprot_long _))

theorem frame_parsePhaseShift (v : Values) (s s' : State) (h : parsePhaseShift v s = .ok s') : Frame s s' := by
  unfold parsePhaseShift at h
  simp only [] at h
  obtain ⟨sysf, _, h⟩ := bind_ok' h
  split at h
  · obtain ⟨t0, _, h⟩ := bind_ok' h
    obtain ⟨corr0, _, h⟩ := bind_ok' h
    obtain ⟨c, hc, h⟩ := bind_ok' h
    obtain ⟨sy, _, h⟩ := bind_ok' h
    obtain ⟨sats, _, h⟩ := bind_ok' h
    obtain ⟨old, _, h⟩ := bind_ok' h
    obtain ⟨t, _, h⟩ := bind_ok' h
    split at h
    · obtain ⟨corr, _, h⟩ := bind_ok' h
      simp only [pure, Except.pure, bind, Except.bind, Except.ok.injEq] at h
      subst h
      exact frame_meta_cache s _ _ (MSame_ps2 s.metaD sy t corr _)
    · simp only [pure, Except.pure, bind, Except.bind, Except.ok.injEq] at h
      subst h
      exact frame_meta_cache s _ _ (MSame_ps1 s.metaD sy)
  · obtain ⟨c, hc, h⟩ := bind_ok' h
    obtain ⟨sy, _, h⟩ := bind_ok' h
    obtain ⟨sats, _, h⟩ := bind_ok' h
    obtain ⟨old, _, h⟩ := bind_ok' h
    obtain ⟨t, _, h⟩ := bind_ok' h
    split at h
    · obtain ⟨corr, _, h⟩ := bind_ok' h
      simp only [pure, Except.pure, bind, Except.bind, Except.ok.injEq] at h
      subst h
      exact frame_meta_cache s _ _ (MSame_ps2 s.metaD sy t corr _)
    · simp only [pure, Except.pure, bind, Except.bind, Except.ok.injEq] at h
      subst h
      exact frame_meta_cache s _ _ (MSame_ps1 s.metaD sy)

end Midgard.Spec.Rinex3ObsFile
