/-
C07 — the Kepler round trip over ℝ (`arctan2 y x := arg (x + i y)`), both directions.

Common base: `PQW·(X, Y, 0)` lies on the node frame (`pqw_mulVec`), which gives the two-body relations of every `kepler2trs`
output (`TwoBody`, `kepler2trs_invariants`).  `trs2kepler ∘ kepler2trs` (stated in `Props/C07.lean`) reads the elements back
off these relations (`a` and `e` by `semi_major_recovered`, `eccentricity_recovered`).  `kepler2trs ∘ trs2kepler` for a
bound, inclined state (`Bound`): with `h = r × v`, `ĥ = h/|h|`, the angles `trs2kepler` returns have
  `(cos i, sin i) = (ĥ_z, √(ĥ_x² + ĥ_y²))`                      (`cos_sin_i`)
  `(cos Ω, sin Ω) = (−ĥ_y, ĥ_x)/sin i`                            (`cos_sin_Omega`)
  `(cos u, sin u) = (−x ĥ_y + y ĥ_x, z)/(|r| sin i)`              (`cos_sin_argLat`)
  `e (cos E, sin E) = (1 − |r|/a, r·v/√(GM a))`                   (`Bound.ecc_anomaly`), `|r| = a(1 − e cos E)` (`Bound.radius`)
  `(cos f, sin f) = (cos E − e, √(1 − e²) sin E)/(1 − e cos E)`   (`cos_sin_trueAnomaly`, `trueAnomaly_xy`)
  `ω ≡ u − f (mod 2π)`                                            (`cos_sin_omega`)
so the rebuilt position is `r` (`core_inverse_pos`); the rebuilt velocity is not computed: it has the `r × v` and `r·v` of
the state, and these determine it (`vel_unique`).  For `e = 0` the relations of `Bound.ecc_anomaly` hold with both sides
zero, so the non-circularity `Regular` asks for is not needed.

The coefficients of the `linear_combination`s come from polynomial reduction modulo the unit-circle relations (by hand
or sympy's Gröbner bases); Lean checks each by `ring`.
-/
import Midgard.Proofs.KeplerRanges

namespace Midgard.Geo

theorem V3.sdiv_smul {k : ℝ} (hk : k ≠ 0) (u : V3 ℝ) : (V3.smul k u).sdiv k = u := by
  apply V3.ext' <;> exact mul_div_cancel_left₀ _ hk

theorem cross_lagrange (r v : V3 ℝ) :
    (V3.cross r v).norm2 = r.norm2 * v.norm2 - (V3.dot r v) ^ 2 := by
  simp only [V3.cross, V3.norm2, V3.dot]; ring

theorem norm_mul_self (u : V3 ℝ) : u.norm * u.norm = u.norm2 := by
  rw [← pow_two, V3.norm_sq]

theorem dot_cross_self (u v : V3 ℝ) : V3.dot u (V3.cross u v) = 0 ∧ V3.dot v (V3.cross u v) = 0 := by
  constructor <;> simp only [V3.dot, V3.cross] <;> ring

theorem cos_sin_atan2 (y x n : ℝ) (hn : 0 < n) (h : x ^ 2 + y ^ 2 = n ^ 2) :
    Real.cos (Trig.atan2 y x) = x / n ∧ Real.sin (Trig.atan2 y x) = y / n := by
  have hs : x * x + y * y = n ^ 2 := by rw [← h]; ring
  have h2 := cos_sin_arg (x := x) (y := y) (by rw [hs]; positivity)
  rwa [hs, Real.sqrt_sq hn.le] at h2

end Midgard.Geo

namespace Midgard.Geo.KepInv

/-- `PQW = R3(−Ω) R1(−i) R3(−ω)` of `kepler2trs`, from the cosines and sines of the three angles -/
def pqw (cO sO ci si cw sw : ℝ) : M3 ℝ := ((R3cs cO (-sO)).mul (R1cs ci (-si))).mul (R3cs cw (-sw))

theorem kepler2trsCore_eq (a e fac g cO sO ci si cw sw cE sE : ℝ) :
    kepler2trsCore a e fac g cO (-sO) ci (-si) cw (-sw) cE sE =
      ⟨(pqw cO sO ci si cw sw).mulVec ⟨a * (cE - e), a * fac * sE, 0⟩,
       (pqw cO sO ci si cw sw).mulVec
        ⟨-(g / (a * (1 - e * cE))) * sE, g / (a * (1 - e * cE)) * fac * cE, 0⟩⟩ := rfl

/-- the vector `P N + Q M` of the orbital plane: `N = (cos Ω, sin Ω, 0)` points to the ascending node and
`M = ŵ × N` for the unit normal `ŵ` -/
def nodeFrame (cO sO ci si P Q : ℝ) : V3 ℝ := ⟨cO * P - sO * ci * Q, sO * P + cO * ci * Q, si * Q⟩

/-- the unit vector along the angular momentum (third column of `PQW`) -/
def wHat (cO sO ci si : ℝ) : V3 ℝ := ⟨sO * si, -(cO * si), ci⟩

theorem pqw_mulVec (cO sO ci si cw sw X Y : ℝ) :
    (pqw cO sO ci si cw sw).mulVec ⟨X, Y, 0⟩ = nodeFrame cO sO ci si (X * cw - Y * sw) (X * sw + Y * cw) := by
  apply V3.ext' <;>
    simp only [pqw, nodeFrame, R3cs, R1cs, M3.mul, M3.mulVec, M3.col1, M3.col2, M3.col3, V3.dot] <;> ring

section Frame
variable {cO sO ci si cw sw : ℝ}

theorem nodeFrame_dot (hO : cO ^ 2 + sO ^ 2 = 1) (hi : ci ^ 2 + si ^ 2 = 1) (P Q P' Q' : ℝ) :
    V3.dot (nodeFrame cO sO ci si P Q) (nodeFrame cO sO ci si P' Q') = P * P' + Q * Q' := by
  simp only [nodeFrame, V3.dot]
  linear_combination (P * P' + ci ^ 2 * (Q * Q')) * hO + (Q * Q') * hi

theorem nodeFrame_cross (hO : cO ^ 2 + sO ^ 2 = 1) (P Q P' Q' : ℝ) :
    V3.cross (nodeFrame cO sO ci si P Q) (nodeFrame cO sO ci si P' Q')
      = V3.smul (P * Q' - Q * P') (wHat cO sO ci si) := by
  apply V3.ext' <;> simp only [nodeFrame, wHat, V3.cross, V3.smul]
  · ring
  · ring
  · linear_combination (ci * (P * Q' - Q * P')) * hO

theorem pqw_dot (hO : cO ^ 2 + sO ^ 2 = 1) (hi : ci ^ 2 + si ^ 2 = 1) (hw : cw ^ 2 + sw ^ 2 = 1)
    (X Y X' Y' : ℝ) :
    V3.dot ((pqw cO sO ci si cw sw).mulVec ⟨X, Y, 0⟩) ((pqw cO sO ci si cw sw).mulVec ⟨X', Y', 0⟩)
      = X * X' + Y * Y' := by
  rw [pqw_mulVec, pqw_mulVec, nodeFrame_dot hO hi]
  linear_combination (X * X' + Y * Y') * hw

theorem pqw_cross (hO : cO ^ 2 + sO ^ 2 = 1) (hw : cw ^ 2 + sw ^ 2 = 1) (X Y X' Y' : ℝ) :
    V3.cross ((pqw cO sO ci si cw sw).mulVec ⟨X, Y, 0⟩) ((pqw cO sO ci si cw sw).mulVec ⟨X', Y', 0⟩)
      = V3.smul (X * Y' - Y * X') (wHat cO sO ci si) := by
  rw [pqw_mulVec, pqw_mulVec, nodeFrame_cross hO]
  congr 1
  linear_combination (X * Y' - Y * X') * hw

end Frame

theorem atan2_wHat {Om i : ℝ} (hi0 : 0 < i) (hi1 : i < Real.pi) (hO : Om ∈ Set.Ioc (-Real.pi) Real.pi) :
    Trig.atan2 (Real.sqrt (Real.sin Om * Real.sin i * (Real.sin Om * Real.sin i)
      + -(Real.cos Om * Real.sin i) * -(Real.cos Om * Real.sin i))) (Real.cos i) = i ∧
    Trig.atan2 (Real.sin Om * Real.sin i) (-(-(Real.cos Om * Real.sin i))) = Om := by
  have hsi : 0 < Real.sin i := Real.sin_pos_of_pos_of_lt_pi hi0 hi1
  have h2 : Real.sin Om * Real.sin i * (Real.sin Om * Real.sin i)
      + -(Real.cos Om * Real.sin i) * -(Real.cos Om * Real.sin i) = Real.sin i ^ 2 := by
    linear_combination (Real.sin i ^ 2) * Real.cos_sq_add_sin_sq Om
  constructor
  · have h := atan2_pos_mul 1 i one_pos ⟨by linarith, hi1.le⟩
    rwa [one_mul, one_mul, ← Real.sqrt_sq hsi.le, ← h2] at h
  · rw [neg_neg, mul_comm (Real.sin Om), mul_comm (Real.cos Om)]
    exact atan2_pos_mul _ Om hsi hO

/-- `kepler2trs` spells the radicand of `√(1 − e²)` as `(1 − e)(1 + e)`, `trs2kepler` and `trueAnomaly` as `1 − e·e` -/
theorem fac_spec {e : ℝ} (he0 : 0 ≤ e) (he1 : e < 1) :
    Real.sqrt (1 - e * e) = Real.sqrt ((1 - e) * (1 + e)) ∧
    Real.sqrt ((1 - e) * (1 + e)) ^ 2 = (1 - e) * (1 + e) ∧ 0 < Real.sqrt ((1 - e) * (1 + e)) := by
  have h0 : 0 < (1 - e) * (1 + e) := mul_pos (sub_pos.mpr he1) (by linarith)
  exact ⟨by congr 1; ring, Real.sq_sqrt h0.le, Real.sqrt_pos.mpr h0⟩

/-- the two-body relations of a state `S` with the elements `a`, `e` and the cosines and sines of the four angles (`fac` for
`√(1 − e²)`, `g` for `√(GM a)`); `latZ`, `latX`: the argument-of-latitude pair `trs2kepler` feeds into `arctan2` -/
structure TwoBody (GM a e fac g cO sO ci si cw sw cE sE : ℝ) (S : V6 ℝ) : Prop where
  radius : S.p.norm = a * (1 - e * cE)
  visViva : S.v.norm * S.v.norm = GM * (2 / (a * (1 - e * cE)) - 1 / a)
  cross : V3.cross S.p S.v = V3.smul (fac * g) (wHat cO sO ci si)
  crossNorm : (V3.cross S.p S.v).norm = fac * g
  dot : V3.dot S.p S.v = g * e * sE
  latZ : S.p.z = si * (sw * (a * (cE - e)) + cw * (a * fac * sE))
  latX : -S.p.x * -(cO * si) + S.p.y * (sO * si) = si * (cw * (a * (cE - e)) - sw * (a * fac * sE))

theorem kepler2trs_invariants (GM : ℝ) (k : Kep ℝ) (hGM : 0 < GM) (ha : 0 < k.a) (he0 : 0 ≤ k.e) (he1 : k.e < 1) :
    TwoBody GM k.a k.e (Real.sqrt ((1 - k.e) * (1 + k.e))) (Real.sqrt (GM * k.a)) (Real.cos k.Omega) (Real.sin k.Omega)
      (Real.cos k.i) (Real.sin k.i) (Real.cos k.omega) (Real.sin k.omega) (Real.cos k.E) (Real.sin k.E)
      (kepler2trs GM k) := by
  obtain ⟨a, e, i, Om, om, E⟩ := k
  simp only at ha he0 he1 ⊢
  have hrpos : 0 < a * (1 - e * Real.cos E) := mul_pos ha (one_sub_mul_cos_pos he0 he1 E)
  have hv : Real.sqrt (GM * a) / (a * (1 - e * Real.cos E)) * (a * (1 - e * Real.cos E)) = Real.sqrt (GM * a) :=
    div_mul_cancel₀ _ hrpos.ne'
  have hfac := (fac_spec he0 he1).2.1
  have hg : Real.sqrt (GM * a) ^ 2 = GM * a := Real.sq_sqrt (mul_pos hGM ha).le
  have hfg : 0 ≤ Real.sqrt ((1 - e) * (1 + e)) * Real.sqrt (GM * a) := mul_nonneg (Real.sqrt_nonneg _) (Real.sqrt_nonneg _)
  have hO := Real.cos_sq_add_sin_sq Om
  have hi := Real.cos_sq_add_sin_sq i
  have hw := Real.cos_sq_add_sin_sq om
  have hE := Real.cos_sq_add_sin_sq E
  simp only [kepler2trs, trig_cos, trig_sin, trig_sqrt, Real.cos_neg, Real.sin_neg, kepler2trsCore_eq]
  -- from here on only the unit-circle relations and `fac² = (1−e)(1+e)`, `g² = GM a`, `v r = g` are used
  generalize Real.sqrt ((1 - e) * (1 + e)) = fac at hfac hfg ⊢
  generalize Real.sqrt (GM * a) / (a * (1 - e * Real.cos E)) = v at hv ⊢
  generalize Real.sqrt (GM * a) = g at hg hv hfg ⊢
  generalize Real.cos Om = cO at hO ⊢
  generalize Real.sin Om = sO at hO ⊢
  generalize Real.cos i = ci at hi ⊢
  generalize Real.sin i = si at hi ⊢
  generalize Real.cos om = cw at hw ⊢
  generalize Real.sin om = sw at hw ⊢
  generalize Real.cos E = cE at hE hv hrpos ⊢
  generalize Real.sin E = sE at hE ⊢
  have hcross : V3.cross ((pqw cO sO ci si cw sw).mulVec ⟨a * (cE - e), a * fac * sE, 0⟩)
      ((pqw cO sO ci si cw sw).mulVec ⟨-v * sE, v * fac * cE, 0⟩) = V3.smul (fac * g) (wHat cO sO ci si) := by
    rw [pqw_cross hO hw]
    congr 1
    linear_combination (a * v * fac) * hE + fac * hv
  refine ⟨?_, ?_, hcross, ?_, ?_, ?_, ?_⟩
  · rw [V3.norm_eq, V3.norm2, pqw_dot hO hi hw, ← Real.sqrt_sq hrpos.le]
    congr 1
    linear_combination (a ^ 2 * fac ^ 2) * hE + (a ^ 2 * (1 - cE ^ 2)) * hfac
  · rw [← pow_two, V3.norm_sq, V3.norm2, pqw_dot hO hi hw]
    have hv2 : v ^ 2 * (a * (1 - e * cE)) ^ 2 = GM * a := by rw [← mul_pow, hv, hg]
    have hrhs : GM * (2 / (a * (1 - e * cE)) - 1 / a) = GM * (1 + e * cE) / (a * (1 - e * cE)) := by
      rw [div_sub_div _ _ hrpos.ne' ha.ne', ← mul_div_assoc, div_eq_div_iff (mul_ne_zero hrpos.ne' ha.ne') hrpos.ne']
      ring
    rw [hrhs, eq_div_iff hrpos.ne']
    apply mul_right_cancel₀ hrpos.ne'
    linear_combination (sE ^ 2 + fac ^ 2 * cE ^ 2) * hv2 + (GM * a) * hE + (GM * a * cE ^ 2) * hfac
  · have hn2 : (V3.smul (fac * g) (wHat cO sO ci si)).norm2 = (fac * g) ^ 2 := by
      simp only [V3.smul, wHat, V3.norm2, V3.dot]
      linear_combination ((fac * g) ^ 2 * si ^ 2) * hO + (fac * g) ^ 2 * hi
    rw [hcross, V3.norm_eq, hn2, Real.sqrt_sq hfg]
  · rw [pqw_dot hO hi hw]
    linear_combination (a * v * sE * cE) * hfac + (e * sE) * hv
  · rw [pqw_mulVec]
    simp only [nodeFrame]
    ring
  · rw [pqw_mulVec]
    simp only [nodeFrame]
    linear_combination (si * (a * (cE - e) * cw - a * fac * sE * sw)) * hO

/-- `trs2kepler` recovers the semi-major axis: `1 / (2/r − v²/GM) = a` whenever vis-viva `v² = GM (2/r − 1/a)` holds -/
theorem semi_major_recovered (GM a r v2 : ℝ) (hGM : GM ≠ 0) (ha : a ≠ 0) (hr : r ≠ 0)
    (hvv : v2 = GM * (2 / r - 1 / a)) :
    1 / ((1 + 1) / r - v2 / GM) = a := by
  have h : (1 + 1) / r - GM * (2 / r - 1 / a) / GM = 1 / a := by
    field_simp
    ring
  rw [hvv, h, one_div_one_div]

/-- … and the eccentricity: `√(1 − p/a) = e` for `p = ‖h‖²/GM`, `‖h‖² = GM a (1 − e²)`, `e ≥ 0` -/
theorem eccentricity_recovered (GM a e h2 : ℝ) (hGM : GM ≠ 0) (ha : a ≠ 0) (he : 0 ≤ e)
    (hh : h2 = GM * a * (1 - e ^ 2)) :
    Real.sqrt (1 - h2 / GM / a) = e := by
  have : 1 - h2 / GM / a = e ^ 2 := by rw [hh]; field_simp; ring
  rw [this, Real.sqrt_sq he]

/-- for a unit vector `u` with `q² = u_x² + u_y² ≠ 0` and `w ⊥ u`: `w` is recovered from its two coordinates
`(−w_x u_y + w_y u_x)/q` (along the node) and `w_z/q` on the node frame of `u` -/
theorem frame_recover (wx wy wz ux uy uz q : ℝ) (hq : q ≠ 0) (hq2 : q * q = ux * ux + uy * uy)
    (hperp : wx * ux + wy * uy + wz * uz = 0) :
    (-uy / q) * ((-wx * uy + wy * ux) / q) - (ux / q) * uz * (wz / q) = wx ∧
    (ux / q) * ((-wx * uy + wy * ux) / q) + (-uy / q) * uz * (wz / q) = wy ∧
    q * (wz / q) = wz := by
  refine ⟨?_, ?_, ?_⟩
  · field_simp
    linear_combination (-ux) * hperp - wx * hq2
  · field_simp
    linear_combination (-uy) * hperp - wy * hq2
  · field_simp

/-- a velocity is determined by the position, the angular momentum and `r·v`: `|r|² v = (r·v) r + (r × v) × r` -/
theorem vel_unique {r v v' : V3 ℝ} (hr : r.norm2 ≠ 0) (hh : V3.cross r v = V3.cross r v')
    (hd : V3.dot r v = V3.dot r v') : v = v' := by
  have hx := congrArg V3.x hh
  have hy := congrArg V3.y hh
  have hz := congrArg V3.z hh
  simp only [V3.cross] at hx hy hz
  simp only [V3.norm2, V3.dot] at hr hd
  apply V3.ext' <;> apply mul_left_cancel₀ hr
  · linear_combination r.x * hd + r.z * hy - r.y * hz
  · linear_combination r.y * hd + r.x * hz - r.z * hx
  · linear_combination r.z * hd + r.y * hx - r.x * hy

/-- the position half of the algebraic core.  `(x, y, z)` the position, `R = |r|`, `(ux, uy, uz) = ĥ`, `q = sin i`
(`q² = ĥ_x² + ĥ_y²`); `(cO, sO)`, `(ci, si)` node and inclination as read off `ĥ`, `(cu, su)` the argument of latitude,
`(cf, sf)` the true anomaly, `(cw, sw)` of `ω = u − f`.  The in-plane position `R (cf, sf)` turned by `ω` is `R (cu, su)`,
and placed on the node frame of `ĥ` it is `(x, y, z)`. -/
theorem core_inverse_pos {x y z a e fac cO sO ci si cw sw cE sE R q ux uy uz cf sf cu su : ℝ}
    (hR : R ≠ 0) (hq : q ≠ 0) (hq2 : q * q = ux * ux + uy * uy)
    (hperp : x * ux + y * uy + z * uz = 0)
    (hcO : cO = -uy / q) (hsO : sO = ux / q) (hci : ci = uz) (hsi : si = q)
    (hcu : cu = (-x * uy + y * ux) / (q * R)) (hsu : su = z / (q * R))
    (hcw : cw = cu * cf + su * sf) (hsw : sw = su * cf - cu * sf)
    (hX : a * (cE - e) = R * cf) (hY : a * fac * sE = R * sf) (hcf1 : cf ^ 2 + sf ^ 2 = 1) :
    (pqw cO sO ci si cw sw).mulVec ⟨a * (cE - e), a * fac * sE, 0⟩ = ⟨x, y, z⟩ := by
  have hcu' : cu * (q * R) = -x * uy + y * ux := (eq_div_iff (mul_ne_zero hq hR)).mp hcu
  have hsu' : su * (q * R) = z := (eq_div_iff (mul_ne_zero hq hR)).mp hsu
  have hXp : a * (cE - e) * cw - a * fac * sE * sw = (-x * uy + y * ux) / q := by
    rw [eq_div_iff hq, hX, hY, hcw, hsw]
    linear_combination (R * cu * q) * hcf1 + hcu'
  have hYp : a * (cE - e) * sw + a * fac * sE * cw = z / q := by
    rw [eq_div_iff hq, hX, hY, hcw, hsw]
    linear_combination (R * su * q) * hcf1 + hsu'
  obtain ⟨fpx, fpy, fpz⟩ := frame_recover x y z ux uy uz q hq hq2 hperp
  rw [pqw_mulVec, hXp, hYp, hcO, hsO, hci, hsi]
  simp only [nodeFrame]
  rw [fpx, fpy, fpz]

section State
variable (GM : ℝ) (s : V6 ℝ)

/-- angular momentum `h = r × v` -/
noncomputable def hvec : V3 ℝ := V3.cross s.p s.v
noncomputable def hU : V3 ℝ := (hvec s).sdiv (hvec s).norm
/-- `sqrt(ĥ_x² + ĥ_y²)` (the sine of the inclination) -/
noncomputable def sinI : ℝ := Real.sqrt ((hU s).x * (hU s).x + (hU s).y * (hU s).y)
/-- the argument of latitude `u = arctan2(z, -x ĥ_y + y ĥ_x)` -/
noncomputable def argLat : ℝ := Trig.atan2 s.p.z (-s.p.x * (hU s).y + s.p.y * (hU s).x)

theorem trs2kepler_i : (trs2kepler GM s).i = Trig.atan2 (sinI s) (hU s).z := rfl
theorem trs2kepler_Omega : (trs2kepler GM s).Omega = Trig.atan2 (hU s).x (-(hU s).y) := rfl
theorem trs2kepler_E : (trs2kepler GM s).E = Trig.atan2 (V3.dot s.p s.v)
    ((trs2kepler GM s).a * (trs2kepler GM s).a * Real.sqrt (GM / cube (trs2kepler GM s).a)
      * (1 - s.p.norm / (trs2kepler GM s).a)) := rfl
theorem trs2kepler_omega : (trs2kepler GM s).omega =
    if argLat s - trueAnomaly (trs2kepler GM s).e (trs2kepler GM s).E < 0
    then argLat s - trueAnomaly (trs2kepler GM s).e (trs2kepler GM s).E + (1 + 1) * Real.pi
    else argLat s - trueAnomaly (trs2kepler GM s).e (trs2kepler GM s).E := rfl

end State

section Angles
variable (GM : ℝ) (s : V6 ℝ)

theorem hvec_norm2_ne (hincl : (hvec s).x ^ 2 + (hvec s).y ^ 2 ≠ 0) : (hvec s).norm2 ≠ 0 := by
  have h0 : 0 < (hvec s).x ^ 2 + (hvec s).y ^ 2 :=
    lt_of_le_of_ne (by positivity) (Ne.symm hincl)
  have : 0 < (hvec s).norm2 := by
    simp only [V3.norm2, V3.dot]; nlinarith [mul_self_nonneg (hvec s).z]
  exact this.ne'

theorem hU_mul (hincl : (hvec s).x ^ 2 + (hvec s).y ^ 2 ≠ 0) :
    (hvec s).norm * (hU s).x = (hvec s).x ∧ (hvec s).norm * (hU s).y = (hvec s).y ∧
    (hvec s).norm * (hU s).z = (hvec s).z := by
  have hp := (V3.norm_pos (hvec_norm2_ne s hincl)).ne'
  simp only [hU, V3.sdiv]
  refine ⟨?_, ?_, ?_⟩ <;> field_simp

theorem hU_unit (hincl : (hvec s).x ^ 2 + (hvec s).y ^ 2 ≠ 0) :
    (hU s).x * (hU s).x + (hU s).y * (hU s).y + (hU s).z * (hU s).z = 1 :=
  V3.unit_norm2 (hvec_norm2_ne s hincl)

theorem sinI_sq : sinI s * sinI s = (hU s).x * (hU s).x + (hU s).y * (hU s).y :=
  Real.mul_self_sqrt (by nlinarith [mul_self_nonneg (hU s).x, mul_self_nonneg (hU s).y])

theorem sinI_pos (hincl : (hvec s).x ^ 2 + (hvec s).y ^ 2 ≠ 0) : 0 < sinI s := by
  obtain ⟨ex, ey, _⟩ := hU_mul s hincl
  have h : 0 < (hvec s).norm ^ 2 * ((hU s).x * (hU s).x + (hU s).y * (hU s).y) := by
    rw [show (hvec s).norm ^ 2 * ((hU s).x * (hU s).x + (hU s).y * (hU s).y)
      = ((hvec s).norm * (hU s).x) ^ 2 + ((hvec s).norm * (hU s).y) ^ 2 by ring, ex, ey]
    exact lt_of_le_of_ne (by positivity) (Ne.symm hincl)
  exact Real.sqrt_pos.mpr ((mul_pos_iff_of_pos_left (pow_pos (V3.norm_pos (hvec_norm2_ne s hincl)) 2)).mp h)

theorem cos_sin_i (hincl : (hvec s).x ^ 2 + (hvec s).y ^ 2 ≠ 0) :
    Real.cos (trs2kepler GM s).i = (hU s).z ∧ Real.sin (trs2kepler GM s).i = sinI s := by
  have h := cos_sin_atan2 (sinI s) (hU s).z 1 one_pos (by
    have h1 := hU_unit s hincl
    have h2 := sinI_sq s
    linear_combination h1 + h2)
  rw [trs2kepler_i]
  simpa using h

theorem cos_sin_Omega (hincl : (hvec s).x ^ 2 + (hvec s).y ^ 2 ≠ 0) :
    Real.cos (trs2kepler GM s).Omega = -(hU s).y / sinI s ∧
    Real.sin (trs2kepler GM s).Omega = (hU s).x / sinI s := by
  rw [trs2kepler_Omega]
  exact cos_sin_atan2 (hU s).x (-(hU s).y) (sinI s) (sinI_pos s hincl) (by
    have h2 := sinI_sq s
    linear_combination -h2)

theorem perp_hU :
    s.p.x * (hU s).x + s.p.y * (hU s).y + s.p.z * (hU s).z = 0 ∧
    s.v.x * (hU s).x + s.v.y * (hU s).y + s.v.z * (hU s).z = 0 := by
  obtain ⟨hp, hv⟩ := dot_cross_self s.p s.v
  simp only [V3.dot] at hp hv
  simp only [hU, hvec, V3.sdiv, ← mul_div_assoc, ← add_div]
  rw [hp, hv, zero_div]
  exact ⟨rfl, rfl⟩

theorem cos_sin_argLat (hr : s.p.norm2 ≠ 0) (hincl : (hvec s).x ^ 2 + (hvec s).y ^ 2 ≠ 0) :
    Real.cos (argLat s) = (-s.p.x * (hU s).y + s.p.y * (hU s).x) / (sinI s * s.p.norm) ∧
    Real.sin (argLat s) = s.p.z / (sinI s * s.p.norm) := by
  have hR := V3.norm_pos hr
  have hR2 : s.p.norm * s.p.norm = s.p.x * s.p.x + s.p.y * s.p.y + s.p.z * s.p.z := norm_mul_self s.p
  have hq := sinI_pos s hincl
  have hq2 := sinI_sq s
  have hu1 := hU_unit s hincl
  obtain ⟨hperp, _⟩ := perp_hU s
  refine cos_sin_atan2 s.p.z _ (sinI s * s.p.norm) (mul_pos hq hR) ?_
  linear_combination (-(s.p.norm * s.p.norm)) * hq2 - ((hU s).x * (hU s).x + (hU s).y * (hU s).y) * hR2
    - (s.p.x * (hU s).x + s.p.y * (hU s).y - s.p.z * (hU s).z) * hperp - (s.p.z * s.p.z) * hu1

end Angles

/-- a bound (negative energy), inclined (`h` not along the z axis), non-circular state -/
structure Regular (GM : ℝ) (s : V6 ℝ) : Prop where
  hGM : 0 < GM
  hr : s.p.norm2 ≠ 0
  bound : s.v.norm2 < 2 * GM / s.p.norm
  inclined : (V3.cross s.p s.v).x ^ 2 + (V3.cross s.p s.v).y ^ 2 ≠ 0
  noncircular : 0 < (trs2kepler GM s).e

/-- a bound, inclined state: `Regular` without the non-circularity, which the inverse does not need -/
structure Bound (GM : ℝ) (s : V6 ℝ) : Prop where
  hGM : 0 < GM
  hr : s.p.norm2 ≠ 0
  bound : s.v.norm2 < 2 * GM / s.p.norm
  inclined : (V3.cross s.p s.v).x ^ 2 + (V3.cross s.p s.v).y ^ 2 ≠ 0

theorem Regular.toBound {GM : ℝ} {s : V6 ℝ} (h : Regular GM s) : Bound GM s := ⟨h.hGM, h.hr, h.bound, h.inclined⟩

theorem sq_mul_meanMotion (GM a : ℝ) (ha : 0 < a) : a * a * Real.sqrt (GM / cube a) = Real.sqrt (GM * a) := by
  have h2 : a * a = Real.sqrt ((a * a) ^ 2) := by rw [Real.sqrt_sq (by positivity)]
  rw [h2, ← Real.sqrt_mul (by positivity)]
  congr 1
  simp only [cube]
  field_simp

section Anomaly
variable {GM : ℝ} {s : V6 ℝ}

theorem Bound.r_pos (h : Bound GM s) : 0 < s.p.norm := V3.norm_pos h.hr

theorem Bound.h_pos (h : Bound GM s) : 0 < (hvec s).norm :=
  V3.norm_pos (hvec_norm2_ne s h.inclined)

theorem Bound.a_pos (h : Bound GM s) : 0 < (trs2kepler GM s).a :=
  trs2kepler_bound GM s h.hGM h.r_pos (by rw [norm_mul_self]; exact h.bound)

theorem Bound.e_lt_one (h : Bound GM s) : (trs2kepler GM s).e < 1 :=
  trs2kepler_e_lt_one GM s h.hGM h.a_pos h.h_pos.ne'

theorem inv_a (GM : ℝ) (s : V6 ℝ) :
    1 / (trs2kepler GM s).a = 2 / s.p.norm - s.v.norm2 / GM := by
  rw [trs2kepler_a, one_div_one_div, norm_mul_self]
  norm_num

/-- `GM a (1 − p/a) = GM a (1 − |r|/a)² + (r·v)²`: the quantity under the square root of `e` is
non-negative for every bound state, and positive as soon as `r·v ≠ 0` or `|r| ≠ a` -/
theorem ecc_radicand (GM : ℝ) (s : V6 ℝ) (hGM : 0 < GM) (hr : s.p.norm2 ≠ 0) (ha : 0 < (trs2kepler GM s).a) :
    GM * (trs2kepler GM s).a * (1 - (V3.cross s.p s.v).norm2 / GM / (trs2kepler GM s).a)
      = GM * (trs2kepler GM s).a * (1 - s.p.norm / (trs2kepler GM s).a) ^ 2 + (V3.dot s.p s.v) ^ 2 := by
  have hR := (V3.norm_pos hr).ne'
  have hia := inv_a GM s
  have key : GM * s.p.norm = (trs2kepler GM s).a * (2 * GM - s.v.norm2 * s.p.norm) := by
    field_simp at hia
    linear_combination hia
  rw [cross_lagrange, ← V3.norm_sq s.p]
  field_simp
  linear_combination (-s.p.norm) * key

/-- of every state: no `Bound` hypothesis, so it is called as `Bound.e_nonneg GM s` -/
theorem Bound.e_nonneg (GM : ℝ) (s : V6 ℝ) : 0 ≤ (trs2kepler GM s).e := by
  rw [trs2kepler_e]
  exact Real.sqrt_nonneg _

/-- `e² = 1 − |h|²/(GM a)`: the radicand is not negative for a bound state (`ecc_radicand`) -/
theorem Bound.e_sq (h : Bound GM s) :
    (trs2kepler GM s).e ^ 2 = 1 - (hvec s).norm2 / GM / (trs2kepler GM s).a := by
  have hGMa : 0 < GM * (trs2kepler GM s).a := mul_pos h.hGM h.a_pos
  have hrad : 0 ≤ 1 - (V3.cross s.p s.v).norm2 / GM / (trs2kepler GM s).a := by
    refine le_of_mul_le_mul_left ?_ hGMa
    rw [mul_zero, ecc_radicand GM s h.hGM h.hr h.a_pos]
    positivity
  rw [trs2kepler_e, Real.sq_sqrt (by rw [norm_mul_self]; exact hrad), norm_mul_self]
  rfl

/-- the eccentric anomaly without dividing by `e`: for `e = 0` both sides vanish -/
theorem Bound.ecc_anomaly (h : Bound GM s) :
    (trs2kepler GM s).e * Real.cos (trs2kepler GM s).E = 1 - s.p.norm / (trs2kepler GM s).a ∧
    Real.sqrt (GM * (trs2kepler GM s).a) * (trs2kepler GM s).e * Real.sin (trs2kepler GM s).E = V3.dot s.p s.v := by
  have ha := h.a_pos
  have hGM := h.hGM
  have hg : 0 < Real.sqrt (GM * (trs2kepler GM s).a) := Real.sqrt_pos.mpr (by positivity)
  -- the point `(g(1 − |r|/a), r·v)` fed into `arctan2` for `E` has length `g e`
  have hid : (Real.sqrt (GM * (trs2kepler GM s).a) * (1 - s.p.norm / (trs2kepler GM s).a)) ^ 2 + V3.dot s.p s.v ^ 2
      = (Real.sqrt (GM * (trs2kepler GM s).a) * (trs2kepler GM s).e) ^ 2 := by
    rw [mul_pow, mul_pow, Real.sq_sqrt (by positivity), h.e_sq]
    exact (ecc_radicand GM s hGM h.hr ha).symm
  rcases (Bound.e_nonneg GM s).eq_or_lt with he | he
  · -- circular: the point is the origin
    rw [← he, mul_zero, zero_pow two_ne_zero] at hid
    have h1 : Real.sqrt (GM * (trs2kepler GM s).a) * (1 - s.p.norm / (trs2kepler GM s).a) = 0 := by nlinarith [sq_nonneg (V3.dot s.p s.v)]
    have h2 : V3.dot s.p s.v = 0 := by nlinarith [sq_nonneg (Real.sqrt (GM * (trs2kepler GM s).a) * (1 - s.p.norm / (trs2kepler GM s).a))]
    rw [← he, zero_mul, mul_zero, zero_mul, h2]
    exact ⟨((mul_eq_zero.mp h1).resolve_left hg.ne').symm, rfl⟩
  · obtain ⟨hc, hs⟩ := cos_sin_atan2 (V3.dot s.p s.v) _ _ (mul_pos hg he) hid
    rw [trs2kepler_E, sq_mul_meanMotion GM _ ha, hc, hs]
    constructor <;> field_simp

theorem Bound.radius (h : Bound GM s) :
    (trs2kepler GM s).a * (1 - (trs2kepler GM s).e * Real.cos (trs2kepler GM s).E) = s.p.norm := by
  have ha := h.a_pos.ne'
  rw [h.ecc_anomaly.1]
  field_simp
  ring

theorem radius_eq (h : Regular GM s) :
    (trs2kepler GM s).a * (1 - (trs2kepler GM s).e * Real.cos (trs2kepler GM s).E) = s.p.norm :=
  h.toBound.radius

theorem cos_sin_trueAnomaly (e E : ℝ) (he0 : 0 ≤ e) (he1 : e < 1) :
    Real.cos (trueAnomaly e E) = (Real.cos E - e) / (1 - e * Real.cos E) ∧
    Real.sin (trueAnomaly e E) = Real.sqrt (1 - e * e) * Real.sin E / (1 - e * Real.cos E) := by
  refine cos_sin_atan2 _ _ _ (one_sub_mul_cos_pos he0 he1 E) ?_
  simp only [trig_sqrt, trig_sin, trig_cos]
  rw [mul_pow, Real.sq_sqrt (one_sub_sq_pos he0 he1).le]
  linear_combination (1 - e * e) * Real.cos_sq_add_sin_sq E

/-- `cos_sin_trueAnomaly` cleared of the denominator, in the spelling of `kepler2trs` -/
theorem trueAnomaly_xy (e E : ℝ) (he0 : 0 ≤ e) (he1 : e < 1) :
    Real.cos E - e = (1 - e * Real.cos E) * Real.cos (trueAnomaly e E) ∧
    Real.sqrt ((1 - e) * (1 + e)) * Real.sin E = (1 - e * Real.cos E) * Real.sin (trueAnomaly e E) := by
  have h1 := (one_sub_mul_cos_pos he0 he1 E).ne'
  obtain ⟨hc, hs⟩ := cos_sin_trueAnomaly e E he0 he1
  rw [hc, hs, (fac_spec he0 he1).1, mul_div_cancel₀ _ h1, mul_div_cancel₀ _ h1]
  exact ⟨rfl, rfl⟩

theorem cos_sin_wrap (t : ℝ) :
    Real.cos (if t < 0 then t + (1 + 1) * Real.pi else t) = Real.cos t ∧
    Real.sin (if t < 0 then t + (1 + 1) * Real.pi else t) = Real.sin t := by
  have h2 : (1 + 1) * Real.pi = 2 * Real.pi := by ring
  split_ifs
  · rw [h2, Real.cos_add_two_pi, Real.sin_add_two_pi]; exact ⟨rfl, rfl⟩
  · exact ⟨rfl, rfl⟩

theorem cos_sin_omega (GM : ℝ) (s : V6 ℝ) :
    Real.cos (trs2kepler GM s).omega
      = Real.cos (argLat s) * Real.cos (trueAnomaly (trs2kepler GM s).e (trs2kepler GM s).E)
        + Real.sin (argLat s) * Real.sin (trueAnomaly (trs2kepler GM s).e (trs2kepler GM s).E) ∧
    Real.sin (trs2kepler GM s).omega
      = Real.sin (argLat s) * Real.cos (trueAnomaly (trs2kepler GM s).e (trs2kepler GM s).E)
        - Real.cos (argLat s) * Real.sin (trueAnomaly (trs2kepler GM s).e (trs2kepler GM s).E) := by
  rw [trs2kepler_omega, (cos_sin_wrap _).1, (cos_sin_wrap _).2, Real.cos_sub, Real.sin_sub]
  exact ⟨rfl, rfl⟩

end Anomaly

section Main
variable (GM : ℝ) (s : V6 ℝ)

theorem h_norm_eq (h : Bound GM s) :
    (hvec s).norm = Real.sqrt (GM * (trs2kepler GM s).a) * Real.sqrt ((1 - (trs2kepler GM s).e) * (1 + (trs2kepler GM s).e)) := by
  have hGM := h.hGM
  have ha := h.a_pos
  have he := Bound.e_nonneg GM s
  have he1 := h.e_lt_one
  have hg2 : Real.sqrt (GM * (trs2kepler GM s).a) ^ 2 = GM * (trs2kepler GM s).a := Real.sq_sqrt (by positivity)
  have hfac2 : Real.sqrt ((1 - (trs2kepler GM s).e) * (1 + (trs2kepler GM s).e)) ^ 2 = 1 - (trs2kepler GM s).e ^ 2 := by
    rw [(fac_spec he he1).2.1]
    ring
  apply (sq_eq_sq₀ h.h_pos.le (by positivity)).mp
  rw [V3.norm_sq, mul_pow, hg2, hfac2, h.e_sq]
  field_simp
  ring

/-- **`kepler2trs ∘ trs2kepler = id`** over ℝ for every bound, inclined state, circular or not -/
theorem kepler2trs_trs2kepler_of_bound (h : Bound GM s) : kepler2trs GM (trs2kepler GM s) = s := by
  have hGM := h.hGM
  have ha := h.a_pos
  have he := Bound.e_nonneg GM s
  have he1 := h.e_lt_one
  have hq := (sinI_pos s h.inclined).ne'
  have hgpos : 0 < Real.sqrt (GM * (trs2kepler GM s).a) := Real.sqrt_pos.mpr (by positivity)
  obtain ⟨hX, hY⟩ := trueAnomaly_xy (trs2kepler GM s).e (trs2kepler GM s).E he he1
  obtain ⟨hci, hsi⟩ := cos_sin_i GM s h.inclined
  obtain ⟨hcO, hsO⟩ := cos_sin_Omega GM s h.inclined
  obtain ⟨hcu, hsu⟩ := cos_sin_argLat s h.hr h.inclined
  obtain ⟨hcw, hsw⟩ := cos_sin_omega GM s
  obtain ⟨ex, ey, ez⟩ := hU_mul s h.inclined
  have hN := h_norm_eq GM s h
  have hinv := kepler2trs_invariants GM (trs2kepler GM s) hGM ha he he1
  have hcross := hinv.cross
  have hdot := hinv.dot
  have hp : (kepler2trs GM (trs2kepler GM s)).p = s.p := by
    simp only [kepler2trs, trig_cos, trig_sin, trig_sqrt, Real.cos_neg, Real.sin_neg, kepler2trsCore_eq]
    refine core_inverse_pos h.r_pos.ne' hq (sinI_sq s) (perp_hU s).1 hcO hsO hci hsi hcu hsu hcw hsw ?_ ?_
      (Real.cos_sq_add_sin_sq _)
    · linear_combination (trs2kepler GM s).a * hX + Real.cos (trueAnomaly (trs2kepler GM s).e (trs2kepler GM s).E) * h.radius
    · linear_combination (trs2kepler GM s).a * hY + Real.sin (trueAnomaly (trs2kepler GM s).e (trs2kepler GM s).E) * h.radius
  rw [hp] at hcross hdot
  refine V6.ext' hp (vel_unique h.hr ?_ ?_)
  · rw [hcross]
    have hsOi : Real.sin (trs2kepler GM s).Omega * Real.sin (trs2kepler GM s).i = (hU s).x := by
      rw [hsO, hsi, div_mul_cancel₀ _ hq]
    have hcOi : Real.cos (trs2kepler GM s).Omega * Real.sin (trs2kepler GM s).i = -(hU s).y := by
      rw [hcO, hsi, div_mul_cancel₀ _ hq]
    apply V3.ext' <;> simp only [V3.smul, wHat, hsOi, hcOi, hci]
    · show _ = (hvec s).x
      linear_combination ex - (hU s).x * hN
    · show _ = (hvec s).y
      linear_combination ey - (hU s).y * hN
    · show _ = (hvec s).z
      linear_combination ez - (hU s).z * hN
  · rw [hdot, h.ecc_anomaly.2]

/-- … in particular for the non-circular ones -/
theorem kepler2trs_trs2kepler (h : Regular GM s) : kepler2trs GM (trs2kepler GM s) = s :=
  kepler2trs_trs2kepler_of_bound GM s h.toBound

theorem kepler2trs_trs2kepler_pos (h : Regular GM s) : (kepler2trs GM (trs2kepler GM s)).p = s.p := by
  rw [kepler2trs_trs2kepler GM s h]

theorem kepler2trs_trs2kepler_vel (h : Regular GM s) : (kepler2trs GM (trs2kepler GM s)).v = s.v := by
  rw [kepler2trs_trs2kepler GM s h]

theorem e_pos_iff (hGM : 0 < GM) (ha : 0 < (trs2kepler GM s).a) :
    0 < (trs2kepler GM s).e ↔ (V3.cross s.p s.v).norm2 < GM * (trs2kepler GM s).a := by
  rw [trs2kepler_e, Real.sqrt_pos, norm_mul_self, sub_pos, div_div, div_lt_one (by positivity)]

end Main

/-- `GM = 1`, `r = (1, 0, 0)`, `v = (0, 1/2, 1/2)`: `a = 2/3`, `|h|² = 1/2`, `e = 1/2`, `i = 45°` -/
theorem regular_example : Regular 1 (⟨⟨1, 0, 0⟩, ⟨0, 1 / 2, 1 / 2⟩⟩ : V6 ℝ) := by
  have hpn : (⟨1, 0, 0⟩ : V3 ℝ).norm = 1 := by simp [V3.norm]
  have hv2 : (⟨0, 1 / 2, 1 / 2⟩ : V3 ℝ).norm2 = 1 / 2 := by norm_num [V3.norm2, V3.dot]
  have ha : (trs2kepler (1 : ℝ) ⟨⟨1, 0, 0⟩, ⟨0, 1 / 2, 1 / 2⟩⟩).a = 2 / 3 := by
    rw [trs2kepler_a, norm_mul_self]
    simp only [hpn, hv2]
    norm_num
  refine ⟨one_pos, ?_, ?_, ?_, ?_⟩
  · norm_num [V3.norm2, V3.dot]
  · simp only [hpn, hv2]; norm_num
  · norm_num [V3.cross]
  · rw [e_pos_iff 1 _ one_pos (by rw [ha]; norm_num), ha]
    norm_num [V3.cross, V3.norm2, V3.dot]

example : kepler2trs 1 (trs2kepler 1 (⟨⟨1, 0, 0⟩, ⟨0, 1 / 2, 1 / 2⟩⟩ : V6 ℝ)) = ⟨⟨1, 0, 0⟩, ⟨0, 1 / 2, 1 / 2⟩⟩ :=
  kepler2trs_trs2kepler 1 _ regular_example

end Midgard.Geo.KepInv

#print axioms Midgard.Geo.KepInv.kepler2trs_trs2kepler
#print axioms Midgard.Geo.KepInv.kepler2trs_trs2kepler_pos
#print axioms Midgard.Geo.KepInv.kepler2trs_trs2kepler_vel
#print axioms Midgard.Geo.KepInv.regular_example
#print axioms Midgard.Geo.KepInv.radius_eq
#print axioms Midgard.Geo.KepInv.semi_major_recovered
#print axioms Midgard.Geo.KepInv.eccentricity_recovered
