/-
C17 — the cells of a written line: formatted cells concatenate to exactly their nominal columns (`fields_in_columns_aux`), what
the reader of a cell gets back for every kind of value (`ReadsBack`), and when a number fits its cell (`fitsCell_num_iff`,
`coordinate_fits`).  Also the writers' insertion sort as a permutation.
-/
import Midgard.Model.Writers
import Midgard.Proofs.FixedCol
import Midgard.Proofs.FmtFixed

namespace Midgard.Writers
open Midgard.Text Midgard.FixedCol Midgard.WriterCells

theorem length_fmtValue (spec : Spec) (v : Value) (h : fitsCell spec v = true) :
    (fmtValue spec v).length = spec.width := by
  unfold fmtValue
  exact length_pad _ (by simpa [fitsCell] using h)

theorem strip_fmtValue (spec : Spec) (v : Value) (h : Clean (v.text spec) = true) : strip (fmtValue spec v) = v.text spec :=
  strip_pad_cell _ _ h

theorem all_fmtValue (P : Char → Bool) (hP : P ' ' = true) (spec : Spec) (v : Value) (h : (v.text spec).all P = true) :
    (fmtValue spec v).all P = true :=
  all_pad P hP _ _ _ h

theorem count_fmtValue (c : Char) (hc : c ≠ ' ') (spec : Spec) (v : Value) :
    (fmtValue spec v).count c = (v.text spec).count c :=
  count_pad c hc _ _ _

theorem renderCells_fld {n : String} {spec : Spec} {v : Value} (hok : v.okFor spec = true) (cs : List Cell) (vs : List Value) :
    renderCells (.fld n spec :: cs) (v :: vs) = (renderCells cs vs).map (fmtValue spec v ++ ·) := by
  rw [renderCells, if_pos hok]

theorem allFit_induction {motive : (cells : List Cell) → (vals : List Value) → allFit cells vals = true → Prop}
    (nil : ∀ vals, motive [] vals rfl)
    (lit : ∀ t cs vals (h : allFit cs vals = true), motive cs vals h → motive (.lit t :: cs) vals h)
    (fld : ∀ n spec cs v vs (hok : v.okFor spec = true) (hfit : fitsCell spec v = true) (h : allFit cs vs = true),
      motive cs vs h → motive (.fld n spec :: cs) (v :: vs) (by simp [allFit, hok, hfit, h])) :
    ∀ cells vals (h : allFit cells vals = true), motive cells vals h := by
  intro cells
  induction cells with
  | nil => intro vals _; exact nil vals
  | cons c cs ih =>
    intro vals h
    cases c with
    | lit t => exact lit t cs vals h (ih vals h)
    | other n => cases h
    | fld n spec =>
      cases vals with
      | nil => cases h
      | cons v vs =>
        have h' := h
        simp only [allFit, Bool.and_eq_true] at h'
        exact fld n spec cs v vs h'.1.1 h'.1.2 h'.2 (ih vs h'.2)

theorem fields_in_columns_from (cells : List Cell) (vals : List Value) (h : allFit cells vals = true) (pos : Nat)
    (pre : Str) (hpre : pre.length = pos) :
    ∃ line, renderCells cells vals = some line ∧ line.length = nominalWidth cells ∧
      (nominalFrom pos cells).map (fun t => Text.slice t.2.1 t.2.2 (pre ++ line)) = cellTexts cells vals := by
  induction cells, vals, h using allFit_induction generalizing pos pre with
  | nil => exact ⟨[], rfl, rfl, rfl⟩
  | lit t cs vals _ ih =>
    obtain ⟨line, hr, hl, hs⟩ := ih (pos + t.toList.length) (pre ++ t.toList) (by simp [hpre])
    refine ⟨t.toList ++ line, by simp [renderCells, hr], by simp [nominalWidth, hl], ?_⟩
    rw [nominalFrom, cellTexts, ← hs]
    simp only [List.append_assoc]
  | fld n spec cs v vs hok hfit _ ih =>
    have hw := length_fmtValue spec v hfit
    obtain ⟨line, hr, hl, hs⟩ := ih (pos + spec.width) (pre ++ fmtValue spec v) (by simp [hpre, hw])
    refine ⟨fmtValue spec v ++ line, by rw [renderCells_fld hok, hr]; rfl, by simp [nominalWidth, hl, hw], ?_⟩
    rw [nominalFrom, cellTexts, List.map_cons, ← hs, ← List.append_assoc, slice_cell hpre (by rw [hw])]

theorem fields_in_columns_aux (cells : List Cell) (vals : List Value) (h : allFit cells vals = true) :
    ∃ line, renderCells cells vals = some line ∧ line.length = nominalWidth cells ∧
      (nominal cells).map (fun t => Text.slice t.2.1 t.2.2 line) = cellTexts cells vals := by
  obtain ⟨line, h1, h2, h3⟩ := fields_in_columns_from cells vals h 0 [] rfl
  exact ⟨line, h1, h2, by simpa [nominal] using h3⟩

theorem strip_cellTexts (cells : List Cell) (vals : List Value) (h : allFit cells vals = true)
    (hc : allClean cells vals = true) : (cellTexts cells vals).map strip = valueTexts cells vals := by
  induction cells, vals, h using allFit_induction with
  | nil => rfl
  | lit t cs vals _ ih => exact ih hc
  | fld n spec cs v vs _ _ _ ih =>
    rw [allClean, Bool.and_eq_true] at hc
    rw [cellTexts, valueTexts, List.map_cons, ih hc.2, strip_fmtValue _ _ hc.1]

theorem insertBy_perm {α} (le : α → α → Bool) (a : α) : ∀ l : List α, (insertBy le a l).Perm (a :: l)
  | [] => .refl _
  | y :: r => by
    rw [insertBy]
    split
    · exact .refl _
    · exact ((insertBy_perm le a r).cons y).trans (.swap a y r)

theorem sortBy_perm {α} (le : α → α → Bool) : ∀ l : List α, (sortBy le l).Perm l
  | [] => .refl _
  | a :: r => (insertBy_perm le a _).trans ((sortBy_perm le r).cons a)

open Midgard.Decimal

/-- what reading a cell back means, per kind of value: a number comes back rounded to the printed
decimals (within half a unit of the last digit, exactly when it has no more decimals than printed), an
integer exactly, `nan` as the text `nan`, `-0.0` as zero, text as itself (if it has no outer blanks) -/
def ReadsBack (spec : Spec) (v : Value) (text : Str) : Prop :=
  match v with
  | .num q => ∃ x, parseFloat text = some x ∧ |x - q| ≤ 1 / 2 / (10 : Rat) ^ (spec.prec.getD 6) ∧
      ∀ z : Int, q * (10 : Rat) ^ (spec.prec.getD 6) = (z : Rat) → x = q
  | .int i => parseInt? text = some i
  | .negz => parseFloat text = some 0
  | .nan => strip text = "nan".toList
  | .str _ => Clean (v.text spec) = true → strip text = v.text spec

theorem parseFloat_negz (p : Nat) : parseFloat ('-' :: fmtFixedCore 0 p) = some 0 := by
  have hq : ¬ ((0 : Rat) < 0) := lt_irrefl 0
  have hs : fixedScaled 0 p = 0 := by
    unfold fixedScaled
    rw [if_neg hq]
    have : (0 : Rat) * pow10 p = ((0 : Int) : Rat) := by simp
    rw [this, rhe_int]; rfl
  have hcore : fmtFixedCore 0 p = fixedBody p 0 := by
    rw [fmtFixedCore_eq, if_neg hq, hs]; rfl
  rw [hcore]
  obtain ⟨ds, hm, hv⟩ := parseMantissa_fixedBody p 0
  have h := parseFloat_body true (fixedBody p 0) ds p hm (fixedBody_chars _ _) (fixedBody_head _ _)
  rw [hv] at h
  simpa using h

theorem clean_negz (p : Nat) : Clean ('-' :: fmtFixedCore 0 p) = true := by
  apply clean_of_no_space
  intro c hc
  rcases List.mem_cons.mp hc with h | h
  · subst h; decide
  · exact no_space_fmtFixedCore 0 p c h

theorem cellTexts_eq_map (cells : List Cell) (vals : List Value) (h : allFit cells vals = true) :
    cellTexts cells vals = (cellValues cells vals).map fun sv => fmtValue sv.1 sv.2 := by
  induction cells, vals, h using allFit_induction with
  | nil => rfl
  | lit t cs vals _ ih => exact ih
  | fld n spec cs v vs _ _ _ ih => rw [cellTexts, cellValues, List.map_cons, ih]

theorem fitsCell_num_iff (spec : Spec) (q : Rat)
    (hw : (if q < 0 then 1 else 0) + (if spec.prec.getD 6 = 0 then 0 else spec.prec.getD 6 + 1) < spec.width) :
    fitsCell spec (.num q) = true ↔
      |q| * pow10 (spec.prec.getD 6) <
        (10 : Rat) ^ (spec.width - (if q < 0 then 1 else 0) - (if spec.prec.getD 6 = 0 then 0 else spec.prec.getD 6 + 1)
          + spec.prec.getD 6) - 1 / 2 := by
  rw [← fmtFixed_width q spec.width (spec.prec.getD 6) hw, length_fmtFixed_eq_iff]
  unfold fitsCell
  simp only [Value.text]
  exact decide_eq_true_iff

/-- a cell with room (`Spec.hasRoom`) admits every value of either sign below the bound computed with the
sign column reserved -/
theorem fitsCell_of_abs_lt (spec : Spec) (q : Rat) (hroom : spec.hasRoom = true)
    (h : |q| * pow10 (spec.prec.getD 6) <
      (10 : Rat) ^ (spec.width - 1 - (if spec.prec.getD 6 = 0 then 0 else spec.prec.getD 6 + 1) + spec.prec.getD 6) - 1 / 2) :
    fitsCell spec (.num q) = true := by
  simp only [Spec.hasRoom, decide_eq_true_eq] at hroom
  have hs : (if q < 0 then 1 else 0) ≤ 1 := by split <;> omega
  rw [fitsCell_num_iff spec q (by omega)]
  refine lt_of_lt_of_le h ?_
  apply sub_le_sub_right
  apply pow_le_pow_right₀ (by norm_num)
  omega

end Midgard.Writers

namespace Midgard.Decimal
open Midgard.Text Midgard.WriterCells Midgard.Writers

/-- a coordinate with `|x| ≤ 9 999 999.9999` (the domain the property quantifies over) fits the `14.4f` cells of SINEX TMS
X / Y / Z with a blank to spare, and the `14.5f` / `16.5f` cells of the Bernese CRD / VEL lines;
`Props.C17.coordinate_cells_are_those` ties the three specs to the regenerated tables -/
theorem coordinate_fits (q : Rat) (hlo : -(99999999999 / 10000 : Rat) ≤ q) (hhi : q ≤ 99999999999 / 10000) :
    fitsCellStrict ⟨none, 14, some 4, .fix⟩ (.num q) = true ∧
    fitsCell ⟨none, 14, some 5, .fix⟩ (.num q) = true ∧
    fitsCell ⟨none, 16, some 5, .fix⟩ (.num q) = true := by
  have ha : |q| ≤ 99999999999 / 10000 := abs_le.mpr ⟨hlo, hhi⟩
  -- strictly inside 14 columns: inside 13
  have h13 := fitsCell_of_abs_lt ⟨none, 13, some 4, .fix⟩ q (hroom := by decide) (h := by norm_num [pow10_eq]; linarith)
  exact ⟨decide_eq_true (Nat.lt_succ_of_le (of_decide_eq_true h13)),
    fitsCell_of_abs_lt _ q (hroom := by decide) (h := by norm_num [pow10_eq]; linarith),
    fitsCell_of_abs_lt _ q (hroom := by decide) (h := by norm_num [pow10_eq]; linarith)⟩

end Midgard.Decimal
