/-
C17 x C14 — SINEX-TMS TIMESERIES/DATA: the lines the sinex_tms *writer* produces (Model/Writers.lean `tmsLine`) are records
in the sense of the sinex_tms *parser* model of C14 (Model/SinexFile.lean `tmsData`; `tms_records`), so `Props/C14.tms_data_roundtrip`
reads them back: that composition is in Props/C17.  Also the shared evaluation of the TIMESERIES/DATA table obligations
(`tms_tables`).
-/
import Midgard.Proofs.WriterFiles
import Midgard.Proofs.SinexTms

namespace Midgard.WriterFiles
open Midgard.Text Midgard.Decimal Midgard.FixedCol Midgard.WriterCells Midgard.Writers
open Midgard.Generated.WriterLayouts

theorem padded_toPads : ∀ (cells : List (Spec × Value)) (carry : Str),
    padded (toPads carry cells).1 ++ (toPads carry cells).2 = carry ++ (cells.map fun sv => fmtValue sv.1 sv.2).flatten := by
  intro cells
  induction cells with
  | nil => intro carry; simp [toPads, padded]
  | cons sv rest ih =>
    intro carry
    simp only [toPads, padded, List.map_cons, List.flatten_cons, List.append_assoc]
    rw [ih, fmtValue_split]
    simp [List.append_assoc]

theorem isBlank_leftBlanks (sv : Spec × Value) : isBlank (leftBlanks sv) = true := by
  unfold leftBlanks; split
  · exact isBlank_blanks _
  · rfl

theorem isBlank_rightBlanks (sv : Spec × Value) : isBlank (rightBlanks sv) = true := by
  unfold rightBlanks; split
  · rfl
  · exact isBlank_blanks _

/-- the cells after the first, seen as (pad, token) pairs: each is right-aligned and leaves a blank, so the blanks in front
of its text — together with what the cell before left over, which is nothing — form a non-empty blank pad, and its text is
the token; by induction along the line with the left-over blanks as `carry` -/
theorem toPads_rest_ok : ∀ (rest : List (Spec × Value)) (carry : Str), isBlank carry = true →
    (rest.all fun x => isToken (x.2.text x.1) && rightAligned x && decide ((x.2.text x.1).length < x.1.width)) = true →
    PadsOk (toPads carry rest).1 = true ∧ (toPads carry rest).1.all (fun x => !x.1.isEmpty) = true ∧
    isBlank (toPads carry rest).2 = true ∧ (toPads carry rest).1.map (·.2) = rest.map fun sv => sv.2.text sv.1 := by
  intro rest
  induction rest with
  | nil => intro carry hc _; exact ⟨rfl, rfl, hc, rfl⟩
  | cons sv rest ih =>
    intro carry hc h
    simp only [List.all_cons, Bool.and_eq_true, decide_eq_true_eq] at h
    obtain ⟨⟨⟨htok, hra⟩, hlt⟩, hrest⟩ := h
    obtain ⟨i1, i2, i3, i4⟩ := ih (rightBlanks sv) (isBlank_rightBlanks sv) hrest
    have hlb : leftBlanks sv ≠ [] := by
      rw [leftBlanks, if_pos hra, blanks, Ne, List.replicate_eq_nil_iff]; omega
    refine ⟨padsOk_cons.mpr ⟨by rw [isBlank_append, hc, isBlank_leftBlanks]; rfl, htok, i2, i1⟩, ?_, i3, ?_⟩
    · simp only [toPads, List.all_cons, Bool.and_eq_true, Bool.not_eq_true', List.isEmpty_eq_false_iff]
      exact ⟨fun h => hlb (List.append_eq_nil_iff.mp h).2, i2⟩
    · simp only [toPads, List.map_cons, i4]

theorem tmsLine_record (cells : List (Spec × Value)) (h : tmsCellsOk cells = true) (hne : cells ≠ []) :
    ∃ r : List (Str × Str) × Str, tmsLineOf cells = Midgard.Props.C14.wsLine r ∧ PadsOk r.1 = true ∧ isBlank r.2 = true ∧
      Midgard.Props.C14.wsTokens r = cells.map fun sv => sv.2.text sv.1 := by
  cases cells with
  | nil => exact absurd rfl hne
  | cons sv rest =>
    simp only [tmsCellsOk, Bool.and_eq_true] at h
    obtain ⟨i1, i2, i3, i4⟩ := toPads_rest_ok rest (rightBlanks sv) (isBlank_rightBlanks sv) h.2
    refine ⟨toPads [' '] (sv :: rest), ?_, ?_, i3, ?_⟩
    · unfold tmsLineOf Midgard.Props.C14.wsLine
      rw [padded_toPads]; rfl
    · exact padsOk_cons.mpr ⟨by rw [isBlank_append, isBlank_leftBlanks]; rfl, h.1, i2, i1⟩
    · simp [Midgard.Props.C14.wsTokens, toPads, i4]

theorem tms_records (rows : List (List (Spec × Value))) (n : Nat) (hn : 0 < n)
    (hrows : ∀ r ∈ rows, tmsCellsOk r = true ∧ r.length = n) :
    ∃ recs : List (List (Str × Str) × Str), recs.map Midgard.Props.C14.wsLine = rows.map tmsLineOf ∧
      (∀ r ∈ recs, PadsOk r.1 = true ∧ isBlank r.2 = true ∧ r.1.length = n) ∧
      recs.map Midgard.Props.C14.wsTokens = rows.map fun r => r.map fun sv => sv.2.text sv.1 := by
  induction rows with
  | nil => exact ⟨[], rfl, by simp, rfl⟩
  | cons r rest ih =>
    obtain ⟨recs, h1, h2, h3⟩ := ih fun x hx => hrows x (List.mem_cons_of_mem _ hx)
    obtain ⟨hok, hlen⟩ := hrows r List.mem_cons_self
    obtain ⟨rec, e1, e2, e3, e4⟩ := tmsLine_record r hok (by rintro rfl; simp at hlen; omega)
    refine ⟨rec :: recs, by simp [h1, e1], List.forall_mem_cons.mpr ⟨⟨e2, e3, ?_⟩, h2⟩, by simp [h3, e4]⟩
    have := congrArg List.length e4
    simp [Midgard.Props.C14.wsTokens] at this
    omega

theorem tmsLine_eq (cols : List String) (vals : Env) : tmsLine cols vals = (tmsCells cols vals).map tmsLineOf := by
  unfold tmsLine tmsCells tmsLineOf
  refine Eq.trans ?_ (Option.map_map (fun parts : List Str => ' ' :: parts.flatten)
    (List.map fun sv : Spec × Value => fmtValue sv.1 sv.2) _)
  rw [← mapM_map_opt]
  congr 2
  funext c
  cases specOf c with
  | none => rfl
  | some sp =>
    cases List.lookup c vals with
    | none => rfl
    | some v => by_cases h : v.okFor sp = true <;> simp [h]

theorem tms_rows_exist (cols : List String) : ∀ (epochs : List Env), tmsRowsInRange cols epochs = true →
    ∃ rows, epochs.mapM (tmsCells cols) = some rows ∧ epochs.mapM (tmsLine cols) = some (rows.map tmsLineOf) ∧
      ∀ r ∈ rows, tmsCellsOk r = true ∧ r.length = cols.length := by
  intro epochs
  induction epochs with
  | nil => intro _; exact ⟨[], rfl, rfl, by simp⟩
  | cons env rest ih =>
    intro h
    simp only [tmsRowsInRange, List.all_cons, Bool.and_eq_true] at h
    obtain ⟨rows, h1, h2, h3⟩ := ih (by simpa [tmsRowsInRange] using h.2)
    cases hc : tmsCells cols env with
    | none => simp [hc] at h
    | some cells =>
      simp only [hc] at h
      exact ⟨cells :: rows, by simp [List.mapM_cons, hc, h1], by simp [List.mapM_cons, tmsLine_eq, hc, h2],
        List.forall_mem_cons.mpr ⟨⟨h.1, (mapM_forall₂ _ _ _ hc).length_eq.symm⟩, h3⟩⟩

/-- the table obligations of `Props/C17` on `DATA_FIELD_TYPES`, `DATA_TYPES` and the parser's `field_def`
(`tms_field_tables_agree`, `tms_columns_right_aligned`, `tms_time_columns_are_utc`, `tms_columns_have_types`), in one
evaluation: they look up and compare the same column names, and comparing strings is what the kernel is slow at -/
theorem tms_tables :
    ((tmsParserFieldDef.all fun p => dataFieldTypes.any fun w => w.1.toLower = p.1 && w.2 = p.2) = true ∧
      (dataFieldTypes.all fun w =>
        w.2.startsWith "time." || w.2.startsWith "obs.site_pos." || w.2.startsWith "obs.dsite_pos." ||
        tmsParserFieldDef.lookup w.1.toLower = some w.2) = true ∧
      (tmsParserFieldDef.map (·.1)).Nodup) ∧
    (((dataFieldTypes.drop 1).all fun p => match specOf p.1 with
        | some sp => (sp.ty == Ty.fix || sp.ty == Ty.int) && sp.align != some Align.left
        | none => false) = true ∧
      ((dataFieldTypes.map fun p => asString (lower p.1.toList)).Nodup)) ∧
    ((dataFieldTypes.all fun w => !w.2.startsWith "time." || w.2.startsWith "time.utc.") = true) ∧
    ((dataFieldTypes.all fun p => (specOf p.1).isSome) = true) := by decide +kernel

end Midgard.WriterFiles
