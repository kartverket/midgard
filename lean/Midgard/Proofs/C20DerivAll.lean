/-
C20 — what the central difference of `interpolate_with_derivative` is for data on a polynomial: the exact derivative for
degree ≤ 2 (`central_diff_quadratic`), the derivative plus `c₃·dx²` for a cubic (`central_diff_cubic`).
-/
import Midgard.Proofs.C20Spline
import Mathlib.Algebra.Polynomial.Derivative
import Mathlib.Algebra.Polynomial.Degree.Support

namespace Midgard.Proofs.C20
open Midgard.Numeric

section
open Polynomial

theorem central_diff_quadratic (P : Polynomial ℚ) (hdeg : P.degree ≤ 2) (x d : ℚ) (hd : d ≠ 0) :
    (P.eval (x + d) - P.eval (x - d)) / (2 * d) = (derivative P).eval x := by
  have hn : P.natDegree < 3 := by
    have h2 : P.natDegree ≤ 2 := natDegree_le_of_degree_le (by exact_mod_cast hdeg)
    omega
  have e := as_sum_range_C_mul_X_pow' P hn
  rw [e]
  simp only [Finset.sum_range_succ, Finset.sum_range_zero, eval_add, eval_mul, eval_C, eval_pow, eval_X,
    derivative_add, derivative_mul, derivative_C, derivative_X_pow]
  field_simp
  simp
  ring

end

theorem central_diff_cubic (c0 c1 c2 c3 x d : ℚ) (hd : d ≠ 0) :
    (cubicAt c0 c1 c2 c3 (x + d) - cubicAt c0 c1 c2 c3 (x - d)) / (2 * d) = c1 + 2 * c2 * x + 3 * c3 * x * x + c3 * d * d := by
  unfold cubicAt
  field_simp
  ring

end Midgard.Proofs.C20
