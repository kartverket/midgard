/-
C10 — what `Dataset.write` puts into the file, for the model with the `time` attribute of positions (`writeDSX`): the file is as
`Dataset.read` needs it (`writeDS_okX`: `FileOKX` of `Proofs/H5File.lean`, the groups following the fields of `restrict d ℓ`), read off the
invariant of the loop over the fields stated on lookups of the memo (`WLX`; for one field: `writeField_specX`).
-/
import Midgard.Proofs.H5WriteFields
import Midgard.Proofs.H5WriteArr

namespace Midgard.H5
open Midgard.Dataset

structure WLX (h : Heap) (tm : TM) (fs : List Field) (pre : Path) (memo : WMemo) (groups : List (String × Grp)) (memo' : WMemo) :
    Prop where
  rep : RepG.RepGL (fun o name => memo'.lookup o = some name) fs pre groups
  stable : Stable memo memo'
  newIn : ∀ x q, memo'.lookup x = some q → memo.lookup x = some q ∨ ∃ g', (q, g') ∈ Grp.nodes.nodesL pre groups ∧ g'.src = x
  node : ∀ q g', (q, g') ∈ Grp.nodes.nodesL pre groups → NodeW (fun q x => memo'.lookup x = some q) h tm q g'
  own : ∀ q g', (q, g') ∈ Grp.nodes.nodesL pre groups → memo'.lookup g'.src = some q
  names : NamesOKG.NamesOKL groups
  written : ∀ e ∈ leafPaths fs pre, memo.lookup e.1 = some e.2 → ∃ g', (e.2, g') ∈ Grp.nodes.nodesL pre groups ∧ g'.src = e.1

theorem LoopSpec.toWLX {h : Heap} {tm : TM} {fs : List Field} {pre : Path} {memo memo' : WMemo}
    {groups : List (String × Grp)} (w : LoopSpec (fun H => NodeW H h tm) fs pre memo groups memo') :
    WLX h tm fs pre memo groups memo' :=
  ⟨w.rep, w.spec.stable, w.spec.newIn, w.spec.node, w.spec.own, w.names, w.written⟩

theorem writeField_specX (h : Heap) (tm : TM) (hx : HeapX h tm) (lvl : Nat) : ∀ (f : Field) (pre : Path) (memo : WMemo),
    (∀ o ∈ leafObjs [restrictField lvl f], o ∈ keys memo) →
    namesOK [restrictField lvl f] = true → (∀ o ∈ leafObjs [restrictField lvl f], o < h.length) →
    ∃ g memo', writeFieldX h tm lvl f pre memo = .ok (g, memo') ∧
      WLX h tm [restrictField lvl f] pre memo [((restrictField lvl f).name, g)] memo' := by
  intro f pre memo hp hn hlt
  obtain ⟨g, memo', hw, w⟩ := writeFieldX_loop (NodeW.nodeMono h tm) (writeArrX_written h tm _) (writeArrX_total hx) lvl f pre memo hp hn hlt
  exact ⟨g, memo', hw, w.toWLX⟩

theorem SlotF.of_slotW {file : File} {q : Path} {a : GAttrs} {pl : Option Obj} {subs : List (String × Grp)} {nm : String}
    {x : Option Nat} {r : Option Path}
    (hl : lookupGrp file.groups q = some (.mk a pl subs))
    (s : SlotW (fun qx x => ∃ g', lookupGrp file.groups qx = some g' ∧ g'.isArr = true ∧ g'.src = x) q subs nm x r) :
    SlotF file r q subs nm x := by
  cases x with
  | none =>
    obtain ⟨rfl, hn⟩ := s
    simp [SlotF, slotTarget, hn]
  | some y =>
    rcases s with ⟨qx, rfl, ⟨g', h1, h2, h3⟩, _⟩ | ⟨rfl, g', hsl, ha, hs, _⟩
    · exact ⟨qx, g', by simp [slotTarget, h1], h1, h2, h3⟩
    · refine ⟨q ++ [nm], g', by simp [slotTarget, hsl], ?_, ha, hs⟩
      rw [lookupGrp_snoc q _ _ nm hl]
      exact hsl

theorem NodeOKX.of_nodeW {h : Heap} {tm : TM} {file : File} {q : Path} {g : Grp}
    (n : NodeW (fun qx x => ∃ g', lookupGrp file.groups qx = some g' ∧ g'.isArr = true ∧ g'.src = x) h tm q g)
    (hl : lookupGrp file.groups q = some g) : NodeOKX h tm file q g := by
  obtain ⟨a, ob, subs, rfl, hob, hf, hc⟩ := n
  refine ⟨a, ob, subs, rfl, hob, hf, ?_⟩
  cases hat : attrName ob.kind with
  | none => trivial
  | some nm =>
    rw [hat] at hc
    exact ⟨SlotF.of_slotW hl hc.1, SlotF.of_slotW hl hc.2⟩

/-- **`Dataset.write` of a writable dataset succeeds, and the file is a faithful representation of `restrict d ℓ`**: the
groups follow the fields, a `same_as` group names the array group of its array, which is the one `_construct_memo` names -/
theorem writeDS_okX (h : Heap) (tm : TM) (hx : HeapX h tm) (d : DS) (lvl : Nat)
    (hn : namesOK (restrictFields lvl d.fields) = true)
    (hlt : ∀ o ∈ leafObjs (restrictFields lvl d.fields), o < h.length) :
    ∃ file, writeDSX h tm d lvl = .ok file ∧ file.numObs = d.numObs ∧
      file.members = (restrictFields lvl d.fields).map (fun f => (f.name, fieldType f)) ∧
      RepG.RepGL (KFile (constructMemo lvl d.fields [] []) file) (restrictFields lvl d.fields) [] file.groups ∧
      FileOKX h tm file := by
  have hp := leafObjs_keys fun e he => (constructMemo_top lvl d.fields e).mpr he
  obtain ⟨groups, memo', hw, w⟩ := writeFieldsX_loop (NodeW.nodeMono h tm) (writeArrX_written h tm _) (writeArrX_total hx) lvl d.fields
    [] _ hp hn hlt
  -- `WLX` is all that is needed of the loop's invariant
  replace w := w.toWLX
  -- every name the final memo answers is the path of the array group written for that object
  have real : ∀ x qx, memo'.lookup x = some qx → ∃ g', lookupGrp groups qx = some g' ∧ g'.isArr = true ∧ g'.src = x := by
    intro x qx hx
    obtain ⟨g', hg', hs⟩ : ∃ g', (qx, g') ∈ Grp.nodes.nodesL [] groups ∧ g'.src = x :=
      (w.newIn x qx hx).elim (fun hx => w.written (x, qx) ((constructMemo_top ..).mp (Lists.lookup_mem hx)) hx) id
    obtain ⟨rel, _, rfl, hl, ha⟩ := lookup_of_nodesL groups [] qx g' w.names hg'
    exact ⟨g', hl, ha, hs⟩
  have node : ∀ q g, lookupGrp groups q = some g → g.isArr = true → (q, g) ∈ Grp.nodes.nodesL [] groups :=
    fun q g hl ha => nodes_of_lookup q groups [] g hl ha
  refine ⟨{ numObs := d.numObs, members := _, groups := groups }, by simp only [writeDSX, hw], rfl, rfl, ?_, w.names, ?_, ?_⟩
  · refine RepGL.mono _ _ _ (fun o ho n hlk => ⟨?_, real o n hlk⟩) w.rep
    obtain ⟨q, hq⟩ := lookup_of_mem_keys (hp o ho)
    rw [hq, ← hlk, w.stable o q hq]
  · intro q1 g1 q2 g2 h1 h2 a1 a2 hs
    have e1 := w.own q1 g1 (node q1 g1 h1 a1)
    rw [hs, w.own q2 g2 (node q2 g2 h2 a2)] at e1
    exact (Option.some.inj e1).symm
  · exact fun q g hl ha => NodeOKX.of_nodeW ((w.node q g (node q g hl ha)).mono (fun qx x hx => real x qx hx)) hl

end Midgard.H5
