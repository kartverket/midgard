/-
C19, text round trip: the shape of what `textwrap` produces for a text made of words separated by runs of blanks: its
lines are a `Grouping` of the words.  At the end `wordChunks`, the chunks of any chunk list that are not blank, for the
statement that wrapping keeps every word.  Mathlib-free.
-/
import Midgard.Model.Config

namespace Midgard.Proofs.ConfigText
open Midgard.Config

/-- a word chunk: non-empty, no space character -/
def IsWord (x : List Char) : Prop := x ≠ [] ∧ ∀ c ∈ x, c ≠ ' '
/-- a blank chunk: non-empty, only space characters -/
def IsSpaces (s : List Char) : Prop := s ≠ [] ∧ ∀ c ∈ s, c = ' '

abbrev Pair := List Char × List Char

/-- an alternating chunk list `x0, s1, x1, s2, x2, …` -/
def flatAlt (x0 : List Char) (ps : List Pair) : List (List Char) := x0 :: ps.flatMap (fun p => [p.1, p.2])

def PairsOK (ps : List Pair) : Prop := ∀ p ∈ ps, IsSpaces p.1 ∧ IsWord p.2

theorem flatAlt_nil (x0 : List Char) : flatAlt x0 [] = [x0] := rfl

theorem flatAlt_ne_nil (x0 : List Char) (ps : List Pair) : flatAlt x0 ps ≠ [] := by simp [flatAlt]

theorem isSpaceChunk_spaces {s : List Char} (h : IsSpaces s) : isSpaceChunk s = true := by
  simp only [isSpaceChunk, List.all_eq_true, decide_eq_true_eq]
  exact h.2

theorem isSpaceChunk_word {x : List Char} (h : IsWord x) : isSpaceChunk x = false := by
  obtain ⟨hne, hc⟩ := h
  cases x with
  | nil => exact absurd rfl hne
  | cons c t => simp [isSpaceChunk, hc c (by simp)]

theorem flatAlt_append (x0 : List Char) (a b : List Pair) :
    flatAlt x0 (a ++ b) = flatAlt x0 a ++ b.flatMap (fun p => [p.1, p.2]) := by
  simp [flatAlt, List.flatMap_append]

theorem flatMap_cons_pair (s x : List Char) (b : List Pair) :
    ((s, x) :: b).flatMap (fun p => [p.1, p.2]) = s :: flatAlt x b := by
  simp [flatAlt]

theorem flatMap_split (ps : List Pair) (cur rest : List (List Char))
    (h : cur ++ rest = ps.flatMap (fun p => [p.1, p.2])) :
    (∃ a b, ps = a ++ b ∧ cur = a.flatMap (fun p => [p.1, p.2]) ∧ rest = b.flatMap (fun p => [p.1, p.2])) ∨
    (∃ a s x b, ps = a ++ (s, x) :: b ∧ cur = a.flatMap (fun p => [p.1, p.2]) ++ [s] ∧ rest = flatAlt x b) := by
  induction ps generalizing cur with
  | nil =>
    simp at h
    exact Or.inl ⟨[], [], by simp, by simp [h.1], by simp [h.2]⟩
  | cons p t ih =>
    obtain ⟨s, x⟩ := p
    simp only [List.flatMap_cons, List.cons_append, List.nil_append] at h
    cases cur with
    | nil =>
      simp at h
      exact Or.inl ⟨[], (s, x) :: t, by simp, by simp, by simp [h]⟩
    | cons c1 cur1 =>
      simp only [List.cons_append, List.cons.injEq] at h
      obtain ⟨h1, h2⟩ := h
      subst h1
      cases cur1 with
      | nil =>
        simp at h2
        exact Or.inr ⟨[], c1, x, t, by simp, by simp, by simp [flatAlt, h2]⟩
      | cons c2 cur2 =>
        simp only [List.cons_append, List.cons.injEq] at h2
        obtain ⟨h3, h4⟩ := h2
        subst h3
        rcases ih cur2 h4 with ⟨a, b, e1, e2, e3⟩ | ⟨a, s', x', b, e1, e2, e3⟩
        · exact Or.inl ⟨(c1, c2) :: a, b, by simp [e1], by simp [e2], e3⟩
        · exact Or.inr ⟨(c1, c2) :: a, s', x', b, by simp [e1], by simp [e2], e3⟩

theorem flatAlt_split (x0 : List Char) (ps : List Pair) (cur rest : List (List Char))
    (hne : cur ≠ []) (h : cur ++ rest = flatAlt x0 ps) :
    (∃ a b, ps = a ++ b ∧ cur = flatAlt x0 a ∧ rest = b.flatMap (fun p => [p.1, p.2])) ∨
    (∃ a s x b, ps = a ++ (s, x) :: b ∧ cur = flatAlt x0 a ++ [s] ∧ rest = flatAlt x b) := by
  cases cur with
  | nil => exact absurd rfl hne
  | cons c cur' =>
    simp only [flatAlt, List.cons_append, List.cons.injEq] at h
    obtain ⟨h1, h2⟩ := h
    subst h1
    rcases flatMap_split ps cur' rest h2 with ⟨a, b, e1, e2, e3⟩ | ⟨a, s, x, b, e1, e2, e3⟩
    · exact Or.inl ⟨a, b, e1, by simp [flatAlt, e2], e3⟩
    · exact Or.inr ⟨a, s, x, b, e1, by simp [flatAlt, e2], e3⟩

theorem dropTrailingSpace_snoc (l : List (List Char)) (ch : List Char) :
    dropTrailingSpace (l ++ [ch]) = if isSpaceChunk ch then l else l ++ [ch] := by
  simp [dropTrailingSpace]

theorem dropTrailingSpace_length (l : List (List Char)) : l.length - 1 ≤ (dropTrailingSpace l).length := by
  simp only [dropTrailingSpace]
  cases l.getLast? with
  | none => simp
  | some ch => simp only; split <;> simp

theorem dropTrailingSpace_flatAlt (x0 : List Char) (a : List Pair) (hx : IsWord x0) (ha : PairsOK a) :
    dropTrailingSpace (flatAlt x0 a) = flatAlt x0 a := by
  rcases List.eq_nil_or_concat a with h | ⟨a', p, h⟩
  · subst h
    have : flatAlt x0 [] = [] ++ [x0] := flatAlt_nil x0
    rw [this, dropTrailingSpace_snoc, isSpaceChunk_word hx]; simp
  · subst h
    obtain ⟨s, x⟩ := p
    have hxw : IsWord x := (ha (s, x) (by simp)).2
    rw [List.concat_eq_append, flatAlt_append]
    have : flatAlt x0 a' ++ [(s, x)].flatMap (fun p => [p.1, p.2]) = (flatAlt x0 a' ++ [s]) ++ [x] := by simp
    rw [this, dropTrailingSpace_snoc, isSpaceChunk_word hxw]; simp

theorem dropTrailingSpace_flatAlt_space (x0 : List Char) (a : List Pair) (s : List Char) (hs : IsSpaces s) :
    dropTrailingSpace (flatAlt x0 a ++ [s]) = flatAlt x0 a := by
  rw [dropTrailingSpace_snoc, isSpaceChunk_spaces hs]; simp

theorem takeFit_split (avail : Nat) (cur : List (List Char)) (len : Nat) (l : List (List Char)) :
    ∃ a, (takeFit avail cur len l).1 = cur ++ a ∧ a ++ (takeFit avail cur len l).2 = l := by
  induction l generalizing cur len with
  | nil => exact ⟨[], by simp [takeFit]⟩
  | cons ch r ih =>
    simp only [takeFit]
    split
    · obtain ⟨a, h1, h2⟩ := ih (cur ++ [ch]) (len + ch.length)
      exact ⟨ch :: a, by simp [h1], by simp [h2]⟩
    · exact ⟨[], by simp⟩

theorem takeFit_step (avail : Nat) (cur : List (List Char)) (len : Nat) (ch : List Char) (r : List (List Char))
    (h : len + ch.length ≤ avail) :
    takeFit avail cur len (ch :: r) = takeFit avail (cur ++ [ch]) (len + ch.length) r := by
  simp [takeFit, h]

theorem takeFit_all (avail : Nat) (l cur : List (List Char)) (len : Nat)
    (h : len + (l.map List.length).sum ≤ avail) : takeFit avail cur len l = (cur ++ l, []) := by
  induction l generalizing cur len with
  | nil => simp [takeFit]
  | cons ch r ih =>
    simp only [List.map_cons, List.sum_cons] at h
    have h1 : len + ch.length ≤ avail := by omega
    simp only [takeFit, h1, if_true]
    rw [ih (cur ++ [ch]) (len + ch.length) (by omega)]
    simp

theorem lineSplit_spec (avail : Nat) (cs : List (List Char)) :
    (lineSplit avail cs).1 ++ (lineSplit avail cs).2 = cs ∧ (cs ≠ [] → (lineSplit avail cs).1 ≠ []) := by
  obtain ⟨a, ha1, ha2⟩ := takeFit_split avail [] 0 cs
  simp only [List.nil_append] at ha1
  simp only [lineSplit]
  generalize takeFit avail [] 0 cs = tf at ha1 ha2
  obtain ⟨cur, rest⟩ := tf
  simp only at ha1 ha2
  subst ha1
  cases cur with
  | nil =>
    cases rest with
    | nil => simp at ha2; subst ha2; simp
    | cons c r => simp at ha2; subst ha2; simp
  | cons x xs => simp [ha2]

theorem lineSplit_fits (w : Nat) (cs : List (List Char)) (h : cs.flatten.length ≤ w) : lineSplit w cs = (cs, []) := by
  have htf := takeFit_all w cs [] 0 (by rw [← List.length_flatten]; omega)
  simp only [List.nil_append] at htf
  simp only [lineSplit, htf]

theorem wrapChunks_nil (w hang n : Nat) (first : Bool) : wrapChunks w hang n first [] = [] := by
  cases n <;> simp [wrapChunks]

/-- a partition of the word list `x0, x1, …` into consecutive non-empty runs that keeps the blank
chunks inside each run and drops the one between two runs -/
inductive Grouping : List Char → List Pair → List (List Char × List Pair) → Prop
  | last (x0 : List Char) (ps : List Pair) : Grouping x0 ps [(x0, ps)]
  | cons (x0 : List Char) (a : List Pair) (s x : List Char) (b : List Pair)
      (gs : List (List Char × List Pair)) : Grouping x b gs → Grouping x0 (a ++ (s, x) :: b) ((x0, a) :: gs)

/-- the chunk list may start with a blank chunk when it is not the first line: `_wrap_chunks` drops it there -/
theorem wrap_grouping (w hang : Nat) (n : Nat) :
    ∀ (first : Bool) (C : List (List Char)) (x0 : List Char) (ps : List Pair),
      IsWord x0 → PairsOK ps →
      (C = flatAlt x0 ps ∨ (first = false ∧ ∃ s, IsSpaces s ∧ C = s :: flatAlt x0 ps)) →
      C.length ≤ n →
      ∃ gs, Grouping x0 ps gs ∧ wrapChunks w hang n first C = gs.map (fun g => flatAlt g.1 g.2) := by
  induction n with
  | zero =>
    intro first C x0 ps _ _ hC hlen
    rcases hC with h | ⟨_, s, _, h⟩ <;> subst h <;> simp [flatAlt] at hlen
  | succ n ih =>
    intro first C x0 ps hx hps hC hlen
    -- the chunk list the line is filled from
    have hcs : ∃ ch0 r0, C = ch0 :: r0 ∧
        (if (!first && isSpaceChunk ch0) = true then r0 else ch0 :: r0) = flatAlt x0 ps ∧
        (flatAlt x0 ps).length ≤ n + 1 := by
      rcases hC with h | ⟨hf, s, hs, h⟩
      · subst h
        refine ⟨x0, ps.flatMap (fun p => [p.1, p.2]), rfl, ?_, hlen⟩
        simp [isSpaceChunk_word hx, flatAlt]
      · subst h
        refine ⟨s, flatAlt x0 ps, rfl, ?_, ?_⟩
        · simp [hf, isSpaceChunk_spaces hs]
        · simp at hlen ⊢; omega
    obtain ⟨ch0, r0, hC0, hcs', hl⟩ := hcs
    subst hC0
    simp only [wrapChunks, hcs']
    obtain ⟨hsplit, hne⟩ := lineSplit_spec (if first = true then w else w - hang) (flatAlt x0 ps)
    generalize lineSplit (if first = true then w else w - hang) (flatAlt x0 ps) = sp at hsplit hne
    obtain ⟨cur, rest⟩ := sp
    simp only at hsplit hne ⊢
    have hcur : cur ≠ [] := hne (flatAlt_ne_nil x0 ps)
    have hrest : rest.length ≤ n := by
      have : (flatAlt x0 ps).length = cur.length + rest.length := by rw [← hsplit]; simp
      have : 0 < cur.length := List.length_pos_iff.2 hcur
      omega
    rcases flatAlt_split x0 ps cur rest hcur hsplit with ⟨a, b, e1, e2, e3⟩ | ⟨a, s, x, b, e1, e2, e3⟩
    · -- the line ends with a word
      subst e1 e2 e3
      have ha : PairsOK a := fun p hp => hps p (by simp [hp])
      rw [dropTrailingSpace_flatAlt x0 a hx ha]
      have hne' : (flatAlt x0 a).isEmpty = false := by simpa using flatAlt_ne_nil x0 a
      simp only [hne', Bool.false_eq_true, if_false]
      cases b with
      | nil =>
        exact ⟨[(x0, a)], by simpa using Grouping.last x0 a, by simp [wrapChunks_nil]⟩
      | cons p b' =>
        obtain ⟨s, x⟩ := p
        have hsx := hps (s, x) (by simp)
        have hb' : PairsOK b' := fun p hp => hps p (by simp [hp])
        rw [flatMap_cons_pair] at hrest ⊢
        obtain ⟨gs, hg, hw⟩ := ih false (s :: flatAlt x b') x b' hsx.2 hb'
          (Or.inr ⟨rfl, s, hsx.1, rfl⟩) hrest
        exact ⟨(x0, a) :: gs, Grouping.cons x0 a s x b' gs hg, by simp [hw]⟩
    · -- the line ends with a blank chunk, which is dropped
      subst e1 e2 e3
      have hsx := hps (s, x) (by simp)
      have ha : PairsOK a := fun p hp => hps p (by simp [hp])
      have hb : PairsOK b := fun p hp => hps p (by simp [hp])
      rw [dropTrailingSpace_flatAlt_space x0 a s hsx.1]
      have hne' : (flatAlt x0 a).isEmpty = false := by simpa using flatAlt_ne_nil x0 a
      simp only [hne', Bool.false_eq_true, if_false]
      obtain ⟨gs, hg, hw⟩ := ih false (flatAlt x b) x b hsx.2 hb (Or.inl rfl) hrest
      exact ⟨(x0, a) :: gs, Grouping.cons x0 a s x b gs hg, by simp [hw]⟩

def isSp (c : Char) : Bool := decide (c = ' ')

/-- chunks are non-empty, uniform (all blanks / no blank), and alternate in kind starting with `k` -/
def AltFrom : Bool → List (List Char) → Prop
  | _, [] => True
  | k, u :: L => u ≠ [] ∧ (∀ c ∈ u, isSp c = k) ∧ AltFrom (!k) L

theorem chunks_uniform_append (k : Bool) (u : List Char) (hne : u ≠ []) (hu : ∀ c ∈ u, isSp c = k)
    (R : List Char) (rest : List (List Char)) (hR : chunks R = rest) (hrest : AltFrom (!k) rest) :
    chunks (u ++ R) = u :: rest := by
  induction u with
  | nil => exact absurd rfl hne
  | cons c t ih =>
    cases t with
    | nil =>
      simp only [List.cons_append, List.nil_append, chunks, hR]
      cases rest with
      | nil => rfl
      | cons h rest' =>
        obtain ⟨hh, hk, _⟩ := hrest
        cases h with
        | nil => exact absurd rfl hh
        | cons d ds =>
          have hc : isSp c = k := hu c (by simp)
          have hd : isSp d = !k := hk d (by simp)
          have : ¬ ((c = ' ') = (d = ' ')) := fun he => by
            simp only [isSp, he] at hc
            exact absurd (hc.symm.trans hd) (by cases k <;> simp)
          simp [this]
    | cons c' t' =>
      have ih' := ih (by simp) (fun x hx => hu x (List.mem_cons_of_mem _ hx))
      simp only [List.cons_append] at ih' ⊢
      rw [chunks, ih']
      have hc : isSp c = k := hu c (by simp)
      have hc' : isSp c' = k := hu c' (by simp)
      have : (c = ' ') = (c' = ' ') := propext (decide_eq_decide.1 (hc.trans hc'.symm))
      simp [this]

theorem chunks_flatten (k : Bool) (L : List (List Char)) (h : AltFrom k L) : chunks L.flatten = L := by
  induction L generalizing k with
  | nil => simp [chunks]
  | cons u L ih =>
    obtain ⟨h1, h2, h3⟩ := h
    simp only [List.flatten_cons]
    exact chunks_uniform_append k u h1 h2 L.flatten L (ih (!k) h3) h3

theorem isSp_word {x : List Char} (h : IsWord x) : ∀ c ∈ x, isSp c = false := by
  intro c hc; simp [isSp, h.2 c hc]

theorem isSp_spaces {s : List Char} (h : IsSpaces s) : ∀ c ∈ s, isSp c = true := by
  intro c hc; simp [isSp, h.2 c hc]

theorem altFrom_pairs (ps : List Pair) (h : PairsOK ps) : AltFrom true (ps.flatMap (fun p => [p.1, p.2])) := by
  induction ps with
  | nil => simp [AltFrom]
  | cons p t ih =>
    obtain ⟨s, x⟩ := p
    have hp := h (s, x) (by simp)
    simp only [List.flatMap_cons, List.cons_append, List.nil_append, AltFrom, Bool.not_true, Bool.not_false]
    exact ⟨hp.1.1, isSp_spaces hp.1, hp.2.1, isSp_word hp.2, ih (fun q hq => h q (by simp [hq]))⟩

theorem altFrom_flatAlt (x0 : List Char) (ps : List Pair) (hx : IsWord x0) (h : PairsOK ps) :
    AltFrom false (flatAlt x0 ps) :=
  ⟨hx.1, isSp_word hx, by simpa using altFrom_pairs ps h⟩

/-- no tab, line break or other control blank (`\t\n\x0b\x0c\r`) -/
def NoCtl (t : List Char) : Prop := ∀ c ∈ t, ¬ (9 ≤ c.toNat ∧ c.toNat ≤ 13)

theorem expandTabs_id (t : List Char) (col : Nat) (h : NoCtl t) : expandTabs t col = t := by
  induction t generalizing col with
  | nil => rfl
  | cons c r ih =>
    have hc := h c (by simp)
    have h1 : c ≠ '\t' := by intro e; subst e; exact hc (by decide)
    have h2 : c ≠ '\n' := by intro e; subst e; exact hc (by decide)
    have h3 : c ≠ '\r' := by intro e; subst e; exact hc (by decide)
    simp [expandTabs, h1, h2, h3, ih _ (fun x hx => h x (List.mem_cons_of_mem _ hx))]

theorem munge_id (t : List Char) (h : NoCtl t) : munge t = t := by
  simp only [munge, expandTabs_id t 0 h]
  induction t with
  | nil => rfl
  | cons c r ih =>
    have hc := h c (by simp)
    simp only [List.map_cons, hc, if_false]
    rw [ih (fun x hx => h x (List.mem_cons_of_mem _ hx))]

theorem wrapChunks_first (w hang n : Nat) (cs : List (List Char)) (hne : cs ≠ []) :
    wrapChunks w hang (n + 1) true cs =
      if (dropTrailingSpace (lineSplit w cs).1).isEmpty then wrapChunks w hang n true (lineSplit w cs).2
      else dropTrailingSpace (lineSplit w cs).1 :: wrapChunks w hang n false (lineSplit w cs).2 := by
  cases cs with
  | nil => exact absurd rfl hne
  | cons a t => simp [wrapChunks]

theorem chunks_flatAlt (x0 : List Char) (ps : List Pair) (hx : IsWord x0) (hps : PairsOK ps)
    (hctl : NoCtl (flatAlt x0 ps).flatten) : chunks (munge (flatAlt x0 ps).flatten) = flatAlt x0 ps := by
  rw [munge_id _ hctl]
  exact chunks_flatten false _ (altFrom_flatAlt x0 ps hx hps)

theorem fill_grouping (w hang : Nat) (x0 : List Char) (ps : List Pair) (hx : IsWord x0) (hps : PairsOK ps)
    (hctl : NoCtl (flatAlt x0 ps).flatten) :
    ∃ gs, Grouping x0 ps gs ∧
      wrapChunks w hang ((flatAlt x0 ps).length + 1) true (flatAlt x0 ps) = gs.map (fun g => flatAlt g.1 g.2) ∧
      fill w hang (flatAlt x0 ps).flatten = renderLines hang (gs.map (fun g => flatAlt g.1 g.2)) := by
  obtain ⟨gs, hg, hw⟩ := wrap_grouping w hang ((flatAlt x0 ps).length + 1) true (flatAlt x0 ps) x0 ps hx hps
    (Or.inl rfl) (Nat.le_succ _)
  exact ⟨gs, hg, hw, by simp only [fill, chunks_flatAlt x0 ps hx hps hctl, hw]⟩

end Midgard.Proofs.ConfigText

namespace Midgard.Props.C19
open Midgard.Config

/-- the word chunks of a chunk list (blank chunks removed) -/
def wordChunks (cs : List (List Char)) : List (List Char) := cs.filter (fun ch => !isSpaceChunk ch)

theorem wordChunks_dropTrailingSpace (cur : List (List Char)) :
    wordChunks (dropTrailingSpace cur) = wordChunks cur := by
  rcases List.eq_nil_or_concat cur with rfl | ⟨l, ch, rfl⟩
  · rfl
  · rw [List.concat_eq_append, Midgard.Proofs.ConfigText.dropTrailingSpace_snoc]
    split <;> simp [wordChunks, List.filter_append, *]

theorem wordChunks_append (a b : List (List Char)) : wordChunks (a ++ b) = wordChunks a ++ wordChunks b := by
  simp [wordChunks, List.filter_append]

end Midgard.Props.C19

#print axioms Midgard.Proofs.ConfigText.takeFit_all
#print axioms Midgard.Proofs.ConfigText.lineSplit_fits
#print axioms Midgard.Props.C19.wordChunks_dropTrailingSpace
#print axioms Midgard.Props.C19.wordChunks_append
