/-
C17 — csv_.  A data line written with `np.savetxt(fmt=…, delimiter=",")` is cut back into its cells by the separator class of
parsers/csv_.py and every cell reads back (`splitSep_joinWith`, `csvCell_readsBack`); and parsers/csv_.py (model
`Model/WriterCsv.lean`, pandas behaviours P1–P10 as probed assumptions) on what the writer produces: the token rows of a file
written with any separator of the parser's class (`csvRows_written`), and what the dtype inference of the writer's `%d`, `%.pf`
columns needs.
-/
import Midgard.Proofs.WriterFiles
import Midgard.Model.WriterCsv

namespace Midgard.WriterFiles
open Midgard.Text Midgard.Decimal Midgard.FixedCol Midgard.WriterCells Midgard.Writers

theorem splitSepAux_word (t : Str) (ht : ∀ c ∈ t, isCsvSep c = false) :
    ∀ (cur rest : Str), splitSepAux (t ++ rest) cur = splitSepAux rest (t.reverse ++ cur) := by
  induction t with
  | nil => intro cur rest; rfl
  | cons c t ih =>
    intro cur rest
    have hc : isCsvSep c = false := ht c (by simp)
    simp only [List.cons_append, splitSepAux, hc, Bool.false_eq_true, if_false]
    rw [ih (fun x hx => ht x (by simp [hx]))]
    simp

theorem splitSep_joinWith (sep : Char) (hsep : isCsvSep sep = true) : ∀ (ts : List Str), ts ≠ [] →
    (∀ t ∈ ts, ∀ c ∈ t, isCsvSep c = false) → splitSep (joinWith sep ts) = ts := by
  intro ts
  induction ts with
  | nil => intro h; exact absurd rfl h
  | cons t rest ih =>
    intro _ h
    cases rest with
    | nil =>
      unfold splitSep
      have := splitSepAux_word t (h t (by simp)) [] []
      simp only [List.append_nil] at this
      simp [joinWith, this, splitSepAux]
    | cons u rest' =>
      unfold splitSep
      have hw := splitSepAux_word t (h t (by simp)) [] (sep :: joinWith sep (u :: rest'))
      simp only [joinWith]
      rw [hw]
      simp only [splitSepAux, hsep, if_true, List.append_nil, List.reverse_reverse]
      have := ih (by simp) (fun x hx => h x (by simp [hx]))
      unfold splitSep at this
      rw [this]

theorem csvCell_num (p : Nat) (q : Rat) : csvCell (.f p) (.num q) = some (fmtFixedCore q p) := rfl

theorem noSep_numChar {c : Char} (h : isDigit c = true ∨ c = '-' ∨ c = '.') : isCsvSep c = false := by
  rcases h with h | rfl | rfl
  · have : c ≠ ',' ∧ c ≠ ';' := by
      constructor <;> (intro e; subst e; revert h; decide)
    simp [isCsvSep, this.1, this.2]
  · decide
  · decide

/-- what a reader finds in a csv cell: the value a number was rounded to, an integer itself, text as it is -/
def csvReadsBack : CsvFmt → Value → Str → Prop
  | .f p, .num q, t => parseFloat t = some (fixedValue q p)
  | .f _, .nan, t => t = "nan".toList
  | .f _, .negz, t => parseFloat t = some 0
  | .d, .int i, t => parseInt? t = some i
  | .s, .str s, t => t = s
  | _, _, _ => False

theorem csvCell_readsBack (f : CsvFmt) (v : Value) (t : Str) (h : csvCell f v = some t) : csvReadsBack f v t := by
  cases f <;> cases v <;> simp [csvCell] at h <;> subst h
  · rfl
  · exact parseInt_fmtInt _
  · exact parseFloat_fmtFixedCore _ _
  · rfl
  · exact Writers.parseFloat_negz _

theorem csvCell_noSep (f : CsvFmt) (v : Value) (t : Str) (h : csvCell f v = some t)
    (hs : ∀ s, v = .str s → ∀ c ∈ s, isCsvSep c = false) : ∀ c ∈ t, isCsvSep c = false := by
  cases f <;> cases v <;> simp only [csvCell, Option.some.injEq, reduceCtorEq] at h <;> subst h
  · exact hs _ rfl
  · exact fun c hc => noSep_numChar ((fmtInt_chars _).1 c hc)
  · exact fun c hc => noSep_numChar ((fmtFixedCore_chars _ _).1 c hc)
  · decide
  · intro c hc
    rcases List.mem_cons.mp hc with rfl | hc
    · decide
    · exact noSep_numChar ((fmtFixedCore_chars _ _).1 c hc)

theorem forall₂_mem_right {α β} {R : α → β → Prop} {l : List α} {ts : List β} (h : List.Forall₂ R l ts) :
    ∀ t ∈ ts, ∃ a ∈ l, R a t := by
  induction h with
  | nil => intro t ht; cases ht
  | cons hr _ ih =>
    intro t ht
    rcases List.mem_cons.mp ht with rfl | ht
    · exact ⟨_, List.mem_cons_self, hr⟩
    · obtain ⟨a, ha, h⟩ := ih t ht
      exact ⟨a, List.mem_cons_of_mem _ ha, h⟩

end Midgard.WriterFiles

namespace Midgard.WriterCsv
open Midgard.Text Midgard.Decimal Midgard.WriterFiles Midgard.Writers Midgard.WriterCells

theorem numeric_not_NA (t : Str) (hne : t ≠ []) (h : ∀ c ∈ t, isDigit c = true ∨ c = '-' ∨ c = '.')
    (hd : ∃ c ∈ t, isDigit c = true) : isNA t = false := by
  -- no token of the present `naTokens` is `-`: the last disjunct of `key` is realised by none, and `hd` is used in that branch only
  have key : ∀ na ∈ naTokens, na = [] ∨ ∃ c ∈ na, ¬ (isDigit c = true ∨ c = '-' ∨ c = '.') ∨ na = "-".toList := by decide +kernel
  cases hna : isNA t with
  | false => rfl
  | true =>
    exfalso
    have hm : t ∈ naTokens := by simpa [isNA] using hna
    rcases key t hm with h0 | ⟨c, hc, hbad⟩
    · exact hne h0
    · rcases hbad with hbad | hbad
      · exact hbad (h c hc)
      · obtain ⟨d, hdm, hdd⟩ := hd
        rw [hbad] at hdm
        simp at hdm; subst hdm; revert hdd; decide

theorem isIntTok_fmtInt (i : Int) : isIntTok (fmtInt i) = true := by
  unfold isIntTok
  rw [strip_of_no_space (no_space_fmtInt i)]
  unfold fmtInt
  split
  · simp [takeSign, natDigits_ne_nil', allDigits_natDigits']
  · obtain ⟨c, r, h, hd⟩ := natDigits_head_digit i.natAbs
    rw [h, takeSign_of_digit hd, ← h]
    simp [natDigits_ne_nil', allDigits_natDigits']

/-- the token of a `%.pf` cell -/
def floatTok (p : Nat) : Option Rat → Str
  | some q => fmtFixedCore q p
  | none => "nan".toList

/-- stated on the characters: the form `simp` brings `"nan".toList` into -/
theorem isNA_nan : isNA ['n', 'a', 'n'] = true := by decide +kernel

theorem floatTok_facts (p : Nat) (hp : 0 < p) (v : Option Rat) :
    (isNA (floatTok p v) = v.isNone) ∧ (v.isSome → isIntTok (floatTok p v) = false ∧ isFloatTok (floatTok p v) = true) := by
  cases v with
  | none => exact ⟨isNA_nan, by simp⟩
  | some q =>
    refine ⟨numeric_not_NA _ (fmtFixedCore_ne_nil q p) (fmtFixedCore_chars q p).1 (fmtFixedCore_chars q p).2, fun _ => ⟨?_, ?_⟩⟩
    · -- the text contains a point: no integer token
      have hpoint : '.' ∈ fmtFixedCore q p := by
        rw [fmtFixedCore_eq]
        simp only [List.mem_append]
        right
        unfold fixedBody
        have : p ≠ 0 := by omega
        simp [this]
      show isIntTok (fmtFixedCore q p) = false
      unfold isIntTok
      rw [strip_of_no_space (no_space_fmtFixedCore q p)]
      cases hall : allDigits (takeSign (fmtFixedCore q p)).2 with
      | false => simp [hall]
      | true =>
        exfalso
        have hmem : '.' ∈ (takeSign (fmtFixedCore q p)).2 := by
          generalize fmtFixedCore q p = t at hpoint ⊢
          unfold takeSign
          split
          · exact (List.mem_cons.mp hpoint).resolve_left (by decide)
          · exact (List.mem_cons.mp hpoint).resolve_left (by decide)
          · exact hpoint
        have := isDigit_of_mem hall hmem
        revert this; decide
    · simp [isFloatTok, floatTok, parseFloat_fmtFixedCore]

/-- a token the writer may put into a line without changing how the line is cut: no separator, no `#`, no line break, no
leading blank -/
def plainTok (t : Str) : Bool :=
  t.all (fun c => !isCsvSep c && c != '#' && c != '\n' && c != '\r') && t.head? != some ' '

theorem rstripNl_line (l : Str) (h : ∀ c ∈ l, c ≠ '\n' ∧ c ≠ '\r') : rstripNl (l ++ ['\n']) = l := by
  unfold rstripNl
  rw [List.reverse_append]
  simp only [List.reverse_cons, List.reverse_nil, List.nil_append, List.singleton_append]
  have h1 : (('\n' :: l.reverse).dropWhile fun c => c = '\n' || c = '\r') = l.reverse := by
    simp only [List.dropWhile_cons, decide_true, Bool.true_or, if_true]
    cases hr : l.reverse with
    | nil => rfl
    | cons c r =>
      have hc : c ∈ l := by
        have : c ∈ l.reverse := by rw [hr]; simp
        simpa using this
      have := h c hc
      simp [this.1, this.2]
  rw [h1, List.reverse_reverse]

theorem mem_joinWith {sep c : Char} : ∀ {r : List Str}, c ∈ joinWith sep r → c = sep ∨ ∃ t ∈ r, c ∈ t
  | [], h => by cases h
  | [t], h => Or.inr ⟨t, List.mem_cons_self, h⟩
  | t :: u :: r, h => by
    simp only [joinWith, List.mem_append, List.mem_cons] at h
    rcases h with h | rfl | h
    · exact Or.inr ⟨t, List.mem_cons_self, h⟩
    · exact Or.inl rfl
    · exact (mem_joinWith h).imp id fun ⟨x, hx, hc⟩ => ⟨x, List.mem_cons_of_mem _ hx, hc⟩

/-- P1, P7, P8, P10 on the writer's side: a header line and data lines of plain tokens -/
theorem csvRows_written (sep : Char) (hsep : isCsvSep sep = true) (rows : List (List Str)) (hne : ∀ r ∈ rows, r ≠ [])
    (hplain : ∀ r ∈ rows, ∀ t ∈ r, plainTok t = true)
    (hkeep : ∀ r ∈ rows, ¬ (r.length = 1 ∧ isBlank (r.headD []) = true)) :
    csvRows ((rows.map fun r => joinWith sep r ++ ['\n']).flatten) = rows := by
  have hs : sep = ',' ∨ sep = ';' := by simpa [isCsvSep] using hsep
  have hchar : ∀ r ∈ rows, ∀ t ∈ r, ∀ c ∈ t, isCsvSep c = false ∧ c ≠ '#' ∧ c ≠ '\n' ∧ c ≠ '\r' := by
    intro r hr t ht c hc
    have := hplain r hr t ht
    simp only [plainTok, Bool.and_eq_true, List.all_eq_true, Bool.not_eq_true', bne_iff_ne, ne_eq] at this
    have := this.1 c hc
    exact ⟨this.1.1.1, this.1.1.2, this.1.2, this.2⟩
  have hline : ∀ r ∈ rows, ∀ c ∈ joinWith sep r, c ≠ '#' ∧ c ≠ '\n' ∧ c ≠ '\r' := by
    intro r hr c hc
    rcases mem_joinWith hc with rfl | ⟨t, ht, hct⟩
    · rcases hs with rfl | rfl <;> exact ⟨by decide, by decide, by decide⟩
    · exact (hchar r hr t ht c hct).2
  have hfile : (rows.map fun r => joinWith sep r ++ ['\n']).flatten = ((rows.map (joinWith sep)).map (· ++ ['\n'])).flatten := by
    rw [List.map_map]; rfl
  have hnocr : ∀ c ∈ ((rows.map (joinWith sep)).map (· ++ ['\n'])).flatten, c ≠ '\r' := by
    intro c hc
    obtain ⟨l, hl, hcl⟩ := List.mem_flatten.mp hc
    obtain ⟨b, hb, rfl⟩ := List.mem_map.mp hl
    obtain ⟨r, hr, rfl⟩ := List.mem_map.mp hb
    rcases List.mem_append.mp hcl with h | h
    · exact (hline r hr c h).2.2
    · simp at h; subst h; decide
  unfold csvRows
  rw [hfile, universalNewlines_of_noCR _ hnocr, fileLines_lines _ (by
    intro l hl c hc
    obtain ⟨r, hr, rfl⟩ := List.mem_map.mp hl
    exact (hline r hr c hc).2.1)]
  simp only [List.map_map]
  have hmap : (rows.map ((fun l => (splitSep l).map dropLeadingBlanks) ∘ (fun l => (rstripNl l).takeWhile (· ≠ '#')) ∘
      (· ++ ['\n']) ∘ joinWith sep)) = rows := by
    conv => rhs; rw [← List.map_id rows]
    apply List.map_congr_left
    intro r hr
    simp only [Function.comp, id]
    rw [rstripNl_line _ (fun c hc => ⟨(hline r hr c hc).2.1, (hline r hr c hc).2.2⟩),
      takeWhile_eq_self _ _ (fun c hc => by simpa using (hline r hr c hc).1),
      splitSep_joinWith sep hsep r (hne r hr) (fun t ht c hc => (hchar r hr t ht c hc).1)]
    conv => rhs; rw [← List.map_id r]
    apply List.map_congr_left
    intro t ht
    have := hplain r hr t ht
    simp only [plainTok, Bool.and_eq_true, bne_iff_ne, ne_eq] at this
    unfold dropLeadingBlanks
    cases t with
    | nil => rfl
    | cons c rest =>
      have hc : c ≠ ' ' := by intro e; subst e; simp at this
      simp [hc]
  rw [hmap]
  apply List.filter_eq_self.mpr
  intro r hr
  simp only [Bool.not_eq_true', Bool.and_eq_false_iff, beq_eq_false_iff_ne, ne_eq]
  exact (not_and_or.mp (hkeep r hr)).imp id Bool.eq_false_iff.mpr

end Midgard.WriterCsv
