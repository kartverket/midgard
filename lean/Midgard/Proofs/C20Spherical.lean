/-
C20 — Euler pole, spherical ↔ Cartesian (`PlateMotion.to_cartesian` / `to_spherical`): over `ℝ`, the formulas of the
executable `toCartesianQ` / `omegaSq` written with `Real.cos/sin/sqrt` and `arctan2 y x := Complex.arg (x + iy)` (a
specification, not executed), and the polar-form lemmas from which Props/C20.lean proves both round trips.  The constant
unit factors (°↔rad, mas, 10⁶) are omitted: they cancel, as `to_cartesian_rate_and_direction` shows for the executed formula.
-/
import Mathlib.Analysis.SpecialFunctions.Complex.Arg

namespace Midgard.Proofs.C20

namespace Spherical
open Real

/-- `np.arctan2(y, x)` -/
noncomputable def atan2 (y x : ℝ) : ℝ := Complex.arg ⟨x, y⟩

/-- `to_cartesian` up to the constant unit factors -/
noncomputable def toCartesian (lat lon w : ℝ) : ℝ × ℝ × ℝ :=
  (w * cos lat * cos lon, w * cos lat * sin lon, w * sin lat)

/-- `to_spherical` up to the constant unit factors -/
noncomputable def toSpherical (p : ℝ × ℝ × ℝ) : ℝ × ℝ × ℝ :=
  (atan2 p.2.2 (sqrt (p.1 ^ 2 + p.2.1 ^ 2)), atan2 p.2.1 p.1, sqrt (p.1 ^ 2 + p.2.1 ^ 2 + p.2.2 ^ 2))

theorem atan2_polar (r θ : ℝ) (hr : 0 < r) (hθ : θ ∈ Set.Ioc (-π) π) : atan2 (r * sin θ) (r * cos θ) = θ := by
  unfold atan2
  have e : (⟨r * cos θ, r * sin θ⟩ : ℂ) = (r : ℂ) * (Complex.cos θ + Complex.sin θ * Complex.I) := by
    apply Complex.ext <;> simp [Complex.cos_ofReal_re, Complex.sin_ofReal_re, Complex.cos_ofReal_im, Complex.sin_ofReal_im]
  rw [e]
  exact Complex.arg_mul_cos_add_sin_mul_I hr hθ

theorem hyp_cos (x y : ℝ) : sqrt (x ^ 2 + y ^ 2) * cos (atan2 y x) = x := by
  have := Complex.norm_mul_cos_arg ⟨x, y⟩
  rwa [Complex.norm_eq_sqrt_sq_add_sq] at this

theorem hyp_sin (x y : ℝ) : sqrt (x ^ 2 + y ^ 2) * sin (atan2 y x) = y := by
  have := Complex.norm_mul_sin_arg ⟨x, y⟩
  rwa [Complex.norm_eq_sqrt_sq_add_sq] at this

end Spherical
end Midgard.Proofs.C20
