/-
C10 — what `Dataset.write` hands over to `Dataset.read`: the file as the reader needs it (`FileOK`; with the `time` attribute
`FileOKX`): unique sibling names, no object stored under two paths, every array group holds its heap object under its own name
and `_read` finds each attribute in the array group written for that very object.  Of the array groups the read side assumes
nothing else: `_read` of one array group uses all of `NodeOKX`, the loops over the fields use only `ArrGroups`.  `NodeOK` / `FileOK`
are the forms for the model without `time`, used by `Proofs/H5PlainWrite.lean` / `Proofs/H5PlainRead.lean` only.
-/
import Midgard.Proofs.H5Base

namespace Midgard.H5
open Midgard.Dataset

/-- references point to older objects (the attachment exists before the array that refers to it) -/
def Below (h : Heap) : Prop := ∀ (o : Nat) (ob : Obj) (x : Nat), h[o]? = some ob → ob.ref = some x → x < o

/-- the array group `g` found at the path `q` holds a heap object, stripped of its reference, under
its own name, and `_read` will find the attached object (if any) in an array group of the file that
was written for that very object -/
def NodeOK (h : Heap) (file : File) (q : Path) (g : Grp) : Prop :=
  ∃ a ob subs, g = .mk a (some ob.strip) subs ∧ h[a.src]? = some ob ∧ a.fieldname = q ∧
    ((ob.ref = none ∧ ∀ nm, attrName ob.kind = some nm → refTarget file a subs nm = none) ∨
     (∃ nm y qy gy, attrName ob.kind = some nm ∧ ob.ref = some y ∧ refTarget file a subs nm = some (qy, some gy) ∧
        lookupGrp file.groups qy = some gy ∧ gy.isArr = true ∧ gy.src = y))

structure FileOK (h : Heap) (file : File) : Prop where
  names : NamesOKG.NamesOKL file.groups
  uniq : ∀ q1 g1 q2 g2, lookupGrp file.groups q1 = some g1 → lookupGrp file.groups q2 = some g2 → g1.isArr = true →
    g2.isArr = true → g1.src = g2.src → q1 = q2
  node : ∀ q g, lookupGrp file.groups q = some g → g.isArr = true → NodeOK h file q g

/-- what the read side needs of the array groups whatever their attributes: no object is stored under two paths, and an array
group carries its own path as `fieldname` -/
structure ArrGroups (file : File) : Prop where
  uniq : ∀ q1 g1 q2 g2, lookupGrp file.groups q1 = some g1 → lookupGrp file.groups q2 = some g2 → g1.isArr = true →
    g2.isArr = true → g1.src = g2.src → q1 = q2
  fieldname : ∀ {q g}, lookupGrp file.groups q = some g → g.isArr = true → g.attrs.fieldname = q

theorem FileOK.arrs {h : Heap} {file : File} (fo : FileOK h file) : ArrGroups file := by
  refine ⟨fo.uniq, fun {q g} hl ha => ?_⟩
  obtain ⟨a, ob, subs, rfl, _, hfn, _⟩ := fo.node q g hl ha
  exact hfn

/-- where `_read` finds an attribute: the reference by name `r`, else the embedded sub-group `nm` -/
def slotTarget (file : File) (r : Option Path) (fn : Path) (subs : List (String × Grp)) (nm : String) : Option (Path × Option Grp) :=
  match r with
  | some name => some (name, lookupGrp file.groups name)
  | none => match subs.lookup nm with
    | some g => some (fn ++ [nm], some g)
    | none => none

theorem refTarget_eq (file : File) (a : GAttrs) (subs : List (String × Grp)) (nm : String) :
    refTarget file a subs nm = slotTarget file a.ref a.fieldname subs nm := rfl
theorem refTargetT_eq (file : File) (a : GAttrs) (subs : List (String × Grp)) :
    refTargetT file a subs = slotTarget file a.tref a.fieldname subs "time" := rfl

/-- `_read` finds the attribute with value `x`: nothing for `None`, else an array group of the file written for `x` -/
def SlotF (file : File) (r : Option Path) (fn : Path) (subs : List (String × Grp)) (nm : String) (x : Option Nat) : Prop :=
  match x with
  | none => slotTarget file r fn subs nm = none
  | some y => ∃ qy gy, slotTarget file r fn subs nm = some (qy, some gy) ∧ lookupGrp file.groups qy = some gy ∧
      gy.isArr = true ∧ gy.src = y

/-- the array group `g` at `q` holds a heap object under its own name, and `_read` finds its attribute and its `time` -/
def NodeOKX (h : Heap) (tm : TM) (file : File) (q : Path) (g : Grp) : Prop :=
  ∃ a ob subs, g = .mk a (some ob.strip) subs ∧ h[a.src]? = some ob ∧ a.fieldname = q ∧
    match attrName ob.kind with
    | none => True
    | some nm => SlotF file a.ref q subs nm ob.ref ∧ SlotF file a.tref q subs "time" (tmE h tm a.src)

/-- the file as `Dataset.read` needs it: unique sibling names, no object stored under two paths, every array group `NodeOKX` -/
structure FileOKX (h : Heap) (tm : TM) (file : File) : Prop where
  names : NamesOKG.NamesOKL file.groups
  uniq : ∀ q1 g1 q2 g2, lookupGrp file.groups q1 = some g1 → lookupGrp file.groups q2 = some g2 → g1.isArr = true →
    g2.isArr = true → g1.src = g2.src → q1 = q2
  node : ∀ q g, lookupGrp file.groups q = some g → g.isArr = true → NodeOKX h tm file q g

theorem FileOKX.arrs {h : Heap} {tm : TM} {file : File} (fo : FileOKX h tm file) : ArrGroups file := by
  refine ⟨fo.uniq, fun {q g} hl ha => ?_⟩
  obtain ⟨a, ob, subs, rfl, _, hfn, _⟩ := fo.node q g hl ha
  exact hfn

end Midgard.H5
