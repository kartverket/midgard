/-
C15, one line of a rendered ANTEX file (`Spec/AntexFile.lean`) under `parse_line`.  A labelled record is 60 data columns and a
label: the parser finds the entry registered for the label, or none, and hands it the columns (`labelled_line`, `kind_line`).  A
correction row has no label and is split at blanks (`row_line`).
-/
import Midgard.Spec.AntexFile
import Midgard.Proofs.AntexRecords
import Midgard.Proofs.Split

namespace Midgard.Antex.File
open Midgard.Text Midgard.FixedCol Midgard.ChainParser Midgard.Antex Midgard.Decimal Midgard.Antex.Records
open Midgard.Spec.Antex14 (RecSpec specs renderLabelled renderRow findKind findLabel)
open Midgard.Spec.AntexFile

theorem values_rendered (sp : RecSpec) (hsp : sp ∈ specs) (d : LabelDef)
    (hfl : d.fields = sp.layout) (hop : d.openFields = []) (hst : d.strip = .whitespace)
    (cells : List Str) (hlen : cells.length = sp.layout.length) (hf : Fits sp.layout (sp.aligns.zip cells) = true) :
    d.values (rstrip (renderLabelled sp cells)) = (sp.layout.map (·.name)).zip cells := by
  unfold LabelDef.values
  rw [hop, hst, hfl]
  simp only [List.map_nil, List.append_nil, StripOpt.apply]
  have hrt := (record_roundtrip sp hsp cells hlen hf).1
  have := (List.zip_map' (f := (·.name)) (g := fun f => FixedCol.slice f (rstrip (renderLabelled sp cells)))
    (l := sp.layout)).symm
  simp only [FixedCol.slice] at this hrt
  rw [this, hrt]

theorem findKind_mem {k : String} {sp : RecSpec} (h : findKind k = some sp) : sp ∈ specs :=
  List.mem_of_find?_eq_some h

theorem spec_eq {k : String} {sp : RecSpec} (h : findKind k = some sp) : spec k = sp := by
  simp [spec, h]

theorem okRec_parts {k : String} {cells : List Str} (h : okRec k cells = true) :
    cells.length = (spec k).layout.length ∧ Fits (spec k).layout ((spec k).aligns.zip cells) = true ∧
      ∀ c ∈ cells, okText c = true := by
  simp only [okRec, Bool.and_eq_true, decide_eq_true_eq, List.all_eq_true] at h
  exact ⟨h.1.2, h.2, h.1.1⟩

/-- what the header parser and the antenna-section parser have in common: lines that are not empty are read, the
label stands in columns 61–80, the group ends where columns 61 … 60 + `w` are the marker `m` -/
structure Reads (p : ParserDef State) (w : Nat) (m : Str) : Prop where
  skip : ∀ l : Str, l.isEmpty = false → p.skipLine l = false
  label : ∀ {sp : RecSpec}, sp ∈ specs → ∀ {body : Str}, body.length = 60 → ∀ n,
    p.label (body ++ sp.label.toList) n = sp.label
  endMarker : ∀ l n nx, p.endMarker l n nx = decide (Text.slice 60 (60 + w) l = m)
  handle : p.handle = handle

theorem corr_reads : Reads corrParser 14 "END OF ANTENNA".toList :=
  ⟨fun _ h => h, fun hsp _ hb _ => (label_of_body hsp hb).2.2.1, fun _ _ _ => rfl, rfl⟩

theorem header_reads : Reads headerParser 13 "END OF HEADER".toList :=
  ⟨fun _ _ => rfl, fun hsp _ hb _ => (label_of_body hsp hb).2.1, fun _ _ _ => rfl, rfl⟩

theorem labelled_line {p : ParserDef State} {w : Nat} {m : Str} (hp : Reads p w m) {sp : RecSpec} (hsp : sp ∈ specs)
    {body : Str} (hb : body.length = 60) (n : Nat) :
    (∀ s, parseLine p (rstrip (body ++ sp.label.toList)) n s =
      match p.defs.find? (·.label == sp.label) with
      | none => .ok s
      | some d => handle d.handler (d.values (rstrip (body ++ sp.label.toList))) s) ∧
    ∀ nx, p.endMarker (rstrip (body ++ sp.label.toList)) n nx = decide (sp.label.toList.take w = m) := by
  obtain ⟨hr, _, _, hsl⟩ := label_of_body hsp hb
  obtain ⟨_, _, _, _, c, r, hl, _⟩ := spec_facts hsp
  refine ⟨fun s => ?_, fun nx => by rw [hp.endMarker, hr, hsl]⟩
  have hskip := hp.skip (rstrip (body ++ sp.label.toList)) (by rw [hr, hl]; simp)
  have hlab : p.label (rstrip (rstrip (body ++ sp.label.toList))) n = sp.label := by
    rw [hr, hr]
    exact hp.label hsp hb n
  cases hd : p.defs.find? (·.label == sp.label) with
  | none => exact parseLine_none p _ n s hskip (by rw [hlab]; exact hd)
  | some d => rw [parseLine_found p _ n s d hskip (by rw [hlab]; exact hd), hp.handle]

/- Declared in `Records`, where Props/C15 takes its record-level theorems from; it stands here because it needs `labelled_line`. -/
theorem _root_.Midgard.Antex.Records.comments_ignored (sp : RecSpec) (hsp : sp ∈ specs) (cells : List Str)
    (hlen : cells.length = sp.layout.length) (hf : Fits sp.layout (sp.aligns.zip cells) = true)
    (hunread : Midgard.Generated.AntexCols.records.find? (·.label == sp.label) = none)
    (n : Nat) (s : State) :
    parseLine corrParser (rstrip (renderLabelled sp cells)) n s = .ok s := by
  unfold renderLabelled
  rw [(labelled_line corr_reads hsp (length_body hsp hf) n).1 s]
  show (match Midgard.Generated.AntexCols.records.find? (·.label == sp.label) with
    | none => Except.ok s
    | some d => handle d.handler (d.values _) s) = _
  rw [hunread]

abbrev Fx := State → Except Err State
def idFx : Fx := fun s => .ok s

theorem runFx_idFx (fs : List Fx) (s : State) : runFx (idFx :: fs) s = runFx fs s := rfl

/-- a record kind, the handler registered for its label (`none`: the parser does not read it), the names of its fields -/
structure Kind where
  kind : String
  handler : Option String
  names : List String

/-- the entry agrees with the ANTEX 1.4 layout of the kind and with the `parser_def` table `defs`: the label is
registered with that handler for exactly the columns of the layout, under these names -/
def kindOk (defs : List LabelDef) (e : Kind) : Bool :=
  match findKind e.kind with
  | none => false
  | some sp =>
    match defs.find? (·.label == sp.label), e.handler with
    | none, none => true
    | some d, some h =>
      d.fields == sp.layout && d.openFields.isEmpty && d.strip == .whitespace && d.handler == h &&
        sp.layout.map (·.name) == e.names
    | _, _ => false

def kindFx (e : Kind) (cells : List Str) : Fx :=
  match e.handler with
  | none => idFx
  | some h => handle h (e.names.zip cells)

theorem kind_line {p : ParserDef State} {w : Nat} {m : Str} (hp : Reads p w m) {e : Kind} (he : kindOk p.defs e = true)
    {cells : List Str} (hok : okRec e.kind cells = true) (n : Nat) :
    (∀ s, parseLine p (rstrip (rec e.kind cells)) n s = kindFx e cells s) ∧
    ∀ nx, p.endMarker (rstrip (rec e.kind cells)) n nx = decide ((spec e.kind).label.toList.take w = m) := by
  obtain ⟨k, h, names⟩ := e
  obtain ⟨hlen, hf, _⟩ := okRec_parts hok
  unfold kindOk at he
  simp only at he hlen hf ⊢
  cases hk : findKind k with
  | none => simp [hk] at he
  | some sp =>
    have hsp := findKind_mem hk
    rw [spec_eq hk] at hlen hf
    unfold rec
    rw [spec_eq hk]
    obtain ⟨hline, hend⟩ := labelled_line hp hsp (length_body hsp hf) n
    refine ⟨fun s => ?_, hend⟩
    unfold renderLabelled
    rw [hline s]
    simp only [hk] at he
    cases hd : p.defs.find? (·.label == sp.label) with
    | none => cases h <;> simp [hd] at he ⊢ <;> rfl
    | some d =>
      cases h with
      | none => simp [hd] at he
      | some h =>
        simp only [hd, Bool.and_eq_true, beq_iff_eq, List.isEmpty_iff] at he
        obtain ⟨⟨⟨⟨hfl, hop⟩, hst⟩, hh⟩, hn⟩ := he
        show handle d.handler (d.values (rstrip (renderLabelled sp cells))) s = handle h (names.zip cells) s
        rw [values_rendered sp hsp d hfl hop hst cells hlen hf, hh, hn]

/-- the record kinds of an antenna section (all but END OF ANTENNA) -/
def corrKinds : List Kind :=
  [⟨"SOA", none, []⟩, ⟨"SOR", none, []⟩, ⟨"EOR", none, []⟩, ⟨"COM", none, []⟩, ⟨"METH", none, []⟩, ⟨"SINEX", none, []⟩,
   ⟨"TYP", some "parse_section_string", ["antenna_type", "antenna_code", "sat_code", "cospar_id"]⟩,
   ⟨"DAZI", some "parse_section_float", ["dazi"]⟩, ⟨"ZEN", some "parse_section_float", ["zen1", "zen2", "dzen"]⟩,
   ⟨"NFREQ", some "parse_num_of_frequencies", ["num_freq"]⟩,
   ⟨"VFROM", some "parse_valid_from", ["year", "month", "day", "hour", "minute", "second"]⟩,
   ⟨"VUNTIL", some "parse_valid_until", ["year", "month", "day", "hour", "minute", "second"]⟩,
   ⟨"SOF", some "parse_start_of_frequency", ["frequency_code"]⟩, ⟨"NEU", some "parse_section_float", ["north", "east", "up"]⟩,
   ⟨"EOF", some "save_correction", ["frequency_code"]⟩]

theorem corrKinds_ok : corrKinds.all (kindOk Midgard.Generated.AntexCols.records) = true := by decide +kernel

theorem isNumText_token {v : Str} (h : isNumText v = true) : Token v = true := by
  simp only [isNumText, Bool.and_eq_true] at h
  exact h.1

theorem split_renderRow (first : Str) (vals : List Str) (hfirst : Token first = true)
    (hvals : ∀ v ∈ vals, isNumText v = true ∧ v.length ≤ 7) : split (renderRow first vals) = first :: vals := by
  have := split_rjust_cells (8, first) (vals.map fun v => (8, v)) hfirst fun q hq => by
    obtain ⟨v, hv, rfl⟩ := List.mem_map.mp hq
    have ht := token_iff.mp (isNumText_token (hvals v hv).1)
    exact ⟨ht.1, ht.2, Nat.lt_succ_of_le (hvals v hv).2⟩
  simpa [renderRow, List.map_map, Function.comp_def] using this

theorem rstrip_renderRow (first : Str) (vals : List Str) (hfirst : Token first = true)
    (hvals : ∀ v ∈ vals, isNumText v = true ∧ v.length ≤ 7) : rstrip (renderRow first vals) = renderRow first vals := by
  unfold renderRow
  rcases List.eq_nil_or_concat vals with rfl | ⟨vs, v, rfl⟩
  · simpa using rstrip_append_rjust [] 8 hfirst
  · simp only [List.concat_eq_append, List.map_append, List.flatten_append, List.map_cons, List.map_nil, List.flatten_cons,
      List.flatten_nil, List.append_nil]
    rw [← List.append_assoc]
    exact rstrip_append_rjust _ 8 (isNumText_token (hvals v (by simp)).1)

def plainChar (c : Char) : Bool := !(isAlpha c || decide (c = '#'))

theorem corrLabel_of_tail (line : Str) (h : ∀ c ∈ line.drop 8, plainChar c = true) : corrLabel line = "CORRECTION" := by
  unfold corrLabel
  cases hs : Text.slice 60 61 line with
  | nil => rfl
  | cons c r =>
    cases r with
    | cons d r' => rfl
    | nil =>
      have hc : c ∈ line.drop 8 := mem_slice_drop (by rw [hs]; simp) (by omega)
      have := h c hc
      simp only [plainChar, Bool.not_eq_eq_eq_not, Bool.not_true] at this
      simp [this]

theorem corr_endMarker_of_tail (line : Str) (h : ∀ c ∈ line.drop 8, plainChar c = true) (n : Nat) (nx : Str) :
    corrParser.endMarker line n nx = false := by
  show decide (Text.slice 60 74 line = "END OF ANTENNA".toList) = false
  rw [decide_eq_false_iff_not]
  intro heq
  have hc : 'E' ∈ line.drop 8 := mem_slice_drop (a := 60) (b := 74) (by rw [heq]; decide) (by omega)
  have := h 'E' hc
  revert this
  decide

theorem row_tail_plain (first : Str) (vals : List Str) (hlen : first.length ≤ 8)
    (hvals : ∀ v ∈ vals, isNumText v = true) : ∀ c ∈ (renderRow first vals).drop 8, plainChar c = true := by
  unfold renderRow
  have h8 : (rjust 8 first).length = 8 := length_rjust hlen
  rw [List.drop_append, List.drop_eq_nil_of_le (by omega), h8]
  intro c hc
  simp only [List.nil_append, Nat.sub_self, List.drop_zero, List.mem_flatten, List.mem_map] at hc
  obtain ⟨_, ⟨v, hv, rfl⟩, hcc⟩ := hc
  rcases List.mem_append.mp hcc with hb | hv'
  · rw [(List.mem_replicate.mp hb).2]
    decide
  · have hn := hvals v hv
    simp only [isNumText, Bool.and_eq_true] at hn
    simpa [plainChar] using List.all_eq_true.mp hn.2 c hv'

theorem correction_def :
    Midgard.Generated.AntexCols.records.find? (·.label == "CORRECTION") =
      some ⟨"CORRECTION", "parse_correction", .whitespace, [], [("values", 0)]⟩ := by decide +kernel

/-- `first` is `NOAZI` or the printed azimuth; the values have at most 7 characters each, so that a blank separates them in
their 8 columns -/
theorem row_line (first : Str) (vals : List Str) (nums : List Rat)
    (hfirst : Token first = true) (hlen : first.length ≤ 8)
    (hvals : ∀ v ∈ vals, isNumText v = true ∧ v.length ≤ 7)
    (hnums : vals.mapM (fun t => req (parseFloat t)) = .ok nums) (n : Nat) (s : State) :
    parseLine corrParser (rstrip (renderRow first vals)) n s =
      .ok { s with cache :=
        if first = "NOAZI".toList then { s.cache with noazi := some nums }
        else { s.cache with azi := some (s.cache.azi.getD [] ++ [nums]) } } := by
  have hrs := rstrip_renderRow first vals hfirst hvals
  rw [hrs]
  have htail := row_tail_plain first vals hlen (fun v hv => (hvals v hv).1)
  have hne : (renderRow first vals).isEmpty = false := by
    cases first with
    | nil => exact absurd hfirst (by decide)
    | cons c r => simp [renderRow, rjust]
  have hsplit : split (strip (renderRow first vals)) = first :: vals := by
    rw [split_strip, split_renderRow first vals hfirst hvals]
  rw [parseLine_found corrParser _ n s _ ((corr_skipLine _).trans hne)
    (by rw [corr_label, hrs, corrLabel_of_tail _ htail]; exact correction_def)]
  simp only [LabelDef.values, List.map_nil, List.nil_append, List.map_cons, StripOpt.apply, sliceFrom, List.drop_zero]
  show handle "parse_correction" _ s = _
  simp only [handle, String.reduceEq, if_false, if_true]
  show (corrStep s.cache (strip (renderRow first vals)) >>= fun c => pure { s with cache := c }) = _
  by_cases hN : first = "NOAZI".toList
  · rw [corrStep_noazi ⟨vals, hN ▸ hsplit, hnums⟩, if_pos hN]
    rfl
  · rw [corrStep_row ⟨first, vals, hsplit, hN, hnums⟩, if_neg hN]
    rfl

end Midgard.Antex.File
