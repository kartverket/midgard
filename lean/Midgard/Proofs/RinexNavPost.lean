/-
The post-processing of C12 (`Props/C12.lean`) works on columns by their names, and the facts here are of that one kind: what a
step does to the column of a given name.  For the model's dictionary; for the per-record meaning of renaming and time
correction (a name outside the rename table passes through unchanged); for the regenerated tables: the columns the time
correction and the LNAV test read are such names (`untouched`), and only BeiDou is shifted (`offsets_table`).
-/
import Midgard.Spec.RinexNavPost

namespace Midgard.RinexNav

theorem col_eq_none_iff (d : Cols) (k : String) : col d k = Option.none ↔ d.any (fun x => decide (x.1 = k)) = false := by
  induction d with
  | nil => grind [col]
  | cons p rest ih => grind [col]

theorem col_append (d : Cols) (k : String) (v : Cell) (k' : String) :
    col (append d k v) k' = if k' = k then some ((col d k').getD [] ++ [v]) else col d k' := by
  induction d with
  | nil => grind [append, col]
  | cons p rest ih => grind [append, col]

theorem col_map_vals (g : String → List Cell → List Cell) (d : Cols) (k : String) :
    col (d.map fun x => (x.1, g x.1 x.2)) k = (col d k).map (g k) := by
  induction d with
  | nil => rfl
  | cons p rest ih => grind [col]

theorem col_append_one (d : Cols) (k : String) (vs : List Cell) (k' : String) :
    col (d ++ [(k, vs)]) k' = if k' = k ∧ col d k = Option.none then some vs else col d k' := by
  induction d with
  | nil => grind [col]
  | cons p rest ih => grind [col]

theorem lookupI_single (t : List (String × Int)) (key : String) (v : Int)
    (h : ∀ x ∈ t, x.2 = if x.1 = key then v else 0) (hk : key ∈ t.map (·.1)) (s : String) :
    lookupI t s = if s = key then v else 0 := by
  unfold lookupI
  cases hf : t.find? (fun x => decide (x.1 = s)) with
  | some x =>
    have hx : x.1 = s := by simpa using List.find?_some hf
    rw [Option.map_some, Option.getD_some, h x (List.mem_of_find?_eq_some hf), hx]
  | none =>
    have hs : ¬ s = key := by
      rintro rfl
      obtain ⟨x, hx, hxs⟩ := List.mem_map.mp hk
      exact absurd (decide_eq_true hxs) (List.find?_eq_none.mp hf x hx)
    rw [Option.map_none, Option.getD_none, if_neg hs]

end Midgard.RinexNav

namespace Midgard.Props.C12
open Midgard.Text Midgard.RinexNav Midgard.Generated.RinexNav Midgard.Spec.RinexNavFile

theorem semRename_other (k : String) : ∀ (names : SysNames) (sem : String → Option (NavRec → Cell)),
    (∀ fp ∈ names, k ≠ fp.1 ∧ k ∉ fp.2.map (·.2)) → semRename sem names k = sem k := by
  intro names
  induction names with
  | nil => intro sem _; rfl
  | cons fp rest ih =>
    obtain ⟨f, p⟩ := fp
    intro sem h
    have h1 := h (f, p) (by simp)
    show semRename (semStep sem f p) rest k = sem k
    rw [ih _ (fun fp' hfp => h fp' (by simp [hfp]))]
    unfold semStep
    simp only [h1.1, if_false, h1.2]

theorem semStep2_other {sem : String → Option (NavRec → Cell)} {system field : String} {per : List (String × String)}
    {k : String} (hf : k ≠ field) (hp : k ∉ per.map (·.2)) : semStep2 sem system field per k = sem k := by
  unfold semStep2
  cases sem field with
  | none => rfl
  | some vf =>
    cases hfind : per.find? (fun x => decide (x.1 = system)) with
    | none => simp only [hf, if_false]
    | some sn =>
      have hn : k ≠ sn.2 := fun e => hp (e ▸ List.mem_map_of_mem (List.mem_of_find?_eq_some hfind))
      by_cases hnf : sn.2 = field
      · simp only [hnf, if_true]
      · simp only [hnf, hf, hn, if_false]

theorem semRename2_other (k system : String) : ∀ (names : SysNames) (sem : String → Option (NavRec → Cell)),
    (∀ fp ∈ names, k ≠ fp.1 ∧ k ∉ fp.2.map (·.2)) → semRename2 sem system names k = sem k := by
  intro names
  induction names with
  | nil => intro sem _; rfl
  | cons fp rest ih =>
    obtain ⟨f, p⟩ := fp
    intro sem h
    have h1 := h (f, p) (by simp)
    show semRename2 (semStep2 sem system f p) system rest k = sem k
    rw [ih _ (fun fp' hfp => h fp' (by simp [hfp])), semStep2_other h1.1 h1.2]

theorem semTime_other {T : Tables} {fileSys : String} {sem : String → Option (NavRec → Cell)} {sf : NavRec → Cell}
    {toeQ ttxQ wkQ : NavRec → Rat} {k : String} (h : k ∉ ["transmission_time", "toe", "gnss_week", "time"]) :
    semTime T fileSys sem sf toeQ ttxQ wkQ k = sem k := by
  simp only [List.mem_cons, List.not_mem_nil, or_false, not_or] at h
  simp only [semTime, h.1, h.2.1, h.2.2.1, h.2.2.2, if_false]

theorem untouched : ∀ T ∈ [v3, v2, v212], ∀ k ∈ ["system", "toe", "transmission_time", "gnss_week", "iode"],
    ∀ fp ∈ T.sysnames, k ≠ fp.1 ∧ k ∉ fp.2.map (·.2) := by
  decide +kernel

theorem sem0_fixed :
    sem0 "system" = some (fun r => Cell.str [r.sys]) ∧ sem0 "toe" = some (fun r => Cell.num r.o3.a.val) ∧
    sem0 "transmission_time" = some (fun r => Cell.num r.o7.a.val) ∧
    sem0 "gnss_week" = some (fun r => Cell.num r.o5.c.val) ∧ sem0 "iode" = some (fun r => Cell.num r.o1.a.val) :=
  ⟨rfl, rfl, rfl, rfl, rfl⟩

/-- in each of the three parsers' tables only `C` (BeiDou time) has an offset: 14 s and 1356 weeks -/
theorem offsets_table : ∀ T ∈ [v3, v2, v212],
    (∀ x ∈ T.secOffset, x.2 = if x.1 = "C" then 14 else 0) ∧ "C" ∈ T.secOffset.map (·.1) ∧
    (∀ x ∈ T.weekOffset, x.2 = if x.1 = "C" then 1356 else 0) ∧ "C" ∈ T.weekOffset.map (·.1) := by
  decide +kernel

theorem mem_dedupS (k : String) : ∀ (l : List String), k ∈ dedupS l ↔ k ∈ l := by
  intro l
  induction l with
  | nil => simp [dedupS]
  | cons a rest ih =>
    simp only [dedupS, List.mem_cons, List.mem_filter, ih, ne_eq, decide_not, Bool.not_eq_true', decide_eq_false_iff_not]
    constructor
    · rintro (h | ⟨h, _⟩)
      · exact Or.inl h
      · exact Or.inr h
    · rintro (h | h)
      · exact Or.inl h
      · by_cases e : k = a
        · exact Or.inl e
        · exact Or.inr ⟨h, e⟩

theorem sem_fixed3 (k : String) (hk : k ∈ ["system", "toe", "transmission_time", "gnss_week", "iode"]) :
    semRename sem0 v3.sysnames k = sem0 k :=
  semRename_other k v3.sysnames sem0 (untouched v3 (by simp) k hk)

end Midgard.Props.C12

#print axioms Midgard.Props.C12.mem_dedupS
