/-
C20 — the piecewise linear interpolator (`interpolation.linear` = SciPy `interp1d(kind="linear")`, modelled): the interval
`seg` that it and the spline evaluate on, the chord over it as a scheme (`linR`: nodes, affine data, linearity), and the
whole call of `linear`.
-/
import Midgard.Proofs.C20Scheme
import Mathlib.Tactic.Ring
import Mathlib.Tactic.FieldSimp
import Mathlib.Tactic.Linarith

namespace Midgard.Proofs.C20
open Midgard.Numeric

theorem searchLeft_node : ∀ (xs : List ℚ) (k : ℕ), xs.Pairwise (· < ·) → k < xs.length →
    searchLeft xs (xs.getD k 0) = k
  | [], k, _, hk => by simp at hk
  | a :: l, 0, hp, _ => by
    have hp' := List.pairwise_cons.mp hp
    simp only [searchLeft, List.getD_cons_zero]
    rw [List.filter_eq_nil_iff.mpr]
    · rfl
    · intro b hb
      rcases List.mem_cons.mp hb with rfl | hb
      · simp
      · simpa using le_of_lt (hp'.1 b hb)
  | a :: l, k + 1, hp, hk => by
    have hp' := List.pairwise_cons.mp hp
    have hk' : k < l.length := by simpa using hk
    have ih := searchLeft_node l k hp'.2 hk'
    have hlt : a < l.getD k 0 := getD_mem_lt (a :: l) hp 0 (k + 1) (by omega) hk
    simp only [searchLeft, List.getD_cons_succ] at ih ⊢
    rw [List.filter_cons_of_pos (by simpa using hlt), List.length_cons, ih]

/-- the interval `linearAt` and `nakAt` evaluate on, by its right end (`searchsorted`, clipped to `1 … n-1`) -/
def seg (sx : List ℚ) (x : ℚ) : ℕ := max 1 (min (searchLeft sx x) (sx.length - 1))

theorem seg_pos (sx : List ℚ) (x : ℚ) : 1 ≤ seg sx x := by
  unfold seg; omega

theorem seg_lt (sx : List ℚ) (x : ℚ) (hn : 2 ≤ sx.length) : seg sx x < sx.length := by
  unfold seg; omega

/-- at a node the interval ends there (the first node begins the first interval) -/
theorem seg_node (sx : List ℚ) (k : ℕ) (hp : sx.Pairwise (· < ·)) (hn : 2 ≤ sx.length) (hk : k < sx.length) :
    seg sx (sx.getD k 0) = if k = 0 then 1 else k := by
  rw [seg, searchLeft_node sx k hp hk]
  split <;> omega

/-- the chord over the interval -/
def linR : Scheme := fun sx col x v => 2 ≤ sx.length ∧
  v = (col.getD (seg sx x) 0 - col.getD (seg sx x - 1) 0) / (sx.getD (seg sx x) 0 - sx.getD (seg sx x - 1) 0)
    * (x - sx.getD (seg sx x - 1) 0) + col.getD (seg sx x - 1) 0

theorem linearAt_linR (sx : List ℚ) (rows : List (List ℚ)) (dim c : ℕ) (hc : c < dim) (hn : 2 ≤ sx.length) (x : ℚ) :
    linR sx (rows.map (·.getD c 0)) x ((linearAt sx rows dim x).getD c 0) := by
  refine ⟨hn, (Lists.getD_map_range dim c hc _ 0).trans ?_⟩
  rw [getD_map_col, getD_map_col, seg]

theorem linearAt_length (sx : List ℚ) (rows : List (List ℚ)) (dim : ℕ) (x : ℚ) : (linearAt sx rows dim x).length = dim := by
  rw [linearAt, List.length_map, List.length_range]

theorem linR_nodes : linR.Nodes := by
  rintro sx col k v hp hk ⟨hn, rfl⟩
  rw [seg_node sx k hp hn hk]
  split
  · subst k
    simp
  · have hlt := getD_mem_lt sx hp (k - 1) k (by omega) hk
    have hne : sx.getD k 0 - sx.getD (k - 1) 0 ≠ 0 := by linarith [hlt]
    field_simp
    ring

theorem linR_exact (p q : ℚ) : linR.Exact (fun t => p + q * t) := by
  rintro sx col x v hp hdata ⟨hn, rfl⟩
  have i1 := seg_pos sx x
  have i2 := seg_lt sx x hn
  rw [hdata _ i2, hdata (seg sx x - 1) (by omega)]
  have hlt := getD_mem_lt sx hp (seg sx x - 1) (seg sx x) (by omega) i2
  have hne : sx.getD (seg sx x) 0 - sx.getD (seg sx x - 1) 0 ≠ 0 := by linarith
  field_simp
  ring

theorem linR_linear : linR.Linear := by
  rintro sx c₁ c₂ c₃ a b x v₁ v₂ v₃ hcomb ⟨hn, rfl⟩ ⟨_, rfl⟩ ⟨_, rfl⟩
  have i1 := seg_pos sx x
  rw [hcomb (seg sx x) (seg_lt sx x hn), hcomb (seg sx x - 1) (by have := seg_lt sx x hn; omega)]
  ring

theorem linearAt_node (xs : List ℚ) (rows : List (List ℚ)) (dim k : ℕ) (hp : xs.Pairwise (· < ·))
    (hn : 2 ≤ xs.length) (hk : k < xs.length) :
    linearAt xs rows dim (xs.getD k 0) = (List.range dim).map (fun c => (rows.getD k []).getD c 0) :=
  Lists.eq_map_range_of_getD _ dim _ (linearAt_length _ _ _ _) fun c hc => by
    rw [linR_nodes xs _ k _ hp hk (linearAt_linR xs rows dim c hc hn _), getD_map_col]

theorem linearAt_affine (xs : List ℚ) (rows : List (List ℚ)) (dim c : ℕ) (hc : c < dim) (hp : xs.Pairwise (· < ·))
    (hn : 2 ≤ xs.length) (p q x : ℚ)
    (hdata : ∀ i, i < xs.length → (rows.getD i []).getD c 0 = p + q * xs.getD i 0) :
    (linearAt xs rows dim x).getD c 0 = p + q * x :=
  linR_exact p q xs _ x _ hp (fun i hi => (getD_map_col rows c i).trans (hdata i hi)) (linearAt_linR xs rows dim c hc hn x)

/-- `linear` does not ask for distinct abscissae: no `Ascending` here -/
theorem linear_returns {xs : List ℚ} {rows : List (List ℚ)} {dim : ℕ} {xnew : List ℚ} {out : List (List ℚ)}
    (h : linear xs rows dim xnew = .ok out) : rows.length = xs.length ∧ Returns linR xs rows false dim xnew out := by
  unfold linear at h
  obtain ⟨hshape, h⟩ := of_guard_ok h
  obtain ⟨hshort, h⟩ := of_guard_ok h
  -- the two bounds checks
  obtain ⟨-, h⟩ := of_guard_ok h
  obtain ⟨-, h⟩ := of_guard_ok h
  have hl : rows.length = xs.length := by simpa using hshape
  rw [← Except.ok.inj h]
  exact ⟨hl, Returns.of_map xnew _ hl (linearAt_length _ _ dim) fun x c hc =>
    linearAt_linR _ _ dim c hc (by simp [sortedPairs_length xs rows false hl]; omega) x⟩

/-- distinct abscissae are a hypothesis here: `linear` does not check them -/
theorem linear_nodes (xs : List ℚ) (rows : List (List ℚ)) (dim : ℕ) (xnew : List ℚ) (out : List (List ℚ))
    (h : linear xs rows dim xnew = .ok out)
    (hdist : strictInc ((sortBy (xs.zip rows)).map (·.1)) = true)
    (i j : ℕ) (hi : i < xs.length) (hj : j < xnew.length) (hx : xnew.getD j 0 = xs.getD i 0) :
    out.getD j [] = (List.range dim).map (fun c => (rows.getD i []).getD c 0) := by
  obtain ⟨hl, r⟩ := linear_returns h
  exact Lists.eq_map_range_of_getD _ dim _ (r.row_len j hj) fun c hc =>
    r.nodes (ascending_of_strictInc (srt := false) hl hdist) linR_nodes i j c hi hj hc hx

/-- … and linearity in the data needs none -/
theorem linear_linear (xs : List ℚ) (r₁ r₂ r₃ : List (List ℚ)) (dim : ℕ) (xnew : List ℚ) (a b : ℚ)
    (o₁ o₂ o₃ : List (List ℚ))
    (h₁ : linear xs r₁ dim xnew = .ok o₁) (h₂ : linear xs r₂ dim xnew = .ok o₂) (h₃ : linear xs r₃ dim xnew = .ok o₃)
    (c : ℕ) (hc : c < dim)
    (hcomb : ∀ i, i < xs.length →
      (r₃.getD i []).getD c 0 = a * (r₁.getD i []).getD c 0 + b * (r₂.getD i []).getD c 0)
    (j : ℕ) (hj : j < xnew.length) :
    (o₃.getD j []).getD c 0 = a * (o₁.getD j []).getD c 0 + b * (o₂.getD j []).getD c 0 := by
  exact (linear_returns h₁).2.linear (linear_returns h₂).2 (linear_returns h₃).2 linR_linear a b c hc hcomb j hj

end Midgard.Proofs.C20
