/-
C05 — `trs2llh` over the reals, at every height.  In the normalised quantities `q = √(1 − e²)`, `P = p/a`, `S = |z|/a`, `A = √(q²P² + S²)` the
numerator and denominator `(s1, cc)` of the one-step Halley latitude are positive for `0 ≤ f ≤ 1/3` outside a ball of ≈ 43 km around the
centre.  With `cc > 0` the two branch equations of `trs2llh` give the sign and range of the latitude, the exact special sets, and one
closed form of the round trip: `llh2trs (trs2llh v)` is `v` moved by the tangential offset `R` along a unit vector, for both signs of `z`;
the half spaces, the equatorial plane and — where `R = 0` — the sphere and the ellipsoid surface are its instances.  `e²` is `E.e2`; the variable
`e` of the first lemmas is the same number.  The theorems that Props/C05.lean restates under the property's names have their docstrings there.
-/
import Midgard.Proofs.GeoReal
import Midgard.Model.Geodetic
import Midgard.Model.GeoSelect

namespace Midgard.Geo.Acc
open Midgard.Geo

/-- hypotheses on an ellipsoid under which the sign / residual statements are proved: `a > 0`, `0 ≤ f ≤ 1/3`
(every registered ellipsoid: `f_inv > 3` or the sphere) -/
structure Mild (E : Ellipsoid ℝ) : Prop where
  ha : 0 < E.a
  hf0 : 0 ≤ E.f
  hf : E.f ≤ 1 / 3

/- `d0 f0 b0` are the intermediate values of `halley` (Model/Geodetic.lean) in the normalised variables (`P = pn`, `S = s0`, `q = ec`, `A = a0`,
`e = e2`); `s1 = d0·f0 − b0·S`, `cc = q·(f0² − b0·qP)`.  Two cases: inside the ellipsoid (`A < q`: `b0 ≤ 0`, `core_inside`, needs `e·q < A`) and
outside (`q ≤ A`: `core_outside`, needs `q ≥ 2/3`). -/
theorem f0_lower (q P S A e f0 : ℝ) (hq0 : 0 < q) (hP : 0 < P) (he0 : 0 ≤ e)
    (hAA : A * A = q * P * (q * P) + S * S)
    (hF : f0 = P * (A * A * A) - e * (q * P * (q * P) * (q * P))) :
    P * (A * A) * (A - e * q) ≤ f0 := by
  have hx0 : 0 < q * P := by positivity
  have hxx : q * P * (q * P) ≤ A * A := hAA ▸ le_add_of_nonneg_right (mul_self_nonneg S)
  have : f0 - P * (A * A) * (A - e * q) = e * (q * P) * (A * A - q * P * (q * P)) := by rw [hF]; ring
  have h2 : 0 ≤ e * (q * P) * (A * A - q * P * (q * P)) := mul_nonneg (mul_nonneg he0 hx0.le) (sub_nonneg.2 hxx)
  linarith only [this, h2]

theorem core_inside (q P S A e d0 f0 b0 : ℝ) (hq0 : 0 < q) (hP : 0 < P) (hS : 0 ≤ S) (hA : 0 < A) (he0 : 0 ≤ e)
    (hAA : A * A = q * P * (q * P) + S * S) (hdeep : e * q < A) (hAq : A < q)
    (hD : d0 = q * S * (A * A * A) + e * (S * S * S))
    (hF : f0 = P * (A * A * A) - e * (q * P * (q * P) * (q * P)))
    (hB : b0 = e * e * 1.5 * (S * S) * (q * P * (q * P)) * P * (A - q)) :
    0 < f0 * f0 - b0 * (q * P) ∧ 0 ≤ d0 * f0 - b0 * S ∧ (0 < S → 0 < d0 * f0 - b0 * S) := by
  have hx0 : 0 < q * P := by positivity
  have hf0' := f0_lower q P S A e f0 hq0 hP he0 hAA hF
  have hf0pos : 0 < f0 := lt_of_lt_of_le (mul_pos (by positivity) (by linarith)) hf0'
  have hd0 : q * S * (A * A * A) ≤ d0 := by
    have : 0 ≤ e * (S * S * S) := by positivity
    rw [hD]; linarith
  have hd00 : 0 ≤ d0 := le_trans (by positivity) hd0
  have hb0 : b0 ≤ 0 := by
    rw [hB]
    exact mul_nonpos_of_nonneg_of_nonpos (by positivity) (sub_nonpos.2 hAq.le)
  have hff : 0 < f0 * f0 := mul_pos hf0pos hf0pos
  have hdf : 0 ≤ d0 * f0 := mul_nonneg hd00 hf0pos.le
  have hbx : 0 ≤ -b0 * (q * P) := mul_nonneg (by linarith) hx0.le
  have hbS : 0 ≤ -b0 * S := mul_nonneg (by linarith) hS
  refine ⟨by linarith, by linarith, ?_⟩
  intro hS'
  have hd0' : 0 < d0 := lt_of_lt_of_le (by positivity) hd0
  have := mul_pos hd0' hf0pos
  linarith

theorem core_outside (q P S A e d0 f0 b0 : ℝ) (hq : 2 / 3 ≤ q) (hq1 : q ≤ 1) (hP : 0 < P) (hS : 0 ≤ S) (hA : 0 < A)
    (hAA : A * A = q * P * (q * P) + S * S) (hE : e = 1 - q ^ 2) (hqA : q ≤ A)
    (hD : d0 = q * S * (A * A * A) + e * (S * S * S))
    (hF : f0 = P * (A * A * A) - e * (q * P * (q * P) * (q * P)))
    (hB : b0 = e * e * 1.5 * (S * S) * (q * P * (q * P)) * P * (A - q)) :
    0 < f0 * f0 - b0 * (q * P) ∧ 0 ≤ d0 * f0 - b0 * S ∧ (0 < S → 0 < d0 * f0 - b0 * S) := by
  have hq0 : 0 < q := lt_of_lt_of_le (by norm_num) hq
  have hx0 : 0 < q * P := mul_pos hq0 hP
  have hqq : (2 / 3) ^ 2 ≤ q ^ 2 := pow_le_pow_left₀ (by norm_num) hq 2
  have he0 : 0 ≤ e := by rw [hE]; linarith only [pow_le_one₀ hq0.le hq1 (n := 2)]
  have he1 : e ≤ 5 / 9 := by rw [hE]; linarith only [hqq]
  -- `f0 ≥ P·A³·q²` (as `A − e·q ≥ A − e·A = A·q²`), `d0 ≥ q·S·A³`, `b0 ≤ (3/8)·e²·P·A⁵` (as `S²(qP)² ≤ A⁴/4`, `A − q ≤ A`)
  have hf0 : P * A ^ 3 * q ^ 2 ≤ f0 := by
    have h := mul_le_mul_of_nonneg_left (mul_le_mul_of_nonneg_left hqA he0) (by positivity : 0 ≤ P * (A * A))
    have hf0' := f0_lower q P S A e f0 hq0 hP he0 hAA hF
    rw [hE] at h hf0'
    linarith only [h, hf0']
  have hf0pos : 0 < f0 := lt_of_lt_of_le (by positivity) hf0
  have hd0 : q * S * A ^ 3 ≤ d0 := by
    rw [hD]
    linarith only [mul_nonneg he0 (by positivity : 0 ≤ S * S * S)]
  have hb1 : b0 ≤ 0.375 * e ^ 2 * P * A ^ 5 := by
    have hT : (S * S) * (q * P * (q * P)) ≤ (A * A) * (A * A) / 4 := by
      rw [hAA]; linarith only [mul_self_nonneg (q * P * (q * P) - S * S)]
    have h1 := mul_le_mul hT (sub_le_self A hq0.le) (sub_nonneg.2 hqA) (by positivity)
    have h2 := mul_le_mul_of_nonneg_left h1 (by positivity : 0 ≤ 1.5 * (e * e) * P)
    rw [hB]
    linarith only [h2]
  -- the margin: `q³·A ≥ q⁴ ≥ 16/81 > (3/8)·(5/9)² ≥ (3/8)·e²`
  have hmargin : 0 < q ^ 3 * A - 0.375 * e ^ 2 := by
    have h1 := mul_le_mul_of_nonneg_left hqA (by positivity : 0 ≤ q ^ 3)
    have h2 := pow_le_pow_left₀ (by norm_num) hqq 2
    have h3 := pow_le_pow_left₀ he0 he1 2
    linarith only [h1, h2, h3]
  have h1 := mul_le_mul hf0 hf0 (by positivity) hf0pos.le
  have h2 := mul_le_mul_of_nonneg_right hb1 hx0.le
  have h3 := mul_le_mul hd0 hf0 (by positivity) (le_trans (by positivity) hd0)
  have h4 := mul_le_mul_of_nonneg_right hb1 hS
  have g1 : 0 < P * P * q * A ^ 5 * (q ^ 3 * A - 0.375 * e ^ 2) := by positivity
  have g2 : 0 ≤ S * (P * A ^ 5 * (q ^ 3 * A - 0.375 * e ^ 2)) := by positivity
  refine ⟨by linarith only [h1, h2, g1], by linarith only [h3, h4, g2], fun hS' => ?_⟩
  have g3 : 0 < S * (P * A ^ 5 * (q ^ 3 * A - 0.375 * e ^ 2)) := by positivity
  linarith only [h3, h4, g3]

/-- `f0² − b0·c0` and `d0·f0 − b0·s0` of the Halley step are positive unless the point is within `e·q` (≈ 43 km for the Earth) of the centre -/
theorem halley_core_pos (q P S A e d0 f0 b0 : ℝ) (hq : 2 / 3 ≤ q) (hq1 : q ≤ 1) (hP : 0 < P) (hS : 0 ≤ S) (hA : 0 < A)
    (hAA : A * A = q * P * (q * P) + S * S)
    (hE : e = 1 - q ^ 2) (hdeep : e * q < A)
    (hD : d0 = q * S * (A * A * A) + e * (S * S * S))
    (hF : f0 = P * (A * A * A) - e * (q * P * (q * P) * (q * P)))
    (hB : b0 = e * e * 1.5 * (S * S) * (q * P * (q * P)) * P * (A - q)) :
    0 < f0 * f0 - b0 * (q * P) ∧ 0 ≤ d0 * f0 - b0 * S ∧ (0 < S → 0 < d0 * f0 - b0 * S) := by
  rcases le_or_gt q A with hqA | hAq
  · exact core_outside q P S A e d0 f0 b0 hq hq1 hP hS hA hAA hE hqA hD hF hB
  · have hq0 : 0 < q := lt_of_lt_of_le (by norm_num) hq
    exact core_inside q P S A e d0 f0 b0 hq0 hP hS hA (hE ▸ sub_nonneg.2 (pow_le_one₀ hq0.le hq1)) hAA hdeep hAq hD hF hB

/-- the two conversion directions are on one ellipsoid: `e² = 1 − (1 − f)²` -/
theorem e2_eq (E : Ellipsoid ℝ) (ha : E.a ≠ 0) : E.e2 = 1 - (1 - E.f) ^ 2 := by
  simp only [Ellipsoid.e2, Ellipsoid.b]; field_simp

/-- the scheme's `ec = √(1 − e²)` is `1 − f` -/
theorem sqrt_one_sub_e2 (E : Ellipsoid ℝ) (ha : E.a ≠ 0) (hf : 0 ≤ 1 - E.f) : Real.sqrt (1 - E.e2) = 1 - E.f := by
  rw [e2_eq E ha, show 1 - (1 - (1 - E.f) ^ 2) = (1 - E.f) ^ 2 by ring, Real.sqrt_sq hf]

theorem one_sub_e2_pos (E : Ellipsoid ℝ) (ha : E.a ≠ 0) (hf1 : E.f < 1) : 0 < 1 - E.e2 := by
  rw [e2_eq E ha, show 1 - (1 - (1 - E.f) ^ 2) = (1 - E.f) ^ 2 by ring]
  exact pow_pos (sub_pos.2 hf1) 2

theorem halley_pos (E : Ellipsoid ℝ) (hE : Mild E) (p z : ℝ) (hp : 0 < p) (hz : 0 ≤ z)
    (hdeep : (E.e2 * (1 - E.f) * E.a) ^ 2 < (1 - E.f) ^ 2 * (p * p) + z * z) :
    0 < (halley E p z).2 ∧ 0 ≤ (halley E p z).1 ∧ (0 < z → 0 < (halley E p z).1) := by
  obtain ⟨ha, hf0, hf⟩ := hE
  have hf1 : 0 < 1 - E.f := by linarith only [hf]
  have he2 : E.e2 = 1 - (1 - E.f) ^ 2 := e2_eq E ha.ne'
  have hqf := sqrt_one_sub_e2 E ha.ne' hf1.le
  rw [← hqf] at hdeep he2 hf1
  set q := Real.sqrt (1 - E.e2) with hq
  have hq23 : 2 / 3 ≤ q := by linarith only [hqf, hf]
  have hq1 : q ≤ 1 := by linarith only [hqf, hf0]
  set P := p / E.a with hP
  set S := z / E.a with hS
  have hP0 : 0 < P := div_pos hp ha
  have hS0 : 0 ≤ S := div_nonneg hz ha.le
  set A := Real.sqrt (q * P * (q * P) + S * S) with hA
  have hrad : 0 < q * P * (q * P) + S * S := by positivity
  have hA0 : 0 < A := Real.sqrt_pos.2 hrad
  have hAA : A * A = q * P * (q * P) + S * S := Real.mul_self_sqrt hrad.le
  have hdeep' : E.e2 * q < A := by
    have h1 : (E.e2 * q) ^ 2 < A ^ 2 := by
      have e1 : A ^ 2 = (q ^ 2 * (p * p) + z * z) / E.a ^ 2 := by rw [pow_two, hAA, hP, hS]; field_simp
      rw [e1, lt_div_iff₀ (by positivity), ← mul_pow]
      exact hdeep
    exact lt_of_pow_lt_pow_left₀ 2 hA0.le h1
  -- `d0 f0 b0` are the model's own terms (`hD hF hB` by `rfl`)
  have core := halley_core_pos q P S A E.e2 _ _ _ hq23 hq1 hP0 hS0 hA0 hAA he2 hdeep' rfl rfl rfl
  exact ⟨mul_pos hf1 core.1, core.2.1, fun hz' => core.2.2 (div_pos hz' ha)⟩

theorem trs2llh_on_axis (E : Ellipsoid ℝ) (v : V3 ℝ) (hpole : v.x * v.x + v.y * v.y ≤ E.a * E.a * 1e-32) :
    trs2llh E v = ⟨Real.pi / 2 * signOf v.z, Complex.arg ⟨v.x, v.y⟩, absOf v.z - E.b⟩ := by
  simp only [trs2llh, latHeightOf, hpole, if_true, trig_pi, trig_atan2]; norm_num

theorem trs2llh_off_axis (E : Ellipsoid ℝ) (v : V3 ℝ) (hoff : ¬ v.x * v.x + v.y * v.y ≤ E.a * E.a * 1e-32) :
    trs2llh E v =
      ⟨Real.arctan ((halley E (Real.sqrt (v.x * v.x + v.y * v.y)) (absOf v.z)).1
          / (halley E (Real.sqrt (v.x * v.x + v.y * v.y)) (absOf v.z)).2) * signOf v.z,
        Complex.arg ⟨v.x, v.y⟩,
        halleyHeight E (Real.sqrt (v.x * v.x + v.y * v.y)) (absOf v.z)
          (halley E (Real.sqrt (v.x * v.x + v.y * v.y)) (absOf v.z)).1
          (halley E (Real.sqrt (v.x * v.x + v.y * v.y)) (absOf v.z)).2⟩ := by
  simp only [trs2llh, latHeightOf, hoff, if_false, trig_atan, trig_sqrt, trig_atan2]

theorem halley_pos_vec (E : Ellipsoid ℝ) (hE : Mild E) (v : V3 ℝ) (hoff : ¬ v.x * v.x + v.y * v.y ≤ E.a * E.a * 1e-32)
    (hdeep : (E.e2 * (1 - E.f) * E.a) ^ 2 < (1 - E.f) ^ 2 * (v.x * v.x + v.y * v.y) + v.z * v.z) :
    0 < (halley E (Real.sqrt (v.x * v.x + v.y * v.y)) (absOf v.z)).2 ∧
      (v.z ≠ 0 → 0 < (halley E (Real.sqrt (v.x * v.x + v.y * v.y)) (absOf v.z)).1) := by
  have hp2 := off_axis_pos hoff
  obtain ⟨hcc, -, hs1⟩ := halley_pos E hE _ (absOf v.z) (Real.sqrt_pos.2 hp2) (absOf_nonneg _)
    (by rw [Real.mul_self_sqrt hp2.le, absOf_sq]; exact hdeep)
  exact ⟨hcc, fun h => hs1 (absOf_pos h)⟩

theorem trs2llh_lat_sign (E : Ellipsoid ℝ) (hE : Mild E) (v : V3 ℝ)
    (hdeep : (E.e2 * (1 - E.f) * E.a) ^ 2 < (1 - E.f) ^ 2 * (v.x * v.x + v.y * v.y) + v.z * v.z) :
    (0 < v.z → 0 < (trs2llh E v).lat ∧ (trs2llh E v).lat ≤ Real.pi / 2) ∧
    (v.z < 0 → (trs2llh E v).lat < 0 ∧ -(Real.pi / 2) ≤ (trs2llh E v).lat) ∧
    (v.z = 0 → (trs2llh E v).lat = 0) := by
  by_cases hpole : v.x * v.x + v.y * v.y ≤ E.a * E.a * 1e-32
  · rw [trs2llh_on_axis E v hpole]
    exact mul_signOf_cases (fun _ => by positivity) le_rfl
  · obtain ⟨hcc, hs1⟩ := halley_pos_vec E hE v hpole hdeep
    rw [trs2llh_off_axis E v hpole]
    exact mul_signOf_cases (fun h => Real.arctan_pos.2 (div_pos (hs1 h) hcc)) (Real.arctan_lt_pi_div_two _).le

theorem trs2llh_meridian180 (E : Ellipsoid ℝ) (x z : ℝ) (hx : x < 0) : (trs2llh E ⟨x, 0, z⟩).lon = Real.pi := by
  show Trig.atan2 (0 : ℝ) x = Real.pi
  rw [trig_atan2, Complex.arg_eq_pi_iff]; exact ⟨hx, rfl⟩

theorem trs2llh_lon_range (E : Ellipsoid ℝ) (v : V3 ℝ) :
    -Real.pi < (trs2llh E v).lon ∧ (trs2llh E v).lon ≤ Real.pi := by
  show -Real.pi < Trig.atan2 v.y v.x ∧ Trig.atan2 v.y v.x ≤ Real.pi
  rw [trig_atan2]; exact ⟨Complex.neg_pi_lt_arg _, Complex.arg_le_pi _⟩

theorem roundtrip_lon (E : Ellipsoid ℝ) (ha : 0 < E.a) (hf0 : 0 ≤ E.f) (hf1 : E.f < 1) (g : LLH ℝ)
    (hlon : g.lon ∈ Set.Ioc (-Real.pi) Real.pi) (hcos : 0 < Real.cos g.lat) (hh : -E.a < g.h) :
    (trs2llh E (llh2trs E g)).lon = g.lon := by
  set w := (1 - E.f) * (1 - E.f) with hw
  have h1f : 0 < 1 - E.f := sub_pos.2 hf1
  have hw0 : 0 < w := mul_pos h1f h1f
  have hw1 : w ≤ 1 := mul_le_one₀ (sub_le_self _ hf0) h1f.le (sub_le_self _ hf0)
  set rad := Real.cos g.lat * Real.cos g.lat + w * (Real.sin g.lat * Real.sin g.lat) with hrad
  have hrad0 : 0 < rad := add_pos_of_pos_of_nonneg (mul_pos hcos hcos) (mul_nonneg hw0.le (mul_self_nonneg _))
  have hrad1 : rad ≤ 1 := by
    have := mul_le_mul_of_nonneg_right hw1 (mul_self_nonneg (Real.sin g.lat))
    linarith only [this, Real.sin_sq_add_cos_sq g.lat]
  have hs0 : 0 < Real.sqrt rad := Real.sqrt_pos.2 hrad0
  have hac : E.a ≤ E.a / Real.sqrt rad :=
    (le_div_iff₀ hs0).2 (mul_le_of_le_one_right ha.le (Real.sqrt_le_one.2 hrad1))
  have hk : 0 < (E.a / Real.sqrt rad + g.h) * Real.cos g.lat := mul_pos (by linarith only [hac, hh]) hcos
  have := atan2_pos_mul ((E.a / Real.sqrt rad + g.h) * Real.cos g.lat) g.lon hk hlon
  simpa only [trs2llh, llh2trs, llh2trsCS, trig_cos, trig_sin, trig_sqrt] using this

theorem halley_fst_zero (E : Ellipsoid ℝ) (p : ℝ) : (halley E p 0).1 = 0 := by
  simp only [halley, cube, zero_div, mul_zero, zero_mul, add_zero, sub_self]

theorem trs2llh_equator (E : Ellipsoid ℝ) (hE : Mild E) (x y : ℝ)
    (hoff : ¬ x * x + y * y ≤ E.a * E.a * 1e-32)
    (hdeep : (E.e2 * (1 - E.f) * E.a) ^ 2 < (1 - E.f) ^ 2 * (x * x + y * y)) :
    (trs2llh E ⟨x, y, 0⟩).lat = 0 ∧ (trs2llh E ⟨x, y, 0⟩).h = Real.sqrt (x * x + y * y) - E.a := by
  have hcc := (halley_pos_vec E hE ⟨x, y, 0⟩ hoff (by simpa using hdeep)).1
  rw [trs2llh_off_axis E ⟨x, y, 0⟩ hoff]
  simp only [absOf_zero] at hcc ⊢
  set p := Real.sqrt (x * x + y * y) with hp
  have hs1 := halley_fst_zero E p
  constructor
  · simp only [signOf_zero, mul_zero]
  · simp only [halleyHeight, trig_sqrt, hs1]
    set cc := (halley E p 0).2 with hccd
    have h1 : Real.sqrt ((1 - E.e2) * (0 * 0) + cc * cc) = cc := by
      rw [show (1 - E.e2) * (0 * 0) + cc * cc = cc ^ 2 by ring, Real.sqrt_sq hcc.le]
    have h2 : Real.sqrt (0 * 0 + cc * cc) = cc := by
      rw [show (0:ℝ) * 0 + cc * cc = cc ^ 2 by ring, Real.sqrt_sq hcc.le]
    rw [h1, h2]; field_simp; ring

/-- the tangential offset `R` of the one-step answer (the model function `tangentialOffsetOf`, which the driver
executes at `Float`, at `ℝ`): the component of `input − foot(φ₁)` along the meridian tangent at the computed latitude
`φ₁` (`tan φ₁ = s1/cc`); `R = 0` when `φ₁` is the exact geodetic latitude (`offsetAt_true_latitude`; the converse is not stated) -/
noncomputable def tangentialOffset (E : Ellipsoid ℝ) (p z : ℝ) : ℝ := tangentialOffsetOf E p z

/-- meridian-plane identity behind the residual theorem: with `cos φ = cc/D`, `sin φ = s1/D`, the height formula of
`_trs2llh` and `llh2trs` give back `(p + R·s1/D, z − R·cc/D)` -/
theorem meridian_residual (a f e2 p z s1 cc D W : ℝ) (hD : 0 < D) (hW : 0 < W)
    (hDD : D * D = s1 * s1 + cc * cc) (hWW : W * W = (1 - e2) * (s1 * s1) + cc * cc)
    (hw : (1 - f) * (1 - f) = 1 - e2)
    (hrad : Real.sqrt (cc / D * (cc / D) + (1 - f) * (1 - f) * (s1 / D * (s1 / D))) = W / D) :
    let h := (p * cc + z * s1 - a * W) / D
    let R := (z * cc - p * s1) / D + e2 * a * s1 * cc / (D * W)
    (a / Real.sqrt (cc / D * (cc / D) + (1 - f) * (1 - f) * (s1 / D * (s1 / D))) + h) * (cc / D) = p + R * s1 / D ∧
    ((1 - f) * (1 - f) * (a / Real.sqrt (cc / D * (cc / D) + (1 - f) * (1 - f) * (s1 / D * (s1 / D)))) + h) * (s1 / D)
      = z - R * cc / D := by
  intro h R
  rw [hrad, hw]
  have hD' := hD.ne'
  have hW' := hW.ne'
  constructor
  · simp only [h, R]
    field_simp
    linear_combination (cc * a - W * p) * hDD - (cc * a) * hWW
  · simp only [h, R]
    field_simp
    linear_combination (-(W*z) + a*s1*(1-e2)) * hDD - (a*s1) * hWW

/-- the direction `(x·k, y·k, −c)` with `k = (s1/D)/p`, `c = cc/D` of the displacement is a unit vector -/
theorem residual_norm (x y p s1 cc D : ℝ) (hp : p ≠ 0) (hD : D ≠ 0) (hpp : p * p = x * x + y * y)
    (hDD : D * D = s1 * s1 + cc * cc) :
    (x * (s1 / D / p)) ^ 2 + (y * (s1 / D / p)) ^ 2 + (cc / D) ^ 2 = 1 := by
  have : (x * (s1 / D / p)) ^ 2 + (y * (s1 / D / p)) ^ 2 + (cc / D) ^ 2
      = ((x * x + y * y) / (p * p) * (s1 * s1) + cc * cc) / (D * D) := by
    field_simp
  rw [this, ← hpp, div_self (mul_self_ne_zero.2 hp), one_mul, ← hDD, div_self (mul_self_ne_zero.2 hD)]

theorem radial_scale (p k x : ℝ) (hp : p ≠ 0) : (p + k) * (x / p) = x * (1 + k / p) := by
  field_simp

/-- **the round trip at every height, in both half spaces**: wherever the Halley denominator `cc` is positive,
`llh2trs (trs2llh v)` is `v` moved by the tangential offset `R` along the meridian tangent at the computed latitude -/
theorem roundtrip_general (E : Ellipsoid ℝ) (ha : 0 < E.a) (hf1 : E.f < 1) (v : V3 ℝ)
    (hoff : ¬ v.x * v.x + v.y * v.y ≤ E.a * E.a * 1e-32)
    (hcc : 0 < (halley E (Real.sqrt (v.x * v.x + v.y * v.y)) (absOf v.z)).2) :
    ∃ k c : ℝ, (v.x * k) ^ 2 + (v.y * k) ^ 2 + c ^ 2 = 1 ∧
      llh2trs E (trs2llh E v) =
        ⟨v.x * (1 + tangentialOffset E (Real.sqrt (v.x * v.x + v.y * v.y)) (absOf v.z) * k),
         v.y * (1 + tangentialOffset E (Real.sqrt (v.x * v.x + v.y * v.y)) (absOf v.z) * k),
         v.z - signOf v.z * (tangentialOffset E (Real.sqrt (v.x * v.x + v.y * v.y)) (absOf v.z) * c)⟩ := by
  have hp2 : 0 < v.x * v.x + v.y * v.y := off_axis_pos hoff
  obtain ⟨hco, hso⟩ := cos_sin_arg hp2
  have hT := trs2llh_off_axis E v hoff
  set p := Real.sqrt (v.x * v.x + v.y * v.y) with hp
  have hp0 : 0 < p := Real.sqrt_pos.2 hp2
  have hpp : p * p = v.x * v.x + v.y * v.y := Real.mul_self_sqrt hp2.le
  have hs10 : v.z = 0 → (halley E p (absOf v.z)).1 = 0 := fun h => by
    rw [h, absOf_zero]; exact halley_fst_zero E p
  set s1 := (halley E p (absOf v.z)).1 with hs1d
  set cc := (halley E p (absOf v.z)).2 with hccd
  set D := Real.sqrt (s1 * s1 + cc * cc) with hDd
  have hD0 : 0 < D := Real.sqrt_pos.2 (add_pos_of_nonneg_of_pos (mul_self_nonneg s1) (mul_pos hcc hcc))
  have hDD : D * D = s1 * s1 + cc * cc := Real.mul_self_sqrt (add_nonneg (mul_self_nonneg _) (mul_self_nonneg _))
  have hw : (1 - E.f) * (1 - E.f) = 1 - E.e2 := by rw [e2_eq E ha.ne']; ring
  have hw0 := one_sub_e2_pos E ha.ne' hf1
  set W := Real.sqrt ((1 - E.e2) * (s1 * s1) + cc * cc) with hWd
  have hlat : (trs2llh E v).lat = Real.arctan (s1 / cc) * signOf v.z := by rw [hT]
  have hlon : (trs2llh E v).lon = Complex.arg ⟨v.x, v.y⟩ := by rw [hT]
  have hh : (trs2llh E v).h = (p * cc + absOf v.z * s1 - E.a * W) / D := by rw [hT]; rfl
  have hR : tangentialOffset E p (absOf v.z) = (absOf v.z * cc - p * s1) / D + E.e2 * E.a * s1 * cc / (D * W) := rfl
  have hWrad : 0 < (1 - E.e2) * (s1 * s1) + cc * cc :=
    add_pos_of_nonneg_of_pos (mul_nonneg hw0.le (mul_self_nonneg s1)) (mul_pos hcc hcc)
  have hW0 : 0 < W := Real.sqrt_pos.2 hWrad
  have hWW : W * W = (1 - E.e2) * (s1 * s1) + cc * cc := Real.mul_self_sqrt hWrad.le
  clear_value W D cc s1
  have hrad : Real.sqrt (cc / D * (cc / D) + (1 - E.f) * (1 - E.f) * (s1 / D * (s1 / D))) = W / D := by
    rw [hw, show cc / D * (cc / D) + (1 - E.e2) * (s1 / D * (s1 / D)) = (W / D) ^ 2 by
      rw [div_pow, pow_two W, hWW]; field_simp; ring]
    exact Real.sqrt_sq (by positivity)
  obtain ⟨hcos0, hsin0⟩ := cos_sin_arctan_div hcc hD0 hDD
  obtain ⟨hcl', hsl'⟩ := cos_sin_mul_signOf (Real.arctan (s1 / cc)) v.z (fun h => by rw [hs10 h, zero_div, Real.arctan_zero])
  have hcl : Real.cos (Real.arctan (s1 / cc) * signOf v.z) = cc / D := hcl'.trans hcos0
  have hsl : Real.sin (Real.arctan (s1 / cc) * signOf v.z) = signOf v.z * (s1 / D) := by rw [hsl', hsin0]
  -- the sign drops out of the radicand: `sign² · s1² = s1²` (`s1 = 0` on the equatorial plane)
  have hsq : signOf v.z * (s1 / D) * (signOf v.z * (s1 / D)) = s1 / D * (s1 / D) := by
    rw [show signOf v.z * (s1 / D) * (signOf v.z * (s1 / D)) = signOf v.z * signOf v.z * (s1 / D * (s1 / D)) by ring]
    exact signOf_sq_mul fun h => by rw [hs10 h]; simp
  obtain ⟨hr, hzz⟩ := meridian_residual E.a E.f E.e2 p (absOf v.z) s1 cc D W hD0 hW0 hDD hWW hw hrad
  rw [← hR] at hr hzz
  set R := tangentialOffset E p (absOf v.z) with hRd
  refine ⟨s1 / D / p, cc / D, residual_norm _ _ _ _ _ _ hp0.ne' hD0.ne' hpp hDD, ?_⟩
  simp only [llh2trs, llh2trsCS, trig_cos, trig_sin, trig_sqrt, hlat, hlon, hh, hcl, hsl, hco, hso, hsq]
  apply V3.ext'
  · show _ * (v.x / p) = _
    rw [hr, radial_scale _ _ _ hp0.ne']; ring
  · show _ * (v.y / p) = _
    rw [hr, radial_scale _ _ _ hp0.ne']; ring
  · show _ * (signOf v.z * (s1 / D)) = _
    rw [mul_left_comm, hzz, mul_sub, signOf_mul_absOf]; ring

theorem roundtrip_of_offset_zero (E : Ellipsoid ℝ) (ha : 0 < E.a) (hf1 : E.f < 1) (v : V3 ℝ)
    (hoff : ¬ v.x * v.x + v.y * v.y ≤ E.a * E.a * 1e-32)
    (hcc : 0 < (halley E (Real.sqrt (v.x * v.x + v.y * v.y)) (absOf v.z)).2)
    (hR : tangentialOffset E (Real.sqrt (v.x * v.x + v.y * v.y)) (absOf v.z) = 0) :
    llh2trs E (trs2llh E v) = v := by
  obtain ⟨k, c, -, h⟩ := roundtrip_general E ha hf1 v hoff hcc
  rw [h, hR]; cases v; simp

theorem roundtrip_residual (E : Ellipsoid ℝ) (hE : Mild E) (v : V3 ℝ)
    (hoff : ¬ v.x * v.x + v.y * v.y ≤ E.a * E.a * 1e-32) (hz : 0 < v.z)
    (hdeep : (E.e2 * (1 - E.f) * E.a) ^ 2 < (1 - E.f) ^ 2 * (v.x * v.x + v.y * v.y) + v.z * v.z) :
    ∃ k : ℝ, ∃ c : ℝ,
      llh2trs E (trs2llh E v) = ⟨v.x * (1 + k), v.y * (1 + k), v.z - c⟩ ∧
      (v.x * k) ^ 2 + (v.y * k) ^ 2 + c ^ 2 = (tangentialOffset E (Real.sqrt (v.x * v.x + v.y * v.y)) v.z) ^ 2 := by
  have habs := absOf_of_nonneg hz.le
  obtain ⟨k, c, hu, h⟩ := roundtrip_general E hE.ha (by linarith only [hE.hf]) v hoff (halley_pos_vec E hE v hoff hdeep).1
  rw [habs, signOf_of_pos hz, one_mul] at h
  exact ⟨_, _, h, by linear_combination (tangentialOffset E (Real.sqrt (v.x * v.x + v.y * v.y)) v.z) ^ 2 * hu⟩

theorem roundtrip_residual_south (E : Ellipsoid ℝ) (hE : Mild E) (v : V3 ℝ)
    (hoff : ¬ v.x * v.x + v.y * v.y ≤ E.a * E.a * 1e-32) (hz : v.z < 0)
    (hdeep : (E.e2 * (1 - E.f) * E.a) ^ 2 < (1 - E.f) ^ 2 * (v.x * v.x + v.y * v.y) + v.z * v.z) :
    ∃ k : ℝ, ∃ c : ℝ,
      llh2trs E (trs2llh E v) = ⟨v.x * (1 + k), v.y * (1 + k), v.z + c⟩ ∧
      (v.x * k) ^ 2 + (v.y * k) ^ 2 + c ^ 2 = (tangentialOffset E (Real.sqrt (v.x * v.x + v.y * v.y)) (-v.z)) ^ 2 := by
  have habs := absOf_of_neg hz
  obtain ⟨k, c, hu, h⟩ := roundtrip_general E hE.ha (by linarith only [hE.hf]) v hoff (halley_pos_vec E hE v hoff hdeep).1
  rw [habs, signOf_of_neg hz, neg_one_mul, sub_neg_eq_add] at h
  exact ⟨_, _, h, by linear_combination (tangentialOffset E (Real.sqrt (v.x * v.x + v.y * v.y)) (-v.z)) ^ 2 * hu⟩

theorem equator_roundtrip (E : Ellipsoid ℝ) (hE : Mild E) (x y : ℝ)
    (hoff : ¬ x * x + y * y ≤ E.a * E.a * 1e-32)
    (hdeep : (E.e2 * (1 - E.f) * E.a) ^ 2 < (1 - E.f) ^ 2 * (x * x + y * y)) :
    llh2trs E (trs2llh E ⟨x, y, 0⟩) = ⟨x, y, 0⟩ := by
  refine roundtrip_of_offset_zero E hE.ha (by linarith only [hE.hf]) ⟨x, y, 0⟩ hoff
    (halley_pos_vec E hE ⟨x, y, 0⟩ hoff (by simpa using hdeep)).1 ?_
  show offsetAt E _ (absOf (0 : ℝ)) _ _ = 0
  rw [absOf_zero]
  simp only [offsetAt, halley_fst_zero]
  simp

theorem offsetAt_true_latitude (E : Ellipsoid ℝ) (he0 : 0 ≤ E.e2) (he1 : E.e2 < 1) (s c h k : ℝ)
    (hsc : s ^ 2 + c ^ 2 = 1) (hk : 0 < k) :
    let N := E.a / Real.sqrt (1 - E.e2 * s ^ 2)
    offsetAt E ((N + h) * c) ((N * (1 - E.e2) + h) * s) (k * s) (k * c) = 0 := by
  intro N
  have hs2 : s ^ 2 ≤ 1 := by nlinarith [sq_nonneg c]
  have hrad : 0 < 1 - E.e2 * s ^ 2 := by nlinarith [sq_nonneg s]
  set w := Real.sqrt (1 - E.e2 * s ^ 2) with hw
  have hw0 : 0 < w := Real.sqrt_pos.2 hrad
  have hD : Real.sqrt (k * s * (k * s) + k * c * (k * c)) = k := by
    rw [show k * s * (k * s) + k * c * (k * c) = k ^ 2 by linear_combination (k ^ 2) * hsc]
    exact Real.sqrt_sq hk.le
  have hW : Real.sqrt ((1 - E.e2) * (k * s * (k * s)) + k * c * (k * c)) = k * w := by
    rw [show (1 - E.e2) * (k * s * (k * s)) + k * c * (k * c) = k ^ 2 * (1 - E.e2 * s ^ 2) by
      linear_combination (k ^ 2) * hsc]
    rw [Real.sqrt_mul (by positivity), Real.sqrt_sq hk.le]
  simp only [offsetAt, trig_sqrt, hD, hW, N]
  field_simp
  ring

theorem start_value_error (a q N h s c : ℝ) (ha : a ≠ 0) (hq : q ≠ 0) (hc : c ≠ 0) (hNh : N + h ≠ 0) :
    ((N * q ^ 2 + h) * s / a) / (q * ((N + h) * c / a)) - q * (s / c) = (1 - q ^ 2) * h * s / (q * (N + h) * c) := by
  field_simp
  ring

end Midgard.Geo.Acc
