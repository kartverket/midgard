/-
C10 — the loop of `Dataset.write` over the fields: `FieldType.write` / `CollectionField.write` succeed on the fields
of `restrict d ℓ`, the groups follow the fields one by one (`RepG`: a leaf field's group is the array or a `same_as` group),
and the array groups and the memo satisfy `WSpec`.  Over `writeFieldX` and any description `N` of an array group that `_write` of
one array establishes; the model without `time` is the case `tm = []`.  For arrays shared between fields: the field that stores
the array comes after all fields that only name it (`AliasOrd`: `_construct_memo` lets the last holder win).
-/
import Midgard.Proofs.H5Write

namespace Midgard.H5
open Midgard.Dataset

theorem leafObjs_keys {fs : List Field} {pre : Path} {memo : WMemo} (hp : ∀ e ∈ leafPaths fs pre, e ∈ memo) :
    ∀ o ∈ leafObjs fs, o ∈ keys memo := by
  intro o ho
  rw [← leafPaths_fst fs pre] at ho
  obtain ⟨⟨a, q⟩, he, rfl⟩ := List.mem_map.mp ho
  exact mem_keys (hp _ he)

theorem constructMemo_eq (lvl : Nat) (fs : List Field) (pre : Path) (memo : WMemo) :
    constructMemo lvl fs pre memo = (leafPaths (restrictFields lvl fs) pre).reverse ++ memo := by
  induction fs, pre, memo using constructMemo.induct lvl with
  | case1 pre memo => simp [constructMemo, restrictFields, leafPaths]
  | case2 f fs pre memo hlv ih =>
    rw [restrict_skip hlv, ← ih]
    cases f <;> simp only [constructMemo, hlv, if_true]
  | case3 fs pre memo nm k o no u l hlv ih =>
    rw [restrict_keep hlv]
    simp [constructMemo, hlv, ih, restrictField, leafPaths]
  | case4 fs pre memo nm no l sub hlv ih1 ih2 =>
    rw [restrict_keep hlv]
    simp only [constructMemo, hlv, if_false]
    rw [ih2, ih1]
    simp [restrictField, leafPaths]

theorem constructMemo_mem (lvl : Nat) (fs : List Field) (pre : Path) (memo : WMemo) (e : Nat × Path) :
    e ∈ constructMemo lvl fs pre memo ↔ e ∈ memo ∨ e ∈ leafPaths (restrictFields lvl fs) pre := by
  rw [constructMemo_eq, List.mem_append, List.mem_reverse, or_comm]

theorem constructMemo_top (lvl : Nat) (fs : List Field) (e : Nat × Path) :
    e ∈ constructMemo lvl fs [] [] ↔ e ∈ leafPaths (restrictFields lvl fs) [] := by
  simp [constructMemo_mem]

/-- the group `g` is what `FieldType.write` / `CollectionField.write` make of the field below the path `pre`; for a field
written as `same_as name`, `K object name` -/
def RepG (K : Nat → Path → Prop) : Field → Path → Grp → Prop
  | .leaf nm _ o _ u l, pre, g =>
    g.src = o ∧ g.attrs.fieldname = pre ++ [nm] ∧ g.attrs.unit = u ∧ g.attrs.level = l ∧
      ((g.isArr = true ∧ g.attrs.sameAs = none) ∨
       (∃ name, g.isArr = false ∧ g.attrs.sameAs = some name ∧ name ≠ pre ++ [nm] ∧ K o name))
  | .coll nm _ l sub, pre, g =>
    ∃ subs, g = .mk { fieldname := [nm], level := l, members := sub.map (fun f => (f.name, fieldType f)) } none subs ∧
      RepGL sub (pre ++ [nm]) subs
where RepGL : List Field → Path → List (String × Grp) → Prop
  | [], _, gs => gs = []
  | f :: fs, pre, gs => ∃ g r, gs = (f.name, g) :: r ∧ RepG K f pre g ∧ RepGL fs pre r

/-- for a field written as `same_as name`: `C` (the memo of `_construct_memo`) names `name` for the array, and the file
has the array group of that object at that path -/
def KFile (C : WMemo) (file : File) (o : Nat) (name : Path) : Prop :=
  C.lookup o = some name ∧ ∃ gt, lookupGrp file.groups name = some gt ∧ gt.isArr = true ∧ gt.src = o

mutual
theorem RepG.mono {K K' : Nat → Path → Prop} :
    ∀ (f : Field) (pre : Path) (g : Grp), (∀ o ∈ leafObjs [f], ∀ n, K o n → K' o n) → RepG K f pre g → RepG K' f pre g
  | .leaf nm k o no u l, pre, g, hk, h => by
    simp only [RepG] at h ⊢
    obtain ⟨a, b, c, d, e⟩ := h
    refine ⟨a, b, c, d, e.imp_right ?_⟩
    rintro ⟨name, e1, e2, e3, e4⟩
    exact ⟨name, e1, e2, e3, hk o (by simp [leafObjs_leaf_single]) _ e4⟩
  | .coll nm no l sub, pre, g, hk, h => by
    simp only [RepG] at h ⊢
    obtain ⟨subs, hg, hr⟩ := h
    exact ⟨subs, hg, RepGL.mono sub _ subs (fun o ho => hk o (by simpa [leafObjs] using ho)) hr⟩
theorem RepGL.mono {K K' : Nat → Path → Prop} :
    ∀ (fs : List Field) (pre : Path) (gs : List (String × Grp)), (∀ o ∈ leafObjs fs, ∀ n, K o n → K' o n) →
    RepG.RepGL K fs pre gs → RepG.RepGL K' fs pre gs
  | [], _, gs, _, h => by simpa only [RepG.RepGL] using h
  | f :: fs, pre, gs, hk, h => by
    simp only [RepG.RepGL] at h ⊢
    obtain ⟨g, r, hg, h1, h2⟩ := h
    exact ⟨g, r, hg, RepG.mono f pre g (fun o ho => hk o (by rw [leafObjs_cons]; exact List.mem_append_left _ ho)) h1,
      RepGL.mono fs pre r (fun o ho => hk o (by rw [leafObjs_cons]; exact List.mem_append_right _ ho)) h2⟩
end

theorem RepGL_names {K : Nat → Path → Prop} : ∀ (fs : List Field) (pre : Path) (gs : List (String × Grp)),
    RepG.RepGL K fs pre gs → gs.map (·.1) = names fs
  | [], _, gs, h => by simp only [RepG.RepGL] at h; subst h; rfl
  | f :: fs, pre, gs, h => by
    simp only [RepG.RepGL] at h
    obtain ⟨g, r, rfl, _, hr⟩ := h
    have := RepGL_names fs pre r hr
    simp only [names] at this
    simp [names, this]

theorem RepGL_mem {K : Nat → Path → Prop} : ∀ (fs : List Field) (pre : Path) (gs : List (String × Grp)),
    RepG.RepGL K fs pre gs → ∀ f ∈ fs, ∃ g, (f.name, g) ∈ gs ∧ RepG K f pre g
  | [], _, _, _, f, hf => by simp at hf
  | f0 :: fs, pre, gs, h, f, hf => by
    simp only [RepG.RepGL] at h
    obtain ⟨g, r, rfl, h0, hr⟩ := h
    rcases List.mem_cons.mp hf with rfl | hf
    · exact ⟨g, by simp, h0⟩
    · obtain ⟨g', hg', hr'⟩ := RepGL_mem fs pre r hr f hf
      exact ⟨g', List.mem_cons_of_mem _ hg', hr'⟩

/-- the fields `fs` have been written into `groups` below `pre`: the groups follow the fields (`rep`), sibling names are
unique, a field that the memo named for its array at the start has its array group in the file (`written`), and `WSpec` -/
structure LoopSpec (N : NodePred) (fs : List Field) (pre : Path) (memo : WMemo) (groups : List (String × Grp))
    (memo' : WMemo) : Prop where
  rep : RepG.RepGL (fun o name => memo'.lookup o = some name) fs pre groups
  names : NamesOKG.NamesOKL groups
  written : ∀ e ∈ leafPaths fs pre, memo.lookup e.1 = some e.2 → ∃ g', (e.2, g') ∈ Grp.nodes.nodesL pre groups ∧ g'.src = e.1
  spec : WSpec N (Grp.nodes.nodesL pre groups) (leafObjs fs) memo memo'

theorem LoopSpec.nil (N : NodePred) (pre : Path) (memo : WMemo) : LoopSpec N [] pre memo [] memo := by
  refine ⟨by simp [RepG.RepGL], trivial, fun e he => ?_, WSpec.refl _ _ _⟩
  simp [leafPaths] at he

theorem LoopSpec.cons {N : NodePred} (hN : N.Mono) {f : Field} {fs : List Field} {pre : Path} {memo memo1 memo2 : WMemo}
    {g : Grp} {groups : List (String × Grp)} (w1 : LoopSpec N [f] pre memo [(f.name, g)] memo1)
    (w2 : LoopSpec N fs pre memo1 groups memo2) (hname : f.name ∉ Midgard.Dataset.names fs) :
    LoopSpec N (f :: fs) pre memo ((f.name, g) :: groups) memo2 := by
  obtain ⟨g1, r1, he, hrf, _⟩ := w1.rep
  obtain ⟨rfl, -⟩ : g = g1 ∧ r1 = [] := by simpa using he
  refine ⟨⟨g, groups, rfl, RepG.mono f pre g (fun o _ n hn => w2.spec.stable o n hn) hrf, w2.rep⟩,
    ⟨w1.names.1, fun e he heq => hname ?_, w2.names⟩, fun e he hlk => ?_, ?_⟩
  · rw [← RepGL_names fs pre groups w2.rep]
    exact List.mem_map.mpr ⟨e, he, heq⟩
  · rw [leafPaths_cons] at he
    rw [nodesL_cons]
    rcases List.mem_append.mp he with he | he
    · exact (w1.written e he hlk).imp fun g' hg => ⟨List.mem_append_left _ hg.1, hg.2⟩
    · exact (w2.written e he (w1.spec.stable _ _ hlk)).imp fun g' hg => ⟨List.mem_append_right _ hg.1, hg.2⟩
  · rw [nodesL_cons, leafObjs_cons]
    exact w1.spec.append hN w2.spec

section loop
variable {N : NodePred} (hN : N.Mono) {h : Heap} {tm : TM}
  (harr : ∀ u l o p memo g memo', writeArrX h tm u l (h.length + 1) o p memo = .ok (g, memo') → memo.lookup o = some p →
    ArrWritten N o u l p memo g memo')
  (htot : ∀ u l o p memo, o < h.length → ∃ g memo', writeArrX h tm u l (h.length + 1) o p memo = .ok (g, memo'))
include harr htot

/-- a leaf field: the array itself when the memo names this field for it, else a group that only carries that name -/
theorem writeLeafX_loop (lvl : Nat) (nm : String) (k : Kind) (o no : Nat) (u : Option (List String)) (l : Nat) (pre : Path)
    (memo : WMemo) (ho : o < h.length) (hk : o ∈ keys memo) :
    ∃ g memo', writeFieldX h tm lvl (.leaf nm k o no u l) pre memo = .ok (g, memo') ∧
      LoopSpec N [.leaf nm k o no u l] pre memo [(nm, g)] memo' := by
  obtain ⟨q, hq⟩ := lookup_of_mem_keys hk
  by_cases hqp : q = pre ++ [nm]
  · subst hqp
    obtain ⟨g, m', hw⟩ := htot u l o (pre ++ [nm]) memo ho
    have sp := harr u l o (pre ++ [nm]) memo g m' hw hq
    have hlk : (m'.lookup o).isNone = false := by rw [sp.spec.stable o _ hq]; rfl
    refine ⟨g, m', ?_, ⟨g, [], rfl, ⟨sp.src, sp.attrs.1, sp.attrs.2.1, sp.attrs.2.2.1, Or.inl ⟨sp.isArr, sp.attrs.2.2.2⟩⟩, rfl⟩,
      namesOKL_single sp.names, fun e he _ => ?_, ?_⟩
    · simp only [writeFieldX, aliasOf, hq, beq_self_eq_true, if_true, hw, hlk, Bool.false_eq_true, if_false]
    · simp only [leafPaths_leaf_single, List.mem_singleton] at he
      subst he
      rw [nodesL_single]
      exact ⟨g, root_mem_nodes _ sp.isArr, sp.src⟩
    · rw [nodesL_single, leafObjs_leaf_single]
      exact sp.spec
  · have hbeq : (q == pre ++ [nm]) = false := by simpa using hqp
    have hnodes : ∀ (a0 : GAttrs), Grp.nodes.nodesL pre [(nm, Grp.mk a0 none [])] = [] := by
      intro a0; simp [Grp.nodes.nodesL, Grp.nodes]
    refine ⟨.mk { fieldname := pre ++ [nm], src := o, unit := u, level := l, sameAs := some q } none [], memo, ?_,
      ⟨_, [], rfl, ⟨rfl, rfl, rfl, rfl, Or.inr ⟨q, rfl, rfl, hqp, hq⟩⟩, rfl⟩, namesOKL_single (namesOKG_leaf _ _),
      fun e he hlk => ?_, ?_⟩
    · simp only [writeFieldX, aliasOf, hq, hbeq, Bool.false_eq_true, if_false]
    · simp only [leafPaths_leaf_single, List.mem_singleton] at he
      subst he
      rw [hq] at hlk
      exact absurd (Option.some.inj hlk) hqp
    · rw [hnodes]
      exact WSpec.refl _ _ _

include hN

-- each of the two uses some of the hypotheses only through the other
set_option linter.unusedSectionVars false

mutual
theorem writeFieldX_loop (lvl : Nat) : ∀ (f : Field) (pre : Path) (memo : WMemo),
    (∀ o ∈ leafObjs [restrictField lvl f], o ∈ keys memo) →
    namesOK [restrictField lvl f] = true → (∀ o ∈ leafObjs [restrictField lvl f], o < h.length) →
    ∃ g memo', writeFieldX h tm lvl f pre memo = .ok (g, memo') ∧
      LoopSpec N [restrictField lvl f] pre memo [((restrictField lvl f).name, g)] memo'
  | .leaf nm k o no u l, pre, memo, hp, _, hlt =>
    writeLeafX_loop harr htot lvl nm k o no u l pre memo (hlt o (by simp [restrictField, leafObjs_leaf_single]))
      (hp o (by simp [restrictField, leafObjs_leaf_single]))
  | .coll nm no l sub, pre, memo, hp, hn, hlt => by
    simp only [restrictField, leafObjs_coll_single] at hp hlt
    obtain ⟨subs, memo', hw, w⟩ := writeFieldsX_loop lvl sub (pre ++ [nm]) memo hp (namesOK_coll hn) hlt
    refine ⟨_, memo', by simp only [writeFieldX, hw], ⟨_, [], rfl, ⟨subs, rfl, w.rep⟩, rfl⟩, namesOKL_single w.names,
      fun e he hlk => ?_, ?_⟩
    · rw [nodesL_single, nodes_coll]
      exact w.written e (leafPaths_coll_single .. ▸ he) hlk
    · simp only [restrictField, Field.name]
      rw [nodesL_single, nodes_coll, leafObjs_coll_single]
      exact w.spec
theorem writeFieldsX_loop (lvl : Nat) : ∀ (fs : List Field) (pre : Path) (memo : WMemo),
    (∀ o ∈ leafObjs (restrictFields lvl fs), o ∈ keys memo) →
    namesOK (restrictFields lvl fs) = true → (∀ o ∈ leafObjs (restrictFields lvl fs), o < h.length) →
    ∃ groups memo', writeFieldX.writeFieldsX h tm lvl fs pre memo =
        .ok (groups, (restrictFields lvl fs).map (fun f => (f.name, fieldType f)), memo') ∧
      LoopSpec N (restrictFields lvl fs) pre memo groups memo'
  | [], pre, memo, _, _, _ =>
    ⟨[], memo, by simp [writeFieldX.writeFieldsX, restrictFields], by simpa [restrictFields] using LoopSpec.nil N pre memo⟩
  | f :: fs, pre, memo, hp, hn, hlt => by
    by_cases hlv : Field.level f < lvl
    · rw [restrict_skip hlv] at hp hn hlt ⊢
      obtain ⟨groups, memo', hw, w⟩ := writeFieldsX_loop lvl fs pre memo hp hn hlt
      exact ⟨groups, memo', by simp only [writeFieldX.writeFieldsX, hlv, if_true, hw], w⟩
    · rw [restrict_keep hlv] at hp hn hlt ⊢
      obtain ⟨hname, hn1, hn2⟩ := namesOK_cons _ _ hn
      rw [leafObjs_cons] at hp hlt
      obtain ⟨g, memo1, hw1, w1⟩ := writeFieldX_loop lvl f pre memo (fun o ho => hp o (List.mem_append_left _ ho)) hn1
        (fun o ho => hlt o (List.mem_append_left _ ho))
      obtain ⟨groups, memo2, hw2, w2⟩ := writeFieldsX_loop lvl fs pre memo1
        (fun o ho => w1.spec.stable.keys (hp o (List.mem_append_right _ ho))) hn2 (fun o ho => hlt o (List.mem_append_right _ ho))
      refine ⟨(f.name, g) :: groups, memo2, ?_, ?_⟩
      · simp only [writeFieldX.writeFieldsX, hlv, if_false, hw1, hw2]
        cases f <;> rfl
      exact restrictField_name lvl f ▸ LoopSpec.cons hN w1 w2 (restrictField_name lvl f ▸ hname)
end

end loop

/-- in the flattened list of (array, full name) of the written fields: a field that is not the one the memo `C` names for
its array is followed (later in the list, or in `rest`) by the field that `C` names -/
def AliasOrd (C : WMemo) : List (Nat × Path) → List Path → Prop
  | [], _ => True
  | (o, p) :: L, rest =>
    (C.lookup o = some p ∨ ∃ name, C.lookup o = some name ∧ name ∈ L.map Prod.snd ++ rest) ∧ AliasOrd C L rest

theorem AliasOrd_append (C : WMemo) : ∀ (L1 L2 : List (Nat × Path)) (rest : List Path),
    AliasOrd C (L1 ++ L2) rest ↔ AliasOrd C L1 (L2.map Prod.snd ++ rest) ∧ AliasOrd C L2 rest
  | [], L2, rest => by simp [AliasOrd]
  | (o, p) :: L1, L2, rest => by
    simp only [List.cons_append, AliasOrd, AliasOrd_append C L1 L2 rest, List.map_append, List.append_assoc]
    constructor
    · rintro ⟨a, b, c⟩; exact ⟨⟨a, b⟩, c⟩
    · rintro ⟨⟨a, b⟩, c⟩; exact ⟨a, b, c⟩

theorem aliasOrd_reverse : ∀ (L : List (Nat × Path)) (m : WMemo), AliasOrd (L.reverse ++ m) L []
  | [], _ => trivial
  | (o, p) :: L, m => by
    have ih := aliasOrd_reverse L ((o, p) :: m)
    have hC : ((o, p) :: L).reverse ++ m = L.reverse ++ (o, p) :: m := by simp
    rw [hC]
    refine ⟨?_, ih⟩
    rw [List.lookup_append]
    cases hl : L.reverse.lookup o with
    | none => left; simp [List.lookup]
    | some name =>
      right
      refine ⟨name, rfl, ?_⟩
      have := Lists.lookup_mem hl
      simp only [List.append_nil]
      exact List.mem_map.mpr ⟨(o, name), List.mem_reverse.mp this, rfl⟩

theorem aliasOrd_constructMemo (lvl : Nat) (fs : List Field) :
    AliasOrd (constructMemo lvl fs [] []) (leafPaths (restrictFields lvl fs) []) [] := by
  rw [constructMemo_eq]
  exact aliasOrd_reverse _ []

end Midgard.H5
