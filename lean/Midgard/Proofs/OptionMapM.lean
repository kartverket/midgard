/-
`List.mapM` in `Option`: it succeeds exactly when the function succeeds on every element, and then holds the results in
order.  Stated as an equation between mapped lists, from which length and elements are read off with the `List.map` lemmas.
-/

namespace Midgard

theorem mapM_eq_some_iff {α β : Type} (f : α → Option β) (l : List α) (r : List β) :
    l.mapM f = some r ↔ l.map f = r.map some := by
  induction l generalizing r with
  | nil => cases r <;> simp
  | cons a l ih =>
    rw [List.mapM_cons]
    cases r with
    | nil => cases f a <;> cases l.mapM f <;> simp
    | cons c r =>
      rw [List.map_cons, List.map_cons, List.cons.injEq, ← ih]
      cases f a <;> cases l.mapM f <;> simp

theorem mapM_eq_some_map {α β : Type} (f : α → Option β) (g : α → β) (l : List α) (h : ∀ a ∈ l, f a = some (g a)) :
    l.mapM f = some (l.map g) := by
  rw [mapM_eq_some_iff, List.map_map]
  exact List.map_congr_left h

theorem mapM_map_opt {α β γ} (f : α → Option β) (g : β → γ) (l : List α) :
    l.mapM (fun a => (f a).map g) = (l.mapM f).map (List.map g) := by
  induction l with
  | nil => rfl
  | cons a l ih => rw [List.mapM_cons, List.mapM_cons, ih]; cases f a <;> cases l.mapM f <;> rfl

theorem mapM_image {α β γ : Type} (f : α → Option β) (p : β → γ) (g : α → γ) (hf : ∀ a b, f a = some b → p b = g a)
    {l : List α} {r : List β} (h : l.mapM f = some r) : r.map p = l.map g := by
  rw [mapM_eq_some_iff] at h
  induction l generalizing r with
  | nil => cases r <;> simp_all
  | cons a l ih =>
    cases r with
    | nil => simp at h
    | cons b r =>
      simp only [List.map_cons, List.cons.injEq] at h ⊢
      exact ⟨hf a b h.1, ih h.2⟩

/-- a fold that can fail only through its input, not through its state: all inputs are read first, then folded -/
theorem foldlM_map {σ α β : Type} (f : α → Option β) (step : σ → β → σ) : ∀ (xs : List α) (s : σ),
    xs.foldlM (fun s x => (f x).map (step s)) s = (xs.mapM f).map (List.foldl step s) := by
  intro xs
  induction xs with
  | nil => intro s; rfl
  | cons x xs ih =>
    intro s
    cases hx : f x with
    | none => simp [hx]
    | some b =>
      simp only [List.foldlM_cons, hx, Option.map_some, Option.bind_eq_bind, Option.bind_some, ih, List.mapM_cons,
        Option.pure_def]
      cases xs.mapM f <;> rfl

end Midgard
