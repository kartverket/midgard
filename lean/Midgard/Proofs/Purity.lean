/-
C16 (Mathlib-free): why process-wide state cannot be noticed.  The unwinding argument behind `noninterference`
(`SameView`, `unwinding`); a cell that is read and written but returns a function of the call alone
(`cell_noninterfering`: memo tables, registries); the plug-in registry looked up after an import (`regAdd_lookup`,
`regImport_spec`); the RINEX header cache, which a parse reads only through its last named system (`lastSys`,
`parseFrom_lastSys`); and the one evaluation of the obligations over the regenerated cell table (`cell_table_obligations`).
-/
import Midgard.Model.Purity
import Midgard.Proofs.Lists

namespace Midgard.Purity

section generic
variable {Id Loc Cell Val Path Bytes Op Obs : Type} [DecidableEq Id]

/-- the relation kept between the full run and the run without the instances outside `G`: what the instances in `G`
can see of the two worlds agrees -/
def SameView (G : Id → Prop) (rel : Cell → Prop) (Good : (Cell → Val) → Prop)
    (w v : World Id Loc Cell Val Path Bytes) : Prop :=
  w.files = v.files ∧ (∀ i, G i → w.inst i = v.inst i) ∧ (∀ c, rel c → w.shared c = v.shared c) ∧
    Good w.shared ∧ Good v.shared

/-- **Unwinding**, for a set `G` of instances: two worlds that the instances in `G` cannot tell apart stay so when the first
runs a whole history and the second only the events of `G` in it, and every instance in `G` observes the same. -/
theorem unwinding {sem : Sem Loc Cell Val Path Bytes Op Obs} {rel : Cell → Prop}
    {Good : (Cell → Val) → Prop} (H : NonInterfering sem rel Good) (G : Id → Prop) [DecidablePred G] :
    ∀ (h : List (Event Id Op)) (w v : World Id Loc Cell Val Path Bytes), SameView G rel Good w v →
      (∀ i, G i → obsOf i (run sem w h).2 = obsOf i (run sem v (h.filter fun e => G e.who)).2) ∧
      SameView G rel Good (run sem w h).1 (run sem v (h.filter fun e => G e.who)).1 := by
  intro h
  induction h with
  | nil => intro w v r; exact ⟨fun _ _ => rfl, r⟩
  | cons e h ih =>
    intro w v ⟨hf, hi, hs, gw, gv⟩
    obtain ⟨who, op⟩ := e
    by_cases he : G who
    · -- an event of an instance in `G`: both runs take it, from related worlds
      rw [List.filter_cons_of_pos (by simpa using he)]
      have hrs := H.reads_sound op w.files (w.inst who) w.shared v.shared gw gv hs
      have hobs : (step sem w ⟨who, op⟩).2 = (step sem v ⟨who, op⟩).2 := by
        simp only [step]; rw [← hf, ← hi who he]; exact hrs.1
      have r' : SameView G rel Good (step sem w ⟨who, op⟩).1 (step sem v ⟨who, op⟩).1 := by
        refine ⟨?_, ?_, ?_, ?_, ?_⟩
        · simp [step, H.files_kept, hf]
        · intro j hj
          simp only [step, setInst]
          split
          · rw [← hf, ← hi who he]; exact hrs.2
          · exact hi j hj
        · intro c hc
          simp only [step]
          rw [H.rel_kept _ _ _ _ c gw hc, H.rel_kept _ _ _ _ c gv hc]; exact hs c hc
        · exact H.good_step _ _ _ _ gw
        · exact H.good_step _ _ _ _ gv
      have := ih (step sem w ⟨who, op⟩).1 (step sem v ⟨who, op⟩).1 r'
      refine ⟨fun i hG => ?_, this.2⟩
      have h1 := this.1 i hG
      simp only [obsOf] at h1
      simp only [run, obsOf, List.filter_cons]
      rw [hobs]
      split
      · simp only [List.map_cons]; rw [h1]
      · exact h1
    · -- an event of an instance outside `G`: only the full run moves; the relation survives
      rw [List.filter_cons_of_neg (by simpa using he)]
      have r' : SameView G rel Good (step sem w ⟨who, op⟩).1 v := by
        refine ⟨?_, ?_, ?_, ?_, gv⟩
        · simp [step, H.files_kept, hf]
        · intro j hj
          have : j ≠ who := fun x => he (x ▸ hj)
          simp [step, setInst, this, hi j hj]
        · intro c hc
          simp only [step]
          rw [H.rel_kept _ _ _ _ c gw hc]; exact hs c hc
        · exact H.good_step _ _ _ _ gw
      have := ih (step sem w ⟨who, op⟩).1 v r'
      refine ⟨fun i hG => ?_, this.2⟩
      have hne : ¬ who = i := fun x => he (x ▸ hG)
      have h1 := this.1 i hG
      simp only [obsOf] at h1
      simp only [run, obsOf, List.filter_cons, hne, decide_false]
      simpa using h1

end generic

section cell
variable {Loc Path Bytes S X Y : Type}

/-- **A cell that is read and written but cannot be noticed** (memo tables, registries): under an invariant `Inv` of the
cell a call returns a function `spec` of its argument alone and keeps `Inv`; then no cell is relevant. -/
theorem cell_noninterfering (call : S → X → Y × S) (spec : X → Y) (Inv : S → Prop)
    (value : ∀ s x, Inv s → (call s x).1 = spec x) (keep : ∀ s x, Inv s → Inv (call s x).2) :
    NonInterfering (fun x fs l s => ⟨(call (s ()) x).1, l, fun _ => (call (s ()) x).2, fs⟩ :
      Sem Loc Unit S Path Bytes X Y) (fun _ => False) (fun s => Inv (s ())) where
  files_kept := fun _ _ _ _ => rfl
  good_step := fun x _ _ s hs => keep (s ()) x hs
  rel_kept := fun _ _ _ _ _ _ hc => hc.elim
  reads_sound := by
    intro x fs l s s' hs hs' _
    refine ⟨?_, rfl⟩
    show (call (s ()) x).1 = (call (s' ()) x).1
    rw [value (s ()) x hs, value (s' ()) x hs']

end cell

section registry
variable {N P : Type} [DecidableEq N]

theorem regAdd_sound (defn : N → Option P) (reg : List (N × P)) (n : N)
    (h : RegSound defn reg) : RegSound defn (regAdd defn reg n) := by
  unfold regAdd
  split
  · exact h
  · cases hd : defn n with
    | none => exact h
    | some p =>
      intro q hq
      simp at hq
      rcases hq with hq | rfl
      · exact h q hq
      · exact hd

theorem regAdd_lookup (defn : N → Option P) (reg : List (N × P)) (n x : N) :
    (regAdd defn reg n).lookup x = (reg.lookup x).or (if x = n then defn n else none) := by
  unfold regAdd
  by_cases hx : x = n
  · subst hx
    cases hl : reg.lookup x with
    | some v => simp [hl]
    | none =>
      cases hd : defn x with
      | none => simp [hl]
      | some p => simp [hl, List.lookup_append, List.lookup]
  · have hb : (x == n) = false := by simp [hx]
    split
    · simp
    · cases defn n with
      | none => simp
      | some p => simp [List.lookup_append, List.lookup, hb]

theorem regAdd_lookup_some (defn : N → Option P) (reg : List (N × P)) (n x : N) (v : P)
    (h : reg.lookup x = some v) : (regAdd defn reg n).lookup x = some v := by
  rw [regAdd_lookup, h]
  rfl

theorem regAdd_self (defn : N → Option P) (reg : List (N × P)) (n : N) (h : RegSound defn reg) :
    (regAdd defn reg n).lookup n = defn n := by
  rw [regAdd_lookup, if_pos rfl]
  cases hl : reg.lookup n with
  | some v => exact (h (n, v) (Lists.lookup_mem hl)).symm
  | none => rfl

theorem foldl_regAdd_keeps (defn : N → Option P) {Q : List (N × P) → Prop}
    (hQ : ∀ reg n, Q reg → Q (regAdd defn reg n)) (ns : List N) :
    ∀ reg : List (N × P), Q reg → Q (ns.foldl (regAdd defn) reg) := by
  induction ns with
  | nil => exact fun reg h => h
  | cons n ns ih => exact fun reg h => ih _ (hQ reg n h)

theorem foldl_regAdd_sound (defn : N → Option P) (ns : List N) :
    ∀ reg : List (N × P), RegSound defn reg → RegSound defn (ns.foldl (regAdd defn) reg) :=
  foldl_regAdd_keeps defn (regAdd_sound defn) ns

theorem foldl_regAdd_lookup_some (defn : N → Option P) (ns : List N) (x : N) (v : P) :
    ∀ reg : List (N × P), reg.lookup x = some v → (ns.foldl (regAdd defn) reg).lookup x = some v :=
  foldl_regAdd_keeps defn (fun reg n => regAdd_lookup_some defn reg n x v) ns

theorem regImport_spec (defn : N → Option P) (closure : N → List N) (reg : List (N × P)) (n : N)
    (h : RegSound defn reg) :
    (regImport defn closure reg n).lookup n = defn n ∧ RegSound defn (regImport defn closure reg n) := by
  unfold regImport
  refine ⟨?_, foldl_regAdd_sound defn _ reg h⟩
  rw [List.foldl_append]
  exact regAdd_self defn _ n (foldl_regAdd_sound defn (closure n) reg h)

end registry

/-- the system a continuation line is attributed to: that of the last line of the list that names one -/
def lastSys (cache : List ObsLine) : Option Str := (cache.reverse.find? (fun c => c.sys ≠ [])).map (·.sys)

theorem resolveSys_eq (cache : List ObsLine) (l : ObsLine) :
    resolveSys cache l = if l.sys ≠ [] then some l.sys else lastSys cache := rfl

theorem lastSys_snoc (cache : List ObsLine) (l : ObsLine) :
    lastSys (cache ++ [l]) = if l.sys ≠ [] then some l.sys else lastSys cache := by
  unfold lastSys
  rw [List.reverse_append, List.reverse_singleton, List.singleton_append, List.find?_cons]
  by_cases hl : l.sys ≠ []
  · simp [hl]
  · simp [hl]

/-- the parse reads the list only through `lastSys` -/
theorem parseFrom_lastSys (pre : List ObsLine) :
    ∀ (lines own : List ObsLine) (hd : ObsTypes), lastSys (pre ++ own) = lastSys own →
      (parseFrom (pre ++ own) hd lines).1 = (parseFrom own hd lines).1 ∧
      (parseFrom (pre ++ own) hd lines).2 = pre ++ (parseFrom own hd lines).2 := by
  intro lines
  induction lines with
  | nil => intro own hd _; simp [parseFrom]
  | cons l rest ih =>
    intro own hd h
    simp only [parseFrom, resolveSys_eq, h]
    cases (if l.sys ≠ [] then some l.sys else lastSys own) with
    | none => simp
    | some sys =>
      have := ih (own ++ [l]) (obsAppend hd sys (l.types.filter (· ≠ [])))
        (by rw [← List.append_assoc, lastSys_snoc, lastSys_snoc, h])
      rw [List.append_assoc]
      exact this

theorem parseFrom_prefix (pre lines : List ObsLine) (hd : ObsTypes) (h : wfHeader lines = true) :
    (parseFrom pre hd lines).1 = (parseFrom [] hd lines).1 ∧
    (parseFrom pre hd lines).2 = pre ++ (parseFrom [] hd lines).2 := by
  cases lines with
  | nil => simp [parseFrom]
  | cons l rest =>
    have hl : l.sys ≠ [] := by simpa [wfHeader] using h
    simp only [parseFrom, resolveSys_eq, if_pos hl]
    have := parseFrom_lastSys pre rest [l] (obsAppend hd l.sys (l.types.filter (· ≠ [])))
      -- `[l]` is `[] ++ [l]` by reduction, which is how `lastSys_snoc [] l` applies
      (by rw [lastSys_snoc, if_pos hl]; exact (lastSys_snoc [] l).symm ▸ by rw [if_pos hl])
    simpa using this

section cells
open Midgard.Generated.ParserEffects

/-- The three obligations that compare cell ids, in one evaluation.  What the kernel pays for in a comparison of
string literals is unpacking each literal into its bytes, once per declaration; the three statements range over the
same ids, so evaluated apart each would pay for the whole table again. -/
theorem cell_table_obligations :
    (∀ e ∈ effects, (coverOf e).isSome = true) ∧ readBeforeWriteCells.length = 0 ∧
    ∀ r ∈ cells, r.kind = .lrucache →
      (r.level = .function ∧ reviewedMemo.contains r.id = true ∧ r.escapeSites = 0) := by
  decide +kernel

end cells

end Midgard.Purity
