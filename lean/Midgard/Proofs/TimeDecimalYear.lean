/-
C02 — the decimal year: a datetime lies in its calendar year, a decimal year `y + x` denotes New Year of `y` plus the
fraction `x` of that year's length (`dyToJds_inst_add`), reading it from an epoch counts the days since New Year of the year
of the epoch's datetime (`dyFromJds_eq`); `carry_bound` is the arithmetic of an epoch counted in the year next to its own.
-/
import Midgard.Proofs.TimeYears
import Midgard.Proofs.TimeFormatValues

namespace Midgard.TimeFormat
open Midgard.TimeArith Midgard.TimeScale

theorem dtToJds_year_window (dt : DateTime) :
    yearStartJd1 (fieldsOf dt).year ≤ (dtToJds dt).inst ∧ (dtToJds dt).inst < yearStartJd1 ((fieldsOf dt).year + 1) := by
  obtain ⟨w0, w1⟩ := year_window (dt / usPerDay)
  obtain ⟨r0, r1⟩ := rem_div_range dt (show (0 : Int) < usPerDay by decide)
  have c0 : (daysFromCivil (fieldsOf dt).year 1 1 : Rat) ≤ ((dt / usPerDay : Int) : Rat) := by exact_mod_cast w0
  have c1 : ((dt / usPerDay : Int) : Rat) + 1 ≤ (daysFromCivil ((fieldsOf dt).year + 1) 1 1 : Rat) := by exact_mod_cast w1
  simp only [dtToJds, JD.inst, yearStartJd1]
  constructor <;> linarith

theorem truncRat_nonneg (q : Rat) (h : 0 ≤ q) : truncRat q = q.floor := if_pos h

theorem dyToJds_inst (tbl : List Row) (tol : Rat) (s : Scale) (v : Rat) (hv : 0 ≤ v) :
    (dyToJds tbl tol s v).inst = yearStartJd1 v.floor + (v - (v.floor : Rat)) * year2days tbl tol v.floor s := by
  simp only [dyToJds, JD.inst, truncRat_nonneg v hv]; ring

theorem dyToJds_inst_add (tbl : List Row) (tol : Rat) (s : Scale) {y : Int} {x : Rat} (hy : 0 ≤ y) (h0 : 0 ≤ x) (h1 : x < 1) :
    (dyToJds tbl tol s ((y : Rat) + x)).inst = yearStartJd1 y + x * year2days tbl tol y s := by
  have hy' : (0 : Rat) ≤ (y : Rat) := by exact_mod_cast hy
  rw [dyToJds_inst tbl tol s _ (by linarith), floor_add_frac y x h0 h1, add_sub_cancel_left]

theorem dyFromJds_eq (tbl : List Row) (tol : Rat) (s : Scale) (j : JD) :
    dyFromJds tbl tol s j = (dyYear j : Rat) + (j.inst - yearStartJd1 (dyYear j)) / year2days tbl tol (dyYear j) s := by
  simp only [dyFromJds, dyYear, JD.inst]; ring

/-- an instant `t = B + e` just beyond a year boundary `B`, counted in the year of `l` days on the wrong side of it and
constructed again in the year of `l'` days on the right side, comes back as `B + e / l * l'` -/
theorem carry_bound {B e t ε l l' : Rat} (ht : t = B + e) (he : |e| ≤ ε) (hl : 365 ≤ l) (hl' : |l' - l| ≤ 1) :
    |B + e / l * l' - t| ≤ ε / 365 := by
  have hl0 : 0 < l := by linarith
  have e1 : B + e / l * l' - t = e * (l' - l) / l := by rw [ht]; field_simp; ring
  rw [e1, abs_div, abs_mul, abs_of_pos hl0, div_le_div_iff₀ hl0 (by norm_num)]
  have := mul_le_mul he hl' (abs_nonneg _) ((abs_nonneg e).trans he)
  nlinarith [abs_nonneg e, abs_nonneg (l' - l)]

theorem dy_window_dt (dt : DateTime) :
    dyYear (dtToJds dt) = (fieldsOf dt).year ∧ yearStartJd1 (fieldsOf dt).year ≤ (dtToJds dt).inst ∧
    (dtToJds dt).inst < yearStartJd1 (fieldsOf dt).year + (yearLen (fieldsOf dt).year : Rat) := by
  have h := dtToJds_year_window dt
  rw [yearStart_succ] at h
  exact ⟨by rw [dyYear, dt_readback], h⟩

end Midgard.TimeFormat

#print axioms Midgard.TimeFormat.dy_window_dt
