/-
Matrix blocks: what writing the lines of a block into the zero matrix (`fillMatrix`) and mirroring the stored
triangle (`symmetrize`) leave at every element.  A line is reduced to its `Run` (row, first column, listed
values); `lastCover` is the value the last line covering an element lists for it.
-/
import Midgard.Model.Sinex
import Midgard.Proofs.Lists

namespace Midgard.Props.C14
open Midgard.Sinex

theorem get_symmetrize (t : Tri) (n : Nat) (M : Matrix) (i j : Nat) (hi : i < n) (hj : j < n) :
    (symmetrize t n M).get i j =
      match t with
      | .lower => if j ≤ i then M.get i j else M.get j i
      | .upper => if i ≤ j then M.get i j else M.get j i
      | .unspecified => if i = j then M.get i i else M.get i j + M.get j i := by
  unfold Matrix.get symmetrize
  simp only [List.getD_eq_getElem?_getD, List.getElem?_map, List.getElem?_range hi, List.getElem?_range hj,
    Option.map_some, Option.getD_some]
  cases t <;> rfl

/-- a matrix line with its values already filtered: 1-based row and first column, the listed run -/
abbrev Run := Nat × Nat × List Rat

/-- the line lies inside an `n × n` matrix -/
def Run.ok (n : Nat) (l : Run) : Prop := 1 ≤ l.1 ∧ l.1 ≤ n ∧ 1 ≤ l.2.1 ∧ l.2.1 - 1 + l.2.2.length ≤ n ∧ 1 ≤ l.2.2.length

/-- the value the line lists for the (0-based) element `(i, j)`, if it covers it -/
def cover (l : Run) (i j : Nat) : Option Rat :=
  if i = l.1 - 1 ∧ l.2.1 - 1 ≤ j ∧ j < l.2.1 - 1 + l.2.2.length then l.2.2[j - (l.2.1 - 1)]? else Option.none

/-- the value listed by the last line that covers `(i, j)` -/
def lastCover : List Run → Nat → Nat → Option Rat
  | [], _, _ => Option.none
  | l :: rest, i, j => (lastCover rest i j).orElse fun _ => cover l i j

def Square (n : Nat) (M : Matrix) : Prop := M.length = n ∧ ∀ r ∈ M, r.length = n

theorem square_zeros (n : Nat) : Square n (zeros n) := by
  constructor
  · simp [zeros]
  · intro r hr
    simp only [zeros, List.mem_replicate] at hr
    rw [hr.2]; simp

theorem get_zeros (n i j : Nat) : (zeros n).get i j = 0 := by
  unfold Matrix.get zeros
  by_cases hi : i < n
  · by_cases hj : j < n <;> simp [List.getD_eq_getElem?_getD, hi, hj]
  · simp [List.getD_eq_getElem?_getD, hi]

theorem writeLine_spec (n : Nat) (M : Matrix) (hM : Square n M) (l : Run) (hl : l.ok n) :
    ∃ M', writeLine M l.1 l.2.1 l.2.2 = some M' ∧ Square n M' ∧
      ∀ i j, M'.get i j = (cover l i j).getD (M.get i j) := by
  obtain ⟨r, c, vals⟩ := l
  obtain ⟨hr1, hrn, hc1, hcn, hlen⟩ := hl
  simp only at hr1 hrn hc1 hcn hlen
  obtain ⟨hMl, hMr⟩ := hM
  have hne : vals.isEmpty = false := by cases vals <;> simp_all
  have hk : min (c - 1 + vals.length) M.length - min (c - 1) M.length = vals.length := by omega
  have hrM : r ≤ M.length := by omega
  have hnz : ¬ (r = 0 ∨ c = 0) := by omega
  have hidx : r - 1 < M.length := by omega
  -- the row that is rewritten
  have hget : M[r - 1]? = some M[r - 1] := List.getElem?_eq_getElem hidx
  have hrowlen : (M[r - 1]).length = n := hMr _ (List.getElem_mem _)
  have hrowD : M.getD (r - 1) [] = M[r - 1] := by rw [List.getD_eq_getElem?_getD, hget]; rfl
  refine ⟨M.set (r - 1) (((M[r - 1]).take (c - 1)) ++ vals ++ (M[r - 1]).drop (c - 1 + vals.length)), ?_, ?_, ?_⟩
  · unfold writeLine
    simp only [hne, Bool.false_eq_true, if_false, hnz, hk, if_true, hrM, hrowD]
  · refine ⟨by rw [List.length_set, hMl], fun row hrow => ?_⟩
    rcases List.mem_or_eq_of_mem_set hrow with h | h
    · exact hMr row h
    · rw [h]
      simp only [List.length_append, List.length_take, List.length_drop, hrowlen]
      omega
  · intro i j
    unfold Matrix.get cover
    simp only [List.getD_eq_getElem?_getD]
    by_cases hi : i = r - 1
    · subst hi
      rw [List.getElem?_set_self hidx, hget]
      simp only [Option.getD_some, true_and]
      rw [Lists.getElem?_splice _ _ _ _ (by omega)]
      split
      · next h => rw [List.getElem?_eq_getElem (by omega)]; rfl
      · rfl
    · rw [List.getElem?_set_ne (Ne.symm hi)]
      simp only [hi, false_and, if_false, Option.getD_none]

/-- `lines.foldlM writeLine` from any square start -/
def fillFrom (M0 : Matrix) (ls : List Run) : Option Matrix :=
  ls.foldlM (fun M l => writeLine M l.1 l.2.1 l.2.2) M0

theorem fillFrom_spec (n : Nat) (ls : List Run) : ∀ (M0 : Matrix), Square n M0 → (∀ l ∈ ls, l.ok n) →
    ∃ M, fillFrom M0 ls = some M ∧ Square n M ∧ ∀ i j, M.get i j = (lastCover ls i j).getD (M0.get i j) := by
  induction ls with
  | nil => intro M0 h0 _; exact ⟨M0, rfl, h0, fun i j => rfl⟩
  | cons l rest ih =>
    intro M0 h0 hok
    obtain ⟨M1, hw, hs1, hg1⟩ := writeLine_spec n M0 h0 l (hok l (by simp))
    obtain ⟨M, hf, hs, hg⟩ := ih M1 hs1 (fun l' h' => hok l' (by simp [h']))
    refine ⟨M, ?_, hs, ?_⟩
    · simp only [fillFrom, List.foldlM_cons, hw, Option.bind_eq_bind, Option.bind_some]
      exact hf
    · intro i j
      rw [hg i j, hg1 i j]
      simp only [lastCover]
      cases lastCover rest i j <;> simp

/-- the run a matrix line writes -/
def runOf (l : MatLine) : Run := (l.row.toNat, l.col.toNat, l.vals.filterMap id)

theorem fillMatrix_eq (n : Nat) (lines : List MatLine) (h : ∀ l ∈ lines, 0 ≤ l.row ∧ 0 ≤ l.col) :
    fillMatrix n lines = fillFrom (zeros n) (lines.map fun l => (l.row.toNat, l.col.toNat, l.vals.filterMap id)) := by
  unfold fillMatrix fillFrom
  generalize zeros n = M0
  induction lines generalizing M0 with
  | nil => rfl
  | cons l rest ih =>
    have hl := h l (by simp)
    have hneg : ¬ (l.row < 0 ∨ l.col < 0) := by omega
    simp only [List.foldlM_cons, List.map_cons, hneg, if_false]
    cases writeLine M0 l.row.toNat l.col.toNat (List.filterMap id l.vals) with
    | none => rfl
    | some M1 => exact ih (fun l' h' => h l' (by simp [h'])) M1

theorem symmetrize_stored (t : Tri) (n : Nat) (M : Matrix) (i j : Nat) (hi : i < n) (hj : j < n)
    (h : t = .lower ∧ j ≤ i ∨ t = .upper ∧ i ≤ j) :
    (symmetrize t n M).get i j = M.get i j ∧ (symmetrize t n M).get j i = M.get i j := by
  rw [get_symmetrize t n M i j hi hj, get_symmetrize t n M j i hj hi]
  rcases h with ⟨rfl, h⟩ | ⟨rfl, h⟩
  · by_cases h2 : i ≤ j
    · cases Nat.le_antisymm h h2
      simp
    · simp [h, h2]
  · by_cases h2 : j ≤ i
    · cases Nat.le_antisymm h h2
      simp
    · simp [h, h2]

theorem fillFrom_symmetrize (t : Tri) (n : Nat) (ls : List Run) (hok : ∀ l ∈ ls, l.ok n) :
    ∃ R, (fillFrom (zeros n) ls).map (symmetrize t n) = some R ∧
      ∀ i j, i < n → j < n → (t = .lower ∧ j ≤ i ∨ t = .upper ∧ i ≤ j) →
        R.get i j = (lastCover ls i j).getD 0 ∧ R.get j i = (lastCover ls i j).getD 0 := by
  obtain ⟨M, hf, _, hg⟩ := fillFrom_spec n ls (zeros n) (square_zeros n) hok
  refine ⟨symmetrize t n M, by rw [hf]; rfl, fun i j hi hj h => ?_⟩
  rw [(symmetrize_stored t n M i j hi hj h).1, (symmetrize_stored t n M i j hi hj h).2, hg i j, get_zeros]
  exact ⟨rfl, rfl⟩

theorem matrixOf_stored (t : Tri) (sizeRows : Option Nat) (lines : List MatLine)
    (hok : ∀ l ∈ lines, (runOf l).ok (matrixSize sizeRows lines)) :
    ∃ R, matrixOf t sizeRows lines = some R ∧
      ∀ i j, i < matrixSize sizeRows lines → j < matrixSize sizeRows lines → (t = .lower ∧ j ≤ i ∨ t = .upper ∧ i ≤ j) →
        R.get i j = (lastCover (lines.map runOf) i j).getD 0 ∧ R.get j i = (lastCover (lines.map runOf) i j).getD 0 := by
  -- a line inside the matrix has indices ≥ 1
  have hpos : ∀ l ∈ lines, 0 ≤ l.row ∧ 0 ≤ l.col := fun l hl => by
    obtain ⟨h1, _, h3, _⟩ := hok l hl
    simp only [runOf] at h1 h3
    omega
  unfold matrixOf
  simp only
  rw [fillMatrix_eq _ lines hpos]
  exact fillFrom_symmetrize t _ (lines.map runOf) (List.forall_mem_map.mpr hok)

end Midgard.Props.C14
