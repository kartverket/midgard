/-
C05 — from the normalised quantities of the Halley step to the model function: `tangentialOffset E p z` is `a` times the normalised
offset (`tangentialOffset_normalised`), so a bound of the normalised offset on a region of `(A, q)` bounds it
(`tangentialOffset_of_bound`); and the point at geodetic `(φ, h)` in those quantities (`geodetic_normalised`, `radicand_eq`), by which
a range of heights becomes a region of `(A, q)`.
-/
import Midgard.Proofs.GeoOffsetCore
import Midgard.Proofs.GeoAccuracy
namespace Midgard.Geo.Acc
open Midgard.Geo

theorem sqrt_one_sub_range {e2 : ℝ} (he0 : 0 ≤ e2) (he : e2 ≤ 0.0067) :
    Real.sqrt (1 - e2) ^ 2 = 1 - e2 ∧ 0.9966 ≤ Real.sqrt (1 - e2) ∧ Real.sqrt (1 - e2) ≤ 1 :=
  ⟨Real.sq_sqrt (by linarith only [he]), Real.le_sqrt_of_sq_le (by norm_num; linarith only [he]),
    Real.sqrt_le_one.2 (by linarith only [he0])⟩

/-- the model's Halley pair in the cofactor language: `halley E p z = (P·S·K1/2, P²·q·K2/2)` -/
theorem halley_normalised (E : Ellipsoid ℝ) (he1 : E.e2 ≤ 1) (p z : ℝ) :
    let q := Real.sqrt (1 - E.e2)
    let P := p / E.a
    let S := z / E.a
    let A := Real.sqrt (q * P * (q * P) + S * S)
    A * A = q * P * (q * P) + S * S ∧ E.e2 = 1 - q ^ 2 ∧
      (halley E p z).1 = P * S * K1 A P q / 2 ∧ (halley E p z).2 = P ^ 2 * q * K2 A P q / 2 := by
  intro q P S A
  have hq2 : q ^ 2 = 1 - E.e2 := Real.sq_sqrt (sub_nonneg.2 he1)
  have hE : E.e2 = 1 - q ^ 2 := by rw [hq2]; ring
  have hAA : A * A = q * P * (q * P) + S * S :=
    Real.mul_self_sqrt (add_nonneg (mul_self_nonneg _) (mul_self_nonneg _))
  obtain ⟨h1, h2⟩ := halley_as_cofactors q P S A E.e2 _ _ _ hAA hE rfl rfl rfl
  exact ⟨hAA, hE, h1, h2⟩

theorem tangentialOffset_normalised (E : Ellipsoid ℝ) (ha : 0 < E.a) (he1 : E.e2 ≤ 1) (p z q P S A s1 cc : ℝ)
    (hq : q = Real.sqrt (1 - E.e2)) (hP : P = p / E.a) (hS : S = z / E.a)
    (hA : A = Real.sqrt (q * P * (q * P) + S * S))
    (hs1 : s1 = P * S * K1 A P q / 2) (hcc : cc = P ^ 2 * q * K2 A P q / 2) :
    tangentialOffset E p z =
      E.a * ((S * cc - P * s1) / Real.sqrt (s1 * s1 + cc * cc)
        + (1 - q ^ 2) * s1 * cc / (Real.sqrt (s1 * s1 + cc * cc) * Real.sqrt (q ^ 2 * (s1 * s1) + cc * cc))) := by
  subst hP hS hA
  obtain ⟨-, hE, h1, h2⟩ := halley_normalised E he1 p z
  rw [← hq] at hE h1 h2
  have hq2 : q ^ 2 = 1 - E.e2 := by rw [hE]; ring
  have hz' : z = E.a * (z / E.a) := by field_simp
  have hp' : p = E.a * (p / E.a) := by field_simp
  show offsetAt E p z _ _ = _
  rw [h1, h2, ← hs1, ← hcc]
  simp only [offsetAt, trig_sqrt]
  rw [← hq2, hE]
  conv_lhs => rw [hz', hp']
  ring

/-- on the equatorial plane `s1 = 0` and the offset is `0`; elsewhere the bound of the region applies -/
theorem tangentialOffset_of_bound {box : ℝ → ℝ → Prop} {bound amax : ℝ} (h : OffsetBound box bound) (hb0 : 0 ≤ bound)
    (E : Ellipsoid ℝ) (ha : 0 < E.a) (ha' : E.a ≤ amax) (he0 : 0 ≤ E.e2) (he : E.e2 ≤ 0.0067) (p z : ℝ) (hp : 0 < p) (hz : 0 ≤ z)
    (hbox : box (Real.sqrt (Real.sqrt (1 - E.e2) * (p / E.a) * (Real.sqrt (1 - E.e2) * (p / E.a)) + z / E.a * (z / E.a)))
      (Real.sqrt (1 - E.e2))) :
    |tangentialOffset E p z| ≤ amax * bound := by
  obtain ⟨hq2, hqlo, hq1⟩ := sqrt_one_sub_range he0 he
  set q := Real.sqrt (1 - E.e2)
  set P := p / E.a
  set S := z / E.a
  set A := Real.sqrt (q * P * (q * P) + S * S)
  have hP0 : 0 < P := div_pos hp ha
  have hS0 : 0 ≤ S := div_nonneg hz ha.le
  have hrad : 0 < q * P * (q * P) + S * S := by
    have : 0 < q := lt_of_lt_of_le (by norm_num) hqlo
    positivity
  rw [tangentialOffset_normalised E ha (by linarith only [he]) p z q P S A _ _ rfl rfl rfl rfl rfl rfl, abs_mul,
    abs_of_pos ha]
  refine (mul_le_mul_of_nonneg_left ?_ ha.le).trans (mul_le_mul_of_nonneg_right ha' hb0)
  rcases hS0.eq_or_lt with hS00 | hSpos
  · rw [← hS00]
    simpa using hb0
  · exact h q P S A _ _ _ _ hqlo hq1 (by linarith only [hq2, he]) hP0 hSpos (Real.sqrt_pos.2 hrad)
      (Real.mul_self_sqrt hrad.le) hbox rfl rfl rfl rfl

/-- the radicand of `A` at the point of geodetic `(φ, h)`, with `n = N/a` (`n²(1 − e²s²) = 1`), `η = h/a`,
`P = (n + η)c`, `S = (n q² + η)s`:  `q²P² + S² = q² + 2η·q·k + η²·w` where `k = q·n ∈ (0, 1]`, `w = q²c² + s² ∈ [0, 1]` -/
theorem radicand_eq (q n η s c : ℝ) (hq0 : 0 < q) (hq1 : q ≤ 1) (hsc : s ^ 2 + c ^ 2 = 1)
    (hn0 : 0 < n) (hn : n ^ 2 * (1 - (1 - q ^ 2) * s ^ 2) = 1) :
    q * ((n + η) * c) * (q * ((n + η) * c)) + (n * q ^ 2 + η) * s * ((n * q ^ 2 + η) * s)
      = q ^ 2 + (2 * q * (η * (q * n)) + η ^ 2 * (q ^ 2 * c ^ 2 + s ^ 2)) ∧
    0 < q * n ∧ q * n ≤ 1 ∧ 0 ≤ q ^ 2 * c ^ 2 + s ^ 2 ∧ q ^ 2 * c ^ 2 + s ^ 2 ≤ 1 := by
  have hee := one_sub_sq_nonneg hq0.le hq1
  have hs2 : s ^ 2 ≤ 1 := by linarith only [hsc, sq_nonneg c]
  refine ⟨by linear_combination (q ^ 2) * hn + (q ^ 2 * n ^ 2 + 2 * n * η * q ^ 2) * hsc, by positivity, ?_, by positivity, ?_⟩
  · -- (q n)² = q²/(1 − e² s²) ≤ 1 since q² = 1 − e² ≤ 1 − e² s²
    have h1 : 0 ≤ n ^ 2 * ((1 - q ^ 2) * (1 - s ^ 2)) := by
      have : 0 ≤ 1 - s ^ 2 := sub_nonneg.2 hs2
      positivity
    have h2 : (q * n) ^ 2 ≤ 1 ^ 2 := by linarith only [h1, hn]
    exact (pow_le_pow_iff_left₀ (by positivity) zero_le_one two_ne_zero).1 h2
  · have := mul_nonneg hee (sq_nonneg c)
    linarith only [this, hsc]

/-- the point at geodetic `(φ, h)` (`s = sin φ`, `c = cos φ > 0`, `h ≥ −100 km`) in the normalised quantities: with
`q = √(1 − e²)`, `n = 1/√(1 − e²s²)` (`= N/a`), `η = h/a`:  `p/a = (n + η)·c`, `z/a = (n·q² + η)·s`, `n²·(1 − (1 − q²)s²) = 1` -/
theorem geodetic_normalised (E : Ellipsoid ℝ) (ha : 6371000 ≤ E.a) (he0 : 0 ≤ E.e2) (he : E.e2 ≤ 0.0067) (s c h : ℝ)
    (hsc : s ^ 2 + c ^ 2 = 1) (hc : 0 < c) (hs : 0 ≤ s) (hh : -100000 ≤ h) :
    0 < (E.a / Real.sqrt (1 - E.e2 * s ^ 2) + h) * c ∧ 0 ≤ (E.a / Real.sqrt (1 - E.e2 * s ^ 2) * (1 - E.e2) + h) * s ∧
    (E.a / Real.sqrt (1 - E.e2 * s ^ 2) + h) * c / E.a = (1 / Real.sqrt (1 - E.e2 * s ^ 2) + h / E.a) * c ∧
    (E.a / Real.sqrt (1 - E.e2 * s ^ 2) * (1 - E.e2) + h) * s / E.a
      = (1 / Real.sqrt (1 - E.e2 * s ^ 2) * Real.sqrt (1 - E.e2) ^ 2 + h / E.a) * s ∧
    0 < 1 / Real.sqrt (1 - E.e2 * s ^ 2) ∧
    (1 / Real.sqrt (1 - E.e2 * s ^ 2)) ^ 2 * (1 - (1 - Real.sqrt (1 - E.e2) ^ 2) * s ^ 2) = 1 := by
  have ha0 : 0 < E.a := lt_of_lt_of_le (by norm_num) ha
  have hs2 : s ^ 2 ≤ 1 := by linarith only [hsc, sq_nonneg c]
  have hes : E.e2 * s ^ 2 ≤ 0.0067 * 1 := mul_le_mul he hs2 (sq_nonneg s) (by norm_num)
  have hes0 : 0 ≤ E.e2 * s ^ 2 := mul_nonneg he0 (sq_nonneg s)
  have hrad : 0 < 1 - E.e2 * s ^ 2 := by linarith only [hes]
  set w := Real.sqrt (1 - E.e2 * s ^ 2) with hw
  have hw0 : 0 < w := Real.sqrt_pos.2 hrad
  have hw1 : w ≤ 1 := Real.sqrt_le_one.2 (by linarith only [hes0])
  have hww : w ^ 2 = 1 - E.e2 * s ^ 2 := Real.sq_sqrt hrad.le
  have hq2 := (sqrt_one_sub_range he0 he).1
  have hN : E.a ≤ E.a / w := (le_div_iff₀ hw0).2 (mul_le_of_le_one_right ha0.le hw1)
  refine ⟨mul_pos (by linarith only [hN, ha, hh]) hc, mul_nonneg ?_ hs, by field_simp, by rw [hq2]; field_simp, by positivity, ?_⟩
  · have h1 : E.a * (1 - 0.0067) ≤ E.a / w * (1 - E.e2) := mul_le_mul hN (by linarith only [he]) (by norm_num) (by positivity)
    linarith only [h1, ha, hh]
  · rw [hq2, show 1 - (1 - E.e2) = E.e2 by ring, ← hww]; field_simp

end Midgard.Geo.Acc
