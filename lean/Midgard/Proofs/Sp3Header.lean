/-
The header lines of a rendered SP3 file build the header dictionary: a header record behind its two label characters reads
back its cells under the names of the standard's table (`headerLine_rendered`), the first `%c` and `%f` lines win over their
continuation lines, `+`, `++`, `%i` and comment lines are ignored; `header_fold` is the fold over all of them
(`meta1` … `meta4` are its stages).  Core Lean only.
-/
import Midgard.Spec.Sp3File
import Midgard.Proofs.FixedCol
import Midgard.Proofs.NumText
import Midgard.Proofs.PrintableLines

namespace Midgard.Spec.Sp3File
open Midgard.Text Midgard.Decimal Midgard.FixedCol Midgard.Sp3 Midgard.Spec.NumText Midgard.Printable

/-- the header table of the standard (what `cols_eq_spec` says the parser's table is) -/
def specDefs : List HeaderDef :=
  [⟨"#c", Spec.Sp3.firstLine, .string⟩, ⟨"#d", Spec.Sp3.firstLine, .string⟩, ⟨"##", Spec.Sp3.secondLine, .string⟩,
   ⟨"%c", Spec.Sp3.percentC, .string⟩, ⟨"%f", Spec.Sp3.percentF, .float⟩]

theorem okCells_fits (al : Str → Align × Str) (hal : ∀ s, (al s).2 = s) (L : Layout) :
    ∀ (ss : List Str), okCells (L.map (·.width)) ss = true → Fits L (ss.map al) = true := by
  induction L with
  | nil => intro ss h; cases ss <;> simp_all [okCells]
  | cons f L ih =>
    intro ss h
    cases ss with
    | nil => simp [okCells] at h
    | cons s ss =>
      simp only [List.map_cons, okCells, okCell, Bool.and_eq_true, decide_eq_true_eq] at h
      have hcell : al s = ((al s).1, s) := Prod.ext rfl (hal s)
      rw [List.map_cons, hcell]
      exact fits_cons_iff.mpr ⟨h.1.2, h.1.1.2, ih ss h.2⟩

theorem okCells_okText : ∀ (ws : List Nat) (ss : List Str), okCells ws ss = true → ∀ s ∈ ss, okText s = true
  | [], [], _ => fun _ h => by simp at h
  | [], _ :: _, h => by simp [okCells] at h
  | _ :: _, [], h => by simp [okCells] at h
  | w :: ws, s :: ss, h => by
    simp only [okCells, okCell, Bool.and_eq_true] at h
    intro t ht
    rcases List.mem_cons.mp ht with e | e
    · exact e ▸ h.1.1.1
    · exact okCells_okText ws ss h.2 t e

theorem mset_new (m : Meta) (k : String) (v : MVal) (h : m.any (·.1 = k) = false) : mset m k v = m ++ [(k, v)] := by
  simp [mset, h]

theorem parseStringFields_new (names : List String) : ∀ (vals : List Str) (m : Meta),
    (∀ k ∈ names, m.any (·.1 = k) = false) → names.Nodup →
    (∀ kv ∈ names.zip vals, ¬ (kv.1 = "file_type" ∧ kv.2 = ['c', 'c'])) →
    parseStringFields m (names.zip vals) = m ++ (names.zip vals).map fun kv => (kv.1, MVal.str kv.2) := by
  induction names with
  | nil => intro vals m _ _ _; simp [parseStringFields]
  | cons k ns ih =>
    intro vals m hm hnd hft
    cases vals with
    | nil => simp [parseStringFields]
    | cons v vs =>
      have h1 : ¬ (k = "file_type" ∧ v = ['c', 'c']) := hft (k, v) (by simp)
      simp only [List.zip_cons_cons, parseStringFields, h1, if_false]
      rw [mset_new m k (.str v) (hm k (by simp))]
      have hnd' := List.nodup_cons.mp hnd
      have ih' := ih vs (m ++ [(k, MVal.str v)]) (by
        intro k' hk'
        have : k' ≠ k := fun e => hnd'.1 (e ▸ hk')
        simp only [List.any_append, hm k' (by simp [hk']), List.any_cons, List.any_nil, Bool.or_false, Bool.false_or,
          decide_eq_false_iff_not]
        exact fun e => this e.symm) hnd'.2 (fun kv hkv => hft kv (by simp [hkv]))
      rw [ih']
      simp

theorem find_label (lab : Str) (d : HeaderDef) (hd : specDefs.find? (fun d => d.label.toList = lab) = some d)
    (m : Meta) (line : Str) (hl : line.take 2 = lab) :
    headerLine specDefs m line = match d.kind with
      | .string => some (parseStringFields m (sliceAll d.fields line))
      | .float => parseFloatFields m (sliceAll d.fields line) := by
  unfold headerLine
  rw [hl, hd]
  rfl

theorem headerLine_rendered (lab : Str) (d : HeaderDef) (hd : specDefs.find? (fun d => d.label.toList = lab) = some d)
    (pos : Nat) (cells : List (Align × Str)) (pre post : Str) (hs : SortedFrom pos d.fields = true)
    (hf : Fits d.fields cells = true) (hpre : pre.length = pos) (hns : ∀ c ∈ lab, isSpace c = false) (hl2 : lab.length = 2)
    (line : Str) (hline : line = pre ++ renderFrom pos d.fields cells ++ post) (hlab : line.take 2 = lab) (m : Meta) :
    headerLine specDefs m (rstrip line) = match d.kind with
      | .string => some (parseStringFields m ((d.fields.map (·.name)).zip (cells.map (·.2))))
      | .float => parseFloatFields m ((d.fields.map (·.name)).zip (cells.map (·.2))) := by
  have hl := take_rstrip hns line
  rw [hl2] at hl
  rw [find_label lab d hd m _ (hl.mpr hlab), hline, sliceAll_labelled d.fields pos cells pre post hs hf hpre]

theorem headerLine_ignored (m : Meta) (line : Str)
    (h : (line.take 1 ≠ ['#'] ∧ line.take 1 ≠ ['%']) ∨ line.take 2 = ['%', 'i']) :
    headerLine specDefs m line = some m := by
  unfold headerLine
  have : specDefs.find? (fun d => d.label.toList = line.take 2) = Option.none := by
    rw [List.find?_eq_none]
    intro d hd
    simp only [specDefs, List.mem_cons, List.not_mem_nil, or_false] at hd
    rcases h with ⟨h1, h2⟩ | h
    · cases line with
      | nil => rcases hd with rfl | rfl | rfl | rfl | rfl <;> simp
      | cons c t =>
        have c1 : c ≠ '#' := fun e => h1 (by simp [e])
        have c2 : c ≠ '%' := fun e => h2 (by simp [e])
        cases t with
        | nil => rcases hd with rfl | rfl | rfl | rfl | rfl <;> simp
        | cons c' t' =>
          rcases hd with rfl | rfl | rfl | rfl | rfl <;>
            simp [Ne.symm c1, Ne.symm c2]
    · rw [h]
      rcases hd with rfl | rfl | rfl | rfl | rfl <;> decide
  rw [this]

theorem headerLine_other (m : Meta) (x : HdrKind × Str) : headerLine specDefs m (rstrip (hdrOther x)) = some m := by
  apply headerLine_ignored
  obtain ⟨k, t⟩ := x
  have h1 := take_rstrip (p := ['#']) (by decide) (hdrOther (k, t))
  have h2 := take_rstrip (p := ['%']) (by decide) (hdrOther (k, t))
  have h3 := take_rstrip (p := ['%', 'i']) (by decide) (hdrOther (k, t))
  cases k
  case pci => exact Or.inr (h3.mpr rfl)
  all_goals exact Or.inl ⟨fun e => by simpa [hdrOther, HdrKind.tag] using h1.mp e,
    fun e => by simpa [hdrOther, HdrKind.tag] using h2.mp e⟩

theorem headerLine_eof (m : Meta) : headerLine specDefs m (rstrip eofLine) = some m := by
  apply headerLine_ignored
  left
  have : rstrip eofLine = eofLine := by decide +kernel
  rw [this]; constructor <;> decide

theorem fold_ignored (ls : List Str) (h : ∀ l ∈ ls, ∀ m, headerLine specDefs m l = some m) (m : Meta) :
    ls.foldlM (headerLine specDefs) m = some m := by
  induction ls with
  | nil => rfl
  | cons l ls ih =>
    simp only [List.foldlM_cons, h l (by simp) m, Option.bind_eq_bind, Option.bind_some]
    exact ih (fun l' hl' => h l' (by simp [hl']))

theorem fold_ignored_append (ls rest : List Str) (h : ∀ l ∈ ls, ∀ m, headerLine specDefs m l = some m) (m : Meta) :
    (ls ++ rest).foldlM (headerLine specDefs) m = rest.foldlM (headerLine specDefs) m := by
  rw [List.foldlM_append, fold_ignored ls h m]
  rfl

theorem fold_step {l : Str} {m m' : Meta} (h : headerLine specDefs m l = some m') (rest : List Str) :
    (l :: rest).foldlM (headerLine specDefs) m = rest.foldlM (headerLine specDefs) m' := by
  rw [List.foldlM_cons, h]
  rfl

theorem any_zip_keys (g : Str → MVal) (names : List String) (k : String) (hk : k ∉ names) : ∀ (vals : List Str),
    ((names.zip vals).map fun kv => (kv.1, g kv.2)).any (·.1 = k) = false := by
  intro vals
  rw [List.any_eq_false]
  intro x hx
  simp only [List.mem_map] at hx
  obtain ⟨kv, hkv, rfl⟩ := hx
  have : kv.1 ∈ names := (List.of_mem_zip hkv).1
  simp only [decide_eq_true_eq]
  intro e
  exact hk (e ▸ this)

theorem mget_append_skip (m m' : Meta) (k : String) (h : m.any (·.1 = k) = false) : mget (m ++ m') k = mget m' k := by
  unfold mget
  rw [List.find?_append]
  have : m.find? (fun x => decide (x.1 = k)) = Option.none := by
    rw [List.find?_eq_none]
    rw [List.any_eq_false] at h
    exact h
  rw [this]; rfl

theorem mget_none (m : Meta) (k : String) (h : m.any (·.1 = k) = false) : mget m k = Option.none := by
  have := mget_append_skip m [] k h
  simpa [mget] using this

def mstr (kv : String × Str) : String × MVal := (kv.1, MVal.str kv.2)

def meta1 (h : Header) : Meta := (("version" :: line1Names).zip ([h.version] :: h.line1)).map mstr
def meta2 (h : Header) : Meta := meta1 h ++ (line2Names.zip h.line2).map mstr
def meta3 (h : Header) : Meta := meta2 h ++ [("file_type", .str h.fileType), ("time_sys", .str h.timeSys)]
def meta4 (h : Header) : Meta :=
  meta3 h ++ [("base_posvel", .num (basePosVal h)), ("base_clkrate", .num (baseClkVal h))]

theorem meta4_eq (h : Header) : meta4 h = expectedMeta h := by
  have hm : mstr = fun (kv : String × Str) => (kv.fst, MVal.str kv.snd) := rfl
  simp [meta4, meta3, meta2, meta1, expectedMeta, hm, List.append_assoc]

theorem meta1_fresh (h : Header) (k : String) (hk : k ∉ "version" :: line1Names) : (meta1 h).any (·.1 = k) = false :=
  any_zip_keys MVal.str _ k hk _

theorem meta2_fresh (h : Header) (k : String) (hk : k ∉ "version" :: line1Names) (hk2 : k ∉ line2Names) :
    (meta2 h).any (·.1 = k) = false := by
  unfold meta2
  rw [List.any_append, meta1_fresh h k hk]
  exact any_zip_keys MVal.str _ k hk2 _

theorem meta3_fresh (h : Header) (k : String) (hk : k ∉ "version" :: line1Names) (hk2 : k ∉ line2Names)
    (hk3 : k ≠ "file_type" ∧ k ≠ "time_sys") : (meta3 h).any (·.1 = k) = false := by
  unfold meta3
  rw [List.any_append, meta2_fresh h k hk hk2]
  simp [Ne.symm hk3.1, Ne.symm hk3.2]

theorem meta3_fresh_base (h : Header) :
    (meta3 h).any (·.1 = "base_posvel") = false ∧ (meta3 h).any (·.1 = "base_clkrate") = false :=
  ⟨meta3_fresh h _ (hk := by decide +kernel) (hk2 := by decide +kernel) (hk3 := by decide),
    meta3_fresh h _ (hk := by decide +kernel) (hk2 := by decide +kernel) (hk3 := by decide)⟩

/-- the widths in `okCells […]` (here and in `second_line`, as in `Header.wf`) are the field widths of `Spec.Sp3.firstLine.tail` and
`Spec.Sp3.secondLine`: `okCells_fits` takes them as `L.map (·.width)` -/
theorem first_line (h : Header) (hv : h.version = 'c' ∨ h.version = 'd')
    (hok : okCells [1, 4, 2, 2, 2, 2, 11, 7, 5, 5, 3, 4] h.line1 = true) :
    headerLine specDefs [] (rstrip ('#' :: renderFrom 1 Spec.Sp3.firstLine (Lft [h.version] :: h.line1.map R))) =
      some (meta1 h) := by
  have hvs : Clean [h.version] = true ∧ isSpace h.version = false := by rcases hv with e | e <;> rw [e] <;> decide
  have hfit : Fits Spec.Sp3.firstLine (Lft [h.version] :: h.line1.map R) = true := by
    have h2 := okCells_fits R (fun _ => rfl) Spec.Sp3.firstLine.tail h.line1 hok
    unfold Spec.Sp3.firstLine at h2 ⊢
    simp only [List.tail_cons] at h2
    simp [fits_cons_iff, Lft, h2, hvs.1, Field.width]
  obtain ⟨lab, hfind⟩ : ∃ lab, specDefs.find? (fun d => d.label.toList = ['#', h.version]) =
      some ⟨lab, Spec.Sp3.firstLine, .string⟩ := by
    rcases hv with e | e <;> rw [e]
    · exact ⟨"#c", by decide +kernel⟩
    · exact ⟨"#d", by decide +kernel⟩
  -- the label: `#`, then the version in the first column of the first field
  refine (headerLine_rendered _ _ hfind 1 (Lft [h.version] :: h.line1.map R) (pre := ['#']) (post := [])
    (hs := show SortedFrom 1 Spec.Sp3.firstLine = true by decide +kernel) (hf := hfit) (hpre := rfl)
    (hns := by simp [hvs.2]; decide) (hl2 := rfl) (hline := by simp)
    (hlab := by simp [Spec.Sp3.firstLine, renderFrom_cons, Lft, pad, ljust, Field.width]) (m := [])).trans ?_
  have hnames : Spec.Sp3.firstLine.map (·.name) = "version" :: line1Names := by decide +kernel
  have hvals : (Lft [h.version] :: h.line1.map R).map (·.2) = [h.version] :: h.line1 := by
    simp [Lft, R, List.map_map, Function.comp_def]
  simp only [hnames, hvals]
  rw [parseStringFields_new ("version" :: line1Names) ([h.version] :: h.line1) [] (by simp) (by decide +kernel)
    (fun kv hkv hh => by
      have hm : kv.1 ∈ "version" :: line1Names := (List.of_mem_zip hkv).1
      rw [hh.1] at hm
      revert hm; decide)]
  rfl

theorem second_line (h : Header) (hok : okCells [4, 15, 14, 5, 15] h.line2 = true) :
    headerLine specDefs (meta1 h) (rstrip ('#' :: '#' :: renderFrom 2 Spec.Sp3.secondLine (h.line2.map R))) =
      some (meta2 h) := by
  refine (headerLine_rendered ['#', '#'] ⟨"##", Spec.Sp3.secondLine, .string⟩ (hd := by decide +kernel) 2 (h.line2.map R)
    (pre := ['#', '#']) (post := []) (hs := by decide +kernel)
    (hf := okCells_fits R (fun _ => rfl) Spec.Sp3.secondLine h.line2 hok) (hpre := rfl) (hns := by decide) (hl2 := rfl)
    (hline := by simp) (hlab := rfl) (m := meta1 h)).trans ?_
  have hnames : Spec.Sp3.secondLine.map (·.name) = line2Names := by decide +kernel
  have hvals : (h.line2.map R).map (·.2) = h.line2 := by simp [R, List.map_map, Function.comp_def]
  simp only [hnames, hvals]
  rw [parseStringFields_new line2Names h.line2 (meta1 h)
    (fun k hk => meta1_fresh h k (by revert hk; revert k; decide +kernel)) (by decide +kernel)
    (fun kv hkv hh => by
      have hm : kv.1 ∈ line2Names := (List.of_mem_zip hkv).1
      rw [hh.1] at hm
      revert hm; decide)]
  rfl

theorem percent_c_line (h : Header) (hft : okCell 2 h.fileType = true) (hts : okCell 3 h.timeSys = true)
    (hcc : h.fileType ≠ ['c', 'c']) :
    headerLine specDefs (meta2 h)
      (rstrip ('%' :: 'c' :: (renderFrom 2 percentCFull [Lft h.fileType, Lft ['c', 'c'], Lft h.timeSys] ++ percentCTail))) =
      some (meta3 h) := by
  simp only [okCell, Bool.and_eq_true, decide_eq_true_eq] at hft hts
  have hfit : Fits percentCFull [Lft h.fileType, Lft ['c', 'c'], Lft h.timeSys] = true := by
    have hc : Clean ['c', 'c'] = true := by decide
    simp [fits_cons_iff, percentCFull, Lft, Field.width, hft.1.2, hft.2, hts.1.2, hts.2, hc]
  have hsl := sliceAll_labelled percentCFull 2 [Lft h.fileType, Lft ['c', 'c'], Lft h.timeSys] ['%', 'c'] percentCTail
    (by decide +kernel) hfit rfl
  rw [find_label _ ⟨"%c", Spec.Sp3.percentC, .string⟩ (by decide +kernel) _ _
    ((take_rstrip (p := ['%', 'c']) (by decide) _).mpr rfl)]
  -- the parser's `%c` table is the writer's without the `cc` column
  simp only [sliceAll, percentCFull, Lft, List.map_cons, List.map_nil, List.zip_cons_cons, List.zip_nil_right,
    List.cons.injEq, Prod.mk.injEq, true_and, and_true, List.cons_append, List.nil_append] at hsl
  have hsl2 : sliceAll Spec.Sp3.percentC (rstrip ('%' :: 'c' :: (renderFrom 2 percentCFull
      [Lft h.fileType, Lft ['c', 'c'], Lft h.timeSys] ++ percentCTail))) =
      ["file_type", "time_sys"].zip [h.fileType, h.timeSys] := by
    simp [sliceAll, Spec.Sp3.percentC, percentCFull, Lft, hsl.1, hsl.2.2]
  refine (congrArg (fun vs => some (parseStringFields (meta2 h) vs)) hsl2).trans ?_
  rw [parseStringFields_new ["file_type", "time_sys"] [h.fileType, h.timeSys] (meta2 h)
    (fun k hk => meta2_fresh h k (by revert hk; revert k; decide +kernel) (by revert hk; revert k; decide +kernel))
    (by decide +kernel)
    (fun kv hkv hh => by
      simp only [List.zip_cons_cons, List.zip_nil_right, List.mem_cons, List.not_mem_nil, or_false] at hkv
      rcases hkv with rfl | rfl
      · exact hcc hh.2
      · exact absurd hh.1 (by simp))]
  rfl

/-- the two continuation lines and the two fillers of the header, as far as the proofs look at them -/
theorem fillers :
    okText percentCTail = true ∧ okText percentFTail = true ∧ okText percentCCont = true ∧ okText percentFCont = true ∧
    percentCCont.take 5 = ['%', 'c', ' ', 'c', 'c'] ∧ percentFCont.take 2 = ['%', 'f'] := by
  unfold percentCTail percentFTail percentCCont percentFCont
  -- the kernel reads a string literal as `String.ofList [...]`; without this step it decodes the literal's bytes
  rw [String.toList_ofList, String.toList_ofList, String.toList_ofList, String.toList_ofList]
  decide +kernel

/-- the `%c` continuation line carries the file type `cc`, at which `_parse_string` stops -/
theorem percent_c_cont (m : Meta) : headerLine specDefs m (rstrip percentCCont) = some m := by
  obtain ⟨_, _, _, _, h5, _⟩ := fillers
  have hl : (rstrip percentCCont).take 2 = ['%', 'c'] := by
    refine (take_rstrip (p := ['%', 'c']) (by decide) _).mpr ?_
    have := congrArg (List.take 2) h5
    rwa [List.take_take] at this
  rw [find_label _ ⟨"%c", Spec.Sp3.percentC, .string⟩ (by decide +kernel) _ _ hl]
  have hft : FixedCol.slice ⟨"file_type", 3, 5⟩ (rstrip percentCCont) = ['c', 'c'] := by
    rw [slice_rstrip, ← List.take_append_drop 5 percentCCont, h5]
    exact congrArg strip (slice_cell (pre := ['%', 'c', ' ']) (cell := ['c', 'c']) rfl rfl)
  simp [Spec.Sp3.percentC, sliceAll, hft, parseStringFields]

theorem percent_f_line (h : Header) (hbp : h.basePos < 10 ^ 9) (hbc : h.baseClk < 10 ^ 11) :
    headerLine specDefs (meta3 h)
      (rstrip ('%' :: 'f' :: (renderFrom 2 Spec.Sp3.percentF [R (fmtDec 7 h.basePos), R (fmtDec 9 h.baseClk)] ++ percentFTail))) =
      some (meta4 h) := by
  have l1 : (fmtDec 7 (h.basePos : Int)).length ≤ 10 := by
    have := length_fmtDec_le 7 2 (h.basePos : Int) (by decide) (by simpa using hbp)
    have hn : ¬ ((h.basePos : Int) < 0) := by omega
    simp only [hn, if_false] at this
    omega
  have l2 : (fmtDec 9 (h.baseClk : Int)).length ≤ 12 := by
    have := length_fmtDec_le 9 2 (h.baseClk : Int) (by decide) (by simpa using hbc)
    have hn : ¬ ((h.baseClk : Int) < 0) := by omega
    simp only [hn, if_false] at this
    omega
  have hfit : Fits Spec.Sp3.percentF [R (fmtDec 7 h.basePos), R (fmtDec 9 h.baseClk)] = true := by
    simp [fits_cons_iff, Spec.Sp3.percentF, R, Field.width, l1, l2, clean_of_numChars (numChars_fmtDec _ _)]
  refine (headerLine_rendered ['%', 'f'] ⟨"%f", Spec.Sp3.percentF, .float⟩ (hd := by decide +kernel) 2
    [R (fmtDec 7 h.basePos), R (fmtDec 9 h.baseClk)] (pre := ['%', 'f']) (post := percentFTail) (hs := by decide +kernel)
    (hf := hfit) (hpre := rfl) (hns := by decide) (hl2 := rfl) (hline := by simp) (hlab := rfl) (m := meta3 h)).trans ?_
  have f1 := (meta3_fresh_base h).1
  have f2 : (meta3 h ++ [("base_posvel", MVal.num (decVal 7 h.basePos))]).any (·.1 = "base_clkrate") = false := by
    rw [List.any_append, (meta3_fresh_base h).2]
    simp
  have hne : ¬ ("base_clkrate" = "base_posvel") := by decide
  simp only [Spec.Sp3.percentF, R, List.map_cons, List.map_nil, List.zip_cons_cons, List.zip_nil_right,
    parseFloatFields, mget_none _ _ f1, Option.isSome_none, Bool.false_eq_true, false_and, if_false,
    parseFloat_fmtDec, mset_new _ _ _ f1, hne, and_false, mset_new _ _ _ f2]
  simp [meta4, basePosVal, baseClkVal]

/-- the `%f` continuation line is skipped at its first field: the base is already known -/
theorem percent_f_cont (h : Header) : headerLine specDefs (meta4 h) (rstrip percentFCont) = some (meta4 h) := by
  obtain ⟨_, _, _, _, _, hf2⟩ := fillers
  have hl : (rstrip percentFCont).take 2 = ['%', 'f'] := (take_rstrip (p := ['%', 'f']) (by decide) _).mpr hf2
  rw [find_label _ ⟨"%f", Spec.Sp3.percentF, .float⟩ (by decide +kernel) _ _ hl]
  have f1 := (meta3_fresh_base h).1
  have hg : (mget (meta4 h) "base_posvel").isSome = true := by
    unfold meta4
    rw [mget_append_skip _ _ _ f1]
    rfl
  simp [Spec.Sp3.percentF, sliceAll, parseFloatFields, hg]

/-- what `_parse_position` needs from the header -/
theorem meta4_lookup (h : Header) :
    mget (meta4 h) "version" = some (.str [h.version]) ∧
    mget (meta4 h) "base_posvel" = some (.num (basePosVal h)) ∧
    mget (meta4 h) "base_clkrate" = some (.num (baseClkVal h)) := by
  obtain ⟨f1, f2⟩ := meta3_fresh_base h
  refine ⟨?_, ?_, ?_⟩
  · simp [meta4, meta3, meta2, meta1, mget, mstr]
  · unfold meta4; rw [mget_append_skip _ _ _ f1]; rfl
  · unfold meta4; rw [mget_append_skip _ _ _ f2]; rfl

theorem header_fold (h : Header) (hwf : h.wf = true) (extra : List Str)
    (hextra : ∀ l ∈ extra, ∀ m, headerLine specDefs m l = some m) :
    ((headerLines h).map rstrip ++ extra).foldlM (headerLine specDefs) [] = some (expectedMeta h) := by
  simp only [Header.wf, Bool.and_eq_true, Bool.or_eq_true, beq_iff_eq, bne_iff_ne, decide_eq_true_eq] at hwf
  obtain ⟨⟨⟨⟨⟨⟨⟨⟨⟨hv, h1⟩, h2⟩, _⟩, _⟩, hft⟩, hcc⟩, hts⟩, hbp⟩, hbc⟩ := hwf
  have ign : ∀ (xs : List (HdrKind × Str)), ∀ l ∈ (xs.map hdrOther).map rstrip, ∀ m,
      headerLine specDefs m l = some m := by
    intro xs l hl m
    simp only [List.map_map, List.mem_map, Function.comp] at hl
    obtain ⟨x, _, rfl⟩ := hl
    exact headerLine_other m x
  rw [← meta4_eq]
  simp only [headerLines, List.map_append, List.map_cons, List.append_assoc, List.cons_append, List.nil_append]
  refine (fold_step (first_line h hv h1) _).trans ?_
  refine (fold_step (second_line h h2) _).trans ?_
  refine (fold_ignored_append _ _ (ign _) _).trans ?_
  refine (fold_step (percent_c_line h hft hts hcc) _).trans ?_
  refine (fold_step (percent_c_cont _) _).trans ?_
  refine (fold_step (percent_f_line h hbp hbc) _).trans ?_
  refine (fold_step (percent_f_cont h) _).trans ?_
  refine (fold_ignored_append _ _ (ign _) _).trans ?_
  exact fold_ignored _ hextra _

end Midgard.Spec.Sp3File
