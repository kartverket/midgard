/-
A rendered navigation file is read record by record: the records are split off where the parsers split them (RINEX 3: before
every line that starts with a letter; RINEX 2: every eight lines), the header ends at `END OF HEADER` whatever fills the
columns before the first label (`splitHeader_rendered`), every rendered line is printable, so the text splits into its lines
and contains no carriage return, and the first token of the first line is the version the dispatcher reads.  Core Lean only.
-/
import Midgard.Model.RinexNavDispatch
import Midgard.Proofs.RecordGroups
import Midgard.Proofs.Split
import Midgard.Proofs.RinexNavRecord

namespace Midgard.Spec.RinexNavFile
open Midgard.Text Midgard.Decimal Midgard.FixedCol Midgard.RinexNav Midgard.Spec.NumText Midgard.Generated.RinexNav
open Midgard.Spec.Sp3File (joinLines okText)
open Midgard.Printable

/-- the line starts a record: its first character is a letter -/
def AlphaHead (l : Str) : Prop := (l.head?.map isAlpha).getD false = true

theorem splitV3_groupsBefore : GroupsBefore AlphaHead splitV3Aux :=
  ⟨rfl, fun _ _ => rfl, fun _ _ _ _ h => if_pos h, fun _ _ _ _ h => if_neg h⟩

theorem splitV3_groups (gs : List (List Str))
    (h : ∀ g ∈ gs, ∃ s body, g = s :: body ∧ AlphaHead s ∧ ∀ x ∈ body, ¬ AlphaHead x) :
    splitV3 gs.flatten = gs := by
  cases gs with
  | nil => rfl
  | cons g gs =>
    obtain ⟨s, body, rfl, _, hbody⟩ := h g (by simp)
    have := splitV3_groupsBefore.groups gs [] (by simp) (fun b hb => h b (by simp [hb])) s body hbody
    rw [List.append_nil, attachLast_nil] at this
    exact this

theorem head_rstrip_blank (t : Str) : ¬ AlphaHead (rstrip (' ' :: t)) := by
  obtain ⟨ws, hs, _⟩ := rstrip_decomp (' ' :: t)
  unfold AlphaHead
  cases hr : rstrip (' ' :: t) with
  | nil => simp
  | cons c r =>
    rw [hr] at hs
    have : c = ' ' := by
      simp only [List.cons_append, List.cons.injEq] at hs
      exact hs.1.symm
    subst this
    simp [isAlpha]

theorem rowLine_not_alpha (lead : Nat) (hl : 0 < lead) (cells : List Num19) (cut : Bool) :
    ¬ AlphaHead (rowLine lead cells cut) := by
  unfold rowLine cutIf
  obtain ⟨k, rfl⟩ : ∃ k, lead = k + 1 := ⟨lead - 1, by omega⟩
  have : blanks (k + 1) ++ (cells.map cell19).flatten = ' ' :: (blanks k ++ (cells.map cell19).flatten) := by
    rw [blanks_succ, List.cons_append]
  rw [this]
  split
  · exact head_rstrip_blank _
  · simp [AlphaHead, isAlpha]

theorem alphaHead_epochLine3 {sys : Char} {prnText : Str} {y mo d h mi s : Nat} {c1 c2 c3 : Num19}
    (hs : isAlpha sys = true) : AlphaHead (epochLine3 sys prnText y mo d h mi s c1 c2 c3) := by
  unfold AlphaHead epochLine3
  simp [hs]

theorem item_group (it : Item) (hwf : it.wf = true) :
    ∃ s body, itemLines3 it = s :: body ∧ AlphaHead s ∧ ∀ x ∈ body, ¬ AlphaHead x := by
  cases it with
  | nav r =>
    refine ⟨_, _, rfl, ?_, ?_⟩
    · exact alphaHead_epochLine3 (supportedSys_facts (navRec_head_wf r hwf).1).1
    · intro x hx
      simp only [List.mem_cons, List.not_mem_nil, or_false] at hx
      rcases hx with rfl | rfl | rfl | rfl | rfl | rfl | rfl <;> exact rowLine_not_alpha 4 (by decide) _ _
  | skip s =>
    refine ⟨_, _, rfl, ?_, ?_⟩
    · exact alphaHead_epochLine3 (skipSys_facts (skipRec_wf_fields s hwf).1).1
    · intro x hx
      simp only [List.mem_map] at hx
      obtain ⟨row, _, rfl⟩ := hx
      exact rowLine_not_alpha 4 (by decide) _ _

theorem supported_fold (items : List Item) (hwf : ∀ it ∈ items, it.wf = true) : ∀ (st : St),
    (items.map itemLines3).foldlM (addRecord v3 Option.none) st =
      some ⟨(supported items).foldl (fun d r => pushRow d (kvOf r)) st.data, st.epochs ++ (supported items).map epochOf⟩ := by
  induction items with
  | nil => intro st; simp [supported]
  | cons it rest ih =>
    intro st
    have ih' := ih (fun x hx => hwf x (by simp [hx]))
    have hit := hwf it (by simp)
    cases it with
    | nav r =>
      simp only [List.map_cons, List.foldlM_cons, itemLines3, addRecord_nav3 st r hit, Option.bind_eq_bind,
        Option.bind_some, supported, List.foldl_cons, List.map_cons]
      rw [ih']
      simp
    | skip s =>
      simp only [List.map_cons, List.foldlM_cons, itemLines3, addRecord_skip3 st s hit, Option.bind_eq_bind,
        Option.bind_some, supported]
      exact ih' st

theorem okText_rowLine (lead : Nat) (cells : List Num19) (cut : Bool) (h : ∀ n ∈ cells, n.wf = true) :
    okText (rowLine lead cells cut) = true := by
  have hl : okText (blanks lead ++ (cells.map cell19).flatten) = true := by
    rw [okText_append, okText_blanks, Bool.true_and, okText, List.all_eq_true]
    intro c hc
    obtain ⟨s, hs, hcs⟩ := List.mem_flatten.mp hc
    obtain ⟨n, hn, rfl⟩ := List.mem_map.mp hs
    exact List.all_eq_true.mp (okText_rjust 19 (okText_num19 n (h n hn))) c hcs
  unfold rowLine cutIf
  split
  · exact okText_rstrip hl
  · exact hl

theorem okText_epochLine3 {sys : Char} {prnText : Str} {y mo d h mi s : Nat} {c1 c2 c3 : Num19}
    (hsys : okText [sys] = true) (hp : okText prnText = true) (h1 : c1.wf = true) (h2 : c2.wf = true) (h3 : c3.wf = true) :
    okText (epochLine3 sys prnText y mo d h mi s c1 c2 c3) = true := by
  have sp : ∀ {t : Str}, okText t = true → okText (' ' :: t) = true := okText_cons rfl
  have hc := fun (n : Num19) (hn : n.wf = true) => okText_rjust 19 (okText_num19 n hn)
  simp only [epochLine3, i22, cell19, okText_append, okText_cons hsys (okText_rjust 2 hp), sp (okText_fixedDigits _ _),
    hc _ h1, hc _ h2, hc _ h3]
  rfl

theorem navLines3_eq (r : NavRec) : navLines3 r =
    epochLine3 r.sys r.prnText r.year r.month r.day r.hour r.minute r.second r.c1 r.c2 r.c3 ::
      (navRows r).map (OrbitRow.line 4) := rfl

theorem navLines2_eq (r : NavRec) : navLines2 r =
    epochLine2 r.prn (r.year % 100) r.month r.day r.hour r.minute r.second r.c1 r.c2 r.c3 ::
      (navRows r).map (OrbitRow.line 3) := rfl

theorem okText_orbitLines (r : NavRec) (hwf : r.wf = true) (lead : Nat) :
    ∀ l ∈ (navRows r).map (OrbitRow.line lead), okText l = true := by
  intro l hl
  obtain ⟨row, hrow, rfl⟩ := List.mem_map.mp hl
  exact okText_rowLine _ _ _ (navRows_wf r hwf row hrow)

theorem okText_itemLines3 (it : Item) (hwf : it.wf = true) : ∀ l ∈ itemLines3 it, okText l = true := by
  cases it with
  | nav r =>
    obtain ⟨hsys, _, _, _, _, _, _, _, h1, h2, h3⟩ := navRec_head_wf r hwf
    have hs := (supportedSys_facts hsys).2.1
    have hpn : okText r.prnText = true := by
      unfold NavRec.prnText
      split
      · exact okText_fixedDigits _ _
      · exact okText_natDigits _
    intro l hl
    rw [itemLines3, navLines3_eq] at hl
    rcases List.mem_cons.mp hl with rfl | hl
    · exact okText_epochLine3 hs hpn h1 h2 h3
    · exact okText_orbitLines r hwf 4 l hl
  | skip s =>
    obtain ⟨hsys, h1, h2, h3, hrows⟩ := skipRec_wf_fields s hwf
    have hs := (skipSys_facts hsys).2.1
    intro l hl
    simp only [itemLines3, skipLines3, List.mem_cons, List.mem_map] at hl
    rcases hl with rfl | ⟨row, hrow, rfl⟩
    · exact okText_epochLine3 hs (okText_fixedDigits _ _) h1 h2 h3
    · exact okText_rowLine _ _ _ (hrows row hrow)

/-- columns 61–73 of a header line, where `splitHeader` looks for `END OF HEADER`, are the first 13 characters of its label -/
theorem endSlice_labelled (pre label : Str) (hc : pre.length = 60) (hl : Clean label = true) (hne : label ≠ []) :
    Text.slice 60 73 (rstrip (pre ++ label)) = label.take 13 := by
  rw [rstrip_append_of_clean hl hne, slice_append_right (by omega)]
  simp [hc, Text.slice]

theorem splitHeader_eq (hdr body : List Str) (e : Str) (hh : ∀ l ∈ hdr, Text.slice 60 73 (rstrip l) ≠ endLabel)
    (he : Text.slice 60 73 (rstrip e) = endLabel) :
    splitHeader (hdr ++ e :: body) = (hdr ++ [e], body) := by
  unfold splitHeader
  -- `endLabel` unfolds to the text `splitHeader` compares with
  have hp : ∀ l ∈ hdr, (!decide (Text.slice 60 73 (rstrip l) = "END OF HEADER".toList)) = true := fun l hl => by
    have h1 : ¬ Text.slice 60 73 (rstrip l) = "END OF HEADER".toList := hh l hl
    rw [decide_eq_false h1]
    rfl
  have hpe : (!decide (Text.slice 60 73 (rstrip e) = "END OF HEADER".toList)) = false := by
    have h1 : Text.slice 60 73 (rstrip e) = "END OF HEADER".toList := he
    rw [decide_eq_true h1]
    rfl
  simp only [takeWhile_append_stop _ hdr e body hp hpe]
  simp

def firstPre (f : NavFile) : Str := ljust 20 f.version ++ ljust 20 f.ftype ++ f.satSys :: ljust 19 f.sysText

/-- a header as the writers print it: the version line with `pre` in its 60 content columns, further lines, `END OF HEADER` -/
def hdrLines (pre : Str) (hl : List HLine) : List Str :=
  (pre ++ versionLabel) :: hl.map hline ++ [blanks 60 ++ endLabel]

theorem headerLines_eq (f : NavFile) : headerLines f = hdrLines (firstPre f) f.hlines := by
  simp [headerLines, hdrLines, firstPre, List.append_assoc]

theorem length_firstPre (f : NavFile) (h1 : f.version.length ≤ 20) (h2 : f.ftype.length ≤ 20) (h3 : f.sysText.length ≤ 19) :
    (firstPre f).length = 60 := by
  simp [firstPre, length_ljust h1, length_ljust h2, length_ljust h3]

theorem versionLabel_clean : Clean versionLabel = true ∧ versionLabel ≠ [] ∧ versionLabel.take 13 ≠ endLabel := by
  decide +kernel

theorem endLabel_clean : Clean endLabel = true ∧ endLabel ≠ [] ∧ endLabel.take 13 = endLabel := by
  decide +kernel

theorem hLine_wf_fields (h : HLine) (hwf : h.wf = true) :
    okText h.content = true ∧ h.content.length ≤ 60 ∧ okText h.label = true ∧ Clean h.label = true ∧ h.label ≠ [] ∧
    h.label.take 13 ≠ endLabel ∧ h.label ≠ versionLabel := by
  simp only [HLine.wf, Bool.and_eq_true, decide_eq_true_eq, Bool.not_eq_eq_eq_not, Bool.not_true, bne_iff_ne,
    List.isEmpty_eq_false_iff] at hwf
  obtain ⟨⟨⟨⟨⟨⟨a1, a2⟩, a3⟩, a4⟩, a5⟩, a6⟩, a7⟩ := hwf
  exact ⟨a1, a2, a3, a4, a5, a6, a7⟩

theorem navFile_wf_fields (f : NavFile) (h : f.wf = true) :
    okText f.version = true ∧ f.version.length ≤ 20 ∧ okText f.ftype = true ∧ f.ftype.length ≤ 20 ∧
    okText [f.satSys] = true ∧ f.satSys ≠ ' ' ∧ okText f.sysText = true ∧ f.sysText.length ≤ 19 ∧
    (∀ l ∈ f.hlines, l.wf = true) ∧ ∀ it ∈ f.items, it.wf = true := by
  simp only [NavFile.wf, Bool.and_eq_true, decide_eq_true_eq, bne_iff_ne, List.all_eq_true] at h
  obtain ⟨⟨⟨⟨⟨⟨⟨⟨⟨a1, a2⟩, a3⟩, a4⟩, a5⟩, a6⟩, a7⟩, a8⟩, a9⟩, a10⟩ := h
  exact ⟨a1, a2, a3, a4, a5, a6, a7, a8, a9, a10⟩

theorem label_of_line (pre lab : Str) (hl : pre.length = 60) (hc : Clean lab = true) (hne : lab ≠ []) :
    strip ((rstrip (pre ++ lab)).drop 60) = lab := by
  rw [rstrip_append_of_clean hc hne, List.drop_append_of_le_length (by omega)]
  have : List.drop 60 pre = [] := List.drop_eq_nil_of_le (by omega)
  rw [this, List.nil_append]
  exact strip_of_clean hc

/-- the last `RINEX VERSION / TYPE` line of the header counts; a well-formed header has one, its first line -/
theorem satSys_header (f : NavFile) (hwf : f.wf = true) :
    satSys ((firstPre f ++ versionLabel) :: (f.hlines.map hline ++ [blanks 60 ++ endLabel])) = [f.satSys] := by
  obtain ⟨_, h1, _, h2, hs, hsp, _, h3, hh, _⟩ := navFile_wf_fields f hwf
  have hlen := length_firstPre f h1 h2 h3
  have hrest : ∀ l ∈ (f.hlines.map hline ++ [blanks 60 ++ endLabel]).reverse,
      ¬ (decide (strip ((rstrip l).drop 60) = "RINEX VERSION / TYPE".toList)) = true := by
    intro l hl
    simp only [List.mem_reverse, List.mem_append, List.mem_map, List.mem_singleton] at hl
    rcases hl with ⟨h, hmem, rfl⟩ | rfl
    · obtain ⟨_, hc, _, hcl, hne, _, hnv⟩ := hLine_wf_fields h (hh h hmem)
      unfold hline
      rw [label_of_line _ _ (length_ljust hc) hcl hne]
      intro hd
      exact hnv (of_decide_eq_true hd)
    · rw [label_of_line _ _ (length_blanks 60) endLabel_clean.1 endLabel_clean.2.1]
      decide +kernel
  have hthis : decide (strip ((rstrip (firstPre f ++ versionLabel)).drop 60) = "RINEX VERSION / TYPE".toList) = true := by
    rw [label_of_line _ _ hlen versionLabel_clean.1 versionLabel_clean.2.1]
    decide +kernel
  unfold satSys
  rw [List.reverse_cons, List.find?_append, List.find?_eq_none.mpr hrest]
  simp only [Option.none_or, List.find?_cons, hthis]
  -- the cell in column 41 of the first line
  have hnsp : isSpace f.satSys = false := isSpace_of_okText hs hsp
  have hcell : Text.slice 40 41 (firstPre f ++ versionLabel) = [f.satSys] := by
    have e : firstPre f ++ versionLabel =
        (ljust 20 f.version ++ ljust 20 f.ftype) ++ [f.satSys] ++ (ljust 19 f.sysText ++ versionLabel) := by
      simp [firstPre, List.append_assoc]
    rw [e]
    exact slice_cell (by simp [length_ljust h1, length_ljust h2]) rfl
  rw [rstrip_append_of_clean versionLabel_clean.1 versionLabel_clean.2.1, hcell]
  exact strip_of_no_space (fun c hc => by simp at hc; rw [hc]; exact hnsp)

theorem okText_hline (h : HLine) (hwf : h.wf = true) : okText (hline h) = true := by
  obtain ⟨h1, _, h3, _⟩ := hLine_wf_fields h hwf
  rw [hline, okText_append, okText_ljust _ h1, h3]
  rfl

theorem labels_ok : okText versionLabel = true ∧ okText (blanks 60 ++ endLabel) = true := by
  unfold versionLabel endLabel
  rw [String.toList_ofList, String.toList_ofList]
  decide +kernel

theorem okText_hdrLines (pre : Str) (hl : List HLine) (hp : okText pre = true) (hh : ∀ h ∈ hl, h.wf = true) :
    ∀ l ∈ hdrLines pre hl, okText l = true := by
  intro l hmem
  simp only [hdrLines, List.cons_append, List.mem_cons, List.mem_append, List.mem_map, List.not_mem_nil, or_false] at hmem
  rcases hmem with rfl | ⟨h, hh', rfl⟩ | rfl
  · rw [okText_append, hp, labels_ok.1]
    rfl
  · exact okText_hline h (hh h hh')
  · exact labels_ok.2

theorem textLines_joinLines (ls : List Str) (h : ∀ l ∈ ls, okText l = true) : textLines (joinLines ls) = ls :=
  joinLines_eq ▸ dropEmptyLast_joinNl ls fun l hl c hc => (okText_no_break (h l hl) c hc).1

theorem splitHeader_rendered (pre : Str) (hl : List HLine) (body : List Str) (hlen : pre.length = 60)
    (hh : ∀ h ∈ hl, h.wf = true) (hok : ∀ l ∈ hdrLines pre hl ++ body, okText l = true) :
    splitHeader (textLines (joinLines (hdrLines pre hl ++ body))) = (hdrLines pre hl, body) := by
  rw [textLines_joinLines _ hok, hdrLines, List.append_assoc]
  refine splitHeader_eq _ _ _ (fun l hmem => ?_) ?_
  · rcases List.mem_cons.mp hmem with rfl | hmem
    · rw [endSlice_labelled _ _ hlen versionLabel_clean.1 versionLabel_clean.2.1]
      exact versionLabel_clean.2.2
    · obtain ⟨h, hh', rfl⟩ := List.mem_map.mp hmem
      obtain ⟨_, hc, _, hcl, hne, hnot, _⟩ := hLine_wf_fields h (hh h hh')
      rw [hline, endSlice_labelled _ _ (length_ljust hc) hcl hne]
      exact hnot
  · rw [endSlice_labelled _ _ (length_blanks 60) endLabel_clean.1 endLabel_clean.2.1]
    exact endLabel_clean.2.2

theorem splitV2_groups (gs : List (List Str)) (h : ∀ g ∈ gs, g.length = 8) : ∀ fuel, gs.length ≤ fuel →
    splitV2 fuel gs.flatten = gs := by
  induction gs with
  | nil => intro fuel _; cases fuel <;> simp [splitV2]
  | cons g gs ih =>
    intro fuel hf
    cases fuel with
    | zero => simp at hf
    | succ fuel =>
      have hg : g.length = 8 := h g (by simp)
      have hne : (g ++ gs.flatten).isEmpty = false := by
        cases g with
        | nil => simp at hg
        | cons _ _ => rfl
      simp only [List.flatten_cons, splitV2, hne, Bool.false_eq_true, if_false]
      rw [List.take_append_of_le_length (by omega), List.drop_append_of_le_length (by omega)]
      simp only [← hg, List.take_length, List.drop_length, List.nil_append]
      rw [ih (fun g' hg' => h g' (by simp [hg'])) fuel (by simpa using hf)]

theorem nav_fold2 (T : Tables) (hT : T.lines = ⟨1, epochLayout2⟩ :: orbitLines 3) (rs : List NavRec)
    (hwf : ∀ r ∈ rs, r.wf = true ∧ r.sys = 'G' ∧ 1980 ≤ r.year ∧ r.year < 2080) : ∀ (st : St),
    (rs.map navLines2).foldlM (addRecord T (some ['G'])) st =
      some ⟨rs.foldl (fun d r => pushRow d (kvOf r)) st.data, st.epochs ++ rs.map epochOf⟩ := by
  induction rs with
  | nil => intro st; simp
  | cons r rest ih =>
    intro st
    obtain ⟨h1, h2, h3, h4⟩ := hwf r (by simp)
    simp only [List.map_cons, List.foldlM_cons, addRecord_nav2 T hT st r h1 h2 h3 h4, Option.bind_eq_bind,
      Option.bind_some, List.foldl_cons]
    rw [ih (fun x hx => hwf x (by simp [hx]))]
    simp

def firstPre2 (f : NavFile) : Str := ljust 20 f.version ++ ljust 40 f.ftype

theorem okText_navLines2 (r : NavRec) (hwf : r.wf = true) : ∀ l ∈ navLines2 r, okText l = true := by
  obtain ⟨_, _, _, _, _, _, _, _, h1, h2, h3⟩ := navRec_head_wf r hwf
  have sp : ∀ {t : Str}, okText t = true → okText (' ' :: t) = true := okText_cons rfl
  have nd := fun (w n : Nat) => okText_rjust w (okText_natDigits n)
  have hc := fun (n : Num19) (hn : n.wf = true) => okText_rjust 19 (okText_num19 n hn)
  intro l hl
  rw [navLines2_eq] at hl
  rcases List.mem_cons.mp hl with rfl | hl
  · simp only [epochLine2, i22, cell19, okText_append, nd, sp (nd _ _), sp (okText_fixedDigits _ _),
      okText_rjust 5 (okText_fmtDec _ _), hc _ h1, hc _ h2, hc _ h3]
    rfl
  · exact okText_orbitLines r hwf 3 l hl

theorem length_flatten_ge (gs : List (List Str)) (h : ∀ g ∈ gs, g.length = 8) : gs.length ≤ gs.flatten.length := by
  induction gs with
  | nil => simp
  | cons g gs ih =>
    have := ih (fun g' hg' => h g' (by simp [hg']))
    have hg := h g (by simp)
    simp only [List.flatten_cons, List.length_append, List.length_cons]
    omega

theorem mem_supported (r : NavRec) (items : List Item) : r ∈ supported items ↔ Item.nav r ∈ items := by
  induction items with
  | nil => simp [supported]
  | cons x xs ih => cases x <;> simp [supported, ih]

theorem wf_of_wf2 (f : NavFile) (hwf : f.wf2 = true) : f.wf = true := by
  simp only [NavFile.wf2, Bool.and_eq_true] at hwf
  exact hwf.1

theorem wf2_supported (f : NavFile) (hwf : f.wf2 = true) :
    ∀ r ∈ supported f.items, r.wf = true ∧ r.sys = 'G' ∧ 1980 ≤ r.year ∧ r.year < 2080 := by
  simp only [NavFile.wf2, NavFile.wf, Bool.and_eq_true, List.all_eq_true] at hwf
  intro r hr
  rw [mem_supported] at hr
  have h2 := hwf.2 _ hr
  simp only [Bool.and_eq_true, beq_iff_eq, decide_eq_true_eq] at h2
  exact ⟨hwf.1.2 _ hr, h2.1.1, h2.1.2, h2.2⟩

theorem okText_fileLines3 (f : NavFile) (hwf : f.wf = true) : ∀ l ∈ fileLines3 f, okText l = true := by
  obtain ⟨hv, _, ht, _, hs, _, hst, _, hh, hitems⟩ := navFile_wf_fields f hwf
  have hpre : okText (firstPre f) = true := by
    rw [firstPre, okText_append, okText_append, okText_ljust _ hv, okText_ljust _ ht, okText_cons hs (okText_ljust _ hst)]
    rfl
  intro l hl
  simp only [fileLines3, List.mem_append, List.mem_flatten, List.mem_map] at hl
  rcases hl with hl | ⟨g, ⟨it, hit, rfl⟩, hl⟩
  · exact okText_hdrLines _ _ hpre hh l (headerLines_eq f ▸ hl)
  · exact okText_itemLines3 it (hitems it hit) l hl

theorem okText_fileLines2 (f : NavFile) (hwf : f.wf2 = true) : ∀ l ∈ fileLines2 f, okText l = true := by
  obtain ⟨hv, _, ht, _, _, _, _, _, hh, _⟩ := navFile_wf_fields f (wf_of_wf2 f hwf)
  have hpre : okText (firstPre2 f) = true := by
    rw [firstPre2, okText_append, okText_ljust _ hv, okText_ljust _ ht]
    rfl
  have hsup := wf2_supported f hwf
  intro l hl
  simp only [fileLines2, List.mem_append, List.mem_flatten, List.mem_map] at hl
  rcases hl with hl | ⟨g, ⟨r, hr, rfl⟩, hl⟩
  · exact okText_hdrLines _ _ hpre hh l hl
  · exact okText_navLines2 r (hsup r hr).1 l hl

theorem accumV2_render2 (T : Tables) (hlines : T.lines = ⟨1, epochLayout2⟩ :: orbitLines 3) (f : NavFile)
    (hwf : f.wf2 = true) : accumV2 T "G" (render2 f) = some (expectedState f.items) := by
  obtain ⟨_, h1, _, h2, _, _, _, _, hh, _⟩ := navFile_wf_fields f (wf_of_wf2 f hwf)
  have hlen : (firstPre2 f).length = 60 := by
    simp [firstPre2, length_ljust h1, length_ljust (by omega : f.ftype.length ≤ 40)]
  have h8 : ∀ g ∈ (supported f.items).map navLines2, g.length = 8 := by
    intro g hg
    obtain ⟨r, _, rfl⟩ := List.mem_map.mp hg
    rfl
  unfold accumV2 render2
  rw [show fileLines2 f = hdrLines (firstPre2 f) f.hlines ++ ((supported f.items).map navLines2).flatten from rfl,
    splitHeader_rendered (firstPre2 f) f.hlines _ hlen hh (okText_fileLines2 f hwf)]
  simp only
  rw [splitV2_groups _ h8 _ (length_flatten_ge _ h8)]
  have hG : ("G" : String).toList = ['G'] := by decide
  rw [hG, nav_fold2 T hlines (supported f.items) (wf2_supported f hwf)]
  rfl

/-! ### no carriage return in a rendered file: the text-mode entry point (`parseNavText`, universal newlines first) sees the text itself -/

theorem render3_noCR (f : NavFile) (hwf : f.wf = true) : ∀ c ∈ render3 f, c ≠ '\r' :=
  joinLines_noCR _ (okText_fileLines3 f hwf)

theorem render2_noCR (f : NavFile) (hwf : f.wf2 = true) : ∀ c ∈ render2 f, c ≠ '\r' :=
  joinLines_noCR _ (okText_fileLines2 f hwf)

/-! ### the dispatcher `rinex_nav`: the first whitespace-separated piece of the first line of a rendered file is the version token -/

theorem rinexVersion_first (l : Str) (ls : List Str) (hnl : ∀ x ∈ l :: ls, okText x = true) (k : Nat) (v rest : Str)
    (hl : l = blanks k ++ v ++ ' ' :: rest) (hv : Token v = true) :
    rinexVersion (joinLines (l :: ls)) = some v := by
  unfold rinexVersion
  rw [splitOn_joinLines_ok _ hnl]
  simp only [List.cons_append, List.headD_cons]
  rw [hl]
  exact split_head_token _ _ _ _ (isBlank_blanks k) hv (by decide)

theorem dispatch_joinLines (ver tail : Str) (ls : List Str) (hok : ∀ x ∈ (ljust 20 ver ++ tail) :: ls, okText x = true)
    (k : Nat) (v : Str) (hver : ver = blanks k ++ v) (hv : Token v = true) (hlen : k + v.length < 20) :
    dispatch (joinLines ((ljust 20 ver ++ tail) :: ls)) = classify v := by
  unfold dispatch
  rw [rinexVersion_first _ _ hok k v (blanks (19 - (k + v.length)) ++ tail)
    (by rw [hver, ljust_succ 19 _ (by rw [List.length_append, length_blanks]; omega)]; simp [List.append_assoc]) hv]
  rfl

end Midgard.Spec.RinexNavFile

