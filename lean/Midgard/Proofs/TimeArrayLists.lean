/-
C04 — what holds of `Model/TimeArrayHist.lean` without the heap invariant: every position a selection denotes is in range,
selecting out of a selection is one selection (`pick_pick`, `Arr.sel_sel`), and `==` makes equal whatever `__hash__` reads
of what it compares.
-/
import Midgard.Model.TimeArrayHist
import Midgard.Proofs.OptionMapM
import Mathlib.Tactic.SplitIfs
import Mathlib.Tactic.Common

namespace Midgard.Proofs.TimeArrayLists
open Midgard.TimeArrayHist

theorem rangeIdx_pos (fuel : Nat) (start stop step M : Int) (hs : 0 < step) (h0 : 0 ≤ start) (hM : stop ≤ M) :
    ∀ p ∈ rangeIdx fuel start stop step, (p : Int) < M := by
  induction fuel generalizing start with
  | zero => intro p hp; simp [rangeIdx] at hp
  | succ fuel ih =>
    intro p hp
    unfold rangeIdx at hp
    split_ifs at hp with hc
    · rcases List.mem_cons.mp hp with rfl | hp
      · omega
      · exact ih (start + step) (by omega) p hp
    · simp at hp

theorem rangeIdx_neg (fuel : Nat) (start stop step M : Int) (hs : step < 0) (h0 : -1 ≤ stop) (hM : start ≤ M) :
    ∀ p ∈ rangeIdx fuel start stop step, (p : Int) ≤ M := by
  induction fuel generalizing start with
  | zero => intro p hp; simp [rangeIdx] at hp
  | succ fuel ih =>
    intro p hp
    unfold rangeIdx at hp
    split_ifs at hp with hc
    · rcases List.mem_cons.mp hp with rfl | hp
      · omega
      · exact ih (start + step) (by omega) p hp
    · simp at hp

theorem clamp_range {lo hi : Int} (h : lo ≤ hi) (x : Int) : lo ≤ clamp lo hi x ∧ clamp lo hi x ≤ hi := by
  unfold clamp
  split_ifs <;> omega

theorem sliceIdx_lt (n : Nat) (a b : Option Int) (c : Int) (hc : c ≠ 0) : ∀ p ∈ sliceIdx n a b c, p < n := by
  intro p hp
  unfold sliceIdx at hp
  simp only at hp
  split_ifs at hp with hpos
  · -- counting up from a start ≥ 0 to a stop ≤ n
    have h := rangeIdx_pos n _ _ c n hpos (by cases a; exacts [Int.le_refl _, (clamp_range (by omega) _).1])
      (by cases b; exacts [Int.le_refl _, (clamp_range (by omega) _).2]) p hp
    omega
  · -- counting down from a start ≤ n - 1 to a stop ≥ -1
    have h := rangeIdx_neg n _ _ c ((n : Int) - 1) (by omega) (by cases b; exacts [Int.le_refl _, (clamp_range (by omega) _).1])
      (by cases a; exacts [Int.le_refl _, (clamp_range (by omega) _).2]) p hp
    omega

theorem normIdx_lt {n : Nat} {i : Int} {k : Nat} (h : normIdx n i = some k) : k < n := by
  unfold normIdx at h
  split_ifs at h <;> simp at h <;> omega

theorem normIdx_natCast {n k : Nat} (h : k < n) : normIdx n (k : Int) = some k := by
  simp [normIdx]; omega

theorem mapM_normIdx_lt (n : Nat) (l : List Int) (ps : List Nat) (h : l.mapM (normIdx n) = some ps) : ∀ p ∈ ps, p < n := by
  intro p hp
  have hmem : some p ∈ l.map (normIdx n) := (mapM_eq_some_iff _ l ps).mp h ▸ List.mem_map_of_mem hp
  obtain ⟨i, -, hi⟩ := List.mem_map.mp hmem
  exact normIdx_lt hi

theorem positions_lt (s : Sel) (n : Nat) (ps : List Nat) (h : s.positions n = some ps) : ∀ p ∈ ps, p < n := by
  cases s with
  | slice a b c =>
    simp only [Sel.positions] at h
    split_ifs at h with hc
    simp only [Option.some.injEq] at h; subst h
    exact sliceIdx_lt n a b c hc
  | mask m =>
    simp only [Sel.positions] at h
    split_ifs at h
    simp only [Option.some.injEq] at h; subst h
    intro p hp
    exact List.mem_range.mp (List.mem_filter.mp hp).1
  | idx l => exact mapM_normIdx_lt n l ps h

theorem mem_of_mem_pick {α} {l : List α} {ps : List Nat} {x : α} (h : x ∈ pick l ps) : x ∈ l := by
  obtain ⟨q, -, hq⟩ := List.mem_filterMap.mp h
  exact List.mem_of_getElem? hq

theorem pick_eq_map {α} (l : List α) (ps : List Nat) (h : ∀ p ∈ ps, p < l.length) :
    (pick l ps).map some = ps.map (l[·]?) := by
  induction ps with
  | nil => rfl
  | cons p ps ih =>
    have hp : p < l.length := h p List.mem_cons_self
    have ih' := ih (fun q hq => h q (List.mem_cons_of_mem _ hq))
    simp only [pick] at ih' ⊢
    simp [List.getElem?_eq_getElem hp, ih']

theorem pick_length {α} (l : List α) (ps : List Nat) (h : ∀ p ∈ ps, p < l.length) : (pick l ps).length = ps.length := by
  have := congrArg List.length (pick_eq_map l ps h)
  simpa using this

theorem pick_getElem? {α} (l : List α) (ps : List Nat) (h : ∀ p ∈ ps, p < l.length) (q : Nat) :
    (pick l ps)[q]? = (ps[q]?).bind (l[·]?) := by
  have := congrArg (fun x => x[q]?) (pick_eq_map l ps h)
  simp only [List.getElem?_map] at this
  cases hq : ps[q]? with
  | none => rw [hq] at this; simpa using this
  | some p => rw [hq] at this; simp only [Option.map_some] at this; cases hx : (pick l ps)[q]? <;> simp_all

theorem pick_pick {α} (l : List α) (ps qs : List Nat) (h : ∀ p ∈ ps, p < l.length) :
    pick (pick l ps) qs = pick l (pick ps qs) := by
  have key : ∀ q : Nat, (pick l ps)[q]? = (ps[q]?).bind (l[·]?) := pick_getElem? l ps h
  unfold pick at key ⊢
  rw [List.filterMap_filterMap]
  induction qs with
  | nil => rfl
  | cons q qs ih => simp only [List.filterMap_cons, key q, ih]

theorem idx_positions (n : Nat) (ps : List Nat) (h : ∀ p ∈ ps, p < n) :
    (Sel.idx (ps.map Int.ofNat)).positions n = some ps := by
  simp only [Sel.positions, mapM_eq_some_iff, List.map_map]
  exact List.map_congr_left fun p hp => normIdx_natCast (h p hp)

/-- what `__hash__` reads is equal on arrays that `==` finds equal, when everything it reads is compared -/
theorem hashKey_eq_of_pyEq (sg cmp reads : List String) (hsub : ∀ x ∈ reads, x ∈ cmp) (a b : Arr)
    (h : pyEq sg cmp a b = true) : hashKey reads a = hashKey reads b := by
  simp only [pyEq, Bool.and_eq_true, List.all_eq_true, beq_iff_eq] at h
  unfold hashKey
  apply List.map_congr_left
  intro x hx
  exact h.2 x (hsub x hx)

end Midgard.Proofs.TimeArrayLists

namespace Midgard.TimeArrayHist
open Midgard.Proofs.TimeArrayLists

/-- `__array_finalize__` with the hand-over takes the jd parts left on the parent, without one the parent's full jd parts -/
theorem finalize_handover (a : Arr) (p1 p2 v : List Nat) (sc : Bool) :
    finalize { a with pending := some (p1, p2) } v sc
      = { vals := v, jd1 := p1, jd2 := p2, scalar := sc, cls := a.cls, fmt := a.fmt } := rfl

theorem finalize_of_none {a : Arr} (h : a.pending = none) (v : List Nat) (sc : Bool) :
    finalize a v sc = { vals := v, jd1 := a.jd1, jd2 := a.jd2, scalar := sc, cls := a.cls, fmt := a.fmt } := by
  rw [finalize, h]

/-- the epochs of `a` at positions `ps`: what `from_jds` makes of the sliced jd parts, and what `__array_finalize__` with the
hand-over makes of an aligned array (the values are those of the jd parts) -/
def Arr.sel (a : Arr) (ps : List Nat) (sc : Bool) : Arr :=
  { vals := pick a.jd1 ps, jd1 := pick a.jd1 ps, jd2 := pick a.jd2 ps, scalar := sc, cls := a.cls, fmt := a.fmt }

theorem Arr.sel_sel (a : Arr) (ps qs : List Nat) (sc sc' : Bool) (h1 : ∀ p ∈ ps, p < a.jd1.length)
    (h2 : ∀ p ∈ ps, p < a.jd2.length) : (a.sel ps sc).sel qs sc' = a.sel (pick ps qs) sc' := by
  simp only [Arr.sel, pick_pick _ ps qs h1, pick_pick _ ps qs h2]

end Midgard.TimeArrayHist

#print axioms Midgard.Proofs.TimeArrayLists.hashKey_eq_of_pyEq
