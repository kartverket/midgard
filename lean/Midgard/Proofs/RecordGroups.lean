/-
Lines grouped into records that are each opened by a marked line: the record splitters of the RINEX 3 navigation parser
(`RinexNav.splitV3Aux`, a record starts with a letter) and of the SP3 parser (`Sp3.splitBlocksAux`, an epoch block starts
with `*`) close the current group before every marked line and nowhere else.  `GroupsBefore` states this as four
equations; `GroupsBefore.groups` is the segmentation theorem both file proofs use.  Core Lean only.
-/
import Midgard.Core.Text

namespace Midgard.Spec.Sp3File
open Midgard.Text

/-- the last group takes the trailer -/
def attachLast : List (List Str) → List Str → List (List Str)
  | [], t => [t]
  | [b], t => [b ++ t]
  | b :: b' :: bs, t => b :: attachLast (b' :: bs) t

end Midgard.Spec.Sp3File

namespace Midgard.Text
open Midgard.Spec.Sp3File (attachLast)

theorem attachLast_nil : ∀ (g : List Str) (gs : List (List Str)), attachLast (g :: gs) [] = g :: gs
  | g, [] => by simp [attachLast]
  | g, g' :: gs => by rw [attachLast, attachLast_nil g' gs]

/-- `split lines cur` (`cur`: the group being collected, reversed) closes the group before every line satisfying `p` -/
structure GroupsBefore (p : Str → Prop) (split : List Str → List Str → List (List Str)) : Prop where
  nil : split [] [] = []
  last : ∀ l cur, split [l] cur = [(l :: cur).reverse]
  close : ∀ l nxt rest cur, p nxt → split (l :: nxt :: rest) cur = (l :: cur).reverse :: split (nxt :: rest) []
  keep : ∀ l nxt rest cur, ¬ p nxt → split (l :: nxt :: rest) cur = split (nxt :: rest) (l :: cur)

variable {p : Str → Prop} {split : List Str → List Str → List (List Str)}

theorem GroupsBefore.one (G : GroupsBefore p split) (body : List Str) : ∀ (l : Str) (cur rest : List Str),
    (∀ x ∈ body, ¬ p x) → (rest = [] ∨ ∃ s r, rest = s :: r ∧ p s) →
    split (l :: body ++ rest) cur = (cur.reverse ++ l :: body) :: split rest [] := by
  induction body with
  | nil =>
    intro l cur rest _ hrest
    rcases hrest with rfl | ⟨s, r, rfl, hs⟩
    · simp [G.last, G.nil]
    · simp [G.close _ _ _ _ hs]
  | cons b body ih =>
    intro l cur rest hb hrest
    have := ih b (l :: cur) rest (fun x hx => hb x (by simp [hx])) hrest
    simp only [List.cons_append] at this ⊢
    rw [G.keep _ _ _ _ (hb b (by simp)), this]
    simp

/-- **segmentation**: leading lines, then groups each opened by a marked line and otherwise free of them, then a trailer:
the splitter returns the leading lines and the groups, the trailer joined to the last -/
theorem GroupsBefore.groups (G : GroupsBefore p split) (bs : List (List Str)) (t : List Str) (ht : ∀ x ∈ t, ¬ p x)
    (hbs : ∀ b ∈ bs, ∃ s body, b = s :: body ∧ p s ∧ ∀ x ∈ body, ¬ p x) :
    ∀ (h0 : Str) (body0 : List Str), (∀ x ∈ body0, ¬ p x) →
      split (h0 :: body0 ++ bs.flatten ++ t) [] = attachLast ((h0 :: body0) :: bs) t := by
  induction bs with
  | nil =>
    intro h0 body0 hb0
    have := G.one (body0 ++ t) h0 [] [] (fun x hx => (List.mem_append.mp hx).elim (hb0 x) (ht x)) (Or.inl rfl)
    simp only [List.append_nil, List.reverse_nil, List.nil_append] at this
    simp only [List.flatten_nil, List.append_nil, attachLast, List.cons_append]
    rw [this, G.nil]
  | cons b bs ih =>
    intro h0 body0 hb0
    obtain ⟨s, body, rfl, hs, hbody⟩ := hbs b (by simp)
    have h1 := G.one body0 h0 [] ((s :: body) ++ bs.flatten ++ t) hb0 (Or.inr ⟨s, body ++ bs.flatten ++ t, by simp, hs⟩)
    have h2 := ih (fun b' hb' => hbs b' (by simp [hb'])) s body hbody
    simp only [List.flatten_cons, attachLast]
    have e : h0 :: body0 ++ (s :: body ++ bs.flatten) ++ t = h0 :: body0 ++ (s :: body ++ bs.flatten ++ t) := by
      simp [List.append_assoc]
    rw [e, h1, h2]
    simp

end Midgard.Text
