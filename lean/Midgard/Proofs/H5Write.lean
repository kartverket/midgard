/-
C10 — what `_write` leaves behind, as one invariant `WSpec` over a piece of the file (its array groups with their paths) and
the memo before and after: what the memo answered before it still answers, the new entries name array groups of the piece
written for that very object, every array group is well formed and is what the memo answers for its object.  Pieces compose,
which is all the loops over attributes and fields need.  (`fresh` / `roots` — an object is written here only if it is a root or
the memo did not know it — are carried for `WL` of `Proofs/H5PlainWrite.lean`; the file handed to the reader does not need them.)
-/
import Midgard.Proofs.H5Base

namespace Midgard.H5
open Midgard.Dataset

abbrev keys (m : WMemo) : List Nat := m.map Prod.fst

theorem lookup_none_iff (m : WMemo) (a : Nat) : m.lookup a = none ↔ a ∉ keys m := by
  rw [List.lookup_eq_none_iff]
  simp only [keys, List.mem_map, not_exists, not_and, bne_iff_ne, ne_eq]
  exact ⟨fun h p hp e => h p hp e.symm, fun h p hp e => h p hp e.symm⟩

theorem mem_keys {m : WMemo} {x : Nat} {q : Path} (h : (x, q) ∈ m) : x ∈ keys m :=
  List.mem_map.mpr ⟨(x, q), h, rfl⟩

theorem lookup_of_mem_keys {m : WMemo} {x : Nat} (h : x ∈ keys m) : ∃ q, m.lookup x = some q :=
  Option.ne_none_iff_exists'.mp (mt (lookup_none_iff m x).mp (not_not_intro h))

/-- what the memo says about an object it knows is never changed (entries are only added for objects it does not know,
or repeated) -/
def Stable (m m' : WMemo) : Prop := ∀ x q, m.lookup x = some q → m'.lookup x = some q

theorem Stable.refl (m : WMemo) : Stable m m := fun _ _ h => h
theorem Stable.trans {a b c : WMemo} (h1 : Stable a b) (h2 : Stable b c) : Stable a c := fun x q h => h2 x q (h1 x q h)

theorem Stable.cons {m : WMemo} {k : Nat} {v : Path} (hk : m.lookup k = none ∨ m.lookup k = some v) :
    Stable m ((k, v) :: m) := by
  intro x q hx
  rw [Lists.lookup_cons_ite]
  split
  · next heq =>
    subst heq
    rcases hk with hk | hk
    · rw [hk] at hx; cases hx
    · rw [← hk, hx]
  · exact hx

theorem Stable.keys {m m' : WMemo} (hs : Stable m m') {x : Nat} (hx : x ∈ keys m) : x ∈ keys m' := by
  obtain ⟨q, hq⟩ := lookup_of_mem_keys hx
  exact mem_keys (Lists.lookup_mem (hs x q hq))

/-- `N H q g`: the array group `g` at `q` is well formed, references by name satisfying `H` -/
abbrev NodePred := (Path → Nat → Prop) → Path → Grp → Prop

def NodePred.Mono (N : NodePred) : Prop := ∀ {H H' : Path → Nat → Prop}, (∀ q x, H q x → H' q x) → ∀ {q g}, N H q g → N H' q g

/-- the piece of the file with array groups `nodes` has been written, taking the memo from `memo` to `memo'`; `roots` are
the objects the piece was written for (an array and its fields' arrays), every other object written here was unknown -/
structure WSpec (N : NodePred) (nodes : List (Path × Grp)) (roots : List Nat) (memo memo' : WMemo) : Prop where
  stable : Stable memo memo'
  ext : ∃ L, memo' = L ++ memo ∧ ∀ e ∈ L, ∃ g', (e.2, g') ∈ nodes ∧ g'.src = e.1
  node : ∀ q g', (q, g') ∈ nodes → N (fun q x => memo'.lookup x = some q) q g'
  own : ∀ q g', (q, g') ∈ nodes → memo'.lookup g'.src = some q
  fresh : ∀ q g', (q, g') ∈ nodes → g'.src ∈ roots ∨ g'.src ∉ keys memo

namespace WSpec
variable {N : NodePred} {nodes : List (Path × Grp)} {roots : List Nat} {memo memo' : WMemo}

theorem refl (N : NodePred) (roots : List Nat) (memo : WMemo) : WSpec N [] roots memo memo :=
  ⟨Stable.refl _, ⟨[], rfl, fun _ he => (nomatch he)⟩, fun _ _ hm => (nomatch hm), fun _ _ hm => (nomatch hm), fun _ _ hm => (nomatch hm)⟩

theorem newIn (w : WSpec N nodes roots memo memo') (x : Nat) (q : Path) (hx : memo'.lookup x = some q) :
    memo.lookup x = some q ∨ ∃ g', (q, g') ∈ nodes ∧ g'.src = x := by
  obtain ⟨L, rfl, hL⟩ := w.ext
  rw [List.lookup_append] at hx
  cases hl : L.lookup x with
  | none => rw [hl] at hx; exact Or.inl hx
  | some q' =>
    rw [hl] at hx
    cases hx
    exact Or.inr (hL _ (Lists.lookup_mem hl))

theorem append (hN : N.Mono) {n1 n2 : List (Path × Grp)} {r1 r2 : List Nat} {memo memo1 memo2 : WMemo}
    (w1 : WSpec N n1 r1 memo memo1) (w2 : WSpec N n2 r2 memo1 memo2) : WSpec N (n1 ++ n2) (r1 ++ r2) memo memo2 := by
  have st := w1.stable.trans w2.stable
  obtain ⟨L1, rfl, h1⟩ := w1.ext
  obtain ⟨L2, rfl, h2⟩ := w2.ext
  refine ⟨st, ⟨L2 ++ L1, (List.append_assoc ..).symm, fun e he => ?_⟩, fun q g' hm => ?_, fun q g' hm => ?_, fun q g' hm => ?_⟩
  · rcases List.mem_append.mp he with he | he
    · exact (h2 e he).imp fun g' hg => ⟨List.mem_append_right _ hg.1, hg.2⟩
    · exact (h1 e he).imp fun g' hg => ⟨List.mem_append_left _ hg.1, hg.2⟩
  · rcases List.mem_append.mp hm with hm | hm
    · exact hN (fun q x hx => w2.stable x q hx) (w1.node q g' hm)
    · exact w2.node q g' hm
  · rcases List.mem_append.mp hm with hm | hm
    · exact w2.stable _ _ (w1.own q g' hm)
    · exact w2.own q g' hm
  · rcases List.mem_append.mp hm with hm | hm
    · exact (w1.fresh q g' hm).imp_left (List.mem_append_left _)
    · exact (w2.fresh q g' hm).imp (List.mem_append_right _) (mt w1.stable.keys)

/-- an embedded group: its object `x` was unknown to the memo and is entered under the group's name before the `_write` -/
theorem push {x : Nat} {q : Path} {gx : Grp} (w : WSpec N nodes [x] ((x, q) :: memo) memo') (hx : memo.lookup x = none)
    (hg : (q, gx) ∈ nodes) (hs : gx.src = x) : WSpec N nodes [] memo memo' := by
  obtain ⟨L, rfl, hL⟩ := w.ext
  refine ⟨(Stable.cons (.inl hx)).trans w.stable, ⟨L ++ [(x, q)], by simp, fun e he => ?_⟩, w.node, w.own, fun q' g' hm => Or.inr ?_⟩
  · rcases List.mem_append.mp he with he | he
    · exact hL e he
    · cases List.mem_singleton.mp he; exact ⟨gx, hg, hs⟩
  · rcases w.fresh q' g' hm with hf | hf
    · rw [List.mem_singleton.mp hf]; exact (lookup_none_iff memo x).mp hx
    · exact fun hk => hf (List.mem_cons_of_mem _ hk)

/-- the group of the array `o` itself, written (and entered in the memo) after its attributes -/
theorem root (hN : N.Mono) {o : Nat} {p : Path} {g : Grp} {memo2 : WMemo} (w : WSpec N nodes [] memo memo2)
    (hp : memo.lookup o = some p) (hs : g.src = o) (hn : N (fun q x => ((o, p) :: memo2).lookup x = some q) p g) :
    WSpec N ((p, g) :: nodes) [o] memo ((o, p) :: memo2) := by
  have st : Stable memo2 ((o, p) :: memo2) := Stable.cons (.inr (w.stable o p hp))
  obtain ⟨L, rfl, hL⟩ := w.ext
  refine ⟨w.stable.trans st, ⟨(o, p) :: L, rfl, fun e he => ?_⟩, fun q g' hm => ?_, fun q g' hm => ?_, fun q g' hm => ?_⟩
  · rcases List.mem_cons.mp he with rfl | he
    · exact ⟨g, List.mem_cons_self .., hs⟩
    · exact (hL e he).imp fun g' hg => ⟨List.mem_cons_of_mem _ hg.1, hg.2⟩
  · rcases List.mem_cons.mp hm with hm | hm
    · cases hm; exact hn
    · exact hN (fun q x hx => st x q hx) (w.node q g' hm)
  · rcases List.mem_cons.mp hm with hm | hm
    · cases hm; rw [hs, List.lookup_cons_self]
    · exact st _ _ (w.own q g' hm)
  · rcases List.mem_cons.mp hm with hm | hm
    · cases hm; exact Or.inl (by simp [hs])
    · exact Or.inr ((w.fresh q g' hm).resolve_left (fun hf => (nomatch hf)))

/-- an array without attributes: written, not entered in the memo -/
theorem single {o : Nat} {p : Path} {g : Grp} (hp : memo.lookup o = some p) (hs : g.src = o)
    (hn : N (fun q x => memo.lookup x = some q) p g) : WSpec N [(p, g)] [o] memo memo := by
  refine ⟨Stable.refl _, ⟨[], rfl, fun _ he => (nomatch he)⟩, fun q g' hm => ?_, fun q g' hm => ?_, fun q g' hm => ?_⟩
  · cases List.mem_singleton.mp hm; exact hn
  · cases List.mem_singleton.mp hm; rw [hs]; exact hp
  · cases List.mem_singleton.mp hm; exact Or.inl (by simp [hs])

end WSpec

/-- what `_write` of the array `o` into the group at `p` guarantees -/
structure ArrWritten (N : NodePred) (o : Nat) (u : Option (List String)) (l : Nat) (p : Path) (memo : WMemo) (g : Grp)
    (memo' : WMemo) : Prop where
  src : g.src = o
  isArr : g.isArr = true
  attrs : g.attrs.fieldname = p ∧ g.attrs.unit = u ∧ g.attrs.level = l ∧ g.attrs.sameAs = none
  names : NamesOKG g
  spec : WSpec N (Grp.nodes p g) [o] memo memo'

end Midgard.H5
