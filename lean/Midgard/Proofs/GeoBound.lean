/-
C05 — the cofactor polynomials of the Halley step split into a leading part (the cofactor at `q = 1`, the sphere) and remainders carrying
powers of `1 − q²`:  `K = lead + (1 − q²)·Kr`,  `H = 16A¹⁵(4A² − 5P²) + (1 − q²)·Hr1 + (1 − q²)²·Hr2`.  The remainders (computed with sympy,
checked below by `ring`) are tables of monomials, bounded by `box` of Proofs/GeoPoly.lean: near the surface in `(A, P, q)`, far from it in
the scaled variables `x = 1/A`, `t = P/A` (the cofactors are of degree `≤ 5, 6, 6, 17` in `(A, P)`, so `K(A, A·t, q) = A^d·κ(1/A, t, q)`).

The near-surface box: `|A − q| ≤ 0.0162`, `0.9966 ≤ q ≤ 1`, `1 − q² ≤ 0.0067`; there `A ≤ 1.0162`, `P ≤ A/q ≤ 1.0197` (the box of
`H_upper`; `K_lower` is stated on it widened to `A ≤ 1.0165`, `P ≤ 1.02`).  The tables are bounded on the rational box `A ≤ 2033/2000`,
`P ≤ 51/50`, `q ≤ 1` that contains both; each rational constant is a corner sum rounded up, checked by kernel evaluation.
-/
import Midgard.Proofs.GeoCofactors
import Midgard.Proofs.GeoPoly
import Mathlib.Tactic.NormNum
namespace Midgard.Geo.Acc

def k0r : List Mono :=
  [⟨3, 3, 2, 4⟩, ⟨-5, 3, 2, 2⟩, ⟨-3, 2, 2, 5⟩, ⟨1, 2, 2, 3⟩, ⟨-3, 1, 4, 6⟩, ⟨3, 1, 4, 4⟩,
   ⟨1, 0, 4, 7⟩, ⟨-1, 0, 4, 5⟩]

def k1r : List Mono :=
  [⟨2, 5, 0, 0⟩, ⟨1, 3, 2, 4⟩, ⟨-5, 3, 2, 2⟩, ⟨-1, 2, 2, 5⟩, ⟨1, 2, 2, 3⟩, ⟨-3, 1, 4, 6⟩,
   ⟨3, 1, 4, 4⟩, ⟨1, 0, 4, 7⟩, ⟨-1, 0, 4, 5⟩]

def k2r : List Mono :=
  [⟨3, 3, 2, 5⟩, ⟨-7, 3, 2, 3⟩, ⟨-3, 2, 2, 6⟩, ⟨3, 2, 2, 4⟩, ⟨-3, 1, 4, 7⟩, ⟨3, 1, 4, 5⟩,
   ⟨1, 0, 4, 8⟩, ⟨-1, 0, 4, 6⟩]

def hr1 : List Mono :=
  [⟨-112, 17, 0, 0⟩, ⟨48, 16, 0, 1⟩, ⟨164, 15, 2, 0⟩, ⟨-252, 14, 2, 1⟩, ⟨60, 13, 4, 0⟩, ⟨268, 12, 4, 1⟩]

def hr2 : List Mono :=
  [⟨48, 17, 0, 0⟩, ⟨-48, 16, 0, 1⟩, ⟨-84, 15, 2, 0⟩, ⟨-60, 13, 4, 0⟩, ⟨-268, 12, 4, 1⟩, ⟨-864, 10, 6, 9⟩,
   ⟨-756, 8, 8, 13⟩, ⟨-593, 8, 6, 13⟩, ⟨-439, 6, 8, 17⟩, ⟨-425, 6, 8, 13⟩, ⟨-357, 5, 8, 16⟩, ⟨-447, 4, 10, 17⟩,
   ⟨1, 0, 12, 25⟩, ⟨-3, 0, 12, 23⟩, ⟨3, 0, 12, 21⟩, ⟨-1, 0, 12, 19⟩, ⟨-252, 12, 4, 9⟩, ⟨-268, 12, 4, 5⟩,
   ⟨-268, 12, 4, 3⟩, ⟨-180, 10, 6, 13⟩, ⟨-216, 10, 4, 9⟩, ⟨-159, 9, 6, 12⟩, ⟨-155, 9, 6, 10⟩, ⟨-171, 7, 8, 14⟩,
   ⟨-147, 7, 6, 16⟩, ⟨-129, 7, 6, 12⟩, ⟨-108, 6, 10, 17⟩, ⟨-108, 6, 10, 13⟩, ⟨-207, 5, 10, 18⟩, ⟨-117, 5, 10, 14⟩,
   ⟨-93, 4, 10, 21⟩, ⟨-157, 3, 10, 20⟩, ⟨-36, 15, 2, 6⟩, ⟨-36, 14, 2, 5⟩, ⟨-60, 13, 4, 4⟩, ⟨-60, 13, 4, 2⟩,
   ⟨-36, 12, 2, 9⟩, ⟨-36, 11, 6, 10⟩, ⟨-36, 11, 6, 8⟩, ⟨-36, 11, 4, 12⟩, ⟨-36, 10, 4, 13⟩, ⟨-72, 9, 4, 12⟩,
   ⟨-63, 5, 8, 20⟩, ⟨-45, 4, 8, 19⟩, ⟨-81, 3, 12, 18⟩, ⟨-63, 3, 10, 16⟩, ⟨-81, 2, 12, 21⟩, ⟨-27, 1, 12, 20⟩,
   ⟨-4, 15, 2, 2⟩, ⟨-12, 13, 2, 6⟩, ⟨-9, 9, 6, 16⟩, ⟨-9, 7, 8, 18⟩, ⟨-9, 7, 8, 16⟩, ⟨-9, 6, 6, 19⟩,
   ⟨-27, 6, 6, 15⟩, ⟨9, 6, 6, 13⟩, ⟨-15, 4, 8, 15⟩, ⟨-27, 3, 12, 22⟩, ⟨-27, 2, 12, 17⟩, ⟨-7, 2, 10, 23⟩,
   ⟨-21, 2, 10, 19⟩, ⟨7, 2, 10, 17⟩, ⟨-9, 1, 12, 24⟩, ⟨9, 1, 12, 18⟩, ⟨12, 15, 2, 4⟩, ⟨36, 14, 2, 7⟩,
   ⟨24, 13, 4, 6⟩, ⟨36, 13, 2, 8⟩, ⟨36, 12, 4, 11⟩, ⟨36, 12, 2, 7⟩, ⟨36, 9, 4, 14⟩, ⟨36, 9, 4, 10⟩,
   ⟨9, 8, 6, 17⟩, ⟨9, 7, 6, 18⟩, ⟨27, 6, 6, 17⟩, ⟨15, 4, 8, 21⟩, ⟨27, 3, 12, 16⟩, ⟨27, 2, 12, 23⟩,
   ⟨21, 2, 10, 21⟩, ⟨27, 1, 12, 22⟩, ⟨252, 14, 2, 1⟩, ⟨72, 13, 4, 8⟩, ⟨68, 11, 4, 8⟩, ⟨171, 9, 6, 14⟩,
   ⟨129, 8, 6, 15⟩, ⟨189, 7, 8, 12⟩, ⟨216, 6, 10, 15⟩, ⟨57, 6, 8, 19⟩, ⟨45, 5, 10, 20⟩, ⟨147, 5, 8, 14⟩,
   ⟨177, 4, 10, 15⟩, ⟨45, 4, 8, 17⟩, ⟨81, 3, 12, 20⟩, ⟨47, 3, 10, 22⟩, ⟨173, 3, 10, 18⟩, ⟨81, 2, 12, 19⟩,
   ⟨252, 14, 2, 3⟩, ⟨440, 12, 4, 7⟩, ⟨756, 10, 6, 11⟩, ⟨252, 10, 4, 11⟩, ⟨252, 8, 8, 15⟩, ⟨504, 8, 8, 11⟩,
   ⟨455, 8, 6, 11⟩, ⟨267, 7, 6, 14⟩, ⟨807, 6, 8, 15⟩, ⟨279, 5, 10, 16⟩, ⟨273, 5, 8, 18⟩, ⟨363, 4, 10, 19⟩]

theorem K_decomp (A P q : ℝ) :
    K0 A P q = 2 * A ^ 5 + (1 - q ^ 2) * evalPoly k0r A P q ∧
    K1 A P q = 2 * A ^ 6 * q + (1 - q ^ 2) * evalPoly k1r A P q ∧
    K2 A P q = 2 * A ^ 6 + (1 - q ^ 2) * evalPoly k2r A P q := by
  simp only [evalPoly, Mono.eval, k0r, k1r, k2r, List.map_cons, List.map_nil, List.sum_cons, List.sum_nil, K0, K1, K2]
  refine ⟨?_, ?_, ?_⟩
  · ring
  · ring
  · ring

theorem H_decomp (A P q : ℝ) :
    HH A P q = 16 * A ^ 15 * (4 * A ^ 2 - 5 * P ^ 2) + (1 - q ^ 2) * evalPoly hr1 A P q
      + (1 - q ^ 2) ^ 2 * evalPoly hr2 A P q := by
  simp only [evalPoly, Mono.eval, hr1, hr2, List.map_cons, List.map_nil, List.sum_cons, List.sum_nil, HH, H0, H1, H2, H3,
    H4, H5, H6, H7, H8, H9]
  ring

theorem scaled_lower (e x B emax : ℝ) (he0 : 0 ≤ e) (he : e ≤ emax) (hB : 0 ≤ B) (hx : -B ≤ x) : -(emax * B) ≤ e * x := by
  have h1 : e * (-B) ≤ e * x := mul_le_mul_of_nonneg_left hx he0
  have h2 : e * B ≤ emax * B := mul_le_mul_of_nonneg_right he hB
  linarith

theorem abs_remainders_le {l e r1 r2 emax B1 B2 : ℝ} (he0 : 0 ≤ e) (he : e ≤ emax) (h1 : |r1| ≤ B1) (h2 : |r2| ≤ B2) :
    |l + e * r1 + e ^ 2 * r2| ≤ |l| + emax * B1 + emax ^ 2 * B2 := by
  have a1 : |e * r1| ≤ emax * B1 := by
    rw [abs_mul, abs_of_nonneg he0]
    exact mul_le_mul he h1 (abs_nonneg _) (he0.trans he)
  have a2 : |e ^ 2 * r2| ≤ emax ^ 2 * B2 := by
    rw [abs_mul, abs_of_nonneg (sq_nonneg e)]
    exact mul_le_mul (pow_le_pow_left₀ he0 he 2) h2 (abs_nonneg _) (sq_nonneg emax)
  exact (abs_add_three _ _ _).trans (add_le_add (add_le_add_right a1 _) a2)

theorem near_box_consts (r : List Mono) {L U : ℚ} {A P q : ℝ} (hA : 0 ≤ A) (hP : 0 ≤ P) (hq : 0 ≤ q)
    (hA' : A ≤ 1.0165) (hP' : P ≤ 1.02) (hq' : q ≤ 1)
    (hL : lo r (2033 / 2000) (51 / 50) 1 ≤ L) (hU : hi r (2033 / 2000) (51 / 50) 1 ≤ U) :
    -(L : ℝ) ≤ evalPoly r A P q ∧ evalPoly r A P q ≤ U :=
  box_consts r hA (hA'.trans (by norm_num)) hP (hP'.trans (by norm_num)) hq (hq'.trans (by norm_num)) hL hU

theorem K0r_bounds (A P q : ℝ) (hA : 0 ≤ A) (hP : 0 ≤ P) (hq : 0 ≤ q) (hA' : A ≤ 1.0165) (hP' : P ≤ 1.02) (hq' : q ≤ 1) :
    -(327/25 : ℝ) ≤ evalPoly k0r A P q ∧ evalPoly k0r A P q ≤ (437/50 : ℝ) := by
  have h := near_box_consts k0r (L := 327/25) (U := 437/50) hA hP hq hA' hP' hq' (by decide +kernel) (by decide +kernel)
  push_cast at h
  exact h

theorem K1r_bounds (A P q : ℝ) (hA : 0 ≤ A) (hP : 0 ≤ P) (hq : 0 ≤ q) (hA' : A ≤ 1.0165) (hP' : P ≤ 1.02) (hq' : q ≤ 1) :
    -(1093/100 : ℝ) ≤ evalPoly k1r A P q ∧ evalPoly k1r A P q ≤ (873/100 : ℝ) := by
  have h := near_box_consts k1r (L := 1093/100) (U := 873/100) hA hP hq hA' hP' hq' (by decide +kernel) (by decide +kernel)
  push_cast at h
  exact h

theorem K2r_bounds (A P q : ℝ) (hA : 0 ≤ A) (hP : 0 ≤ P) (hq : 0 ≤ q) (hA' : A ≤ 1.0165) (hP' : P ≤ 1.02) (hq' : q ≤ 1) :
    -(763/50 : ℝ) ≤ evalPoly k2r A P q ∧ evalPoly k2r A P q ≤ (1089/100 : ℝ) := by
  have h := near_box_consts k2r (L := 763/50) (U := 1089/100) hA hP hq hA' hP' hq' (by decide +kernel) (by decide +kernel)
  push_cast at h
  exact h

theorem Hr1_bounds (A P q : ℝ) (hA : 0 ≤ A) (hP : 0 ≤ P) (hq : 0 ≤ q) (hA' : A ≤ 1.0165) (hP' : P ≤ 1.02) (hq' : q ≤ 1) :
    -(23881/50 : ℝ) ≤ evalPoly hr1 A P q ∧ evalPoly hr1 A P q ≤ (35693/50 : ℝ) := by
  have h := near_box_consts hr1 (L := 23881/50) (U := 35693/50) hA hP hq hA' hP' hq' (by decide +kernel) (by decide +kernel)
  push_cast at h
  exact h

theorem Hr2_bounds (A P q : ℝ) (hA : 0 ≤ A) (hP : 0 ≤ P) (hq : 0 ≤ q) (hA' : A ≤ 1.0165) (hP' : P ≤ 1.02) (hq' : q ≤ 1) :
    -(210863/20 : ℝ) ≤ evalPoly hr2 A P q ∧ evalPoly hr2 A P q ≤ (478651/50 : ℝ) := by
  have h := near_box_consts hr2 (L := 210863/20) (U := 478651/50) hA hP hq hA' hP' hq' (by decide +kernel) (by decide +kernel)
  push_cast at h
  exact h

/-- lower bounds of the cofactors on the box `0.9804 ≤ A ≤ 1.0165`, `P ≤ 1.02` -/
theorem K_lower (q P A : ℝ) (hq : 0.9966 ≤ q) (hq1 : q ≤ 1) (he : 1 - q ^ 2 ≤ 0.0067) (hP : 0 ≤ P) (hP' : P ≤ 1.02)
    (hAlo : 0.9804 ≤ A) (hA' : A ≤ 1.0165) :
    0 ≤ K0 A P q ∧ (1.6967 : ℝ) ≤ K1 A P q ∧ (1.6737 : ℝ) ≤ K2 A P q := by
  have hq0 : 0 < q := lt_of_lt_of_le (by norm_num) hq
  have hA0 : 0 < A := lt_of_lt_of_le (by norm_num) hAlo
  have he0 := one_sub_sq_nonneg hq0.le hq1
  have hA6 : (0.888 : ℝ) ≤ A ^ 6 := le_trans (by norm_num) (pow_le_pow_left₀ (by norm_num) hAlo 6)
  have hA5 : (0.9 : ℝ) ≤ A ^ 5 := le_trans (by norm_num) (pow_le_pow_left₀ (by norm_num) hAlo 5)
  obtain ⟨hk0, hk1, hk2⟩ := K_decomp A P q
  have b0 := (K0r_bounds A P q hA0.le hP hq0.le hA' hP' hq1).1
  have b1 := (K1r_bounds A P q hA0.le hP hq0.le hA' hP' hq1).1
  have b2 := (K2r_bounds A P q hA0.le hP hq0.le hA' hP' hq1).1
  have s0 := scaled_lower (1 - q ^ 2) _ _ 0.0067 he0 he (by norm_num) b0
  have s1 := scaled_lower (1 - q ^ 2) _ _ 0.0067 he0 he (by norm_num) b1
  have s2 := scaled_lower (1 - q ^ 2) _ _ 0.0067 he0 he (by norm_num) b2
  have h2 : (0.888 : ℝ) * 0.9966 ≤ A ^ 6 * q := mul_le_mul hA6 hq (by norm_num) (by positivity)
  rw [hk0, hk1, hk2]
  norm_num at s0 s1 s2 h2 ⊢
  exact ⟨by linarith only [s0, hA5], by linarith only [s1, h2], by linarith only [s2, hA6]⟩

/-- upper bound of `|H|` on the box `A ≤ 1.0162`, `P ≤ 1.0197` — the tight values are needed for the leading term,
`|4A² − 5P²| ≤ 5.2`, `A¹⁵ ≤ 1.2726`:  `16·1.2726·5.2 + 0.0067·35693/50 + 0.0067²·210863/20 ≤ 111.2` -/
theorem H_upper (q P A : ℝ) (hq0 : 0 ≤ q) (hq1 : q ≤ 1) (he0 : 0 ≤ 1 - q ^ 2) (he : 1 - q ^ 2 ≤ 0.0067) (hP : 0 ≤ P) (hP1 : P ≤ 1.0197)
    (hA0 : 0 ≤ A) (hAhi : A ≤ 1.0162) : |HH A P q| ≤ (111.2 : ℝ) := by
  have r1 := Hr1_bounds A P q hA0 hP hq0 (hAhi.trans (by norm_num)) (hP1.trans (by norm_num)) hq1
  have r2 := Hr2_bounds A P q hA0 hP hq0 (hAhi.trans (by norm_num)) (hP1.trans (by norm_num)) hq1
  have c1 : |evalPoly hr1 A P q| ≤ 35693 / 50 := abs_le.2 ⟨by linarith only [r1.1], r1.2⟩
  have c2 : |evalPoly hr2 A P q| ≤ 210863 / 20 := abs_le.2 ⟨r2.1, by linarith only [r2.2]⟩
  have hA15 : A ^ 15 ≤ (1.2726 : ℝ) := (pow_le_pow_left₀ hA0 hAhi 15).trans (by norm_num)
  have hAsq : A ^ 2 ≤ 1.0162 ^ 2 := pow_le_pow_left₀ hA0 hAhi 2
  have hPsq : P ^ 2 ≤ 1.0197 ^ 2 := pow_le_pow_left₀ hP hP1 2
  have h0 : |16 * A ^ 15 * (4 * A ^ 2 - 5 * P ^ 2)| ≤ 16 * 1.2726 * 5.2 := by
    rw [abs_mul, abs_of_nonneg (by positivity : (0:ℝ) ≤ 16 * A ^ 15)]
    have h4 : |4 * A ^ 2 - 5 * P ^ 2| ≤ 5.2 := by
      rw [abs_le]
      norm_num at hAsq hPsq ⊢
      exact ⟨by linarith only [hPsq, sq_nonneg A], by linarith only [hAsq, sq_nonneg P]⟩
    exact mul_le_mul (mul_le_mul_of_nonneg_left hA15 (by norm_num)) h4 (abs_nonneg _) (by norm_num)
  rw [H_decomp]
  have hr := abs_remainders_le (l := 16 * A ^ 15 * (4 * A ^ 2 - 5 * P ^ 2)) he0 he c1 c2
  norm_num at h0 hr ⊢
  linarith only [h0, hr]

theorem remainder_scaled_lower (d : ℕ) (r : List Mono) (hdeg : ∀ m ∈ r, m.i + m.j ≤ d) {A t q b : ℝ} (hA : 0 < A)
    (he0 : 0 ≤ 1 - q ^ 2) (he : 1 - q ^ 2 ≤ 0.0067) (hb : 0 ≤ b) (h : -b ≤ evalPoly (scale d r) (1 / A) t q) :
    -(0.0067 * b) * A ^ d ≤ (1 - q ^ 2) * evalPoly r A (A * t) q := by
  rw [evalPoly_scale d r hdeg hA.ne']
  have := mul_le_mul_of_nonneg_right (scaled_lower (1 - q ^ 2) _ b 0.0067 he0 he hb h) (pow_pos hA d).le
  linarith only [this]

theorem remainder_scaled_abs (d : ℕ) (r : List Mono) (hdeg : ∀ m ∈ r, m.i + m.j ≤ d) {A t q B : ℝ} (hA : 0 < A)
    (h : |evalPoly (scale d r) (1 / A) t q| ≤ B) : |evalPoly r A (A * t) q| ≤ A ^ d * B := by
  rw [evalPoly_scale d r hdeg hA.ne', abs_mul, abs_of_pos (pow_pos hA d)]
  exact mul_le_mul_of_nonneg_left h (pow_pos hA d).le

theorem K_scaled_lower (A t q xmax b0 b1 b2 : ℝ) (hq : 0.9966 ≤ q) (hq1 : q ≤ 1) (he : 1 - q ^ 2 ≤ 0.0067)
    (hA : 0 < A) (hx : 1 / A ≤ xmax) (hb0 : 0 ≤ b0) (hb1 : 0 ≤ b1) (hb2 : 0 ≤ b2)
    (h0 : -b0 ≤ evalPoly (scale 5 k0r) (1 / A) t q) (h1 : -b1 ≤ evalPoly (scale 5 k1r) (1 / A) t q) (h2 : -b2 ≤ evalPoly (scale 5 k2r) (1 / A) t q) :
    (2 - 0.0067 * b0) * A ^ 5 ≤ K0 A (A * t) q ∧ (2 * 0.9966 - 0.0067 * xmax * b1) * A ^ 6 ≤ K1 A (A * t) q ∧
    (2 - 0.0067 * xmax * b2) * A ^ 6 ≤ K2 A (A * t) q := by
  have he0 : 0 ≤ 1 - q ^ 2 := one_sub_sq_nonneg (by linarith only [hq]) hq1
  obtain ⟨hk0, hk1, hk2⟩ := K_decomp A (A * t) q
  have r0 := remainder_scaled_lower 5 k0r (by decide) hA he0 he hb0 h0
  have r1 := remainder_scaled_lower 5 k1r (by decide) hA he0 he hb1 h1
  have r2 := remainder_scaled_lower 5 k2r (by decide) hA he0 he hb2 h2
  -- `A⁵ = (1/A)·A⁶ ≤ xmax·A⁶`: a loss `0.0067·b·A⁵` is at most `0.0067·xmax·b·A⁶`
  have hA5x : A ^ 5 ≤ xmax * A ^ 6 := by
    rw [show A ^ 5 = (1 / A) * A ^ 6 by field_simp]
    exact mul_le_mul_of_nonneg_right hx (by positivity)
  have m1 := mul_le_mul_of_nonneg_left hA5x (by positivity : 0 ≤ 0.0067 * b1)
  have m2 := mul_le_mul_of_nonneg_left hA5x (by positivity : 0 ≤ 0.0067 * b2)
  have m3 : 0.9966 * A ^ 6 ≤ q * A ^ 6 := mul_le_mul_of_nonneg_right hq (by positivity)
  rw [hk0, hk1, hk2]
  exact ⟨by linarith only [r0], by linarith only [r1, m1, m3], by linarith only [r2, m2]⟩

theorem H_scaled_upper (A t q B1 B2 : ℝ) (he0 : 0 ≤ 1 - q ^ 2) (he : 1 - q ^ 2 ≤ 0.0067) (hA : 0 < A)
    (h1 : |evalPoly (scale 17 hr1) (1 / A) t q| ≤ B1) (h2 : |evalPoly (scale 17 hr2) (1 / A) t q| ≤ B2) :
    |HH A (A * t) q| ≤ A ^ 17 * (|64 - 80 * t ^ 2| + 0.0067 * B1 + 0.0067 ^ 2 * B2) := by
  have r1 := remainder_scaled_abs 17 hr1 (by decide) hA h1
  have r2 := remainder_scaled_abs 17 hr2 (by decide) hA h2
  have hl : |16 * A ^ 15 * (4 * A ^ 2 - 5 * (A * t) ^ 2)| = A ^ 17 * |64 - 80 * t ^ 2| := by
    rw [show 16 * A ^ 15 * (4 * A ^ 2 - 5 * (A * t) ^ 2) = A ^ 17 * (64 - 80 * t ^ 2) by ring, abs_mul, abs_of_pos (pow_pos hA 17)]
  rw [H_decomp]
  calc _ ≤ |16 * A ^ 15 * (4 * A ^ 2 - 5 * (A * t) ^ 2)| + 0.0067 * (A ^ 17 * B1) + 0.0067 ^ 2 * (A ^ 17 * B2) :=
        abs_remainders_le he0 he r1 r2
    _ = _ := by rw [hl]; ring

end Midgard.Geo.Acc
