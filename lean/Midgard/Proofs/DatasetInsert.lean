/-
C09 — one `insert(a, pos, b, memo)` (`insertObj`, and `insertPlain` for the plain kinds).  Row counts: two objects whose
attachment trees have `n` and `m` rows yield an object whose whole attachment tree has `n + m` rows, the memo only ever
holds such objects (`MemoGood`), the heap only grows (`insertObj_spec`).  Where the rows go: the new array is the old one
with the other rows spliced in at the insertion position (appended, since every field inserts at its own `num_obs`).  The
memo contract: a miss registers the new array under both ids, a hit hands it out.
-/
import Midgard.Proofs.DatasetHeap

namespace Midgard.Dataset

/-- the memo of an `extend` of `n` rows by `m` rows only holds finished (`n + m`-row) objects -/
def MemoGood (k : Nat) (s : St) : Prop := ∀ a v, (a, v) ∈ s.memo → Good s.heap k v

theorem MemoGood.find {k s a v} (hm : MemoGood k s) (hf : s.find a = some v) : Good s.heap k v :=
  hm a v (Lists.lookup_mem hf)

theorem MemoGood.set {k} {s : St} {a v} (hm : MemoGood k s) (hg : Good s.heap k v) : MemoGood k (s.set a v) := by
  intro x y hxy
  simp only [St.set, List.mem_cons] at hxy
  rcases hxy with h | h
  · cases h; exact hg
  · exact hm x y h

theorem MemoGood.pop {k} {s : St} {a} (hm : MemoGood k s) : MemoGood k (s.pop a) := by
  intro x y hxy
  simp only [St.pop, List.mem_filter] at hxy
  exact hm x y hxy.1

theorem MemoGood.ext {k} {s : St} {h' : Heap} (hm : MemoGood k s) (e : HeapExt s.heap h') :
    MemoGood k { s with heap := h' } := fun a v hav => (hm a v hav).ext e

theorem MemoGood.alloc {k} {s : St} (hm : MemoGood k s) (o : Obj) : MemoGood k (s.alloc o).2 :=
  hm.ext (HeapExt.alloc s o)

/-- what a successful step of an `extend` guarantees: the heap only grew, the memo still holds only finished objects -/
def ExtOK (k : Nat) (s s' : St) : Prop := HeapExt s.heap s'.heap ∧ MemoGood k s'

theorem good_empty (s : St) (k : Kind) (ndim cols n : Nat) :
    Good (s.alloc (emptyObj k ndim cols n)).2.heap n (s.alloc (emptyObj k ndim cols n)).1 :=
  Good.mk (alloc_get s _) (by simp [emptyObj]) (by simp [emptyObj]) (by simp [emptyObj])

theorem convRows_length (cv : Conv) (t : String) (ob : Obj) : (convRows cv t ob).length = ob.rows.length := by
  unfold convRows
  split <;> simp

theorem MemoGood.find_bind {k : Nat} {s : St} {ao : Option Nat} {v : Nat} (hm : MemoGood k s)
    (h : ao.bind s.find = some v) : Good s.heap k v := by
  cases ao with
  | none => cases h
  | some a => exact hm.find h

/-- **`insert` adds row counts.**  `a` (with everything attached) has `n` rows, `b` has `m`: the result
has `n + m`, the memo keeps holding only finished objects, the heap only grows. -/
theorem insertObj_spec (n m : Nat) : ∀ (fuel a pos b : Nat) (s : St) (r : Nat) (s' : St),
    insertObj fuel a pos b s = .ok (r, s') → MemoGood (n + m) s → Good s.heap n a → Good s.heap m b →
    ExtOK (n + m) s s' ∧ Good s'.heap (n + m) r
  | 0, _, _, _, _, _, _, h, _, _, _ => by cases h
  | fuel + 1, a, pos, b, s, r, s', h, hm, ga, gb => by
    have same : ExtOK (n + m) s s := ⟨HeapExt.refl _, hm⟩
    simp only [insertObj] at h
    split at h
    · rename_i v hf
      cases h.symm
      exact ⟨same, hm.find hf⟩
    split at h
    · rename_i v hf
      cases h.symm
      exact ⟨same, hm.find hf⟩
    split at h
    · rename_i oa ob hoa hob
      obtain ⟨oa', ha1, ha2, ha3, ha4⟩ := ga.dest
      obtain ⟨ob', hb1, hb2, hb3, hb4⟩ := gb.dest
      cases hoa.symm.trans ha1
      cases hob.symm.trans hb1
      obtain ⟨hkind, h⟩ := guard_ok h
      have hkeq : ob.kind = oa.kind := by
        have : ¬ (oa.kind != ob.kind) = true := fun hc => hkind (by simp [hc])
        exact Eq.symm (by simpa using this)
      -- the `other` attribute
      split at h
      · simp at h
      rename_i oth s1 hoth
      have key1 : ExtOK (n + m) s s1 ∧ (∀ x, oth = some x → Good s1.heap (n + m) x) := by
        split at hoth
        · cases hoth.symm
          exact ⟨same, nofun⟩
        rename_i hho
        have hoA : oa.kind.hasOther = true := by simpa using hho
        have hoB : ob.kind.hasOther = true := hkeq ▸ hoA
        split at hoth
        · cases hoth.symm
          exact ⟨same, nofun⟩
        split at hoth
        · rename_i v hv
          cases hoth.symm
          exact ⟨same, fun x hx => Option.some.inj hx ▸ hm.find_bind hv⟩
        split at hoth
        · rename_i v hv
          cases hoth.symm
          exact ⟨same, fun x hx => Option.some.inj hx ▸ hm.find_bind hv⟩
        split at hoth
        · -- both sides have the attribute
          rename_i x y hxo hyo
          obtain ⟨r1, s1', hr1, hoth⟩ := bindObj_ok hoth
          cases hoth
          obtain ⟨e1, g1⟩ := insertObj_spec n m fuel x pos y s r1 _ hr1 hm (ha3 x hoA hxo) (hb3 y hoB hyo)
          exact ⟨e1, fun z hz => Option.some.inj hz ▸ g1⟩
        · cases hoth.symm
          exact ⟨same, nofun⟩
        · -- only `b` has it: empty rows for the rows of `a`
          rename_i y hxo hyo
          split at hoth
          · simp at hoth
          rename_i oy hoy
          obtain ⟨r1, s1', hr1, hoth⟩ := bindObj_ok hoth
          cases hoth
          have e0 := HeapExt.alloc s (emptyObj oy.kind oy.ndim oy.cols oa.rows.length)
          obtain ⟨⟨e1, m1⟩, g1⟩ := insertObj_spec n m fuel _ pos y _ r1 _ hr1 (hm.alloc _)
            (ha2 ▸ good_empty s _ _ _ _) ((hb3 y hoB hyo).ext e0)
          exact ⟨⟨e0.trans e1, m1.pop⟩, fun z hz => Option.some.inj hz ▸ g1⟩
        · -- only `a` has it: empty rows for the rows of `b`
          rename_i x hxo hyo
          split at hoth
          · simp at hoth
          rename_i ox hox
          obtain ⟨r1, s1', hr1, hoth⟩ := bindObj_ok hoth
          cases hoth
          have e0 := HeapExt.alloc s (emptyObj ox.kind ox.ndim ox.cols ob.rows.length)
          obtain ⟨⟨e1, m1⟩, g1⟩ := insertObj_spec n m fuel x pos _ _ r1 _ hr1 (hm.alloc _)
            ((ha3 x hoA hxo).ext e0) (hb2 ▸ good_empty s _ _ _ _)
          exact ⟨⟨e0.trans e1, m1.pop⟩, fun z hz => Option.some.inj hz ▸ g1⟩
      obtain ⟨⟨e1, m1⟩, go⟩ := key1
      -- `ref_pos`
      split at h
      · simp at h
      rename_i rp s2 hrp
      have key2 : ExtOK (n + m) s1 s2 ∧ (∀ x, rp = some x → Good s2.heap (n + m) x) := by
        split at hrp
        · cases hrp.symm
          exact ⟨⟨HeapExt.refl _, m1⟩, nofun⟩
        rename_i hdd
        have hdA : oa.kind.isDelta = true := by simpa using hdd
        have hdB : ob.kind.isDelta = true := hkeq ▸ hdA
        split at hrp
        · simp at hrp
        rename_i ra hra
        split at hrp
        · rename_i v hv
          cases hrp.symm
          exact ⟨⟨HeapExt.refl _, m1⟩, fun x hx => Option.some.inj hx ▸ m1.find hv⟩
        split at hrp
        · simp at hrp
        rename_i rb hrb
        obtain ⟨r2, s2', hr2, hrp⟩ := bindObj_ok hrp
        cases hrp
        obtain ⟨⟨e2, m2⟩, g2⟩ := insertObj_spec n m fuel ra pos rb s1 r2 _ hr2 m1
          ((ha4 ra hdA hra).ext e1) ((hb4 rb hdB hrb).ext e1)
        exact ⟨⟨e2, m2.set g2⟩, fun x hx => Option.some.inj hx ▸ g2⟩
      obtain ⟨⟨e2, m2⟩, gr⟩ := key2
      cases h.symm
      have e3 := HeapExt.alloc s2
        { oa with rows := insertAt oa.rows pos (convRows s.conv oa.tag ob), other := oth, refPos := rp }
      have gnew := Good.mk (alloc_get s2 _)
        (show (insertAt oa.rows pos (convRows s.conv oa.tag ob)).length = n + m by
          rw [insertAt_length, convRows_length, ha2, hb2])
        (fun x _ hx => ((go x hx).ext e2).ext e3) (fun x _ hx => (gr x hx).ext e3)
      exact ⟨⟨(e1.trans e2).trans e3, ((m2.alloc _).set gnew).set gnew⟩, gnew⟩
    · simp at h

theorem insertPlain_ok {a pos : Nat} {brows : List Row} {s : St} {r : Nat} {s' : St}
    (h : insertPlain a pos brows s = .ok (r, s')) :
    ∃ oa, s.heap[a]? = some oa ∧ oa.kind.isPlain = true ∧ r = s.heap.length ∧
      s' = (s.alloc { oa with rows := insertAt oa.rows pos brows }).2.set a s.heap.length := by
  simp only [insertPlain] at h
  split at h
  · simp at h
  · rename_i oa hoa
    obtain ⟨hp, h⟩ := guard_ok h
    cases h
    exact ⟨oa, hoa, by simpa using hp, rfl, rfl⟩

theorem insertPlain_spec {n m : Nat} {a pos : Nat} {brows : List Row} {s : St} {r : Nat} {s' : St}
    (h : insertPlain a pos brows s = .ok (r, s')) (hm : MemoGood (n + m) s) (ga : Good s.heap n a)
    (hb : brows.length = m) :
    ExtOK (n + m) s s' ∧ Good s'.heap (n + m) r := by
  obtain ⟨oa, hoa, hp, rfl, rfl⟩ := insertPlain_ok h
  obtain ⟨oa', ha1, ha2, _, _⟩ := ga.dest
  rw [hoa] at ha1; cases ha1
  have hkk := Kind.no_refs_of_plainish (k := oa.kind) (by simp [hp])
  have gnew := Good.mk (alloc_get s { oa with rows := insertAt oa.rows pos brows })
    (show (insertAt oa.rows pos brows).length = n + m by rw [insertAt_length, ha2, hb])
    (fun x hx => by rw [show oa.kind.hasOther = false from hkk.1] at hx; cases hx)
    (fun x hx => by rw [show oa.kind.isDelta = false from hkk.2] at hx; cases hx)
  exact ⟨⟨HeapExt.alloc s _, MemoGood.set (s := (s.alloc _).2) (hm.alloc _) gnew⟩, gnew⟩

theorem insertPlain_rows {a pos : Nat} {brows : List Row} {s : St} {r : Nat} {s' : St}
    (h : insertPlain a pos brows s = .ok (r, s')) :
    ∃ oa orr, s.heap[a]? = some oa ∧ s'.heap[r]? = some orr ∧ orr.rows = insertAt oa.rows pos brows ∧
      orr.kind = oa.kind ∧ orr.ndim = oa.ndim ∧ orr.cols = oa.cols := by
  obtain ⟨oa, hoa, _, rfl, rfl⟩ := insertPlain_ok h
  exact ⟨oa, _, hoa, alloc_get s _, rfl, rfl, rfl, rfl⟩

/-- `insert(a, pos, b, memo)` when the memo knows neither array: the new array is `a` with the rows of `b` spliced in at `pos`,
whatever the attachments came to, registered under `a` and under `b` -/
theorem insertObj_miss {fuel a pos b : Nat} {s : St} {r : Nat} {s' : St}
    (h : insertObj (fuel + 1) a pos b s = .ok (r, s')) (ha : s.find a = none) (hb : s.find b = none) :
    ∃ (oa ob : Obj) (oth rp : Option Nat) (s2 : St), s.heap[a]? = some oa ∧ s.heap[b]? = some ob ∧ r = s2.heap.length ∧
      s' = ((s2.alloc
        { oa with rows := insertAt oa.rows pos (convRows s.conv oa.tag ob), other := oth, refPos := rp }).2.set a r).set b r := by
  simp only [insertObj, ha, hb] at h
  split at h
  · rename_i oa ob hoa hob
    obtain ⟨_, h⟩ := guard_ok h
    split at h
    · simp at h
    · rename_i oth s1 _
      split at h
      · simp at h
      · rename_i rp s2 _
        cases h.symm
        exact ⟨oa, ob, oth, rp, s2, hoa, hob, rfl, rfl⟩
  · simp at h

theorem insertObj_registers {fuel a pos b : Nat} {s : St} {r : Nat} {s' : St}
    (h : insertObj (fuel + 1) a pos b s = .ok (r, s')) (ha : s.find a = none) (hb : s.find b = none) :
    s'.find a = some r ∧ s'.find b = some r := by
  obtain ⟨_, _, _, _, s2, _, _, rfl, rfl⟩ := insertObj_miss h ha hb
  exact ⟨by rw [find_set, find_set]; simp, by rw [find_set]; simp⟩

theorem insertObj_hit_a (fuel a pos b : Nat) (s : St) (r : Nat) (h : s.find a = some r) :
    insertObj (fuel + 1) a pos b s = .ok (r, s) := by
  simp [insertObj, h]

theorem insertObj_hit_b (fuel a pos b : Nat) (s : St) (r : Nat) (ha : s.find a = none) (h : s.find b = some r) :
    insertObj (fuel + 1) a pos b s = .ok (r, s) := by
  simp [insertObj, ha, h]

end Midgard.Dataset
