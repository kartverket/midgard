/-
C20 — the Lagrange interpolator (`interpolation.lagrange`): the product formula of the model identified with Mathlib's
`Lagrange.interpolate` on the window chosen by `startIdx` (the scheme `lagR`: nodes, polynomials of degree below the window
size, linearity; the affine rescaling of the abscissae has no influence), and the whole call of `lagrange`.
-/
import Midgard.Proofs.C20Scheme
import Mathlib.LinearAlgebra.Lagrange

namespace Midgard.Proofs.C20
open Midgard.Numeric

theorem basis_eq_finprod (xw : List Rat) (i : ℕ) (x : ℚ) :
    basis xw i x = ∏ j ∈ (Finset.range xw.length).erase i, (x - xw.getD j 0) / (xw.getD i 0 - xw.getD j 0) := by
  unfold basis
  rw [← List.toFinset_range, ← List.prod_toFinset]
  · congr 1
    ext j
    simp [Finset.mem_erase, and_comm]
  · exact List.nodup_range.filter _

theorem getD_injOn (xw : List Rat) (h : xw.Nodup) :
    Set.InjOn (fun i => xw.getD i 0) (Finset.range xw.length : Finset ℕ) := by
  intro a ha b hb hab
  simp only [Finset.coe_range, Set.mem_Iio] at ha hb
  have hab : xw.getD a 0 = xw.getD b 0 := hab
  rw [Lists.getD_of_lt _ _ _ ha, Lists.getD_of_lt _ _ _ hb] at hab
  exact (List.Nodup.getElem_inj_iff h).mp hab

theorem dot_map_range (n : ℕ) (f g : ℕ → ℚ) :
    dot ((List.range n).map f) ((List.range n).map g) = ∑ i ∈ Finset.range n, f i * g i := by
  unfold dot
  induction n with
  | zero => simp
  | succ n ih =>
    rw [List.range_succ, List.map_append, List.map_append, List.zipWith_append (by simp),
      List.sum_append, ih, Finset.sum_range_succ]
    simp

theorem dot_weights (xw col : List ℚ) (x : ℚ) (h : col.length = xw.length) :
    dot (weights xw x) col = ∑ i ∈ Finset.range xw.length, basis xw i x * col.getD i 0 := by
  have hc := Lists.list_eq_map_range col 0
  rw [h] at hc
  unfold weights
  conv_lhs => rw [hc]
  exact dot_map_range _ _ _

theorem absR_eq_abs (q : ℚ) : absR q = |q| := by
  unfold absR
  split
  · exact (abs_of_neg ‹_›).symm
  · exact (abs_of_nonneg (not_lt.mp ‹_›)).symm

theorem argminAbs_node : ∀ (xs : List ℚ) (k : ℕ), xs.Pairwise (· < ·) → k < xs.length →
    argminAbs xs (xs.getD k 0) = k
  | [], k, _, hk => by simp at hk
  | [a], k, _, hk => by
    simp at hk; subst hk; simp [argminAbs]
  | a :: b :: l, 0, _, _ => by
    simp only [argminAbs, List.getD_cons_zero, sub_self, absR_eq_abs, abs_zero]
    rw [if_neg]
    exact not_lt.mpr (abs_nonneg _)
  | a :: b :: l, k + 1, hp, hk => by
    have hp' := List.pairwise_cons.mp hp
    have ih := argminAbs_node (b :: l) k hp'.2 (by simpa using hk)
    have hx : (a :: b :: l).getD (k + 1) 0 = (b :: l).getD k 0 := by simp
    rw [hx]
    simp only [argminAbs] at ih ⊢
    rw [ih]
    have hlt : a < (b :: l).getD k 0 := getD_mem_lt (a :: b :: l) hp 0 (k + 1) (by omega) hk
    rw [sub_self, absR_eq_abs, absR_eq_abs, abs_zero, if_pos]
    apply abs_pos.mpr
    linarith

theorem basis_map_scale (l : List ℚ) (m s : ℚ) (hs : s ≠ 0) (i : ℕ) (hi : i < l.length) (x : ℚ) :
    basis (l.map (fun v => (v - m) / s)) i ((x - m) / s) = basis l i x := by
  unfold basis
  rw [List.length_map]
  congr 1
  apply List.map_congr_left
  intro j hj
  have hj' : j < l.length := by
    have := (List.mem_filter.mp hj).1
    simpa using this
  rw [Lists.getD_map_of_lt _ _ 0 _ _ hj', Lists.getD_map_of_lt _ _ 0 _ _ hi, ← sub_div, ← sub_div, sub_sub_sub_cancel_right,
    sub_sub_sub_cancel_right, div_div_div_cancel_right₀ hs]

theorem weights_map_scale (l : List ℚ) (m s : ℚ) (hs : s ≠ 0) (x : ℚ) :
    weights (l.map (fun v => (v - m) / s)) ((x - m) / s) = weights l x := by
  unfold weights
  rw [List.length_map]
  apply List.map_congr_left
  intro i hi
  exact basis_map_scale l m s hs i (by simpa using hi) x

theorem combine_length (r : List ℚ) (rows : List (List ℚ)) (dim : ℕ) : (combine r rows dim).length = dim := by
  simp [combine]

theorem combine_getD (r : List ℚ) (rows : List (List ℚ)) (dim c : ℕ) (hc : c < dim) :
    (combine r rows dim).getD c 0 = dot r (rows.map (·.getD c 0)) := by
  simp [combine, List.getD_eq_getElem?_getD, hc]

theorem startIdx_add_le (xs : List ℚ) (w : ℕ) (x : ℚ) (hwn : w ≤ xs.length) :
    startIdx xs w x + w ≤ xs.length := by
  unfold startIdx; omega

theorem startIdx_node (xs : List ℚ) (w k : ℕ) (hp : xs.Pairwise (· < ·)) (hk : k < xs.length)
    (hw : 1 ≤ w) (hwn : w ≤ xs.length) :
    startIdx xs w (xs.getD k 0) ≤ k ∧ k < startIdx xs w (xs.getD k 0) + w := by
  unfold startIdx
  rw [argminAbs_node xs k hp hk]
  omega

theorem lagrangeAt_getD (xs : List ℚ) (rows : List (List ℚ)) (dim w : ℕ) (m s x : ℚ) (c : ℕ) (hc : c < dim) :
    (lagrangeAt xs rows dim w m s x).getD c 0 =
      dot (weights (((xs.drop (startIdx xs w x)).take w).map (fun v => (v - m) / s)) ((x - m) / s))
        (((rows.drop (startIdx xs w x)).take w).map (·.getD c 0)) :=
  combine_getD _ _ dim c hc

theorem dot_weights_eq_interp (xw col : List ℚ) (x : ℚ) (v r : ℕ → ℚ) (h : col.length = xw.length)
    (hv : ∀ i, i < xw.length → xw.getD i 0 = v i) (hr : ∀ i, i < xw.length → col.getD i 0 = r i) :
    dot (weights xw x) col = (Lagrange.interpolate (Finset.range xw.length) v r).eval x := by
  rw [dot_weights xw col x h, Lagrange.interpolate_apply, Polynomial.eval_finsetSum]
  apply Finset.sum_congr rfl
  intro i hi
  have hi' := Finset.mem_range.mp hi
  rw [Polynomial.eval_mul, Polynomial.eval_C, mul_comm, hr i hi', basis_eq_finprod, Lagrange.basis, Polynomial.eval_prod]
  congr 1
  apply Finset.prod_congr rfl
  intro j hj
  rw [hv i hi', hv j (Finset.mem_range.mp (Finset.mem_of_mem_erase hj))]
  simp [Lagrange.basisDivisor, div_eq_mul_inv, mul_comm]

theorem lagrangeAt_unscale (xs : List ℚ) (rows : List (List ℚ)) (dim w : ℕ) (m s x : ℚ) (hs : s ≠ 0) :
    lagrangeAt xs rows dim w m s x = lagrangeAt xs rows dim w 0 1 x := by
  simp only [lagrangeAt, weights_map_scale _ m s hs, weights_map_scale _ 0 1 one_ne_zero]

theorem window_injOn (xs : List ℚ) (hp : xs.Pairwise (· < ·)) (st w : ℕ) (h : st + w ≤ xs.length) :
    Set.InjOn (fun i => xs.getD (st + i) 0) (Finset.range w : Finset ℕ) := by
  intro a ha b hb hab
  simp only [Finset.coe_range, Set.mem_Iio] at ha hb
  have := getD_injOn xs (nodup_of_pairwise_lt xs hp) (x₁ := st + a) (x₂ := st + b) (by simp; omega) (by simp; omega) hab
  omega

/-- Mathlib's interpolant through the `w` samples from `startIdx` on, abscissae rescaled by `(· - m) / s` as the code
does, at the rescaled abscissa -/
def lagR (w : ℕ) (m s : ℚ) : Scheme := fun sx col x v =>
  w ≤ sx.length ∧
  v = (Lagrange.interpolate (Finset.range w) (fun i => (sx.getD (startIdx sx w x + i) 0 - m) / s)
    (fun i => col.getD (startIdx sx w x + i) 0)).eval ((x - m) / s)

theorem lagrangeAt_lagR (xs : List ℚ) (rows : List (List ℚ)) (dim w : ℕ) (m s x : ℚ) (c : ℕ) (hc : c < dim)
    (hwn : w ≤ xs.length) (hlen : rows.length = xs.length) :
    lagR w m s xs (rows.map (·.getD c 0)) x ((lagrangeAt xs rows dim w m s x).getD c 0) := by
  refine ⟨hwn, ?_⟩
  have hstw := startIdx_add_le xs w x hwn
  have hxl := Lists.length_take_drop xs _ w hstw
  have hwl : (((xs.drop (startIdx xs w x)).take w).map (fun v => (v - m) / s)).length = w := by
    rw [List.length_map, hxl]
  rw [lagrangeAt_getD _ _ _ _ _ _ _ _ hc, dot_weights_eq_interp _ _ _ (fun i => (xs.getD (startIdx xs w x + i) 0 - m) / s)
    (fun i => (rows.map (·.getD c 0)).getD (startIdx xs w x + i) 0), hwl]
  · rw [hwl, List.length_map, Lists.length_take_drop _ _ _ (by omega)]
  · intro i hi
    rw [hwl] at hi
    rw [Lists.getD_map_of_lt _ _ 0 _ _ (by rwa [hxl]), Lists.getD_take_drop _ _ _ _ _ hi]
  · intro i hi
    rw [hwl] at hi
    rw [getD_map_col, Lists.getD_take_drop _ _ _ _ _ hi, getD_map_col]

theorem interpolate_rescale (S : Finset ℕ) (v r : ℕ → ℚ) (m s x : ℚ) (hs : s ≠ 0) :
    (Lagrange.interpolate S (fun i => (v i - m) / s) r).eval ((x - m) / s) = (Lagrange.interpolate S v r).eval x := by
  simp only [Lagrange.interpolate_apply, Polynomial.eval_finsetSum, Polynomial.eval_mul, Polynomial.eval_C, Lagrange.basis,
    Polynomial.eval_prod, Lagrange.basisDivisor, Polynomial.eval_sub, Polynomial.eval_X]
  refine Finset.sum_congr rfl fun i _ => congrArg _ (Finset.prod_congr rfl fun j _ => ?_)
  rw [← sub_div, ← sub_div, sub_sub_sub_cancel_right, sub_sub_sub_cancel_right, inv_div, div_mul_div_comm, mul_comm s,
    mul_div_mul_right _ _ hs, div_eq_inv_mul]

/-- the window chosen for a node contains it, so the interpolant takes the sample there -/
theorem lagR_nodes {w : ℕ} {m s : ℚ} (hw : 1 ≤ w) (hs : s ≠ 0) : (lagR w m s).Nodes := by
  intro sx col k v hp hk h
  rw [h.2, interpolate_rescale _ _ _ m s _ hs]
  obtain ⟨hst1, hst2⟩ := startIdx_node sx w k hp hk hw h.1
  have hstw := startIdx_add_le sx w (sx.getD k 0) h.1
  generalize startIdx sx w (sx.getD k 0) = st at *
  obtain ⟨j, rfl⟩ : ∃ j, k = st + j := ⟨k - st, by omega⟩
  exact Lagrange.eval_interpolate_at_node _ (window_injOn sx hp st w hstw) (Finset.mem_range.mpr (by omega))

/-- the interpolant through `w` nodes is unique among polynomials of degree below `w` -/
theorem lagR_exact {w : ℕ} {m s : ℚ} (hs : s ≠ 0) (P : Polynomial ℚ) (hdeg : P.degree < (w : ℕ)) :
    (lagR w m s).Exact (P.eval ·) := by
  intro sx col x v hp hdata h
  rw [h.2, interpolate_rescale _ _ _ m s _ hs]
  have hstw := startIdx_add_le sx w x h.1
  refine congrArg (Polynomial.eval x) (Eq.trans (Lagrange.interpolate_eq_of_values_eq_on _ _ fun i hi => ?_)
    (Lagrange.eq_interpolate (window_injOn sx hp _ w hstw) (by rwa [Finset.card_range])).symm)
  exact hdata _ (by have := Finset.mem_range.mp hi; omega)

theorem interpolate_comb (S : Finset ℕ) (v r₁ r₂ r₃ : ℕ → ℚ) (a b x : ℚ) (h : ∀ i ∈ S, r₃ i = a * r₁ i + b * r₂ i) :
    (Lagrange.interpolate S v r₃).eval x =
      a * (Lagrange.interpolate S v r₁).eval x + b * (Lagrange.interpolate S v r₂).eval x := by
  rw [Lagrange.interpolate_eq_of_values_eq_on _ (a • r₁ + b • r₂) h, map_add, map_smul, map_smul, Polynomial.eval_add,
    Polynomial.eval_smul, Polynomial.eval_smul, smul_eq_mul, smul_eq_mul]

theorem lagR_linear {w : ℕ} {m s : ℚ} : (lagR w m s).Linear := by
  rintro sx c₁ c₂ c₃ a b x v₁ v₂ v₃ hcomb ⟨hwn, rfl⟩ ⟨_, rfl⟩ ⟨_, rfl⟩
  have hstw := startIdx_add_le sx w x hwn
  exact interpolate_comb _ _ _ _ _ a b _ fun i hi => hcomb _ (by have := Finset.mem_range.mp hi; omega)

theorem lagrangeAt_node (xs : List ℚ) (rows : List (List ℚ)) (dim w : ℕ) (m s : ℚ) (k : ℕ)
    (hs : s ≠ 0) (hp : xs.Pairwise (· < ·)) (hk : k < xs.length) (hw : 1 ≤ w) (hwn : w ≤ xs.length)
    (hlen : rows.length = xs.length) :
    lagrangeAt xs rows dim w m s (xs.getD k 0) = (List.range dim).map (fun c => (rows.getD k []).getD c 0) :=
  Lists.eq_map_range_of_getD _ dim _ (combine_length _ _ _) fun c hc => by
    rw [lagR_nodes hw hs xs _ k _ hp hk (lagrangeAt_lagR xs rows dim w m s _ c hc hwn hlen), getD_map_col]

theorem lagrangeAt_poly (xs : List ℚ) (rows : List (List ℚ)) (dim w : ℕ) (m s x : ℚ) (c : ℕ)
    (hs : s ≠ 0) (hp : xs.Pairwise (· < ·)) (hwn : w ≤ xs.length) (hlen : rows.length = xs.length)
    (hc : c < dim) (P : Polynomial ℚ) (hdeg : P.degree < (w : ℕ))
    (hdata : ∀ i, i < xs.length → (rows.getD i []).getD c 0 = P.eval (xs.getD i 0)) :
    (lagrangeAt xs rows dim w m s x).getD c 0 = P.eval x :=
  lagR_exact hs P hdeg xs _ x _ hp (fun k hk => (getD_map_col rows c k).trans (hdata k hk))
    (lagrangeAt_lagR xs rows dim w m s x c hc hwn hlen)

theorem lagrangeAt_returns (xs : List ℚ) (rows : List (List ℚ)) (srt : Bool) (dim w : ℕ) (s : ℚ) (xnew : List ℚ)
    (hl : rows.length = xs.length) (hwn : w ≤ xs.length) :
    Returns (lagR w (mean ((sortIdx xs srt).map (fun t => xs.getD t 0))) s) xs rows srt dim xnew
      (xnew.map (fun x => lagrangeAt ((sortedPairs xs rows srt).map (·.1)) ((sortedPairs xs rows srt).map (·.2)) dim w
        (mean ((sortedPairs xs rows srt).map (·.1))) s x)) := by
  rw [← sortedPairs_fst xs rows srt hl]
  exact Returns.of_map xnew _ hl (fun x => combine_length _ _ _) fun x c hc =>
    lagrangeAt_lagR _ _ dim w _ s _ c hc (by simpa [sortedPairs_length xs rows srt hl] using hwn) (by simp)

theorem lagrange_returns {xs : List ℚ} {rows : List (List ℚ)} {dim w : ℕ} {be srt : Bool} {s : ℚ} {xnew : List ℚ}
    {out : List (List ℚ)} (h : lagrange xs rows dim w be srt s xnew = .ok out) :
    3 ≤ w ∧ Ascending xs srt ∧
      Returns (lagR w (mean ((sortIdx xs srt).map (fun t => xs.getD t 0))) s) xs rows srt dim xnew out := by
  unfold lagrange at h
  obtain ⟨hshape, h⟩ := of_guard_ok h
  obtain ⟨hwindow, h⟩ := of_guard_ok h
  obtain ⟨hshort, h⟩ := of_guard_ok h
  obtain ⟨hinc, h⟩ := of_guard_ok h
  -- the two bounds checks
  obtain ⟨-, h⟩ := of_guard_ok h
  obtain ⟨-, h⟩ := of_guard_ok h
  have hl : rows.length = xs.length := by simpa using hshape
  rw [← Except.ok.inj h]
  exact ⟨by omega, ascending_of_strictInc hl (by simpa [sortedPairs] using hinc),
    lagrangeAt_returns xs rows srt dim w s xnew hl (by omega)⟩

theorem lagrange_computes (xs : List ℚ) (rows : List (List ℚ)) (dim w : ℕ) (be srt : Bool) (s : ℚ) :
    Computes (lagrange xs rows dim w be srt s) (lagR w (mean ((sortIdx xs srt).map (fun t => xs.getD t 0))) s) xs rows srt
      dim :=
  fun _ _ h => (lagrange_returns h).2

theorem lagrange_nodes (xs : List ℚ) (rows : List (List ℚ)) (dim w : ℕ) (be srt : Bool) (s : ℚ)
    (xnew : List ℚ) (out : List (List ℚ)) (h : lagrange xs rows dim w be srt s xnew = .ok out) (hs : s ≠ 0)
    (i j : ℕ) (hi : i < xs.length) (hj : j < xnew.length) (hx : xnew.getD j 0 = xs.getD i 0) :
    out.getD j [] = (List.range dim).map (fun c => (rows.getD i []).getD c 0) := by
  obtain ⟨hw, hp, r⟩ := lagrange_returns h
  exact Lists.eq_map_range_of_getD _ dim _ (r.row_len j hj) fun c hc =>
    r.nodes hp (lagR_nodes (by omega) hs) i j c hi hj hc hx

/-- at every abscissa, also outside the sample range -/
theorem lagrange_poly (xs : List ℚ) (rows : List (List ℚ)) (dim w : ℕ) (be srt : Bool) (s : ℚ)
    (xnew : List ℚ) (out : List (List ℚ)) (h : lagrange xs rows dim w be srt s xnew = .ok out) (hs : s ≠ 0)
    (c : ℕ) (hc : c < dim) (P : Polynomial ℚ) (hdeg : P.degree < (w : ℕ))
    (hdata : ∀ i, i < xs.length → (rows.getD i []).getD c 0 = P.eval (xs.getD i 0))
    (j : ℕ) (hj : j < xnew.length) :
    (out.getD j []).getD c 0 = P.eval (xnew.getD j 0) := by
  obtain ⟨-, hp, r⟩ := lagrange_returns h
  exact r.sends hp (lagR_exact hs P hdeg) c hc hdata j hj

/-- sorted or unsorted input, any scale (also `s = 0`, where the model returns zeros) -/
theorem lagrange_linear (xs : List ℚ) (r₁ r₂ r₃ : List (List ℚ)) (dim w : ℕ) (be srt : Bool) (s : ℚ)
    (xnew : List ℚ) (a b : ℚ) (o₁ o₂ o₃ : List (List ℚ))
    (h₁ : lagrange xs r₁ dim w be srt s xnew = .ok o₁)
    (h₂ : lagrange xs r₂ dim w be srt s xnew = .ok o₂)
    (h₃ : lagrange xs r₃ dim w be srt s xnew = .ok o₃)
    (c : ℕ) (hc : c < dim)
    (hcomb : ∀ i, i < xs.length →
      (r₃.getD i []).getD c 0 = a * (r₁.getD i []).getD c 0 + b * (r₂.getD i []).getD c 0)
    (j : ℕ) (hj : j < xnew.length) :
    (o₃.getD j []).getD c 0 = a * (o₁.getD j []).getD c 0 + b * (o₂.getD j []).getD c 0 := by
  exact (lagrange_returns h₁).2.2.linear (lagrange_returns h₂).2.2 (lagrange_returns h₃).2.2 lagR_linear a b c hc
    hcomb j hj

end Midgard.Proofs.C20
