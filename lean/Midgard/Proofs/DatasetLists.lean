/-
C09 — the array-level primitives of `Model/Dataset.lean` / `Model/DatasetOps.lean` on plain lists, no heap: NumPy row
selection (`pick`), `np.insert` (`insertAt`), the stable argsort of `merge_with`, and the order of key tuples with
`np.intersect1d` (`commonKeys`) of `difference`.  At the top: how a successful guard and a successful first step of the
model's error monad are read (`guard_ok`, `bindObj_ok`, `bindHeap_ok`).
-/
import Midgard.Model.DatasetOps

namespace Midgard.Dataset

/-! ### the error monad, written out

The model spells `if bad then throw e else k` and `x ← r; k x` out as `if` and `match`.  A successful run passed the
guard and had a successful first step.  (The `match` of the model is a function of the type of `r`, so the second fact is
stated per result type: an array with the memo, an array on the bare heap.) -/

theorem guard_ok {α} {c : Prop} [Decidable c] {e : Err} {x : M α} {y : α}
    (h : (if c then Except.error e else x) = .ok y) : ¬ c ∧ x = .ok y := by
  by_cases hc : c
  · rw [if_pos hc] at h; cases h
  · rw [if_neg hc] at h; exact ⟨hc, h⟩

theorem bindObj_ok {β} {r : M (Nat × St)} {f : Nat → St → M β} {y : β}
    (h : (match r with | .error e => Except.error e | .ok (a, s) => f a s) = .ok y) :
    ∃ a s, r = .ok (a, s) ∧ f a s = .ok y := by
  cases r with
  | error e => cases h
  | ok p => exact ⟨p.1, p.2, rfl, h⟩

theorem bindHeap_ok {β} {r : M (Nat × Heap)} {f : Nat → Heap → M β} {y : β}
    (h : (match r with | .error e => Except.error e | .ok (a, h') => f a h') = .ok y) :
    ∃ a h', r = .ok (a, h') ∧ f a h' = .ok y := by
  cases r with
  | error e => cases h
  | ok p => exact ⟨p.1, p.2, rfl, h⟩

theorem pickMask_length {α} : ∀ (m : List Bool) (xs : List α), m.length = xs.length →
    (pickMask m xs).length = (m.filter id).length
  | [], [], _ => by simp [pickMask]
  | [], _ :: _, h => by simp at h
  | _ :: _, [], h => by simp at h
  | b :: bs, x :: xs, h => by
    have ih := pickMask_length bs xs (by simpa using h)
    cases b <;> simp [pickMask, ih]

theorem pickInts_length {α} (xs : List α) : ∀ (is : List Int) (r : List α),
    pickInts xs is = some r → r.length = is.length
  | [], r, h => by simp [pickInts] at h; simp [← h]
  | i :: is, r, h => by
    simp only [pickInts] at h
    split at h
    · simp at h
    · split at h
      · rename_i x r' _ hr
        simp at h
        have := pickInts_length xs is r' hr
        simp [← h, this]
      · simp at h

theorem pick_mask_ok {α} {m : List Bool} {xs r : List α} (h : pick (.mask m) xs = .ok r) :
    m.length = xs.length ∧ r = pickMask m xs := by
  simp only [pick] at h
  split at h
  · rename_i hl
    exact ⟨hl, (Except.ok.inj h).symm⟩
  · simp at h

theorem pick_ints_ok {α} {is : List Int} {xs r : List α} (h : pick (.ints is) xs = .ok r) : pickInts xs is = some r := by
  simp only [pick] at h
  split at h
  · rename_i r' hr
    rw [hr, Except.ok.inj h]
  · simp at h

theorem pick_length {α} (idx : Index) (xs r : List α) (h : pick idx xs = .ok r) : r.length = idx.count := by
  cases idx with
  | mask m =>
    obtain ⟨hl, rfl⟩ := pick_mask_ok h
    simp [Index.count, pickMask_length m xs hl]
  | ints is => simp [Index.count, pickInts_length xs is r (pick_ints_ok h)]

theorem pickInts_isSome_of_length {α β} (xs : List α) (ys : List β) (hl : xs.length = ys.length) :
    ∀ (is : List Int) (r : List α), pickInts xs is = some r → ∃ r', pickInts ys is = some r'
  | [], _, _ => ⟨[], by simp [pickInts]⟩
  | i :: is, r, h => by
    simp only [pickInts] at h ⊢
    rw [← hl]
    split at h
    · simp at h
    · rename_i k hk
      split at h
      · rename_i x r' hx hr
        obtain ⟨r'', hr''⟩ := pickInts_isSome_of_length xs ys hl is r' hr
        have hk' : k < ys.length := by
          have : k < xs.length := by
            rcases Nat.lt_or_ge k xs.length with h' | h'
            · exact h'
            · simp [List.getElem?_eq_none h'] at hx
          omega
        simp [hr'', List.getElem?_eq_getElem hk']
      · simp at h

theorem pick_ok_of_length {α β} (idx : Index) (xs : List α) (ys : List β) (hl : xs.length = ys.length)
    (r : List α) (h : pick idx xs = .ok r) : ∃ r', pick idx ys = .ok r' := by
  cases idx with
  | mask m =>
    simp only [pick] at h ⊢
    split at h
    · rename_i hm; simp [← hl, hm]
    · simp at h
  | ints is =>
    simp only [pick] at h ⊢
    split at h
    · rename_i r' hr
      obtain ⟨r'', hr''⟩ := pickInts_isSome_of_length xs ys hl is r' hr
      simp [hr'']
    · simp at h

theorem pickMask_sublist {α} : ∀ (m : List Bool) (xs : List α), (pickMask m xs).Sublist xs
  | [], xs => by simp [pickMask]
  | _ :: _, [] => by simp [pickMask]
  | b :: bs, x :: xs => by
    cases b
    · exact (pickMask_sublist bs xs).cons x
    · exact (pickMask_sublist bs xs).cons_cons x

theorem pickMask_eq_zip_filter {α} : ∀ (m : List Bool) (xs : List α),
    pickMask m xs = ((m.zip xs).filter (fun p => p.1)).map (·.2)
  | [], xs => by simp [pickMask]
  | _ :: _, [] => by simp [pickMask]
  | b :: bs, x :: xs => by
    have ih := pickMask_eq_zip_filter bs xs
    cases b <;> simp [pickMask, ih]

theorem pickInts_get {α} (xs : List α) : ∀ (is : List Int) (r : List α), pickInts xs is = some r →
    ∀ k (hk : k < is.length), ∃ j, normIdx xs.length is[k] = some j ∧ r[k]? = xs[j]?
  | [], _, _, k, hk => by simp at hk
  | i :: is, r, h, k, hk => by
    simp only [pickInts] at h
    split at h
    · simp at h
    · rename_i j hj
      split at h
      · rename_i x r' hx hr
        simp only [Option.some.injEq] at h
        subst h
        cases k with
        | zero => exact ⟨j, by simpa using hj, by simp [hx]⟩
        | succ k =>
          have hk' : k < is.length := by simpa using hk
          obtain ⟨j', hj', hr'⟩ := pickInts_get xs is r' hr k hk'
          exact ⟨j', by simpa using hj', by simpa using hr'⟩
      · simp at h

theorem normIdx_ofNat (n i : Nat) : normIdx n (Int.ofNat i) = if i < n then some i else none := by
  simp only [normIdx, Int.ofNat_eq_natCast]
  by_cases h : i < n
  · have h1 : (0 : Int) ≤ (i : Int) ∧ (i : Int) < (n : Int) := ⟨by omega, by omega⟩
    rw [if_pos h1, if_pos h]; simp
  · have h1 : ¬ ((0 : Int) ≤ (i : Int) ∧ (i : Int) < (n : Int)) := by omega
    have h2 : ¬ (-(n : Int) ≤ (i : Int) ∧ (i : Int) < 0) := by omega
    rw [if_neg h1, if_neg h2, if_neg h]

theorem pickInts_ofNat {α} (xs : List α) (is : List Nat) (r : List α) (h : pickInts xs (is.map Int.ofNat) = some r) :
    r.length = is.length ∧ ∀ k (hk : k < is.length), r[k]? = xs[is[k]]? ∧ is[k] < xs.length := by
  refine ⟨by rw [pickInts_length xs _ r h, List.length_map], fun k hk => ?_⟩
  obtain ⟨j, hj, hr⟩ := pickInts_get xs _ r h k (by rw [List.length_map]; exact hk)
  rw [List.getElem_map, normIdx_ofNat] at hj
  split at hj
  · cases hj
    exact ⟨hr, by assumption⟩
  · cases hj

theorem pick_nats {α} (is : List Nat) (xs r : List α) (h : pick (.ints (is.map Int.ofNat)) xs = .ok r) :
    r.length = is.length ∧ ∀ k (hk : k < is.length), r[k]? = xs[is[k]]? ∧ is[k] < xs.length :=
  pickInts_ofNat xs is r (pick_ints_ok h)

theorem pickMask_all_true {α} : ∀ (xs : List α), pickMask (List.replicate xs.length true) xs = xs
  | [] => by simp [pickMask]
  | x :: xs => by simp [List.replicate_succ, pickMask, pickMask_all_true xs]

/-- the all-true mask is the index `Dataset.difference` uses without `index_by` -/
theorem pick_mask_all {α} (n : Nat) (xs r : List α) (h : pick (.mask (List.replicate n true)) xs = .ok r) :
    r = xs ∧ xs.length = n := by
  obtain ⟨hl, rfl⟩ := pick_mask_ok h
  simp only [List.length_replicate] at hl
  subst hl
  exact ⟨pickMask_all_true xs, rfl⟩

theorem count_mask_true (n : Nat) : (Index.mask (List.replicate n true)).count = n := by
  simp [Index.count]

theorem insertAt_length {α} (a b : List α) (pos : Nat) : (insertAt a pos b).length = a.length + b.length := by
  simp [insertAt]; omega

theorem insertAt_end {α} (a b : List α) : insertAt a a.length b = a ++ b := by
  simp [insertAt]

theorem insertAt_zero {α} (a b : List α) : insertAt a 0 b = b ++ a := by
  simp [insertAt]

theorem Scalar.le_total (a b : Scalar) : a.le b = true ∨ b.le a = true := by
  cases a <;> cases b <;> simp [Scalar.le, Scalar.rank]
  · exact Rat.le_total
  · exact String.le_total _ _
  · rename_i x y; cases x <;> cases y <;> simp

theorem Scalar.le_trans {a b c : Scalar} (h1 : a.le b = true) (h2 : b.le c = true) : a.le c = true := by
  -- (the impossible pairs `a`, `b` go before `c` is split)
  cases a <;> cases b <;> simp [Scalar.le, Scalar.rank] at h1 <;> cases c <;> simp [Scalar.le, Scalar.rank] at h2 ⊢
  · exact Rat.le_trans h1 h2
  · exact String.le_trans h1 h2
  · rename_i x y z; cases x <;> cases y <;> cases z <;> simp_all

theorem insertStable_perm (key : Nat → Scalar) (i : Nat) : ∀ l : List Nat, (insertStable key i l).Perm (i :: l)
  | [] => by simp [insertStable]
  | j :: js => by
    simp only [insertStable]
    split
    · exact ((insertStable_perm key i js).cons j).trans (List.Perm.swap i j js)
    · exact List.Perm.refl _

def SortedBy (key : Nat → Scalar) : List Nat → Prop
  | [] => True
  | [_] => True
  | a :: b :: rest => (key a).le (key b) = true ∧ SortedBy key (b :: rest)

theorem SortedBy.tail {key : Nat → Scalar} {a : Nat} {l : List Nat} (h : SortedBy key (a :: l)) : SortedBy key l := by
  cases l with
  | nil => trivial
  | cons b rest => exact h.2

theorem sortedBy_cons {key : Nat → Scalar} {a : Nat} {l : List Nat}
    (hl : SortedBy key l) (ha : ∀ b, l.head? = some b → (key a).le (key b) = true) : SortedBy key (a :: l) := by
  cases l with
  | nil => trivial
  | cons b rest => exact ⟨ha b rfl, hl⟩

theorem insertStable_head (key : Nat → Scalar) (i : Nat) : ∀ l : List Nat, ∀ b,
    (insertStable key i l).head? = some b → b = i ∨ l.head? = some b
  | [], b, h => by simp [insertStable] at h; exact Or.inl h.symm
  | j :: js, b, h => by
    simp only [insertStable] at h
    split at h
    · simp at h; exact Or.inr (by simp [h])
    · simp at h; exact Or.inl h.symm

theorem insertStable_sorted (key : Nat → Scalar) (i : Nat) : ∀ l : List Nat, SortedBy key l →
    SortedBy key (insertStable key i l)
  | [], _ => by simp [insertStable, SortedBy]
  | j :: js, h => by
    simp only [insertStable]
    split
    · rename_i hji
      apply sortedBy_cons (insertStable_sorted key i js h.tail)
      intro b hb
      rcases insertStable_head key i js b hb with rfl | hb'
      · exact hji
      · cases js with
        | nil => simp at hb'
        | cons c rest =>
          simp at hb'; subst hb'
          exact h.1
    · rename_i hji
      refine ⟨?_, h⟩
      rcases Scalar.le_total (key i) (key j) with h' | h'
      · exact h'
      · exact absurd h' hji

/-- the row numbers of equal-key rows keep their relative order: the sorted list, restricted to
any key value, is increasing.  Stated through the invariant "a larger row number with a key ≤
never precedes": for `a` before `b` in the result with `key b ≤ key a`, `a < b`. -/
def StableBy (key : Nat → Scalar) (l : List Nat) : Prop :=
  List.Pairwise (fun a b => (key b).le (key a) = true → a < b) l

theorem insertStable_stable (key : Nat → Scalar) (i : Nat) : ∀ l : List Nat,
    StableBy key l → (∀ a ∈ l, a < i) → SortedBy key l → StableBy key (insertStable key i l)
  | [], _, _, _ => by simp [insertStable, StableBy]
  | j :: js, hs, hlt, hsorted => by
    simp only [insertStable]
    have hs' : StableBy key js := (List.pairwise_cons.mp hs).2
    have hj : ∀ b ∈ js, (key b).le (key j) = true → j < b := (List.pairwise_cons.mp hs).1
    split
    · rename_i hji
      refine List.pairwise_cons.mpr ⟨?_, insertStable_stable key i js hs' (fun a ha => hlt a (by simp [ha])) hsorted.tail⟩
      intro b hb hle
      have : b ∈ i :: js := (insertStable_perm key i js).subset hb
      rcases List.mem_cons.mp this with rfl | hb'
      · exact hlt j (by simp)
      · exact hj b hb' hle
    · rename_i hji
      refine List.pairwise_cons.mpr ⟨?_, hs⟩
      intro b hb hle
      -- `i` goes in front of `j` only when `key j ≤ key i` fails; every later element has a key ≥ key j
      exfalso
      rcases List.mem_cons.mp hb with rfl | hb'
      · exact hji hle
      · -- key j ≤ key b (sorted) and key b ≤ key i, so key j ≤ key i
        have hjb : (key j).le (key b) = true := by
          clear hle hb hs hlt hs' hj hji
          induction js generalizing j with
          | nil => simp at hb'
          | cons c rest ih =>
            rcases List.mem_cons.mp hb' with rfl | hin
            · exact hsorted.1
            · exact Scalar.le_trans hsorted.1 (ih c hsorted.2 hin)
        exact hji (Scalar.le_trans hjb hle)

theorem foldl_insertStable (key : Nat → Scalar) : ∀ (n : Nat),
    let r := (List.range n).foldl (fun acc i => insertStable key i acc) []
    r.Perm (List.range n) ∧ SortedBy key r ∧ StableBy key r
  | 0 => by simp [SortedBy, StableBy]
  | n + 1 => by
    have ih := foldl_insertStable key n
    simp only [List.range_succ, List.foldl_append, List.foldl_cons, List.foldl_nil] at ih ⊢
    obtain ⟨hp, hs, hst⟩ := ih
    refine ⟨?_, insertStable_sorted key n _ hs, insertStable_stable key n _ hst ?_ hs⟩
    · exact (insertStable_perm key n _).trans ((hp.cons n).trans (List.perm_append_singleton n _).symm)
    · intro a ha
      have := hp.subset ha
      simpa using this

theorem argsortStable_perm (keys : List Scalar) : (argsortStable keys).Perm (List.range keys.length) :=
  (foldl_insertStable _ keys.length).1

theorem argsortStable_sorted (keys : List Scalar) :
    SortedBy (fun i => keys.getD i .nan) (argsortStable keys) :=
  (foldl_insertStable _ keys.length).2.1

theorem argsortStable_stable (keys : List Scalar) :
    StableBy (fun i => keys.getD i .nan) (argsortStable keys) :=
  (foldl_insertStable _ keys.length).2.2

theorem Scalar.le_antisymm {a b : Scalar} (h1 : a.le b = true) (h2 : b.le a = true) : a = b := by
  cases a <;> cases b <;> simp_all [Scalar.le, Scalar.rank]
  · exact Rat.le_antisymm h1 h2
  · exact String.le_antisymm h1 h2
  · rename_i x y; cases x <;> cases y <;> simp_all

theorem keyLe_total : ∀ (a b : Key), keyLe a b = true ∨ keyLe b a = true
  | [], _ => Or.inl (by simp [keyLe])
  | _ :: _, [] => Or.inr (by simp [keyLe])
  | x :: xs, y :: ys => by
    simp only [keyLe]
    by_cases hxy : x = y
    · subst hxy; simp only [beq_self_eq_true, if_true]; exact keyLe_total xs ys
    · have h1 : (x == y) = false := by simpa using hxy
      have h2 : (y == x) = false := by simpa using (Ne.symm hxy)
      simp only [h1, h2, Bool.false_eq_true, if_false]
      exact Scalar.le_total x y

theorem keyLe_antisymm : ∀ (a b : Key), keyLe a b = true → keyLe b a = true → a = b
  | [], [], _, _ => rfl
  | [], _ :: _, _, h2 => by simp [keyLe] at h2
  | _ :: _, [], h1, _ => by simp [keyLe] at h1
  | x :: xs, y :: ys, h1, h2 => by
    simp only [keyLe] at h1 h2
    by_cases hxy : x = y
    · subst hxy
      simp only [beq_self_eq_true, if_true] at h1 h2
      rw [keyLe_antisymm xs ys h1 h2]
    · have e1 : (x == y) = false := by simpa using hxy
      have e2 : (y == x) = false := by simpa using (Ne.symm hxy)
      simp only [e1, e2, Bool.false_eq_true, if_false] at h1 h2
      exact absurd (Scalar.le_antisymm h1 h2) hxy

theorem keyLe_trans : ∀ (a b c : Key), keyLe a b = true → keyLe b c = true → keyLe a c = true
  | [], _, _, _, _ => by simp [keyLe]
  | _ :: _, [], _, h1, _ => by simp [keyLe] at h1
  | _ :: _, _ :: _, [], _, h2 => by simp [keyLe] at h2
  | x :: xs, y :: ys, z :: zs, h1, h2 => by
    simp only [keyLe] at h1 h2 ⊢
    by_cases hxy : x = y
    · subst hxy
      rw [if_pos (beq_self_eq_true _)] at h1
      by_cases hxz : (x == z) = true
      · rw [if_pos hxz] at h2 ⊢
        exact keyLe_trans xs ys zs h1 h2
      · rw [if_neg hxz] at h2 ⊢
        exact h2
    · rw [if_neg (by simpa using hxy)] at h1
      by_cases hyz : y = z
      · subst hyz
        rw [if_neg (by simpa using hxy)]
        exact h1
      · rw [if_neg (by simpa using hyz)] at h2
        split
        · rename_i hxz
          exact absurd (Scalar.le_antisymm h1 (eq_of_beq hxz ▸ h2)) hxy
        · exact Scalar.le_trans h1 h2

def KeyLt (a b : Key) : Prop := keyLe a b = true ∧ a ≠ b

theorem KeyLt.trans {a b c : Key} (h1 : KeyLt a b) (h2 : KeyLt b c) : KeyLt a c := by
  refine ⟨keyLe_trans a b c h1.1 h2.1, ?_⟩
  intro hac
  subst hac
  exact h1.2 (keyLe_antisymm a b h1.1 h2.1)

theorem mem_insertKey (k : Key) : ∀ (l : List Key) (y : Key), y ∈ insertKey k l ↔ y = k ∨ y ∈ l
  | [], y => by simp [insertKey]
  | x :: xs, y => by
    simp only [insertKey]
    split
    · rename_i hkx
      have : k = x := by simpa using hkx
      subst this
      simp
    · split
      · simp
      · simp only [List.mem_cons, mem_insertKey k xs y]
        constructor
        · rintro (h | h | h)
          · exact Or.inr (Or.inl h)
          · exact Or.inl h
          · exact Or.inr (Or.inr h)
        · rintro (h | h | h)
          · exact Or.inr (Or.inl h)
          · exact Or.inl h
          · exact Or.inr (Or.inr h)

theorem insertKey_sorted (k : Key) : ∀ (l : List Key), l.Pairwise KeyLt → (insertKey k l).Pairwise KeyLt
  | [], _ => by simp [insertKey]
  | x :: xs, hp => by
    simp only [insertKey]
    have hp' := List.pairwise_cons.mp hp
    split
    · exact hp
    · rename_i hkx
      have hne : k ≠ x := by simpa using hkx
      split
      · rename_i hle
        have hkx' : KeyLt k x := ⟨hle, hne⟩
        exact List.pairwise_cons.mpr ⟨fun y hy => by
          rcases List.mem_cons.mp hy with rfl | hy
          · exact hkx'
          · exact hkx'.trans (hp'.1 y hy), hp⟩
      · rename_i hnle
        have hxk : KeyLt x k := by
          rcases keyLe_total k x with h | h
          · exact absurd h hnle
          · exact ⟨h, fun e => hne e.symm⟩
        refine List.pairwise_cons.mpr ⟨fun y hy => ?_, insertKey_sorted k xs hp'.2⟩
        rcases (mem_insertKey k xs y).mp hy with rfl | hy
        · exact hxk
        · exact hp'.1 y hy

theorem mem_sortDedup : ∀ (ks : List Key) (y : Key), y ∈ sortDedup ks ↔ y ∈ ks
  | [], y => by simp [sortDedup]
  | k :: ks, y => by
    have ih := mem_sortDedup ks y
    simp only [sortDedup, List.foldr_cons] at ih ⊢
    rw [mem_insertKey, ih]
    simp

theorem sortDedup_sorted : ∀ (ks : List Key), (sortDedup ks).Pairwise KeyLt
  | [] => by simp [sortDedup]
  | k :: ks => by
    have ih := sortDedup_sorted ks
    simp only [sortDedup, List.foldr_cons] at ih ⊢
    exact insertKey_sorted k _ ih

/-- the common keys of `A` and `B` in ascending order, without repetition -/
def commonKeys (A B : List Key) : List Key := (sortDedup A).filter (fun k => B.contains k)

theorem commonKeys_sorted (A B : List Key) : (commonKeys A B).Pairwise KeyLt :=
  (sortDedup_sorted A).filter _

theorem mem_commonKeys (A B : List Key) (k : Key) : k ∈ commonKeys A B ↔ k ∈ A ∧ k ∈ B := by
  simp [commonKeys, mem_sortDedup]

theorem intersectKeys_eq (A B : List Key) :
    intersectKeys A B = (commonKeys A B).map (fun k => (A.idxOf k, B.idxOf k)) := rfl

end Midgard.Dataset
