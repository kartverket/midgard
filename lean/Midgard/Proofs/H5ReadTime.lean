/-
C10 — `Dataset.read` for the model with the `time` attribute of positions.  `_read` of one array group (`readArrX`): the read
memo as a growing partial injection old object ↦ new object, also carrying the `time` of the new objects (`RInvX`, built on
`RInv`; `readArrX_step`).  So `readArrX` / `readFieldX` are readers in the sense of `Proofs/H5ReadFields.lean` /
`Proofs/H5ReadLoops.lean`.
-/
import Midgard.Proofs.H5ReadLoops

namespace Midgard.H5
open Midgard.Dataset

def IsTime (h : Heap) (z : Nat) : Prop := ∃ tb, h[z]? = some tb ∧ tb.kind = .time

/-- `HeapWF`, and what is attached as `time` is a time object; the write side needs only `HeapX` (`Proofs/H5WriteArr.lean`) -/
structure HeapWFX (h : Heap) (tm : TM) : Prop where
  wf : HeapWF h
  tmOK : ∀ o t, tmE h tm o = some t → IsTime h t

theorem IsTime.registers {h : Heap} {z : Nat} (t : IsTime h z) : Registers h z := by
  obtain ⟨tb, h1, h2⟩ := t
  exact ⟨tb, h1, by simp [Kind.registers, h2]⟩

structure RInvX (h : Heap) (tm : TM) (file : File) (ρ : Rho) (s : RSt) : Prop where
  lt : ∀ x n, ρ.lookup x = some n → n < s.heap.length
  inj : ∀ x x' n, ρ.lookup x = some n → ρ.lookup x' = some n → x = x'
  img : ∀ x n, ρ.lookup x = some n → ∃ ob r', h[x]? = some ob ∧ s.heap[n]? = some (ob.strip.withRef r') ∧ RefRel ρ ob.ref r' ∧
    RefRel ρ (tmE h tm x) (tmOf s.tm n)
  memo : ∀ q n, s.memo.lookup q = some n → ∃ g, lookupGrp file.groups q = some g ∧ ρ.lookup g.src = some n
  reg : ∀ x n, ρ.lookup x = some n → Registers h x → ∀ q g, lookupGrp file.groups q = some g → g.isArr = true →
    g.src = x → s.memo.lookup q = some n
  tmlen : s.tm.length = s.heap.length

theorem RInvX.toR {h : Heap} {tm : TM} {file : File} {ρ : Rho} {s : RSt} (inv : RInvX h tm file ρ s) : RInv h file ρ s :=
  ⟨inv.lt, inv.inj, fun x n hx => let ⟨ob, r', h1, h2, h3, _⟩ := inv.img x n hx; ⟨ob, r', h1, h2, h3⟩, inv.memo, inv.reg⟩

theorem RInvX.tmRel {h : Heap} {tm : TM} {file : File} {ρ : Rho} {s : RSt} (inv : RInvX h tm file ρ s) (x n : Nat)
    (hx : ρ.lookup x = some n) : RefRel ρ (tmE h tm x) (tmOf s.tm n) :=
  let ⟨_, _, _, _, _, h4⟩ := inv.img x n hx; h4

theorem RInvX.of {h : Heap} {tm : TM} {file : File} {ρ : Rho} {s : RSt} (inv : RInv h file ρ s)
    (htm : ∀ x n, ρ.lookup x = some n → RefRel ρ (tmE h tm x) (tmOf s.tm n)) (hlen : s.tm.length = s.heap.length) :
    RInvX h tm file ρ s :=
  ⟨inv.lt, inv.inj, fun x n hx => let ⟨ob, r', h1, h2, h3⟩ := inv.img x n hx; ⟨ob, r', h1, h2, h3, htm x n hx⟩, inv.memo, inv.reg,
    hlen⟩

theorem RInvX.empty (h : Heap) (tm : TM) (file : File) : RInvX h tm file [] {} :=
  .of (RInv.empty h file) (fun x n hx => by simp [List.lookup] at hx) rfl

theorem RInvX.set {h : Heap} {tm : TM} {file : File} {ρ : Rho} {s : RSt} (inv : RInvX h tm file ρ s) {q : Path} {g : Grp} {n : Nat}
    (hl : lookupGrp file.groups q = some g) (hr : ρ.lookup g.src = some n) : RInvX h tm file ρ (s.set q n) :=
  .of (inv.toR.set hl hr) inv.tmRel inv.tmlen

theorem RInvX.above (h : Heap) (tm : TM) (file : File) : InvAbove h file (RInvX h tm file) :=
  ⟨fun inv => inv.toR, fun inv hl hr => inv.set hl hr⟩

theorem tmOf_append_left (l : TM) (t : Option Nat) {n : Nat} (hn : n < l.length) : tmOf (l ++ [t]) n = tmOf l n := by
  simp [tmOf, List.getElem?_append_left hn]

theorem tmOf_append_self (l : TM) (t : Option Nat) : tmOf (l ++ [t]) l.length = t := by
  simp [tmOf]

theorem RInvX.alloc {h : Heap} {tm : TM} {file : File} {ρ : Rho} {s : RSt} (fo : FileOKX h tm file) (inv : RInvX h tm file ρ s)
    {x : Nat} {ob : Obj} {r' t' : Option Nat} {q : Path} {g : Grp} (hx : ρ.lookup x = none) (hob : h[x]? = some ob)
    (hrr : RefRel ρ ob.ref r') (htr : RefRel ρ (tmE h tm x) t')
    (hl : lookupGrp file.groups q = some g) (ha : g.isArr = true) (hs : g.src = x)
    {s' : RSt} (hheap : s'.heap = s.heap ++ [ob.strip.withRef r']) (htm : s'.tm = s.tm ++ [t'])
    (hmemo : s'.memo = s.memo ∨ s'.memo = (q, s.heap.length) :: s.memo)
    (hreg : ob.kind.registers = true → s'.memo = (q, s.heap.length) :: s.memo) :
    RInvX h tm file ((x, s.heap.length) :: ρ) s' := by
  have hext : Ext ρ ((x, s.heap.length) :: ρ) := Ext.cons _ hx
  refine .of (RInv.alloc fo.arrs inv.toR hx hob hrr hl ha hs hheap hmemo hreg) (fun z n hz => ?_) ?_
  · rw [Lists.lookup_cons_ite] at hz
    rw [htm]
    split at hz
    · next hzx =>
      cases hz
      have : tmOf (s.tm ++ [t']) s.heap.length = t' := inv.tmlen ▸ tmOf_append_self s.tm t'
      rw [this, hzx]
      exact htr.mono hext
    · rw [tmOf_append_left _ _ (by rw [inv.tmlen]; exact inv.lt z n hz)]
      exact (inv.tmRel z n hz).mono hext
  · rw [htm, hheap, List.length_append, List.length_append, inv.tmlen]
    rfl

/-- enough fuel to read the array group of object `x`: one step for an object without attributes, else one step per older
object plus one for a `time` -/
def FuelOK (h : Heap) (x fuel : Nat) : Prop :=
  (∃ ob, h[x]? = some ob ∧ attrName ob.kind = none ∧ 1 ≤ fuel) ∨ x + 2 ≤ fuel

/-- the objects that reading the array group of `x` may allocate besides `x`: registering ones, older than `x` or times
(a time need not be older than what it is attached to, hence the second clause; a time `x` itself has no attribute) -/
def Under (h : Heap) (x z : Nat) : Prop := Registers h z ∧ ((z < x ∧ ¬ IsTime h x) ∨ IsTime h z)

theorem Under.of_attached {h : Heap} {self y : Nat} (hreg : Registers h y) (hy : y < self ∨ IsTime h y)
    (hself : ¬ IsTime h self) : Under h self y ∧ ∀ z, Under h y z → Under h self z := by
  refine ⟨⟨hreg, hy.imp_left fun hlt => ⟨hlt, hself⟩⟩, fun z ⟨hz1, hz2⟩ => ⟨hz1, ?_⟩⟩
  rcases hz2 with ⟨hz2, hynt⟩ | hz2
  · rcases hy with hys | hys
    · exact Or.inl ⟨by omega, hself⟩
    · exact absurd hys hynt
  · exact Or.inr hz2

theorem Under.irrefl {h : Heap} {x : Nat} (hx : ¬ IsTime h x) : ¬ Under h x x :=
  fun u => u.2.elim (fun hlt => Nat.lt_irrefl _ hlt.1) hx

theorem attrName_none_not_hasOther {k : Kind} (h : attrName k = none) : k.hasOther = false := by
  cases hk : k.hasOther with
  | false => rfl
  | true => rw [attrName_of_hasOther hk] at h; cases h

theorem not_isTime_of_attr {h : Heap} {x : Nat} {ob : Obj} {nm : String} (hob : h[x]? = some ob)
    (hat : attrName ob.kind = some nm) : ¬ IsTime h x := by
  rintro ⟨tb, htb, hk⟩
  rw [hob] at htb
  cases htb
  rw [attrName_of_time hk] at hat
  cases hat

theorem readArrX_step (h : Heap) (tm : TM) (file : File) (hh : HeapWFX h tm) (fo : FileOKX h tm file) :
    ∀ (fuel : Nat), ArrStep h file (RInvX h tm file) (readArrX file fuel) (fun x => FuelOK h x fuel) (Under h)
  | 0 => by
    intro q g s ρ _ _ _ hf _
    rcases hf with ⟨_, _, _, hf⟩ | hf <;> omega
  | fuel + 1 => by
    intro q g s ρ inv hl ha hf hx
    have IH := readArrX_step h tm file hh fo fuel
    obtain ⟨a, ob, subs, rfl, hob, hfn, hcase⟩ := fo.node q _ hl ha
    simp only [Grp.src_mk] at hf hx ⊢
    cases hat : attrName ob.kind with
    | none =>
      have hrn : ob.ref = none := ref_none_of_attrName_none hat
      have htn : tmE h tm a.src = none := by simp [tmE, hob, attrName_none_not_hasOther hat]
      have hinv := RInvX.alloc (s' := if ob.kind == .time || ob.kind == .timeDelta
          then ((allocX s ob.strip none).2).set a.fieldname s.heap.length else (allocX s ob.strip none).2)
        fo inv hx hob (r' := none) (t' := none) (hrr := by rw [hrn]; rfl) (htr := by rw [htn]; rfl) hl ha rfl
        (hheap := by rw [strip_withRef_none]; split <;> rfl)
        (htm := by split <;> rfl)
        (hmemo := by rw [hfn]; split <;> simp [RSt.set, allocX])
        (hreg := by
          intro hr
          rw [registers_plain hat] at hr
          rw [hfn]; simp [hr, RSt.set, allocX])
      refine ⟨s.heap.length, _, (a.src, s.heap.length) :: ρ, ?_, hinv, ?_, .alloc _ hx ?_ (Or.inl rfl)⟩
      · simp only [readArrX, strip_kind, hat, allocX]
        rfl
      · exact List.lookup_cons_self
      · split
        · exact MemoMono.set (allocX s ob.strip none).2 _ _
        · exact MemoMono.refl s
    | some nm =>
      rw [hat] at hcase
      obtain ⟨hsf1, hsf2⟩ := hcase
      have hselfNT : ¬ IsTime h a.src := not_isTime_of_attr hob hat
      have hfu : a.src + 2 ≤ fuel + 1 := by
        rcases hf with ⟨ob', hob', hn, _⟩ | hf
        · rw [hob] at hob'; cases hob'; rw [hat] at hn; cases hn
        · exact hf
      have slot := @readSlot h file (RInvX h tm file) (RInvX.above h tm file) (readArrX file fuel)
        (fun y => FuelOK h y fuel) (Under h) IH (Under h a.src)
      -- the attribute of the class
      obtain ⟨r, s1, ρ1, hrr, inv1, hrel1, gr1⟩ := slot (target := slotTarget file a.ref q subs nm) hsf1
        (fun y hy => ⟨hh.wf.refReg a.src ob y hob hy, Or.inr (by have := hh.wf.below a.src ob y hob hy; omega),
          Under.of_attached (hh.wf.refReg a.src ob y hob hy) (Or.inl (hh.wf.below a.src ob y hob hy)) hselfNT⟩) inv
      -- then `time`, for the classes that have it
      have htg2 : match tmE h tm a.src with
          | none => (if ob.strip.kind.hasOther then refTargetT file a subs else none) = none
          | some y => ∃ qy gy, (if ob.strip.kind.hasOther then refTargetT file a subs else none) = some (qy, some gy) ∧
              lookupGrp file.groups qy = some gy ∧ gy.isArr = true ∧ gy.src = y := by
        cases hk : ob.kind.hasOther with
        | false => simp [tmE, hob, hk]
        | true =>
          simp only [strip_kind, hk, if_true, refTargetT_eq, hfn]
          exact hsf2
      obtain ⟨t, s2, ρ2, hrt, inv2, hrel2, gr2⟩ := slot htg2
        (fun y hy => by
          obtain ⟨tb, htb, hkt⟩ := hh.tmOK a.src y hy
          exact ⟨IsTime.registers ⟨tb, htb, hkt⟩,
            Or.inl ⟨tb, htb, attrName_of_time hkt, by omega⟩,
            Under.of_attached (IsTime.registers ⟨tb, htb, hkt⟩) (Or.inr ⟨tb, htb, hkt⟩) hselfNT⟩) inv1
      have gr := gr1.trans gr2
      have hxn2 := gr.unread hx (Under.irrefl hselfNT)
      have hdelta := delta_ok hh.wf hob hrel1
      have hinv := RInvX.alloc (s' := ((allocX s2 (ob.strip.withRef r) t).2).set a.fieldname s2.heap.length)
        fo inv2 hxn2 hob (hrr := hrel1.mono gr2.ext) (htr := hrel2) hl ha rfl (hheap := by simp [RSt.set, allocX])
        (htm := by simp [RSt.set, allocX])
        (hmemo := by rw [hfn]; right; simp [RSt.set, allocX])
        (hreg := by intro _; rw [hfn]; simp [RSt.set, allocX])
      refine ⟨s2.heap.length, _, (a.src, s2.heap.length) :: ρ2, ?_, hinv, ?_,
        (gr.mono fun _ => Or.inr).trans (.alloc _ hxn2 (MemoMono.set (allocX s2 (ob.strip.withRef r) t).2 _ _) (Or.inl rfl))⟩
      · simp only [readArrX, strip_kind, hat, refTarget_eq, hfn, hrr]
        simp only [strip_kind] at hrt
        simp only [hrt, hdelta, allocX]
        simp
      · exact List.lookup_cons_self

/-- what reading the fields `fs` does to the injection, the invariant being the one that carries `time` -/
structure RPostX (h : Heap) (tm : TM) (file : File) (fs : List Field) (ρ : Rho) (s' : RSt) (ρ' : Rho) : Prop where
  inv : RInvX h tm file ρ' s'
  ext : Ext ρ ρ'
  dom : ∀ o ∈ leafObjs fs, ρ'.lookup o ≠ none
  new : ∀ z, ρ'.lookup z ≠ none → ρ.lookup z ≠ none ∨ z ∈ leafObjs fs ∨ Registers h z

theorem RPost.toX {h : Heap} {tm : TM} {file : File} {fs : List Field} {ρ ρ' : Rho} {s' : RSt}
    (p : RPost h file fs ρ s' ρ') (inv : RInvX h tm file ρ' s') : RPostX h tm file fs ρ s' ρ' := ⟨inv, p.ext, p.dom, p.new⟩

theorem readArrX_reader {h : Heap} {tm : TM} {file : File} (hh : HeapWFX h tm) (fo : FileOKX h tm file) {fa : Nat}
    (hfa : h.length + 1 ≤ fa) : Reader h file (RInvX h tm file) (readArrX file fa) := by
  exact ⟨RInvX.above h tm file, fo.arrs,
    (readArrX_step h tm file hh fo fa).mono (fun x (hx : x < h.length) => Or.inr (by omega)) fun _ _ => And.left⟩

theorem readFieldX_leaf (file : File) (fa d : Nat) (k : Kind) (g : Grp) (s : RSt) :
    readFieldX file fa (d + 1) (some k) g s = leafRead file (readArrX file fa) k g s := by
  obtain ⟨a, p, subs⟩ := g
  simp only [readFieldX, resolveAliasX, fieldReadX, leafRead]
  rfl

theorem readFieldX_reads {h : Heap} {tm : TM} {file : File} (hh : HeapWFX h tm) (fo : FileOKX h tm file) {fa : Nat}
    (hfa : h.length + 1 ≤ fa) (C : WMemo) (depth : Nat) : FieldReads h file (RInvX h tm file) (readFieldX file fa) C depth :=
  fieldRead_spec C (readArrX_reader hh fo hfa) (readFieldX_leaf file fa) (fun _ _ _ _ _ => by simp only [readFieldX]; rfl) depth

theorem readMembers_specX (h : Heap) (tm : TM) (file : File) (hh : HeapWFX h tm) (fo : FileOKX h tm file) (fa : Nat) (hfa : h.length + 1 ≤ fa)
    (C : WMemo) : ∀ (fs : List Field) (pre : Path) (subs : List (String × Grp)) (s : RSt) (ρ : Rho) (depth : Nat)
    (rest : List Path),
    RInvX h tm file ρ s → NamesOKG.NamesOKL subs →
    (∀ nm g, (nm, g) ∈ subs → lookupGrp file.groups (pre ++ [nm]) = some g) →
    (∀ f ∈ fs, ∃ g, (f.name, g) ∈ subs ∧ RepG (KFile C file) f pre g) →
    fieldsOK h file.numObs fs = true → Fr h file ρ s (pathsOf fs pre ++ rest) → (pathsOf fs pre ++ rest).Nodup →
    AliasOrd C (leafPaths fs pre) rest → fieldsDepth fs ≤ depth →
    ∃ s' ρ', readMembers (readFieldX file fa depth) (fs.map (fun f => (f.name, fieldType f))) subs s =
        .ok (renameFields (phi ρ') fs, s') ∧ RPostX h tm file fs ρ s' ρ' ∧ Fr h file ρ' s' rest := by
  intro fs pre subs s ρ depth rest inv hns hsubs hrep hok hfr hnd hao hd
  rw [readMembers_loop]
  obtain ⟨s', ρ', hr, inv', post, hfr'⟩ := fieldsLoop_spec (RInvX.above h tm file) C (readFieldX_reads hh fo hfa C depth) pre subs
    hns hsubs (after := fun _ _ s => s) (fun _ _ _ _ inv _ _ _ => ⟨inv, MemoMono.refl _⟩) fs s ρ rest inv hrep hok hfr hnd hao hd
  exact ⟨s', ρ', hr, post.toX inv', hfr'⟩

end Midgard.H5
