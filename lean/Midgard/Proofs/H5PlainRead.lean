/-
C10 — the model without `time` (`readArr`, `readField`, `readTop`), read side: statements of its own that the round trip does not
pass through.  `readArr` keeps `RInv` (`readArr_step`), so `readArr` / `readField` are readers in the sense of
`Proofs/H5ReadFields.lean` / `Proofs/H5ReadLoops.lean`.  The statements for datasets in which no array is shared between
fields (`RepF`, pairwise different array objects: those under `Writable`) are the case in which no group is a `same_as` group.
-/
import Midgard.Proofs.H5ReadLoops
import Midgard.Proofs.H5PlainWrite

namespace Midgard.H5
open Midgard.Dataset

/-- `_read` of the array group of an object not read so far: the new array is the image of the object, and besides the object
itself only older registering objects (its attachment and what that is attached to) are read -/
theorem readArr_step (h : Heap) (file : File) (hh : HeapWF h) (fo : FileOK h file) :
    ∀ (fuel : Nat), ArrStep h file (RInv h file) (readArr file fuel) (fun x => x < fuel) (fun y z => z < y ∧ Registers h z)
  | 0 => fun _ _ _ _ _ _ _ hf _ => by omega
  | fuel + 1 => by
    intro q g s ρ inv hl ha hf hx
    obtain ⟨a, ob, subs, rfl, hob, hfn, hcase⟩ := fo.node q g hl ha
    simp only [Grp.src_mk] at hf hx ⊢
    cases hat : attrName ob.kind with
    | none =>
      have hrn : ob.ref = none := ref_none_of_attrName_none hat
      have hinv := RInv.alloc (s' := if ob.kind == .time || ob.kind == .timeDelta
          then ((s.alloc ob.strip).2).set a.fieldname s.heap.length else (s.alloc ob.strip).2)
        fo.arrs inv hx hob (r' := none) (hrr := by rw [hrn]; rfl) hl ha rfl
        (hheap := by rw [strip_withRef_none]; split <;> rfl)
        (hmemo := by rw [hfn]; split <;> simp [RSt.set, RSt.alloc])
        (hreg := by
          intro hr
          rw [registers_plain hat] at hr
          rw [hfn]; simp [hr, RSt.set, RSt.alloc])
      refine ⟨s.heap.length, _, (a.src, s.heap.length) :: ρ, ?_, hinv, ?_, .alloc _ hx ?_ (Or.inl rfl)⟩
      · simp only [readArr, strip_kind, hat, RSt.alloc]
        rfl
      · exact List.lookup_cons_self
      · -- `alloc` leaves the memo as it is
        split
        · exact MemoMono.set (s.alloc ob.strip).2 _ _
        · exact MemoMono.refl s
    | some nm =>
      -- the attribute first: `NodeOK` says where `_read` finds it
      have htg : match ob.ref with
          | none => refTarget file a subs nm = none
          | some y => ∃ qy gy, refTarget file a subs nm = some (qy, some gy) ∧ lookupGrp file.groups qy = some gy ∧
              gy.isArr = true ∧ gy.src = y := by
        rcases hcase with ⟨hrn, htn⟩ | ⟨nm', y, qy, gy, hat', hry, htg, hly, hay, hsy⟩
        · rw [hrn]
          exact htn nm hat
        · rw [hat] at hat'
          cases hat'
          rw [hry]
          exact ⟨qy, gy, htg, hly, hay, hsy⟩
      obtain ⟨r, s1, ρ1, hrr, inv1, hrel1, gr⟩ := readSlot (RInv.above h file) (readArr_step h file hh fo fuel)
        (U := fun z => z < a.src ∧ Registers h z) htg
        (fun y hy => ⟨hh.refReg a.src ob y hob hy, by have := hh.below a.src ob y hob hy; omega,
          ⟨hh.below a.src ob y hob hy, hh.refReg a.src ob y hob hy⟩,
          fun z hz => ⟨by have := hh.below a.src ob y hob hy; omega, hz.2⟩⟩) inv
      have hxn1 := gr.unread hx (fun hs => Nat.lt_irrefl _ hs.1)
      have hdelta := delta_ok hh hob hrel1
      have hinv := RInv.alloc (s' := ((s1.alloc (ob.strip.withRef r)).2).set a.fieldname s1.heap.length)
        fo.arrs inv1 hxn1 hob hrel1 hl ha rfl (hheap := by simp [RSt.set, RSt.alloc])
        (hmemo := by rw [hfn]; right; simp [RSt.set, RSt.alloc])
        (hreg := by intro _; rw [hfn]; simp [RSt.set, RSt.alloc])
      refine ⟨s1.heap.length, _, (a.src, s1.heap.length) :: ρ1, ?_, hinv, ?_,
        (gr.mono fun _ => Or.inr).trans (.alloc _ hxn1 (MemoMono.set (s1.alloc (ob.strip.withRef r)).2 _ _) (Or.inl rfl))⟩
      · simp only [readArr, strip_kind, hat, hrr, hdelta, RSt.alloc]
        simp
      · exact List.lookup_cons_self

theorem readArr_spec (h : Heap) (file : File) (hh : HeapWF h) (fo : FileOK h file) :
    ∀ (fuel : Nat) (q : Path) (g : Grp) (s : RSt) (ρ : Rho),
    RInv h file ρ s → lookupGrp file.groups q = some g → g.isArr = true → g.src < fuel → ρ.lookup g.src = none →
    ∃ n s' ρ', readArr file fuel g s = .ok (n, s') ∧ RInv h file ρ' s' ∧ Ext ρ ρ' ∧ ρ'.lookup g.src = some n ∧
      (∀ z, ρ'.lookup z ≠ none → ρ.lookup z ≠ none ∨ z = g.src ∨ (z < g.src ∧ Registers h z)) := by
  intro fuel q g s ρ inv hl ha hf hx
  obtain ⟨n, s', ρ', hrd, inv', hlk, gr⟩ := readArr_step h file hh fo fuel q g s ρ inv hl ha hf hx
  exact ⟨n, s', ρ', hrd, inv', gr.ext, hlk, gr.new⟩

theorem readArr_reader {h : Heap} {file : File} (hh : HeapWF h) (fo : FileOK h file) {fa : Nat} (hfa : h.length ≤ fa) :
    Reader h file (RInv h file) (readArr file fa) := by
  exact ⟨RInv.above h file, fo.arrs,
    (readArr_step h file hh fo fa).mono (fun x (hx : x < h.length) => Nat.lt_of_lt_of_le hx hfa) fun _ _ => And.right⟩

theorem readField_leaf (file : File) (fa d : Nat) (k : Kind) (g : Grp) (s : RSt) :
    readField file fa (d + 1) (some k) g s = leafRead file (readArr file fa) k g s := by
  obtain ⟨a, p, subs⟩ := g
  simp only [readField, resolveAlias, fieldRead, leafRead]
  rfl

theorem readField_reads {h : Heap} {file : File} (hh : HeapWF h) (fo : FileOK h file) {fa : Nat} (hfa : h.length ≤ fa)
    (C : WMemo) (depth : Nat) : FieldReads h file (RInv h file) (readField file fa) C depth :=
  fieldRead_spec C (readArr_reader hh fo hfa) (readField_leaf file fa)
    (fun _ _ _ _ _ => by simp only [readField]; rfl) depth

theorem readMembers_spec2 (h : Heap) (file : File) (hh : HeapWF h) (fo : FileOK h file) (fa : Nat) (hfa : h.length ≤ fa)
    (C : WMemo) : ∀ (fs : List Field) (pre : Path) (subs : List (String × Grp)) (s : RSt) (ρ : Rho) (depth : Nat)
    (rest : List Path),
    RInv h file ρ s → NamesOKG.NamesOKL subs →
    (∀ nm g, (nm, g) ∈ subs → lookupGrp file.groups (pre ++ [nm]) = some g) →
    (∀ f ∈ fs, ∃ g, (f.name, g) ∈ subs ∧ RepG (KFile C file) f pre g) →
    fieldsOK h file.numObs fs = true → Fr h file ρ s (pathsOf fs pre ++ rest) → (pathsOf fs pre ++ rest).Nodup →
    AliasOrd C (leafPaths fs pre) rest → fieldsDepth fs ≤ depth →
    ∃ s' ρ', readMembers (readField file fa depth) (fs.map (fun f => (f.name, fieldType f))) subs s =
        .ok (renameFields (phi ρ') fs, s') ∧ RPost h file fs ρ s' ρ' ∧ Fr h file ρ' s' rest := by
  intro fs pre subs s ρ depth rest inv hns hsubs hrep hok hfr hnd hao hd
  rw [readMembers_loop]
  obtain ⟨s', ρ', hr, _, post, hfr'⟩ := fieldsLoop_spec (RInv.above h file) C (readField_reads hh fo hfa C depth) pre subs hns hsubs
    (after := fun _ _ s => s) (fun _ _ _ _ inv _ _ _ => ⟨inv, MemoMono.refl _⟩) fs s ρ rest inv hrep hok hfr hnd hao hd
  exact ⟨s', ρ', hr, post, hfr'⟩

/-- every (array, full name) of `L` leads to the array group of that array -/
def PathsTo (file : File) (L : List (Nat × Path)) : Prop :=
  ∀ e ∈ L, ∃ g, lookupGrp file.groups e.2 = some g ∧ g.isArr = true ∧ g.src = e.1

mutual
theorem RepF.paths {file : File} : ∀ (f : Field) (pre : Path) (g : Grp), lookupGrp file.groups (pre ++ [f.name]) = some g →
    NamesOKG g → RepF f pre g → PathsTo file (leafPaths [f] pre)
  | .leaf nm k o no u l, pre, g, hl, _, h => by
    simp only [RepF] at h
    intro e he
    simp only [leafPaths_leaf_single, List.mem_singleton] at he
    subst he
    exact ⟨g, hl, h.1, h.2.1⟩
  | .coll nm no l sub, pre, g, hl, hng, h => by
    simp only [RepF] at h
    obtain ⟨subs, rfl, hrl⟩ := h
    simp only [NamesOKG] at hng
    replace hl : lookupGrp file.groups (pre ++ [nm]) = some _ := hl
    rw [leafPaths_coll_single]
    exact RepL.paths sub (pre ++ [nm]) subs hng (lookupGrp_sub hl hng) (RepL_mem sub _ subs hrl)
theorem RepL.paths {file : File} : ∀ (fs : List Field) (pre : Path) (subs : List (String × Grp)), NamesOKG.NamesOKL subs →
    (∀ nm g, (nm, g) ∈ subs → lookupGrp file.groups (pre ++ [nm]) = some g) →
    (∀ f ∈ fs, ∃ g, (f.name, g) ∈ subs ∧ RepF f pre g) → PathsTo file (leafPaths fs pre)
  | [], _, _, _, _, _ => by
    intro e he
    simp [leafPaths] at he
  | f :: fs, pre, subs, hns, hsubs, hrep => by
    obtain ⟨g, hm, hrf⟩ := hrep f (by simp)
    intro e he
    rw [leafPaths_cons] at he
    rcases List.mem_append.mp he with he | he
    · exact RepF.paths f pre g (hsubs _ g hm) (namesOK_of_mem hns hm) hrf e he
    · exact RepL.paths fs pre subs hns hsubs (fun f' hf' => hrep f' (List.mem_cons_of_mem _ hf')) e he
end

/-- an array that has not been read is not waiting under the name of any field: `Fr` holds for want of a candidate -/
theorem PathsTo.fr {h : Heap} {file : File} {ρ : Rho} {s : RSt} {fs : List Field} {pre : Path}
    (hL : PathsTo file (leafPaths fs pre)) (hfresh : ∀ o ∈ leafObjs fs, ¬ Registers h o → ρ.lookup o = none) :
    Fr h file ρ s (pathsOf fs pre ++ []) := by
  intro x hr hx P gt hlt _ hst hP
  rw [List.append_nil] at hP
  obtain ⟨e, he, rfl⟩ := List.mem_map.mp hP
  obtain ⟨g, hg, _, hs⟩ := hL e he
  rw [hg] at hlt
  cases hlt
  rw [← hst, hs] at hr hx
  exact absurd (hfresh e.1 (leafPaths_fst fs pre ▸ List.mem_map_of_mem he) hr) hx

/-- different arrays have different names: the group found at a name gives the array back -/
theorem PathsTo.nodup {file : File} {fs : List Field} {pre : Path} (hL : PathsTo file (leafPaths fs pre))
    (hnd : (leafObjs fs).Nodup) : (pathsOf fs pre ++ []).Nodup := by
  rw [List.append_nil]
  rw [← leafPaths_fst fs pre] at hnd
  refine List.pairwise_map.mpr ((List.pairwise_map.mp hnd).imp_of_mem fun {a b} ha hb hne heq => hne ?_)
  obtain ⟨ga, h1, _, h2⟩ := hL a ha
  obtain ⟨gb, h3, _, h4⟩ := hL b hb
  rw [heq, h3] at h1
  cases h1
  exact h2.symm.trans h4

/- With pairwise different array objects no group is a `same_as` group, so the statements below are those of
`Proofs/H5ReadLoops.lean` with no group left to visit afterwards; as the memo of `_construct_memo` the reversed list of the
fields will do (`aliasOrd_reverse`). -/

theorem readField_spec (h : Heap) (file : File) (hh : HeapWF h) (fo : FileOK h file) (fa : Nat) (hfa : h.length ≤ fa) :
    ∀ (f : Field) (pre : Path) (g : Grp) (s : RSt) (ρ : Rho) (depth : Nat),
    RInv h file ρ s → lookupGrp file.groups (pre ++ [f.name]) = some g → NamesOKG g → RepF f pre g →
    fieldsOK h file.numObs [f] = true → (leafObjs [f]).Nodup →
    (∀ o ∈ leafObjs [f], ¬ Registers h o → ρ.lookup o = none) → fieldsDepth [f] ≤ depth →
    ∃ s' ρ', readField file fa depth (fieldType f) g s = .ok (renameField (phi ρ') f, s') ∧ RPost h file [f] ρ s' ρ' := by
  intro f pre g s ρ depth inv hl hng hrep hok hnd hfresh hd
  have hL := RepF.paths f pre g hl hng hrep
  obtain ⟨s', ρ', hr, _, post, _⟩ := readField_reads hh fo hfa _ depth f pre g s ρ [] inv hl hng (RepF.toG f pre g hrep) hok
    (hL.fr hfresh) (hL.nodup hnd) (aliasOrd_reverse (leafPaths [f] pre) []) hd
  exact ⟨s', ρ', hr, post⟩

theorem readMembers_spec (h : Heap) (file : File) (hh : HeapWF h) (fo : FileOK h file) (fa : Nat) (hfa : h.length ≤ fa) :
    ∀ (fs : List Field) (pre : Path) (subs : List (String × Grp)) (s : RSt) (ρ : Rho) (depth : Nat),
    RInv h file ρ s → NamesOKG.NamesOKL subs →
    (∀ nm g, (nm, g) ∈ subs → lookupGrp file.groups (pre ++ [nm]) = some g) →
    (∀ f ∈ fs, ∃ g, (f.name, g) ∈ subs ∧ RepF f pre g) →
    fieldsOK h file.numObs fs = true → (leafObjs fs).Nodup →
    (∀ o ∈ leafObjs fs, ¬ Registers h o → ρ.lookup o = none) → fieldsDepth fs ≤ depth →
    ∃ s' ρ', readMembers (readField file fa depth) (fs.map (fun f => (f.name, fieldType f))) subs s =
        .ok (renameFields (phi ρ') fs, s') ∧ RPost h file fs ρ s' ρ' := by
  intro fs pre subs s ρ depth inv hns hsubs hrep hok hnd hfresh hd
  have hL := RepL.paths fs pre subs hns hsubs hrep
  rw [readMembers_loop]
  obtain ⟨s', ρ', hr, _, post, _⟩ := fieldsLoop_spec (RInv.above h file) _ (readField_reads hh fo hfa _ depth) pre subs hns hsubs
    (after := fun _ _ s => s) (fun _ _ _ _ inv _ _ _ => ⟨inv, MemoMono.refl _⟩) fs s ρ (rest := []) inv
    (fun f hf => (hrep f hf).imp fun g hg => ⟨hg.1, RepF.toG f pre g hg.2⟩) hok (hL.fr hfresh) (hL.nodup hnd)
    (aliasOrd_reverse (leafPaths fs pre) []) hd
  exact ⟨s', ρ', hr, post⟩

theorem readTop_spec (h : Heap) (file : File) (hh : HeapWF h) (fo : FileOK h file) (fa : Nat) (hfa : h.length ≤ fa) :
    ∀ (fs : List Field) (s : RSt) (ρ : Rho) (fd : Nat),
    RInv h file ρ s → (∀ f ∈ fs, ∃ g, (f.name, g) ∈ file.groups ∧ RepF f [] g) →
    fieldsOK h file.numObs fs = true → (leafObjs fs).Nodup →
    (∀ o ∈ leafObjs fs, ¬ Registers h o → ρ.lookup o = none) → fieldsDepth fs ≤ fd →
    ∃ s' ρ', readTop file fa fd (fs.map (fun f => (f.name, fieldType f))) s = .ok (renameFields (phi ρ') fs, s') ∧
      RPost h file fs ρ s' ρ' := by
  intro fs s ρ fd inv hrep hok hnd hfresh hd
  have hL := RepL.paths fs [] file.groups fo.names (lookupGrp_top fo.names) hrep
  rw [readTop_loop]
  obtain ⟨s', ρ', hr, _, post, _⟩ := fieldsLoop_spec (RInv.above h file) _ (readField_reads hh fo hfa _ fd) (pre := []) (subs := file.groups)
    fo.names (lookupGrp_top fo.names) (regTop_keeps (RInv.above h file) _) fs s ρ (rest := []) inv
    (fun f hf => (hrep f hf).imp fun g hg => ⟨hg.1, RepF.toG f [] g hg.2⟩) hok
    (hL.fr hfresh) (hL.nodup hnd) (aliasOrd_reverse (leafPaths fs []) []) hd
  exact ⟨s', ρ', hr, post⟩

end Midgard.H5
