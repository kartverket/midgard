/-
Insertion-ordered dictionaries (`dset` / `dget?` of `Model/Sinex.lean`), also as filled by a fold in `Option`: the facts
the block parsers' steps are read through, with the equations of the base-class step (`baseStep_some`: its effect is one
`dset`).  A step of a parser either fails or writes some keys; what a whole `foldlM` of such steps leaves under a key
follows from what one step does (`Lists.foldlM_induct`).
The file declares into the namespace of `Props/C14.lean`: `keys` and the other definitions kept in the
`Proofs/Sinex*.lean` files occur in the statements of that property.
-/
import Midgard.Model.SinexFile
import Midgard.Proofs.ConfigDict
import Midgard.Proofs.Lists

namespace Midgard.Props.C14
open Midgard.Sinex Midgard.Text

/-! `dset` / `dget?` of `Model/Sinex.lean` are `dset` / `dget?` of `Model/Config.lean` at `String` keys; what
`Proofs/ConfigDict.lean` proves of those holds here through these two equations. -/

theorem dset_eq_config {α} (d : List (String × α)) (k : String) (v : α) : dset d k v = Config.dset d k v := by
  induction d with
  | nil => rfl
  | cons p rest ih => simp only [dset, Config.dset, ih]

theorem dget_eq_config {α} (d : List (String × α)) (k : String) : dget? d k = Config.dget? d k := by
  induction d with
  | nil => rfl
  | cons p rest ih => simp only [dget?, Config.dget?, ih]

theorem dget_dset {α} (d : List (String × α)) (k k' : String) (v : α) :
    dget? (dset d k v) k' = if k = k' then some v else dget? d k' := by
  simp only [dset_eq_config, dget_eq_config]
  exact Config.dget_dset d k k' v

theorem dget_dset_self {α} (d : List (String × α)) (k : String) (v : α) : dget? (dset d k v) k = some v := by
  rw [dget_dset, if_pos rfl]

theorem dget_dset_ne {α} (d : List (String × α)) (k k' : String) (v : α) (h : k ≠ k') :
    dget? (dset d k v) k' = dget? d k' := by
  rw [dget_dset, if_neg h]

theorem dget_map_val {β} (g : String → β → β) (T : List (String × β)) (key : String) :
    dget? (T.map fun kv => (kv.1, g kv.1 kv.2)) key = (dget? T key).map (g key) := by
  induction T with
  | nil => rfl
  | cons p rest ih =>
    obtain ⟨k, v⟩ := p
    by_cases h : k = key
    · subst h; simp [dget?]
    · simp [dget?, h, ih]

def keys {α} (d : List (String × α)) : List String := d.map (·.1)

theorem dset_mid {α} (A B : List (String × α)) (k : String) (o v : α) (h : k ∉ keys A) :
    dset (A ++ (k, o) :: B) k v = A ++ (k, v) :: B := by
  induction A with
  | nil => simp [dset]
  | cons p rest ih =>
    simp only [keys, List.map_cons, List.mem_cons, not_or] at h
    simp only [List.cons_append, dset, Ne.symm h.1, if_false, ih h.2]

theorem keys_dset {α} (d : List (String × α)) (k : String) (v : α) :
    keys (dset d k v) = if k ∈ keys d then keys d else keys d ++ [k] := by
  rw [dset_eq_config]
  split
  · next h => exact Config.dset_of_mem d k v h
  · next h => rw [Config.dset_of_not_mem d k v h, keys, List.map_append]; rfl

theorem foldl_dset_append {α} (d : List (String × α)) : ∀ acc : List (String × α), (keys (acc ++ d)).Nodup →
    d.foldl (fun acc kv => dset acc kv.1 kv.2) acc = acc ++ d := by
  intro acc h
  simp only [dset_eq_config]
  exact Config.foldl_dset_nodup d acc h

theorem foldl_dset_same {α} (newS : List (String × α)) : ∀ (A oldS : List (String × α)), keys oldS = keys newS →
    (keys A ++ keys newS).Nodup → newS.foldl (fun d kv => dset d kv.1 kv.2) (A ++ oldS) = A ++ newS := by
  induction newS with
  | nil =>
    intro A oldS hk _
    have : oldS = [] := by simpa [keys] using hk
    simp [this]
  | cons p ns ih =>
    intro A oldS hk hnd
    obtain ⟨k, v⟩ := p
    cases oldS with
    | nil => simp [keys] at hk
    | cons po os =>
      obtain ⟨k', o⟩ := po
      simp only [keys, List.map_cons, List.cons.injEq] at hk
      obtain ⟨rfl, hks⟩ := hk
      have hkA : k' ∉ keys A := by
        have := (List.nodup_append.mp hnd).2.2
        intro hm
        exact this k' hm k' (by simp [keys]) rfl
      simp only [List.foldl_cons]
      rw [dset_mid A os k' o v hkA]
      have := ih (A ++ [(k', v)]) os hks (by
        simp only [keys, List.map_append, List.map_cons, List.map_nil, List.append_assoc, List.cons_append, List.nil_append]
        simpa [keys] using hnd)
      simpa [List.append_assoc] using this

theorem updateRow_eq (old new : Row) : updateRow old new = new.foldl (fun d kv => dset d kv.1 kv.2) old := rfl

theorem cellsOf_rowVal (D : List (String × Val)) (k : String) (r : Row) (h : dget? D k = some (rowVal r)) :
    cellsOf D k = r := by
  unfold cellsOf
  rw [h]
  clear h
  show (r.map fun (k, c) => (k, Val.cell c)).filterMap _ = r
  induction r with
  | nil => rfl
  | cons p rest ih =>
    obtain ⟨a, c⟩ := p
    simp only [List.map_cons, List.filterMap_cons]
    rw [ih]

theorem cellsOf_none (D : List (String × Val)) (k : String) (h : dget? D k = Option.none) : cellsOf D k = [] := by
  unfold cellsOf; rw [h]

theorem baseStep_none {blocks : List BlockDef} {look : String → Option RawBlock} {b : BlockDef}
    (h : look b.marker = Option.none) (acc : List (String × Val)) : baseStep blocks look acc b = some acc := by
  rw [baseStep, h]

theorem baseStep_some {blocks : List BlockDef} {look : String → Option RawBlock} {b : BlockDef} {r : RawBlock}
    (h : look b.marker = some r) (acc : List (String × Val)) :
    baseStep blocks look acc b = (blockVal blocks look b r).map fun v => dset acc b.marker v := by
  rw [baseStep, h]

theorem blockVal_dflt {blocks : List BlockDef} {look : String → Option RawBlock} {b : BlockDef} (h : b.kind = .dflt)
    (r : RawBlock) : blockVal blocks look b r = some (.dict (columns b.fields (rowsOf b 81 r))) := by
  rw [blockVal, h]

theorem foldlM_step_keys {β} (f : List (String × Val) → β → Option (List (String × Val)))
    (hf : ∀ acc x D', f acc x = some D' → ∃ k v, D' = dset acc k v) :
    ∀ (l : List β) (acc D : List (String × Val)), (keys acc).Nodup → l.foldlM f acc = some D → (keys D).Nodup := by
  intro l acc D ha h
  refine Lists.foldlM_induct (R := fun _ acc D => (keys acc).Nodup → (keys D).Nodup) (fun _ h => h) ?_ l acc D h ha
  intro acc x D1 l D h1 _ ih ha
  obtain ⟨k, v, rfl⟩ := hf acc x D1 h1
  exact ih (dset_eq_config acc k v ▸ Config.nodup_dset acc k v ha)

/-- every key holds what its own step made (`w x old`) of what was there at the start -/
theorem foldlM_keyed {β} (key : β → String) (f : List (String × Val) → β → Option (List (String × Val)))
    (w : β → Option Val → Option Val)
    (hstep : ∀ acc x acc', f acc x = some acc' →
      dget? acc' (key x) = w x (dget? acc (key x)) ∧ ∀ m, m ≠ key x → dget? acc' m = dget? acc m) :
    ∀ (l : List β) (acc D : List (String × Val)), (l.map key).Nodup → l.foldlM f acc = some D →
      (∀ x ∈ l, dget? D (key x) = w x (dget? acc (key x))) ∧ ∀ m, m ∉ l.map key → dget? D m = dget? acc m := by
  intro l acc D hnd h
  refine Lists.foldlM_induct (R := fun l acc D => (l.map key).Nodup →
      (∀ x ∈ l, dget? D (key x) = w x (dget? acc (key x))) ∧ ∀ m, m ∉ l.map key → dget? D m = dget? acc m)
    (fun _ _ => ⟨fun x hx => by simp at hx, fun m _ => rfl⟩) ?_ l acc D h hnd
  intro acc a D1 l D h1 _ ih hnd
  obtain ⟨ha, hnd'⟩ := List.nodup_cons.mp hnd
  obtain ⟨ih1, ih2⟩ := ih hnd'
  obtain ⟨hk, ho⟩ := hstep acc a D1 h1
  refine ⟨fun x hx => ?_, fun m hm => ?_⟩
  · rcases List.mem_cons.mp hx with rfl | hin
    · rw [ih2 _ ha, hk]
    · rw [ih1 x hin, ho _ fun e => ha (e ▸ List.mem_map_of_mem hin)]
  · rw [List.map_cons, List.mem_cons, not_or] at hm
    rw [ih2 m hm.2, ho m hm.1]

end Midgard.Props.C14
