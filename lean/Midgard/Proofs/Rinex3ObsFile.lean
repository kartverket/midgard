/-
The header group of a rendered RINEX 3 observation file (every header line calls its handler with the cells; `END OF HEADER`
ends the group), then the whole file given what the header leaves in the parser state, and the text: no rendered line
contains a line break, so the text splits into the rendered lines.
-/
import Midgard.Proofs.Rinex3ObsData

namespace Midgard.Spec.Rinex3ObsFile
open Midgard.Text Midgard.FixedCol Midgard.Decimal Midgard.ChainParser Midgard.RinexObs Midgard.Rinex3Obs

def hdrPairs (hdr : List HdrRec) : List (String × List Str) := hdr.flatMap hdrCells

def pairFx (kc : String × List Str) : State → Except Err State :=
  fun s => handle (handlerOf kc.1) ((names kc.1).zip kc.2) s

theorem headerState_eq (rate : Option Rat) (hdr : List HdrRec) :
    headerState rate hdr = (hdrPairs hdr).foldlM (fun s kc => pairFx kc s) { rate := rate } := by
  unfold headerState hdrPairs
  rw [Lists.foldlM_flatMap]
  rfl

theorem pair_ok (r : HdrRec) (hr : r.wf = true) : ∀ kc ∈ hdrCells r,
    okCells kc.1 kc.2 = true ∧ ∃ h, (kc.1, h) ∈ lineKinds := by
  intro kc hkc
  cases r with
  | plain k cells =>
    simp only [hdrCells, List.mem_cons, List.not_mem_nil, or_false] at hkc
    subst hkc
    simp only [HdrRec.wf, Bool.and_eq_true] at hr
    obtain ⟨x, hx, hxk⟩ := List.any_eq_true.mp hr.1
    simp only [beq_iff_eq] at hxk
    exact ⟨hr.2, x.2, List.mem_cons_of_mem _ (List.mem_cons_of_mem _ (hxk ▸ hx))⟩
  | marker n =>
    simp only [hdrCells, List.mem_cons, List.not_mem_nil, or_false] at hkc
    subst hkc
    exact ⟨hr, "_parse_string", by simp [lineKinds]⟩
  | sysObs s c ls =>
    simp only [hdrCells, List.mem_map] at hkc
    obtain ⟨cells, hcells, rfl⟩ := hkc
    simp only [HdrRec.wf, Bool.and_eq_true] at hr
    exact ⟨List.all_eq_true.mp hr.2 cells hcells, "_parse_sys_obs_types", by simp [lineKinds]⟩

theorem hdrPairs_ok (hdr : List HdrRec) (hwf : hdr.all HdrRec.wf = true) : ∀ kc ∈ hdrPairs hdr,
    okCells kc.1 kc.2 = true ∧ ∃ h, (kc.1, h) ∈ lineKinds := by
  intro kc hkc
  simp only [hdrPairs, List.mem_flatMap] at hkc
  obtain ⟨r, hr, hkc⟩ := hkc
  exact pair_ok r (List.all_eq_true.mp hwf r hr) kc hkc

theorem fileLines_eq (F : File) :
    fileLines F = (hdrPairs F.hdr).map (fun kc => styled F.style (rec kc.1 kc.2)) ++
      styled F.style eohLine :: (F.epochs.flatMap blockLines).map (styled F.style) := by
  simp [fileLines, rawLines, hdrPairs, hdrLines, List.flatMap_def, List.map_map, Function.comp_def]

theorem typeFacts (hdr : List HdrRec) (h : (sysTypes hdr).all (fun st => nodup st.2) = true) : TypeFacts hdr where
  all := foldl_addType_nodup _ [] List.nodup_nil
  each := by
    intro st hst
    refine ⟨nodup_of (List.all_eq_true.mp h st hst), ?_⟩
    intro t ht
    apply mem_foldl_addType
    right
    rw [List.mem_flatMap]
    exact ⟨st, hst, ht⟩

/-- **the file**, given what the header leaves in the parser state: the header records fold their handlers, `END OF HEADER`
switches to the data section, the epoch groups add their rows -/
theorem file_of_header (rate : Option Rat) (F : File) (hwf : F.wf = true)
    (hH : ∀ H, headerState rate F.hdr = .ok H → HdrFacts F.hdr rate H) :
    readData headerParser obsParser resetCache (fileLines F) true 0 { rate := rate } = expected rate F := by
  simp only [File.wf, Bool.and_eq_true] at hwf
  obtain ⟨⟨⟨⟨hhdr, _⟩, hnd⟩, _⟩, heps⟩ := hwf
  have hT := typeFacts F.hdr hnd
  have hok := hdrPairs_ok F.hdr hhdr
  rw [fileLines_eq, readData_header headerParser obsParser resetCache _ pairFx _ _ _
    (fun kc hkc n s => rec_parsed kc.1 (hok kc hkc).2 kc.2 (hok kc hkc).1 F.style n s)
    (fun kc hkc n nx => rec_not_end kc.1 (hok kc hkc).2 kc.2 (hok kc hkc).1 F.style n nx)
    (fun n s => by rw [rstrip_styled]; exact eoh_parsed n s) (fun n nx => by rw [rstrip_styled]; exact eoh_end n nx),
    ← headerState_eq]
  unfold expected
  cases hhs : headerState rate F.hdr with
  | error e => rfl
  | ok H =>
    have hf := hH H hhs
    have hreset : resetCache H = mk H (dataOf F.hdr rate [] H.data) {} := by rw [← hf.hdata]; rfl
    simp only [hreset, blocks_run F.hdr rate H hf hT F.style F.epochs [] (fun e he => List.all_eq_true.mp heps e he),
      List.nil_append, expectedData_eq]
    rfl

theorem nonl_epochLine (hdr : List HdrRec) (e : Epoch) (h : e.wf hdr = true) : NoNl (epochLine e) := by
  obtain ⟨_, hy, hmo, hd, hh, hmi, hs, hf, hns, _, hc, _⟩ := epoch_wf hdr e h
  unfold epochLine
  apply nonl_renderCells
  intro t ht
  simp only [epochCells, List.mem_cons, List.not_mem_nil, or_false] at ht
  rcases ht with rfl | rfl | rfl | rfl | rfl | rfl | rfl | rfl | rfl | rfl
  · intro c hc; simp at hc; subst hc; decide
  · exact nonl_intCell hy
  · exact nonl_intCell hmo
  · exact nonl_intCell hd
  · exact nonl_intCell hh
  · exact nonl_intCell hmi
  · exact nonl_numCell hs
  · exact nonl_intCell hf
  · exact nonl_numText hns
  · exact nonl_cell hc

theorem nonl_fileLines (F : File) (hwf : F.wf = true) : ∀ l ∈ fileLines F, NoNl l := by
  simp only [File.wf, Bool.and_eq_true] at hwf
  obtain ⟨⟨⟨⟨hhdr, _⟩, _⟩, _⟩, heps⟩ := hwf
  have hok := hdrPairs_ok F.hdr hhdr
  intro l hl
  rw [fileLines_eq] at hl
  simp only [List.mem_append, List.mem_map, List.mem_cons, List.mem_flatMap] at hl
  rcases hl with ⟨kc, hkc, rfl⟩ | rfl | ⟨l0, ⟨e, he, hl0⟩, rfl⟩ <;> apply nonl_styled
  · exact nonl_rec kc.1 kc.2 (okCells_iff.mp (hok kc hkc).1).2.2
  · exact nonl_eoh
  · have hew := List.all_eq_true.mp heps e he
    obtain ⟨hsp, hsats⟩ := epoch_parts F.hdr e hew
    simp only [blockLines, List.mem_cons, List.mem_append, List.mem_map] at hl0
    rcases hl0 with rfl | ⟨kc, hkc, rfl⟩ | ⟨r, hr, rfl⟩
    · exact nonl_epochLine F.hdr e hew
    · have := hsp kc hkc
      simp only [specialOk, Bool.and_eq_true] at this
      exact nonl_rec kc.1 kc.2 (okCells_iff.mp this.1.1.2).2.2
    · exact nonl_satLine F.hdr r (hsats r hr)

end Midgard.Spec.Rinex3ObsFile
