/-
Lemmas about `Midgard.Core.Text` (core Lean only), grouped by the function they are about.
-/
import Midgard.Core.Text
import Midgard.Proofs.Lists

namespace Midgard.Text

/-! ### blanks and `isBlank` -/

theorem isSpace_blank : isSpace ' ' = true := by decide

@[simp] theorem length_blanks (n : Nat) : (blanks n).length = n := by simp [blanks]

@[simp] theorem blanks_zero : blanks 0 = [] := rfl

theorem blanks_succ (n : Nat) : blanks (n + 1) = ' ' :: blanks n := List.replicate_succ

theorem mem_blanks {c : Char} {n : Nat} (h : c ∈ blanks n) : c = ' ' := (List.mem_replicate.mp h).2

theorem visible_ne_nl {c : Char} (h : isSpace c = false) : c ≠ '\n' := by
  rintro rfl; revert h; decide

theorem visible_ne_blank {c : Char} (h : isSpace c = false) : c ≠ ' ' := by
  rintro rfl; revert h; decide

theorem isBlank_blanks (n : Nat) : isBlank (blanks n) = true := by
  simp [isBlank, blanks, isSpace_blank]

theorem isBlank_cons_blanks (n : Nat) : isBlank (' ' :: blanks n) = true := by
  have := isBlank_blanks n
  simp only [isBlank, List.all_cons, Bool.and_eq_true] at this ⊢
  exact ⟨by decide, this⟩

theorem isBlank_reverse {ws : Str} : isBlank ws.reverse = isBlank ws := by
  simp [isBlank, List.all_reverse]

theorem isBlank_append {a b : Str} : isBlank (a ++ b) = (isBlank a && isBlank b) := by
  simp [isBlank, List.all_append]

theorem isBlank_cons (c : Char) (r : Str) : isBlank (c :: r) = (isSpace c && isBlank r) := List.all_cons

theorem isBlank_take {s : Str} (h : isBlank s = true) (n : Nat) : isBlank (s.take n) = true := by
  simp only [isBlank, List.all_eq_true] at *
  intro c hc; exact h c (List.mem_of_mem_take hc)

theorem isBlank_drop {s : Str} (h : isBlank s = true) (n : Nat) : isBlank (s.drop n) = true := by
  simp only [isBlank, List.all_eq_true] at *
  intro c hc; exact h c (List.mem_of_mem_drop hc)

theorem isBlank_of_spaces {s : Str} (h : s.all (· = ' ') = true) : isBlank s = true := by
  simp only [isBlank, List.all_eq_true] at h ⊢
  intro c hc
  have := h c hc
  simp at this; subst this; decide

theorem isBlank_false_of_mem {s : Str} {c : Char} (hc : c ∈ s) (h : isSpace c = false) : isBlank s = false := by
  rw [← Bool.not_eq_true]
  intro hb
  simp only [isBlank, List.all_eq_true] at hb
  rw [hb c hc] at h
  exact absurd h (by simp)

/-! ### blank margins: what `lstrip`, `rstrip`, `strip` remove -/

theorem lstrip_isBlank_append {ws s : Str} (h : isBlank ws = true) : lstrip (ws ++ s) = lstrip s :=
  List.dropWhile_append_of_pos (List.all_eq_true.mp h)

theorem rstrip_append_isBlank {ws s : Str} (h : isBlank ws = true) : rstrip (s ++ ws) = rstrip s := by
  unfold rstrip
  rw [List.reverse_append, List.dropWhile_append_of_pos (List.all_eq_true.mp (isBlank_reverse.trans h))]

theorem lstrip_isBlank {ws : Str} (h : isBlank ws = true) : lstrip ws = [] := by
  have := lstrip_isBlank_append (ws := ws) (s := []) h
  simpa [lstrip] using this

theorem rstrip_isBlank {ws : Str} (h : isBlank ws = true) : rstrip ws = [] := by
  have := rstrip_append_isBlank (ws := ws) (s := []) h
  simpa [rstrip] using this

theorem strip_isBlank {ws : Str} (h : isBlank ws = true) : strip ws = [] := by
  simp [strip, lstrip_isBlank h, rstrip]

theorem dropWhile_head_not {p : Char → Bool} (s : Str) :
    ∀ c r, s.dropWhile p = c :: r → p c = false := by
  intro c r h
  have := List.head_dropWhile_not p (l := s) (by rw [h]; simp)
  simpa [h] using this

theorem dropWhile_suffix (p : Char → Bool) (s : Str) : ∃ pre, s = pre ++ s.dropWhile p ∧ pre.all p = true :=
  ⟨s.takeWhile p, List.takeWhile_append_dropWhile.symm, List.all_takeWhile⟩

theorem rstrip_decomp (s : Str) : ∃ ws, s = rstrip s ++ ws ∧ isBlank ws = true := by
  obtain ⟨pre, h1, h2⟩ := dropWhile_suffix isSpace s.reverse
  refine ⟨pre.reverse, ?_, ?_⟩
  · unfold rstrip
    have h := congrArg List.reverse h1
    simp only [List.reverse_reverse, List.reverse_append] at h
    exact h
  · rw [isBlank_reverse]; exact h2

theorem lstrip_decomp (s : Str) : ∃ ws, s = ws ++ lstrip s ∧ isBlank ws = true :=
  dropWhile_suffix isSpace s

theorem mem_rstrip {c : Char} {s : Str} (h : c ∈ rstrip s) : c ∈ s := by
  obtain ⟨ws, hs, _⟩ := rstrip_decomp s
  rw [hs]
  exact List.mem_append_left _ h

theorem length_rstrip_le (s : Str) : (rstrip s).length ≤ s.length := by
  obtain ⟨ws, h, _⟩ := rstrip_decomp s
  have := congrArg List.length h
  rw [List.length_append] at this
  omega

theorem get_rstrip_some {l : Str} {i : Nat} {x : Char} (h : (rstrip l)[i]? = some x) : l[i]? = some x := by
  obtain ⟨ws, hl, _⟩ := rstrip_decomp l
  have hi : i < (rstrip l).length := by
    rcases Nat.lt_or_ge i (rstrip l).length with hh | hh
    · exact hh
    · rw [List.getElem?_eq_none hh] at h; simp at h
  rw [hl, List.getElem?_append_left hi]; exact h

/-! ### `rstrip` up to the last visible character -/

theorem lstrip_of_head {c : Char} {s : Str} (h : isSpace c = false) : lstrip (c :: s) = c :: s := by
  simp [lstrip, h]

theorem rstrip_concat {s : Str} {d : Char} (h : isSpace d = false) : rstrip (s ++ [d]) = s ++ [d] := by
  unfold rstrip
  rw [List.reverse_append, List.reverse_singleton, List.singleton_append,
    List.dropWhile_cons_of_neg (by rw [h]; exact Bool.false_ne_true), List.reverse_cons, List.reverse_reverse]

theorem rstrip_cons {c : Char} (s : Str) (h : isSpace c = false) : rstrip (c :: s) = c :: rstrip s := by
  unfold rstrip
  rw [List.reverse_cons, List.dropWhile_append]
  by_cases he : (List.dropWhile isSpace s.reverse).isEmpty = true
  · have : List.dropWhile isSpace s.reverse = [] := List.isEmpty_iff.mp he
    simp [this, h]
  · simp [he]

theorem rstrip_append_visible (a b : Str) (h : rstrip b ≠ []) : rstrip (a ++ b) = a ++ rstrip b := by
  unfold rstrip at h ⊢
  rw [List.reverse_append, List.dropWhile_append]
  have he : (List.dropWhile isSpace b.reverse).isEmpty = false := by
    cases hd : List.dropWhile isSpace b.reverse with
    | nil => rw [hd] at h; simp at h
    | cons x xs => rfl
  simp [he]

end Midgard.Text

namespace Midgard.Spec.Sp3File
open Midgard.Text

theorem rstrip_append_cons {c : Char} (a s : Str) (h : isSpace c = false) (ha : ∀ x ∈ a, isSpace x = false) :
    rstrip (a ++ c :: s) = a ++ c :: rstrip s := by
  rw [rstrip_append_visible a (c :: s) (by rw [rstrip_cons s h]; exact List.cons_ne_nil _ _), rstrip_cons s h]

end Midgard.Spec.Sp3File

namespace Midgard.Text

theorem rstrip_blank_append (a b : Str) (ha : isBlank a = true) (h : rstrip (a ++ b) ≠ []) : rstrip b ≠ [] := by
  intro hb
  apply h
  have : isBlank b = true := by
    obtain ⟨ws, hws, hbl⟩ := rstrip_decomp b
    rw [hb] at hws
    simpa [hws] using hbl
  exact rstrip_isBlank (by rw [isBlank_append, ha, this]; rfl)

theorem getLast?_append_ne (a b : Str) (h : b ≠ []) : (a ++ b).getLast? = b.getLast? := by
  rw [List.getLast?_append]
  cases hb : b.getLast? with
  | none => simp at hb; exact absurd hb h
  | some x => simp

theorem rstrip_of_last_visible (F : Str) (x : Char) (h : F.getLast? = some x) (hx : isSpace x = false) : rstrip F = F := by
  have hne : F ≠ [] := by intro e; rw [e] at h; simp at h
  have hx' : F.getLast hne = x := by
    have := List.getLast?_eq_some_getLast hne
    rw [h] at this; exact (Option.some.inj this).symm
  have := List.dropLast_concat_getLast hne
  rw [← this, hx']
  simp [rstrip, hx]

theorem get_rstrip_of_visible {l : Str} {i : Nat} {x : Char} (h : l[i]? = some x) (hx : isSpace x = false) :
    (rstrip l)[i]? = some x := by
  obtain ⟨ws, hl, hb⟩ := rstrip_decomp l
  rcases Nat.lt_or_ge i (rstrip l).length with hh | hh
  · rw [hl, List.getElem?_append_left hh] at h; exact h
  · rw [hl, List.getElem?_append_right hh] at h
    have hm : x ∈ ws := List.mem_of_getElem? h
    have := List.all_eq_true.mp hb x hm
    rw [hx] at this; simp at this

/-- if `F` ends visibly and `F ++ blanks` is cut where only blanks follow, the cut lies in the blanks -/
theorem prefix_visible (F bl X Y : Str) (h : F ++ bl = X ++ Y) (hbl : isBlank bl = true) (hY : isBlank Y = true)
    (hF : ∀ x, F.getLast? = some x → isSpace x = false) : ∃ ws, isBlank ws = true ∧ X = F ++ ws := by
  rcases List.append_eq_append_iff.mp h with ⟨a', hX, hb⟩ | ⟨c', hFc, hYc⟩
  · refine ⟨a', ?_, hX⟩
    rw [hb, isBlank_append] at hbl
    simp only [Bool.and_eq_true] at hbl
    exact hbl.1
  · cases hc : c' with
    | nil => rw [hc] at hFc; exact ⟨[], rfl, by simpa using hFc.symm⟩
    | cons z zs =>
      exfalso
      have hlast : F.getLast? = some ((z :: zs).getLast (by simp)) := by
        rw [hFc, hc, getLast?_append_ne _ _ (by simp)]
        exact List.getLast?_eq_some_getLast (by simp)
      have hvis := hF _ hlast
      have hmem : (z :: zs).getLast (by simp) ∈ Y := by
        rw [hYc, hc]; exact List.mem_append_left _ (List.getLast_mem _)
      have := List.all_eq_true.mp hY _ hmem
      rw [hvis] at this; simp at this

/-- `rstrip` removes a suffix of blanks, and a line shorter than `p` after it cannot have begun with `p` before -/
theorem take_rstrip {p : Str} (hp : ∀ c ∈ p, isSpace c = false) (l : Str) :
    (rstrip l).take p.length = p ↔ l.take p.length = p := by
  obtain ⟨ws, hs, hb⟩ := rstrip_decomp l
  generalize rstrip l = r at hs
  subst hs
  rw [List.take_append]
  constructor
  · intro h
    have hl := congrArg List.length h
    rw [List.length_take] at hl
    rw [h, show p.length - r.length = 0 by omega]
    simp
  · intro h
    cases hw : ws.take (p.length - r.length) with
    | nil => rw [hw, List.append_nil] at h; exact h
    | cons w _ =>
      have hwp : w ∈ p := by rw [← h, hw]; simp
      have hws : w ∈ ws := List.mem_of_mem_take (by rw [hw]; simp)
      have hsp : isSpace w = true := List.all_eq_true.mp hb w hws
      rw [hp w hwp] at hsp
      exact absurd hsp (by decide)

/-! ### values without outer blanks (`Clean`), and what padding keeps -/

theorem clean_lstrip {v : Str} (h : Clean v = true) : lstrip v = v := by
  cases v with
  | nil => rfl
  | cons c s =>
    simp only [Clean, Bool.and_eq_true, Bool.not_eq_eq_eq_not, Bool.not_true] at h
    exact lstrip_of_head h.1

theorem clean_concat {v : Str} (h : Clean v = true) (hne : v ≠ []) : ∃ s d, v = s ++ [d] ∧ isSpace d = false := by
  cases v with
  | nil => exact absurd rfl hne
  | cons c r =>
    simp only [Clean, Bool.and_eq_true, Bool.not_eq_eq_eq_not, Bool.not_true] at h
    cases hl : (c :: r).getLast? with
    | none => exact absurd (List.getLast?_eq_none_iff.mp hl) hne
    | some d =>
      obtain ⟨s, e⟩ := List.getLast?_eq_some_iff.mp hl
      rw [hl, Option.getD_some] at h
      exact ⟨s, d, e, h.2⟩

theorem rstrip_append_of_clean {a v : Str} (hv : Clean v = true) (hne : v ≠ []) : rstrip (a ++ v) = a ++ v := by
  obtain ⟨s, d, rfl, hd⟩ := clean_concat hv hne
  rw [← List.append_assoc]
  exact rstrip_concat hd

theorem clean_rstrip {v : Str} (h : Clean v = true) : rstrip v = v := by
  by_cases hne : v = []
  · rw [hne]; rfl
  · exact rstrip_append_of_clean (a := []) h hne

theorem strip_of_clean {v : Str} (h : Clean v = true) : strip v = v := by
  unfold strip; rw [clean_lstrip h, clean_rstrip h]

theorem lstrip_append_of_ne_nil {v s : Str} (h : Clean v = true) (hne : v ≠ []) :
    lstrip (v ++ s) = v ++ s := by
  cases v with
  | nil => exact absurd rfl hne
  | cons c r =>
    simp only [Clean, Bool.and_eq_true, Bool.not_eq_eq_eq_not, Bool.not_true] at h
    exact lstrip_of_head h.1

/-- the heart of every fixed-column round trip -/
theorem strip_pad {v a b : Str} (hv : Clean v = true) (ha : isBlank a = true) (hb : isBlank b = true) :
    strip (a ++ v ++ b) = v := by
  unfold strip
  rw [List.append_assoc, lstrip_isBlank_append ha]
  by_cases hne : v = []
  · subst hne
    simp [lstrip_isBlank hb, rstrip]
  · rw [lstrip_append_of_ne_nil hv hne, rstrip_append_isBlank hb, clean_rstrip hv]

theorem strip_append_isBlank {s ws : Str} (h : isBlank ws = true) : strip (s ++ ws) = strip s := by
  obtain ⟨pre, h1, h2⟩ := lstrip_decomp s
  unfold strip
  cases hl : lstrip s with
  | nil =>
    rw [hl] at h1
    simp only [List.append_nil] at h1
    have hb : isBlank (s ++ ws) = true := by rw [isBlank_append, h1, h2, h]; rfl
    rw [lstrip_isBlank hb]
  | cons c r =>
    have hc : isSpace c = false := dropWhile_head_not s c r hl
    have : lstrip (s ++ ws) = c :: r ++ ws := by
      rw [h1, hl, List.append_assoc, lstrip_isBlank_append h2]
      exact lstrip_of_head hc
    rw [this, rstrip_append_isBlank h]

theorem strip_blank_append {ws s : Str} (h : isBlank ws = true) : strip (ws ++ s) = strip s := by
  unfold strip
  rw [lstrip_isBlank_append h]

theorem lstrip_of_no_space {s : Str} (h : ∀ c ∈ s, isSpace c = false) : lstrip s = s := by
  cases s with
  | nil => rfl
  | cons c r => exact lstrip_of_head (h c (by simp))

theorem rstrip_of_no_space {s : Str} (h : ∀ c ∈ s, isSpace c = false) : rstrip s = s := by
  unfold rstrip
  have : s.reverse.dropWhile isSpace = s.reverse := by
    have := lstrip_of_no_space (s := s.reverse) (fun c hc => h c (by simpa using hc))
    exact this
  rw [this, List.reverse_reverse]

theorem strip_of_no_space {s : Str} (h : ∀ c ∈ s, isSpace c = false) : strip s = s := by
  unfold strip; rw [lstrip_of_no_space h, rstrip_of_no_space h]

end Midgard.Text

/-! in the namespace of the number printers, whose texts are shown clean this way -/

namespace Midgard.Decimal
open Midgard.Text

theorem clean_of_no_space {s : Str} (h : ∀ c ∈ s, isSpace c = false) : Clean s = true := by
  cases s with
  | nil => rfl
  | cons c r =>
    simp only [Clean, Bool.and_eq_true, Bool.not_eq_eq_eq_not, Bool.not_true]
    refine ⟨h c (by simp), ?_⟩
    cases hl : (c :: r).getLast? with
    | none => simp at hl
    | some d => exact h d (List.mem_of_getLast? hl)

end Midgard.Decimal

namespace Midgard.Text

/-! ### the strips are idempotent -/

theorem lstrip_idem (s : Str) : lstrip (lstrip s) = lstrip s :=
  Lists.dropWhile_twice isSpace s

theorem rstrip_idem (s : Str) : rstrip (rstrip s) = rstrip s := by
  unfold rstrip
  rw [List.reverse_reverse, Lists.dropWhile_twice]

theorem strip_idem (s : Str) : strip (strip s) = strip s := by
  unfold strip
  cases h : lstrip s with
  | nil => simp [rstrip, lstrip]
  | cons c r =>
    have hc : isSpace c = false := dropWhile_head_not s c r h
    rw [rstrip_cons r hc, lstrip_of_head hc, ← rstrip_cons r hc, rstrip_idem]

theorem isBlank_strip (s : Str) : isBlank (strip s) = isBlank s := by
  obtain ⟨ws1, h1, hb1⟩ := lstrip_decomp s
  obtain ⟨ws2, h2, hb2⟩ := rstrip_decomp (lstrip s)
  have hs : s = ws1 ++ (strip s ++ ws2) := by
    unfold strip
    rw [← h2]; exact h1
  have : isBlank s = isBlank (ws1 ++ (strip s ++ ws2)) := congrArg isBlank hs
  rw [this, isBlank_append, isBlank_append, hb1, hb2]
  simp

/-! ### `ljust`, `rjust` -/

theorem strip_ljust {w : Nat} {v : Str} (hv : Clean v = true) : strip (ljust w v) = v := by
  have := strip_pad (a := []) (b := blanks (w - v.length)) hv rfl (isBlank_blanks _)
  simpa [ljust] using this

theorem strip_rjust {w : Nat} {v : Str} (hv : Clean v = true) : strip (rjust w v) = v := by
  have := strip_pad (a := blanks (w - v.length)) (b := []) hv (isBlank_blanks _) rfl
  simpa [rjust] using this

theorem ljust_succ (n : Nat) (s : Str) (h : s.length ≤ n) : ljust (n + 1) s = s ++ ' ' :: blanks (n - s.length) := by
  unfold ljust
  rw [show n + 1 - s.length = (n - s.length) + 1 by omega]
  simp [blanks, List.replicate_succ]

theorem length_ljust {w : Nat} {v : Str} (h : v.length ≤ w) : (ljust w v).length = w := by
  unfold ljust
  rw [List.length_append, length_blanks]
  omega

theorem length_rjust_eq_iff {w : Nat} {v : Str} : (rjust w v).length = w ↔ v.length ≤ w := by
  unfold rjust
  rw [List.length_append, length_blanks]
  omega

theorem length_rjust {w : Nat} {v : Str} (h : v.length ≤ w) : (rjust w v).length = w :=
  length_rjust_eq_iff.mpr h

theorem length_le_length_ljust (w : Nat) (s : Str) : s.length ≤ (ljust w s).length := by
  rw [ljust, List.length_append]
  omega

theorem le_length_rjust (w : Nat) (s : Str) : w ≤ (rjust w s).length := by
  rw [rjust, List.length_append, length_blanks]
  omega

theorem ljust_nil (w : Nat) : ljust w [] = blanks w := rfl

theorem rjust_nil (w : Nat) : rjust w [] = blanks w := List.append_nil _

theorem ljust_of_length_ge {w : Nat} {s : Str} (h : w ≤ s.length) : ljust w s = s := by
  rw [ljust, Nat.sub_eq_zero_of_le h, blanks_zero, List.append_nil]

theorem rjust_of_length_ge {w : Nat} {s : Str} (h : w ≤ s.length) : rjust w s = s := by
  rw [rjust, Nat.sub_eq_zero_of_le h, blanks_zero, List.nil_append]

theorem getElem?_ljust_of_lt (w : Nat) {s : Str} {i : Nat} (h : i < s.length) : (ljust w s)[i]? = s[i]? :=
  List.getElem?_append_left h

theorem rjust_lead (k w : Nat) (a : Str) (h : a.length ≤ w) : blanks k ++ rjust w a = rjust (k + w) a := by
  unfold rjust blanks
  rw [← List.append_assoc, List.replicate_append_replicate]
  congr 2
  omega

theorem strip_ljust_eq_strip (w : Nat) (s : Str) : strip (ljust w s) = strip s :=
  strip_append_isBlank (isBlank_blanks _)

theorem rjust_get_blank (w : Nat) (v : Str) (i : Nat) (h : i < w - v.length) : (rjust w v)[i]? = some ' ' := by
  unfold rjust blanks
  rw [List.getElem?_append_left (by simpa using h)]
  simp [h]

theorem rjust_get_text (w : Nat) (v : Str) (i : Nat) (h : w - v.length ≤ i) : (rjust w v)[i]? = v[i - (w - v.length)]? := by
  unfold rjust blanks
  rw [List.getElem?_append_right (by simpa using h)]
  simp

/-! ### `slice` -/

theorem slice_nil (a b : Nat) : slice a b [] = [] := by simp [slice]

theorem length_slice (a b : Nat) (s : Str) : (slice a b s).length = min b s.length - a := by
  simp [slice]

theorem slice_cell {pre cell post : Str} {a b : Nat} (ha : pre.length = a) (hb : a + cell.length = b) :
    slice a b (pre ++ cell ++ post) = cell := by
  unfold slice
  subst ha; subst hb
  rw [List.append_assoc, List.take_append, List.drop_append]
  simp

theorem slice_prefix (x y : Str) : slice 0 x.length (x ++ y) = x := by
  have := slice_cell (pre := []) (cell := x) (post := y) (a := 0) (b := x.length) rfl (Nat.zero_add _)
  simpa using this

theorem slice_of_length_le {s : Str} {b : Nat} (h : s.length ≤ b) : slice 0 b s = s := by
  rw [slice, List.take_of_length_le h, List.drop_zero]

theorem slice_append (x y : Str) (a b : Nat) :
    slice a b (x ++ y) = slice a b x ++ slice (a - x.length) (b - x.length) y := by
  unfold slice
  rw [List.take_append, List.drop_append]
  by_cases h : b ≤ x.length
  · rw [Nat.sub_eq_zero_of_le h, List.take_zero, List.drop_nil, List.drop_nil]
  · rw [List.length_take, Nat.min_eq_right (Nat.le_of_not_le h)]

theorem slice_append_left {x y : Str} {a b : Nat} (hb : b ≤ x.length) :
    slice a b (x ++ y) = slice a b x := by
  rw [slice_append, Nat.sub_eq_zero_of_le hb]
  unfold slice
  rw [List.take_zero, List.drop_nil, List.append_nil]

theorem slice_append_right {x y : Str} {a b : Nat} (ha : x.length ≤ a) :
    slice a b (x ++ y) = slice (a - x.length) (b - x.length) y := by
  have : slice a b x = [] := List.drop_eq_nil_of_le (Nat.le_trans (List.length_take_le' _ _) ha)
  rw [slice_append, this, List.nil_append]

theorem slice_slice (a b c d : Nat) (s : Str) :
    slice a b (slice c d s) = slice (c + a) (min (c + b) d) s := by
  unfold slice
  rw [List.take_drop, List.take_take, List.drop_drop]

theorem slice_drop (a b n : Nat) (s : Str) : slice a b (s.drop n) = slice (a + n) (b + n) s := by
  unfold slice
  rw [List.take_drop, List.drop_drop, Nat.add_comm n a, Nat.add_comm n b]

theorem slice_one (l : Str) (i : Nat) : slice i (i + 1) l = (l[i]?).toList := by
  unfold slice
  rw [List.drop_take]
  simp only [Nat.add_sub_cancel_left]
  cases h : l[i]? with
  | none =>
    have : l.length ≤ i := by simpa using h
    rw [List.drop_eq_nil_of_le this]; rfl
  | some x =>
    have hi : i < l.length := by
      rcases Nat.lt_or_ge i l.length with hh | hh
      · exact hh
      · rw [List.getElem?_eq_none hh] at h; simp at h
    rw [List.drop_eq_getElem_cons hi]
    have : l[i] = x := by
      have := List.getElem?_eq_getElem hi
      rw [h] at this; exact (Option.some.inj this).symm
    simp [this]

theorem slice_split (l : Str) {a m b : Nat} (h1 : a ≤ m) (h2 : m ≤ b) :
    slice a b l = slice a m l ++ slice m b l := by
  unfold slice
  have ht : l.take m = (l.take b).take m := by
    rw [List.take_take]; congr 1; omega
  rw [ht]
  generalize l.take b = t
  conv => lhs; rw [← List.take_append_drop m t]
  rw [List.drop_append]
  by_cases hm : m ≤ t.length
  · have hlen : (t.take m).length = m := by simp; omega
    rw [hlen]
    have : a - m = 0 := by omega
    simp [this]
  · have : t.drop m = [] := by apply List.drop_eq_nil_of_le; omega
    simp [this]

theorem mem_slice_drop {c : Char} {a b k : Nat} {l : Str} (h : c ∈ slice a b l) (hk : k ≤ a) : c ∈ l.drop k := by
  unfold slice at h
  have h1 : c ∈ l.drop a := by
    have : (List.take b l).drop a = (l.drop a).take (b - a) := by rw [List.drop_take]
    rw [this] at h
    exact List.mem_of_mem_take h
  have : l.drop a = (l.drop k).drop (a - k) := by rw [List.drop_drop]; congr 1; omega
  rw [this] at h1
  exact List.mem_of_mem_drop h1

theorem isBlank_slice {s : Str} (h : isBlank s = true) (a b : Nat) : isBlank (slice a b s) = true :=
  isBlank_drop (isBlank_take h b) a

/-- "trailing blanks stripped": a field read from the rstripped line is the field read from the line -/
theorem strip_slice_rstrip (a b : Nat) (l : Str) : strip (slice a b (rstrip l)) = strip (slice a b l) := by
  obtain ⟨ws, h1, h2⟩ := rstrip_decomp l
  conv => rhs; rw [h1]
  rw [slice_append, strip_append_isBlank (isBlank_slice h2 _ _)]

theorem strip_slice_append_isBlank (a b : Nat) (l ws : Str) (h : isBlank ws = true) :
    strip (slice a b (l ++ ws)) = strip (slice a b l) := by
  rw [slice_append, strip_append_isBlank (isBlank_slice h _ _)]

theorem strip_slice_ljust (a b w : Nat) (s : Str) : strip (slice a b (ljust w s)) = strip (slice a b s) := by
  unfold ljust
  exact strip_slice_append_isBlank a b s _ (isBlank_blanks _)

theorem strip_slice_wider (line : Str) (a s e b : Nat) (h1 : a ≤ s) (h2 : s ≤ e) (h3 : e ≤ b)
    (hl : isBlank (slice a s line) = true) (hr : isBlank (slice e b line) = true) :
    strip (slice a b line) = strip (slice s e line) := by
  rw [slice_split line h1 (by omega : s ≤ b), slice_split line h2 h3, ← List.append_assoc,
    strip_append_isBlank hr, strip_blank_append hl]

/-- a text between blanks inside a line: everything from a column `a` inside or before the blanks in front of it, with only
blanks from `a` on, to a column `b` inside or after the blanks behind it, with only blanks up to `b`, strips to the text -/
theorem strip_slice_cell (P Q t : Str) (k1 k2 a b : Nat) (ht : Clean t = true)
    (ha : a ≤ P.length + k1) (hb : P.length + k1 + t.length ≤ b)
    (hP : isBlank (P.drop a) = true) (hQ : isBlank (Q.take (b - (P.length + k1 + t.length + k2))) = true) :
    strip (slice a b (P ++ (blanks k1 ++ t ++ blanks k2) ++ Q)) = t := by
  have hl : (P ++ blanks k1).length = P.length + k1 := by rw [List.length_append, length_blanks]
  have e : P ++ (blanks k1 ++ t ++ blanks k2) ++ Q = (P ++ blanks k1) ++ (t ++ (blanks k2 ++ Q)) := by
    simp only [List.append_assoc]
  unfold slice
  rw [e, List.take_append, List.take_of_length_le (by omega), List.take_append, List.take_of_length_le (by omega),
    List.drop_append, Nat.sub_eq_zero_of_le (by omega), List.drop_zero, ← List.append_assoc, hl]
  refine strip_pad ht ?_ ?_
  · rw [List.drop_append, isBlank_append, hP, isBlank_drop (isBlank_blanks _)]; rfl
  · rw [List.take_append, isBlank_append, isBlank_take (isBlank_blanks _), length_blanks, Nat.sub_sub, Nat.sub_sub,
      ← Nat.add_assoc, hQ]; rfl

/-! ### `replaceChar` -/

theorem replaceChar_id {a b : Char} {s : Str} (h : ∀ c ∈ s, c ≠ a) : replaceChar a b s = s := by
  unfold replaceChar
  induction s with
  | nil => rfl
  | cons c s ih =>
    have hc : c ≠ a := h c (by simp)
    simp only [List.map_cons, hc, if_false]
    rw [ih (fun d hd => h d (by simp [hd]))]

theorem isBlank_replaceChar (a b : Char) (ha : isSpace a = false) (hb : isSpace b = false) (t : Str) :
    isBlank (replaceChar a b t) = isBlank t := by
  induction t with
  | nil => rfl
  | cons c r ih =>
    simp only [replaceChar, List.map_cons, isBlank, List.all_cons] at ih ⊢
    rw [ih]
    by_cases h : c = a
    · subst h; simp [ha, hb]
    · simp [h]

theorem isEmpty_replaceChar (a b : Char) (t : Str) : (replaceChar a b t).isEmpty = t.isEmpty := by
  cases t <;> rfl

/-! ### a text made of blocks of one width -/

theorem flatten_get_blockW (w : Nat) (bs : List Str) (hb : ∀ b ∈ bs, b.length = w) : ∀ (k i : Nat), i < w →
    (bs.flatten)[w * k + i]? = (bs[k]?).bind (·[i]?) := by
  induction bs with
  | nil => intro k i _; simp
  | cons b bs ih =>
    intro k i hi
    have hbl := hb b (by simp)
    cases k with
    | zero =>
      simp only [List.flatten_cons, Nat.mul_zero, Nat.zero_add, List.getElem?_cons_zero, Option.bind_some]
      rw [List.getElem?_append_left (by omega)]
    | succ k =>
      simp only [List.flatten_cons, List.getElem?_cons_succ]
      rw [List.getElem?_append_right (by rw [hbl, Nat.mul_succ]; omega)]
      have : w * (k + 1) + i - b.length = w * k + i := by rw [hbl, Nat.mul_succ]; omega
      rw [this]
      exact ih (fun b' hb' => hb b' (by simp [hb'])) k i hi

theorem startsWith_append (p s : Str) : startsWith p (p ++ s) = true := by
  simp [startsWith]

/-! ### `startsWith` with a one-character prefix -/

theorem startsWith_cons (c d : Char) (r : Str) : startsWith [c] (d :: r) = decide (c = d) := by
  by_cases h : c = d <;> simp [startsWith, List.isPrefixOf, h]

theorem startsWith_one_append (p : Char) (x y : Str) (hx : x ≠ []) : startsWith [p] (x ++ y) = startsWith [p] x := by
  cases x with
  | nil => exact absurd rfl hx
  | cons c t => rw [List.cons_append, startsWith_cons, startsWith_cons]

theorem startsWith_other {c d : Char} (h : c ≠ d) {l : Str} (hl : startsWith [c] l = true) : startsWith [d] l = false := by
  cases l with
  | nil => rfl
  | cons x r =>
    rw [startsWith_cons, decide_eq_true_eq] at hl
    rw [startsWith_cons, ← hl]
    exact decide_eq_false (Ne.symm h)

end Midgard.Text
