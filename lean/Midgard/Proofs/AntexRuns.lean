/-
C15: `Runs p ls f` — under parser `p` the lines `ls`, none of which ends its group, have together the effect `f`.  Runs are
built line by line (`line`, `cons`), joined (`append`, `flatMap`), survive unread lines woven in (`weave_last`), and a run
followed by the line that ends the group is what `read_data` does with the group (`group`).
-/
import Midgard.Proofs.AntexFx
namespace Midgard.Antex.File
open Midgard.Text Midgard.FixedCol Midgard.ChainParser Midgard.Antex Midgard.Decimal Midgard.Antex.Records
open Midgard.Spec.AntexFile

def Runs (p : ParserDef State) (ls : List Str) (f : Fx) : Prop :=
  ∃ g : List (Str × Fx), g.map (·.1) = ls ∧ (∀ x ∈ g, LineOk p x) ∧ ∀ s, runFx (g.map (·.2)) s = f s

/-- `f`, then `g` (a definition of its own and not `>>=`: the cases are those of `runFx`) -/
def seqFx (f g : Fx) : Fx := fun s =>
  match f s with
  | .ok s' => g s'
  | .error e => .error e

theorem runFx_cons (f : Fx) (fs : List Fx) (s : State) : runFx (f :: fs) s = seqFx f (runFx fs) s := by
  simp only [runFx, seqFx]
  cases f s <;> rfl

namespace Runs
variable {p : ParserDef State}

theorem nil : Runs p [] idFx := ⟨[], rfl, fun _ h => (nomatch h), fun _ => rfl⟩

theorem line {l : Str} {f : Fx} (h : LineOk p (l, f)) : Runs p [l] f :=
  ⟨[(l, f)], rfl, List.forall_mem_singleton.mpr h, fun s => by
    simp only [List.map_cons, List.map_nil, runFx]
    cases f s <;> rfl⟩

theorem congr {ls : List Str} {f g : Fx} (h : Runs p ls f) (hfg : ∀ s, f s = g s) : Runs p ls g :=
  let ⟨G, hl, hok, hrun⟩ := h
  ⟨G, hl, hok, fun s => (hrun s).trans (hfg s)⟩

theorem append {a b : List Str} {f g : Fx} (ha : Runs p a f) (hb : Runs p b g) : Runs p (a ++ b) (seqFx f g) := by
  obtain ⟨ga, rfl, oa, ra⟩ := ha
  obtain ⟨gb, rfl, ob, rb⟩ := hb
  refine ⟨ga ++ gb, List.map_append, fun x hx => (List.mem_append.mp hx).elim (oa x) (ob x), fun s => ?_⟩
  rw [List.map_append, runFx_append, ra, seqFx]
  cases f s with
  | error e => rfl
  | ok s' => exact rb s'

theorem cons {l : Str} {ls : List Str} {f g : Fx} (h : LineOk p (l, f)) (hs : Runs p ls g) :
    Runs p (l :: ls) (seqFx f g) :=
  (line h).append hs

theorem flatMap {α} (L : α → List Str) (E : α → Fx) : ∀ xs : List α, (∀ x ∈ xs, Runs p (L x) (E x)) →
    Runs p (xs.map L).flatten (runFx (xs.map E))
  | [], _ => nil
  | x :: xs, h =>
    ((h x List.mem_cons_self).append (flatMap L E xs fun y hy => h y (List.mem_cons_of_mem _ hy))).congr fun s =>
      (runFx_cons _ _ s).symm

theorem nonl {ls : List Str} {f : Fx} (h : Runs p ls f) : ∀ l ∈ ls, NoNl l := by
  obtain ⟨g, rfl, ok, _⟩ := h
  intro l hl
  obtain ⟨x, hx, rfl⟩ := List.mem_map.mp hl
  exact (ok x hx).2.2

theorem ids : ∀ d : List Str, (∀ l ∈ d, LineOk p (l, idFx)) → Runs p d idFx
  | [], _ => nil
  | l :: d, h => (cons (h l List.mem_cons_self) (ids d fun m hm => h m (List.mem_cons_of_mem _ hm))).congr fun _ => rfl

/-- lines without effect woven in front of the lines of a run and of the line `z` after it: what stands before `z` is
still a run with the same effect -/
theorem weave_last {xs : List Str} {f : Fx} (h : Runs p xs f) (z : Str) :
    ∀ {ds : List (List Str)}, (∀ d ∈ ds, ∀ l ∈ d, LineOk p (l, idFx)) →
      ∃ ys, weave (xs ++ [z]) ds = ys ++ [z] ∧ Runs p ys f := by
  obtain ⟨g, rfl, ok, run⟩ := h
  induction g generalizing f with
  | nil =>
    intro ds hd
    cases ds with
    | nil => exact ⟨[], rfl, nil.congr run⟩
    | cons d ds => exact ⟨d, by simp [weave], (ids d (hd d List.mem_cons_self)).congr run⟩
  | cons x g ih =>
    intro ds hd
    cases ds with
    | nil => exact ⟨(x :: g).map (·.1), rfl, x :: g, rfl, ok, run⟩
    | cons d ds =>
      obtain ⟨ys, hys, hr⟩ := ih (f := runFx (g.map (·.2))) (fun y hy => ok y (List.mem_cons_of_mem _ hy)) (fun _ => rfl)
        fun e he => hd e (List.mem_cons_of_mem _ he)
      refine ⟨d ++ x.1 :: ys, by simp [weave, hys],
        ((ids d (hd d List.mem_cons_self)).append (cons (ok x List.mem_cons_self) hr)).congr fun s => ?_⟩
      rw [← run s, List.map_cons, runFx_cons]
      rfl

/-- a run, then a line with effect `lf` that ends the group: `read_data` goes on behind it with the reset state (`p` is the
header parser for the first group, the antenna-section parser after it) -/
theorem group (inFirst : Bool) {p : ParserDef State} (hp : (if inFirst then headerParser else corrParser) = p)
    {ls : List Str} {f : Fx} (h : Runs p ls f) {last : Str} {lf : Fx}
    (hl : ∀ n s, parseLine p (rstrip last) n s = lf s) (hend : ∀ n nx, p.endMarker (rstrip last) n nx = true)
    (more : List Str) (n : Nat) (s : State) :
    readData headerParser corrParser resetCache (ls ++ last :: more) inFirst n s =
      match seqFx f lf s with
      | .error e => .error e
      | .ok s' => readData headerParser corrParser resetCache more false 0 (resetCache s') := by
  subst hp
  obtain ⟨g, rfl, ok, run⟩ := h
  have hg := readData_group headerParser corrParser resetCache inFirst g (last, lf) more
    (fun x hx n s => by
      rcases List.mem_append.mp hx with h | h
      · exact (ok x h).1 n s
      · rw [List.mem_singleton.mp h]
        exact hl n s)
    (fun x hx => (ok x hx).2.1) hend n s
  rw [List.map_append, List.map_append, runFx_append, run, List.append_assoc] at hg
  rw [show g.map (·.1) ++ last :: more = g.map (·.1) ++ ([(last, lf)].map (·.1) ++ more) from rfl, hg]
  simp only [seqFx, List.map_cons, List.map_nil, runFx]
  cases f s with
  | error e => rfl
  | ok s' =>
    dsimp only
    cases lf s' <;> rfl

end Runs

def kindOf (k : String) : Kind := (corrKinds.find? (·.kind == k)).getD ⟨k, none, []⟩

theorem Runs.kind (k : String) {cells : List Str} (hok : okRec k cells = true)
    (he : (corrKinds.find? (·.kind == k)).isSome = true := by decide +kernel) :
    Runs corrParser [rec k cells] (kindFx (kindOf k) cells) := by
  obtain ⟨e, hf⟩ := Option.isSome_iff_exists.mp he
  have hk : e.kind = k := by simpa using List.find?_some hf
  have hko : kindOf k = e := by simp [kindOf, hf]
  subst hk
  rw [hko]
  exact Runs.line (lineOk_kind hok (List.mem_of_find?_eq_some hf))

theorem kindOf_SOF : kindOf "SOF" = ⟨"SOF", some "parse_start_of_frequency", ["frequency_code"]⟩ := by
  simp [kindOf, corrKinds]

theorem kindOf_EOF : kindOf "EOF" = ⟨"EOF", some "save_correction", ["frequency_code"]⟩ := by
  simp [kindOf, corrKinds]

end Midgard.Antex.File
