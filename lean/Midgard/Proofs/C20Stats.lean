/-
C20 — LinearRegression: the fitted line characterised by the normal equations (`ols_eq_some_iff`), and what the
statistics rms², r_square, slope_sigma², interception_sigma² need about sums of squares (affine rescaling of the
ordinates, samples on a line, Σ(y−a−bx)² and Σ(x−c)² expanded).
-/
import Midgard.Proofs.C20Nputil
import Mathlib.Tactic.Ring
import Mathlib.Tactic.FieldSimp
import Mathlib.Tactic.LinearCombination

namespace Midgard.Proofs.C20
open Midgard.Numeric

theorem resid_cons (f : Fit) (x y : ℚ) (xs ys : List ℚ) :
    resid f (x :: xs) (y :: ys) = (y - (f.icpt + f.slope * x)) :: resid f xs ys := rfl

theorem sum_resid (f : Fit) : ∀ (xs ys : List ℚ), xs.length = ys.length →
    (resid f xs ys).sum = ys.sum - (xs.length : ℚ) * f.icpt - f.slope * xs.sum
  | [], [], _ => by simp [resid]
  | [], _ :: _, h => by simp at h
  | _ :: _, [], h => by simp at h
  | x :: xs, y :: ys, h => by
    have ih := sum_resid f xs ys (by simpa using h)
    simp only [resid_cons, List.sum_cons, List.length_cons, ih]
    push_cast; ring

theorem sum_x_resid (f : Fit) : ∀ (xs ys : List ℚ), xs.length = ys.length →
    (List.zipWith (· * ·) xs (resid f xs ys)).sum =
      (List.zipWith (· * ·) xs ys).sum - f.icpt * xs.sum - f.slope * (xs.map (fun x => x * x)).sum
  | [], [], _ => by simp [resid]
  | [], _ :: _, h => by simp at h
  | _ :: _, [], h => by simp at h
  | x :: xs, y :: ys, h => by
    have ih := sum_x_resid f xs ys (by simpa using h)
    simp only [resid_cons, List.zipWith_cons_cons, List.sum_cons, List.map_cons, ih]
    ring

theorem sum_map_line (a b : ℚ) (xs : List ℚ) :
    (xs.map (fun x => a + b * x)).sum = (xs.length : ℚ) * a + b * xs.sum := by
  induction xs with
  | nil => simp
  | cons x xs ih => simp only [List.map_cons, List.sum_cons, List.length_cons, ih]; push_cast; ring

theorem sum_zip_line (a b : ℚ) (xs : List ℚ) :
    (List.zipWith (· * ·) xs (xs.map (fun x => a + b * x))).sum
      = a * xs.sum + b * (xs.map (fun x => x * x)).sum := by
  induction xs with
  | nil => simp
  | cons x xs ih => simp only [List.map_cons, List.zipWith_cons_cons, List.sum_cons, ih]; ring

theorem length_ne_zero_of_den {xs : List ℚ}
    (hden : (xs.length : ℚ) * (xs.map (fun x => x * x)).sum - xs.sum * xs.sum ≠ 0) : (xs.length : ℚ) ≠ 0 := by
  intro h0
  apply hden
  have : xs = [] := List.length_eq_zero_iff.mp (by exact_mod_cast h0)
  subst this; simp

theorem ols_eq_some_iff (xs ys : List ℚ) (f : Fit) :
    ols xs ys = some f ↔
      (xs.length : ℚ) * (xs.map (fun x => x * x)).sum - xs.sum * xs.sum ≠ 0 ∧
      (xs.length : ℚ) * f.icpt + xs.sum * f.slope = ys.sum ∧
      xs.sum * f.icpt + (xs.map (fun x => x * x)).sum * f.slope = (List.zipWith (· * ·) xs ys).sum := by
  -- `ols` divides by the determinant `n·Σx² − (Σx)²` and returns Cramer's solution; conversely two equations with
  -- non-zero determinant have only that solution
  by_cases hden : (xs.length : ℚ) * (xs.map (fun x => x * x)).sum - xs.sum * xs.sum = 0
  · simp [ols, hden]
  have hn := length_ne_zero_of_den hden
  rcases f with ⟨a, b⟩
  simp only [ols, hden, ↓reduceIte, Option.some.injEq, Fit.mk.injEq, ne_eq, not_false_eq_true, true_and]
  generalize (xs.length : ℚ) = n at *
  generalize xs.sum = sx at *
  generalize ys.sum = sy at *
  generalize (xs.map (fun x => x * x)).sum = sxx at *
  generalize (List.zipWith (· * ·) xs ys).sum = sxy at *
  constructor
  · rintro ⟨rfl, rfl⟩
    have hb := div_mul_cancel₀ (n * sxy - sx * sy) hden
    generalize (n * sxy - sx * sy) / (n * sxx - sx * sx) = b at *
    have ha := div_mul_cancel₀ (sy - b * sx) hn
    generalize (sy - b * sx) / n = a at *
    refine ⟨by linear_combination ha, mul_left_cancel₀ hn ?_⟩
    linear_combination sx * ha + hb
  · rintro ⟨e1, e2⟩
    have hb : (n * sxy - sx * sy) / (n * sxx - sx * sx) = b := by
      rw [div_eq_iff hden]; linear_combination (-n) * e2 + sx * e1
    rw [hb, div_eq_iff hn]
    exact ⟨by linear_combination -e1, rfl⟩

theorem sum_zip_affine (al be : ℚ) : ∀ (xs ys : List ℚ), xs.length = ys.length →
    (List.zipWith (· * ·) xs (ys.map (fun y => al + be * y))).sum
      = al * xs.sum + be * (List.zipWith (· * ·) xs ys).sum
  | [], [], _ => by simp
  | [], _ :: _, h => by simp at h
  | _ :: _, [], h => by simp at h
  | x :: xs, y :: ys, h => by
    have ih := sum_zip_affine al be xs ys (by simpa using h)
    simp only [List.map_cons, List.zipWith_cons_cons, List.sum_cons, ih]; ring

theorem resid_affine (f : Fit) (al be : ℚ) : ∀ (xs ys : List ℚ),
    resid ⟨al + be * f.icpt, be * f.slope⟩ xs (ys.map (fun y => al + be * y)) = (resid f xs ys).map (be * ·)
  | [], _ => by simp [resid]
  | _ :: _, [] => by simp [resid]
  | x :: xs, y :: ys => by
    have ih := resid_affine f al be xs ys
    simp only [resid, List.map_cons, List.zipWith_cons_cons] at ih ⊢
    rw [ih]
    congr 1
    ring

theorem ssr_affine (f : Fit) (al be : ℚ) (xs ys : List ℚ) :
    ssr ⟨al + be * f.icpt, be * f.slope⟩ xs (ys.map (fun y => al + be * y)) = be * be * ssr f xs ys := by
  unfold ssr
  rw [resid_affine, normSq_scale]

theorem sst_affine (al be : ℚ) (ys : List ℚ) (hn : (ys.length : ℚ) ≠ 0) :
    sst (ys.map (fun y => al + be * y)) = be * be * sst ys := by
  unfold sst mean
  rw [sum_map_line, List.length_map, List.map_map, ← normSq_scale, List.map_map]
  congr 1
  apply List.map_congr_left
  intro y _
  simp only [Function.comp]
  field_simp
  ring

theorem ssr_eq_zero_iff (f : Fit) (xs ys : List ℚ) : ssr f xs ys = 0 ↔ ∀ e ∈ resid f xs ys, e = 0 :=
  normSq_eq_zero_iff _

theorem fitStats_rSquare (f : Fit) (xs ys : List ℚ) : (fitStats f xs ys).rSquare = 1 - ssr f xs ys / sst ys := rfl

theorem fitStats_rms2 (f : Fit) (xs ys : List ℚ) : (fitStats f xs ys).rms2 = ssr f xs ys / (xs.length : ℚ) := rfl

theorem stats_exact_line (xs : List ℚ) (a b : ℚ) :
    fitStats ⟨a, b⟩ xs (xs.map (fun x => a + b * x)) = ⟨0, 1, 0, 0⟩ := by
  have h0 : ssr ⟨a, b⟩ xs (xs.map (fun x => a + b * x)) = 0 := by
    rw [ssr_eq_zero_iff]
    intro e he
    unfold resid at he
    induction xs with
    | nil => simp at he
    | cons x xs ih =>
      simp only [List.map_cons, List.zipWith_cons_cons, List.mem_cons] at he
      rcases he with rfl | he
      · ring
      · exact ih he
  simp only [fitStats, h0]
  simp

theorem sst_eq (ys : List ℚ) :
    sst ys = normSq ys - 2 * mean ys * ys.sum + (ys.length : ℚ) * mean ys * mean ys :=
  normSq_sub_const _ _

theorem ssr_eq (f : Fit) : ∀ (xs ys : List ℚ), xs.length = ys.length →
    ssr f xs ys =
      normSq ys - 2 * f.icpt * ys.sum - 2 * f.slope * (List.zipWith (· * ·) xs ys).sum + (xs.length : ℚ) * f.icpt * f.icpt
        + 2 * f.icpt * f.slope * xs.sum + f.slope * f.slope * normSq xs
  | [], [], _ => by simp [ssr, resid, normSq]
  | [], _ :: _, h => by simp at h
  | _ :: _, [], h => by simp at h
  | x :: xs, y :: ys, h => by
    have ih := ssr_eq f xs ys (by simpa using h)
    rw [ssr] at ih ⊢
    rw [resid_cons, normSq_cons, normSq_cons, normSq_cons, ih]
    simp only [List.zipWith_cons_cons, List.sum_cons, List.length_cons]
    push_cast; ring

end Midgard.Proofs.C20
