/-
The RINEX 3 observation record `A1,I2.2,m(F14.3,I1,I1)` for every number `m` of observation types: the layout is sorted, and
the texts the parser cuts from the `k`-th 16-character column of a rendered record are the printed value, LLI and SNR.
-/
import Midgard.Model.Rinex3Obs
import Midgard.Proofs.RinexObsRecords

namespace Midgard.RinexObs.Records
open Midgard.Text Midgard.FixedCol Midgard.ChainParser Midgard.RinexObs Midgard.Decimal
open Midgard.Spec.Rinex (renderCells obs3 obsLayout obsTriple)

def obs3Ok (n : Nat) : Bool :=
  Sorted (obs3 n).layout && decide ((obs3 n).aligns.length = 1 + 3 * n) && decide ((obs3 n).layout.length = 1 + 3 * n)

theorem obs3Ok_all (n : Nat) : obs3Ok n = true := by
  have hs : Sorted (obs3 n).layout = true := by
    simp only [obs3, Sorted, SortedFrom, Bool.and_eq_true, decide_eq_true_eq]
    exact ⟨⟨Nat.zero_le _, by omega⟩, sortedFrom_obsLayout (Nat.le_refl 3) n⟩
  have hl : (obs3 n).layout.length = 1 + 3 * n := by
    simp only [obs3, List.length_cons, length_obsLayout, Nat.add_comm]
  have ha : (obs3 n).aligns.length = 1 + 3 * n := by
    simp only [obs3, List.length_cons, length_obsAligns, Nat.add_comm]
  simp only [obs3Ok, hs, hl, ha, decide_true, Bool.and_self]

theorem triple_slices (line : Str) (n k : Nat) :
    let f := Midgard.Rinex3Obs.obsField (ljust (16 * n) (sliceFrom 3 line)) k
    [strip (Text.slice 0 14 f), strip (Text.slice 14 15 f), strip (Text.slice 15 16 f)] =
      (obsTriple k (3 + 16 * k)).map (fun g => FixedCol.slice g line) := by
  simp only [Midgard.Rinex3Obs.obsField, obsTriple, List.map_cons, List.map_nil, FixedCol.slice, sliceRaw, sliceFrom]
  rw [slice_slice, slice_slice, slice_slice, strip_slice_ljust, strip_slice_ljust, strip_slice_ljust,
    slice_drop, slice_drop, slice_drop]
  have e1 : min (16 * k + 14) (16 * k + 16) + 3 = 3 + 16 * k + 14 := by omega
  have e2 : min (16 * k + 15) (16 * k + 16) + 3 = 3 + 16 * k + 15 := by omega
  have e3 : min (16 * k + 16) (16 * k + 16) + 3 = 3 + 16 * k + 16 := by omega
  have e4 : 16 * k + 0 + 3 = 3 + 16 * k := by omega
  have e5 : 16 * k + 14 + 3 = 3 + 16 * k + 14 := by omega
  have e6 : 16 * k + 15 + 3 = 3 + 16 * k + 15 := by omega
  rw [e1, e2, e3, e4, e5, e6]

theorem obs_cells (n : Nat) (sat : Str) (cells : List Str) (hlen : cells.length = 3 * n)
    (hf : Fits (obs3 n).layout ((obs3 n).aligns.zip (sat :: cells)) = true) :
    (Midgard.Rinex3Obs.obsTriples n (sliceFrom 3 (rstrip (renderCells (obs3 n) (sat :: cells))))).flatMap
        (fun t => [strip t.1, strip t.2.1, strip t.2.2]) = cells ∧
    strip (Text.slice 0 3 (rstrip (renderCells (obs3 n) (sat :: cells)))) = sat := by
  have hok := obs3Ok_all n
  simp only [obs3Ok, Bool.and_eq_true, decide_eq_true_eq] at hok
  obtain ⟨⟨hs, hal⟩, hll⟩ := hok
  have hall := slice_renderA_rstrip (obs3 n).layout ((obs3 n).aligns.zip (sat :: cells)) hs hf
  rw [List.map_snd_zip (by simp [hal, hlen]; omega)] at hall
  unfold renderCells
  generalize rstrip (renderA (obs3 n).layout ((obs3 n).aligns.zip (sat :: cells))) = line at hall ⊢
  have hlay : (obs3 n).layout = ⟨"sat", 0, 3⟩ :: obsLayout 3 n := rfl
  rw [hlay, List.map_cons, List.cons.injEq] at hall
  obtain ⟨hsat, hcells⟩ := hall
  refine ⟨?_, hsat⟩
  rw [← hcells]
  unfold Midgard.Rinex3Obs.obsTriples obsLayout
  rw [List.flatMap_map, List.map_flatMap]
  congr 1
  funext k
  exact triple_slices line n k

/-- `obs_cells` under the bound of the standard (at most 40 observation types per system); the bound is not used -/
theorem obs_record (n : Nat) (hn : n ≤ 40) (sat : Str) (cells : List Str) (hlen : cells.length = 3 * n)
    (hf : Fits (obs3 n).layout ((obs3 n).aligns.zip (sat :: cells)) = true) :
    (Midgard.Rinex3Obs.obsTriples n (sliceFrom 3 (rstrip (renderCells (obs3 n) (sat :: cells))))).flatMap
        (fun t => [strip t.1, strip t.2.1, strip t.2.2]) = cells ∧
    strip (Text.slice 0 3 (rstrip (renderCells (obs3 n) (sat :: cells)))) = sat :=
  obs_cells n sat cells hlen hf

theorem obs_record_values (n : Nat) (sat : Str) (cells : List Str) (hlen : cells.length = 3 * n)
    (hf : Fits (obs3 n).layout ((obs3 n).aligns.zip (sat :: cells)) = true) :
    (Midgard.Rinex3Obs.obsTriples n (sliceFrom 3 (rstrip (renderCells (obs3 n) (sat :: cells))))).flatMap
        (fun t => [floatOpt t.1, floatOpt t.2.1, floatOpt t.2.2]) = cells.map floatOpt := by
  have h := (obs_cells n sat cells hlen hf).1
  have h2 := congrArg (List.map floatOpt) h
  rw [← h2, List.map_flatMap]
  congr 1
  funext t
  simp [floatOpt_strip]

end Midgard.RinexObs.Records
