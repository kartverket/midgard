/-
C06 — what the proofs about frames use of the definitions of `Model/Vec3.lean`, `Model/Rotation.lean` and `Model/Frames.lean`, for any number
type: what `MᵀM = 1` says entry by entry, the East / North / Up vectors of `enu2trs` in components, and rows of arrays (row conversions that
cancel row by row cancel on arrays; selecting rows commutes with converting).
-/
import Midgard.Model.Frames

namespace Midgard.Geo

variable {α : Type} [Add α] [Sub α] [Mul α] [Neg α] [Zero α] [One α]

/-- `MᵀM = 1` entry by entry: the columns of `m` are orthonormal -/
theorem M3.orthonormal_cols {m : M3 α} (h : m.transpose.mul m = M3.one) :
    (m.r1.x * m.r1.x + m.r2.x * m.r2.x + m.r3.x * m.r3.x = 1 ∧ m.r1.x * m.r1.y + m.r2.x * m.r2.y + m.r3.x * m.r3.y = 0 ∧
      m.r1.x * m.r1.z + m.r2.x * m.r2.z + m.r3.x * m.r3.z = 0) ∧
    (m.r1.y * m.r1.x + m.r2.y * m.r2.x + m.r3.y * m.r3.x = 0 ∧ m.r1.y * m.r1.y + m.r2.y * m.r2.y + m.r3.y * m.r3.y = 1 ∧
      m.r1.y * m.r1.z + m.r2.y * m.r2.z + m.r3.y * m.r3.z = 0) ∧
    m.r1.z * m.r1.x + m.r2.z * m.r2.x + m.r3.z * m.r3.x = 0 ∧ m.r1.z * m.r1.y + m.r2.z * m.r2.y + m.r3.z * m.r3.y = 0 ∧
      m.r1.z * m.r1.z + m.r2.z * m.r2.z + m.r3.z * m.r3.z = 1 := by
  simpa only [M3.transpose, M3.mul, M3.col1, M3.col2, M3.col3, V3.dot, M3.one, M3.mk.injEq, V3.mk.injEq] using h

theorem enuEastCS_eq (cl sl co so : α) : enuEastCS cl sl co so = ⟨-so, co, 0⟩ := rfl
theorem enuNorthCS_eq (cl sl co so : α) : enuNorthCS cl sl co so = ⟨-co * sl, -so * sl, cl⟩ := rfl
theorem enuUpCS_eq (cl sl co so : α) : enuUpCS cl sl co so = ⟨co * cl, so * cl, sl⟩ := rfl

theorem rowsWith_cancel {α β : Type} (f g : PosObj α → β → β) (P : PosObj α → Prop)
    (h : ∀ r, P r → ∀ d, g r (f r d) = d) :
    ∀ (refs : List (PosObj α)) (ds : List β), refs.length = ds.length → (∀ r ∈ refs, P r) →
      rowsWith g refs (rowsWith f refs ds) = ds := by
  intro refs
  induction refs with
  | nil => intro ds hl _; cases ds <;> simp_all [rowsWith]
  | cons r rs ih =>
    intro ds hl hP
    cases ds with
    | nil => simp at hl
    | cons d ds =>
      simp only [rowsWith, List.zipWith_cons_cons, List.cons.injEq]
      refine ⟨h r (hP r (by simp)) d, ?_⟩
      exact ih ds (by simpa using hl) (fun r' hr' => hP r' (by simp [hr']))

theorem takeRows_rowsWith {α β : Type} (f : PosObj α → β → β) (refs : List (PosObj α)) (ds : List β)
    (hl : refs.length = ds.length) (idx : List Nat) :
    takeRows (rowsWith f refs ds) idx = rowsWith f (takeRows refs idx) (takeRows ds idx) := by
  induction idx with
  | nil => simp [takeRows, rowsWith]
  | cons i is ih =>
    simp only [takeRows, List.filterMap_cons] at ih ⊢
    by_cases hi : i < refs.length
    · have hd : i < ds.length := hl ▸ hi
      simp only [rowsWith, List.getElem?_zipWith, List.getElem?_eq_getElem hi, List.getElem?_eq_getElem hd,
        List.zipWith_cons_cons] at ih ⊢
      rw [ih]
    · have hd : ¬ i < ds.length := hl ▸ hi
      have h1 : refs[i]? = none := List.getElem?_eq_none (Nat.le_of_not_lt hi)
      have h2 : ds[i]? = none := List.getElem?_eq_none (Nat.le_of_not_lt hd)
      simp only [rowsWith, List.getElem?_zipWith, h1, h2] at ih ⊢
      exact ih

end Midgard.Geo
