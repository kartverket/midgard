/-
C19: `_replace` of `Model/Config.lean`.  `re.finditer` and `str.replace` (`findVars`, `replaceAll`) on a text cut into
stretches without an opening brace and occurrences of the pattern; then the grammar the property is stated over: a text as
`Piece`s (literal stretches and references `{name}` / `{name:spec}`), which references are well formed (`RefOK`) and flat
(`FlatRef`), and the pieces while the loop runs (`partialP`, `finalP`).  Mathlib-free.
-/
import Midgard.Proofs.ConfigStr

namespace Midgard.Config
open Midgard.Proofs.ConfigText (partitionAt_append isPrefix_spec isPrefix_append)

theorem findVars_no_brace (n : Nat) (s : List Char) (h : '{' ∉ s) : findVars n s = [] := by
  induction s generalizing n with
  | nil => cases n <;> rfl
  | cons c t ih =>
    cases n with
    | zero => rfl
    | succ n =>
      simp only [List.mem_cons, not_or] at h
      simp only [findVars, if_neg (Ne.symm h.1), ih n h.2]

theorem findVars_skip (pre t : List Char) (n : Nat) (hpre : '{' ∉ pre) (hn : pre.length ≤ n) :
    findVars n (pre ++ t) = findVars (n - pre.length) t := by
  induction pre generalizing n with
  | nil => rfl
  | cons c p ih =>
    obtain ⟨k, rfl⟩ : ∃ k, n = k + 1 := ⟨n - 1, by simp only [List.length_cons] at hn; omega⟩
    simp only [List.mem_cons, not_or] at hpre
    simp only [List.length_cons, Nat.add_le_add_iff_right] at hn
    simp only [List.cons_append, findVars, if_neg (Ne.symm hpre.1), ih k hpre.2 hn, List.length_cons,
      Nat.add_sub_add_right]

theorem isPrefix_closed (a b X : List Char) (ha : '}' ∉ a) (hb : '}' ∉ b)
    (h : isPrefix (a ++ ['}']) (b ++ '}' :: X) = true) : a = b := by
  obtain ⟨r, hr⟩ := (isPrefix_spec _ _).1 h
  have h1 := partitionAt_append '}' b X hb
  rw [hr, List.append_assoc, List.singleton_append, partitionAt_append '}' a r ha] at h1
  exact (Prod.mk.inj h1).1

theorem replaceAll_miss (old new : List Char) (n : Nat) (c : Char) (t : List Char) (h : isPrefix old (c :: t) = false) :
    replaceAll old new (n + 1) (c :: t) = c :: replaceAll old new n t := by
  simp only [replaceAll, h, Bool.false_eq_true, if_false]

theorem replaceAll_hit (c : Char) (old new X : List Char) (n : Nat) :
    replaceAll (c :: old) new (n + 1) (c :: old ++ X) = new ++ replaceAll (c :: old) new n X := by
  have hd : (c :: (old ++ X)).drop (c :: old).length = X := by simp
  have hp : isPrefix (c :: old) (c :: (old ++ X)) = true := isPrefix_append (c :: old) X
  simp only [List.cons_append, replaceAll, hp, if_true, hd]

theorem replaceAll_skip (rest new t X : List Char) (n : Nat) (ht : '{' ∉ t) (hn : t.length ≤ n) :
    replaceAll ('{' :: rest) new n (t ++ X) = t ++ replaceAll ('{' :: rest) new (n - t.length) X := by
  induction t generalizing n with
  | nil => rfl
  | cons c r ih =>
    obtain ⟨k, rfl⟩ : ∃ k, n = k + 1 := ⟨n - 1, by simp only [List.length_cons] at hn; omega⟩
    simp only [List.mem_cons, not_or] at ht
    simp only [List.length_cons, Nat.add_le_add_iff_right] at hn
    have hpf : isPrefix ('{' :: rest) (c :: (r ++ X)) = false := by
      simp only [isPrefix, decide_eq_false (Ne.symm ht.1).symm, Bool.false_and]
    rw [List.cons_append, replaceAll_miss _ _ _ _ _ hpf, ih k ht.2 hn]
    simp only [List.length_cons, Nat.add_sub_add_right, List.cons_append]

end Midgard.Config

namespace Midgard.Props.C19
open Midgard.Config

theorem isWord_close : isWord '}' = false := by decide

theorem isWord_open : isWord '{' = false := by decide

theorem isWord_colon : isWord ':' = false := by decide

theorem formatStr_none (text : List Char) : formatStr none text = some text := by
  unfold formatStr; rfl

/-- a text as `_replace` sees it: literal stretches without an opening brace, and references -/
inductive Piece
  | lit (t : List Char)
  | ref (m : VarMatch)
  deriving DecidableEq

def Piece.text : Piece → List Char
  | .lit t => t
  | .ref m => m.expr

def renderPieces (ps : List Piece) : List Char := (ps.map Piece.text).flatten

/-- a reference the regular expression `\{(\w+)(:[^\{\}]*)?\}` matches: a non-empty name of word characters, a format
spec without braces -/
def RefOK (m : VarMatch) : Prop :=
  m.name ≠ [] ∧ (∀ c ∈ m.name, isWord c = true) ∧ ∀ sp, m.spec = some sp → ∀ c ∈ sp, c ≠ '{' ∧ c ≠ '}'

def PieceOK : Piece → Prop
  | .lit t => '{' ∉ t
  | .ref m => RefOK m

def refsOf : List Piece → List VarMatch
  | [] => []
  | .lit _ :: t => refsOf t
  | .ref m :: t => m :: refsOf t

/-- replacing the text of one reference in a piece -/
def substP (e new : List Char) : Piece → Piece
  | .lit t => .lit t
  | .ref m => if m.expr = e then .lit new else .ref m

/-- the text a reference is formatted from: the value of the variable if it is known, else the default if there is one -/
def targetOf (vars : List (String × String)) (dflt : Option String) (m : VarMatch) : Option (List Char) :=
  match dget? vars (String.ofList m.name) with
  | some r => some r.toList
  | none => dflt.map String.toList

/-- what a reference becomes: `format(value, spec)`, `format(default, spec)`, or nothing (it stays) -/
def outOf (vars : List (String × String)) (dflt : Option String) (m : VarMatch) : Option (List Char) :=
  (targetOf vars dflt m).bind (formatStr m.spec)

def finalP (vars : List (String × String)) (dflt : Option String) : Piece → Piece
  | .lit t => .lit t
  | .ref m => match outOf vars dflt m with | some txt => .lit txt | none => .ref m

/-- the flat case for one reference: the value of the variable has no opening brace (no nested reference), the spec is
one `format` accepts for a text, and the formatted text has no opening brace -/
def FlatRef (vars : List (String × String)) (dflt : Option String) (m : VarMatch) : Prop :=
  RefOK m ∧ (∀ r, dget? vars (String.ofList m.name) = some r → '{' ∉ r.toList) ∧
  ∀ t, targetOf vars dflt m = some t → ∃ txt, formatStr m.spec t = some txt ∧ '{' ∉ txt

/-- the pieces while the loop runs: the references met so far have got their final form -/
def partialP (vars : List (String × String)) (dflt : Option String) (done : List VarMatch) : Piece → Piece
  | .lit t => .lit t
  | .ref m => if m ∈ done then finalP vars dflt (.ref m) else .ref m

theorem partialP_ok (vars : List (String × String)) (dflt : Option String) (done : List VarMatch) (p : Piece)
    (hp : PieceOK p) (hflat : ∀ m, p = .ref m → FlatRef vars dflt m) : PieceOK (partialP vars dflt done p) := by
  cases p with
  | lit t => exact hp
  | ref m =>
    simp only [partialP]
    split
    · simp only [finalP]
      cases ho : outOf vars dflt m with
      | none => exact hp
      | some txt =>
        obtain ⟨_, _, hf⟩ := hflat m rfl
        simp only [outOf] at ho
        cases ht : targetOf vars dflt m with
        | none => simp [ht] at ho
        | some t =>
          obtain ⟨txt', h1, h2⟩ := hf t ht
          simp only [ht, Option.bind_some, h1, Option.some.injEq] at ho
          subst ho; exact h2
    · exact hp

theorem mem_refsOf (ps : List Piece) (m : VarMatch) : m ∈ refsOf ps ↔ Piece.ref m ∈ ps := by
  induction ps with
  | nil => simp [refsOf]
  | cons p t ih => cases p <;> simp [refsOf, ih]

end Midgard.Props.C19

#print axioms Midgard.Props.C19.isWord_close
#print axioms Midgard.Props.C19.formatStr_none
#print axioms Midgard.Props.C19.isWord_open
#print axioms Midgard.Props.C19.isWord_colon
#print axioms Midgard.Props.C19.partialP_ok
#print axioms Midgard.Props.C19.mem_refsOf
