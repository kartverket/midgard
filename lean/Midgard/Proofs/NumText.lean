/-
Lemmas about `Spec/NumText.lean`: the texts of the independent writers parse (through the models'
`parseFloat` / `parseDecimalWith`) to exactly the numbers they were printed from.
Core Lean only.
-/
import Midgard.Spec.NumText
import Midgard.Proofs.Digits

namespace Midgard.Spec.NumText
open Midgard.Text Midgard.Decimal

/-! ### the characters of a decimal text -/

def isNumChar (c : Char) : Bool := isDigit c || c == '.' || c == '-' || c == '+'

/-- digits, `.`, `-`, `+`: code points 43 … 57 -/
theorem numChar_range {c : Char} (h : isNumChar c = true) : 43 ≤ c.toNat ∧ c.toNat ≤ 57 := by
  simp only [isNumChar, isDigit, Bool.or_eq_true, Bool.and_eq_true, decide_eq_true_eq, beq_iff_eq] at h
  rcases h with ((⟨h1, h2⟩ | rfl) | rfl) | rfl
  · have h1 : 48 ≤ c.toNat := h1
    have h2 : c.toNat ≤ 57 := h2
    omega
  all_goals decide

theorem isSpace_of_isNumChar {c : Char} (h : isNumChar c = true) : isSpace c = false := by
  simp only [isNumChar, Bool.or_eq_true, beq_iff_eq] at h
  rcases h with ((h | h) | h) | h
  · exact isSpace_of_isDigit h
  · subst h; decide
  · subst h; decide
  · subst h; decide

theorem fmtDec_eq (p : Nat) (n : Int) : fmtDec p n = (if n < 0 then ['-'] else []) ++ decBody p n.natAbs := by
  simp [fmtDec, decBody, List.append_assoc]

theorem parseFloat_fmtDec (p : Nat) (n : Int) : parseFloat (fmtDec p n) = some (decVal p n) := by
  have hstrip : strip (fmtDec p n) = (if n < 0 then ['-'] else []) ++ decBody p n.natAbs := by
    rw [fmtDec_eq]
    exact strip_of_no_space (no_space_signed _ (fun _ => mem_decBody))
  unfold parseFloat
  rw [parseDecimalWith_body ['e', 'E'] (hex := by decide) (P := n < 0) (k := p) (hm := parseMantissa_decBody p n.natAbs)
    (hchars := fun _ => mem_decBody) (hhead := decBody_head p n.natAbs) (hs := hstrip), digitsVal_decBody]
  unfold decVal
  congr 1
  -- `n` is `± |n|`
  by_cases hn : n < 0
  · rw [if_pos hn, Rat.div_def, ← Rat.neg_mul, ← Rat.intCast_natCast, ← Rat.intCast_neg,
      ← Int.eq_neg_natAbs_of_nonpos (Int.le_of_lt hn), ← Rat.div_def]
  · rw [if_neg hn, ← Rat.intCast_natCast, Int.natAbs_of_nonneg (Int.not_lt.mp hn)]

theorem numChars_fmtDec (p : Nat) (n : Int) : ∀ c ∈ fmtDec p n, isNumChar c = true := by
  intro c hc
  rw [fmtDec_eq] at hc
  simp only [List.mem_append] at hc
  rcases hc with hc | hc
  · split at hc
    · simp at hc; subst hc; decide
    · simp at hc
  · rcases mem_decBody hc with h | h
    · simp [isNumChar, h]
    · subst h; decide

theorem fmtDec_ne_nil (p : Nat) (n : Int) : fmtDec p n ≠ [] := by
  rw [fmtDec_eq]
  obtain ⟨c, r, h, _⟩ := decBody_head p n.natAbs
  rw [h]; simp

theorem clean_of_numChars {s : Str} (h : ∀ c ∈ s, isNumChar c = true) : Clean s = true :=
  clean_of_no_space fun c hc => isSpace_of_isNumChar (h c hc)

theorem length_fmtDec_le (p k : Nat) (n : Int) (hk : 0 < k) (h : n.natAbs < 10 ^ (k + p)) :
    (fmtDec p n).length ≤ (if n < 0 then 1 else 0) + k + 1 + p := by
  have hip : n.natAbs / 10 ^ p < 10 ^ k := by
    rw [Nat.div_lt_iff_lt_mul (Nat.pow_pos (by decide)), ← Nat.pow_add]
    exact h
  have := (length_natDigits_le_iff k _ hk).mpr hip
  have hs : (if n < 0 then ['-'] else ([] : Str)).length = if n < 0 then 1 else 0 := by
    split <;> rfl
  rw [fmtDec_eq, decBody, List.length_append, List.length_append, List.length_cons, length_fixedDigits, hs]
  omega

theorem noSpace_natDigits (n : Nat) : ∀ c ∈ natDigits n, isSpace c = false :=
  no_space_natDigits n

theorem mem_fmtInt {i : Int} {c : Char} (h : c ∈ fmtInt i) : isNumChar c = true := by
  unfold fmtInt at h
  split at h
  · simp only [List.mem_cons] at h
    rcases h with h | h
    · subst h; decide
    · simp [isNumChar, isDigit_of_mem (allDigits_natDigits' _) h]
  · simp [isNumChar, isDigit_of_mem (allDigits_natDigits' _) h]

theorem parseFloat_natDigits (k : Nat) : parseFloat (natDigits k) = some (k : Rat) := by
  rw [parseFloat_digits (allDigits_natDigits' k) (natDigits_ne_nil' k), digitsVal_natDigits']

theorem numChars_natDigits (n : Nat) : ∀ c ∈ natDigits n, isNumChar c = true := by
  intro c hc
  simp [isNumChar, isDigit_of_mem (allDigits_natDigits' n) hc]

theorem clean_natDigits (n : Nat) : Clean (natDigits n) = true := clean_of_numChars (numChars_natDigits n)

/-! ### scientific notation (`D19.12` and its spellings) -/

theorem parseExp_fmtExp (e : Int) : parseExp? (fmtExp e) = some e := by
  unfold fmtExp
  have hnat : parseNat? (if e.natAbs < 10 then '0' :: natDigits e.natAbs else natDigits e.natAbs) = some e.natAbs := by
    split
    · unfold parseNat?
      have hall : allDigits ('0' :: natDigits e.natAbs) = true := by
        simp only [allDigits, List.all_cons, Bool.and_eq_true]
        exact ⟨by decide, allDigits_natDigits' _⟩
      simp [hall, digitsVal_zero_cons, digitsVal_natDigits']
    · exact parseNat_natDigits' _
  by_cases he : e < 0
  · rw [if_pos he, parseExp_of_takeSign (neg := true) rfl hnat, if_pos rfl,
      ← Int.eq_neg_natAbs_of_nonpos (Int.le_of_lt he)]
  · rw [if_neg he, parseExp_of_takeSign (neg := false) rfl hnat, if_neg Bool.false_ne_true,
      Int.natAbs_of_nonneg (Int.not_lt.mp he)]

theorem mem_fmtExp {e : Int} {c : Char} (h : c ∈ fmtExp e) : isNumChar c = true := by
  unfold fmtExp at h
  simp only [List.mem_cons] at h
  rcases h with h | h
  · rw [h]; split <;> decide
  · split at h
    · simp only [List.mem_cons] at h
      rcases h with h | h
      · rw [h]; decide
      · exact numChars_natDigits _ c h
    · exact numChars_natDigits _ c h

theorem mem_sciBody {p : Nat} {lead : Bool} {m : Nat} {c : Char} (h : c ∈ sciBody p lead m) :
    isDigit c = true ∨ c = '.' := by
  simp only [sciBody, List.mem_append, List.mem_cons] at h
  rcases h with h | h | h
  · cases lead
    · simp at h
    · exact Or.inl (isDigit_of_mem (allDigits_natDigits' _) (by simpa using h))
  · exact Or.inr h
  · exact Or.inl (isDigit_of_mem (allDigits_fixedDigits _ _) h)

theorem parseMantissa_sciBody (p : Nat) (lead : Bool) (m : Nat) (hp : 0 < p) :
    ∃ ds, parseMantissa? (sciBody p lead m) = some (ds, p) ∧ digitsVal ds = mantVal p lead m := by
  cases lead with
  | true =>
    refine ⟨_, parseMantissa_decBody p m, ?_⟩
    simp [mantVal, digitsVal_decBody]
  | false =>
    refine ⟨fixedDigits p m, ?_, ?_⟩
    · unfold parseMantissa? sciBody
      have hne : (fixedDigits p m).isEmpty = false := by
        cases h : fixedDigits p m with
        | nil => exact absurd h (fixedDigits_ne_nil hp m)
        | cons _ _ => rfl
      have hnil : allDigits ([] : Str) = true := rfl
      simp [hne, allDigits_fixedDigits, length_fixedDigits, hnil]
    · simp [mantVal, digitsVal_fixedDigits]

theorem takeSign_sciBody (p : Nat) (lead : Bool) (m : Nat) (rest : Str) :
    takeSign (sciBody p lead m ++ rest) = (false, sciBody p lead m ++ rest) := by
  cases lead with
  | true =>
    obtain ⟨c, r, h, hd⟩ := natDigits_head_digit (m / 10 ^ p)
    simp only [sciBody, if_true, h, List.cons_append]
    exact takeSign_of_digit hd
  | false => rfl

/-- the parser's view of `[-]mantissa X ±ee` when `X` is one of the accepted exponent letters -/
theorem parseDecimalWith_sci (exps : List Char) (hex : ∀ c ∈ exps, isDigit c = false ∧ c ≠ '.')
    (x : Char) (hx : x ∈ exps) (p : Nat) (hp : 0 < p) (lead neg : Bool) (m : Nat) (e : Int) (s : Str)
    (hs : strip s = fmtSci x p lead neg m e) :
    parseDecimalWith exps s = some (sciVal p lead neg m e) := by
  unfold parseDecimalWith
  rw [hs]
  have hts : takeSign (fmtSci x p lead neg m e) = (neg, sciBody p lead m ++ x :: fmtExp e) := by
    unfold fmtSci
    cases neg with
    | true => rfl
    | false => simpa using takeSign_sciBody p lead m (x :: fmtExp e)
  rw [hts]
  have hall : ∀ y ∈ sciBody p lead m, (!exps.contains y) = true := by
    intro y hy
    simp only [Bool.not_eq_eq_eq_not, Bool.not_true]
    rw [← Bool.not_eq_true, List.contains_iff_mem]
    intro hmem
    have := hex y hmem
    rcases mem_sciBody hy with h | h
    · rw [h] at this; exact absurd this.1 (by simp)
    · exact this.2 h
  have hxs : (!exps.contains x) = false := by simp [hx]
  obtain ⟨ds, hm, hv⟩ := parseMantissa_sciBody p lead m hp
  simp only [takeWhile_append_stop _ _ _ _ hall hxs, dropWhile_append_stop _ _ _ _ hall hxs, hm, hv, parseExp_fmtExp]
  cases neg <;> rfl

theorem mem_fmtSci {x : Char} {p : Nat} {lead neg : Bool} {m : Nat} {e : Int} {c : Char}
    (h : c ∈ fmtSci x p lead neg m e) : isNumChar c = true ∨ c = x := by
  simp only [fmtSci, List.mem_append, List.mem_cons] at h
  rcases h with (h | h) | h | h
  · cases neg
    · simp at h
    · simp at h; subst h; exact Or.inl (by decide)
  · rcases mem_sciBody h with h | h
    · exact Or.inl (by simp [isNumChar, h])
    · subst h; exact Or.inl (by decide)
  · exact Or.inr h
  · exact Or.inl (mem_fmtExp h)

theorem fmtSci_ne_nil (x : Char) (p : Nat) (lead neg : Bool) (m : Nat) (e : Int) : fmtSci x p lead neg m e ≠ [] := by
  unfold fmtSci; simp

theorem numChar_not_letter {c : Char} (h : isNumChar c = true) : c ≠ 'D' ∧ c ≠ 'd' ∧ c ≠ 'E' ∧ c ≠ 'e' := by
  have := numChar_range h
  refine ⟨?_, ?_, ?_, ?_⟩ <;> (rintro rfl; revert this; decide)

/-- `D`/`d` ↦ `e` on a scientific text only touches the exponent letter -/
theorem replace_fmtSci (x : Char) (hx : isExpLetter x = true) (p : Nat) (lead neg : Bool) (m : Nat) (e : Int) :
    ∃ x', (x' = 'e' ∨ x' = 'E') ∧
      replaceChar 'd' 'e' (replaceChar 'D' 'e' (fmtSci x p lead neg m e)) = fmtSci x' p lead neg m e := by
  have hpre : ∀ c ∈ (if neg then ['-'] else []) ++ sciBody p lead m, isNumChar c = true := by
    intro c hc
    rcases List.mem_append.mp hc with h | h
    · cases neg
      · simp at h
      · simp at h; subst h; decide
    · rcases mem_sciBody h with h | h
      · simp [isNumChar, h]
      · subst h; decide
  have hexp : ∀ c ∈ fmtExp e, isNumChar c = true := fun c hc => mem_fmtExp hc
  have r1 : ∀ (a : Char) (s : Str), (a = 'D' ∨ a = 'd') → (∀ c ∈ s, isNumChar c = true) → replaceChar a 'e' s = s := by
    intro a s ha hs
    apply replaceChar_id
    intro c hc
    have := numChar_not_letter (hs c hc)
    rcases ha with rfl | rfl
    · exact this.1
    · exact this.2.1
  have key : ∀ y : Char, replaceChar 'd' 'e' (replaceChar 'D' 'e' (fmtSci y p lead neg m e)) =
      fmtSci (if (if y = 'D' then 'e' else y) = 'd' then 'e' else (if y = 'D' then 'e' else y)) p lead neg m e := by
    intro y
    have hrep : ∀ (a : Char) (A B : Str) (z : Char),
        replaceChar a 'e' (A ++ z :: B) = replaceChar a 'e' A ++ (if z = a then 'e' else z) :: replaceChar a 'e' B := by
      intros; simp [replaceChar]
    unfold fmtSci
    rw [hrep 'D', r1 'D' _ (Or.inl rfl) hpre, r1 'D' _ (Or.inl rfl) hexp,
      hrep 'd', r1 'd' _ (Or.inr rfl) hpre, r1 'd' _ (Or.inr rfl) hexp]
  simp only [isExpLetter, Bool.or_eq_true, beq_iff_eq] at hx
  rcases hx with ((rfl | rfl) | rfl) | rfl
  · exact ⟨'e', Or.inl rfl, by rw [key]; rfl⟩
  · exact ⟨'e', Or.inl rfl, by rw [key]; rfl⟩
  · exact ⟨'E', Or.inr rfl, by rw [key]; rfl⟩
  · exact ⟨'e', Or.inl rfl, by rw [key]; rfl⟩

theorem noSpace_fmtSci (x : Char) (hx : isExpLetter x = true) (p : Nat) (lead neg : Bool) (m : Nat) (e : Int) :
    ∀ c ∈ fmtSci x p lead neg m e, isSpace c = false := by
  intro c hc
  rcases mem_fmtSci hc with h | h
  · exact isSpace_of_isNumChar h
  · subst h
    simp only [isExpLetter, Bool.or_eq_true, beq_iff_eq] at hx
    rcases hx with ((rfl | rfl) | rfl) | rfl <;> decide

end Midgard.Spec.NumText
