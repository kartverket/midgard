/-
C08, first machine (process-wide `lru_cache`s): the cached machine with good mechanism flags refines the cache-free
reference.  The relation `Sim`: every cached buffer holds the term of its key, and what the caller holds is a copy or is
read-only.  A call looks its key up or inserts it (`sim_bufs`, `sim_cache`) and then hands a buffer out (`sim_hand`); a hit
returns the term of the current argument because the key decides the term (`Sim.hit`).
-/
import Midgard.Model.CacheMachine
import Midgard.Proofs.Lists
import Mathlib.Tactic.SplitIfs

namespace Midgard.CacheMachine

/-- the mechanism the property needs -/
def Flags.good (fl : Flags) : Prop :=
  fl.keyShape = true ∧ fl.keyTag = true ∧ fl.freezeArg = false ∧ (fl.copyOut = true ∨ fl.frozenOut = true)

instance (fl : Flags) : Decidable fl.good := by unfold Flags.good; infer_instance

theorem mem_evict {cap fn : Nat} : ∀ {seen : Nat} {l : List Entry} {x : Entry}, x ∈ evict cap fn seen l → x ∈ l := by
  intro seen l
  induction l generalizing seen with
  | nil => intro x h; simp [evict] at h
  | cons e es ih =>
    intro x h
    simp only [evict] at h
    split_ifs at h
    · rcases List.mem_cons.mp h with h | h
      · exact h ▸ List.mem_cons_self
      · exact List.mem_cons_of_mem _ (ih h)
    · exact List.mem_cons_of_mem _ (ih h)
    · rcases List.mem_cons.mp h with h | h
      · exact h ▸ List.mem_cons_self
      · exact List.mem_cons_of_mem _ (ih h)

structure Sim (fl : Flags) (s : State) (r : RefState) : Prop where
  arrs_eq : s.arrs = r.arrs
  n_handles : s.handles.length = r.nHandles
  writable : ∀ a ∈ s.arrs, a.writable = true
  /-- every cached buffer holds the value of its key -/
  cached : ∀ e ∈ s.cache, ∃ b, s.bufs[e.buf]? = some b ∧ b.content = .app e.fn e.val e.shape e.tag ∧ b.frozen = fl.frozenOut
  /-- handed-out buffers exist (also a consequence of `frozen` / `unfrozen`) -/
  handle_lt : ∀ h ∈ s.handles, h < s.bufs.length
  /-- with `copyOut` the caller never holds a cached buffer -/
  separate : fl.copyOut = true → ∀ e ∈ s.cache, e.buf ∉ s.handles
  /-- without `copyOut` everything handed out is frozen -/
  frozen : fl.copyOut = false → ∀ h ∈ s.handles, ∃ b, s.bufs[h]? = some b ∧ b.frozen = true
  /-- with `copyOut` what the caller holds is writable -/
  unfrozen : fl.copyOut = true → ∀ h ∈ s.handles, ∃ b, s.bufs[h]? = some b ∧ b.frozen = false

theorem sim_init (fl : Flags) : Sim fl {} {} :=
  ⟨rfl, rfl, by simp, by simp, by simp, by simp, by simp, by simp⟩

theorem matches_good {fl : Flags} (hg : fl.good) {e : Entry} {fn : Nat} {v : Val} {sh : Shape} {tag : Nat}
    (h : e.matches fl fn v sh tag = true) : e.fn = fn ∧ e.val = v ∧ e.shape = sh ∧ e.tag = tag := by
  obtain ⟨h1, h2, _, _⟩ := hg
  simp only [Entry.matches, h1, h2, Bool.not_true, Bool.false_or, Bool.and_eq_true, beq_iff_eq] at h
  exact ⟨h.1.1.1, h.1.1.2, h.1.2, h.2⟩

section steps
variable {fl : Flags} {s : State} {r : RefState}

namespace Sim

theorem handle (hs : Sim fl s r) {h : Nat} (hh : h ∈ s.handles) :
    ∃ b, s.bufs[h]? = some b ∧ b.frozen = !fl.copyOut := by
  cases hco : fl.copyOut with
  | true => simpa using hs.unfrozen hco h hh
  | false => simpa using hs.frozen hco h hh

/-- `Sim` from the one fact about handles instead of the three fields `handle_lt`, `frozen`, `unfrozen` -/
theorem of_handle (h1 : s.arrs = r.arrs) (h2 : s.handles.length = r.nHandles)
    (h3 : ∀ a ∈ s.arrs, a.writable = true)
    (h4 : ∀ e ∈ s.cache, ∃ b, s.bufs[e.buf]? = some b ∧ b.content = .app e.fn e.val e.shape e.tag ∧ b.frozen = fl.frozenOut)
    (h5 : ∀ h ∈ s.handles, ∃ b, s.bufs[h]? = some b ∧ b.frozen = !fl.copyOut)
    (h6 : fl.copyOut = true → ∀ e ∈ s.cache, e.buf ∉ s.handles) : Sim fl s r :=
  ⟨h1, h2, h3, h4, fun h hh => let ⟨_, hb, _⟩ := h5 h hh; Lists.lt_of_get hb, h6,
    fun hco h hh => by simpa [hco] using h5 h hh, fun hco h hh => by simpa [hco] using h5 h hh⟩

/-- a hit returns the term of the current argument: the key decides the term, and the cached buffer holds the term of its key -/
theorem hit (hg : fl.good) (hs : Sim fl s r) {fn : Nat} {v : Val} {sh : Shape}
    {tag : Nat} {e : Entry} (hf : s.cache.find? (fun e => e.matches fl fn v sh tag) = some e) :
    e ∈ s.cache ∧ ∃ b, s.bufs[e.buf]? = some b ∧ b.frozen = fl.frozenOut ∧
      (s.bufs[e.buf]?.map (·.content)).getD (.junk 0) = .app fn v sh tag := by
  have hmem : e ∈ s.cache := List.mem_of_find?_eq_some hf
  have hm := matches_good hg (List.find?_some (p := fun e : Entry => e.matches fl fn v sh tag) hf)
  obtain ⟨b, hb, hcont, hfroz⟩ := hs.cached e hmem
  exact ⟨hmem, b, hb, hfroz, by rw [hb]; simp [hcont, hm.1, hm.2.1, hm.2.2.1, hm.2.2.2]⟩

end Sim

theorem sim_arrs (hs : Sim fl s r) {A : List Arr} (hA : ∀ a ∈ A, a.writable = true) :
    Sim fl { s with arrs := A } { r with arrs := A } :=
  ⟨rfl, hs.n_handles, hA, hs.cached, hs.handle_lt, hs.separate, hs.frozen, hs.unfrozen⟩

theorem sim_bufs (hs : Sim fl s r) (m : List Buf) : Sim fl { s with bufs := s.bufs ++ m } r :=
  .of_handle hs.arrs_eq hs.n_handles hs.writable
    (fun x hx => let ⟨b, hb, h⟩ := hs.cached x hx; ⟨b, Lists.getElem?_append_of_some hb, h⟩)
    (fun _ hh => let ⟨b, hb, h⟩ := hs.handle hh; ⟨b, Lists.getElem?_append_of_some hb, h⟩) hs.separate

/-- the cache changes: every entry is an old one, or its buffer holds the term of its key and nobody holds it -/
theorem sim_cache (hs : Sim fl s r) {cache' : List Entry}
    (hc : ∀ x ∈ cache', x ∈ s.cache ∨ x.buf ∉ s.handles ∧
      ∃ b, s.bufs[x.buf]? = some b ∧ b.content = .app x.fn x.val x.shape x.tag ∧ b.frozen = fl.frozenOut) :
    Sim fl { s with cache := cache' } r := by
  refine .of_handle hs.arrs_eq hs.n_handles hs.writable (fun x hx => ?_) (fun _ hh => hs.handle hh) (fun hco x hx => ?_)
  · exact (hc x hx).elim (hs.cached x) (·.2)
  · exact (hc x hx).elim (hs.separate hco x) (·.1)

/-- a buffer is handed out: frozen exactly when results are not copied, and with copies not a cached one -/
theorem sim_hand (hs : Sim fl s r) {h : Nat} (hb : ∃ b, s.bufs[h]? = some b ∧ b.frozen = !fl.copyOut)
    (hsep : fl.copyOut = true → ∀ e ∈ s.cache, e.buf ≠ h) :
    Sim fl { s with handles := s.handles ++ [h] } ⟨s.arrs, r.nHandles + 1⟩ := by
  refine .of_handle rfl (by simp [hs.n_handles]) hs.writable hs.cached (fun h' hh => ?_) (fun hco x hx hxh => ?_)
  · rcases List.mem_append.mp hh with hh | hh
    · exact hs.handle hh
    · obtain rfl : h' = h := by simpa using hh
      exact hb
  · rcases List.mem_append.mp hxh with hxh | hxh
    · exact hs.separate hco x hx hxh
    · exact hsep hco x hx (by simpa using hxh)

theorem frozenOut_of_good (hg : fl.good) (hco : fl.copyOut = false) : fl.frozenOut = true := by
  rcases hg.2.2.2 with h | h
  · rw [hco] at h; cases h
  · exact h

/-- a call: the key is looked up or inserted (`sim_bufs`, `sim_cache`), then a buffer is handed out (`sim_hand`) — a fresh
copy, or the cached buffer itself, which is read-only -/
theorem sim_call_step (hg : fl.good) (hs : Sim fl s r) (fn a : Nat) :
    Sim fl (step fl s (.call fn a)).1 (refStep fl.copyOut r (.call fn a)).1 ∧
      (step fl s (.call fn a)).2.visible = (refStep fl.copyOut r (.call fn a)).2.visible := by
  simp only [step, refStep, ← hs.arrs_eq]
  cases ha : s.arrs[a]? with
  | none => exact ⟨hs, by trivial⟩
  | some arr =>
    have hw := hs.writable arr (List.mem_of_getElem? ha)
    simp only [hg.2.2.1, Bool.false_eq_true, if_false, Lists.set_getElem?_self ha]
    have hold : ∀ x ∈ s.cache, x.buf < s.bufs.length := fun x hx =>
      let ⟨_, hb, _⟩ := hs.cached x hx; Lists.lt_of_get hb
    cases hf : s.cache.find? (fun e => e.matches fl fn arr.val arr.shape arr.tag) with
    | some e =>
      obtain ⟨hmem, b, hb, hfroz, hcontent⟩ := Sim.hit hg hs hf
      have hsub : ∀ x ∈ e :: s.cache.erase e, x ∈ s.cache := fun x hx =>
        (List.mem_cons.mp hx).elim (fun h => h ▸ hmem) List.mem_of_mem_erase
      have hs1 : Sim fl { s with cache := e :: s.cache.erase e } r := sim_cache hs fun x hx => .inl (hsub x hx)
      simp only [hcontent]
      cases hco : fl.copyOut with
      | true =>
        exact ⟨sim_hand (sim_bufs hs1 _) ⟨_, List.getElem?_concat_length, by simp [hco]⟩
          fun _ x hx => Nat.ne_of_lt (hold x (hsub x hx)), by simp [Out.visible, hw]⟩
      | false =>
        exact ⟨sim_hand hs1 ⟨b, hb, by simp [hfroz, hco, frozenOut_of_good hg hco]⟩ (fun h => by rw [hco] at h; cases h),
          by simp [Out.visible, hw]⟩
    | none =>
      have hs1 := fun m => sim_cache (sim_bufs hs (⟨.app fn arr.val arr.shape arr.tag, fl.frozenOut⟩ :: m))
        (cache' := evict fl.cap fn 0 (⟨fn, arr.val, arr.shape, arr.tag, s.bufs.length⟩ :: s.cache)) fun x hx => by
          rcases List.mem_cons.mp (mem_evict hx) with rfl | hx
          · exact .inr ⟨fun hh => Nat.lt_irrefl _ (hs.handle_lt _ hh),
              ⟨.app fn arr.val arr.shape arr.tag, fl.frozenOut⟩, by simp, rfl, rfl⟩
          · exact .inl hx
      simp only
      cases hco : fl.copyOut with
      | true =>
        refine ⟨sim_hand (hs1 _) (h := s.bufs.length + 1)
          ⟨⟨.app fn arr.val arr.shape arr.tag, false⟩, by simp, by simp [hco]⟩ fun _ x hx => ?_, by simp⟩
        rcases List.mem_cons.mp (mem_evict hx) with rfl | hx
        · exact Nat.ne_of_lt (Nat.lt_succ_self _)
        · exact Nat.ne_of_lt (Nat.lt_succ_of_lt (hold x hx))
      | false =>
        exact ⟨sim_hand (hs1 []) ⟨⟨.app fn arr.val arr.shape arr.tag, fl.frozenOut⟩, by simp, by simp [hco, frozenOut_of_good hg hco]⟩
          (fun h => by rw [hco] at h; cases h), by simp⟩

end steps

theorem sim_step {fl : Flags} (hg : fl.good) {s : State} {r : RefState} (hs : Sim fl s r) (op : Op) :
    Sim fl (step fl s op).1 (refStep fl.copyOut r op).1 ∧
      (step fl s op).2.visible = (refStep fl.copyOut r op).2.visible := by
  cases op with
  | create v sh tag =>
    simp only [step, refStep, ← hs.arrs_eq]
    refine ⟨sim_arrs hs fun a ha => ?_, by trivial⟩
    rcases List.mem_append.mp ha with ha | ha
    · exact hs.writable a ha
    · simp at ha; subst ha; rfl
  | mutate a v =>
    simp only [step, refStep, ← hs.arrs_eq]
    cases ha : s.arrs[a]? with
    | none => exact ⟨hs, by trivial⟩
    | some arr =>
      simp only [hs.writable arr (List.mem_of_getElem? ha), if_true]
      refine ⟨sim_arrs hs fun x hx => ?_, by trivial⟩
      rcases List.mem_or_eq_of_mem_set hx with hx | hx
      · exact hs.writable x hx
      · subst hx; simp
  | write k j =>
    simp only [step, refStep]
    cases hk : s.handles[k]? with
    | none =>
      have : ¬ k < r.nHandles := by
        rw [← hs.n_handles]; intro hlt
        rw [List.getElem?_eq_getElem hlt] at hk; cases hk
      simp only [this, if_false]
      exact ⟨hs, by trivial⟩
    | some h =>
      have hmem : h ∈ s.handles := List.mem_of_getElem? hk
      have hklt : k < r.nHandles := hs.n_handles ▸ Lists.lt_of_get hk
      obtain ⟨b, hb, hfr⟩ := hs.handle hmem
      simp only [hklt, if_true, hb, hfr]
      cases hco : fl.copyOut with
      | false => exact ⟨hs, by trivial⟩
      | true =>
        -- with copies the written buffer is no cached one
        simp only [Bool.not_true, Bool.false_eq_true, if_false]
        refine ⟨.of_handle hs.arrs_eq hs.n_handles hs.writable ?_ ?_ hs.separate, by trivial⟩
        · intro e he
          obtain ⟨b', hb', hc'⟩ := hs.cached e he
          have hne : e.buf ≠ h := fun heq => hs.separate hco e he (heq ▸ hmem)
          exact ⟨b', by rw [List.getElem?_set_ne (Ne.symm hne)]; exact hb', hc'⟩
        · intro h' hh'
          by_cases heq : h' = h
          · subst heq
            exact ⟨⟨.junk j, false⟩, by simp [List.getElem?_set_self (Lists.lt_of_get hb)], by simp [hco]⟩
          · obtain ⟨b', hb', hf'⟩ := hs.handle hh'
            exact ⟨b', by rw [List.getElem?_set_ne (Ne.symm heq)]; exact hb', hf'⟩
  | call fn a => exact sim_call_step hg hs fn a

end Midgard.CacheMachine
