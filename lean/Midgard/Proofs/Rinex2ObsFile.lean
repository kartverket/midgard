/-
The RINEX 2 file: header records — the handler gets the printed cells (the parser's fields cover the standard's,
`RINEX VERSION / TYPE` and `# / TYPES OF OBSERV` being cut wider) —, the header group, the rows the Spec computes, and the whole
file given what the header leaves in the parser state (`file2_of_facts`).  `file2_of_hdrOk` is the same with the evaluated
header test `hdrOk2` as a hypothesis, which Props `hdr_ok2` shows to hold for every well-formed file, so it says less than
Props `file_roundtrip2`.  Last the text: no rendered line contains a line break, so the lines of `render F` are `fileLines F`.
-/
import Midgard.Proofs.Rinex2ObsBlocks
import Midgard.Proofs.Rinex2ObsHandlers

namespace Midgard.Spec.Rinex2ObsFile
open Midgard.Text Midgard.FixedCol Midgard.Decimal Midgard.ChainParser Midgard.RinexObs Midgard.Rinex2Obs
open Midgard.Spec.Rinex (renderLabelled renderCells findKind)
open Midgard.RinexObs.Records (labelled_line labelled_not_end)
open Midgard.Spec.Rinex3ObsFile (Style styled spec rec)

theorem headerParser_end (l : Str) (n : Nat) (nx : Str) :
    headerParser.endMarker l n nx = decide (Text.slice 60 73 l = "END OF HEADER".toList) := rfl

/-- the handlers that write only `meta` keys named after their fields (or fixed keys of their own) -/
def plainHandlers2 : List String := ["_parse_string", "_parse_rinex_version_type", "_parse_comment", "_parse_approx_position", "_parse_float",
  "_parse_time_of_last_obs", "_parse_leap_seconds", "_parse_integer", "_parse_wavelength_fact"]

/-- every kind but `MARKER NAME`, `TIME OF FIRST OBS` and `# / TYPES OF OBSERV` -/
def plainKinds2 : List (String × String) :=
  kinds.filter fun kh => kh.1 != "MNAME" && kh.1 != "TFIRST" && kh.1 != "TYPES2" && kh.1 != "TYPES2C"

/-- what the tables say about a record kind: the standard knows it, the parser has an entry
under that label with the kind's handler, (a continuation record of `# / TYPES OF OBSERV` apart) the entry's fields cover the
standard's under the same names, and a plain kind has one of the `plainHandlers2` and no field named like a key the data
section reads -/
def lineOk2 (kh : String × String) : Bool :=
  match findKind kh.1 with
  | none => false
  | some sp =>
    sp.label != "END OF HEADER" &&
    (kh.1 == "MNAME" || kh.1 == "TFIRST" || kh.1 == "TYPES2" || kh.1 == "TYPES2C" ||
      plainHandlers2.contains kh.2 && (sp.layout.map (·.name)).all freeName) &&
    match Midgard.Generated.Rinex2ObsCols.header.find? (·.label == sp.label) with
    | none => false
    | some d => d.handler == kh.2 && d.strip == .whitespace && d.openFields.isEmpty &&
        (kh.1 == "TYPES2C" || Covers 0 sp.layout d.fields && d.fields.map (·.name) == sp.layout.map (·.name))

theorem line_table2 : kinds.all lineOk2 = true := by decide +kernel

theorem line_facts2 (k : String) (hk : kinds.any (·.1 == k) = true) :
    ∃ sp d, findKind k = some sp ∧ sp.label ≠ "END OF HEADER" ∧
      Midgard.Generated.Rinex2ObsCols.header.find? (·.label == sp.label) = some d ∧ d.handler = handlerOf k ∧
      d.strip = .whitespace ∧ d.openFields = [] ∧
      (k ≠ "TYPES2C" → Covers 0 sp.layout d.fields = true ∧ d.fields.map (·.name) = sp.layout.map (·.name)) ∧
      (k ≠ "MNAME" → k ≠ "TFIRST" → k ≠ "TYPES2" → k ≠ "TYPES2C" →
        handlerOf k ∈ plainHandlers2 ∧ (sp.layout.map (·.name)).all freeName = true) := by
  -- the entry of `kinds` that `handlerOf` finds
  obtain ⟨kh, hfind⟩ := Option.isSome_iff_exists.mp (List.find?_isSome.mpr (List.any_eq_true.mp hk))
  have ht := List.all_eq_true.mp line_table2 kh (List.mem_of_find?_eq_some hfind)
  have hh : handlerOf k = kh.2 := by rw [handlerOf, hfind]; rfl
  have hkk : kh.1 = k := beq_iff_eq.mp (List.find?_some (p := fun (x : String × String) => x.1 == k) hfind)
  subst hkk
  unfold lineOk2 at ht
  cases hf : findKind kh.1 with
  | none => simp [hf] at ht
  | some sp =>
    cases hd : Midgard.Generated.Rinex2ObsCols.header.find? (·.label == sp.label) with
    | none => simp [hf, hd] at ht
    | some d =>
      simp only [hf, hd, Bool.and_eq_true, Bool.or_eq_true, beq_iff_eq, bne_iff_ne, ne_eq, List.isEmpty_iff,
        List.contains_eq_mem, decide_eq_true_eq] at ht
      obtain ⟨⟨he, hpl⟩, ⟨⟨hdh, hst⟩, hop⟩, hcov⟩ := ht
      refine ⟨sp, d, rfl, he, hd, hdh.trans hh.symm, hst, hop, fun hne => hcov.resolve_left hne, fun n1 n2 n3 n4 => ?_⟩
      rw [hh]
      exact hpl.resolve_left (fun hs => hs.elim (fun hs => hs.elim (fun hs => hs.elim n1 n2) n3) n4)

theorem okCells2_iff {k : String} {cells : List Str} : okCells k cells = true ↔
    cells.length = (spec k).layout.length ∧ Fits (spec k).layout ((spec k).aligns.zip cells) = true ∧
      cells.all Spec.Rinex3ObsFile.okText = true := by
  simp only [okCells, Bool.and_eq_true, decide_eq_true_eq, and_assoc]

theorem names_eq (k : String) : names k = (spec k).layout.map (·.name) := rfl

theorem rec_parsed2 (k : String) (hk : kinds.any (·.1 == k) = true) (hne : k ≠ "TYPES2C") (cells : List Str)
    (hok : okCells k cells = true) (n : Nat) (s : State) :
    parseLine headerParser (rstrip (rec k cells)) n s = handle (handlerOf k) ((names k).zip cells) s := by
  obtain ⟨sp, d, hsp, _, hd, hh, hst, hop, hcov, _⟩ := line_facts2 k hk
  obtain ⟨hlen, hf, _⟩ := okCells2_iff.mp hok
  rw [rec, names_eq, ← hh]
  rw [spec_eq hsp] at hlen hf ⊢
  exact labelled_line headerParser (fun _ => rfl) (fun _ _ => rfl) sp (findKind_mem hsp) d hd (hcov hne).1 (hcov hne).2 hop hst
    cells hlen hf n s

theorem rec_not_end2 (k : String) (hk : kinds.any (·.1 == k) = true) (cells : List Str) (hok : okCells k cells = true)
    (st : Style) (n : Nat) (nx : Str) : headerParser.endMarker (rstrip (styled st (rec k cells))) n nx = false := by
  obtain ⟨sp, _, hsp, he, _⟩ := line_facts2 k hk
  rw [rstrip_styled]
  have hfit := (okCells2_iff.mp hok).2.1
  rw [spec_eq hsp] at hfit
  rw [rec_eq hsp]
  exact labelled_not_end headerParser headerParser_end sp (findKind_mem hsp) he cells hfit n nx

/-! ### `# / TYPES OF OBSERV`: a continuation record is a first record with a blank count -/

theorem types2c_spec : (spec "TYPES2").layout = ⟨"num_obstypes", 0, 6⟩ :: (spec "TYPES2C").layout ∧
    (spec "TYPES2").aligns = Align.right :: (spec "TYPES2C").aligns ∧ (spec "TYPES2").label = (spec "TYPES2C").label ∧
    handlerOf "TYPES2C" = handlerOf "TYPES2" ∧ 6 ≤ (((spec "TYPES2C").layout.head?.map (·.start)).getD 0) := by decide +kernel

theorem types2c_rec (cells : List Str) (hok : okCells "TYPES2C" cells = true) :
    rec "TYPES2C" cells = rec "TYPES2" ([] :: cells) ∧ okCells "TYPES2" ([] :: cells) = true := by
  obtain ⟨hl, ha, hlab, _, h6⟩ := types2c_spec
  obtain ⟨hlen, hf, htext⟩ := okCells2_iff.mp hok
  refine ⟨?_, okCells2_iff.mpr ⟨by rw [hl, List.length_cons, List.length_cons, hlen], ?_, by rw [List.all_cons, htext]; rfl⟩⟩
  · unfold rec renderLabelled renderCells renderA
    rw [hl, ha, hlab, List.zip_cons_cons, renderFrom, renderFrom_lead _ _ 0 6 hf (Nat.zero_le 6) h6]
    rfl
  · rw [hl, ha, List.zip_cons_cons]
    exact fits_cons_iff.mpr ⟨Nat.zero_le _, rfl, hf⟩

theorem valuesOf_types2c (cells : List Str) : valuesOf "TYPES2C" cells = valuesOf "TYPES2" ([] :: cells) := by
  simp [valuesOf, names, types2c_spec.1]

def pairFx2 (kc : String × List Str) : State → Except Err State :=
  fun s => handle (handlerOf kc.1) (valuesOf kc.1 kc.2) s

/-- what the well-formedness test says about a header record -/
def PairOk (kc : String × List Str) : Prop := kinds.any (·.1 == kc.1) = true ∧ okCells kc.1 kc.2 = true

theorem valuesOf_plain (k : String) (cells : List Str) (h : k ≠ "TYPES2C") : valuesOf k cells = (names k).zip cells := by
  simp [valuesOf, h]

theorem pair_line2 (kc : String × List Str) (h : PairOk kc) (st : Style) (n : Nat) (s : State) :
    parseLine headerParser (rstrip (styled st (rec kc.1 kc.2))) n s = pairFx2 kc s := by
  rw [rstrip_styled]
  obtain ⟨k, cells⟩ := kc
  obtain ⟨hk, hok⟩ := h
  unfold pairFx2
  by_cases h3 : k = "TYPES2C"
  · subst h3
    obtain ⟨hrec, hok'⟩ := types2c_rec cells hok
    obtain ⟨_, _, _, hhandler, _⟩ := types2c_spec
    rw [hrec, valuesOf_types2c, hhandler, valuesOf_plain _ _ (by decide)]
    exact rec_parsed2 "TYPES2" (by decide) (by decide) _ hok' n s
  · rw [valuesOf_plain _ _ h3]
    exact rec_parsed2 k hk h3 cells hok n s

/-- the `END OF HEADER` record as written: the end marker sees it, its label has no entry in the parser's table -/
theorem eoh_line : Text.slice 60 73 (rstrip (rec "EOH" [])) = "END OF HEADER".toList ∧
    asString (strip (sliceFrom 60 (rstrip (rstrip (rec "EOH" []))))) = "END OF HEADER" ∧
    Midgard.Generated.Rinex2ObsCols.header.find? (·.label == "END OF HEADER") = none := by decide +kernel

theorem eoh_parsed2 (n : Nat) (s : State) : parseLine headerParser (rstrip (rec "EOH" [])) n s = .ok s := by
  have hl : headerParser.label (rstrip (rstrip (rec "EOH" []))) n = "END OF HEADER" := eoh_line.2.1
  exact parseLine_none headerParser _ n s rfl (by rw [hl]; exact eoh_line.2.2)

theorem eoh_end2 (n : Nat) (nx : Str) : headerParser.endMarker (rstrip (rec "EOH" [])) n nx = true := by
  rw [headerParser_end]
  exact decide_eq_true eoh_line.1

theorem epochRows_eq (H : State) (rate : Option Rat) (t : Str) (hfirst : H.metaD.get [key "time_first_obs"] = some (.text t))
    (e : Epoch) (y : Int) (hye : pyInt (t.take 2 ++ zfill 2 e.yy.text) = .ok y) (hs : ∀ r ∈ e.sats, SatOk r.sat) :
    epochRows H e = .ok (e.sats.map (rowOfSat (info2 rate y e))) := by
  have hfy : fullYear H e = .ok y := by simp [fullYear, hfirst, hye]
  unfold epochRows
  simp only [hfy, bind, Except.bind]
  apply Lists.mapM_ok
  intro r hr
  simp only [satRow, pyInt_norm (hs r hr), bind, Except.bind, pure, Except.pure]
  rfl

theorem rowsOf_fold (H : State) (rate : Option Rat) (t : Str) (hfirst : H.metaD.get [key "time_first_obs"] = some (.text t))
    (eps : List Epoch) (hy : ∀ e ∈ eps, ∃ y, pyInt (t.take 2 ++ zfill 2 e.yy.text) = .ok y)
    (hs : ∀ e ∈ eps, ∀ r ∈ e.sats, SatOk r.sat) (acc : List Row) :
    (eps.filter (kept rate)).foldlM (fun acc e => do
        let rs ← epochRows H e
        pure (acc ++ rs)) acc = .ok (acc ++ rowsOf2 rate t eps) := by
  rw [Lists.foldlM_append_ok (epochRows H) (fun e => e.sats.map (rowOfSat (info2 rate (yearOf t e) e))), Lists.flatMap_filter]
  · rfl
  · intro e he
    have he' := (List.mem_filter.mp he).1
    obtain ⟨y, hye⟩ := hy e he'
    rw [show yearOf t e = y by simp [yearOf, hye]]
    exact epochRows_eq H rate t hfirst e y hye (hs e he')

theorem rowsOf_eq (H : State) (rate : Option Rat) (t : Str) (hfirst : H.metaD.get [key "time_first_obs"] = some (.text t)) (F : File)
    (hy : ∀ e ∈ F.epochs, ∃ y, pyInt (t.take 2 ++ zfill 2 e.yy.text) = .ok y) (hs : ∀ e ∈ F.epochs, ∀ r ∈ e.sats, SatOk r.sat) :
    rowsOf H rate F = .ok (rowsOf2 rate t F.epochs) := by
  have := rowsOf_fold H rate t hfirst F.epochs hy hs []
  simpa [rowsOf] using this

theorem fileLines_eq2 (F : File) :
    fileLines F = F.hdr.map (fun kc => styled F.style (rec kc.1 kc.2)) ++
      styled F.style (rec "EOH" []) :: (F.epochs.flatMap blockLinesR).map (styled F.style) := by
  have hb : F.epochs.flatMap blockLines = F.epochs.flatMap blockLinesR :=
    Midgard.Lists.flatMap_congr (fun e _ => blockLines_eq e)
  simp [fileLines, rawLines, hb, List.map_append, List.map_map, Function.comp_def]

/-- `HF` (the four `meta` entries one epoch group reads) plus what only the whole file needs: the rate, a readable year for every
epoch of `F`, empty columns -/
structure Facts2 (rate : Option Rat) (F : File) (H : State) (m t : Str) : Prop where
  hf : HF (types F.hdr) m t H
  hrate : H.rate = rate
  hyears : ∀ e ∈ F.epochs, ∃ y, pyInt (t.take 2 ++ zfill 2 e.yy.text) = .ok y
  hdata : H.data = dataOf2 (types F.hdr) (lower m) [] H.data

theorem facts_of_ok (rate : Option Rat) (F : File) (h : hdrOk2 rate F = true) (H : State) (hH : headerState rate F.hdr = .ok H) :
    ∃ m t, Facts2 rate F H m t := by
  unfold hdrOk2 at h
  rw [hH] at h
  simp only [Bool.and_eq_true, beq_iff_eq] at h
  obtain ⟨⟨⟨⟨⟨h1, h2⟩, h3⟩, h4⟩, h5⟩, h6⟩ := h
  cases hm : H.metaD.get [key "marker_name"] with
  | none => rw [hm] at h4; simp at h4
  | some lm =>
    cases lm with
    | text m =>
      cases hf : H.metaD.get [key "time_first_obs"] with
      | none => rw [hf] at h5; simp at h5
      | some lf =>
        cases lf with
        | text t =>
          rw [hf] at h5
          refine ⟨m, t, ⟨h2, h3, hm, hf⟩, h1, ?_, ?_⟩
          · intro e he
            have := List.all_eq_true.mp h5 e he
            cases hp : pyInt (t.take 2 ++ zfill 2 e.yy.text) with
            | ok y => exact ⟨y, rfl⟩
            | error err => rw [hp] at this; simp at this
          · exact h6
        | _ => rw [hf] at h5; simp at h5
    | _ => rw [hm] at h4; simp at h4

theorem epochWf_of_wf (F : File) (hwf : F.wf = true) : (types F.hdr).Nodup ∧ (∀ kc ∈ F.hdr, PairOk kc) ∧
    ∀ e ∈ F.epochs, EpochWf (types F.hdr) e := by
  simp only [File.wf, Bool.and_eq_true, Bool.not_eq_eq_eq_not, Bool.not_true] at hwf
  obtain ⟨⟨⟨⟨⟨⟨⟨⟨⟨hsty, _⟩, hhdr⟩, hne⟩, hnd⟩, _⟩, _⟩, heps⟩, _⟩, _⟩ := hwf
  refine ⟨nodup_of hnd, ?_, ?_⟩
  · intro kc hkc
    have := List.all_eq_true.mp hhdr kc hkc
    simp only [Bool.and_eq_true] at this
    exact ⟨this.1, this.2⟩
  · intro e he
    have hew := List.all_eq_true.mp heps e he
    have hok := epochOk_of_wf _ e hew
    have hpos : 0 < (types F.hdr).length := by
      cases ht : types F.hdr with
      | nil => rw [ht] at hne; simp at hne
      | cons a l => simp
    refine ⟨hok, ?_, ?_⟩
    · intro r hr
      simp only [Epoch.wf, Bool.and_eq_true] at hew
      have hrw := List.all_eq_true.mp hew.2 r hr
      simp only [SatRec.wf, Bool.and_eq_true, decide_eq_true_eq] at hrw
      refine ⟨hok.ids r.sat (List.mem_map.mpr ⟨r, hr, rfl⟩), hrw.1.1.2, ?_, hrw.1.2, hrw.2⟩
      intro e0
      have := hrw.1.1.2
      rw [e0] at this
      simp at this; omega
    · simp only [sysStyleOk, Bool.or_eq_true] at hsty
      rcases hsty with h | h
      · left
        intro s hs
        obtain ⟨r, hr, rfl⟩ := List.mem_map.mp hs
        exact List.all_eq_true.mp (List.all_eq_true.mp h e he) r hr
      · right
        intro s hs
        obtain ⟨r, hr, rfl⟩ := List.mem_map.mp hs
        simpa using List.all_eq_true.mp (List.all_eq_true.mp h e he) r hr

/-- **the RINEX 2 file**, given what the header leaves in the parser state: the header records fold their handlers
(`headerState` is that fold), `END OF HEADER` switches to the data section, the epoch groups add their rows -/
theorem file2_of_facts (rate : Option Rat) (F : File) (hwf : F.wf = true)
    (hfacts : ∀ H, headerState rate F.hdr = .ok H → ∃ m t, Facts2 rate F H m t) :
    readData headerParser obsParser resetCache (fileLines F) true 0 { rate := rate } = expected rate F := by
  obtain ⟨hnd, hpairs, heps⟩ := epochWf_of_wf F hwf
  have hs : headerState rate F.hdr = F.hdr.foldlM (fun s kc => pairFx2 kc s) { rate := rate } := rfl
  rw [fileLines_eq2, readData_header headerParser obsParser resetCache _ pairFx2 _ _ _
    (fun kc hkc n s => pair_line2 kc (hpairs kc hkc) F.style n s)
    (fun kc hkc n nx => rec_not_end2 kc.1 (hpairs kc hkc).1 kc.2 (hpairs kc hkc).2 F.style n nx)
    (fun n s => by rw [rstrip_styled]; exact eoh_parsed2 n s) (fun n nx => by rw [rstrip_styled]; exact eoh_end2 n nx),
    ← hs]
  unfold expected
  cases hhs : headerState rate F.hdr with
  | error e => rfl
  | ok H =>
    obtain ⟨m, t, hf⟩ := hfacts H hhs
    have hreset : resetCache H = mk2 H (dataOf2 (types F.hdr) (lower m) [] H.data) {} := by rw [← hf.hdata]; rfl
    simp only [hreset, blocks_run2 F.style (types F.hdr) hnd m t H hf.hf F.epochs [] heps hf.hyears,
      rowsOf_eq H rate t hf.hf.hfirst F hf.hyears (fun e he r hr => ((heps e he).sats r hr).1), List.nil_append, hf.hf.hmark]
    have hr := hf.hrate
    subst hr
    rfl

/-- the RINEX 2 file-level round trip, with the header's handlers *evaluated* on the header's values (`hdrOk2`) -/
theorem file2_of_hdrOk (rate : Option Rat) (F : File) (hwf : F.wf = true) (hh : hdrOk2 rate F = true) :
    readData headerParser obsParser resetCache (fileLines F) true 0 { rate := rate } = expected rate F :=
  file2_of_facts rate F hwf (fun H hH => facts_of_ok rate F hh H hH)

open Midgard.Spec.Rinex3ObsFile (NoNl)

theorem nonl_fileLines2 (F : File) (hwf : F.wf = true) : ∀ l ∈ fileLines F, NoNl l := by
  obtain ⟨_, hpairs, heps⟩ := epochWf_of_wf F hwf
  intro l hl
  rw [fileLines_eq2] at hl
  simp only [List.mem_append, List.mem_map, List.mem_cons, List.mem_flatMap] at hl
  rcases hl with ⟨kc, hkc, rfl⟩ | rfl | ⟨l0, ⟨e, he, hl0⟩, rfl⟩ <;> apply nonl_styled
  · exact nonl_rec kc.1 kc.2 (okCells2_iff.mp (hpairs kc hkc).2).2.2
  · exact nonl_eoh
  · have hew := heps e he
    rw [blockLinesR_eq] at hl0
    rcases List.mem_cons.mp hl0 with rfl | hl0
    · exact epochLine_nonl e hew.ok
    · rcases mem_blockTailR hew hl0 with ⟨c, rfl, _, _, hok, _⟩ | ⟨c, rfl, hwf, _⟩
      · exact nonl_contLine c hok
      · exact nonl_obsLine c hwf

end Midgard.Spec.Rinex2ObsFile
