/-
C10 — the attribute codec is the identity on meta trees: at the level of tokens (`decode_encode`); and, for the level of the stored
text (`Props.C10.text_decode_encode`), what the dispatch on the first word makes of the texts `encodeText` writes
(`dispatch_tagged`, `dispatch_str`).
-/
import Midgard.Model.H5AttrText

namespace Midgard.H5Attr

theorem evalAst_atomAst (a : Atom) : evalAst (atomAst a) = some (.atom a) := by
  cases a with
  | int i =>
    simp only [atomAst]
    split
    · rename_i h
      simp only [evalAst]
      congr 3
      omega
    · rename_i h
      simp only [evalAst]
      congr 3
      omega
  | flt q =>
    simp only [atomAst]
    split
    · simp [evalAst]
    · simp [evalAst]
  | nan => simp [atomAst, evalAst]
  | inf => simp [atomAst, evalAst]
  | ninf => simp [atomAst, evalAst]
  | str s => simp [atomAst, evalAst]
  | bool b => cases b <;> simp [atomAst, evalAst]
  | none => simp [atomAst, evalAst]

mutual
theorem evalAst_toAst : ∀ (m : Meta), evalAst (toAst m) = some m
  | .atom a => by simp only [toAst]; exact evalAst_atomAst a
  | .list xs => by simp only [toAst, evalAst, evalAsts_toAsts xs, Option.map_some]
  | .tuple xs => by simp only [toAst, evalAst, evalAsts_toAsts xs, Option.map_some]
  | .set xs => by
    cases xs with
    | nil => simp [toAst, evalAst]
    | cons x xs =>
      have := evalAsts_toAsts (x :: xs)
      simp only [toAst, evalAst, this, Option.map_some]
  | .dict kvs => by simp only [toAst, evalAst, evalKVs_toAstKVs kvs, Option.map_some]
theorem evalAsts_toAsts : ∀ (xs : List Meta), evalAst.evalAsts (toAst.toAsts xs) = some xs
  | [] => by simp [toAst.toAsts, evalAst.evalAsts]
  | x :: xs => by simp only [toAst.toAsts, evalAst.evalAsts, evalAst_toAst x, evalAsts_toAsts xs]
theorem evalKVs_toAstKVs : ∀ (kvs : List (Meta × Meta)), evalAst.evalKVs (toAst.toAstKVs kvs) = some kvs
  | [] => by simp [toAst.toAstKVs, evalAst.evalKVs]
  | (k, v) :: r => by
    simp only [toAst.toAstKVs, evalAst.evalKVs, evalAst_toAst k, evalAst_toAst v, evalKVs_toAstKVs r]
end

/-- **`decode_h5attr (encode_h5attr m) = m`** for every meta tree that can be saved -/
theorem decode_encode (m : Meta) (a : Attr) (h : encode m = some a) : decode a = some m := by
  cases m with
  | atom x =>
    cases x <;> simp [encode] at h <;> subst h <;> simp [decode]
  | list xs => simp only [encode, Option.some.injEq] at h; subst h; exact evalAst_toAst _
  | tuple xs => simp only [encode, Option.some.injEq] at h; subst h; exact evalAst_toAst _
  | set xs => simp only [encode, Option.some.injEq] at h; subst h; exact evalAst_toAst _
  | dict kvs => simp only [encode, Option.some.injEq] at h; subst h; exact evalAst_toAst _

theorem partitionBlank_append (tag rest : List Char) (h : ' ' ∉ tag) : partitionBlank (tag ++ ' ' :: rest) = (tag, rest) := by
  induction tag with
  | nil => simp [partitionBlank]
  | cons c t ih =>
    have hc : c ≠ ' ' := fun e => h (by simp [e])
    have ht : ' ' ∉ t := fun e => h (by simp [e])
    simp [partitionBlank, hc, ih ht]

/-- CPython's `str()` on containers and `ast.parse` (after `lstrip`), as far as the codec relies on them.  `special`: a text that
`str()` prints as `<tag>()` evaluates to the empty container of that tag (in CPython only `set()` is such a text); `nonempty`:
`str()` never prints the empty text, so the `not attr` branch is not taken for a container -/
structure Printer (render : Ast → List Char) (parse : List Char → Option Ast) : Prop where
  parse_render : ∀ a, parse (render a) = some a
  nonempty : ∀ a, render a ≠ []
  special : ∀ a tag, tag ∈ containerTags → render a = (tag ++ "()").toList → evalAst a = some (emptyOf tag)

theorem dispatch_tagged (tag : String) (htag : tag ∈ containerTags) (r : List Char) (hr : r ≠ []) :
    dispatchText ((tag ++ " ").toList ++ r) = if r = (tag ++ "()").toList then .empty tag else .eval r := by
  have hp : partitionBlank ((tag ++ " ").toList ++ r) = (tag.toList, r) := by
    have : (tag ++ " ").toList ++ r = tag.toList ++ ' ' :: r := by simp
    rw [this]
    apply partitionBlank_append
    simp only [containerTags, List.mem_cons, List.mem_nil_iff, or_false] at htag
    rcases htag with rfl | rfl | rfl | rfl <;> decide
  have hc : containerTags.contains tag = true := by simpa using htag
  simp only [dispatchText, hp, String.ofList_toList, hc, if_true, hr, false_or]

theorem dispatch_str (s : String) : dispatchText ("str ".toList ++ s.toList) = .str s.toList := by
  have hp : partitionBlank ("str ".toList ++ s.toList) = ("str".toList, s.toList) := by
    have : "str ".toList ++ s.toList = "str".toList ++ ' ' :: s.toList := by simp
    rw [this]
    apply partitionBlank_append
    decide
  simp only [dispatchText, hp, String.ofList_toList]
  simp [containerTags]

end Midgard.H5Attr
