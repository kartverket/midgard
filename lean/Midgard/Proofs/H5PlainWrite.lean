/-
C10 — the model without `time` (`writeArr`, `writeField`, `writeDS`), write side: statements of its own that the round trip
does not pass through.  One array as a tree (`ArrTree`); the loop over the fields is `writeFieldX` with no `time` attached
anywhere, so `WL2` (what the memo answers; arrays may be shared between fields) and `WL` (the memo as a list; no array shared)
are read off the one invariant of `Proofs/H5WriteFields.lean`; and, for every dataset whose write succeeds, an array held by several
fields is stored once (`RepA`: `RepG` read against the memo of `_construct_memo` instead of the final memo).  `Props/C10.lean` takes
from this file `RepA` and `writeFields_repA` only (`shared_array_written_once`).
-/
import Midgard.Proofs.H5WriteFile
import Midgard.Proofs.H5Time

namespace Midgard.H5
open Midgard.Dataset

/-- the array group `g` at path `q` is what `_write` makes of the heap object `g.src`; a reference by
name satisfies `H name target` -/
inductive ArrTree (H : Path → Nat → Prop) (h : Heap) : Path → Grp → Prop
  | plain {q : Path} {a : GAttrs} {ob : Obj} : h[a.src]? = some ob → attrName ob.kind = none →
      a.fieldname = q → a.ref = none → ArrTree H h q (.mk a (some ob.strip) [])
  | noref {q : Path} {a : GAttrs} {ob : Obj} {nm : String} : h[a.src]? = some ob → attrName ob.kind = some nm →
      ob.ref = none → a.fieldname = q → a.ref = none → ArrTree H h q (.mk a (some ob.strip) [])
  | named {q : Path} {a : GAttrs} {ob : Obj} {nm : String} {x : Nat} {qx : Path} : h[a.src]? = some ob →
      attrName ob.kind = some nm → ob.ref = some x → a.fieldname = q → a.ref = some qx → H qx x →
      ArrTree H h q (.mk a (some ob.strip) [])
  | embedded {q : Path} {a : GAttrs} {ob : Obj} {nm : String} {x : Nat} {g' : Grp} : h[a.src]? = some ob →
      attrName ob.kind = some nm → ob.ref = some x → a.fieldname = q → a.ref = none → g'.src = x →
      ArrTree H h (q ++ [nm]) g' → ArrTree H h q (.mk a (some ob.strip) [(nm, g')])

theorem ArrTree.mono {H H' : Path → Nat → Prop} {h : Heap} (hh : ∀ q x, H q x → H' q x) :
    ∀ {q g}, ArrTree H h q g → ArrTree H' h q g := by
  intro q g t
  induction t with
  | plain a b c d => exact .plain a b c d
  | noref a b c d e => exact .noref a b c d e
  | named a b c d e f => exact .named a b c d e (hh _ _ f)
  | embedded a b c d e f _ ih => exact .embedded a b c d e f ih

/-- `FieldType.write` adds unit and write level to the group: the array part is untouched -/
theorem ArrTree.setUL {H h q} {a : GAttrs} {p : Option Obj} {subs : List (String × Grp)} {u : Option (List String)} {l : Nat}
    (t : ArrTree H h q (.mk a p subs)) : ArrTree H h q (.mk { a with unit := u, level := l } p subs) := by
  cases t with
  | plain a1 b c d => exact .plain (a := { a with unit := u, level := l }) a1 b c d
  | noref a1 b c d e => exact .noref (a := { a with unit := u, level := l }) a1 b c d e
  | named a1 b c d e f => exact .named (a := { a with unit := u, level := l }) a1 b c d e f
  | embedded a1 b c d e f g => exact .embedded (a := { a with unit := u, level := l }) a1 b c d e f g

theorem ArrTree.nodeMono (h : Heap) : NodePred.Mono (fun H => ArrTree H h) := fun hh => ArrTree.mono hh

theorem writeArr_written (h : Heap) : ∀ (fuel : Nat) (u : Option (List String)) (l o : Nat) (p : Path) (memo : WMemo) (g : Grp)
    (memo' : WMemo), writeArr h u l fuel o p memo = .ok (g, memo') → memo.lookup o = some p →
    ArrWritten (fun H => ArrTree H h) o u l p memo g memo'
  | 0, _, _, _, _, _, _, _, hw, _ => by simp [writeArr] at hw
  | fuel + 1, u, l, o, p, memo, g, memo', hw, hp => by
    simp only [writeArr] at hw
    split at hw
    · simp at hw
    · rename_i ob hob
      split at hw
      · rename_i hat
        cases hw
        refine ⟨rfl, rfl, ⟨rfl, rfl, rfl, rfl⟩, namesOKG_leaf _ _, ?_⟩
        rw [nodes_leaf]
        exact WSpec.single hp rfl (.plain hob hat rfl rfl)
      · rename_i nm hat
        split at hw
        · rename_i hr
          cases hw
          refine ⟨rfl, rfl, ⟨rfl, rfl, rfl, rfl⟩, namesOKG_leaf _ _, ?_⟩
          rw [nodes_leaf]
          exact (WSpec.refl _ _ _).root (ArrTree.nodeMono h) hp rfl (.noref hob hat hr rfl rfl)
        · rename_i x hr
          split at hw
          · rename_i name hl
            cases hw
            refine ⟨rfl, rfl, ⟨rfl, rfl, rfl, rfl⟩, namesOKG_leaf _ _, ?_⟩
            rw [nodes_leaf]
            exact (WSpec.refl _ _ _).root (ArrTree.nodeMono h) hp rfl
              (.named hob hat hr rfl rfl (Stable.cons (.inr hp) x name hl))
          · rename_i hl
            split at hw
            · simp at hw
            · rename_i gc memoc hrec
              cases hw
              -- the embedded group is written with its own name already in the memo
              have ih := writeArr_written h fuel none 3 x (p ++ [nm]) _ gc memoc hrec List.lookup_cons_self
              have hroot := root_mem_nodes (p ++ [nm]) ih.isArr
              have sub := ih.spec.push hl hroot ih.src
              have st : Stable memoc ((o, p) :: memoc) := Stable.cons (.inr (sub.stable o p hp))
              refine ⟨rfl, rfl, ⟨rfl, rfl, rfl, rfl⟩, ?_, ?_⟩
              · exact namesOKL_single ih.names
              · rw [nodes_arr, nodesL_single]
                exact sub.root (ArrTree.nodeMono h) hp rfl
                  (.embedded hob hat hr rfl rfl ih.src ((ih.spec.node _ _ hroot).mono (fun q y hy => st y q hy)))

/-- `ArrWritten (fun H => ArrTree H h)` spelt out on lookups of the memo; a statement form only: what is proved of `writeArr` is
`writeArr_written` -/
structure WArr2 (h : Heap) (o : Nat) (p : Path) (memo : WMemo) (g : Grp) (memo' : WMemo) : Prop where
  src : g.src = o
  tree : ArrTree (fun q x => memo'.lookup x = some q) h p g
  stable : Stable memo memo'
  newIn : ∀ x q, memo'.lookup x = some q → memo.lookup x = some q ∨ ∃ g', (q, g') ∈ Grp.nodes p g ∧ g'.src = x
  own : ∀ q g', (q, g') ∈ Grp.nodes p g → memo'.lookup g'.src = some q
  names : NamesOKG g

theorem HeapX.nil {h : Heap} (hb : Below h) : HeapX h [] :=
  ⟨hb, fun o t ht => by rw [tmE_nil] at ht; cases ht⟩

theorem writeField_loop (h : Heap) (hb : Below h) (lvl : Nat) (f : Field) (pre : Path) (memo : WMemo)
    (hp : ∀ o ∈ leafObjs [restrictField lvl f], o ∈ keys memo) (hn : namesOK [restrictField lvl f] = true)
    (hlt : ∀ o ∈ leafObjs [restrictField lvl f], o < h.length) :
    ∃ g memo', writeField h lvl f pre memo = .ok (g, memo') ∧
      LoopSpec (fun H => ArrTree H h) [restrictField lvl f] pre memo [((restrictField lvl f).name, g)] memo' := by
  have harr : ∀ u l o p memo g memo', writeArrX h [] u l (h.length + 1) o p memo = .ok (g, memo') → memo.lookup o = some p →
      ArrWritten (fun H => ArrTree H h) o u l p memo g memo' := fun u l o p memo g memo' hw =>
    writeArr_written h _ u l o p memo g memo' (writeArrX_eq h [] (tmE_nil h) _ u l o p memo ▸ hw)
  obtain ⟨g, memo', hw, w⟩ := writeFieldX_loop (ArrTree.nodeMono h) harr (writeArrX_total (HeapX.nil hb)) lvl f pre memo hp hn hlt
  exact ⟨g, memo', writeFieldX_eq h [] tmOf_nil lvl f pre memo ▸ hw, w⟩

structure WL2 (h : Heap) (fs : List Field) (pre : Path) (memo : WMemo) (groups : List (String × Grp)) (memo' : WMemo) :
    Prop where
  rep : RepG.RepGL (fun o name => memo'.lookup o = some name) fs pre groups
  stable : Stable memo memo'
  newIn : ∀ x q, memo'.lookup x = some q → memo.lookup x = some q ∨ ∃ g', (q, g') ∈ Grp.nodes.nodesL pre groups ∧ g'.src = x
  tree : ∀ q g', (q, g') ∈ Grp.nodes.nodesL pre groups → ArrTree (fun q x => memo'.lookup x = some q) h q g'
  own : ∀ q g', (q, g') ∈ Grp.nodes.nodesL pre groups → memo'.lookup g'.src = some q
  names : NamesOKG.NamesOKL groups
  written : ∀ e ∈ leafPaths fs pre, memo.lookup e.1 = some e.2 → ∃ g', (e.2, g') ∈ Grp.nodes.nodesL pre groups ∧ g'.src = e.1

theorem LoopSpec.toWL2 {h : Heap} {fs : List Field} {pre : Path} {memo memo' : WMemo} {groups : List (String × Grp)}
    (w : LoopSpec (fun H => ArrTree H h) fs pre memo groups memo') : WL2 h fs pre memo groups memo' :=
  ⟨w.rep, w.spec.stable, w.spec.newIn, w.spec.node, w.spec.own, w.names, w.written⟩

theorem writeField_spec2 (h : Heap) (hb : Below h) (lvl : Nat) : ∀ (f : Field) (pre : Path) (memo : WMemo),
    (∀ o ∈ leafObjs [restrictField lvl f], o ∈ keys memo) →
    namesOK [restrictField lvl f] = true → (∀ o ∈ leafObjs [restrictField lvl f], o < h.length) →
    ∃ g memo', writeField h lvl f pre memo = .ok (g, memo') ∧
      WL2 h [restrictField lvl f] pre memo [((restrictField lvl f).name, g)] memo' := by
  intro f pre memo hp hn hlt
  obtain ⟨g, memo', hw, w⟩ := writeField_loop h hb lvl f pre memo hp hn hlt
  exact ⟨g, memo', hw, w.toWL2⟩

/-- the group `g` is what `FieldType.write` / `CollectionField.write` make of the field, located below
the path `pre` -/
def RepF : Field → Path → Grp → Prop
  | .leaf nm _ o _ u l, pre, g =>
    g.isArr = true ∧ g.src = o ∧ g.attrs.fieldname = pre ++ [nm] ∧ g.attrs.unit = u ∧ g.attrs.level = l ∧
      g.attrs.sameAs = none
  | .coll nm _ l sub, pre, g =>
    ∃ subs, g = .mk { fieldname := [nm], level := l, members := sub.map (fun f => (f.name, fieldType f)) } none subs ∧
      RepL sub (pre ++ [nm]) subs
where RepL : List Field → Path → List (String × Grp) → Prop
  | [], _, gs => gs = []
  | f :: fs, pre, gs => ∃ g r, gs = (f.name, g) :: r ∧ RepF f pre g ∧ RepL fs pre r

theorem RepL_mem : ∀ (fs : List Field) (pre : Path) (gs : List (String × Grp)),
    RepF.RepL fs pre gs → ∀ f ∈ fs, ∃ g, (f.name, g) ∈ gs ∧ RepF f pre g
  | [], _, _, _, f, hf => by simp at hf
  | f0 :: fs, pre, gs, h, f, hf => by
    simp only [RepF.RepL] at h
    obtain ⟨g, r, rfl, h0, hr⟩ := h
    rcases List.mem_cons.mp hf with rfl | hf
    · exact ⟨g, by simp, h0⟩
    · obtain ⟨g', hg', hr'⟩ := RepL_mem fs pre r hr f hf
      exact ⟨g', List.mem_cons_of_mem _ hg', hr'⟩

mutual
theorem RepG.toF {K : Nat → Path → Prop} : ∀ (f : Field) (pre : Path) (g : Grp),
    (∀ e ∈ leafPaths [f] pre, ∀ name, K e.1 name → name = e.2) → RepG K f pre g → RepF f pre g
  | .leaf nm k o no u l, pre, g, hK, h => by
    simp only [RepG] at h
    simp only [RepF]
    obtain ⟨a, b, c, d, e⟩ := h
    rcases e with ⟨e1, e2⟩ | ⟨name, _, _, hne, hk⟩
    · exact ⟨e1, a, b, c, d, e2⟩
    · exact absurd (hK (o, pre ++ [nm]) (by simp [leafPaths_leaf_single]) name hk) hne
  | .coll nm no l sub, pre, g, hK, h => by
    simp only [RepG] at h
    simp only [RepF]
    obtain ⟨subs, hg, hr⟩ := h
    exact ⟨subs, hg, RepGL.toF sub _ subs (fun e he => hK e (by rwa [leafPaths_coll_single])) hr⟩
theorem RepGL.toF {K : Nat → Path → Prop} : ∀ (fs : List Field) (pre : Path) (gs : List (String × Grp)),
    (∀ e ∈ leafPaths fs pre, ∀ name, K e.1 name → name = e.2) → RepG.RepGL K fs pre gs → RepF.RepL fs pre gs
  | [], _, gs, _, h => by simpa only [RepG.RepGL, RepF.RepL] using h
  | f :: fs, pre, gs, hK, h => by
    simp only [RepG.RepGL] at h
    simp only [RepF.RepL]
    obtain ⟨g, r, hg, h1, h2⟩ := h
    exact ⟨g, r, hg, RepG.toF f pre g (fun e he => hK e (by rw [leafPaths_cons]; exact List.mem_append_left _ he)) h1,
      RepGL.toF fs pre r (fun e he => hK e (by rw [leafPaths_cons]; exact List.mem_append_right _ he)) h2⟩
end

mutual
theorem RepF.toG {K : Nat → Path → Prop} : ∀ (f : Field) (pre : Path) (g : Grp), RepF f pre g → RepG K f pre g
  | .leaf nm k o no u l, pre, g, h => by
    simp only [RepF] at h
    simp only [RepG]
    exact ⟨h.2.1, h.2.2.1, h.2.2.2.1, h.2.2.2.2.1, Or.inl ⟨h.1, h.2.2.2.2.2⟩⟩
  | .coll nm no l sub, pre, g, h => by
    simp only [RepF] at h
    simp only [RepG]
    obtain ⟨subs, hg, hr⟩ := h
    exact ⟨subs, hg, RepL.toG sub _ subs hr⟩
theorem RepL.toG {K : Nat → Path → Prop} : ∀ (fs : List Field) (pre : Path) (gs : List (String × Grp)),
    RepF.RepL fs pre gs → RepG.RepGL K fs pre gs
  | [], _, gs, h => by simpa only [RepG.RepGL, RepF.RepL] using h
  | f :: fs, pre, gs, h => by
    simp only [RepF.RepL] at h
    simp only [RepG.RepGL]
    obtain ⟨g, r, hg, h1, h2⟩ := h
    exact ⟨g, r, hg, RepF.toG f pre g h1, RepL.toG fs pre r h2⟩
end

abbrev srcs (l : List (Path × Grp)) : List Nat := l.map (fun x => x.2.src)

structure WL (h : Heap) (fs : List Field) (pre : Path) (memo : WMemo) (groups : List (String × Grp)) (memo' : WMemo) :
    Prop where
  rep : RepF.RepL fs pre groups
  sub : ∀ e ∈ memo, e ∈ memo'
  newIn : ∀ x q, (x, q) ∈ memo' → (x, q) ∈ memo ∨ ∃ g', (q, g') ∈ Grp.nodes.nodesL pre groups ∧ g'.src = x
  tree : ∀ q g', (q, g') ∈ Grp.nodes.nodesL pre groups → ArrTree (fun q x => (x, q) ∈ memo') h q g'
  fresh : ∀ q g', (q, g') ∈ Grp.nodes.nodesL pre groups → g'.src ∈ leafObjs fs ∨ g'.src ∉ keys memo
  known : ∀ q g', (q, g') ∈ Grp.nodes.nodesL pre groups → g'.src ∈ keys memo'
  nodup : (srcs (Grp.nodes.nodesL pre groups)).Nodup
  names : NamesOKG.NamesOKL groups
  written : ∀ e ∈ leafPaths fs pre, ∃ g', (e.2, g') ∈ Grp.nodes.nodesL pre groups ∧ g'.src = e.1

/-- the hypothesis under which no field is written as an alias: the memo knows the array of every field that is to be
written under that field's name only -/
def OwnNames (fs : List Field) (pre : Path) (memo : WMemo) : Prop :=
  ∀ e ∈ leafPaths fs pre, ∀ q, (e.1, q) ∈ memo → q = e.2

/-- no object is stored twice: an array group is what the memo answers for its object, and paths are different -/
theorem srcs_nodup {gs : List (String × Grp)} {p : Path} {m : WMemo} (hn : NamesOKG.NamesOKL gs)
    (hown : ∀ q g', (q, g') ∈ Grp.nodes.nodesL p gs → m.lookup g'.src = some q) : (srcs (Grp.nodes.nodesL p gs)).Nodup := by
  refine List.pairwise_map.mpr ((List.pairwise_map.mp (nodesL_paths_nodup gs p hn)).imp_of_mem fun {a b} ha hb hne heq => hne ?_)
  have := hown a.1 a.2 ha
  rw [heq, hown b.1 b.2 hb] at this
  exact (Option.some.inj this).symm

theorem WSpec.sub {N : NodePred} {nodes : List (Path × Grp)} {roots : List Nat} {memo memo' : WMemo}
    (w : WSpec N nodes roots memo memo') : ∀ e ∈ memo, e ∈ memo' := by
  obtain ⟨L, rfl, _⟩ := w.ext
  exact fun e he => List.mem_append_right _ he

theorem WSpec.newMem {N : NodePred} {nodes : List (Path × Grp)} {roots : List Nat} {memo memo' : WMemo}
    (w : WSpec N nodes roots memo memo') (x : Nat) (q : Path) (hx : (x, q) ∈ memo') :
    (x, q) ∈ memo ∨ ∃ g', (q, g') ∈ nodes ∧ g'.src = x := by
  obtain ⟨L, rfl, hL⟩ := w.ext
  exact (List.mem_append.mp hx).symm.imp_right (hL _)

theorem WSpec.known {N : NodePred} {nodes : List (Path × Grp)} {roots : List Nat} {memo memo' : WMemo}
    (w : WSpec N nodes roots memo memo') (q : Path) (g' : Grp) (hm : (q, g') ∈ nodes) : g'.src ∈ keys memo' :=
  mem_keys (Lists.lookup_mem (w.own q g' hm))

theorem LoopSpec.toWL {h : Heap} {fs : List Field} {pre : Path} {memo memo' : WMemo} {groups : List (String × Grp)}
    (w : LoopSpec (fun H => ArrTree H h) fs pre memo groups memo') (hp : ∀ e ∈ leafPaths fs pre, e ∈ memo)
    (hown : OwnNames fs pre memo) : WL h fs pre memo groups memo' := by
  have hlk : ∀ e ∈ leafPaths fs pre, memo.lookup e.1 = some e.2 := fun e he => by
    obtain ⟨q, hq⟩ := lookup_of_mem_keys (mem_keys (hp e he))
    rw [hq, hown e he q (Lists.lookup_mem hq)]
  refine ⟨RepGL.toF fs pre groups (fun e he name hk => ?_) w.rep, w.spec.sub, w.spec.newMem,
    fun q g' hm => (w.spec.node q g' hm).mono (fun q x hx => Lists.lookup_mem hx), w.spec.fresh, w.spec.known,
    srcs_nodup w.names w.spec.own, w.names, fun e he => w.written e he (hlk e he)⟩
  have := w.spec.stable _ _ (hlk e he)
  rw [hk] at this
  exact Option.some.inj this

theorem writeField_spec (h : Heap) (hb : Below h) (lvl : Nat) : ∀ (f : Field) (pre : Path) (memo : WMemo),
    (∀ e ∈ leafPaths [restrictField lvl f] pre, e ∈ memo) → (leafObjs [restrictField lvl f]).Nodup →
    namesOK [restrictField lvl f] = true → (∀ o ∈ leafObjs [restrictField lvl f], o < h.length) →
    OwnNames [restrictField lvl f] pre memo →
    ∃ g memo', writeField h lvl f pre memo = .ok (g, memo') ∧
      WL h [restrictField lvl f] pre memo [((restrictField lvl f).name, g)] memo' := by
  intro f pre memo hp _ hn hlt hown
  obtain ⟨g, memo', hw, w⟩ := writeField_loop h hb lvl f pre memo (leafObjs_keys hp) hn hlt
  exact ⟨g, memo', hw, w.toWL hp hown⟩

theorem NodeOKX.toNodeOK {h : Heap} {tm : TM} {file : File} {q : Path} {g : Grp} (n : NodeOKX h tm file q g) :
    NodeOK h file q g := by
  obtain ⟨a, ob, subs, rfl, hob, hf, hc⟩ := n
  refine ⟨a, ob, subs, rfl, hob, hf, ?_⟩
  cases hat : attrName ob.kind with
  | none => exact Or.inl ⟨ref_none_of_attrName_none hat, fun nm hnm => nomatch hnm⟩
  | some nm =>
    rw [hat] at hc
    have h1 := hc.1
    rw [← hf] at h1
    cases hr : ob.ref with
    | none =>
      rw [hr] at h1
      exact Or.inl ⟨rfl, fun nm' hnm' => by cases hnm'; exact h1⟩
    | some y =>
      rw [hr] at h1
      obtain ⟨qy, gy, h2, h3, h4, h5⟩ := h1
      exact Or.inr ⟨nm, y, qy, gy, rfl, rfl, h2, h3, h4, h5⟩

theorem FileOKX.toFileOK {h : Heap} {tm : TM} {file : File} (fo : FileOKX h tm file) : FileOK h file :=
  ⟨fo.names, fo.uniq, fun q g hl ha => (fo.node q g hl ha).toNodeOK⟩

/-- **`Dataset.write` of a writable dataset succeeds, and the file is a faithful representation of
`restrict d ℓ`** -/
theorem writeDS_ok (h : Heap) (hb : Below h) (d : DS) (lvl : Nat)
    (hnd : (leafObjs (restrictFields lvl d.fields)).Nodup) (hn : namesOK (restrictFields lvl d.fields) = true)
    (hlt : ∀ o ∈ leafObjs (restrictFields lvl d.fields), o < h.length) :
    ∃ file, writeDS h d lvl = .ok file ∧ file.numObs = d.numObs ∧
      file.members = (restrictFields lvl d.fields).map (fun f => (f.name, fieldType f)) ∧
      RepF.RepL (restrictFields lvl d.fields) [] file.groups ∧ FileOK h file := by
  obtain ⟨file, hw, hno, hmem, hrep, fo⟩ := writeDS_okX h [] (HeapX.nil hb) d lvl hn hlt
  refine ⟨file, writeDSX_eq h [] (tmE_nil h) d lvl ▸ hw, hno, hmem, RepGL.toF _ _ _ (fun e he name hk => ?_) hrep, fo.toFileOK⟩
  -- no two written fields hold one array: `_construct_memo` has only this field's name for it
  have hm := (constructMemo_top lvl d.fields (e.1, name)).mp (Lists.lookup_mem hk.1)
  exact congrArg Prod.snd (Lists.nodup_map_inj ((leafPaths_fst _ []).symm ▸ hnd) hm he rfl)

/-- the group `g` is what `FieldType.write` makes of the field when `C` is the memo of `_construct_memo`: the array itself
when the memo names this field for it, else a group without payload that carries the name the memo has (`same_as`) -/
def RepA (C : WMemo) : Field → Path → Grp → Prop
  | .leaf nm _ o _ u l, pre, g =>
    g.src = o ∧ g.attrs.fieldname = pre ++ [nm] ∧ g.attrs.unit = u ∧ g.attrs.level = l ∧
    ((C.lookup o = some (pre ++ [nm]) ∧ g.isArr = true ∧ g.attrs.sameAs = none) ∨
     (∃ name, C.lookup o = some name ∧ name ≠ pre ++ [nm] ∧ g.payload = none ∧ g.subs = [] ∧ g.attrs.sameAs = some name))
  | .coll nm _ l sub, pre, g =>
    ∃ subs mem, g = .mk { fieldname := [nm], level := l, members := mem } none subs ∧ RepLA sub (pre ++ [nm]) subs
where RepLA : List Field → Path → List (String × Grp) → Prop
  | [], _, gs => gs = []
  | f :: fs, pre, gs => ∃ g r, gs = (f.name, g) :: r ∧ RepA C f pre g ∧ RepLA fs pre r

mutual
theorem writeField_repA (h : Heap) (lvl : Nat) (C : WMemo) : ∀ (f : Field) (pre : Path) (memo : WMemo) (g : Grp) (memo' : WMemo),
    Stable C memo → (∀ o ∈ leafObjs [restrictField lvl f], o ∈ keys C) →
    writeField h lvl f pre memo = .ok (g, memo') → RepA C (restrictField lvl f) pre g ∧ Stable memo memo'
  | .leaf nm k o no u l, pre, memo, g, memo', hs, hk, hw => by
    obtain ⟨q, hq⟩ := lookup_of_mem_keys (hk o (by simp [restrictField, leafObjs_leaf_single]))
    have hmq : memo.lookup o = some q := hs o q hq
    simp only [writeField, aliasOf, hmq] at hw
    by_cases hqp : q = pre ++ [nm]
    · subst hqp
      simp only [beq_self_eq_true, if_true] at hw
      split at hw
      · simp at hw
      · rename_i g0 m0 hwa
        have sp := writeArr_written h _ u l o _ memo g0 m0 hwa hmq
        have hm0 : (m0.lookup o).isNone = false := by rw [sp.spec.stable o _ hmq]; rfl
        simp only [hm0, Bool.false_eq_true, if_false, Except.ok.injEq, Prod.mk.injEq] at hw
        obtain ⟨rfl, rfl⟩ := hw
        exact ⟨⟨sp.src, sp.attrs.1, sp.attrs.2.1, sp.attrs.2.2.1, Or.inl ⟨hq, sp.isArr, sp.attrs.2.2.2⟩⟩, sp.spec.stable⟩
    · have : (q == pre ++ [nm]) = false := by simpa using hqp
      simp only [this, Bool.false_eq_true, if_false, Except.ok.injEq, Prod.mk.injEq] at hw
      obtain ⟨rfl, rfl⟩ := hw
      exact ⟨⟨rfl, rfl, rfl, rfl, Or.inr ⟨q, hq, hqp, rfl, rfl, rfl⟩⟩, Stable.refl _⟩
  | .coll nm no l sub, pre, memo, g, memo', hs, hk, hw => by
    simp only [writeField] at hw
    split at hw
    · simp at hw
    · rename_i subs mem m1 hws
      cases hw
      obtain ⟨r, st⟩ := writeFields_repA h lvl C sub (pre ++ [nm]) memo subs mem _ hs
        (by intro o ho; apply hk; simpa [restrictField, leafObjs] using ho) hws
      exact ⟨⟨subs, mem, rfl, r⟩, st⟩
theorem writeFields_repA (h : Heap) (lvl : Nat) (C : WMemo) : ∀ (fs : List Field) (pre : Path) (memo : WMemo)
    (groups : List (String × Grp)) (mem : List (String × Option Kind)) (memo' : WMemo),
    Stable C memo → (∀ o ∈ leafObjs (restrictFields lvl fs), o ∈ keys C) →
    writeField.writeFields h lvl fs pre memo = .ok (groups, mem, memo') →
    RepA.RepLA C (restrictFields lvl fs) pre groups ∧ Stable memo memo'
  | [], pre, memo, groups, mem, memo', _, _, hw => by
    simp only [writeField.writeFields, Except.ok.injEq, Prod.mk.injEq] at hw
    obtain ⟨rfl, _, rfl⟩ := hw
    exact ⟨by simp [restrictFields, RepA.RepLA], Stable.refl _⟩
  | f :: fs, pre, memo, groups, mem, memo', hs, hk, hw => by
    by_cases hlv : Field.level f < lvl
    · rw [restrict_skip hlv] at hk ⊢
      simp only [writeField.writeFields, hlv, if_true] at hw
      exact writeFields_repA h lvl C fs pre memo groups mem memo' hs hk hw
    · rw [restrict_keep hlv] at hk ⊢
      simp only [writeField.writeFields, hlv, if_false] at hw
      split at hw
      · simp at hw
      · rename_i g memo1 hw1
        split at hw
        · simp at hw
        · rename_i subs mem2 memo2 hw2
          simp only [Except.ok.injEq, Prod.mk.injEq] at hw
          obtain ⟨rfl, _, rfl⟩ := hw
          obtain ⟨r1, st1⟩ := writeField_repA h lvl C f pre memo g memo1 hs
            (by intro o ho; apply hk; rw [leafObjs_cons]; exact List.mem_append_left _ ho) hw1
          obtain ⟨r2, st2⟩ := writeFields_repA h lvl C fs pre memo1 subs mem2 _ (hs.trans st1)
            (by intro o ho; apply hk; rw [leafObjs_cons]; exact List.mem_append_right _ ho) hw2
          refine ⟨?_, st1.trans st2⟩
          simp only [RepA.RepLA]
          exact ⟨g, subs, by rw [restrictField_name], r1, r2⟩
end

end Midgard.H5
