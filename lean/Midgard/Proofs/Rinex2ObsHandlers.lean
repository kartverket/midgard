/-
The `meta` keys the data section of a RINEX 2 file reads (`Prot2`: `num_obstypes`, `obstypes`, `marker_name`,
`time_first_obs`), and every header handler of the plain record kinds writes none of them (and possibly the header position):
`Frame2`, one lemma per handler over `RinexObs.MSameOn`.
-/
import Midgard.Model.Rinex2Obs
import Midgard.Proofs.RinexObs

namespace Midgard.Spec.Rinex2ObsFile
open Midgard.Text Midgard.FixedCol Midgard.Decimal Midgard.ChainParser Midgard.RinexObs Midgard.Rinex2Obs

/-- a field name that is none of the `meta` keys the data section reads -/
def freeName (k : String) : Bool := k != "num_obstypes" && k != "obstypes" && k != "marker_name" && k != "time_first_obs"

/-- the `meta` keys the data section reads -/
def Prot2 (p : List Str) : Prop :=
  p = [key "num_obstypes"] ∨ p = [key "obstypes"] ∨ p = [key "marker_name"] ∨ p = [key "time_first_obs"]

def Unprot2 (q : List Str) : Prop := ∀ p, Prot2 p → q ≠ p

/-- `MSameOn Prot2` (`Proofs/RinexObs.lean`) written out; its lemmas apply as they are (empty-dictionary markers aside: RINEX 2
never writes one) -/
def MSame2 (m m' : Meta) : Prop := ∀ p, Prot2 p → m.get p ≠ some .empty → m'.get p = m.get p

theorem unprot2_free (k : String) (h : freeName k = true) : Unprot2 [key k] := by
  simp only [freeName, Bool.and_eq_true, bne_iff_ne, ne_eq] at h
  intro p hp
  rcases hp with rfl | rfl | rfl | rfl
  · exact keyPath_ne h.1.1.1
  · exact keyPath_ne h.1.1.2
  · exact keyPath_ne h.1.2
  · exact keyPath_ne h.2

theorem unprot2_pair (a b : Str) : Unprot2 [a, b] := by
  intro p hp
  rcases hp with rfl | rfl | rfl | rfl <;> simp

structure Frame2 (s s' : State) : Prop where
  rate : s'.rate = s.rate
  obs : s'.data.obs = s.data.obs
  lli : s'.data.lli = s.data.lli
  snr : s'.data.snr = s.data.snr
  rows : rowCols s'.data = rowCols s.data
  micros : s'.data.timeMicros = s.data.timeMicros
  metaS : MSame2 s.metaD s'.metaD

theorem Frame2.refl (s : State) : Frame2 s s := ⟨rfl, rfl, rfl, rfl, rfl, rfl, MSameOn.refl _⟩

theorem Frame2.trans {a b c : State} (h1 : Frame2 a b) (h2 : Frame2 b c) : Frame2 a c :=
  ⟨h2.rate.trans h1.rate, h2.obs.trans h1.obs, h2.lli.trans h1.lli, h2.snr.trans h1.snr,
   h2.rows.trans h1.rows, h2.micros.trans h1.micros, MSameOn.trans h1.metaS h2.metaS⟩

theorem frame2_meta (s : State) (m' : Meta) (h : MSame2 s.metaD m') : Frame2 s { s with metaD := m' } :=
  ⟨rfl, rfl, rfl, rfl, rfl, rfl, h⟩

theorem frame2_pos (s : State) (p : Option (List Rat)) : Frame2 s { s with data := { s.data with pos := p } } :=
  ⟨rfl, rfl, rfl, rfl, rfl, rfl, MSameOn.refl _⟩

/-- no field of the record is named like a key the data section reads -/
def keysOk2 (v : Values) : Prop := ∀ kv ∈ v, Unprot2 [key kv.1]

theorem frame2_parseString (v : Values) (s : State) (hv : keysOk2 v) : Frame2 s (parseString v s) :=
  frame2_meta s _ (MSameOn.foldl_set (fun (x : String × Str) => [key x.1]) (fun x => .text x.2) v s.metaD hv)

theorem frame2_parseVersionType (v : Values) (s : State) (hv : keysOk2 v) : Frame2 s (parseVersionType v s) := by
  unfold parseVersionType
  have h1 := frame2_parseString v s hv
  simp only
  split
  · exact h1.trans (frame2_meta _ _ (MSameOn.set _ _ _ (unprot2_free "sat_sys" (by decide))))
  · exact h1

theorem frame2_parseFloatFields (v : Values) (s s' : State) (hv : keysOk2 v) (h : parseFloatFields v s = .ok s') : Frame2 s s' := by
  unfold parseFloatFields at h
  obtain ⟨nums, hn, h⟩ := bind_ok' h
  simp only [pure, Except.pure, Except.ok.injEq] at h
  subst h
  exact frame2_meta s _ (MSameOn.numbers pyFloat Leaf.num v nums s.metaD hv hn)

theorem frame2_parseIntegerFields (v : Values) (s s' : State) (hv : keysOk2 v) (h : parseIntegerFields v s = .ok s') : Frame2 s s' := by
  unfold parseIntegerFields at h
  obtain ⟨nums, hn, h⟩ := bind_ok' h
  simp only [pure, Except.pure, Except.ok.injEq] at h
  subst h
  exact frame2_meta s _ (MSameOn.numbers pyInt Leaf.int v nums s.metaD hv hn)

theorem frame2_parseComment (v : Values) (s s' : State) (h : parseComment v s = .ok s') : Frame2 s s' := by
  unfold parseComment at h
  obtain ⟨t, _, h⟩ := bind_ok' h
  simp only [pure, Except.pure, Except.ok.injEq] at h
  subst h
  exact frame2_meta s _ (MSameOn.set _ _ _ (unprot2_free "comment" (by decide)))

theorem frame2_parseApproxPosition (v : Values) (s s' : State) (hv : keysOk2 v) (h : parseApproxPosition v s = .ok s') : Frame2 s s' := by
  unfold parseApproxPosition at h
  iterate 6 (obtain ⟨_, _, h⟩ := bind_ok' h)
  exact (frame2_pos s _).trans (frame2_parseFloatFields v _ s' hv h)

theorem frame2_parseLeapSeconds (v : Values) (s : State) : Frame2 s (parseLeapSeconds v s) :=
  frame2_meta s _ (MSameOn.foldl_set (fun (x : String × Str) => [key "leap_seconds", key x.1]) (fun x => .text x.2) v s.metaD
    fun _ _ => unprot2_pair _ _)

theorem MSame2_timeSys (ts : Str) (m : Meta) : MSameOn Prot2 m (if ts ≠ [] then m.set [key "time_sys"] (.text ts) else m) := by
  split
  · exact MSameOn.set _ _ _ (unprot2_free "time_sys" (by decide))
  · exact MSameOn.refl m

/-- what a successful `_parse_time_of_first_obs` / `_parse_time_of_last_obs` did: the time system is stored if the record names
one, then the time string under `which` if the record has a year -/
theorem parseTimeOf_ok (which : String) (v : Values) (s s' : State) (h : parseTimeOf which v s = .ok s') :
    ∃ ts y, getv v "year" = .ok y ∧
      ((y = [] ∧ s' = { s with metaD := if ts ≠ [] then s.metaD.set [key "time_sys"] (.text ts) else s.metaD }) ∨
       (y ≠ [] ∧ ∃ t, timeString v = .ok t ∧
         s' = { s with metaD := (if ts ≠ [] then s.metaD.set [key "time_sys"] (.text ts) else s.metaD).set [key which] (.text t) })) := by
  unfold parseTimeOf at h
  obtain ⟨ts, _, h⟩ := bind_ok' h
  obtain ⟨y, hy, h⟩ := bind_ok' h
  refine ⟨ts, y, hy, ?_⟩
  split at h
  · rename_i hne
    obtain ⟨t, ht, h⟩ := bind_ok' h
    simp only [pure, Except.pure, Except.ok.injEq] at h
    exact Or.inr ⟨hne, t, ht, h.symm⟩
  · rename_i he
    simp only [pure, Except.pure, Except.ok.injEq] at h
    exact Or.inl ⟨by simpa using he, h.symm⟩

theorem frame2_parseTimeOf (which : String) (hw : Unprot2 [key which]) (v : Values) (s s' : State)
    (h : parseTimeOf which v s = .ok s') : Frame2 s s' := by
  obtain ⟨ts, y, _, ⟨_, rfl⟩ | ⟨_, t, _, rfl⟩⟩ := parseTimeOf_ok which v s s' h
  · exact frame2_meta s _ (MSame2_timeSys ts _)
  · exact frame2_meta s _ ((MSame2_timeSys ts _).trans (MSameOn.set _ _ _ hw))

theorem frame2_parseWavelengthFact (v : Values) (s s' : State) (h : parseWavelengthFact v s = .ok s') : Frame2 s s' := by
  unfold parseWavelengthFact at h
  obtain ⟨n, _, h⟩ := bind_ok' h
  obtain ⟨l1, _, h⟩ := bind_ok' h
  obtain ⟨l2, _, h⟩ := bind_ok' h
  obtain ⟨m, hm, h⟩ := bind_ok' h
  simp only [pure, Except.pure, Except.ok.injEq] at h
  subst h
  apply frame2_meta
  have h0 : MSameOn Prot2 s.metaD (if n ≠ [] then
      ((s.metaD.set [key "l1_wave_fact_prn"] (.text l1)).set [key "l2_wave_fact_prn"] (.text l2)).set [key "wave_fact_prn"] (.list [])
    else (s.metaD.set [key "l1_wave_fact_default"] (.text l1)).set [key "l2_wave_fact_default"] (.text l2)) := by
    split
    · exact ((MSameOn.set _ _ _ (unprot2_free "l1_wave_fact_prn" (by decide))).trans
        (MSameOn.set _ _ _ (unprot2_free "l2_wave_fact_prn" (by decide)))).trans
        (MSameOn.set _ _ _ (unprot2_free "wave_fact_prn" (by decide)))
    · exact (MSameOn.set _ _ _ (unprot2_free "l1_wave_fact_default" (by decide))).trans
        (MSameOn.set _ _ _ (unprot2_free "l2_wave_fact_default" (by decide)))
  refine h0.trans ?_
  refine MSameOn.foldl_except _ ?_ ?_ _ _ _ hm
  · intro m0 x m1 hx
    simp only [bind, Except.bind, pure, Except.pure] at hx
    split at hx
    · simp only [Except.ok.injEq] at hx; subst hx; exact MSameOn.refl _
    · split at hx
      · simp only [Except.ok.injEq] at hx
        subst hx
        exact MSameOn.set _ _ _ (unprot2_free "wave_fact_prn" (by decide))
      · exact absurd hx (throw_ne_ok _ _)
  · intro e x; rfl

end Midgard.Spec.Rinex2ObsFile
