/-
C02 — what the value of a format denotes, for the formats whose value is a number or a datetime: the constructors of jd,
mjd, gps_ws, gps_seconds, jyear store a floor split (`JD.split` of `Proofs/TimeRound.lean`), from which instant and
normalisation are read off; a datetime denotes that many microseconds after 2000-01-01, reading one from an epoch rounds
twice by half a microsecond, and reading back the datetime an epoch was built from is exact.
-/
import Midgard.Model.TimeFormat
import Midgard.Proofs.TimeRound
import Mathlib.Tactic.FieldSimp
import Mathlib.Tactic.Linarith
import Mathlib.Tactic.Ring
import Mathlib.Tactic.NormNum
import Mathlib.Algebra.Order.Field.Rat

namespace Midgard.TimeFormat
open Midgard.TimeArith

theorem jdToJds_eq (v v2 : Rat) : jdToJds v v2 = JD.split (1 / 2) (v + v2 - 1 / 2) := by
  simp only [jdToJds, JD.split, JD.mk.injEq]; constructor <;> ring

theorem mjdToJds_eq (v v2 : Rat) : mjdToJds v v2 = JD.split (mjd0 + 1 / 2) (v + v2 - 1 / 2) := by
  simp only [mjdToJds, JD.split, JD.mk.injEq]; constructor <;> ring

theorem wsToJds_eq (week sec : Rat) : wsToJds week sec = JD.split (week * 7 + jdGps0 - 1 / 2) ((sec + 43200) / 86400) := by
  simp only [wsToJds, JD.split, JD.mk.injEq]; constructor <;> ring

theorem gsToJds_eq (v : Rat) : gsToJds v = JD.split jdGps0 (v / 86400) := rfl

theorem jyToJds_eq (v : Rat) : jyToJds v = JD.split jd2000noon ((v - 2000) * julianYear) := rfl

theorem usPerDay_pos : (0 : Rat) < (usPerDay : Rat) := by norm_num [usPerDay]

theorem dtToJds_inst (dt : DateTime) : (dtToJds dt).inst = jd2000dt + (dt : Rat) / (usPerDay : Rat) := by
  have := usPerDay_pos.ne'
  simp only [dtToJds, JD.inst]
  push_cast
  field_simp
  ring

/-- two roundings of half a microsecond each -/
theorem dtFromJds_close (j : JD) : |((dtFromJds j : Int) : Rat) - (j.inst - jd2000dt) * (usPerDay : Rat)| ≤ 1 := by
  have a := roundHalfEven_close ((j.jd1 - jd2000dt) * (usPerDay : Rat))
  have b := roundHalfEven_close (j.jd2 * (usPerDay : Rat))
  have e : ((dtFromJds j : Int) : Rat) - (j.inst - jd2000dt) * (usPerDay : Rat)
      = ((roundHalfEven ((j.jd1 - jd2000dt) * (usPerDay : Rat)) : Rat) - (j.jd1 - jd2000dt) * (usPerDay : Rat))
        + ((roundHalfEven (j.jd2 * (usPerDay : Rat)) : Rat) - j.jd2 * (usPerDay : Rat)) := by
    simp only [dtFromJds, JD.inst]; push_cast; ring
  rw [e]
  exact (abs_add_le _ _).trans (by linarith)

/-- whole days and the sub-day microseconds are each integers, so neither `timedelta` rounds -/
theorem dt_readback (dt : DateTime) : dtFromJds (dtToJds dt) = dt := by
  have e1 : (jd2000dt + ((dt / usPerDay : Int) : Rat) - jd2000dt) * (usPerDay : Rat)
      = ((dt / usPerDay * usPerDay : Int) : Rat) := by push_cast; ring
  have e2 : ((dt - dt / usPerDay * usPerDay : Int) : Rat) / (usPerDay : Rat) * (usPerDay : Rat)
      = ((dt - dt / usPerDay * usPerDay : Int) : Rat) := div_mul_cancel₀ _ usPerDay_pos.ne'
  simp only [dtFromJds, dtToJds]
  rw [e1, e2, roundHalfEven_int, roundHalfEven_int]
  ring

end Midgard.TimeFormat

#print axioms Midgard.TimeFormat.dt_readback
