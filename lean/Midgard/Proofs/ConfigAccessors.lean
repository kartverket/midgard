/-
C19: the splitters and digit readers behind the typed accessors of `Model/Config.lean` and `Model/ConfigTyped.lean`: what
`re.split` with a character class, the loop of `as_dict`, `digitsVal` (the integer literal body of `int()`) and the `%d`
directive of the `date` accessor do on the forms of input the accessor theorems speak of.  Mathlib-free.
-/
import Midgard.Proofs.ConfigStr
import Midgard.Model.ConfigTyped
import Midgard.Proofs.Lists

namespace Midgard.Config

theorem reSplit_none_cons (isSep : Char → Bool) (c : Char) (t cur : List Char) :
    reSplit isSep none (c :: t) cur =
      if isSep c then cur.reverse :: reSplit isSep none t [] else reSplit isSep none t (c :: cur) := by
  cases h : isSep c <;> simp [reSplit, h]

end Midgard.Config

namespace Midgard.Props.C19
open Midgard.Config
open Midgard.Proofs.ConfigText (isBlank_space partitionAt_mem partitionAt_none)

/-- the character-level list accessor -/
def asListChars (v : String) : List (List Char) :=
  splitBlanks (v.toList.map (fun c => if c = ',' then ' ' else c)) []

theorem asList_eq (v : String) : asList v = (asListChars v).map String.ofList := rfl

theorem asBool_iff (v : String) (b : Bool) : asBool v = .ok b ↔ dget? booleanStates (lowerStr v) = some b := by
  simp only [asBool]
  cases dget? booleanStates (lowerStr v) <;> simp

/-- the `(key, value)` pair an item of the list stands for -/
def dictItem (it : List Char) : String × String :=
  (String.ofList (partitionAt ':' it).1, String.ofList (partitionAt ':' it).2.2)

theorem dictItem_text (it : List Char) :
    (':' ∈ it → (dictItem it).1.toList ++ ':' :: (dictItem it).2.toList = it ∧ ':' ∉ (dictItem it).1.toList) ∧
    (':' ∉ it → (dictItem it).1.toList = it ∧ (dictItem it).2 = "") := by
  simp only [dictItem, String.toList_ofList]
  constructor
  · intro h; exact (partitionAt_mem ':' it h).2
  · intro h; rw [partitionAt_none ':' it h]; simp

theorem asDict_eq (v : String) :
    asDict v = ((asListChars v).map dictItem).foldl (fun acc p => dset acc p.1 p.2) [] := by
  simp only [asDict, asList_eq, List.foldl_map, dictItem, String.toList_ofList]

/-- one step of reading decimal digits (underscores are skipped) -/
def decStep (a : Nat) (c : Char) : Nat := if c.isDigit then a * 10 + (c.toNat - 48) else a

/-- the decimal value of the digits of a text -/
def decValue (cs : List Char) : Nat := cs.foldl decStep 0

theorem digitsVal_some (cs : List Char) (prev : Bool) (acc : Option Nat) (n : Nat)
    (h : digitsVal cs prev acc = some n) :
    (∀ c ∈ cs, c.isDigit = true ∨ c = '_') ∧ n = cs.foldl decStep (acc.getD 0) ∧
    (cs = [] → prev = false ∧ acc = some n) ∧ (∀ c, cs.getLast? = some c → c.isDigit = true) ∧
    (acc = none → ∀ c, cs.head? = some c → c.isDigit = true) := by
  induction cs generalizing prev acc with
  | nil =>
    simp only [digitsVal] at h
    cases prev <;> simp_all
  | cons c t ih =>
    have hlast : ∀ p a, digitsVal t p a = some n → (t = [] → c.isDigit = true) →
        ∀ x, (c :: t).getLast? = some x → x.isDigit = true := fun p a ht hc x hx => by
      cases t with
      | nil => cases hx; exact hc rfl
      | cons y ys => exact (ih p a ht).2.2.2.1 x (by simpa using hx)
    simp only [digitsVal] at h
    split at h
    · rename_i hd
      obtain ⟨h1, h2, _⟩ := ih _ _ h
      exact ⟨List.forall_mem_cons.2 ⟨Or.inl hd, h1⟩, by simpa [decStep, hd] using h2, by simp,
        hlast _ _ h fun _ => hd, fun _ x hx => by cases hx; exact hd⟩
    · split at h
      · rename_i hu
        subst hu
        split at h
        · cases h
        · rename_i hp
          obtain ⟨h1, h2, h3, _⟩ := ih _ _ h
          exact ⟨List.forall_mem_cons.2 ⟨Or.inr rfl, h1⟩, by simpa [decStep, (by decide : Char.isDigit '_' = false)] using h2, by simp,
            hlast _ _ h fun ht => absurd (h3 ht).1 (by simp), fun ha => by simp [ha] at hp⟩
      · cases h

theorem digitsVal_digits (ds : List Char) (hd : ∀ c ∈ ds, c.isDigit = true) (acc : Option Nat)
    (hne : ds ≠ [] ∨ acc.isSome) :
    digitsVal ds false acc = some (ds.foldl decStep (acc.getD 0)) := by
  induction ds generalizing acc with
  | nil =>
    simp only [digitsVal]
    cases acc <;> simp_all
  | cons c t ih =>
    have hc := hd c (by simp)
    simp only [digitsVal, hc, if_true, List.foldl_cons, decStep]
    rw [ih (fun x hx => hd x (List.mem_cons_of_mem _ hx)) _ (Or.inr rfl)]
    simp

theorem digit_not_blank (c : Char) (h : c.isDigit = true) : isBlank c = false := by
  simp only [Char.isDigit, Bool.and_eq_true, decide_eq_true_eq] at h
  obtain ⟨h1, h2⟩ := h
  have h1' : (48 : UInt32).toNat ≤ c.val.toNat := UInt32.le_iff_toNat_le.1 h1
  have h3 : c.toNat = c.val.toNat := rfl
  have h4 : (48 : UInt32).toNat = 48 := by decide
  simp only [isBlank, Bool.or_eq_false_iff, Bool.and_eq_false_iff, decide_eq_false_iff_not]
  omega

theorem classSpaceComma_has (c : Char) : classSpaceComma.has c = (isBlank c || decide (c = ',')) := by
  by_cases h : c = ',' <;> cases hb : isBlank c <;>
    simp [classSpaceComma, CharClass.has, ClassItem.has, h, hb, eq_comm]

theorem classColon_has (c : Char) : classColon.has c = decide (c = ':') := by
  by_cases h : c = ':' <;> simp [classColon, CharClass.has, ClassItem.has, h, eq_comm]

/-- `re.split("[\s,]", text)` without empty pieces is `text.replace(",", " ").split()` -/
theorem reSplit_filter_eq_splitBlanks (isSep : Char → Bool) (hsep : ∀ c, isSep c = (isBlank c || decide (c = ',')))
    (s cur : List Char) :
    (reSplit isSep none s cur).filter (fun p => !p.isEmpty) =
      splitBlanks (s.map (fun c => if c = ',' then ' ' else c)) cur := by
  induction s generalizing cur with
  | nil => cases cur <;> simp [reSplit, splitBlanks]
  | cons c t ih =>
    rw [reSplit_none_cons, hsep, List.map_cons, splitBlanks]
    by_cases h : c = ','
    · cases cur <;> simp [h, isBlank_space, ih]
    · cases hb : isBlank c
      · simpa [h, hb] using ih (c :: cur)
      · cases cur <;> simp [h, hb, ih]

theorem reSplit_zero (isSep : Char → Bool) (s cur : List Char) : reSplit isSep (some 0) s cur = [cur.reverse ++ s] := by
  induction s generalizing cur with
  | nil => simp [reSplit]
  | cons c t ih => simp [reSplit, ih]

theorem reSplit_once (sep : Char) (isSep : Char → Bool) (hsep : ∀ c, isSep c = decide (c = sep)) (s cur : List Char) :
    reSplit isSep (some 1) s cur =
      if (partitionAt sep s).2.1 then [cur.reverse ++ (partitionAt sep s).1, (partitionAt sep s).2.2]
      else [cur.reverse ++ s] := by
  induction s generalizing cur with
  | nil => simp [reSplit, partitionAt]
  | cons c t ih =>
    by_cases hc : c = sep
    · have : ((some 1 : Option Nat) != some 0) = true := by decide
      simp [reSplit, hsep, hc, partitionAt, this, reSplit_zero]
    · have hc' : isSep c = false := by rw [hsep]; simp [hc]
      have hp : partitionAt sep (c :: t) = (c :: (partitionAt sep t).1, (partitionAt sep t).2.1, (partitionAt sep t).2.2) := by
        simp [partitionAt, hc]
      simp only [reSplit, hc', Bool.false_and, Bool.false_eq_true, if_false]
      rw [hp, ih (c :: cur)]
      split <;> simp

/-- the loop of `as_dict` over the items -/
def dictStep (kvCc : CharClass) (acc : Except Err (List (String × String))) (it : String) :
    Except Err (List (String × String)) :=
  match acc with
  | .error e => .error e
  | .ok d =>
    match reSplit kvCc.has (some 1) it.toList [] with
    | [k, x] => .ok (dset d (String.ofList k) (String.ofList x))
    | _ => .error .value

theorem asDictRe_eq (itemCc kvCc : CharClass) (ms : Nat) (v : String) :
    asDictRe itemCc kvCc ms v = (asListRe itemCc ms v).foldl (dictStep kvCc) (.ok []) := rfl

theorem dictStep_error (kvCc : CharClass) (l : List String) (e : Err) : l.foldl (dictStep kvCc) (.error e) = .error e :=
  Lists.foldl_except_error (dictStep kvCc) (fun _ _ => rfl) l e

theorem dictStep_colon (d : List (String × String)) (it : List Char) :
    dictStep classColon (.ok d) (String.ofList it) =
      if ':' ∈ it then .ok (dset d (dictItem it).1 (dictItem it).2) else .error .value := by
  simp only [dictStep, String.toList_ofList]
  rw [reSplit_once ':' classColon.has classColon_has]
  by_cases h : ':' ∈ it
  · have := partitionAt_mem ':' it h
    simp [h, this.1, dictItem]
  · have := partitionAt_none ':' it h
    simp [h, this]

theorem splitOnChar_none (sep : Char) (s cur : List Char) (h : sep ∉ s) : splitOnChar sep s cur = [cur.reverse ++ s] := by
  induction s generalizing cur with
  | nil => simp [splitOnChar]
  | cons c t ih =>
    have hc : c ≠ sep := by intro e; subst e; simp at h
    have ht : sep ∉ t := fun hm => h (List.mem_cons_of_mem _ hm)
    simp [splitOnChar, hc, ih _ ht]

section Dates
open Midgard.TimeFormat

theorem ymdDirB_of_ymdDir (s : List Char) (r : Int × Int × Int × List Char) (h : ymdDir s = some r) :
    ymdDirB s = some r := by
  simp only [ymdDir, ymdDirB, Option.bind_eq_some_iff] at h ⊢
  obtain ⟨y, hy, s1, h1, m, hm, s2, h2, d, hd, hr⟩ := h
  exact ⟨y, hy, s1, h1, m, hm, s2, h2, d, by simp [dayDir, hd], hr⟩

end Dates

end Midgard.Props.C19

#print axioms Midgard.Props.C19.asList_eq
#print axioms Midgard.Props.C19.asBool_iff
#print axioms Midgard.Props.C19.dictItem_text
#print axioms Midgard.Props.C19.asDict_eq
#print axioms Midgard.Props.C19.digitsVal_some
#print axioms Midgard.Props.C19.digitsVal_digits
#print axioms Midgard.Props.C19.digit_not_blank
#print axioms Midgard.Props.C19.classSpaceComma_has
#print axioms Midgard.Props.C19.classColon_has
#print axioms Midgard.Props.C19.reSplit_filter_eq_splitBlanks
#print axioms Midgard.Props.C19.reSplit_zero
#print axioms Midgard.Props.C19.reSplit_once
#print axioms Midgard.Props.C19.asDictRe_eq
#print axioms Midgard.Props.C19.dictStep_error
#print axioms Midgard.Props.C19.dictStep_colon
#print axioms Midgard.Props.C19.splitOnChar_none
#print axioms Midgard.Props.C19.ymdDirB_of_ymdDir
