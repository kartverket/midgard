/-
C05 — polynomials in three variables given as lists of monomials, bounded on a box `[0,X]×[0,Y]×[0,Z]` by the corner
sums of their positive and of their negative monomials (rational, so that a bound on a given table of monomials is one
evaluation), and their rescaling `(A, A·t, q) ↦ (1/A, t, q)` by a power `A^d` that bounds the degree in the first two variables.
`box`, `hi`, `lo`, `scale` are this file's; the `box` of `OffsetBound` (Proofs/GeoOffsetCore.lean) is a region of `(A, q)`.
-/
import Mathlib.Data.Real.Basic
import Mathlib.Tactic.Positivity
import Mathlib.Tactic.GCongr
import Mathlib.Tactic.Ring
import Mathlib.Tactic.FieldSimp
import Mathlib.Tactic.Linarith
namespace Midgard.Geo.Acc

/-- the monomial `c · x^i · y^j · z^k` -/
structure Mono where
  c : ℤ
  i : ℕ
  j : ℕ
  k : ℕ

namespace Mono

noncomputable def eval (m : Mono) (x y z : ℝ) : ℝ := m.c * x ^ m.i * y ^ m.j * z ^ m.k

/-- the monomial at the corner `(X, Y, Z)` if its coefficient is positive, else `0` -/
def hi (m : Mono) (X Y Z : ℚ) : ℚ := (max m.c 0 : ℤ) * X ^ m.i * Y ^ m.j * Z ^ m.k

/-- minus the monomial at the corner `(X, Y, Z)` if its coefficient is negative, else `0` -/
def lo (m : Mono) (X Y Z : ℚ) : ℚ := (max (-m.c) 0 : ℤ) * X ^ m.i * Y ^ m.j * Z ^ m.k

theorem le_hi (m : Mono) {x y z : ℝ} {X Y Z : ℚ} (hx0 : 0 ≤ x) (hx : x ≤ X) (hy0 : 0 ≤ y) (hy : y ≤ Y)
    (hz0 : 0 ≤ z) (hz : z ≤ Z) : m.eval x y z ≤ m.hi X Y Z := by
  have hX := hx0.trans hx
  have hY := hy0.trans hy
  have hw : x ^ m.i * y ^ m.j * z ^ m.k ≤ (X : ℝ) ^ m.i * (Y : ℝ) ^ m.j * (Z : ℝ) ^ m.k := by gcongr
  have hc : (m.c : ℝ) ≤ (max m.c 0 : ℤ) := Int.cast_le.2 (le_max_left _ _)
  have hc0 : (0 : ℝ) ≤ (max m.c 0 : ℤ) := Int.cast_nonneg (le_max_right _ _)
  calc m.eval x y z = m.c * (x ^ m.i * y ^ m.j * z ^ m.k) := by unfold eval; ring
    _ ≤ (max m.c 0 : ℤ) * (x ^ m.i * y ^ m.j * z ^ m.k) := mul_le_mul_of_nonneg_right hc (by positivity)
    _ ≤ (max m.c 0 : ℤ) * ((X : ℝ) ^ m.i * (Y : ℝ) ^ m.j * (Z : ℝ) ^ m.k) := mul_le_mul_of_nonneg_left hw hc0
    _ = m.hi X Y Z := by unfold hi; push_cast; ring

theorem neg_lo_le (m : Mono) {x y z : ℝ} {X Y Z : ℚ} (hx0 : 0 ≤ x) (hx : x ≤ X) (hy0 : 0 ≤ y) (hy : y ≤ Y)
    (hz0 : 0 ≤ z) (hz : z ≤ Z) : -(m.lo X Y Z : ℝ) ≤ m.eval x y z := by
  have h := le_hi ⟨-m.c, m.i, m.j, m.k⟩ hx0 hx hy0 hy hz0 hz
  have e : eval ⟨-m.c, m.i, m.j, m.k⟩ x y z = -m.eval x y z := by unfold eval; push_cast; ring
  rw [e] at h
  exact neg_le.1 h

end Mono

noncomputable def evalPoly (p : List Mono) (x y z : ℝ) : ℝ := (p.map (·.eval x y z)).sum

/-- sum of the positive monomials at the corner `(X, Y, Z)` -/
def hi (p : List Mono) (X Y Z : ℚ) : ℚ := (p.map (·.hi X Y Z)).sum

/-- minus the sum of the negative monomials at the corner `(X, Y, Z)` -/
def lo (p : List Mono) (X Y Z : ℚ) : ℚ := (p.map (·.lo X Y Z)).sum

theorem evalPoly_cons (m : Mono) (p : List Mono) (x y z : ℝ) :
    evalPoly (m :: p) x y z = m.eval x y z + evalPoly p x y z := by
  simp [evalPoly]

theorem box (p : List Mono) {x y z : ℝ} {X Y Z : ℚ} (hx0 : 0 ≤ x) (hx : x ≤ X) (hy0 : 0 ≤ y) (hy : y ≤ Y)
    (hz0 : 0 ≤ z) (hz : z ≤ Z) : -(lo p X Y Z : ℝ) ≤ evalPoly p x y z ∧ evalPoly p x y z ≤ hi p X Y Z := by
  induction p with
  | nil => simp [evalPoly, hi, lo]
  | cons m p ih =>
    have h1 := m.neg_lo_le hx0 hx hy0 hy hz0 hz
    have h2 := m.le_hi hx0 hx hy0 hy hz0 hz
    simp only [evalPoly_cons, hi, lo, List.map_cons, List.sum_cons, Rat.cast_add] at ih ⊢
    constructor
    · linarith [ih.1]
    · linarith [ih.2]

theorem neg_le_evalPoly (p : List Mono) {x y z : ℝ} {X Y Z L : ℚ} (hx0 : 0 ≤ x) (hx : x ≤ X) (hy0 : 0 ≤ y) (hy : y ≤ Y)
    (hz0 : 0 ≤ z) (hz : z ≤ Z) (hL : lo p X Y Z ≤ L) : -(L : ℝ) ≤ evalPoly p x y z :=
  (neg_le_neg (Rat.cast_le.2 hL)).trans (box p hx0 hx hy0 hy hz0 hz).1

theorem box_consts (p : List Mono) {x y z : ℝ} {X Y Z L U : ℚ} (hx0 : 0 ≤ x) (hx : x ≤ X) (hy0 : 0 ≤ y) (hy : y ≤ Y)
    (hz0 : 0 ≤ z) (hz : z ≤ Z) (hL : lo p X Y Z ≤ L) (hU : hi p X Y Z ≤ U) :
    -(L : ℝ) ≤ evalPoly p x y z ∧ evalPoly p x y z ≤ U :=
  ⟨neg_le_evalPoly p hx0 hx hy0 hy hz0 hz hL, (box p hx0 hx hy0 hy hz0 hz).2.trans (Rat.cast_le.2 hU)⟩

theorem abs_evalPoly_le (p : List Mono) {x y z : ℝ} {X Y Z B : ℚ} (hx0 : 0 ≤ x) (hx : x ≤ X) (hy0 : 0 ≤ y) (hy : y ≤ Y)
    (hz0 : 0 ≤ z) (hz : z ≤ Z) (hL : lo p X Y Z ≤ B) (hU : hi p X Y Z ≤ B) : |evalPoly p x y z| ≤ B :=
  abs_le.2 (box_consts p hx0 hx hy0 hy hz0 hz hL hU)

/-- the monomial of `A^d · (1/A)^(d−i−j) · t^j · q^k` that `c · A^i · (A·t)^j · q^k` becomes (`i + j ≤ d`) -/
def Mono.scale (d : ℕ) (m : Mono) : Mono := ⟨m.c, d - m.i - m.j, m.j, m.k⟩

def scale (d : ℕ) (p : List Mono) : List Mono := p.map (Mono.scale d)

theorem Mono.eval_scale (d : ℕ) (m : Mono) (h : m.i + m.j ≤ d) {A : ℝ} (hA : A ≠ 0) (t q : ℝ) :
    m.eval A (A * t) q = A ^ d * (m.scale d).eval (1 / A) t q := by
  obtain ⟨n, rfl⟩ := Nat.exists_eq_add_of_le h
  have e : m.i + m.j + n - m.i - m.j = n := by omega
  unfold eval scale
  simp only [e, one_div, inv_pow]
  have hn : A ^ (m.i + m.j + n) * (A ^ n)⁻¹ = A ^ (m.i + m.j) := by
    rw [pow_add _ _ n, mul_assoc, mul_inv_cancel₀ (pow_ne_zero n hA), mul_one]
  calc (m.c : ℝ) * A ^ m.i * (A * t) ^ m.j * q ^ m.k = A ^ (m.i + m.j) * (m.c * t ^ m.j * q ^ m.k) := by
        rw [mul_pow, pow_add]; ring
    _ = A ^ (m.i + m.j + n) * (A ^ n)⁻¹ * (m.c * t ^ m.j * q ^ m.k) := by rw [hn]
    _ = _ := by ring

theorem evalPoly_scale (d : ℕ) (p : List Mono) (h : ∀ m ∈ p, m.i + m.j ≤ d) {A : ℝ} (hA : A ≠ 0) (t q : ℝ) :
    evalPoly p A (A * t) q = A ^ d * evalPoly (scale d p) (1 / A) t q := by
  induction p with
  | nil => simp [evalPoly, scale]
  | cons m p ih =>
    rw [scale, List.map_cons, evalPoly_cons, evalPoly_cons, m.eval_scale d (h m (List.mem_cons_self ..)) hA,
      ih fun m' hm' => h m' (List.mem_cons_of_mem _ hm'), scale]
    ring

end Midgard.Geo.Acc
