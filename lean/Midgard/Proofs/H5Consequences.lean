/-
C10 — what follows from the round trip.  On field paths: which field an attached object is, sharing of attached objects and of
arrays, which fields are omitted (`IsoOn`, `visible`).  Bit patterns are copied verbatim.  Meta information through
the file (the attribute codec applied to every key: `readMeta_writeMeta`).
-/
import Midgard.Proofs.H5RoundTrip
import Midgard.Proofs.H5Attr
import Midgard.Model.H5Bits
import Midgard.Proofs.OptionMapM
import Midgard.Proofs.DatasetDict

namespace Midgard.H5
open Midgard.Dataset

@[simp] theorem renameField_name (φ : Nat → Nat) (f : Field) : (renameField φ f).name = f.name := by
  cases f <;> rfl

theorem getField_rename (φ : Nat → Nat) (n : String) : ∀ (fs : List Field),
    getField (renameFields φ fs) n = (getField fs n).map (renameField φ)
  | [] => by simp [getField, renameFields]
  | f :: fs => by
    have ih := getField_rename φ n fs
    simp only [getField] at ih ⊢
    rw [renameFields_cons, List.find?_cons, List.find?_cons, renameField_name]
    cases hfn : f.name == n
    · simpa using ih
    · simp

theorem findField_rename (φ : Nat → Nat) : ∀ (p : Path) (fs : List Field),
    findField (renameFields φ fs) p = (findField fs p).map (renameField φ)
  | [], fs => by simp [findField]
  | [n], fs => by simp only [findField]; exact getField_rename φ n fs
  | n :: m :: rest, fs => by
    simp only [findField]
    rw [getField_rename]
    cases getField fs n with
    | none => rfl
    | some f =>
      cases f with
      | leaf nm k o no u l => simp [renameField]
      | coll nm no l sub =>
        simp only [Option.map_some, renameField]
        exact findField_rename φ (m :: rest) sub

theorem leafAt_rename (φ : Nat → Nat) (fs : List Field) (p : Path) :
    leafAt (renameFields φ fs) p = (leafAt fs p).map φ := by
  simp only [leafAt, findField_rename]
  cases findField fs p with
  | none => rfl
  | some f => cases f <;> simp [renameField]

theorem leafObjs_of_mem : ∀ (fs : List Field) (f : Field), f ∈ fs → ∀ o ∈ leafObjs [f], o ∈ leafObjs fs
  | [], _, hf, _, _ => by simp at hf
  | g :: gs, f, hf, o, ho => by
    rw [leafObjs_cons]
    rcases List.mem_cons.mp hf with rfl | hf
    · exact List.mem_append_left _ ho
    · exact List.mem_append_right _ (leafObjs_of_mem gs f hf o ho)

theorem findField_leaf_mem : ∀ (p : Path) (fs : List Field) {nm : String} {k : Kind} {o no : Nat} {u : Option (List String)}
    {l : Nat}, findField fs p = some (.leaf nm k o no u l) → o ∈ leafObjs fs
  | [], fs, _, _, _, _, _, _, h => by simp [findField] at h
  | [n], fs, _, _, _, _, _, _, h => by
    simp only [findField] at h
    exact leafObjs_of_mem fs _ (getField_some h).1 _ (by simp [leafObjs_leaf_single])
  | n :: m :: rest, fs, _, _, _, _, _, _, h => by
    simp only [findField] at h
    cases hg : getField fs n with
    | none => simp [hg] at h
    | some f =>
      cases f with
      | leaf => simp [hg] at h
      | coll nm' no' l' sub =>
        simp only [hg] at h
        have := findField_leaf_mem (m :: rest) sub h
        exact leafObjs_of_mem fs _ (getField_some hg).1 _ (by rw [leafObjs_coll_single]; exact this)

theorem leafAt_mem {fs : List Field} {p : Path} {o : Nat} (h : leafAt fs p = some o) : o ∈ leafObjs fs := by
  simp only [leafAt] at h
  cases hf : findField fs p with
  | none => simp [hf] at h
  | some f =>
    cases f with
    | coll => simp [hf] at h
    | leaf nm k o' no u l =>
      simp only [hf, Option.some.injEq] at h
      subst h
      exact findField_leaf_mem p fs hf

/-- what the round trip says about the renumbering `φ` (`roundTrip_iso`) -/
structure IsoOn (h h' : Heap) (fs : List Field) (φ : Nat → Nat) : Prop where
  img : ∀ x, Reach h fs x → ∃ ob, h[x]? = some ob ∧ h'[φ x]? = some (ob.rename φ)
  inj : ∀ x y, Reach h fs x → Reach h fs y → φ x = φ y → x = y

theorem IsoOn.fieldness {h h' : Heap} {fs : List Field} {φ : Nat → Nat} (iso : IsoOn h h' fs φ) {x : Nat}
    (hx : Reach h fs x) (q : Path) : leafAt (renameFields φ fs) q = some (φ x) ↔ leafAt fs q = some x := by
  rw [leafAt_rename, Option.map_eq_some_iff]
  constructor
  · rintro ⟨o, ho, hq⟩
    rw [ho, iso.inj o x (.field (leafAt_mem ho)) hx hq]
  · exact fun hq => ⟨x, hq, rfl⟩

theorem IsoOn.ref {h h' : Heap} {fs : List Field} {φ : Nat → Nat} (iso : IsoOn h h' fs φ) {z y : Nat} {ob : Obj}
    (hz : Reach h fs z) (hob : h[z]? = some ob) (hr : ob.ref = some y) :
    ∃ ob', h'[φ z]? = some ob' ∧ ob'.ref = some (φ y) ∧ Reach h fs y := by
  obtain ⟨ob0, h1, h2⟩ := iso.img z hz
  rw [hob] at h1
  cases h1
  exact ⟨_, h2, by rw [rename_ref, hr]; rfl, .ref hz hob hr⟩

theorem IsoOn.refs_paths {h h' : Heap} {fs : List Field} {φ : Nat → Nat} (iso : IsoOn h h' fs φ) (p q : Path) :
    (∃ o ob x, leafAt fs p = some o ∧ h[o]? = some ob ∧ ob.ref = some x ∧ leafAt fs q = some x) ↔
    (∃ o' ob' x', leafAt (renameFields φ fs) p = some o' ∧ h'[o']? = some ob' ∧ ob'.ref = some x' ∧
      leafAt (renameFields φ fs) q = some x') := by
  constructor
  · rintro ⟨o, ob, x, hp, hob, hr, hq⟩
    have ho : Reach h fs o := .field (leafAt_mem hp)
    obtain ⟨ob', h1, h2, hx⟩ := iso.ref ho hob hr
    exact ⟨φ o, ob', φ x, by rw [leafAt_rename, hp]; rfl, h1, h2, (iso.fieldness hx q).mpr hq⟩
  · rintro ⟨o', ob', x', hp, hob', hr', hq⟩
    rw [leafAt_rename] at hp
    obtain ⟨o, ho, rfl⟩ := Option.map_eq_some_iff.mp hp
    have hor : Reach h fs o := .field (leafAt_mem ho)
    obtain ⟨ob, h1, h2⟩ := iso.img o hor
    rw [h2] at hob'
    cases hob'
    rw [rename_ref] at hr'
    obtain ⟨x, hro, rfl⟩ := Option.map_eq_some_iff.mp hr'
    exact ⟨o, ob, x, ho, h1, hro, (iso.fieldness (.ref hor h1 hro) q).mp hq⟩

/-- **two fields share one attached object after the read iff they did before** -/
theorem IsoOn.sharing {h h' : Heap} {fs : List Field} {φ : Nat → Nat} (iso : IsoOn h h' fs φ) (p1 p2 : Path)
    {o1 o2 x1 x2 : Nat} {ob1 ob2 : Obj} (hp1 : leafAt fs p1 = some o1) (hp2 : leafAt fs p2 = some o2)
    (hob1 : h[o1]? = some ob1) (hob2 : h[o2]? = some ob2) (hr1 : ob1.ref = some x1) (hr2 : ob2.ref = some x2) :
    ∃ o1' o2' ob1' ob2' x1' x2', leafAt (renameFields φ fs) p1 = some o1' ∧ leafAt (renameFields φ fs) p2 = some o2' ∧
      h'[o1']? = some ob1' ∧ h'[o2']? = some ob2' ∧ ob1'.ref = some x1' ∧ ob2'.ref = some x2' ∧ (x1' = x2' ↔ x1 = x2) := by
  have r1 : Reach h fs o1 := .field (leafAt_mem hp1)
  have r2 : Reach h fs o2 := .field (leafAt_mem hp2)
  obtain ⟨ob1', a1, b1, c1⟩ := iso.ref r1 hob1 hr1
  obtain ⟨ob2', a2, b2, c2⟩ := iso.ref r2 hob2 hr2
  refine ⟨φ o1, φ o2, ob1', ob2', φ x1, φ x2, by rw [leafAt_rename, hp1]; rfl, by rw [leafAt_rename, hp2]; rfl,
    a1, a2, b1, b2, ?_⟩
  exact ⟨iso.inj x1 x2 c1 c2, fun e => by rw [e]⟩

theorem IsoOn.field_sharing {h h' : Heap} {fs : List Field} {φ : Nat → Nat} (iso : IsoOn h h' fs φ) (p q : Path) :
    (∃ o, leafAt fs p = some o ∧ leafAt fs q = some o) ↔
    (∃ o', leafAt (renameFields φ fs) p = some o' ∧ leafAt (renameFields φ fs) q = some o') := by
  simp only [leafAt_rename, Option.map_eq_some_iff]
  constructor
  · rintro ⟨o, hp, hq⟩
    exact ⟨φ o, ⟨o, hp, rfl⟩, ⟨o, hq, rfl⟩⟩
  · rintro ⟨_, ⟨a, hp, rfl⟩, ⟨b, hq, hab⟩⟩
    cases iso.inj b a (.field (leafAt_mem hq)) (.field (leafAt_mem hp)) hab
    exact ⟨_, hp, hq⟩

theorem roundTrip_iso (h : Heap) (d : DS) (lvl : Nat) (hw : WritableS h d lvl) :
    ∃ (file : File) (h' : Heap) (φ : Nat → Nat), writeDS h d lvl = .ok file ∧
      readBack h d file = .ok (h', { numObs := d.numObs, fields := renameFields φ (restrictFields lvl d.fields) }) ∧
      IsoOn h h' (restrictFields lvl d.fields) φ := by
  obtain ⟨file, h', φ, hwr, hrd, himg, hinj⟩ := roundTrip_coreS h d lvl hw (Nat.le_refl _) (Nat.le_refl _)
  exact ⟨file, h', φ, hwr, hrd, himg, hinj⟩

/-- what holds of `restrict d ℓ` under every renumbering as in `IsoOn` holds of the heap and dataset read back -/
theorem roundTrip_prop (h : Heap) (d : DS) (lvl : Nat) (hw : WritableS h d lvl) {P : Heap → DS → Prop}
    (hP : ∀ h' φ, IsoOn h h' (restrictFields lvl d.fields) φ →
      P h' { numObs := d.numObs, fields := renameFields φ (restrictFields lvl d.fields) }) :
    ∃ (file : File) (h' : Heap) (d' : DS), writeDS h d lvl = .ok file ∧ readBack h d file = .ok (h', d') ∧ P h' d' := by
  obtain ⟨file, h', φ, hwr, hrd, iso⟩ := roundTrip_iso h d lvl hw
  exact ⟨file, h', _, hwr, hrd, hP h' φ iso⟩

theorem names_restrict_sub (lvl : Nat) : ∀ (fs : List Field) (n : String),
    n ∈ Midgard.Dataset.names (restrictFields lvl fs) → n ∈ Midgard.Dataset.names fs
  | [], n, h => by simp [restrictFields, Midgard.Dataset.names] at h
  | f :: fs, n, h => by
    simp only [Midgard.Dataset.names, List.map_cons, List.mem_cons]
    by_cases hlv : Field.level f < lvl
    · rw [restrict_skip hlv] at h
      exact Or.inr (names_restrict_sub lvl fs n h)
    · rw [restrict_keep hlv] at h
      simp only [Midgard.Dataset.names, List.map_cons, List.mem_cons, restrictField_name] at h
      rcases h with h | h
      · exact Or.inl h
      · exact Or.inr (names_restrict_sub lvl fs n h)

theorem getField_restrict (lvl : Nat) (n : String) : ∀ (fs : List Field), namesOK fs = true →
    getField (restrictFields lvl fs) n =
      (getField fs n).bind (fun f => if Field.level f < lvl then none else some (restrictField lvl f))
  | [], _ => by simp [getField, restrictFields]
  | f :: fs, hn => by
    obtain ⟨hname, _, hn2⟩ := namesOK_cons f fs hn
    have ih := getField_restrict lvl n fs hn2
    by_cases hfn : f.name = n
    · have hg : getField (f :: fs) n = some f := by simp [getField, hfn]
      rw [hg]
      simp only [Option.bind_some]
      by_cases hlv : Field.level f < lvl
      · rw [restrict_skip hlv]
        simp only [hlv, if_true]
        apply getField_none_of_not_mem
        intro hmem
        exact hname (hfn ▸ names_restrict_sub lvl fs n hmem)
      · rw [restrict_keep hlv]
        simp [hlv, getField, hfn]
    · have hg : getField (f :: fs) n = getField fs n := by
        simp only [getField, List.find?_cons]
        have : (f.name == n) = false := by simpa using hfn
        simp [this]
      rw [hg, ← ih]
      by_cases hlv : Field.level f < lvl
      · rw [restrict_skip hlv]
      · rw [restrict_keep hlv]
        simp only [getField, List.find?_cons, restrictField_name]
        have : (f.name == n) = false := by simpa using hfn
        simp [this]

theorem namesOK_coll_of_mem : ∀ (fs : List Field) {nm : String} {no l : Nat} {sub : List Field}, namesOK fs = true →
    Field.coll nm no l sub ∈ fs → namesOK sub = true
  | [], _, _, _, _, _, h => by simp at h
  | f :: fs, nm, no, l, sub, hn, h => by
    obtain ⟨_, hn1, hn2⟩ := namesOK_cons f fs hn
    rcases List.mem_cons.mp h with rfl | h
    · simpa [namesOK, Midgard.Dataset.names] using hn1
    · exact namesOK_coll_of_mem fs hn2 h

theorem findField_restrict (lvl : Nat) : ∀ (p : Path) (fs : List Field), namesOK fs = true →
    (findField (restrictFields lvl fs) p).isSome = visible lvl fs p
  | [], fs, _ => by simp [findField, visible]
  | [n], fs, hn => by
    simp only [findField, visible]
    rw [getField_restrict lvl n fs hn]
    cases getField fs n with
    | none => rfl
    | some f =>
      simp only [Option.bind_some]
      by_cases hlv : Field.level f < lvl
      · simp [hlv] <;> omega
      · simp [hlv] <;> omega
  | n :: m :: rest, fs, hn => by
    simp only [findField, visible]
    rw [getField_restrict lvl n fs hn]
    cases hg : getField fs n with
    | none => rfl
    | some f =>
      simp only [Option.bind_some]
      cases f with
      | leaf nm k o no u l =>
        by_cases hlv : l < lvl <;> simp [Field.level, hlv, restrictField]
      | coll nm no l sub =>
        have hns := namesOK_coll_of_mem fs hn (getField_some hg).1
        by_cases hlv : l < lvl
        · simp [Field.level, hlv] <;> omega
        · simp only [Field.level, hlv, if_false, restrictField]
          rw [findField_restrict lvl (m :: rest) sub hns]
          have : decide (lvl ≤ l) = true := by simp <;> omega
          simp [this]

theorem cellBits_bitsCell (w : UInt64) : cellBits (bitsCell w) = some w := by
  -- 18446744073709551616 = 2^64
  have hlt : w.toNat < 18446744073709551616 := by
    have := w.toNat_lt
    simpa using this
  have h1 : ((w.toNat : Int) : Rat).den = 1 := by simp
  have h2 : ((w.toNat : Int) : Rat).num = (w.toNat : Int) := by simp
  simp only [bitsCell, cellBits, h1, h2]
  have h3 : (0 : Int) ≤ (w.toNat : Int) := Int.natCast_nonneg _
  have h4 : (w.toNat : Int) < 18446744073709551616 := by omega
  simp [h3, h4]

theorem mapM_cellBits (r : List UInt64) : (r.map bitsCell).mapM cellBits = some r := by
  rw [mapM_eq_some_iff, List.map_map]
  refine List.map_congr_left fun w _ => ?_
  rw [Function.comp_apply, cellBits_bitsCell]

theorem rowsBits_bitsRows (ws : List (List UInt64)) : rowsBits (bitsRows ws) = ws.map some := by
  induction ws with
  | nil => rfl
  | cons r ws ih =>
    simp only [rowsBits, bitsRows, List.map_cons, List.map_map] at ih ⊢
    rw [mapM_cellBits]
    congr 1

theorem rename_rows (φ : Nat → Nat) (ob : Obj) : (ob.rename φ).rows = ob.rows := rfl

open Midgard.H5Attr

theorem writeMeta_isSome : ∀ (m : MetaDict), metaOK m = true → ∃ as, writeMeta m = some as
  | [], _ => ⟨[], rfl⟩
  | (k, v) :: r, h => by
    simp only [metaOK, Bool.and_eq_true] at h
    obtain ⟨as, has⟩ := writeMeta_isSome r h.2
    obtain ⟨a, ha⟩ := Option.isSome_iff_exists.mp h.1
    exact ⟨(k, a) :: as, by simp only [writeMeta, ha, has]⟩

theorem writeMeta_keys : ∀ (m : MetaDict) (as : List (String × Attr)), writeMeta m = some as → as.map (·.1) = m.map (·.1)
  | [], as, h => by simp only [writeMeta, Option.some.injEq] at h; subst h; rfl
  | (k, v) :: r, as, h => by
    simp only [writeMeta] at h
    split at h
    · simp at h
    · split at h
      · simp at h
      · rename_i r' hr
        simp only [Option.some.injEq] at h
        subst h
        simp [writeMeta_keys r r' hr]

theorem readMeta_writeMeta : ∀ (m : MetaDict) (as : List (String × Attr)), writeMeta m = some as → readMeta as = some m
  | [], as, h => by simp only [writeMeta, Option.some.injEq] at h; subst h; rfl
  | (k, v) :: r, as, h => by
    simp only [writeMeta] at h
    split at h
    · simp at h
    · rename_i a ha
      split at h
      · simp at h
      · rename_i r' hr
        simp only [Option.some.injEq] at h
        subst h
        simp only [readMeta, decode_encode v a ha, readMeta_writeMeta r r' hr]

end Midgard.H5
