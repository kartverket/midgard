/-
C10 — the model with the `time` attribute of positions (`Model/H5Time.lean`) is a conservative extension: when no object
has a `time` (as `_write` sees it: `tmE`), `writeDSX` is `writeDS`, the file has no `time` reference and no `time` sub-group in any array group, and on
such files `readTopX` is `readTop`.
-/
import Midgard.Proofs.H5Base

namespace Midgard.H5
open Midgard.Dataset

theorem tmOf_nil (o : Nat) : tmOf [] o = none := by simp [tmOf]

theorem tmE_none_of_tmOf {tm : TM} (htm : ∀ o, tmOf tm o = none) (h : Heap) (o : Nat) : tmE h tm o = none := by
  unfold tmE
  split <;> simp [htm]

theorem tmE_nil (h : Heap) (o : Nat) : tmE h [] o = none := tmE_none_of_tmOf tmOf_nil h o

theorem writeArrX_eq (h : Heap) (tm : TM) (htm : ∀ o, tmE h tm o = none) : ∀ (fuel : Nat) (u : Option (List String)) (l : Nat)
    (o : Nat) (p : Path) (memo : WMemo), writeArrX h tm u l fuel o p memo = writeArr h u l fuel o p memo
  | 0, _, _, _, _, _ => rfl
  | fuel + 1, u, l, o, p, memo => by
    simp only [writeArrX, writeArr]
    cases hob : h[o]? with
    | none => rfl
    | some ob =>
      simp only [tmE_of hob, htm]
      cases attrName ob.kind with
      | none => rfl
      | some nm =>
        simp only
        cases ob.ref with
        | none => simp [slotWrite]
        | some x =>
          simp only [slotWrite]
          cases memo.lookup x with
          | some name => simp
          | none =>
            simp only [writeArrX_eq h tm htm fuel none 3 x (p ++ [nm])]
            cases writeArr h none 3 fuel x (p ++ [nm]) ((x, p ++ [nm]) :: memo) with
            | error e => rfl
            | ok r => simp

mutual
theorem writeFieldX_eq_of_tmE (h : Heap) (tm : TM) (htm : ∀ o, tmE h tm o = none) (lvl : Nat) : ∀ (f : Field) (pre : Path) (memo : WMemo),
    writeFieldX h tm lvl f pre memo = writeField h lvl f pre memo
  | .leaf nm k o no u l, pre, memo => by
    simp only [writeFieldX, writeField, writeArrX_eq h tm htm]
    rfl
  | .coll nm no l sub, pre, memo => by
    simp only [writeFieldX, writeField, writeFieldsX_eq h tm htm lvl sub]
    rfl
theorem writeFieldsX_eq (h : Heap) (tm : TM) (htm : ∀ o, tmE h tm o = none) (lvl : Nat) : ∀ (fs : List Field) (pre : Path) (memo : WMemo),
    writeFieldX.writeFieldsX h tm lvl fs pre memo = writeField.writeFields h lvl fs pre memo
  | [], _, _ => by simp only [writeFieldX.writeFieldsX, writeField.writeFields]
  | f :: fs, pre, memo => by
    simp only [writeFieldX.writeFieldsX, writeField.writeFields, writeFieldX_eq_of_tmE h tm htm lvl f]
    split
    · exact writeFieldsX_eq h tm htm lvl fs pre memo
    · cases writeField h lvl f pre memo with
      | error e => rfl
      | ok r =>
        simp only [writeFieldsX_eq h tm htm lvl fs]
        rfl
end

theorem writeFieldX_eq (h : Heap) (tm : TM) (htm : ∀ o, tmOf tm o = none) (lvl : Nat) : ∀ (f : Field) (pre : Path) (memo : WMemo),
    writeFieldX h tm lvl f pre memo = writeField h lvl f pre memo :=
  writeFieldX_eq_of_tmE h tm (tmE_none_of_tmOf htm h) lvl

theorem writeDSX_eq (h : Heap) (tm : TM) (htm : ∀ o, tmE h tm o = none) (d : DS) (lvl : Nat) :
    writeDSX h tm d lvl = writeDS h d lvl := by
  simp only [writeDSX, writeDS, writeFieldsX_eq h tm htm]
  rfl

/-- no array group of the subtree has a `time` reference or a `time` sub-group -/
def NoTimeG : Grp → Prop
  | .mk a pl subs => (pl.isSome = true → a.tref = none ∧ subs.lookup "time" = none) ∧ NoTimeL subs
where NoTimeL : List (String × Grp) → Prop
  | [] => True
  | (_, g) :: r => NoTimeG g ∧ NoTimeL r

theorem noTime_lookup : ∀ (gs : List (String × Grp)) (n : String) (g : Grp), NoTimeG.NoTimeL gs → gs.lookup n = some g → NoTimeG g
  | [], _, _, _, h => by simp [List.lookup] at h
  | (m, g0) :: r, n, g, hn, h => by
    simp only [NoTimeG.NoTimeL] at hn
    simp only [List.lookup] at h
    split at h
    · cases h; exact hn.1
    · exact noTime_lookup r n g hn.2 h

theorem noTime_lookupGrp : ∀ (p : Path) (gs : List (String × Grp)) (g : Grp), NoTimeG.NoTimeL gs → lookupGrp gs p = some g → NoTimeG g
  | [], _, _, _, h => by simp [lookupGrp] at h
  | n :: rest, gs, g, hn, h => by
    simp only [lookupGrp] at h
    split at h
    · simp at h
    · rename_i g0 hl
      have h0 := noTime_lookup gs n g0 hn hl
      split at h
      · cases h; exact h0
      · cases g0 with
        | mk a pl subs =>
          simp only [NoTimeG] at h0
          exact noTime_lookupGrp rest subs g h0.2 h

theorem writeArr_noTime (h : Heap) : ∀ (fuel : Nat) (u : Option (List String)) (l : Nat) (o : Nat) (p : Path)
    (memo : WMemo) (g : Grp) (memo' : WMemo), writeArr h u l fuel o p memo = .ok (g, memo') → NoTimeG g
  | 0, _, _, _, _, _, _, _, hw => by simp [writeArr] at hw
  | fuel + 1, u, l, o, p, memo, g, memo', hw => by
    simp only [writeArr] at hw
    split at hw
    · simp at hw
    · split at hw
      · cases hw; simp [NoTimeG, NoTimeG.NoTimeL, List.lookup]
      · rename_i nm hat
        split at hw
        · cases hw; simp [NoTimeG, NoTimeG.NoTimeL, List.lookup]
        · split at hw
          · cases hw; simp [NoTimeG, NoTimeG.NoTimeL, List.lookup]
          · split at hw
            · simp at hw
            · rename_i gc memoc hrec
              cases hw
              have ih := writeArr_noTime h fuel none 3 _ _ _ gc memoc hrec
              simp only [NoTimeG, NoTimeG.NoTimeL, List.lookup, attrName_ne_time hat, and_true]
              exact ⟨fun _ => trivial, ih⟩

mutual
theorem writeField_noTime (h : Heap) (lvl : Nat) : ∀ (f : Field) (pre : Path) (memo : WMemo) (g : Grp) (memo' : WMemo),
    writeField h lvl f pre memo = .ok (g, memo') → NoTimeG g
  | .leaf nm k o no u l, pre, memo, g, memo', hw => by
    simp only [writeField] at hw
    split at hw
    · cases hw; simp [NoTimeG, NoTimeG.NoTimeL]
    · split at hw
      · simp at hw
      · rename_i g0 m0 hwa
        cases hw
        exact writeArr_noTime h _ u l o _ memo _ _ hwa
  | .coll nm no l sub, pre, memo, g, memo', hw => by
    simp only [writeField] at hw
    split at hw
    · simp at hw
    · rename_i subs mem m1 hws
      cases hw
      simp only [NoTimeG]
      exact ⟨by simp, writeFields_noTime h lvl sub _ memo subs mem _ hws⟩
theorem writeFields_noTime (h : Heap) (lvl : Nat) : ∀ (fs : List Field) (pre : Path) (memo : WMemo)
    (groups : List (String × Grp)) (mem : List (String × Option Kind)) (memo' : WMemo),
    writeField.writeFields h lvl fs pre memo = .ok (groups, mem, memo') → NoTimeG.NoTimeL groups
  | [], _, _, groups, _, _, hw => by
    simp only [writeField.writeFields, Except.ok.injEq, Prod.mk.injEq] at hw
    obtain ⟨rfl, _, _⟩ := hw
    trivial
  | f :: fs, pre, memo, groups, mem, memo', hw => by
    simp only [writeField.writeFields] at hw
    split at hw
    · exact writeFields_noTime h lvl fs pre memo groups mem memo' hw
    · split at hw
      · simp at hw
      · rename_i g memo1 hw1
        split at hw
        · simp at hw
        · rename_i subs mem2 memo2 hw2
          simp only [Except.ok.injEq, Prod.mk.injEq] at hw
          obtain ⟨rfl, _, _⟩ := hw
          exact ⟨writeField_noTime h lvl f pre memo g memo1 hw1, writeFields_noTime h lvl fs pre memo1 subs mem2 memo2 hw2⟩
end

theorem writeDS_noTime (h : Heap) (d : DS) (lvl : Nat) (file : File) (hw : writeDS h d lvl = .ok file) :
    NoTimeG.NoTimeL file.groups := by
  simp only [writeDS] at hw
  split at hw
  · simp at hw
  · rename_i groups mem memo' hws
    cases hw
    exact writeFields_noTime h lvl d.fields [] _ groups mem memo' hws

theorem allocX_none (s : RSt) (ob : Obj) : allocX s ob none = s.alloc ob := rfl

theorem readRef_congr {rd rd' : Grp → RSt → M (Nat × RSt)} (t : Option (Path × Option Grp)) (s : RSt)
    (h : ∀ name g, t = some (name, some g) → rd g s = rd' g s) : readRef rd t s = readRef rd' t s := by
  cases t with
  | none => rfl
  | some x =>
    obtain ⟨name, og⟩ := x
    simp only [readRef]
    cases s.memo.lookup name with
    | some o => rfl
    | none =>
      cases og with
      | none => rfl
      | some g => simp only [h name g rfl]

theorem readArrX_eq (file : File) (hf : NoTimeG.NoTimeL file.groups) : ∀ (fuel : Nat) (g : Grp) (s : RSt), NoTimeG g →
    readArrX file fuel g s = readArr file fuel g s
  | 0, _, _, _ => rfl
  | fuel + 1, .mk a payload subs, s, hg => by
    simp only [readArrX, readArr]
    cases payload with
    | none => rfl
    | some ob =>
      simp only [NoTimeG, Option.isSome_some, forall_const] at hg
      obtain ⟨⟨htr, hts⟩, hsubs⟩ := hg
      simp only
      cases hat : attrName ob.kind with
      | none => simp only [allocX_none]
      | some nm =>
        simp only
        have hT : (if ob.kind.hasOther then refTargetT file a subs else none) = none := by
          simp only [refTargetT, htr, hts, ite_self]
        have h1 : readRef (readArrX file fuel) (refTarget file a subs nm) s = readRef (readArr file fuel) (refTarget file a subs nm) s := by
          apply readRef_congr
          intro name g ht
          apply readArrX_eq file hf fuel g s
          simp only [refTarget] at ht
          split at ht
          · rename_i nm0 _
            simp only [Option.some.injEq, Prod.mk.injEq] at ht
            exact noTime_lookupGrp _ _ g hf ht.2
          · split at ht
            · rename_i g0 hl
              simp only [Option.some.injEq, Prod.mk.injEq] at ht
              have := noTime_lookup subs nm g0 hsubs hl
              rw [← ht.2]; exact this
            · cases ht
        rw [h1, hT]
        cases readRef (readArr file fuel) (refTarget file a subs nm) s with
        | error e => rfl
        | ok r =>
          obtain ⟨r, s1⟩ := r
          simp only [readRef, allocX_none]

theorem fieldReadX_eq (file : File) (hf : NoTimeG.NoTimeL file.groups) (fa : Nat) (g : Grp) (s : RSt) (hg : NoTimeG g) :
    fieldReadX file fa g s = fieldRead file fa g s := by
  simp only [fieldReadX, fieldRead, readArrX_eq file hf fa g s hg]
  rfl

theorem resolveAliasX_eq (file : File) (hf : NoTimeG.NoTimeL file.groups) (fa : Nat) (a : GAttrs) (s : RSt) :
    resolveAliasX file fa a s = resolveAlias file fa a s := by
  simp only [resolveAliasX, resolveAlias]
  cases a.sameAs with
  | none => rfl
  | some name =>
    simp only
    cases s.memo.lookup name with
    | some o => rfl
    | none =>
      simp only
      cases hl : lookupGrp file.groups name with
      | none => rfl
      | some g =>
        simp only [fieldReadX_eq file hf fa g s (noTime_lookupGrp _ _ g hf hl)]
        rfl

theorem readFieldX_eq (file : File) (hf : NoTimeG.NoTimeL file.groups) (fa : Nat) : ∀ (depth : Nat) (ty : Option Kind) (g : Grp)
    (s : RSt), NoTimeG g → readFieldX file fa depth ty g s = readField file fa depth ty g s
  | 0, _, _, _, _ => rfl
  | d + 1, some k, .mk a p subs, s, hg => by
    simp only [readFieldX, readField, resolveAliasX_eq file hf]
    cases resolveAlias file fa a s with
    | error e => rfl
    | ok s1 =>
      simp only [readArrX_eq file hf fa _ s1 hg]
      rfl
  | d + 1, none, .mk a p subs, s, hg => by
    simp only [readFieldX, readField]
    have hsubs : NoTimeG.NoTimeL subs := by simp only [NoTimeG] at hg; exact hg.2
    rw [readMembers_loop, readMembers_loop,
      fieldsLoop_congr fun ty n g s hl => readFieldX_eq file hf fa d ty g s (noTime_lookup subs n g hsubs hl)]
    rfl

theorem readTopX_eq (file : File) (hf : NoTimeG.NoTimeL file.groups) (fa fd : Nat) (ms : List (String × Option Kind)) (s : RSt) :
    readTopX file fa fd ms s = readTop file fa fd ms s := by
  rw [readTopX_loop, readTop_loop,
    fieldsLoop_congr fun ty n g s hl => readFieldX_eq file hf fa fd ty g s (noTime_lookup _ n g hf hl)]

theorem timeFree_conservative (h : Heap) (tm : TM) (htm : ∀ o, tmE h tm o = none) (d : DS) (lvl : Nat) :
    writeDSX h tm d lvl = writeDS h d lvl ∧
    ∀ file, writeDS h d lvl = .ok file →
      (readBackX h d file).map (fun r => (r.1, r.2.2)) = readBack h d file := by
  refine ⟨writeDSX_eq h tm htm d lvl, fun file hw => ?_⟩
  have hf := writeDS_noTime h d lvl file hw
  simp only [readBackX, readBack, readDS, readTopX_eq file hf]
  cases readTop file (h.length + 1) (fieldsDepth d.fields + 1) file.members {} with
  | error e => rfl
  | ok r => rfl

end Midgard.H5
