/-
C05 — the accuracy clause far from the surface.  In the scaled variables `x = 1/A`, `t = P/A`, `u = S/A` (`q²t² + u² = 1`; notation of
Proofs/GeoCofactors.lean) bounds of the form `K0 ≥ c0·A⁵`, `K1 ≥ c1·A⁶`, `K2 ≥ c2·A⁶`, `|H| ≤ A¹⁷·hh` (Proofs/GeoBound.lean) go into
`offset_core_le`, where all powers of `A` cancel and a one-dimensional inequality in `t` remains (Proofs/GeoFar1D.lean).  The two altitude
boxes `1.0128 ≤ A ≤ 4` (`a`) and `4 ≤ A ≤ 8.86` (`b`) come from one theorem (`offset_far`) with the constants of a box as parameters.

Where the constants come from: `1.0128 = 0.9966 + 0.0162` is where the near box ends for the smallest `q`;
`8.86 ≥ 1 + 7.85` with `7.85 ≥ 50 000 km / 6 371 km`; `4` is a free split point (the bounds in `x = 1/A` are sharper on the
upper box); `2007/2000 = 1.0035 ≥ 1/0.9966` bounds `t = P/A`; `X` is `1/Alo` rounded up; `b0 b1 b2 B1 B2` are the corner
sums of the scaled remainder tables on `[0,X]×[0,2007/2000]×[0,1]` rounded up; `c0 c1 c2`, `ch` follow from them
(hypotheses `hc0' hc1' hc2' hch`), `cm = min(c1, c2)`; `F` is chosen with the tables `cellsA`, `cellsB` of
Proofs/GeoFar1D.lean (`oneD_a`, `oneD_b`); `2.85e-10·6 378 140 m < 2 mm`.
The theorems that Props/C05.lean restates under the property's names have their docstrings there.
-/
import Midgard.Proofs.GeoOffsetModel
import Midgard.Proofs.GeoBound
import Midgard.Proofs.GeoNear
import Midgard.Proofs.GeoFar1D
namespace Midgard.Geo.Acc

theorem far_prep (q P S A : ℝ) (hq : 0.9966 ≤ q) (hP : 0 < P) (hS : 0 < S) (hA0 : 0 < A)
    (hAA : A * A = q * P * (q * P) + S * S) :
    0 < P / A ∧ P / A ≤ 1.0035 ∧ 0 < S / A ∧ q ^ 2 * (P / A) ^ 2 + (S / A) ^ 2 = 1 ∧ P = A * (P / A) ∧ S = A * (S / A) := by
  have hq0 : 0 < q := lt_of_lt_of_le (by norm_num) hq
  have hqP := (legs_le (mul_pos hq0 hP).le hS.le hA0.le hAA).1
  have hA2 : A ^ 2 = q * P * (q * P) + S * S := by rw [← hAA]; ring
  refine ⟨div_pos hP hA0, ?_, div_pos hS hA0, ?_, by field_simp, by field_simp⟩
  · rw [div_le_iff₀ hA0]
    have : 0.9966 * P ≤ q * P := mul_le_mul_of_nonneg_right hq hP.le
    linarith only [this, hqP, hA0]
  · have h1 : q ^ 2 * (P / A) ^ 2 + (S / A) ^ 2 = (q * P * (q * P) + S * S) / A ^ 2 := by field_simp
    rw [h1, ← hA2]; field_simp

/-- from `u² + t² ≥ q²t² + u² = 1` and `q ≥ q²` -/
theorem far_sum_lower (q P S A t u cm c1 c2 : ℝ) (hq0 : 0 < q) (hq1 : q ≤ 1) (hA0 : 0 < A)
    (hcm : 0 < cm) (hcm1 : cm ≤ c1) (hcm2 : cm ≤ c2)
    (hPt : P = A * t) (hSu : S = A * u) (htu : q ^ 2 * t ^ 2 + u ^ 2 = 1) :
    A ^ 14 * (q ^ 2 * cm ^ 2) ≤ q * S ^ 2 * (c1 * A ^ 6) ^ 2 + P ^ 2 * q ^ 2 * (c2 * A ^ 6) ^ 2 := by
  have hqq : q ^ 2 ≤ q := (pow_two q).trans_le (mul_le_of_le_one_left hq0.le hq1)
  have hut : 1 ≤ u ^ 2 + t ^ 2 := by
    have : q ^ 2 * t ^ 2 ≤ 1 * t ^ 2 := mul_le_mul_of_nonneg_right (pow_le_one₀ hq0.le hq1) (sq_nonneg t)
    linarith only [this, htu]
  calc _ ≤ A ^ 14 * (q ^ 2 * cm ^ 2) * (u ^ 2 + t ^ 2) := le_mul_of_one_le_right (by positivity) hut
    _ = q ^ 2 * S ^ 2 * (cm * A ^ 6) ^ 2 + P ^ 2 * q ^ 2 * (cm * A ^ 6) ^ 2 := by rw [hPt, hSu]; ring
    _ ≤ _ := by gcongr

/-- assembly for one altitude box: `|R/a|·q³·c2·cm² ≤ e⁴·ρ³·F`.  `t`, `u` are variables tied to `P`, `S` by `hPt`, `hSu`; `offset_far` puts in
`P/A`, `S/A` (`far_prep`) -/
theorem far_box (q P S A s1 cc D W c0 c1 c2 cm hh F ρ t u : ℝ)
    (hq0 : 0 < q) (hq1 : q ≤ 1) (hP : 0 < P) (hS : 0 < S) (hA0 : 0 < A)
    (hAA : A * A = q * P * (q * P) + S * S)
    (hs1 : s1 = P * S * K1 A P q / 2) (hcc : cc = P ^ 2 * q * K2 A P q / 2)
    (hD : D = Real.sqrt (s1 * s1 + cc * cc)) (hW : W = Real.sqrt (q ^ 2 * (s1 * s1) + cc * cc))
    (hc0 : 0 < c0) (hc1 : 0 < c1) (hc2 : 0 < c2) (hcm : 0 < cm) (hcm1 : cm ≤ c1) (hcm2 : cm ≤ c2)
    (hK0 : c0 * A ^ 5 ≤ K0 A P q) (hK1 : c1 * A ^ 6 ≤ K1 A P q) (hK2 : c2 * A ^ 6 ≤ K2 A P q)
    (hH : |HH A P q| ≤ A ^ 17 * hh) (hρ0 : 0 ≤ ρ)
    (ht0 : 0 < t) (hPt : P = A * t) (hSu : S = A * u) (htu : q ^ 2 * t ^ 2 + u ^ 2 = 1)
    (h1D : t ^ 3 * u ^ 3 * hh ≤ F * (c1 + t * c0)) (hρ : |A - q| ≤ ρ * A) :
    |(S * cc - P * s1) / D + (1 - q ^ 2) * s1 * cc / (D * W)| * (q ^ 3 * (c2 * cm ^ 2)) ≤ (1 - q ^ 2) ^ 4 * (ρ ^ 3 * F) := by
  -- `k0 = c0·A⁵`, `k1 = c1·A⁶`, `k2 = c2·A⁶`, `Hb = A¹⁷·hh`: both sides are `A²⁶·(c1 + t·c0)` times the claim
  have core := offset_core_le q P S A s1 cc D W (c0 * A ^ 5) (c1 * A ^ 6) (c2 * A ^ 6) (A ^ 17 * hh) hq0 hq1 hP hS hAA hs1 hcc hD hW
    (by positivity) (by positivity) (by positivity) hK0 hK1 hK2 hH
  set X := |(S * cc - P * s1) / D + (1 - q ^ 2) * s1 * cc / (D * W)|
  have he0 : 0 ≤ 1 - q ^ 2 := one_sub_sq_nonneg hq0.le hq1
  have hL2 := far_sum_lower q P S A t u cm c1 c2 hq0 hq1 hA0 hcm hcm1 hcm2 hPt hSu htu
  have hfac : 0 < A ^ 26 * (c1 + t * c0) := by positivity
  have hhh : 0 ≤ hh := le_of_mul_le_mul_left ((mul_zero _).trans_le ((abs_nonneg _).trans hH)) (pow_pos hA0 17)
  -- left: `X·q·c2·A⁶·(A¹⁴·q²·cm²)·A⁶(c1 + t·c0)` is below the left side of `core`
  have hl : X * (q ^ 3 * (c2 * cm ^ 2)) * (A ^ 26 * (c1 + t * c0))
      ≤ X * (q * (c2 * A ^ 6) * (q * S ^ 2 * (c1 * A ^ 6) ^ 2 + P ^ 2 * q ^ 2 * (c2 * A ^ 6) ^ 2) * (c1 * A ^ 6 + P * (c0 * A ^ 5))) := by
    calc _ = X * (q * (c2 * A ^ 6) * (A ^ 14 * (q ^ 2 * cm ^ 2)) * (c1 * A ^ 6 + P * (c0 * A ^ 5))) := by rw [hPt]; ring
      _ ≤ _ := by gcongr
  -- right: `|A − q| ≤ ρ·A` and the one-dimensional inequality
  have hr : (1 - q ^ 2) ^ 4 * P ^ 3 * S ^ 3 * |A - q| ^ 3 * (A ^ 17 * hh) ≤ (1 - q ^ 2) ^ 4 * (ρ ^ 3 * F) * (A ^ 26 * (c1 + t * c0)) := by
    calc _ ≤ (1 - q ^ 2) ^ 4 * P ^ 3 * S ^ 3 * (ρ * A) ^ 3 * (A ^ 17 * hh) := by gcongr
      _ = (1 - q ^ 2) ^ 4 * ρ ^ 3 * A ^ 26 * (t ^ 3 * u ^ 3 * hh) := by rw [hPt, hSu]; ring
      _ ≤ (1 - q ^ 2) ^ 4 * ρ ^ 3 * A ^ 26 * (F * (c1 + t * c0)) := by gcongr
      _ = _ := by ring
  exact le_of_mul_le_mul_right (hl.trans (core.trans hr)) hfac

/-- one altitude box `Alo ≤ A ≤ Ahi` of the far field.  In the scaled variables `x = 1/A ≤ X`, `t = P/A ≤ 1.0035` the
corner sums bound the scaled remainders (`b0 b1 b2` from below, `B1 B2` in absolute value); this gives `K0 ≥ c0·A⁵`,
`K1 ≥ c1·A⁶`, `K2 ≥ c2·A⁶` and `|H| ≤ A¹⁷·(|64 − 80t²| + ch)`, and with the one-dimensional inequality (`h1D`) and
`|A − q| ≤ (1 − 0.9966/Ahi)·A` the normalised offset is below `bound` (`hnum`; `cm` is a common lower bound of `c1`, `c2`) -/
theorem offset_far {X b0 b1 b2 B1 B2 c0 c1 ch F : ℚ} {Alo Ahi c2 cm bound : ℝ} (q P S A s1 cc D W : ℝ)
    (hq : 0.9966 ≤ q) (hq1 : q ≤ 1) (he : 1 - q ^ 2 ≤ 0.0067) (hP : 0 < P) (hS : 0 < S)
    (hAA : A * A = q * P * (q * P) + S * S) (hAlo : Alo ≤ A) (hAhi : A ≤ Ahi)
    (hs1 : s1 = P * S * K1 A P q / 2) (hcc : cc = P ^ 2 * q * K2 A P q / 2)
    (hD : D = Real.sqrt (s1 * s1 + cc * cc)) (hW : W = Real.sqrt (q ^ 2 * (s1 * s1) + cc * cc))
    (hAlo1 : 1 ≤ Alo) (hX0 : 0 ≤ X) (hX : 1 ≤ X * Alo)
    (h0 : lo (scale 5 k0r) X (2007 / 2000) 1 ≤ b0) (h1 : lo (scale 5 k1r) X (2007 / 2000) 1 ≤ b1)
    (h2 : lo (scale 5 k2r) X (2007 / 2000) 1 ≤ b2)
    (h3 : lo (scale 17 hr1) X (2007 / 2000) 1 ≤ B1) (h3' : hi (scale 17 hr1) X (2007 / 2000) 1 ≤ B1)
    (h4 : lo (scale 17 hr2) X (2007 / 2000) 1 ≤ B2) (h4' : hi (scale 17 hr2) X (2007 / 2000) 1 ≤ B2)
    (hb0 : 0 ≤ b0) (hb1 : 0 ≤ b1) (hb2 : 0 ≤ b2)
    (hc0 : (0 : ℝ) < c0) (hc0' : (c0 : ℝ) ≤ 2 - 0.0067 * b0) (hc1' : (c1 : ℝ) ≤ 2 * 0.9966 - 0.0067 * X * b1)
    (hc2' : c2 ≤ 2 - 0.0067 * X * b2)
    (hcm : 0 < cm) (hcm1 : cm ≤ c1) (hcm2 : cm ≤ c2) (hch : (0.0067 : ℝ) * B1 + 0.0067 ^ 2 * B2 ≤ ch) (hF : 0 ≤ F)
    (h1D : ∀ t u : ℝ, 0 < t → t ≤ 1.0035 → 0 < u → q ^ 2 * t ^ 2 + u ^ 2 = 1 →
      t ^ 3 * u ^ 3 * (|64 - 80 * t ^ 2| + (ch : ℝ)) ≤ F * (c1 + t * c0))
    (hnum : 0.0067 ^ 4 * ((1 - 0.9966 / Ahi) ^ 3 * F) ≤ bound * (0.9898 * (c2 * cm ^ 2))) :
    |(S * cc - P * s1) / D + (1 - q ^ 2) * s1 * cc / (D * W)| ≤ bound := by
  have hq0 : 0 < q := lt_of_lt_of_le (by norm_num) hq
  have hA1 : 1 ≤ A := hAlo1.trans hAlo
  have hA0 : 0 < A := one_pos.trans_le hA1
  have he0 : 0 ≤ 1 - q ^ 2 := sub_nonneg.2 (pow_le_one₀ hq0.le hq1)
  obtain ⟨ht0, ht1, hu0, htu, hPt, hSu⟩ := far_prep q P S A hq hP hS hA0 hAA
  set t := P / A with ht
  set u := S / A with hu
  have hx0 : 0 ≤ 1 / A := by positivity
  have hx1 : 1 / A ≤ X := by
    rw [div_le_iff₀ hA0]
    exact hX.trans (mul_le_mul_of_nonneg_left hAlo (Rat.cast_nonneg.2 hX0))
  have ht1' : t ≤ ((2007 / 2000 : ℚ) : ℝ) := ht1.trans (by norm_num)
  have hq1' : q ≤ ((1 : ℚ) : ℝ) := hq1.trans (by norm_num)
  -- scaled bounds of the remainders, then of the cofactors
  obtain ⟨k0, k1, k2⟩ := K_scaled_lower A t q X b0 b1 b2 hq hq1 he hA0 hx1 (Rat.cast_nonneg.2 hb0) (Rat.cast_nonneg.2 hb1)
    (Rat.cast_nonneg.2 hb2) (neg_le_evalPoly _ hx0 hx1 ht0.le ht1' hq0.le hq1' h0)
    (neg_le_evalPoly _ hx0 hx1 ht0.le ht1' hq0.le hq1' h1) (neg_le_evalPoly _ hx0 hx1 ht0.le ht1' hq0.le hq1' h2)
  have hH := H_scaled_upper A t q B1 B2 he0 he hA0 (abs_evalPoly_le _ hx0 hx1 ht0.le ht1' hq0.le hq1' h3 h3')
    (abs_evalPoly_le _ hx0 hx1 ht0.le ht1' hq0.le hq1' h4 h4')
  rw [← hPt] at k0 k1 k2 hH
  have hK0 : c0 * A ^ 5 ≤ K0 A P q := (mul_le_mul_of_nonneg_right hc0' (by positivity)).trans k0
  have hK1 : c1 * A ^ 6 ≤ K1 A P q := (mul_le_mul_of_nonneg_right hc1' (by positivity)).trans k1
  have hK2 : c2 * A ^ 6 ≤ K2 A P q := (mul_le_mul_of_nonneg_right hc2' (by positivity)).trans k2
  have hH' : |HH A P q| ≤ A ^ 17 * (|64 - 80 * t ^ 2| + ch) :=
    hH.trans (mul_le_mul_of_nonneg_left (by linarith only [hch]) (by positivity))
  have hAhi0 : 0 < Ahi := hA0.trans_le hAhi
  have hρ0 : 0 ≤ 1 - 0.9966 / Ahi := sub_nonneg.2 ((div_le_one hAhi0).2 (by linarith only [hA1, hAhi]))
  have hρ : |A - q| ≤ (1 - 0.9966 / Ahi) * A := by
    rw [abs_of_nonneg (by linarith only [hq1, hA1])]
    have : 0.9966 / Ahi * A ≤ 0.9966 := by
      rw [div_mul_eq_mul_div, div_le_iff₀ hAhi0]
      exact mul_le_mul_of_nonneg_left hAhi (by norm_num)
    linarith only [this, hq]
  have hc2 : 0 < c2 := hcm.trans_le hcm2
  have hF' : (0 : ℝ) ≤ F := Rat.cast_nonneg.2 hF
  have h1D := h1D t u ht0 ht1 hu0 htu
  have key := far_box q P S A s1 cc D W c0 c1 c2 cm (|64 - 80 * t ^ 2| + ch) F (1 - 0.9966 / Ahi) t u hq0 hq1 hP hS hA0 hAA
    hs1 hcc hD hW hc0 (hcm.trans_le hcm1) hc2 hcm hcm1 hcm2 hK0 hK1 hK2 hH' hρ0 ht0 hPt hSu htu h1D hρ
  exact offset_finish _ q _ _ _ bound (abs_nonneg _) hq he0 he (by positivity) (by positivity) key le_rfl hnum

theorem offset_far_a (q P S A s1 cc D W : ℝ)
    (hq : 0.9966 ≤ q) (hq1 : q ≤ 1) (he : 1 - q ^ 2 ≤ 0.0067) (hP : 0 < P) (hS : 0 < S)
    (hAA : A * A = q * P * (q * P) + S * S) (hAlo : 1.0128 ≤ A) (hAhi : A ≤ 4)
    (hs1 : s1 = P * S * K1 A P q / 2) (hcc : cc = P ^ 2 * q * K2 A P q / 2)
    (hD : D = Real.sqrt (s1 * s1 + cc * cc)) (hW : W = Real.sqrt (q ^ 2 * (s1 * s1) + cc * cc)) :
    |(S * cc - P * s1) / D + (1 - q ^ 2) * s1 * cc / (D * W)| ≤ 2.85e-10 :=
  offset_far (X := 4937 / 5000) (b0 := 1207 / 100) (b1 := 252 / 25) (b2 := 352 / 25) (B1 := 54174 / 100) (B2 := 8048)
    (c0 := 19191 / 10000) (c1 := 3853 / 2000) (c2 := 1.9068) (cm := 1.9068) (ch := 3991 / 1000) (F := 11 / 5)
    q P S A s1 cc D W hq hq1 he hP hS hAA hAlo hAhi hs1 hcc hD hW
    -- the box in `x = 1/A`
    (hAlo1 := by norm_num) (hX0 := by norm_num) (hX := by norm_num)
    -- corner sums of the scaled remainder tables (kernel evaluation)
    (h0 := by decide +kernel) (h1 := by decide +kernel) (h2 := by decide +kernel) (h3 := by decide +kernel)
    (h3' := by decide +kernel) (h4 := by decide +kernel) (h4' := by decide +kernel)
    (hb0 := by norm_num) (hb1 := by norm_num) (hb2 := by norm_num)
    -- the constants of the cofactor bounds that follow from them
    (hc0 := by norm_num) (hc0' := by norm_num) (hc1' := by norm_num) (hc2' := by norm_num) (hcm := by norm_num)
    (hcm1 := by norm_num) (hcm2 := by norm_num) (hch := by norm_num) (hF := by norm_num)
    -- the one-dimensional inequality in `t ∈ (0, 1.0035]`
    (h1D := fun t u ht ht' hu htu => by push_cast; exact oneD_a t u q ht ht' hu hq htu)
    -- the final product
    (hnum := by norm_num)

theorem offset_far_b (q P S A s1 cc D W : ℝ)
    (hq : 0.9966 ≤ q) (hq1 : q ≤ 1) (he : 1 - q ^ 2 ≤ 0.0067) (hP : 0 < P) (hS : 0 < S)
    (hAA : A * A = q * P * (q * P) + S * S) (hAlo : 4 ≤ A) (hAhi : A ≤ 8.86)
    (hs1 : s1 = P * S * K1 A P q / 2) (hcc : cc = P ^ 2 * q * K2 A P q / 2)
    (hD : D = Real.sqrt (s1 * s1 + cc * cc)) (hW : W = Real.sqrt (q ^ 2 * (s1 * s1) + cc * cc)) :
    |(S * cc - P * s1) / D + (1 - q ^ 2) * s1 * cc / (D * W)| ≤ 2.85e-10 :=
  offset_far (X := 1 / 4) (b0 := 909 / 100) (b1 := 859 / 100) (b2 := 1111 / 100) (B1 := 30594 / 100) (B2 := 1293)
    (c0 := 1939 / 1000) (c1 := 4947 / 2500) (c2 := 1.9813) (cm := 1.9788) (ch := 527 / 250) (F := 31 / 20)
    q P S A s1 cc D W hq hq1 he hP hS hAA hAlo hAhi hs1 hcc hD hW
    -- the box in `x = 1/A`
    (hAlo1 := by norm_num) (hX0 := by norm_num) (hX := by norm_num)
    -- corner sums of the scaled remainder tables (kernel evaluation)
    (h0 := by decide +kernel) (h1 := by decide +kernel) (h2 := by decide +kernel) (h3 := by decide +kernel)
    (h3' := by decide +kernel) (h4 := by decide +kernel) (h4' := by decide +kernel)
    (hb0 := by norm_num) (hb1 := by norm_num) (hb2 := by norm_num)
    -- the constants of the cofactor bounds that follow from them
    (hc0 := by norm_num) (hc0' := by norm_num) (hc1' := by norm_num) (hc2' := by norm_num) (hcm := by norm_num)
    (hcm1 := by norm_num) (hcm2 := by norm_num) (hch := by norm_num) (hF := by norm_num)
    -- the one-dimensional inequality in `t ∈ (0, 1.0035]`
    (h1D := fun t u ht ht' hu htu => by push_cast; exact oneD_b t u q ht ht' hu hq htu)
    -- the final product
    (hnum := by norm_num)

theorem offsetBound_far : OffsetBound (fun A _ => 1.0128 ≤ A ∧ A ≤ 8.86) 2.85e-10 :=
  fun q P S A s1 cc D W hq hq1 he hP hS _ hAA hb hs1 hcc hD hW =>
    (le_or_gt 4 A).elim (fun h4 => offset_far_b q P S A s1 cc D W hq hq1 he hP hS hAA h4 hb.2 hs1 hcc hD hW)
      fun h4 => offset_far_a q P S A s1 cc D W hq hq1 he hP hS hAA hb.1 h4.le hs1 hcc hD hW

open Midgard.Geo

theorem tangentialOffset_far (E : Ellipsoid ℝ) (ha : 0 < E.a) (ha' : E.a ≤ 6378140) (he0 : 0 ≤ E.e2) (he : E.e2 ≤ 0.0067)
    (p z : ℝ) (hp : 0 < p) (hz : 0 ≤ z)
    (hAlo : 1.0128 ≤ Real.sqrt (Real.sqrt (1 - E.e2) * (p / E.a) * (Real.sqrt (1 - E.e2) * (p / E.a)) + z / E.a * (z / E.a)))
    (hAhi : Real.sqrt (Real.sqrt (1 - E.e2) * (p / E.a) * (Real.sqrt (1 - E.e2) * (p / E.a)) + z / E.a * (z / E.a)) ≤ 8.86) :
    |tangentialOffset E p z| < 2e-3 :=
  (tangentialOffset_of_bound offsetBound_far (by norm_num) E ha ha' he0 he p z hp hz ⟨hAlo, hAhi⟩).trans_lt (by norm_num)

theorem tangentialOffset_above (E : Ellipsoid ℝ) (ha : 0 < E.a) (ha' : E.a ≤ 6378140) (he0 : 0 ≤ E.e2) (he : E.e2 ≤ 0.0067)
    (p z : ℝ) (hp : 0 < p) (hz : 0 ≤ z)
    (hAlo : Real.sqrt (1 - E.e2)
      ≤ Real.sqrt (Real.sqrt (1 - E.e2) * (p / E.a) * (Real.sqrt (1 - E.e2) * (p / E.a)) + z / E.a * (z / E.a)))
    (hAhi : Real.sqrt (Real.sqrt (1 - E.e2) * (p / E.a) * (Real.sqrt (1 - E.e2) * (p / E.a)) + z / E.a * (z / E.a)) ≤ 8.86) :
    |tangentialOffset E p z| < 2e-3 := by
  -- `q ≤ A ≤ 8.86` is covered by the near region (`A ≤ q + 0.0162`) and the far region (`A > q + 0.0162 ≥ 1.0128`)
  have hcover : OffsetBound (fun A q => q ≤ A ∧ A ≤ 8.86) 2.85e-10 :=
    ((offsetBound_near.mono (fun _ _ _ h => h) (by norm_num)).union offsetBound_far).mono
      (fun A q hq h => (le_or_gt A (q + 0.0162)).imp
        (fun h' => by rw [abs_of_nonneg (sub_nonneg.2 h.1)]; linarith only [h'])
        fun h' => ⟨by linarith only [h', hq], h.2⟩) le_rfl
  exact (tangentialOffset_of_bound hcover (by norm_num) E ha ha' he0 he p z hp hz ⟨hAlo, hAhi⟩).trans_lt (by norm_num)

theorem A_range_of_height (q n η s c : ℝ) (hq : 0.9966 ≤ q) (hq1 : q ≤ 1) (hsc : s ^ 2 + c ^ 2 = 1)
    (hn0 : 0 < n) (hn : n ^ 2 * (1 - (1 - q ^ 2) * s ^ 2) = 1) (hη0 : 0 ≤ η) :
    q ≤ Real.sqrt (q * ((n + η) * c) * (q * ((n + η) * c)) + (n * q ^ 2 + η) * s * ((n * q ^ 2 + η) * s)) ∧
    Real.sqrt (q * ((n + η) * c) * (q * ((n + η) * c)) + (n * q ^ 2 + η) * s * ((n * q ^ 2 + η) * s)) ≤ q + η := by
  have hq0 : 0 < q := lt_of_lt_of_le (by norm_num) hq
  obtain ⟨hrad, hk0, hk1, hw0, hw1⟩ := radicand_eq q n η s c hq0 hq1 hsc hn0 hn
  rw [hrad]
  -- 0 ≤ Δ ≤ 2ηq + η²
  have hηk0 : 0 ≤ 2 * q * (η * (q * n)) := by positivity
  have hηk : 2 * q * (η * (q * n)) ≤ 2 * q * (η * 1) :=
    mul_le_mul_of_nonneg_left (mul_le_mul_of_nonneg_left hk1 hη0) (by positivity)
  have hη2 : η ^ 2 * (q ^ 2 * c ^ 2 + s ^ 2) ≤ η ^ 2 * 1 := mul_le_mul_of_nonneg_left hw1 (sq_nonneg η)
  have hη20 : 0 ≤ η ^ 2 * (q ^ 2 * c ^ 2 + s ^ 2) := by positivity
  constructor
  · exact Real.le_sqrt_of_sq_le (by linarith only [hηk0, hη20])
  · have h1 : q ^ 2 + (2 * q * (η * (q * n)) + η ^ 2 * (q ^ 2 * c ^ 2 + s ^ 2)) ≤ (q + η) ^ 2 := by
      rw [add_sq]
      linarith only [hηk, hη2]
    exact (Real.sqrt_le_sqrt h1).trans_eq (Real.sqrt_sq (by positivity))

theorem tangentialOffset_nonneg_height (E : Ellipsoid ℝ) (ha : 6371000 ≤ E.a) (ha' : E.a ≤ 6378140) (he0 : 0 ≤ E.e2)
    (he : E.e2 ≤ 0.0067) (s c h : ℝ) (hsc : s ^ 2 + c ^ 2 = 1) (hc : 0 < c) (hs : 0 ≤ s) (hh0 : 0 ≤ h) (hh1 : h ≤ 50000000) :
    |tangentialOffset E ((E.a / Real.sqrt (1 - E.e2 * s ^ 2) + h) * c)
        ((E.a / Real.sqrt (1 - E.e2 * s ^ 2) * (1 - E.e2) + h) * s)| < 2e-3 := by
  have ha0 : 0 < E.a := lt_of_lt_of_le (by norm_num) ha
  obtain ⟨-, hqlo, hq1⟩ := sqrt_one_sub_range he0 he
  obtain ⟨hp, hz, e1, e2, hn0, hnn⟩ := geodetic_normalised E ha he0 he s c h hsc hc hs (by linarith only [hh0])
  have hη0 : 0 ≤ h / E.a := div_nonneg hh0 ha0.le
  have hη1 : h / E.a ≤ 7.85 := by
    rw [div_le_iff₀ ha0]
    linarith only [hh1, ha]
  obtain ⟨hlo, hhi⟩ := A_range_of_height _ _ _ s c hqlo hq1 hsc hn0 hnn hη0
  exact tangentialOffset_above E ha0 ha' he0 he _ _ hp hz (by rw [e1, e2]; exact hlo)
    (by rw [e1, e2]; linarith only [hhi, hq1, hη1])

end Midgard.Geo.Acc
