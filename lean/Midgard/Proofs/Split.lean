/-
`str.split()` of a line made of blank-padded tokens (core Lean only): values with at least one blank between
them, as in the whitespace-split rows of ANTEX, SP3 and RINEX navigation files and of the writers' tables.
-/
import Midgard.Proofs.Text

namespace Midgard.Text

def Token (t : Str) : Bool := !t.isEmpty && t.all (fun c => !isSpace c)

theorem splitAux_blank_nil {ws : Str} (h : isBlank ws = true) (s : Str) :
    splitAux (ws ++ s) [] = splitAux s [] := by
  induction ws with
  | nil => rfl
  | cons c ws ih =>
    rw [isBlank_cons, Bool.and_eq_true] at h
    simp only [List.cons_append, splitAux, h.1, if_true, List.isEmpty_nil]
    exact ih h.2

theorem splitAux_token {t : Str} (h : t.all (fun c => !isSpace c) = true) (s cur : Str) :
    splitAux (t ++ s) cur = splitAux s (t.reverse ++ cur) := by
  induction t generalizing cur with
  | nil => rfl
  | cons c t ih =>
    simp only [List.all_cons, Bool.and_eq_true, Bool.not_eq_eq_eq_not, Bool.not_true] at h
    simp only [List.cons_append, splitAux, h.1, Bool.false_eq_true, if_false]
    rw [ih (by simpa using h.2)]
    simp

theorem splitAux_space_cur {c : Char} (hc : isSpace c = true) (s cur : Str) (hcur : cur ≠ []) :
    splitAux (c :: s) cur = cur.reverse :: splitAux s [] := by
  cases cur with
  | nil => exact absurd rfl hcur
  | cons d r => simp [splitAux, hc]

/-- a line of texts, each preceded by its pad (`PadsOk` says when the pads are blank and the texts tokens) -/
def padded : List (Str × Str) → Str
  | [] => []
  | (pad, tok) :: rest => pad ++ tok ++ padded rest

def PadsOk : List (Str × Str) → Bool
  | [] => true
  | (pad, tok) :: rest => isBlank pad && Token tok && rest.all (fun x => !x.1.isEmpty) && PadsOk rest

theorem token_iff {t : Str} : Token t = true ↔ t ≠ [] ∧ ∀ c ∈ t, isSpace c = false := by
  simp [Token, List.isEmpty_eq_false_iff]

theorem padsOk_cons {pad tok : Str} {rest : List (Str × Str)} :
    PadsOk ((pad, tok) :: rest) = true ↔
      isBlank pad = true ∧ Token tok = true ∧ (rest.all fun x => !x.1.isEmpty) = true ∧ PadsOk rest = true := by
  simp only [PadsOk, Bool.and_eq_true, and_assoc]

theorem token_ne_nil {t : Str} (h : Token t = true) : t ≠ [] :=
  (token_iff.mp h).1

theorem splitAux_nil {cur : Str} (h : cur ≠ []) : splitAux [] cur = [cur.reverse] := by
  cases cur with
  | nil => exact absurd rfl h
  | cons d r => rfl

theorem splitAux_pad {pad : Str} (hb : isBlank pad = true) (hne : pad ≠ []) (s cur : Str) (hcur : cur ≠ []) :
    splitAux (pad ++ s) cur = cur.reverse :: splitAux s [] := by
  cases pad with
  | nil => exact absurd rfl hne
  | cons c ws =>
    simp only [isBlank, List.all_cons, Bool.and_eq_true] at hb
    rw [List.cons_append, splitAux_space_cur hb.1 _ _ hcur, splitAux_blank_nil hb.2]

theorem split_padded_aux (l : List (Str × Str)) :
    ∀ (tok : Str), Token tok = true → PadsOk l = true → l.all (fun x => !x.1.isEmpty) = true →
      splitAux (padded l) tok.reverse = tok :: l.map (·.2) := by
  induction l with
  | nil =>
    intro tok ht _ _
    rw [padded, splitAux_nil (mt List.reverse_eq_nil_iff.mp (token_ne_nil ht)), List.reverse_reverse]
    rfl
  | cons x rest ih =>
    intro tok ht hok hne
    obtain ⟨pad, t⟩ := x
    simp only [PadsOk, Bool.and_eq_true] at hok
    obtain ⟨⟨⟨hpad, htok⟩, hrest⟩, hok'⟩ := hok
    simp only [List.all_cons, Bool.and_eq_true, Bool.not_eq_eq_eq_not, Bool.not_true] at hne
    have hpne : pad ≠ [] := by
      intro h; rw [h] at hne; simp at hne
    have ht2 := htok
    simp only [Token, Bool.and_eq_true] at ht2
    rw [padded, List.append_assoc, splitAux_pad hpad hpne _ _ (mt List.reverse_eq_nil_iff.mp (token_ne_nil ht)),
      List.reverse_reverse, splitAux_token ht2.2, List.append_nil, ih t htok hok' hrest]
    rfl

theorem split_padded (l : List (Str × Str)) (hok : PadsOk l = true) : split (padded l) = l.map (·.2) := by
  cases l with
  | nil => rfl
  | cons x rest =>
    obtain ⟨pad, t⟩ := x
    simp only [PadsOk, Bool.and_eq_true] at hok
    obtain ⟨⟨⟨hpad, htok⟩, hrest⟩, hok'⟩ := hok
    have ht2 := htok
    simp only [Token, Bool.and_eq_true] at ht2
    rw [split, padded, List.append_assoc, splitAux_blank_nil hpad, splitAux_token ht2.2, List.append_nil,
      split_padded_aux rest t htok hok' hrest]
    rfl

theorem token_clean {t : Str} (h : Token t = true) : Clean t = true :=
  Decimal.clean_of_no_space (token_iff.mp h).2

theorem splitAux_blank_end {ws : Str} (h : isBlank ws = true) : ∀ (s cur : Str), splitAux (s ++ ws) cur = splitAux s cur := by
  have hnil : ∀ {ws : Str}, isBlank ws = true → splitAux ws [] = [] := by
    intro ws h
    have := splitAux_blank_nil h []
    rw [List.append_nil] at this
    exact this
  intro s
  induction s with
  | nil =>
    intro cur
    cases cur with
    | nil => exact hnil h
    | cons d r =>
      cases ws with
      | nil => rfl
      | cons c ws' =>
        simp only [isBlank, List.all_cons, Bool.and_eq_true] at h
        rw [List.nil_append, splitAux_space_cur h.1 _ _ (List.cons_ne_nil d r), hnil h.2]
        rfl
  | cons c s ih =>
    intro cur
    simp only [List.cons_append, splitAux, ih]

theorem split_strip (s : Str) : split (strip s) = split s := by
  obtain ⟨ws1, h1, hb1⟩ := lstrip_decomp s
  obtain ⟨ws2, h2, hb2⟩ := rstrip_decomp (lstrip s)
  have hs : s = ws1 ++ (strip s ++ ws2) := by
    unfold strip
    rw [← h2]; exact h1
  conv => rhs; rw [hs]
  unfold split
  rw [splitAux_blank_nil hb1, splitAux_blank_end hb2]

theorem split_rstrip (s : Str) : split (rstrip s) = split s := by
  obtain ⟨ws, h, hb⟩ := rstrip_decomp s
  conv => rhs; rw [h]
  unfold split
  rw [splitAux_blank_end hb]

theorem rstrip_append_rjust (a : Str) (w : Nat) {t : Str} (ht : Token t = true) : rstrip (a ++ rjust w t) = a ++ rjust w t := by
  unfold rjust
  rw [← List.append_assoc]
  exact rstrip_append_of_clean (token_clean ht) (token_ne_nil ht)

/-! ### adjacent right-aligned cells -/

theorem padsOk_rjust (parts : List (Nat × Str))
    (h : ∀ p ∈ parts, p.2 ≠ [] ∧ (∀ c ∈ p.2, isSpace c = false) ∧ p.2.length < p.1) :
    PadsOk (parts.map fun p => (blanks (p.1 - p.2.length), p.2)) = true ∧
      ((parts.map fun p => (blanks (p.1 - p.2.length), p.2)).all fun x => !x.1.isEmpty) = true := by
  induction parts with
  | nil => exact ⟨rfl, rfl⟩
  | cons p ps ih =>
    obtain ⟨hne, hns, hlt⟩ := h p List.mem_cons_self
    obtain ⟨i1, i2⟩ := ih fun q hq => h q (List.mem_cons_of_mem _ hq)
    have hpad : (blanks (p.1 - p.2.length)).isEmpty = false := by
      rw [List.isEmpty_eq_false_iff, ← List.length_pos_iff, length_blanks]; omega
    exact ⟨padsOk_cons.mpr ⟨isBlank_blanks _, token_iff.mpr ⟨hne, hns⟩, i2, i1⟩,
      by rw [List.map_cons, List.all_cons, hpad, i2]; rfl⟩

theorem flatten_rjust_padded : ∀ parts : List (Nat × Str),
    (parts.map fun p => rjust p.1 p.2).flatten = padded (parts.map fun p => (blanks (p.1 - p.2.length), p.2))
  | [] => rfl
  | p :: ps => by
    rw [List.map_cons, List.map_cons, List.flatten_cons, padded, flatten_rjust_padded ps]
    rfl

/-- every cell but the first leaves a blank in front of its text -/
theorem split_rjust_cells (p : Nat × Str) (ps : List (Nat × Str)) (hp : Token p.2 = true)
    (h : ∀ q ∈ ps, q.2 ≠ [] ∧ (∀ c ∈ q.2, isSpace c = false) ∧ q.2.length < q.1) :
    split (((p :: ps).map fun q => rjust q.1 q.2).flatten) = (p :: ps).map (·.2) := by
  obtain ⟨h1, h2⟩ := padsOk_rjust ps h
  rw [flatten_rjust_padded, List.map_cons, split_padded _ (padsOk_cons.mpr ⟨isBlank_blanks _, hp, h2, h1⟩), List.map_cons,
    List.map_map]
  rfl

theorem split_head_token (pad v rest : Str) (c : Char) (hpad : isBlank pad = true) (hv : Token v = true)
    (hc : isSpace c = true) : (split (pad ++ v ++ c :: rest)).head? = some v := by
  simp only [Token, Bool.and_eq_true, Bool.not_eq_eq_eq_not, Bool.not_true] at hv
  unfold split
  rw [List.append_assoc, splitAux_blank_nil hpad, splitAux_token hv.2, List.append_nil,
    splitAux_space_cur hc _ _ (by
      intro h
      have : v = [] := by simpa using h
      simp [this] at hv)]
  simp

end Midgard.Text
