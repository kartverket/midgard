/-
C17 — Bernese STA, TYPE 002: which records the writer emits (`Model/WriterSta.lean`).  A record is a pair of consecutive record dates
at whose start the lookups of receiver, antenna and eccentricity all succeed, so the equipment it names is installed at its
start (`staRecords_sound`); the record dates are strictly ascending, so a record ends at the least record date after its start
(`pairwise_spec`); and the end of every entry is a record date, so no record outlasts the entries it names
(`to_mem_recordDates`).
-/
import Midgard.Model.WriterSta
import Midgard.Proofs.WriterCells

namespace Midgard.WriterSta
open Midgard.Writers

theorem objectForDate_sound (d : Int) (h : Hist) (e : Entry) (he : objectForDate d h = some e) :
    e ∈ h ∧ e.from_ ≤ d ∧ d < e.to_ := by
  unfold objectForDate at he
  have hm := List.mem_of_find?_eq_some he
  have hp := List.find?_some he
  simp only [Bool.and_eq_true, decide_eq_true_eq] at hp
  exact ⟨(sortBy_perm _ _).mem_iff.mp hm, hp.1, hp.2⟩

theorem objectForDate_complete (d : Int) (h : Hist) (e : Entry) (he : e ∈ h) (h1 : e.from_ ≤ d) (h2 : d < e.to_) :
    (objectForDate d h).isSome = true := by
  unfold objectForDate
  rw [List.find?_isSome]
  exact ⟨e, (sortBy_perm _ _).mem_iff.mpr he, by simp [h1, h2]⟩

theorem objectForDate_none_in_gap (d : Int) (h : Hist) (hg : ∀ e ∈ h, ¬ (e.from_ ≤ d ∧ d < e.to_)) :
    objectForDate d h = none := by
  cases ho : objectForDate d h with
  | none => rfl
  | some e =>
    obtain ⟨hm, h1, h2⟩ := objectForDate_sound d h e ho
    exact absurd ⟨h1, h2⟩ (hg e hm)

theorem mem_staRecords (sf : Bool) (rcv ant ecc : Hist) (r : Record) : r ∈ staRecords sf rcv ant ecc ↔
    (r.from_, r.to_) ∈ pairwise (recordDates sf rcv ant ecc) ∧ objectForDate r.from_ rcv = some r.rcv ∧
      objectForDate r.from_ ant = some r.ant ∧ objectForDate r.from_ ecc = some r.ecc := by
  simp only [staRecords, List.mem_filterMap]
  constructor
  · rintro ⟨p, hp, hpr⟩
    cases h1 : objectForDate p.1 rcv <;> cases h2 : objectForDate p.1 ant <;> cases h3 : objectForDate p.1 ecc <;>
      simp only [h1, h2, h3, Option.some.injEq, reduceCtorEq] at hpr
    subst hpr
    exact ⟨hp, h1, h2, h3⟩
  · rintro ⟨hp, h1, h2, h3⟩
    exact ⟨_, hp, by simp only [h1, h2, h3]⟩

theorem staRecords_sound (sf : Bool) (rcv ant ecc : Hist) (r : Record) (hr : r ∈ staRecords sf rcv ant ecc) :
    (r.rcv ∈ rcv ∧ r.rcv.from_ ≤ r.from_ ∧ r.from_ < r.rcv.to_) ∧
    (r.ant ∈ ant ∧ r.ant.from_ ≤ r.from_ ∧ r.from_ < r.ant.to_) ∧
    (r.ecc ∈ ecc ∧ r.ecc.from_ ≤ r.from_ ∧ r.from_ < r.ecc.to_) := by
  obtain ⟨_, h1, h2, h3⟩ := (mem_staRecords sf rcv ant ecc r).mp hr
  exact ⟨objectForDate_sound _ _ _ h1, objectForDate_sound _ _ _ h2, objectForDate_sound _ _ _ h3⟩

theorem staRecords_none_in_gap (sf : Bool) (rcv ant ecc : Hist) (r : Record) (hr : r ∈ staRecords sf rcv ant ecc) :
    (∃ e ∈ rcv, e.from_ ≤ r.from_ ∧ r.from_ < e.to_) ∧ (∃ e ∈ ant, e.from_ ≤ r.from_ ∧ r.from_ < e.to_) ∧
    (∃ e ∈ ecc, e.from_ ≤ r.from_ ∧ r.from_ < e.to_) := by
  obtain ⟨a, b, c⟩ := staRecords_sound sf rcv ant ecc r hr
  exact ⟨⟨_, a⟩, ⟨_, b⟩, ⟨_, c⟩⟩

theorem mem_insertDate (d x : Int) : ∀ l : List Int, x ∈ insertDate d l ↔ x = d ∨ x ∈ l
  | [] => by simp [insertDate]
  | y :: r => by
    rw [insertDate]
    split
    · simp
    · split
      · subst d; simp
      · rw [List.mem_cons, mem_insertDate d x r, List.mem_cons]; exact or_left_comm

theorem mem_sortDates (x : Int) : ∀ l : List Int, x ∈ sortDates l ↔ x ∈ l
  | [] => by simp [sortDates]
  | a :: r => by
    show x ∈ insertDate a (sortDates r) ↔ _
    rw [mem_insertDate, mem_sortDates x r, List.mem_cons]

theorem pairwise_insertDate (d : Int) : ∀ l : List Int, l.Pairwise (· < ·) → (insertDate d l).Pairwise (· < ·)
  | [], _ => List.pairwise_singleton _ _
  | y :: r, h => by
    obtain ⟨hy, hr⟩ := List.pairwise_cons.mp h
    rw [insertDate]
    split
    · refine List.pairwise_cons.mpr ⟨fun z hz => ?_, h⟩
      rcases List.mem_cons.mp hz with rfl | hz
      · assumption
      · have := hy z hz; omega
    · split
      · exact h
      · refine List.pairwise_cons.mpr ⟨fun z hz => ?_, pairwise_insertDate d r hr⟩
        rcases (mem_insertDate d z r).mp hz with rfl | hz
        · omega
        · exact hy z hz

theorem pairwise_sortDates : ∀ l : List Int, (sortDates l).Pairwise (· < ·)
  | [] => List.Pairwise.nil
  | a :: r => pairwise_insertDate a _ (pairwise_sortDates r)

/-- in an ascending list, the second of two consecutive elements is the least element above the first -/
theorem pairwise_spec : ∀ l : List Int, l.Pairwise (· < ·) → ∀ p ∈ pairwise l,
    p.1 ∈ l ∧ p.1 < p.2 ∧ ∀ x ∈ l, p.1 < x → p.2 ≤ x
  | [], _, p, hp => by cases hp
  | [_], _, p, hp => by cases hp
  | a :: b :: r, h, p, hp => by
    obtain ⟨ha, hbr⟩ := List.pairwise_cons.mp h
    rw [pairwise, List.mem_cons] at hp
    rcases hp with rfl | hp
    · refine ⟨List.mem_cons_self, ha b List.mem_cons_self, fun x hx hlt => ?_⟩
      rcases List.mem_cons.mp hx with rfl | hx
      · exact absurd hlt (Int.lt_irrefl _)
      · rcases List.mem_cons.mp hx with rfl | hx
        · exact Int.le_refl _
        · exact Int.le_of_lt ((List.pairwise_cons.mp hbr).1 x hx)
    · obtain ⟨h0, h1, h2⟩ := pairwise_spec (b :: r) hbr p hp
      refine ⟨List.mem_cons_of_mem _ h0, h1, fun x hx hlt => ?_⟩
      rcases List.mem_cons.mp hx with rfl | hx
      · have := ha p.1 h0; omega
      · exact h2 x hx hlt

theorem mem_recordDates (sf : Bool) (rcv ant ecc : Hist) (x : Int) : x ∈ recordDates sf rcv ant ecc ↔
    x ∈ eventDates sf rcv ant ecc ∨ x ∈ closingDates rcv ∨ x ∈ closingDates ant ∨ x ∈ closingDates ecc := by
  simp only [recordDates, mem_sortDates, List.mem_append, or_assoc]

theorem to_mem_recordDates (sf : Bool) (rcv ant ecc h : Hist) (e : Entry) (he : e ∈ h)
    (hstarts : ∀ x ∈ h, x.from_ ∈ eventDates sf rcv ant ecc)
    (hclose : ∀ x ∈ closingDates h, x ∈ recordDates sf rcv ant ecc) :
    e.to_ ∈ recordDates sf rcv ant ecc := by
  by_cases hs : ∃ x ∈ h, x.from_ = e.to_
  · obtain ⟨x, hx, hxe⟩ := hs
    exact hxe ▸ (mem_recordDates ..).mpr (Or.inl (hstarts x hx))
  · apply hclose
    simp only [closingDates, List.mem_map, List.mem_filter]
    refine ⟨e, ⟨he, ?_⟩, rfl⟩
    simp only [Bool.not_eq_true', List.any_eq_false, decide_eq_true_eq]
    exact fun x hx hxe => hs ⟨x, hx, hxe⟩

theorem rcvEvents_all (rcv : Hist) (former : Option Nat) (l : List Entry) :
    rcvEventsFrom false rcv former l = l.map (·.from_) := by
  induction l generalizing former with
  | nil => rfl
  | cons e r ih => simp [rcvEventsFrom, ih]

theorem from_mem_eventDates (sf : Bool) (rcv ant ecc : Hist) (x : Entry)
    (hx : x ∈ ant ∨ x ∈ ecc ∨ (sf = false ∧ x ∈ rcv)) : x.from_ ∈ eventDates sf rcv ant ecc := by
  unfold eventDates
  rw [mem_sortDates]
  simp only [List.mem_append, List.mem_map]
  rcases hx with hx | hx | ⟨rfl, hx⟩
  · exact Or.inl (Or.inl (Or.inr ⟨x, hx, rfl⟩))
  · exact Or.inl (Or.inr ⟨x, hx, rfl⟩)
  · rw [rcvEvents_all]
    exact Or.inl (Or.inl (Or.inl (List.mem_map.mpr ⟨x, hx, rfl⟩)))

end Midgard.WriterSta
