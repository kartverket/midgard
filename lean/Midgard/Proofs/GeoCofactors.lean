/-
C05 — the cofactor polynomials of the one-step (Halley) scheme `_trs2llh` (computed with sympy).

Dictionary (for a point with cylindrical coordinates `p`, `z ≥ 0` and an ellipsoid `a`, `e²`):
`q = √(1 − e²)`, `P = p/a`, `S = z/a`, `A = √(q²P² + S²)`, `e = 1 − q²` (`= e²` of the ellipsoid).  On the ellipsoid `A = q`;
`A − q` is the height-like variable (`q ≤ A ≤ q + h/a` for a height `h ≥ 0`).  The Halley step returns
`s1 = P·S·K1/2`, `cc = P²·q·K2/2` (`tan φ = s1/cc`) with the cofactors `K1`, `K2` below; `K0` is the cofactor of
`P·s1 − S·cc`, `HH` the one of the third-order identity (Proofs/GeoThirdOrder.lean); `HH` has 159 monomials and is written as a
sum of ten parts `H0 … H9` of at most 16 monomials each to keep every definition small (the parts have no meaning of their own).  After the definitions: `one_sub_sq_nonneg` (used all along the
chain) and `M_as_cofactor`.
-/
import Mathlib.Tactic.Ring
import Mathlib.Data.Real.Basic
namespace Midgard.Geo.Acc

section

/- Within this section the exponent of `^` is read as a `ℕ` at once.  Left to the default-instance pass, each exponent literal is
resolved in a round of its own over all that are still pending, so a definition elaborates quadratically in the number of its
powers; the elaborated terms are the same. -/
local macro_rules | `($x ^ $y) => `(rightact% HPow.hPow $x ($y : ℕ))

/-- `K0 K1 K2`, `H0 … H9`, `HH`: the cofactor polynomials of the Halley step (computed with sympy; checked by `ring` in `M_as_cofactor` below
and in `halley_as_cofactors`, `third_order_identity` of Proofs/GeoThirdOrder.lean) -/
noncomputable def K0 (A P q : ℝ) : ℝ := 2*A^5 - 3*A^3*P^2*q^6 + 8*A^3*P^2*q^4 - 5*A^3*P^2*q^2 + 3*A^2*P^2*q^7 - 4*A^2*P^2*q^5 + A^2*P^2*q^3 + 3*A*P^4*q^8 - 6*A*P^4*q^6 + 3*A*P^4*q^4 - P^4*q^9 + 2*P^4*q^7 - P^4*q^5
noncomputable def K1 (A P q : ℝ) : ℝ := 2*A^6*q - 2*A^5*q^2 + 2*A^5 - A^3*P^2*q^6 + 6*A^3*P^2*q^4 - 5*A^3*P^2*q^2 + A^2*P^2*q^7 - 2*A^2*P^2*q^5 + A^2*P^2*q^3 + 3*A*P^4*q^8 - 6*A*P^4*q^6 + 3*A*P^4*q^4 - P^4*q^9 + 2*P^4*q^7 - P^4*q^5
noncomputable def K2 (A P q : ℝ) : ℝ := 2*A^6 - 3*A^3*P^2*q^7 + 10*A^3*P^2*q^5 - 7*A^3*P^2*q^3 + 3*A^2*P^2*q^8 - 6*A^2*P^2*q^6 + 3*A^2*P^2*q^4 + 3*A*P^4*q^9 - 6*A*P^4*q^7 + 3*A*P^4*q^5 - P^4*q^10 + 2*P^4*q^8 - P^4*q^6
noncomputable def H0 (A P q : ℝ) : ℝ := 48*A^17*q^4 + 16*A^17*q^2 - 48*A^16*q^5 + 48*A^16*q^3 - 1400*A^12*P^4*q^9 - 2556*A^10*P^6*q^13 - 1764*A^8*P^8*q^13 - 1503*A^8*P^6*q^13 - 2478*A^6*P^8*q^17 - 1266*A^4*P^10*q^21 + P^12*q^29 - 5*P^12*q^27 + 10*P^12*q^25 - 10*P^12*q^23 + 5*P^12*q^21 - P^12*q^19
noncomputable def H1 (A P q : ℝ) : ℝ := -324*A^12*P^4*q^13 - 864*A^10*P^6*q^9 - 756*A^10*P^4*q^13 - 510*A^9*P^6*q^16 - 1260*A^8*P^8*q^17 - 842*A^8*P^6*q^17 - 549*A^7*P^8*q^14 - 810*A^7*P^6*q^16 - 648*A^6*P^10*q^17 - 553*A^6*P^8*q^21 - 425*A^6*P^8*q^13 - 882*A^5*P^10*q^18 - 966*A^5*P^8*q^20 - 651*A^5*P^8*q^16 - 801*A^4*P^10*q^17 - 566*A^3*P^10*q^20
noncomputable def H2 (A P q : ℝ) : ℝ := -288*A^14*P^2*q^5 - 136*A^11*P^4*q^10 - 180*A^10*P^6*q^17 - 216*A^10*P^4*q^9 - 155*A^9*P^6*q^10 - 144*A^9*P^4*q^16 - 144*A^9*P^4*q^12 - 162*A^7*P^8*q^18 - 165*A^7*P^6*q^20 - 297*A^5*P^10*q^22 - 150*A^4*P^8*q^19 - 270*A^3*P^12*q^22 - 135*A^3*P^12*q^18 - 251*A^3*P^10*q^24 - 135*A^2*P^12*q^25 - 270*A^2*P^12*q^21
noncomputable def H3 (A P q : ℝ) : ℝ := -64*A^15*P^2*q^6 - 64*A^15*P^2*q^4 - 108*A^14*P^2*q^9 - 120*A^13*P^4*q^10 - 84*A^13*P^2*q^10 - 108*A^12*P^2*q^9 - 129*A^7*P^6*q^12 - 108*A^6*P^10*q^21 - 108*A^6*P^10*q^13 - 90*A^6*P^6*q^19 - 117*A^5*P^10*q^14 - 93*A^4*P^10*q^25 - 75*A^4*P^8*q^23 - 63*A^3*P^10*q^16 - 70*A^2*P^10*q^23 - 90*A*P^12*q^24
noncomputable def H4 (A P q : ℝ) : ℝ := -36*A^15*P^2*q^10 - 36*A^13*P^4*q^8 - 12*A^13*P^2*q^6 - 36*A^12*P^2*q^13 - 36*A^11*P^6*q^14 - 36*A^11*P^6*q^8 - 36*A^11*P^4*q^16 - 36*A^10*P^4*q^17 - 45*A^6*P^6*q^15 - 63*A^5*P^8*q^24 - 15*A^4*P^8*q^15 - 27*A^3*P^12*q^26 - 27*A^2*P^12*q^17 - 35*A^2*P^10*q^19 - 9*A*P^12*q^28 - 45*A*P^12*q^20
noncomputable def H5 (A P q : ℝ) : ℝ := 32*A^11*P^4*q^12 - 9*A^9*P^6*q^20 + 36*A^9*P^4*q^10 + 9*A^8*P^6*q^21 - 9*A^7*P^8*q^22 + 9*A^7*P^8*q^20 + 9*A^7*P^6*q^22 - 9*A^6*P^6*q^23 + 9*A^6*P^6*q^13 + 15*A^4*P^8*q^25 + 27*A^3*P^12*q^16 + 27*A^2*P^12*q^27 - 7*A^2*P^10*q^27 + 35*A^2*P^10*q^25 + 7*A^2*P^10*q^17 + 9*A*P^12*q^18
noncomputable def H6 (A P q : ℝ) : ℝ := 36*A^14*P^2*q^11 + 36*A^13*P^2*q^12 + 60*A^13*P^2*q^8 + 36*A^12*P^4*q^15 + 36*A^12*P^2*q^7 + 36*A^11*P^6*q^12 + 36*A^11*P^6*q^10 + 72*A^11*P^4*q^14 + 68*A^11*P^4*q^8 + 36*A^9*P^4*q^18 + 57*A^6*P^8*q^23 + 45*A^6*P^6*q^21 + 45*A^5*P^10*q^24 + 47*A^3*P^10*q^26 + 70*A^2*P^10*q^21 + 45*A*P^12*q^26
noncomputable def H7 (A P q : ℝ) : ℝ := 84*A^15*P^2*q^8 + 72*A^13*P^4*q^12 + 84*A^13*P^4*q^6 + 108*A^12*P^2*q^11 + 189*A^9*P^6*q^18 + 151*A^9*P^6*q^12 + 111*A^8*P^6*q^19 + 189*A^7*P^8*q^12 + 90*A^6*P^6*q^17 + 147*A^5*P^8*q^14 + 177*A^4*P^10*q^15 + 150*A^4*P^8*q^21 + 75*A^4*P^8*q^17 + 135*A^3*P^12*q^24 + 135*A^2*P^12*q^19 + 90*A*P^12*q^22
noncomputable def H8 (A P q : ℝ) : ℝ := 360*A^14*P^2*q^7 + 324*A^10*P^4*q^15 + 334*A^9*P^6*q^14 + 216*A^9*P^4*q^14 + 252*A^8*P^8*q^19 + 504*A^8*P^8*q^11 + 455*A^8*P^6*q^11 + 522*A^7*P^8*q^16 + 525*A^7*P^6*q^14 + 432*A^6*P^10*q^19 + 432*A^6*P^10*q^15 + 513*A^5*P^10*q^16 + 399*A^5*P^8*q^22 + 270*A^3*P^12*q^20 + 299*A^3*P^10*q^18 + 270*A^2*P^12*q^23
noncomputable def H9 (A P q : ℝ) : ℝ := 980*A^12*P^4*q^11 + 708*A^12*P^4*q^7 + 1116*A^10*P^6*q^15 + 2484*A^10*P^6*q^11 + 684*A^10*P^4*q^11 + 2268*A^8*P^8*q^15 + 1770*A^8*P^6*q^15 + 570*A^7*P^6*q^18 + 1742*A^6*P^8*q^19 + 1657*A^6*P^8*q^15 + 738*A^5*P^10*q^20 + 1134*A^5*P^8*q^18 + 549*A^4*P^10*q^23 + 1434*A^4*P^10*q^19 + 534*A^3*P^10*q^22
noncomputable def HH (A P q : ℝ) : ℝ := H0 A P q + H1 A P q + H2 A P q + H3 A P q + H4 A P q + H5 A P q + H6 A P q + H7 A P q + H8 A P q + H9 A P q

end

theorem one_sub_sq_nonneg {q : ℝ} (h0 : 0 ≤ q) (h1 : q ≤ 1) : 0 ≤ 1 - q ^ 2 :=
  sub_nonneg.2 (pow_le_one₀ h0 h1)

theorem M_as_cofactor (q P S A : ℝ) :
    P * (P * S * K1 A P q / 2) - S * (P ^ 2 * q * K2 A P q / 2) = (1 - q ^ 2) * P ^ 2 * S * K0 A P q / 2 := by
  unfold K0 K1 K2
  ring

end Midgard.Geo.Acc
