/-
What the two RINEX observation parsers share (`Model/RinexObs.lean`), each part through a closed form: `appendAll` as "every
column gets what is listed under its name" (`appendAll_eq`), the flat `meta` dictionary through what a read sees after a
write, and "the keys in `P` read the same" (`MSameOn`), of which each version's protected keys are an instance.  Before them the
sampling grid in units of 10⁻⁷ s (`offGrid_units`) and the number conversions up to outer blanks; at the end `fieldsWithPrefix` on
a record of zipped names.
-/
import Midgard.Model.RinexObs
import Midgard.Proofs.ChainParser
import Midgard.Proofs.Digits

namespace Midgard.RinexObs
open Midgard.Text Midgard.FixedCol Midgard.ChainParser Midgard.Decimal

theorem int_small_zero (z : Int) (h1 : ((z : Int) : Rat) < 1/2) (h2 : -(1/2 : Rat) < ((z:Int):Rat)) : z = 0 := by
  have a1 : ((z : Int) : Rat) < ((1 : Int) : Rat) := by
    have : (1/2 : Rat) < ((1:Int):Rat) := by decide +kernel
    grind
  have a2 : (((-1 : Int)) : Rat) < ((z : Int) : Rat) := by
    have : (((-1 : Int)) : Rat) < -(1/2 : Rat) := by decide +kernel
    grind
  rw [Rat.intCast_lt_intCast] at a1 a2
  omega

theorem gridDist_units (a b k : Int) :
    ((a : Rat) / 10000000) - ((k : Int) : Rat) * ((b : Rat) / 10000000) = (((a - k * b : Int)) : Rat) / 10000000 := by
  rw [Rat.intCast_sub, Rat.intCast_mul]; grind

/-- epochs and rates that are whole multiples of 10⁻⁷ s (what RINEX prints): the sampling test keeps
the epoch exactly when it lies on the grid.  With `k` the nearest multiple, the distance is `|a - k · b|` units
(`gridDist_units`), an integer: below the margin of half a unit it is 0 (`int_small_zero`), so `b ∣ a`; conversely `a = b · m`
rounds to `k = m` and the distance is 0. -/
theorem offGrid_units (a b : Int) (hb : 0 < b) :
    offGrid ((a : Rat) / 10000000) ((b : Rat) / 10000000) = false ↔ b ∣ a := by
  have hbq : (b : Rat) ≠ 0 := by
    intro h
    have : ((b : Int) : Rat) = ((0 : Int) : Rat) := by simpa using h
    rw [Rat.intCast_inj] at this; omega
  have hq : ((a : Rat) / 10000000) / ((b : Rat) / 10000000) = (a : Rat) / (b : Rat) := by grind
  unfold offGrid gridDist
  simp only [decide_eq_false_iff_not, ge_iff_le, Rat.not_le]
  rw [hq]
  generalize hk : roundHalfEven ((a : Rat) / (b : Rat)) = k
  rw [gridDist_units]
  constructor
  · intro h
    have hz : a - k * b = 0 := by
      apply int_small_zero
      · split at h <;> grind
      · split at h <;> grind
    exact ⟨k, by rw [Int.mul_comm]; omega⟩
  · rintro ⟨m, rfl⟩
    have : ((b * m : Int) : Rat) / (b : Rat) = (m : Rat) := by
      rw [Rat.intCast_mul]; grind
    rw [this, rhe_int] at hk
    subst hk
    have e1 : ((b * m : Int) : Rat) = (b : Rat) * (m : Rat) := Rat.intCast_mul _ _
    have e2 : (((b * m - m * b : Int)) : Rat) = 0 := by
      have : b * m - m * b = 0 := by rw [Int.mul_comm]; omega
      rw [this]; rfl
    rw [e2]
    have h5 : (0 : Rat) < 5 / 100000000 := by decide +kernel
    split <;> grind

/-- `_parse_observation_epoch` (both versions) keeps the second of day of an epoch unless a sampling rate is set and the
epoch is off its grid: the handlers' `match` on the rate is the Specs' `kept` -/
theorem keptSec_eq (rate : Option Rat) (q : Rat) :
    (match rate with
      | some r => if r ≠ 0 ∧ offGrid q r then none else some q
      | none => some q) =
    if (match rate with
        | some r => !(decide (r ≠ 0) && offGrid q r)
        | none => true) = true then some q else none := by
  cases rate with
  | none => rfl
  | some r => by_cases hr : r = 0 <;> cases ho : offGrid q r <;> simp [hr, ho]

theorem floatOpt_strip (s : Str) : floatOpt (strip s) = floatOpt s := by
  unfold floatOpt
  rw [isBlank_strip, parseFloat_strip]

theorem pyInt_strip (t : Str) : pyInt (strip t) = pyInt t := by
  unfold pyInt parseInt?
  rw [strip_idem]

theorem pyFloat_strip (t : Str) : pyFloat (strip t) = pyFloat t := by
  unfold pyFloat
  rw [parseFloat_strip]

theorem pyInt_digits (v : Str) (hne : v ≠ []) (hd : allDigits v = true) : pyInt v = .ok (digitsVal v : Int) := by
  cases v with
  | nil => exact absurd rfl hne
  | cons c r =>
    have hc : isDigit c = true := isDigit_of_mem hd (by simp)
    unfold pyInt parseInt?
    rw [strip_of_allDigits hd, takeSign_of_digit hc]
    simp [parseNat?, hd, req]
    rfl

def under (l : List (Str × Option Rat)) (t : Str) : Col := (l.filter fun x => x.1 = t).map (·.2)

def appendUnder (l : List (Str × Option Rat)) (d : List (Str × Col)) : List (Str × Col) :=
  d.map fun kc => (kc.1, kc.2 ++ under l kc.1)

theorem appendUnder_appendUnder (l1 l2 : List (Str × Option Rat)) (d : List (Str × Col)) :
    appendUnder l2 (appendUnder l1 d) = appendUnder (l1 ++ l2) d := by
  simp [appendUnder, under, List.map_map, Function.comp_def, List.filter_append, List.append_assoc]

theorem colAppend_eq (d : List (Str × Col)) (t : Str) (v : Option Rat) :
    colAppend d t v = if d.any (·.1 == t) then some (appendUnder [(t, v)] d) else none := by
  unfold colAppend
  split
  · congr 1
    apply List.map_congr_left
    intro kc _
    obtain ⟨k, c⟩ := kc
    by_cases h : k = t
    · subst h; simp [under]
    · have h' : ¬ t = k := fun e => h e.symm
      simp [under, h, h']
  · rfl

def Data.hasType (d : Data) (t : Str) : Bool := d.obs.any (·.1 == t) && d.lli.any (·.1 == t) && d.snr.any (·.1 == t)

def Data.appendUnder (d : Data) (ts : List (Str × Option Rat × Option Rat × Option Rat)) : Data :=
  { d with obs := RinexObs.appendUnder (ts.map fun x => (x.1, x.2.1)) d.obs,
           lli := RinexObs.appendUnder (ts.map fun x => (x.1, x.2.2.1)) d.lli,
           snr := RinexObs.appendUnder (ts.map fun x => (x.1, x.2.2.2)) d.snr }

theorem appendObs_eq (d : Data) (t : Str) (a b c : Option Rat) :
    d.appendObs t a b c = if d.hasType t then .ok (d.appendUnder [(t, a, b, c)]) else .error .other := by
  unfold Data.appendObs Data.hasType
  rw [colAppend_eq, colAppend_eq, colAppend_eq]
  cases d.obs.any (·.1 == t) <;> cases d.lli.any (·.1 == t) <;> cases d.snr.any (·.1 == t) <;> rfl

theorem hasType_appendUnder (d : Data) (ts : List (Str × Option Rat × Option Rat × Option Rat)) (t : Str) :
    (d.appendUnder ts).hasType t = d.hasType t := by
  simp [Data.hasType, Data.appendUnder, appendUnder, List.any_map, Function.comp_def]

/-- it goes through exactly when every name is a column of the three groups (a missing one is the `KeyError`) -/
theorem appendAll_eq : ∀ (ts : List (Str × Option Rat × Option Rat × Option Rat)) (d : Data),
    appendAll d ts = if ts.all (fun x => d.hasType x.1) then .ok (d.appendUnder ts) else .error .other := by
  intro ts
  induction ts with
  | nil => intro d; simp [appendAll, Data.appendUnder, appendUnder, under, pure, Except.pure]
  | cons x ts ih =>
    intro d
    have ih' := ih (d.appendUnder [x])
    simp only [appendAll] at ih' ⊢
    rw [List.foldlM_cons, appendObs_eq, List.all_cons]
    cases hx : d.hasType x.1 with
    | false => rfl
    | true =>
      simp only [if_true, bind, Except.bind, Bool.true_and, ih', hasType_appendUnder]
      congr 2
      simp [Data.appendUnder, appendUnder_appendUnder]

theorem appendAll_ok {ts : List (Str × Option Rat × Option Rat × Option Rat)} {d d' : Data} (h : appendAll d ts = .ok d') :
    d' = d.appendUnder ts := by
  rw [appendAll_eq] at h
  split at h
  · exact (Except.ok.inj h).symm
  · simp at h

def lensOf (d : List (Str × Col)) : List (Str × Nat) := d.map fun kc => (kc.1, kc.2.length)

theorem length_under (l : List (Str × Option Rat)) (k : Str) : (under l k).length = (l.map (·.1)).count k := by
  induction l with
  | nil => rfl
  | cons x l ih =>
    by_cases h : x.1 = k
    · simp [under, List.filter_cons, h] at ih ⊢
      exact ih
    · simp [under, h, List.count_cons] at ih ⊢
      exact ih

theorem lens_appendUnder {d : List (Str × Col)} {l : List (Str × Option Rat)} {n m : Nat} (hn : ∀ kn ∈ lensOf d, kn.2 = n)
    (hc : ∀ kn ∈ lensOf d, (l.map (·.1)).count kn.1 = m) : ∀ kn ∈ lensOf (appendUnder l d), kn.2 = n + m := by
  intro kn hkn
  simp only [lensOf, appendUnder, List.map_map, List.mem_map, Function.comp] at hkn
  obtain ⟨kc, hkc, rfl⟩ := hkn
  have hmem : (kc.1, kc.2.length) ∈ lensOf d := List.mem_map.mpr ⟨kc, hkc, rfl⟩
  rw [List.length_append, length_under]
  exact congr (congrArg _ (hn _ hmem)) (hc _ hmem)

def rowCols (d : Data) : List Str × List Int × Col × List Str × List Str × List Str × List Str :=
  (d.time, d.epochFlag, d.clk, d.station, d.system, d.satellite, d.satnum)

/-- the names `_parse_observation` appends to for one record: the system's types, then the file's other types -/
theorem count_types_unused {all types : List Str} (hall : all.Nodup) (htypes : types.Nodup) (a : Str) (ha : a ∈ all) :
    (types ++ all.filter fun t => !types.contains t).count a = 1 := by
  rw [List.count_append, htypes.count]
  by_cases h : a ∈ types
  · rw [if_pos h, List.count_eq_zero.mpr (by simp [h])]
  · rw [if_neg h, List.count_filter (by simp [h]), hall.count, if_pos ha]

theorem get_filter (m : Meta) (keep : List Str × Leaf → Bool) (p : List Str)
    (hk : ∀ l, m.get p = some l → ∀ q, (q == p) = true → keep (q, l) = true) : Meta.get (m.filter keep) p = m.get p := by
  unfold Meta.get at hk ⊢
  cases hf : m.find? (·.1 == p) with
  | none => rw [Lists.find_filter_none _ _ _ hf]
  | some x =>
    have hx := List.find?_some hf
    have := hk x.2 (by rw [hf]; rfl) x.1 hx
    rw [Lists.find_filter_some _ _ _ x hf this]

theorem get_append_ne (m : Meta) (q p : List Str) (v : Leaf) (h : q ≠ p) : Meta.get (m ++ [(q, v)]) p = m.get p := by
  unfold Meta.get
  rw [List.find?_append]
  cases m.find? (·.1 == p) with
  | some x => rfl
  | none =>
    have : (q == p) = false := by simp [h]
    simp [List.find?_cons, this]

theorem get_map_ne (m : Meta) (q p : List Str) (v : Leaf) (h : q ≠ p) :
    Meta.get (m.map fun ql => if ql.1 == q then (ql.1, v) else (ql.1, ql.2)) p = m.get p := by
  unfold Meta.get
  induction m with
  | nil => rfl
  | cons a m ih =>
    obtain ⟨a1, a2⟩ := a
    by_cases ha : a1 = p
    · subst ha
      have hne : (a1 == q) = false := by simp [Ne.symm h]
      simp only [List.map_cons, hne, Bool.false_eq_true, if_false, List.find?_cons, beq_self_eq_true, Option.map_some]
    · have hb : (a1 == p) = false := by simp [ha]
      by_cases hq : a1 = q
      · simp only [List.map_cons, hq, beq_self_eq_true, if_true, List.find?_cons]
        have : (q == p) = false := by simp [h]
        simp only [this]
        rw [← hq] at ih ⊢
        simpa [hb] using ih
      · have hq' : (a1 == q) = false := by simp [hq]
        simp only [List.map_cons, hq', Bool.false_eq_true, if_false, List.find?_cons, hb]
        exact ih

/-- the hypothesis on `.empty`: `set` removes the empty-dictionary markers above the key it writes -/
theorem get_set_ne (m : Meta) (q p : List Str) (v : Leaf) (h : q ≠ p) (he : m.get p ≠ some .empty) :
    (m.set q v).get p = m.get p := by
  unfold Meta.set
  have hfl := get_filter m (fun ql => !(ql.2 == Leaf.empty && isPrefix ql.1 q && ql.1 != q)) p (by
    intro l hl q' _
    have : l ≠ Leaf.empty := fun e => he (e ▸ hl)
    simp [this])
  simp only
  split
  · have := get_map_ne (m.filter fun ql => !(ql.2 == Leaf.empty && isPrefix ql.1 q && ql.1 != q)) q p v h
    rw [← hfl, ← this]
  · rw [get_append_ne _ q p v h]
    exact hfl

theorem get_map_same (q : List Str) (v : Leaf) : ∀ (m : Meta), m.any (·.1 == q) = true →
    Meta.get (m.map fun ql => if ql.1 == q then (ql.1, v) else (ql.1, ql.2)) q = some v := by
  intro m
  unfold Meta.get
  induction m with
  | nil => intro h; simp at h
  | cons a m ih =>
    intro h
    by_cases ha : a.1 = q
    · simp [List.find?_cons, ha]
    · have hb : (a.1 == q) = false := by simp [ha]
      simp only [List.any_cons, hb, Bool.false_or] at h
      simp only [List.map_cons, hb, Bool.false_eq_true, if_false, List.find?_cons]
      exact ih h

theorem get_set_same (m : Meta) (q : List Str) (v : Leaf) : (m.set q v).get q = some v := by
  unfold Meta.set
  simp only
  split
  · rename_i h
    exact get_map_same q v _ h
  · rename_i h
    unfold Meta.get
    rw [List.find?_append]
    have hn : (m.filter fun ql => !(ql.2 == Leaf.empty && isPrefix ql.1 q && ql.1 != q)).find? (·.1 == q) = none := by
      rw [List.find?_eq_none]
      intro x hx hxq
      apply h
      rw [List.any_eq_true]
      exact ⟨x, hx, hxq⟩
    rw [hn]
    simp [List.find?_cons]

theorem get_setdefault_ne (m : Meta) (q p : List Str) (h : q ≠ p) : (m.setdefaultDict q).get p = m.get p := by
  unfold Meta.setdefaultDict
  split
  · rfl
  · exact get_append_ne m q p _ h

theorem get_del (m : Meta) (q p : List Str) (h : isPrefix q p = false) : (m.del q).get p = m.get p := by
  unfold Meta.del
  apply get_filter
  intro l _ q' hq'
  have : q' = p := by simpa using hq'
  subst this
  simp [h]

theorem get_set2 (m : Meta) (q1 q2 p : List Str) (v1 v2 : Leaf) (h1 : q1 ≠ p) (h2 : q2 ≠ p) (he : m.get p ≠ some .empty) :
    ((m.set q1 v1).set q2 v2).get p = m.get p := by
  rw [get_set_ne _ _ _ _ h2 (by rw [get_set_ne _ _ _ _ h1 he]; exact he), get_set_ne _ _ _ _ h1 he]

theorem get_del_prefix (m : Meta) (q p : List Str) (h : isPrefix q p = true) : (m.del q).get p = none := by
  unfold Meta.get Meta.del
  have : (m.filter fun x => match x with | (q', _) => !isPrefix q q').find? (·.1 == p) = none := by
    rw [List.find?_eq_none]
    intro x hx hxp
    have hx2 := (List.mem_filter.mp hx).2
    have : x.1 = p := by simpa using hxp
    obtain ⟨x1, x2⟩ := x
    simp only at this hx2
    subst this
    simp [h] at hx2
  rw [this]; rfl

/-- the keys in `P` read the same in `m'` as in `m` (empty-dictionary markers aside: a `set` below such a marker removes it) -/
def MSameOn (P : List Str → Prop) (m m' : Meta) : Prop := ∀ p, P p → m.get p ≠ some .empty → m'.get p = m.get p

namespace MSameOn
variable {P : List Str → Prop}

theorem refl (m : Meta) : MSameOn P m m := fun _ _ _ => rfl

theorem trans {a b c : Meta} (h1 : MSameOn P a b) (h2 : MSameOn P b c) : MSameOn P a c := by
  intro p hp he
  have e1 := h1 p hp he
  rw [← e1]
  exact h2 p hp (by rw [e1]; exact he)

theorem set (m : Meta) (q : List Str) (v : Leaf) (h : ∀ p, P p → q ≠ p) : MSameOn P m (m.set q v) :=
  fun p hp he => get_set_ne m q p v (h p hp) he

theorem setdefault (m : Meta) (q : List Str) (h : ∀ p, P p → q ≠ p) : MSameOn P m (m.setdefaultDict q) :=
  fun p hp _ => get_setdefault_ne m q p (h p hp)

theorem del (m : Meta) (q : List Str) (h : ∀ p, P p → isPrefix q p = false) : MSameOn P m (m.del q) :=
  fun p hp _ => get_del m q p (h p hp)

theorem foldl {α} (st : Meta → α → Meta) : ∀ (l : List α) (m : Meta), (∀ m x, x ∈ l → MSameOn P m (st m x)) →
    MSameOn P m (l.foldl st m) := by
  intro l
  induction l with
  | nil => intro m _; exact refl m
  | cons a l ih =>
    intro m h
    exact (h m a (by simp)).trans (ih _ (fun m x hx => h m x (by simp [hx])))

theorem foldl_set {α} (f : α → List Str) (g : α → Leaf) (l : List α) (m : Meta) (h : ∀ x ∈ l, ∀ p, P p → f x ≠ p) :
    MSameOn P m (l.foldl (fun m x => m.set (f x) (g x)) m) :=
  foldl _ l m fun m x hx => set m (f x) (g x) (h x hx)

/-- `_parse_float` / `_parse_integer`: the numbers read from the fields are stored under the fields' names -/
theorem numbers {β} (conv : Str → Except Err β) (leaf : β → Leaf) (v : Values) (nums : List (String × β)) (m : Meta)
    (hv : ∀ kv ∈ v, ∀ p, P p → [key kv.1] ≠ p)
    (hn : v.mapM (fun (x : String × Str) => do let q ← conv x.2; pure (x.1, q)) = .ok nums) :
    MSameOn P m (nums.foldl (fun m (x : String × β) => m.set [key x.1] (leaf x.2)) m) := by
  apply foldl_set
  intro x hx
  obtain ⟨a, ha, hf⟩ := Lists.mapM_mem hn hx
  obtain ⟨q, _, hq⟩ := bind_ok' hf
  simp only [pure, Except.pure, Except.ok.injEq] at hq
  subst hq
  exact hv a ha

theorem foldl_except {α} (step : Except Err Meta → α → Except Err Meta)
    (hstep : ∀ m x m', step (.ok m) x = .ok m' → MSameOn P m m') (herr : ∀ e x, step (.error e) x = .error e)
    (l : List α) (m0 m' : Meta) (h : l.foldl step (.ok m0) = .ok m') : MSameOn P m0 m' :=
  Lists.foldl_except_ok step (fun _ m => MSameOn P m0 m) (fun _ m x m1 hp hx => hp.trans (hstep m x m1 hx)) herr l [] m0 m'
    (refl _) h

end MSameOn

theorem key_ne_key {a b : String} (h : a ≠ b) : key a ≠ key b := fun e => h (String.toList_injective e)

theorem keyPath_ne {a b : String} (h : a ≠ b) : [key a] ≠ [key b] :=
  fun e => h (String.toList_inj.mp (List.cons.inj e).1)

/-- the field test of `fieldsWithPrefix … pre` -/
def named (pre k : String) : Bool := pre.toList.isPrefixOf k.toList

/-- ascending in Python's string order, so that `sortFields` leaves the list alone -/
def keysSorted : List String → Bool
  | a :: b :: r => leChars a.toList b.toList && keysSorted (b :: r)
  | _ => true

theorem filter_zip_all (p : String → Bool) : ∀ (K : List String) (cs : List Str), K.all p = true →
    (K.zip cs).filter (fun kv => p kv.1) = K.zip cs := by
  intro K
  induction K with
  | nil => intro cs _; rfl
  | cons k K ih =>
    intro cs h
    cases cs with
    | nil => rfl
    | cons c cs =>
      simp only [List.all_cons, Bool.and_eq_true] at h
      simp [List.filter_cons, h.1, ih cs h.2]

theorem sortFields_zip : ∀ (K : List String) (cs : List Str), keysSorted K = true → sortFields (K.zip cs) = K.zip cs := by
  intro K
  induction K with
  | nil => intro cs _; rfl
  | cons k K ih =>
    intro cs h
    cases cs with
    | nil => rfl
    | cons c cs =>
      have hK : keysSorted K = true := by
        cases K with
        | nil => rfl
        | cons k' K' => simp only [keysSorted, Bool.and_eq_true] at h; exact h.2
      have : sortFields ((k :: K).zip (c :: cs)) = insertField (k, c) (sortFields (K.zip cs)) := rfl
      rw [this, ih cs hK]
      cases K with
      | nil => rfl
      | cons k' K' =>
        cases cs with
        | nil => rfl
        | cons c' cs' =>
          simp only [keysSorted, Bool.and_eq_true] at h
          simp [insertField, h.1]

theorem fieldsWithPrefix_eq (v : Values) (pre : String) :
    fieldsWithPrefix v pre = sortFields (v.filter fun kv => named pre kv.1) := rfl

theorem fieldsWithPrefix_cons_other {pre k : String} (h : named pre k = false) (c : Str) (v : Values) :
    fieldsWithPrefix ((k, c) :: v) pre = fieldsWithPrefix v pre := by
  rw [fieldsWithPrefix_eq, fieldsWithPrefix_eq, List.filter_cons, h, if_neg Bool.false_ne_true]

theorem fieldsWithPrefix_zip (pre : String) (K : List String) (cs : List Str) (hp : K.all (named pre) = true)
    (hs : keysSorted K = true) : fieldsWithPrefix (K.zip cs) pre = K.zip cs := by
  rw [fieldsWithPrefix_eq, filter_zip_all (named pre) K cs hp, sortFields_zip K cs hs]

theorem marker_not_empty (o : Option Str) : o.map Leaf.text ≠ some Leaf.empty := by
  cases o <;> simp

end Midgard.RinexObs
