/-
Lemmas about `Midgard.Core.FixedCol` (core Lean only).  The read-back law is `slice_renderFrom_covers`: a rendered record, cut
with fields that cover its own, gives back the cell texts; `slice_renderFrom`, `slice_renderA` and `read_rendered` are the forms
in which it is used.
-/
import Midgard.Core.FixedCol
import Midgard.Proofs.Text

namespace Midgard.FixedCol
open Midgard.Text

theorem strip_pad_cell (a : Align) (w : Nat) {v : Str} (hv : Clean v = true) : strip (pad a w v) = v := by
  cases a
  · exact strip_ljust hv
  · exact strip_rjust hv

theorem strip_strip_pad (a : Align) (w : Nat) {v : Str} (hv : Clean v = true) : strip (pad a w v) = strip v := by
  rw [strip_pad_cell a w hv, strip_of_clean hv]

theorem length_pad (a : Align) {w : Nat} {v : Str} (h : v.length ≤ w) : (pad a w v).length = w := by
  cases a
  · exact length_ljust h
  · exact length_rjust h

theorem slice_rstrip (f : Field) (line : Str) : slice f (rstrip line) = slice f line :=
  strip_slice_rstrip f.start f.stop line

theorem slice_append_blank (f : Field) (line ws : Str) (h : isBlank ws = true) :
    slice f (line ++ ws) = slice f line :=
  strip_slice_append_isBlank f.start f.stop line ws h

theorem slice_short (f : Field) (line : Str) (h : line.length ≤ f.start) : slice f line = [] := by
  unfold slice sliceRaw Text.slice
  have : List.drop f.start (List.take f.stop line) = [] := by
    apply List.drop_eq_nil_of_le; simp; omega
  rw [this]; rfl

theorem slice_to_end (n : String) (s t t' : Nat) (line : Str) (h : line.length ≤ t) (h' : line.length ≤ t') :
    FixedCol.slice ⟨n, s, t⟩ line = FixedCol.slice ⟨n, s, t'⟩ line := by
  simp [FixedCol.slice, sliceRaw, Text.slice, List.take_of_length_le h, List.take_of_length_le h']

theorem renderFrom_nil (pos : Nat) (cells : List (Align × Str)) : renderFrom pos [] cells = [] := by
  cases cells <;> rfl

theorem renderFrom_cons (pos : Nat) (f : Field) (L : Layout) (a : Align) (v : Str) (cs : List (Align × Str)) :
    renderFrom pos (f :: L) ((a, v) :: cs) = blanks (f.start - pos) ++ pad a f.width v ++ renderFrom f.stop L cs := rfl

theorem fits_cons_iff {f : Field} {L : Layout} {a : Align} {v : Str} {cs : List (Align × Str)} :
    Fits (f :: L) ((a, v) :: cs) = true ↔ v.length ≤ f.width ∧ Clean v = true ∧ Fits L cs = true := by
  simp only [Fits, Bool.and_eq_true, decide_eq_true_eq, and_assoc]

@[simp] theorem fits_nil_nil : Fits [] [] = true := rfl

theorem fits_nil {cells : List (Align × Str)} (h : Fits [] cells = true) : cells = [] := by
  cases cells with
  | nil => rfl
  | cons c cs => exact absurd h Bool.false_ne_true

theorem fits_cons {f : Field} {L : Layout} {cells : List (Align × Str)} (h : Fits (f :: L) cells = true) :
    ∃ a v cs, cells = (a, v) :: cs := by
  cases cells with
  | nil => exact absurd h Bool.false_ne_true
  | cons c cs => exact ⟨c.1, c.2, cs, rfl⟩

theorem sorted_fits_cons {pos : Nat} {f : Field} {L : Layout} {a : Align} {v : Str} {cs : List (Align × Str)}
    (hs : SortedFrom pos (f :: L) = true) (hf : Fits (f :: L) ((a, v) :: cs) = true) :
    pos ≤ f.start ∧ f.start + f.width = f.stop ∧ (pad a f.width v).length = f.width ∧ Clean v = true ∧
      SortedFrom f.stop L = true ∧ Fits L cs = true := by
  simp only [SortedFrom, Fits, Bool.and_eq_true, decide_eq_true_eq] at hs hf
  exact ⟨hs.1.1, Nat.add_sub_cancel' hs.1.2, length_pad a hf.1.1, hf.1.2, hs.2, hf.2⟩

/-! ### reading a rendered record: through its own fields, or through wider ones -/

/-- every field of `P` contains the field of `L` at the same position and, besides, only columns that `L` leaves blank: from
`pos` (the end of the previous field of `L`) to the start of the next field of `L` -/
def Covers : Nat → Layout → Layout → Bool
  | _, [], [] => true
  | pos, f :: L, p :: P =>
    decide (pos ≤ p.start ∧ p.start ≤ f.start ∧ f.stop ≤ p.stop ∧ p.stop ≤ (L.head?.map (·.start)).getD f.stop) &&
    Covers f.stop L P
  | _, _, _ => false

theorem blanks_add (a b : Nat) : blanks (a + b) = blanks a ++ blanks b := by
  simp [blanks, List.replicate_append_replicate]

theorem renderFrom_lead (L : Layout) (cells : List (Align × Str)) (pos q : Nat) (hf : Fits L cells = true) (hq : pos ≤ q)
    (hle : q ≤ (L.head?.map (·.start)).getD pos) :
    renderFrom pos L cells = blanks (q - pos) ++ renderFrom q L cells := by
  match L, cells with
  | [], [] =>
    have : q - pos = 0 := by simp at hle; omega
    rw [this]; rfl
  | f :: L, (a, v) :: cs =>
    simp only [List.head?_cons, Option.map_some, Option.getD_some] at hle
    have : f.start - pos = (q - pos) + (f.start - q) := by omega
    simp only [renderFrom, this, blanks_add, List.append_assoc]
  | [], _ :: _ => simp [Fits] at hf
  | _ :: _, [] => simp [Fits] at hf

theorem strip_blanks_pad (a : Align) (w x y : Nat) {v : Str} (hv : Clean v = true) :
    strip (blanks x ++ pad a w v ++ blanks y) = v := by
  cases a
  · show strip (blanks x ++ (v ++ blanks (w - v.length)) ++ blanks y) = v
    rw [← List.append_assoc, List.append_assoc]
    exact strip_pad hv (isBlank_blanks x) (by rw [isBlank_append, isBlank_blanks, isBlank_blanks]; rfl)
  · show strip (blanks x ++ (blanks (w - v.length) ++ v) ++ blanks y) = v
    rw [← List.append_assoc]
    exact strip_pad hv (by rw [isBlank_append, isBlank_blanks, isBlank_blanks]; rfl) (isBlank_blanks y)

/-- the read-back law: each field of `P` sees its cell between blanks -/
theorem slice_renderFrom_covers (L : Layout) :
    ∀ (P : Layout) (pos : Nat) (cells : List (Align × Str)) (pre post : Str),
      SortedFrom pos L = true → Fits L cells = true → pre.length = pos → Covers pos L P = true →
      P.map (fun p => slice p (pre ++ renderFrom pos L cells ++ post)) = cells.map (·.2) := by
  induction L with
  | nil =>
    intro P pos cells pre post _ hf _ hc
    match P, cells with
    | [], [] => rfl
    | _, _ :: _ => simp [Fits] at hf
    | _ :: _, [] => simp [Covers] at hc
  | cons f L ih =>
    intro P pos cells pre post hs hf hpre hc
    match P, cells with
    | _, [] => simp [Fits] at hf
    | [], _ :: _ => simp [Covers] at hc
    | p :: P, (a, v) :: cs =>
      obtain ⟨hpos, hwid, hw, hclean, hsL, hfL⟩ := sorted_fits_cons hs hf
      simp only [Covers, Bool.and_eq_true, decide_eq_true_eq] at hc
      obtain ⟨⟨c1, c2, c3, c4⟩, hcL⟩ := hc
      simp only [List.map_cons, renderFrom, List.cons.injEq]
      constructor
      · -- the window of `p`: blanks, the padded cell, blanks
        have hgap : f.start - pos = (p.start - pos) + (f.start - p.start) := by omega
        have hline : pre ++ (blanks (f.start - pos) ++ pad a f.width v ++ renderFrom f.stop L cs) ++ post =
            (pre ++ blanks (p.start - pos)) ++ (blanks (f.start - p.start) ++ pad a f.width v ++ blanks (p.stop - f.stop)) ++
              (renderFrom p.stop L cs ++ post) := by
          rw [renderFrom_lead L cs f.stop p.stop hfL c3 c4, hgap, blanks_add]
          simp only [List.append_assoc]
        unfold slice sliceRaw
        rw [hline, slice_cell (by simp; omega) (by simp [hw]; omega)]
        exact strip_blanks_pad a _ _ _ hclean
      · have := ih P f.stop cs (pre ++ blanks (f.start - pos) ++ pad a f.width v) post hsL hfL (by simp [hw]; omega) hcL
        rw [← this]
        apply List.map_congr_left
        intro g _
        simp only [List.append_assoc]

theorem sortedFrom_mono {q pos : Nat} (h : q ≤ pos) : ∀ {L : Layout}, SortedFrom pos L = true → SortedFrom q L = true
  | [], _ => rfl
  | f :: L, hs => by
    simp only [SortedFrom, Bool.and_eq_true, decide_eq_true_eq] at hs ⊢
    exact ⟨⟨Nat.le_trans h hs.1.1, hs.1.2⟩, hs.2⟩

theorem covers_self : ∀ (L : Layout) (pos : Nat), SortedFrom pos L = true → Covers pos L L = true
  | [], _, _ => rfl
  | f :: L, pos, h => by
    simp only [SortedFrom, Bool.and_eq_true, decide_eq_true_eq] at h
    simp only [Covers, Bool.and_eq_true, decide_eq_true_eq]
    refine ⟨⟨h.1.1, Nat.le_refl _, Nat.le_refl _, ?_⟩, covers_self L f.stop h.2⟩
    -- the next field of a sorted layout starts at or after `f.stop`
    cases L with
    | nil => exact Nat.le_refl _
    | cons g L =>
      simp only [SortedFrom, Bool.and_eq_true, decide_eq_true_eq] at h
      exact h.2.1.1

theorem slice_renderFrom (L : Layout) :
    ∀ (pos : Nat) (cells : List (Align × Str)) (pre post : Str),
      SortedFrom pos L = true → Fits L cells = true → pre.length = pos →
      L.map (fun f => slice f (pre ++ renderFrom pos L cells ++ post)) = cells.map (·.2) :=
  fun pos cells pre post hs hf hpre => slice_renderFrom_covers L L pos cells pre post hs hf hpre (covers_self L pos hs)

theorem read_rendered (L P : Layout) (pos : Nat) (cells : List (Align × Str)) (pre post : Str)
    (hs : SortedFrom pos L = true) (hf : Fits L cells = true) (hpre : pre.length = pos) (hc : Covers pos L P = true) :
    P.map (fun p => slice p (rstrip (pre ++ renderFrom pos L cells ++ post))) = cells.map (·.2) := by
  simp only [slice_rstrip]
  exact slice_renderFrom_covers L P pos cells pre post hs hf hpre hc

theorem slice_renderA (L : Layout) (cells : List (Align × Str))
    (hs : Sorted L = true) (hf : Fits L cells = true) :
    L.map (fun f => slice f (renderA L cells)) = cells.map (·.2) := by
  have := slice_renderFrom L 0 cells [] [] hs hf rfl
  simpa [renderA] using this

theorem slice_renderA_rstrip (L : Layout) (cells : List (Align × Str))
    (hs : Sorted L = true) (hf : Fits L cells = true) :
    L.map (fun f => slice f (rstrip (renderA L cells))) = cells.map (·.2) := by
  have := read_rendered L L 0 cells [] [] hs hf rfl (covers_self L 0 hs)
  simpa [renderA] using this

theorem slice_render (L : Layout) (vs : List Str)
    (hs : Sorted L = true) (hf : Fits L (vs.map fun v => (Align.left, v)) = true) :
    L.map (fun f => slice f (render L vs)) = vs := by
  have := slice_renderA L _ hs hf
  simpa [render, List.map_map, Function.comp_def] using this

theorem slice_renderR (L : Layout) (vs : List Str)
    (hs : Sorted L = true) (hf : Fits L (vs.map fun v => (Align.right, v)) = true) :
    L.map (fun f => slice f (renderR L vs)) = vs := by
  have := slice_renderA L _ hs hf
  simpa [renderR, List.map_map, Function.comp_def] using this

theorem sliceAll_zip (L : Layout) (line : Str) :
    sliceAll L line = (L.map (·.name)).zip (L.map fun f => slice f line) := by
  unfold sliceAll
  induction L with
  | nil => rfl
  | cons f L ih => simp [ih]

theorem sliceAll_names (L : Layout) (line : Str) : (sliceAll L line).map (·.1) = L.map (·.name) := by
  simp [sliceAll, List.map_map, Function.comp_def]

theorem sliceAll_renderA (L : Layout) (cells : List (Align × Str))
    (hs : Sorted L = true) (hf : Fits L cells = true) :
    (sliceAll L (renderA L cells)).map (·.2) = cells.map (·.2) := by
  rw [← slice_renderA L cells hs hf]
  simp [sliceAll, List.map_map, Function.comp_def]

theorem sliceAll_labelled (L : Layout) (pos : Nat) (cells : List (Align × Str)) (pre post : Str)
    (hs : SortedFrom pos L = true) (hf : Fits L cells = true) (hpre : pre.length = pos) :
    sliceAll L (rstrip (pre ++ renderFrom pos L cells ++ post)) = (L.map (·.name)).zip (cells.map (·.2)) := by
  rw [sliceAll_zip, read_rendered L L pos cells pre post hs hf hpre (covers_self L pos hs)]

/-! ### the length of a rendered record; layouts in sequence -/

theorem length_renderFrom (L : Layout) :
    ∀ (pos : Nat) (cells : List (Align × Str)), SortedFrom pos L = true → Fits L cells = true →
      pos + (renderFrom pos L cells).length = (L.getLast?.map (·.stop)).getD pos := by
  induction L with
  | nil =>
    intro pos cells _ hf
    rw [fits_nil hf]
    rfl
  | cons f L ih =>
    intro pos cells hs hf
    obtain ⟨a, v, cs, rfl⟩ := fits_cons hf
    obtain ⟨hpos, hwid, hw, _, hsL, hfL⟩ := sorted_fits_cons hs hf
    -- the last stop of `f :: L` is the last stop of `L`, or `f.stop` when `L` is empty
    rw [List.getLast?_cons, Option.map_some, Option.getD_some, ← Option.getD_map (fun x : Field => x.stop) f, ← ih f.stop cs hsL hfL,
      renderFrom, List.length_append, List.length_append, length_blanks, hw]
    omega

theorem renderA_length_le {L : Layout} {cells : List (Align × Str)} {n : Nat}
    (hs : Sorted L = true) (hf : Fits L cells = true) (hw : Within n L = true) :
    (renderA L cells).length ≤ n := by
  have h := length_renderFrom L 0 cells hs hf
  simp only [Nat.zero_add] at h
  unfold renderA
  rw [h]
  cases hl : L.getLast? with
  | none => simp
  | some z =>
    simp only [Option.map_some, Option.getD_some]
    have hz : z ∈ L := List.mem_of_getLast? hl
    simp only [Within, List.all_eq_true, decide_eq_true_eq] at hw
    exact hw z hz

def endPos (pos : Nat) (L : Layout) : Nat := (L.getLast?.map (·.stop)).getD pos

theorem renderFrom_append : ∀ (L1 : Layout) (c1 : List (Align × Str)) (pos : Nat) (L2 : Layout) (c2 : List (Align × Str)),
    L1.length = c1.length →
    renderFrom pos (L1 ++ L2) (c1 ++ c2) = renderFrom pos L1 c1 ++ renderFrom (endPos pos L1) L2 c2 := by
  intro L1
  induction L1 with
  | nil => intro c1 pos L2 c2 h; cases c1 <;> simp_all [renderFrom, endPos]
  | cons f L1 ih =>
    intro c1 pos L2 c2 h
    cases c1 with
    | nil => simp at h
    | cons x c1 =>
      obtain ⟨a, v⟩ := x
      simp only [List.cons_append, renderFrom]
      rw [ih c1 f.stop L2 c2 (by simpa using h)]
      have : endPos f.stop L1 = endPos pos (f :: L1) := by
        cases L1 with
        | nil => rfl
        | cons g L1' =>
          have hl : (g :: L1').getLast? = some ((g :: L1').getLast (by simp)) := List.getLast?_eq_some_getLast (by simp)
          simp only [endPos, List.getLast?_cons_cons, hl, Option.map_some, Option.getD_some]
      rw [this]
      simp [List.append_assoc]

theorem renderFrom_nil_cells (pos : Nat) (L : Layout) : renderFrom pos L [] = [] := by
  cases L <;> rfl

/-! ### the characters of a rendered record -/

theorem mem_pad {a : Align} {w : Nat} {v : Str} {c : Char} (h : c ∈ pad a w v) : c = ' ' ∨ c ∈ v := by
  cases a <;> simp only [pad, ljust, rjust, blanks, List.mem_append, List.mem_replicate] at h
  · exact h.symm.imp (·.2) id
  · exact h.imp (·.2) id

theorem all_pad (P : Char → Bool) (hP : P ' ' = true) (a : Align) (w : Nat) (v : Str) (hv : v.all P = true) :
    (pad a w v).all P = true :=
  List.all_eq_true.mpr fun c hc => (mem_pad hc).elim (fun e => e ▸ hP) (List.all_eq_true.mp hv c)

theorem count_pad (c : Char) (hc : c ≠ ' ') (a : Align) (w : Nat) (v : Str) : (pad a w v).count c = v.count c := by
  have hb : ∀ n, (blanks n).count c = 0 := fun n => List.count_eq_zero.mpr fun h => hc (List.eq_of_mem_replicate h)
  cases a <;> simp [pad, ljust, rjust, List.count_append, hb]

theorem mem_renderFrom (L : Layout) : ∀ (pos : Nat) (cells : List (Align × Str)) (c : Char),
    c ∈ renderFrom pos L cells → c = ' ' ∨ ∃ cell ∈ cells, c ∈ cell.2 := by
  induction L with
  | nil => intro pos cells c h; cases cells <;> simp [renderFrom] at h
  | cons f L ih =>
    intro pos cells c h
    match cells with
    | [] => simp [renderFrom] at h
    | (a, v) :: cs =>
      simp only [renderFrom, List.mem_append] at h
      rcases h with (h | h) | h
      · exact .inl (List.mem_replicate.mp h).2
      · exact (mem_pad h).imp id fun h => ⟨(a, v), by simp, h⟩
      · exact (ih _ cs c h).imp id fun ⟨cell, hc, hcc⟩ => ⟨cell, by simp [hc], hcc⟩

theorem forall_renderFrom {P : Char → Prop} (hP : P ' ') (L : Layout) (pos : Nat) (cells : List (Align × Str))
    (h : ∀ cell ∈ cells, ∀ c ∈ cell.2, P c) : ∀ c ∈ renderFrom pos L cells, P c := by
  intro c hc
  rcases mem_renderFrom L pos cells c hc with rfl | ⟨cell, hcell, hcc⟩
  · exact hP
  · exact h cell hcell c hcc

/-! ### `widthsOfStarts`, `ofStarts`: the end column of the last field does not matter beyond the end of the line -/

theorem widthsOfStarts_length (starts : List Nat) (total : Nat) :
    (widthsOfStarts starts total).length = starts.length := by
  induction starts with
  | nil => rfl
  | cons s rest ih =>
    cases rest with
    | nil => rfl
    | cons t r => simp [widthsOfStarts, ih]

theorem ofStarts_slice_total (line : Str) (t t' : Nat) (h : line.length ≤ t) (h' : line.length ≤ t') :
    ∀ (starts : List Nat) (names : List String),
      (ofStarts names starts t).map (fun f => FixedCol.slice f line) =
      (ofStarts names starts t').map (fun f => FixedCol.slice f line) := by
  intro starts
  induction starts with
  | nil => intro names; cases names <;> simp [ofStarts]
  | cons s rest ih =>
    intro names
    cases names with
    | nil => simp [ofStarts]
    | cons n ns =>
      cases rest with
      | nil => simp only [ofStarts, List.map_cons, List.map_nil]; rw [slice_to_end n s t t' line h h']
      | cons u rest' =>
        simp only [ofStarts, List.map_cons]
        rw [ih ns]

end Midgard.FixedCol
