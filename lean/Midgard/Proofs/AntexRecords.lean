/-
The ANTEX model at record / section level: the parser's column tables against the ANTEX 1.4 layouts, the round trip of one
labelled record, the cache across the correction rows of a frequency section, and what `save_correction` / `freqCorr`
return.  The second half (`SecItem` … `valid_dates`) feeds the handlers directly and serves Props/C15 only: `file_roundtrip`
derives the accumulation of the rows again, through `parse_line` (`rows_runs` of Proofs/AntexSection.lean).
-/
import Midgard.Model.Antex
import Midgard.Spec.Antex14
import Midgard.Proofs.ChainParser
import Midgard.Proofs.Decimal

namespace Midgard.Antex.Records
open Midgard.Text Midgard.FixedCol Midgard.ChainParser Midgard.Antex Midgard.Decimal
open Midgard.Spec.Antex14 (RecSpec specs renderLabelled findLabel)

/-- every column the parser reads is a column of the ANTEX 1.4 record with that label -/
def colsInSpec (d : LabelDef) : Bool :=
  d.label == "CORRECTION" ||
  match findLabel d.label with
  | some sp => d.fields.all (fun f => sp.layout.contains f) && d.openFields.isEmpty && d.strip == .whitespace
  | none => false

theorem cols_eq_spec :
    Midgard.Generated.AntexCols.header.all colsInSpec = true ∧
    Midgard.Generated.AntexCols.records.all colsInSpec = true := by
  decide +kernel

/-- side conditions of every ANTEX 1.4 record layout, decided on the table -/
def specOk (sp : RecSpec) : Bool :=
  Sorted sp.layout && Within 60 sp.layout && decide (sp.aligns.length = sp.layout.length) &&
  Clean sp.label.toList && !sp.label.toList.isEmpty &&
  (match sp.label.toList with
   | c :: _ => isAlpha c || decide (c = '#')
   | [] => false)

/-- `specOk`, and no label contains a line end — decided together, so that the kernel reads each label once -/
theorem specs_table :
    specs.all (fun sp => specOk sp && sp.label.toList.all fun c => !Midgard.TextLines.isLineEnd c) = true := by
  decide +kernel

theorem specs_ok : specs.all specOk = true := by
  rw [List.all_eq_true]
  intro sp h
  have := List.all_eq_true.mp specs_table sp h
  rw [Bool.and_eq_true] at this
  exact this.1

theorem spec_facts {sp : RecSpec} (hsp : sp ∈ specs) :
    Sorted sp.layout = true ∧ Within 60 sp.layout = true ∧ sp.aligns.length = sp.layout.length ∧
    Clean sp.label.toList = true ∧ ∃ c r, sp.label.toList = c :: r ∧ (isAlpha c || decide (c = '#')) = true := by
  have hok := List.all_eq_true.mp specs_ok sp hsp
  simp only [specOk, Bool.and_eq_true, decide_eq_true_eq] at hok
  obtain ⟨⟨⟨⟨⟨hs, hw⟩, hal⟩, hc⟩, _⟩, hfirst⟩ := hok
  cases hl : sp.label.toList with
  | nil => simp [hl] at hfirst
  | cons c r =>
    rw [hl] at hfirst hc
    exact ⟨hs, hw, hal, hc, c, r, rfl, hfirst⟩

theorem label_of_body {sp : RecSpec} (hsp : sp ∈ specs) {body : Str} (hb : body.length = 60) :
    rstrip (body ++ sp.label.toList) = body ++ sp.label.toList ∧
    labelText (body ++ sp.label.toList) = sp.label ∧ corrLabel (body ++ sp.label.toList) = sp.label ∧
    ∀ w, Text.slice 60 (60 + w) (body ++ sp.label.toList) = sp.label.toList.take w := by
  obtain ⟨_, _, _, hc, c, rest, hl, hfirst⟩ := spec_facts hsp
  have hlt : labelText (body ++ sp.label.toList) = sp.label := by
    unfold labelText sliceFrom
    rw [List.drop_append_of_le_length (by omega), List.drop_eq_nil_of_le (by omega), List.nil_append, strip_of_clean hc]
    simp [asString]
  refine ⟨rstrip_append_of_clean hc (by rw [hl]; simp), hlt, ?_, fun w => ?_⟩
  · have h61 : Text.slice 60 61 (body ++ sp.label.toList) = [c] := by
      rw [hl, show body ++ c :: rest = body ++ [c] ++ rest by simp]
      exact slice_cell hb rfl
    unfold corrLabel
    rw [h61]
    show (if (isAlpha c || decide (c = '#')) = true then _ else _) = _
    rw [if_pos hfirst]
    exact hlt
  · rw [slice_append_right (by omega)]
    simp [hb, Text.slice]

theorem length_body {sp : RecSpec} (hsp : sp ∈ specs) {cells : List Str} (hf : Fits sp.layout (sp.aligns.zip cells) = true) :
    (ljust 60 (renderA sp.layout (sp.aligns.zip cells))).length = 60 :=
  length_ljust (renderA_length_le (spec_facts hsp).1 hf (spec_facts hsp).2.1)

theorem record_roundtrip (sp : RecSpec) (hsp : sp ∈ specs) (cells : List Str)
    (hlen : cells.length = sp.layout.length) (hf : Fits sp.layout (sp.aligns.zip cells) = true) :
    sp.layout.map (fun f => slice f (rstrip (renderLabelled sp cells))) = cells ∧
    labelText (rstrip (renderLabelled sp cells)) = sp.label ∧
    corrLabel (rstrip (renderLabelled sp cells)) = sp.label := by
  obtain ⟨hs, _, hal, _⟩ := spec_facts hsp
  have hfields := labelled_fields sp.layout (sp.aligns.zip cells) sp.label.toList hs hf
  rw [List.map_snd_zip (by omega)] at hfields
  obtain ⟨hr, hlt, hcl, _⟩ := label_of_body hsp (length_body hsp hf)
  unfold renderLabelled
  rw [hr] at hfields ⊢
  exact ⟨hfields, hlt, hcl⟩

theorem corr_skipLine (l : Str) : corrParser.skipLine l = l.isEmpty := rfl

theorem corr_label (l : Str) (n : Nat) : corrParser.label l n = corrLabel l := rfl

/-- a correction line whose first token is an azimuth and whose other tokens are the numbers `nums` -/
def IsRow (line : Str) (nums : List Rat) : Prop :=
  ∃ first rest, split line = first :: rest ∧ first ≠ "NOAZI".toList ∧
    rest.mapM (fun s => req (parseFloat s)) = .ok nums

/-- a `NOAZI` line with the numbers `nums` -/
def IsNoazi (line : Str) (nums : List Rat) : Prop :=
  ∃ rest, split line = "NOAZI".toList :: rest ∧ rest.mapM (fun s => req (parseFloat s)) = .ok nums

/-- `parse_correction` on a `values` dictionary that holds `line` (`parse_line` puts the stripped line there) -/
def corrStep (c : Cache) (line : Str) : Except Err Cache := parseCorrection [("values", line)] c

theorem req_some {α} (a : α) : req (some a) = .ok a := rfl

theorem req_ok_iff {α} (o : Option α) (v : α) : req o = .ok v ↔ o = some v := by
  cases o <;> simp [req, pure, Except.pure, throw, throwThe, MonadExceptOf.throw]

/-! ### What a handler returns, if it returns: `Post Q r`

The rules below turn `Post Q` of a `do` block into the conditions on its paths (`simp only` with them walks the block). -/

def Post {β} (Q : β → Prop) (r : Except Err β) : Prop := ∀ b, r = .ok b → Q b

theorem post_bind {α β} (Q : β → Prop) (x : Except Err α) (f : α → Except Err β) :
    Post Q (x >>= f) ↔ ∀ a, x = .ok a → Post Q (f a) := by
  cases x <;> simp [Post, bind, Except.bind]

theorem post_ite {β} (Q : β → Prop) (c : Prop) [Decidable c] (x y : Except Err β) :
    Post Q (if c then x else y) ↔ (c → Post Q x) ∧ (¬c → Post Q y) := by
  split <;> simp [*]

theorem post_pure {β} (Q : β → Prop) (v : β) : Post Q (pure v : Except Err β) ↔ Q v := by
  simp [Post, pure, Except.pure]

theorem post_throw {β} (Q : β → Prop) (e : Err) : Post Q (throw e : Except Err β) := by
  simp [Post, throw, throwThe, MonadExceptOf.throw]

theorem freqCorr_ok {c : Cache} {fc : FreqCorr} (h : freqCorr c = .ok fc) :
    ∃ n e u z, c.north = some n ∧ c.east = some e ∧ c.up = some u ∧ c.noazi = some z ∧
      fc = ⟨[mm2m n, mm2m e, mm2m u], z, c.azi⟩ := by
  revert fc
  show Post _ (freqCorr c)
  simp only [freqCorr, post_bind, post_ite, post_pure, req_ok_iff]
  intro n hn e he u hu z hz
  exact ⟨fun _ => ⟨n, e, u, z, hn, he, hu, hz, rfl⟩, fun _ => post_throw _ _⟩

theorem corrStep_row {c : Cache} {line : Str} {nums : List Rat} (h : IsRow line nums) :
    corrStep c line = .ok { c with azi := some (c.azi.getD [] ++ [nums]) } := by
  obtain ⟨first, rest, hs, hne, hm⟩ := h
  have hne' : ¬ first = ['N', 'O', 'A', 'Z', 'I'] := by simpa using hne
  simp [corrStep, parseCorrection, Values.get, req_some, hs, hm, hne', bind, Except.bind, pure, Except.pure]

theorem corrStep_noazi {c : Cache} {line : Str} {nums : List Rat} (h : IsNoazi line nums) :
    corrStep c line = .ok { c with noazi := some nums } := by
  obtain ⟨rest, hs, hm⟩ := h
  simp [corrStep, parseCorrection, Values.get, req_some, hs, hm, bind, Except.bind, pure, Except.pure]

/-- the lines of one frequency section that reach `parse_correction` -/
inductive SecItem
  | row (line : Str) (nums : List Rat)
  | noazi (line : Str) (nums : List Rat)

def SecItem.Ok : SecItem → Prop
  | .row l n => IsRow l n
  | .noazi l n => IsNoazi l n

def SecItem.line : SecItem → Str
  | .row l _ => l
  | .noazi l _ => l

def rowsOf : List SecItem → List (List Rat)
  | [] => []
  | .row _ n :: rest => n :: rowsOf rest
  | .noazi _ _ :: rest => rowsOf rest

def runSection (c : Cache) : List SecItem → Except Err Cache
  | [] => .ok c
  | i :: rest =>
    match corrStep c i.line with
    | .ok c' => runSection c' rest
    | .error e => .error e

theorem section_azi (items : List SecItem) :
    ∀ (c : Cache), (∀ i ∈ items, i.Ok) →
      ∃ c', runSection c items = .ok c' ∧
        c'.azi = (if rowsOf items = [] then c.azi else some (c.azi.getD [] ++ rowsOf items)) := by
  induction items with
  | nil => intro c _; exact ⟨c, rfl, by simp [rowsOf]⟩
  | cons i rest ih =>
    intro c hok
    have hi := hok i (by simp)
    have hrest : ∀ j ∈ rest, j.Ok := fun j hj => hok j (by simp [hj])
    cases i with
    | row l n =>
      have hstep := corrStep_row (c := c) hi
      obtain ⟨c', hrun, hazi⟩ := ih { c with azi := some (c.azi.getD [] ++ [n]) } hrest
      refine ⟨c', by simp [runSection, SecItem.line, hstep, hrun], ?_⟩
      rw [hazi]
      by_cases hr : rowsOf rest = [] <;> simp [rowsOf, hr]
    | noazi l n =>
      have hstep := corrStep_noazi (c := c) hi
      obtain ⟨c', hrun, hazi⟩ := ih { c with noazi := some n } hrest
      exact ⟨c', by simp [runSection, SecItem.line, hstep, hrun], hazi⟩

/-- The lines are fed to the handler `parse_correction` directly (`runSection`); for rendered rows going through `parse_line`
see `File.row_line`, for the rendered body of a section `File.body_runs`. -/
theorem freq_isolated (c0 : Cache) (v : Values) (items : List SecItem) (hok : ∀ i ∈ items, i.Ok) :
    ∃ c', runSection (parseStartOfFrequency v c0) items = .ok c' ∧
      c'.azi = (if rowsOf items = [] then none else some (rowsOf items)) ∧
      ∀ fc, freqCorr c' = .ok fc → fc.azi = (if rowsOf items = [] then none else some (rowsOf items)) := by
  obtain ⟨c', hrun, hazi⟩ := section_azi items (parseStartOfFrequency v c0) hok
  have h0 : (parseStartOfFrequency v c0).azi = none := rfl
  rw [h0] at hazi
  have hazi' : c'.azi = (if rowsOf items = [] then none else some (rowsOf items)) := by
    rw [hazi]; simp
  refine ⟨c', hrun, hazi', fun fc hfc => ?_⟩
  obtain ⟨_, _, _, _, _, _, _, _, rfl⟩ := freqCorr_ok hfc
  exact hazi'

theorem neu_scaled (c : Cache) (fc : FreqCorr) (h : freqCorr c = .ok fc) :
    ∃ n e u, c.north = some n ∧ c.east = some e ∧ c.up = some u ∧
      fc.neu = [n / 1000, e / 1000, u / 1000] ∧ c.noazi = some fc.noazi := by
  obtain ⟨n, e, u, z, hn, he, hu, hz, rfl⟩ := freqCorr_ok h
  exact ⟨n, e, u, hn, he, hu, by simp [mm2m], hz⟩

theorem valid_dates (mins : Int) (q : Rat) :
    ((validMicros mins q : Int) : Rat) - ((mins : Rat) * 60000000 + q * 1000000) ≤ 1 / 2 ∧
    ((mins : Rat) * 60000000 + q * 1000000) - ((validMicros mins q : Int) : Rat) ≤ 1 / 2 := by
  have h := rhe_near (q * 1000000)
  unfold validMicros secondsToMicros
  rw [Rat.intCast_add, Rat.intCast_mul]
  have : ((60000000 : Int) : Rat) = 60000000 := by simp
  rw [this]
  constructor <;> grind

end Midgard.Antex.Records
