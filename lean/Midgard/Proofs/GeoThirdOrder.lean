/-
C05 — the third-order (Halley) structure of the one-step scheme `_trs2llh` (notation of Proofs/GeoCofactors.lean): the numerator and
denominator of the Halley step are `s1 = P·S·K1/2`, `cc = P²·q·K2/2` (`halley_as_cofactors`), and the quantity whose vanishing means an
exact latitude, `(e·s1·cc)² − M²·W²`, carries the factor `(A − q)³` with the cofactor `HH` (`third_order_identity`, `third_order`).
The polynomial identities are checked by `ring` / `linear_combination`.
-/
import Midgard.Proofs.GeoCofactors
import Mathlib.Tactic.LinearCombination
import Mathlib.Tactic.NormNum
namespace Midgard.Geo.Acc

theorem third_order_identity (A P q : ℝ) :
    K0 A P q ^ 2 * (q ^ 2 * (A ^ 2 - q ^ 2 * P ^ 2) * K1 A P q ^ 2 + P ^ 2 * q ^ 2 * K2 A P q ^ 2) - q ^ 2 * K1 A P q ^ 2 * K2 A P q ^ 2
      = P ^ 2 * (A ^ 2 - q ^ 2 * P ^ 2) * (1 - q ^ 2) ^ 3 * (A - q) ^ 3 * HH A P q := by
  unfold HH H0 H1 H2 H3 H4 H5 H6 H7 H8 H9 K0 K1 K2
  ring

theorem halley_as_cofactors (q P S A e d0 f0 b0 : ℝ)
    (hAA : A * A = q * P * (q * P) + S * S) (hE : e = 1 - q ^ 2)
    (hD : d0 = q * S * (A * A * A) + e * (S * S * S))
    (hF : f0 = P * (A * A * A) - e * (q * P * (q * P) * (q * P)))
    (hB : b0 = e * e * 1.5 * (S * S) * (q * P * (q * P)) * P * (A - q)) :
    d0 * f0 - b0 * S = P * S * K1 A P q / 2 ∧ q * (f0 * f0 - b0 * (q * P)) = P ^ 2 * q * K2 A P q / 2 := by
  have h15 : (1.5 : ℝ) = 3 / 2 := by norm_num
  subst hE hD hF hB
  rw [h15]
  unfold K1 K2
  constructor
  -- both sides are polynomials; the coefficient of `hAA` is the quotient of their difference by `A·A − ((qP)² + S²)` (sympy)
  · linear_combination (A^3*P*S*q^2 - A^3*P*S + 3*A*P^3*S*q^6/2 - 3*A*P^3*S*q^4 + 3*A*P^3*S*q^2/2 - P^3*S*q^7/2 + P^3*S*q^5 - P^3*S*q^3/2) * hAA
  · linear_combination (3*A*P^4*q^8/2 - 3*A*P^4*q^6 + 3*A*P^4*q^4/2 - 3*P^4*q^9/2 + 3*P^4*q^7 - 3*P^4*q^5/2) * hAA

theorem third_order (q P S A s1 cc : ℝ) (hAA : A * A = q * P * (q * P) + S * S)
    (hs1 : s1 = P * S * K1 A P q / 2) (hcc : cc = P ^ 2 * q * K2 A P q / 2)
    (hM : P * s1 - S * cc = (1 - q ^ 2) * P ^ 2 * S * K0 A P q / 2) :
    ((1 - q ^ 2) * s1 * cc) ^ 2 - (P * s1 - S * cc) ^ 2 * (q ^ 2 * (s1 * s1) + cc * cc)
      = -((1 - q ^ 2) ^ 5 * P ^ 8 * (S * S) ^ 2 * (A - q) ^ 3 * HH A P q / 16) := by
  have hS2 : S * S = A ^ 2 - q ^ 2 * P ^ 2 := by linear_combination (-1 : ℝ) * hAA
  have key := third_order_identity A P q
  rw [hM, hs1, hcc]
  have e1 : ((1 - q ^ 2) * (P * S * K1 A P q / 2) * (P ^ 2 * q * K2 A P q / 2)) ^ 2
      - ((1 - q ^ 2) * P ^ 2 * S * K0 A P q / 2) ^ 2 *
        (q ^ 2 * (P * S * K1 A P q / 2 * (P * S * K1 A P q / 2)) + P ^ 2 * q * K2 A P q / 2 * (P ^ 2 * q * K2 A P q / 2))
      = -((1 - q ^ 2) ^ 2 * P ^ 6 * (S * S) / 16 *
          (K0 A P q ^ 2 * (q ^ 2 * (S * S) * K1 A P q ^ 2 + P ^ 2 * q ^ 2 * K2 A P q ^ 2) - q ^ 2 * K1 A P q ^ 2 * K2 A P q ^ 2)) := by
    ring
  rw [e1, hS2, key]
  ring

end Midgard.Geo.Acc
