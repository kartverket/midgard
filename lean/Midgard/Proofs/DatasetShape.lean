/-
C09 — what is said of a field tree whatever the operation: it is rectangular (`RectField`, `Rect`: every array with
everything attached has `n` rows, every field declares `n`), well-formed (`WFF`: unique names in every collection), has the
shape of another tree (`SameShape`: what `subset` and the padding operations preserve), its arrays have the kinds of their
fields (`KindsOK`).  (A collection without fields needs no special treatment: its field remembers its `num_obs`, which is
what `Collection.__len__` of the parent reads.)
-/
import Midgard.Proofs.DatasetHeap

namespace Midgard.Dataset

def Field.nonEmpty : Field → Prop
  | .leaf .. => True
  | .coll _ _ _ fs => fs ≠ []

/-- names are unique in every collection (they are dict keys) -/
def WFF : Field → Prop
  | .leaf .. => True
  | .coll _ _ _ fs => (names fs).Nodup ∧ WFFs fs
where WFFs : List Field → Prop
  | [] => True
  | c :: cs => WFF c ∧ WFFs cs

theorem WFFs_iff : ∀ (fs : List Field), WFF.WFFs fs ↔ ∀ c ∈ fs, WFF c
  | [] => by simp [WFF.WFFs]
  | c :: cs => by simp [WFF.WFFs, WFFs_iff cs]

/-- every array of the field (tree), with everything attached to it, has `n` rows, and every
field declares `n` observations -/
def RectField (h : Heap) (n : Nat) : Field → Prop
  | .leaf _ _ o no _ _ => Good h n o ∧ no = n
  | .coll _ no _ fs => RectFields fs ∧ no = n
where RectFields : List Field → Prop
  | [] => True
  | f :: fs => RectField h n f ∧ RectFields fs

mutual
theorem RectField.ext {h h' : Heap} {n : Nat} (e : HeapExt h h') : ∀ (f : Field), RectField h n f → RectField h' n f
  | .leaf _ _ o no _ _, hh => by
    simp only [RectField] at hh ⊢
    exact ⟨hh.1.ext e, hh.2⟩
  | .coll _ no _ fs, hh => by
    simp only [RectField] at hh ⊢
    exact ⟨RectFields.ext e fs hh.1, hh.2⟩
theorem RectFields.ext {h h' : Heap} {n : Nat} (e : HeapExt h h') : ∀ (fs : List Field),
    RectField.RectFields h n fs → RectField.RectFields h' n fs
  | [], _ => by simp [RectField.RectFields]
  | f :: fs, hh => by
    simp only [RectField.RectFields] at hh ⊢
    exact ⟨RectField.ext e f hh.1, RectFields.ext e fs hh.2⟩
end

mutual
theorem RectField.len {h : Heap} {n : Nat} : ∀ (f : Field), RectField h n f → Field.len h f = n
  | .leaf _ _ o _ _ _, hr => by
    simp only [RectField] at hr
    simp only [Field.len]
    exact hr.1.objLen
  | .coll _ _ _ fs, hr => by
    simp only [RectField] at hr
    simp only [Field.len]
    split
    · exact hr.2
    · rename_i hne
      exact RectFields.len fs hr.1 (by intro he; simp [he] at hne)
theorem RectFields.len {h : Heap} {n : Nat} : ∀ (fs : List Field), RectField.RectFields h n fs →
    fs ≠ [] → Field.len.lenL h fs = n
  | [], _, hd => absurd rfl hd
  | c :: cs, hr, _ => by
    simp only [RectField.RectFields] at hr
    simp only [Field.len.lenL]
    exact RectField.len c hr.1
end

/-- a dataset is a rectangular table: every field (nested ones, attached `other`/`ref_pos` objects
included) has `num_obs` rows -/
def Rect (h : Heap) (d : DS) : Prop := RectField.RectFields h d.numObs d.fields

theorem rectFields_iff {h : Heap} {n : Nat} : ∀ (fs : List Field),
    RectField.RectFields h n fs ↔ ∀ f ∈ fs, RectField h n f
  | [] => by simp [RectField.RectFields]
  | c :: cs => by simp [RectField.RectFields, rectFields_iff cs]

theorem rectField_leaf_iff {h : Heap} {n : Nat} {nm : String} {k : Kind} {o no : Nat} {u : Option (List String)} {l : Nat} :
    RectField h n (.leaf nm k o no u l) ↔ Good h n o ∧ no = n := Iff.rfl

theorem rectField_coll_iff {h : Heap} {n : Nat} {nm : String} {no l : Nat} {fs : List Field} :
    RectField h n (.coll nm no l fs) ↔ (∀ c ∈ fs, RectField h n c) ∧ no = n := by
  simp only [RectField, rectFields_iff]

theorem wff_leaf (nm : String) (k : Kind) (o no : Nat) (u : Option (List String)) (l : Nat) : WFF (.leaf nm k o no u l) :=
  trivial

theorem wff_coll_iff {nm : String} {no l : Nat} {fs : List Field} :
    WFF (.coll nm no l fs) ↔ (names fs).Nodup ∧ ∀ c ∈ fs, WFF c := by
  simp only [WFF, WFFs_iff]

theorem collRows_eq {h : Heap} {n : Nat} {nm : String} {no l : Nat} {fs : List Field}
    (hr : RectField h n (.coll nm no l fs)) : collRows h no fs = n := by
  simp only [RectField] at hr
  simp only [collRows]
  by_cases he : fs = []
  · simp [he, hr.2]
  · have : fs.isEmpty = false := by cases fs <;> simp_all
    simp only [this, Bool.false_eq_true, if_false, collLen]
    exact RectFields.len fs hr.1 he

/-- closing a collection: the `num_obs` that `subset`, the padding and `extend` give a collection field is
`CollectionField._num_rows()` of its fields -/
theorem RectFields.coll {h : Heap} {k : Nat} {nm : String} {l : Nat} {fs : List Field}
    (r : RectField.RectFields h k fs) : RectField h k (.coll nm (collRows h k fs) l fs) := by
  simp only [RectField]
  exact ⟨r, collRows_eq (nm := nm) (l := l) (no := k) (by simp only [RectField]; exact ⟨r, trivial⟩)⟩

/-- same tree of names and field kinds (what `subset` and the padding operations preserve) -/
def SameShape : Field → Field → Prop
  | .leaf n k _ _ _ _, f' => ∃ o' no' u' l', f' = .leaf n k o' no' u' l'
  | .coll n _ _ fs, f' => ∃ no' l' fs', f' = .coll n no' l' fs' ∧ SameShapes fs fs'
where SameShapes : List Field → List Field → Prop
  | [], fs' => fs' = []
  | f :: fs, fs' => ∃ f' r', fs' = f' :: r' ∧ SameShape f f' ∧ SameShapes fs r'

theorem SameShape.leaf (n : String) (k : Kind) (o no : Nat) (u : Option (List String)) (l o' no' : Nat)
    (u' : Option (List String)) (l' : Nat) : SameShape (.leaf n k o no u l) (.leaf n k o' no' u' l') :=
  ⟨o', no', u', l', rfl⟩

theorem SameShape.coll {n : String} {no l no' l' : Nat} {fs fs' : List Field} (sh : SameShape.SameShapes fs fs') :
    SameShape (.coll n no l fs) (.coll n no' l' fs') :=
  ⟨no', l', fs', rfl, sh⟩

mutual
theorem SameShape.refl : ∀ (f : Field), SameShape f f
  | .leaf .. => by simp [SameShape]
  | .coll _ _ _ fs => by simp only [SameShape]; exact ⟨_, _, _, rfl, SameShapes.refl fs⟩
theorem SameShapes.refl : ∀ (fs : List Field), SameShape.SameShapes fs fs
  | [] => by simp [SameShape.SameShapes]
  | f :: fs => by simp only [SameShape.SameShapes]; exact ⟨f, fs, rfl, SameShape.refl f, SameShapes.refl fs⟩
end

theorem SameShape.name : ∀ {f f' : Field}, SameShape f f' → f'.name = f.name
  | .leaf .., _, hh => by simp only [SameShape] at hh; obtain ⟨_, _, _, _, rfl⟩ := hh; rfl
  | .coll .., _, hh => by simp only [SameShape] at hh; obtain ⟨_, _, _, rfl, _⟩ := hh; rfl

theorem SameShapes.names : ∀ {fs fs' : List Field}, SameShape.SameShapes fs fs' → names fs' = names fs
  | [], _, hh => by simp only [SameShape.SameShapes] at hh; subst hh; rfl
  | f :: fs, _, hh => by
    simp only [SameShape.SameShapes] at hh
    obtain ⟨f', r', rfl, h1, h2⟩ := hh
    simp [Midgard.Dataset.names, h1.name]
    exact SameShapes.names h2

theorem SameShapes.nil_iff {fs fs' : List Field} (hh : SameShape.SameShapes fs fs') : fs' = [] ↔ fs = [] := by
  cases fs with
  | nil => simp [SameShape.SameShapes] at hh; simp [hh]
  | cons f fs => simp only [SameShape.SameShapes] at hh; obtain ⟨f', r', rfl, _, _⟩ := hh; simp

theorem SameShape.nonEmpty : ∀ {f f' : Field}, SameShape f f' → f.nonEmpty → f'.nonEmpty
  | .leaf .., _, hh, _ => by simp only [SameShape] at hh; obtain ⟨_, _, _, _, rfl⟩ := hh; simp [Field.nonEmpty]
  | .coll .., _, hh, hn => by
    simp only [SameShape] at hh
    obtain ⟨_, _, fs', rfl, h2⟩ := hh
    simp only [Field.nonEmpty] at hn ⊢
    exact fun he => hn ((SameShapes.nil_iff h2).mp he)

mutual
theorem SameShape.wff : ∀ (f f' : Field), SameShape f f' → WFF f → WFF f'
  | .leaf .., _, hh, _ => by simp only [SameShape] at hh; obtain ⟨_, _, _, _, rfl⟩ := hh; simp [WFF]
  | .coll _ _ _ fs, _, hh, hw => by
    simp only [SameShape] at hh
    obtain ⟨_, _, fs', rfl, h2⟩ := hh
    simp only [WFF] at hw ⊢
    exact ⟨by rw [SameShapes.names h2]; exact hw.1, SameShapes.wffs fs fs' h2 hw.2⟩
theorem SameShapes.wffs : ∀ (fs fs' : List Field), SameShape.SameShapes fs fs' → WFF.WFFs fs → WFF.WFFs fs'
  | [], _, hh, _ => by simp only [SameShape.SameShapes] at hh; subst hh; simp [WFF.WFFs]
  | f :: fs, _, hh, hw => by
    simp only [SameShape.SameShapes] at hh
    obtain ⟨f', r', rfl, h1, h2⟩ := hh
    simp only [WFF.WFFs] at hw ⊢
    exact ⟨SameShape.wff f f' h1 hw.1, SameShapes.wffs fs r' h2 hw.2⟩
end

/-- the heap object of every leaf has the kind of the field (established by `add`) -/
def KindsOK (h : Heap) : Field → Prop
  | .leaf _ k o _ _ _ => ∃ ob, h[o]? = some ob ∧ ob.kind = k
  | .coll _ _ _ fs => KindsOKs fs
where KindsOKs : List Field → Prop
  | [] => True
  | f :: fs => KindsOK h f ∧ KindsOKs fs

mutual
theorem KindsOK.ext {h h' : Heap} (e : HeapExt h h') : ∀ (f : Field), KindsOK h f → KindsOK h' f
  | .leaf _ k o _ _ _, hh => by
    simp only [KindsOK] at hh ⊢
    obtain ⟨ob, h1, h2⟩ := hh
    exact ⟨ob, e.get h1, h2⟩
  | .coll _ _ _ fs, hh => by
    simp only [KindsOK] at hh ⊢
    exact KindsOKs.ext e fs hh
theorem KindsOKs.ext {h h' : Heap} (e : HeapExt h h') : ∀ (fs : List Field), KindsOK.KindsOKs h fs → KindsOK.KindsOKs h' fs
  | [], _ => by simp [KindsOK.KindsOKs]
  | f :: fs, hh => by
    simp only [KindsOK.KindsOKs] at hh ⊢
    exact ⟨KindsOK.ext e f hh.1, KindsOKs.ext e fs hh.2⟩
end

end Midgard.Dataset
