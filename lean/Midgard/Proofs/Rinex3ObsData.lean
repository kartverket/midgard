/-
`read_data` over the data section of a rendered RINEX 3 observation file, given what the header left in the parser state
(`HdrFacts`): what one observation record adds to the columns in closed form, one epoch group, all epochs as a fold of the
rows each group adds (through `ChainParser.readData_blocks`).  `readData_block` states the step of `read_data` over a single
group in this parser's own terms; `blocks_run` does not pass through it.
-/
import Midgard.Proofs.Rinex3ObsLines
import Midgard.Proofs.RinexObsCols

namespace Midgard.Spec.Rinex3ObsFile
open Midgard.Text Midgard.FixedCol Midgard.Decimal Midgard.ChainParser Midgard.RinexObs Midgard.Rinex3Obs

/-! `look`, and below `dataOf` and `epochRows`, are the Spec's `lookup`, `expectedData` and `rows` with the type list, the rows so
far and the epochs still to come as an argument, so that the inductions over records and epochs have something to run on;
`expectedData_eq` ties `dataOf` to the Spec by `rfl`, the other two are unfolded where they meet it. -/

def look (types : List Str) (r : SatRec) (sel : Obs → Option Rat) (t : Str) : Option Rat :=
  ((types.zip r.obs).find? (·.1 == t)).bind fun x => sel x.2

def recData (d : Data) (all types : List Str) (fo fl fs : Str → Col) (r : SatRec) (e : EpochInfo) (station : Str) : Data :=
  Data.appendRow
    { d with
      obs := Cols all (fun t => fo t ++ [look types r (·.value.val) t]),
      lli := Cols all (fun t => fl t ++ [look types r (·.lli.val) t]),
      snr := Cols all (fun t => fs t ++ [look types r (·.ssi.val) t]) }
    e station (r.sat.take 1) r.sat (Text.slice 1 3 r.sat)

/-- **one record, closed form**: every column of the file gets exactly one new entry — the record's
observation for the types of its system, absent for the others — and the row-level columns one entry -/
theorem addRecord_cols (all types : List Str) (hall : all.Nodup) (htn : types.Nodup) (hsub : ∀ t ∈ types, t ∈ all)
    (r : SatRec) (hlen : types.length = r.obs.length) (station : Str) (e : EpochInfo) (s : State) (hs : s.obstypesAll = all)
    (fo fl fs : Str → Col) (ho : s.data.obs = Cols all fo) (hl : s.data.lli = Cols all fl) (hsn : s.data.snr = Cols all fs) :
    addRecord types station e r s = .ok { s with data := recData s.data all types fo fl fs r e station } := by
  unfold addRecord
  have h1 := appendAll_cols all ((types.zip r.obs).map fun to => (to.1, to.2.value.val, to.2.lli.val, to.2.ssi.val)) s.data fo fl fs ho hl hsn
    (fun x hx => hsub _ (zip_fst_mem types r.obs _ x hx))
  simp only [bind, Except.bind, h1, hs]
  have hun : ∀ x ∈ (all.filter fun t => !types.contains t).map fun t => (t, (none : Option Rat), (none : Option Rat), (none : Option Rat)),
      x.1 ∈ all := by
    intro x hx
    simp only [List.mem_map, List.mem_filter] at hx
    obtain ⟨t, ⟨ht, _⟩, rfl⟩ := hx
    exact ht
  have h2 : ∀ (fo' fl' fs' : Str → Col),
      appendAll { s.data with obs := Cols all fo', lli := Cols all fl', snr := Cols all fs' }
        ((all.filter fun t => !types.contains t).map fun t => (t, (none : Option Rat), (none : Option Rat), (none : Option Rat))) = _ :=
    fun fo' fl' fs' => appendAll_cols all _ _ fo' fl' fs' rfl rfl rfl hun
  simp only [h2, pure, Except.pure, List.map_map, Function.comp_def]
  have hund : (all.filter fun t => !types.contains t).Nodup := hall.filter _
  have col : ∀ (sel : Obs → Option Rat) (f : Str → Col),
      Cols all (fun t => (f t ++ under (List.map (fun to => (to.1, sel to.2)) (types.zip r.obs)) t) ++
        under (List.map (fun t => (t, (none : Option Rat))) (all.filter fun t => !types.contains t)) t) =
      Cols all (fun t => f t ++ [look types r sel t]) := by
    intro sel f
    refine Cols_congr fun t ht => ?_
    -- a column gets the record's value if the system has the type (first `appendAll`), `none` otherwise (second)
    rw [under_zip sel types r.obs htn hlen t, under_none_nodup _ hund t, List.append_assoc]
    by_cases hin : t ∈ types
    · simp [hin, look]
    · simp [hin, ht, look, find_zip_none hin]
  have c1 := col (·.value.val) fo
  have c2 := col (·.lli.val) fl
  have c3 := col (·.ssi.val) fs
  simp only [c1, c2, c3, recData]

/-- `ChainParser.runLines obsParser` written out; the lemmas of this file are stated with `runLines` -/
def runObs (ls : List Str) (s : State) : Except Err State :=
  ls.foldlM (fun s l => parseLine obsParser (rstrip l) 0 s) s

/-- **Group lemma for the data section.**  A group starts at its first line and runs as long as the next line
does not start with `>`: `read_data` applies the lines in order, resets the cache and starts the next group. -/
theorem readData_block : ∀ (ls : List Str) (l0 : Str) (more : List Str),
    (∀ l ∈ ls, startsWith ['>'] (l ++ ['\n']) = false) →
    (more = [] ∨ ∃ m ms, more = m :: ms ∧ startsWith ['>'] (m ++ ['\n']) = true) →
    ∀ (n : Nat) (s : State), readData headerParser obsParser resetCache (l0 :: (ls ++ more)) false n s =
      match runObs (l0 :: ls) s with
      | .error e => .error e
      | .ok s' =>
        match more with
        | [] => .ok (resetCache s')
        | _ :: _ => readData headerParser obsParser resetCache more false 0 (resetCache s') := by
  intro ls l0 more hls hmore n s
  rw [readData_block_of headerParser obsParser resetCache (startsWith ['>']) (hend := fun _ _ _ => rfl)
    (hnum := fun _ _ _ => rfl) ls l0 more hls hmore n s]
  unfold runLines runObs
  generalize List.foldlM (fun s l => parseLine obsParser (rstrip l) 0 s) s (l0 :: ls) = r
  cases r with
  | error e => rfl
  | ok s' => cases more <;> rfl

def mk (H : State) (d : Data) (c : Cache) : State := { H with data := d, cache := c }

def dataOf (hdr : List HdrRec) (rate : Option Rat) (rs : List (Epoch × SatRec)) (d0 : Data) : Data :=
  let station := lower ((markerOf hdr).getD [])
  { d0 with
    obs := Cols (allTypes hdr) fun t => rs.map fun er => lookup hdr (·.value.val) t er.2,
    lli := Cols (allTypes hdr) fun t => rs.map fun er => lookup hdr (·.lli.val) t er.2,
    snr := Cols (allTypes hdr) fun t => rs.map fun er => lookup hdr (·.ssi.val) t er.2,
    time := rs.map fun er => (info rate er.1).obsTime,
    timeMicros := rs.map fun er => (info rate er.1).micros,
    epochFlag := rs.map fun er => (info rate er.1).epochFlag,
    clk := rs.map fun er => (info rate er.1).clk,
    station := rs.map fun _ => station,
    system := rs.map fun er => er.2.sat.take 1,
    satellite := rs.map fun er => er.2.sat,
    satnum := rs.map fun er => Text.slice 1 3 er.2.sat }

theorem expectedData_eq (rate : Option Rat) (F : File) (d0 : Data) :
    expectedData rate F d0 = dataOf F.hdr rate (rows rate F) d0 := rfl

/-- what the data section needs from the header -/
structure HdrFacts (hdr : List HdrRec) (rate : Option Rat) (H : State) : Prop where
  htypes : H.obstypesAll = allTypes hdr
  hrate : H.rate = rate
  hmarker : ∃ m, markerOf hdr = some m ∧ H.metaD.get [key "marker_name"] = some (.text m)
  hsys : ∀ st ∈ sysTypes hdr, H.metaD.get [key "obstypes", st.1] = some (.list st.2)
  hdata : H.data = dataOf hdr rate [] H.data

/-- what the well-formedness test says about the type lists -/
structure TypeFacts (hdr : List HdrRec) : Prop where
  all : (allTypes hdr).Nodup
  each : ∀ st ∈ sysTypes hdr, st.2.Nodup ∧ ∀ t ∈ st.2, t ∈ allTypes hdr

theorem epochLine_starts (st : Style) (e : Epoch) : startsWith ['>'] (styled st (epochLine e) ++ ['\n']) = true := by
  obtain ⟨t, ht⟩ := epochLine_head e
  obtain ⟨t', ht'⟩ := styled_head st '>' t (by decide)
  rw [ht, ht', List.cons_append, startsWith_cons]; rfl

theorem satLine_starts (hdr : List HdrRec) (st : Style) (r : SatRec) (hr : r.wf hdr = true) :
    startsWith ['>'] (styled st (satLine r) ++ ['\n']) = false := by
  obtain ⟨c, d1, d2, _, hca, _, _, hline, _⟩ := sat_shape hdr r hr
  obtain ⟨hcs, hcgt, _⟩ := alpha_facts hca
  obtain ⟨t', ht'⟩ := styled_head st c (d1 :: d2 :: satBody r) hcs
  rw [hline, ht', List.cons_append, startsWith_cons]
  exact decide_eq_false (Ne.symm hcgt)

theorem typesOf_mem (hdr : List HdrRec) (sy : Str) (h : (sysTypes hdr).any (·.1 == sy) = true) :
    (sy, typesOf hdr sy) ∈ sysTypes hdr := by
  unfold typesOf
  cases hf : (sysTypes hdr).find? (·.1 == sy) with
  | none =>
    rw [List.find?_eq_none] at hf
    rw [List.any_eq_true] at h
    obtain ⟨x, hx, hxs⟩ := h
    exact absurd hxs (hf x hx)
  | some x =>
    have hm := List.mem_of_find?_eq_some hf
    have hb := List.find?_some hf
    simp only [beq_iff_eq] at hb
    simp only [Option.map_some, Option.getD_some]
    rw [← hb]
    exact hm

theorem sat_step (hdr : List HdrRec) (rate : Option Rat) (H : State) (hH : HdrFacts hdr rate H) (hT : TypeFacts hdr)
    (st : Style) (e : Epoch) (r : SatRec) (hr : r.wf hdr = true) (rs : List (Epoch × SatRec)) (c : Cache)
    (hc : c.epoch = some (info rate e)) :
    parseLine obsParser (rstrip (styled st (satLine r))) 0 (mk H (dataOf hdr rate rs H.data) c) =
      .ok (mk H (dataOf hdr rate (rs ++ if kept rate e then [(e, r)] else []) H.data) c) := by
  rw [rstrip_styled]
  have hwf := hr
  simp only [SatRec.wf, Bool.and_eq_true, decide_eq_true_eq] at hr
  obtain ⟨⟨⟨⟨_, hany⟩, hlen⟩, _⟩, _⟩ := hr
  have hmem := typesOf_mem hdr (r.sat.take 1) hany
  obtain ⟨m, hm1, hm2⟩ := hH.hmarker
  have hsys := hH.hsys _ hmem
  have := sat_line hdr r hwf 0 (mk H (dataOf hdr rate rs H.data) c) (info rate e) (typesOf hdr (r.sat.take 1)) m hc hsys hlen.symm hm2
  rw [this]
  by_cases hk : kept rate e = true
  · have hsec : (info rate e).obsSec = some (obsSec e) := by simp [info, hk]
    simp only [hsec, hk, if_true]
    have htf := hT.each _ hmem
    rw [addRecord_cols (allTypes hdr) (typesOf hdr (r.sat.take 1)) hT.all htf.1 htf.2 r hlen.symm (lower m) (info rate e)
      (mk H (dataOf hdr rate rs H.data) c) hH.htypes _ _ _ rfl rfl rfl]
    simp only [mk, recData, Data.appendRow, dataOf, List.map_append, List.map_cons, List.map_nil, hm1, Option.getD_some, look,
      lookup]
  · have hk' : kept rate e = false := by simpa using hk
    have hsec : (info rate e).obsSec = none := by simp [info, hk']
    simp only [hsec, hk', Bool.false_eq_true, if_false, List.append_nil]

theorem sats_run (hdr : List HdrRec) (rate : Option Rat) (H : State) (hH : HdrFacts hdr rate H) (hT : TypeFacts hdr)
    (st : Style) (e : Epoch) (c : Cache) (hc : c.epoch = some (info rate e)) :
    ∀ (sats : List SatRec) (rs : List (Epoch × SatRec)), (∀ r ∈ sats, r.wf hdr = true) →
      runLines obsParser (sats.map fun r => styled st (satLine r)) (mk H (dataOf hdr rate rs H.data) c) =
        .ok (mk H (dataOf hdr rate (rs ++ if kept rate e then sats.map (fun r => (e, r)) else []) H.data) c) := by
  intro sats
  induction sats with
  | nil => intro rs _; simp [runLines, pure, Except.pure]
  | cons r sats ih =>
    intro rs hw
    rw [List.map_cons, runLines_cons, sat_step hdr rate H hH hT st e r (hw r (by simp)) rs c hc]
    simp only
    rw [ih _ (fun r' hr' => hw r' (by simp [hr']))]
    by_cases hk : kept rate e = true
    · simp [hk, List.append_assoc]
    · have hk' : kept rate e = false := by simpa using hk
      simp [hk']

def blockTail (e : Epoch) : List Str := (e.special.map fun kc => rec kc.1 kc.2) ++ e.sats.map satLine

theorem blockLines_eq (e : Epoch) : blockLines e = epochLine e :: blockTail e := rfl

theorem specials_run (st : Style) (sp : List (String × List Str)) (s : State) (h : ∀ kc ∈ sp, specialOk kc = true) :
    runLines obsParser (sp.map fun kc => styled st (rec kc.1 kc.2)) s = .ok s := by
  apply runLines_same
  intro l hl
  obtain ⟨kc, hkc, rfl⟩ := List.mem_map.mp hl
  rw [rstrip_styled, special_line kc (h kc hkc)]

theorem epoch_parts (hdr : List HdrRec) (e : Epoch) (he : e.wf hdr = true) :
    (∀ kc ∈ e.special, specialOk kc = true) ∧ (∀ r ∈ e.sats, r.wf hdr = true) :=
  ⟨(epoch_wf hdr e he).1, (epoch_wf hdr e he).2.2.2.2.2.2.2.2.2.2.2⟩

/-- **one epoch group**: the epoch record, the special records of an event epoch (ignored) and the observation
records add one row per satellite (none when the sampling rate decimates the epoch) -/
theorem block_run (hdr : List HdrRec) (rate : Option Rat) (H : State) (hH : HdrFacts hdr rate H) (hT : TypeFacts hdr)
    (st : Style) (e : Epoch) (he : e.wf hdr = true) (rs : List (Epoch × SatRec)) :
    runLines obsParser (styled st (epochLine e) :: (blockTail e).map (styled st)) (mk H (dataOf hdr rate rs H.data) {}) =
      .ok (mk H (dataOf hdr rate (rs ++ if kept rate e then e.sats.map (fun r => (e, r)) else []) H.data)
        { epoch := some (info rate e) }) := by
  obtain ⟨hsp, hsats⟩ := epoch_parts hdr e he
  rw [runLines_cons, rstrip_styled, epoch_line hdr e he]
  simp only
  have hst : ({ (mk H (dataOf hdr rate rs H.data) {}) with
      cache := { (mk H (dataOf hdr rate rs H.data) {}).cache with
        epoch := some (info (mk H (dataOf hdr rate rs H.data) {}).rate e) } } : State) =
      mk H (dataOf hdr rate rs H.data) { epoch := some (info rate e) } := by
    have hrate : (mk H (dataOf hdr rate rs H.data) {}).rate = rate := hH.hrate
    rw [hrate]; rfl
  rw [hst]
  simp only [blockTail, List.map_append, List.map_map, Function.comp_def]
  rw [runLines_append, specials_run st e.special _ hsp]
  exact sats_run hdr rate H hH hT st e { epoch := some (info rate e) } rfl e.sats rs hsats

def epochRows (rate : Option Rat) (eps : List Epoch) : List (Epoch × SatRec) :=
  (eps.filter (kept rate)).flatMap fun e => e.sats.map fun r => (e, r)

theorem blocks_run (hdr : List HdrRec) (rate : Option Rat) (H : State) (hH : HdrFacts hdr rate H) (hT : TypeFacts hdr)
    (st : Style) (eps : List Epoch) (rs : List (Epoch × SatRec)) (hw : ∀ e ∈ eps, e.wf hdr = true) :
    readData headerParser obsParser resetCache ((eps.flatMap blockLines).map (styled st)) false 0
        (mk H (dataOf hdr rate rs H.data) {}) =
      .ok (mk H (dataOf hdr rate (rs ++ epochRows rate eps) H.data) {}) := by
  have hl : (eps.flatMap blockLines).map (styled st) =
      eps.flatMap fun e => styled st (epochLine e) :: (blockTail e).map (styled st) := by
    simp [List.map_flatMap, blockLines_eq]
  rw [hl, readData_blocks headerParser obsParser resetCache (startsWith ['>']) (hend := fun _ _ _ => rfl)
    (hnum := fun _ _ _ => rfl)
    (fun e => styled st (epochLine e)) (fun e => (blockTail e).map (styled st))
    (fun rs => mk H (dataOf hdr rate rs H.data) {})
    (fun e rs => rs ++ if kept rate e then e.sats.map (fun r => (e, r)) else []) eps rs,
    Lists.foldl_append_flatMap, epochRows, Lists.flatMap_filter]
  · intro e he
    obtain ⟨hsp, hsats⟩ := epoch_parts hdr e (hw e he)
    refine ⟨epochLine_starts st e, fun l hl => ?_⟩
    simp only [blockTail, List.map_append, List.map_map, List.mem_append, List.mem_map, Function.comp] at hl
    rcases hl with ⟨kc, hkc, rfl⟩ | ⟨r, hr, rfl⟩
    · exact special_starts st kc (hsp kc hkc)
    · exact satLine_starts hdr st r (hsats r hr)
  · intro e he rs
    exact ⟨_, block_run hdr rate H hH hT st e (hw e he) rs, rfl⟩

end Midgard.Spec.Rinex3ObsFile
