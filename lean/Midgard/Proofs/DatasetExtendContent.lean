/-
C09 — `extend` over field trees: padding `n` rows by `k` gives a rectangular tree of `n + k` rows of the same shape,
`Collection._extend` of `n` rows by `m` rows a rectangular, well-formed tree of `n + m` rows; and, for the plain array kinds
(bool, float, text, at any nesting depth), the heap/memo model refines the heap-free list-of-records `extend` of
`Model/DatasetRecords.lean`.  In the loop over the other collection the row counts come through `loop1_induct`, the content
(`loop1_abs`) is a simulation of the list-of-records loop, step by step.
-/
import Midgard.Proofs.DatasetExtendLeaf
import Midgard.Proofs.DatasetExtendLoop

namespace Midgard.Dataset

theorem absFields_eq_map (h : Heap) : ∀ (fs : List Field), absField.absFields h fs = fs.map (absField h)
  | [] => rfl
  | f :: fs => by simp [absField.absFields, absFields_eq_map h fs]

theorem absField_name (h : Heap) : ∀ (f : Field), (absField h f).name = f.name
  | .leaf n k o no u l => by
    simp only [absField]
    split <;> rfl
  | .coll .. => rfl

theorem aNames_abs (h : Heap) (fs : List Field) : aNames (absField.absFields h fs) = names fs := by
  simp [aNames, names, absFields_eq_map, absField_name]

theorem aGet_abs (h : Heap) : ∀ (fs : List Field) (n : String),
    aGet (absField.absFields h fs) n = (getField fs n).map (absField h)
  | [], n => by simp [aGet, getField, absField.absFields]
  | f :: fs, n => by
    have ih := aGet_abs h fs n
    simp only [aGet, getField, absField.absFields, List.find?_cons, absField_name] at ih ⊢
    split
    · rfl
    · exact ih

theorem aSet_abs (h : Heap) : ∀ (acc : List Field) (f : Field),
    absField.absFields h (setField acc f) = aSet (absField.absFields h acc) (absField h f)
  | [], f => by simp [setField, aSet, absField.absFields]
  | g :: gs, f => by
    simp only [setField, absField.absFields, aSet, absField_name]
    split
    · simp [absField.absFields]
    · simp [absField.absFields, aSet_abs h gs f]

mutual
theorem absField_ext {h h' : Heap} {n : Nat} (e : HeapExt h h') : ∀ (f : Field), RectField h n f →
    absField h' f = absField h f
  | .leaf nm k o no u l, hr => by
    obtain ⟨ob, h1, _⟩ := (rectField_leaf_iff.mp hr).1.dest
    rw [absField_leaf h1, absField_leaf (e.get h1)]
  | .coll nm no l fs, hr => by
    simp only [RectField] at hr
    simp only [absField, absFields_ext e fs hr.1]
theorem absFields_ext {h h' : Heap} {n : Nat} (e : HeapExt h h') : ∀ (fs : List Field), RectField.RectFields h n fs →
    absField.absFields h' fs = absField.absFields h fs
  | [], _ => rfl
  | f :: fs, hr => by
    simp only [RectField.RectFields] at hr
    simp only [absField.absFields, absField_ext e f hr.1, absFields_ext e fs hr.2]
end

theorem aPad_zero (front : Bool) : ∀ (f : AField), aPad front 0 f = f
  | .leaf .. => by simp [aPad]
  | .coll n l fs => by
    simp only [aPad]
    congr
    exact aPads_zero front fs
where aPads_zero (front : Bool) : ∀ (fs : List AField), aPad.aPads front 0 fs = fs
  | [] => rfl
  | f :: fs => by simp [aPad.aPads, aPad_zero front f, aPads_zero front fs]

/-! `FieldType.prepend_empty` / `append_empty`: row counts, shape and (plain columns) content in one induction over the field
tree. -/
mutual
theorem padField_full (front : Bool) (n k : Nat) : ∀ (f : Field) (s : St) (f' : Field) (s' : St),
    padField front k f s = .ok (f', s') → MemoGood (n + k) s → RectField s.heap n f →
    (ExtOK (n + k) s s' ∧ RectField s'.heap (n + k) f' ∧ SameShape f f') ∧
      (f.plain = true → absField s'.heap f' = aPad front k (absField s.heap f))
  | .leaf nm kd o no u l, s, f', s', h, hm, hr => by
    obtain ⟨ob, o', hob, _, rfl, hop⟩ := padLeaf_ok h
    rw [rectField_leaf_iff] at hr
    have go := hr.1
    refine ⟨?_, fun hp => ?_⟩
    · have key : ExtOK (n + k) s s' ∧ Good s'.heap (n + k) o' := by
        rcases hop with ⟨_, hins⟩ | ⟨_, _, e, s1, rfl, hins, rfl⟩ | ⟨_, er, e, s1, her, he, hins, rfl⟩
        · exact insertPlain_spec hins hm go (by simp)
        · have e0 := HeapExt.alloc s (emptyObj kd ob.ndim ob.cols k)
          obtain ⟨⟨e2, m2⟩, g2⟩ := insertObj_spec n k _ o _ _ _ o' s1 hins (hm.alloc _) (go.ext e0) (good_empty s _ _ _ _)
          exact ⟨⟨e0.trans e2, m2.pop⟩, g2⟩
        · -- an empty delta `e` on an empty reference position `er`
          have e0 := HeapExt.alloc s er
          have e1 := HeapExt.alloc (s.alloc er).2 e
          have ger : Good (s.alloc er).2.heap k s.heap.length := by
            rw [her]
            exact good_empty s _ _ _ _
          have ge : Good ((s.alloc er).2.alloc e).2.heap k (s.alloc er).2.heap.length :=
            Good.mk (alloc_get _ _) (by simp [he, emptyObj]) (fun x _ hx => by simp [he, emptyObj] at hx)
              (fun x _ hx => by
                have : x = s.heap.length := by simpa [he, eq_comm] using hx
                rw [this]
                exact ger.ext e1)
          obtain ⟨⟨e2, m2⟩, g2⟩ := insertObj_spec n k _ o _ _ _ o' s1 hins ((hm.alloc _).alloc _) ((go.ext e0).ext e1) ge
          exact ⟨⟨(e0.trans e1).trans e2, m2.pop.pop⟩, g2⟩
      exact ⟨key.1, leaf_rect_of_good key.2, SameShape.leaf ..⟩
    · obtain ⟨ob0, hb1, hb2, _, _⟩ := go.dest
      rw [hob] at hb1; cases hb1
      have hpl : kd.isPlain = true := hp
      rcases hop with ⟨_, hins⟩ | ⟨hnp, _⟩ | ⟨hd, _⟩
      · obtain ⟨oa, orr, q1, q2, q3, _, q5, q6⟩ := insertPlain_rows hins
        rw [hob] at q1; cases q1
        rw [absField_leaf q2, absField_leaf hob]
        simp only [aPad, q5, q6, q3]
        congr 1
        cases front with
        | true => exact insertAt_zero _ _
        | false => rw [hr.2, ← hb2]; exact insertAt_end _ _
      · rw [hpl] at hnp; cases hnp
      · rw [Kind.not_plain_of_delta hd] at hpl; cases hpl
  | .coll nm no l fs, s, f', s', h, hm, hr => by
    simp only [padField] at h
    split at h
    · simp at h
    · rename_i fs' s1 hr1
      simp only [Except.ok.injEq, Prod.mk.injEq] at h
      obtain ⟨rfl, rfl⟩ := h
      simp only [RectField] at hr
      obtain ⟨⟨e, r1, sh⟩, ab⟩ := padFields_full front n k fs s fs' s1 hr1 hm hr.1
      refine ⟨⟨e, ?_, SameShape.coll sh⟩, fun hp => ?_⟩
      · rw [hr.2]
        exact RectFields.coll r1
      · simp only [absField, aPad]
        congr 1
        exact ab (by simpa [Field.plain] using hp)
theorem padFields_full (front : Bool) (n k : Nat) : ∀ (fs : List Field) (s : St) (fs' : List Field) (s' : St),
    padField.padFields front k fs s = .ok (fs', s') → MemoGood (n + k) s → RectField.RectFields s.heap n fs →
    (ExtOK (n + k) s s' ∧ RectField.RectFields s'.heap (n + k) fs' ∧ SameShape.SameShapes fs fs') ∧
      (Field.plain.plainL fs = true →
        absField.absFields s'.heap fs' = aPad.aPads front k (absField.absFields s.heap fs))
  | [], s, fs', s', h, hm, _ => by
    cases h.symm
    exact ⟨⟨⟨HeapExt.refl _, hm⟩, by simp [RectField.RectFields], by simp [SameShape.SameShapes]⟩, fun _ => rfl⟩
  | f :: fs, s, fs', s', h, hm, hr => by
    simp only [padField.padFields] at h
    split at h
    · simp at h
    · rename_i f1 s1 h1
      split at h
      · simp at h
      · rename_i fs1 s2 h2
        simp only [Except.ok.injEq, Prod.mk.injEq] at h
        obtain ⟨rfl, rfl⟩ := h
        simp only [RectField.RectFields] at hr
        obtain ⟨⟨⟨e1, m1⟩, r1, sh1⟩, a1⟩ := padField_full front n k f s f1 s1 h1 hm hr.1
        obtain ⟨⟨⟨e2, m2⟩, r2, sh2⟩, a2⟩ := padFields_full front n k fs s1 fs1 s2 h2 m1 (RectFields.ext e1 fs hr.2)
        refine ⟨⟨⟨e1.trans e2, m2⟩, ?_, ?_⟩, fun hp => ?_⟩
        · simp only [RectField.RectFields]; exact ⟨RectField.ext e2 f1 r1, r2⟩
        · simp only [SameShape.SameShapes]; exact ⟨f1, fs1, rfl, sh1, sh2⟩
        · simp only [Field.plain.plainL, Bool.and_eq_true] at hp
          simp only [absField.absFields, aPad.aPads]
          rw [absField_ext e2 f1 r1, a1 hp.1, a2 hp.2, absFields_ext e1 fs hr.2]
end

theorem padField_spec (front : Bool) (n k : Nat) : ∀ (f : Field) (s : St) (f' : Field) (s' : St),
    padField front k f s = .ok (f', s') → MemoGood (n + k) s → RectField s.heap n f → WFF f →
    ExtOK (n + k) s s' ∧ RectField s'.heap (n + k) f' ∧ SameShape f f' :=
  fun f s f' s' h hm hr _ => (padField_full front n k f s f' s' h hm hr).1

theorem padField_abs (front : Bool) (n k : Nat) : ∀ (f : Field) (s : St) (f' : Field) (s' : St),
    padField front k f s = .ok (f', s') → MemoGood (n + k) s → RectField s.heap n f → WFF f →
    f.plain = true →
    absField s'.heap f' = aPad front k (absField s.heap f) :=
  fun f s f' s' h hm hr _ hp => (padField_full front n k f s f' s' h hm hr).2 hp

theorem padFields_abs (front : Bool) (n k : Nat) : ∀ (fs : List Field) (s : St) (fs' : List Field) (s' : St),
    padField.padFields front k fs s = .ok (fs', s') → MemoGood (n + k) s → RectField.RectFields s.heap n fs →
    WFF.WFFs fs → Field.plain.plainL fs = true →
    absField.absFields s'.heap fs' = aPad.aPads front k (absField.absFields s.heap fs) :=
  fun fs s fs' s' h hm hr _ hp => (padFields_full front n k fs s fs' s' h hm hr).2 hp

theorem absFields_ext' {h h' : Heap} (e : HeapExt h h') : ∀ (fs : List Field), (∀ f ∈ fs, ∃ k, RectField h k f) →
    absField.absFields h' fs = absField.absFields h fs
  | [], _ => rfl
  | f :: fs, hr => by
    obtain ⟨k, hk⟩ := hr f (by simp)
    simp only [absField.absFields, absField_ext e f hk,
      absFields_ext' e fs (fun c hc => hr c (List.mem_cons_of_mem _ hc))]

theorem mem_plainL : ∀ (fs : List Field), Field.plain.plainL fs = true → ∀ f ∈ fs, f.plain = true
  | [], _, f, hf => by simp at hf
  | c :: cs, hp, f, hf => by
    simp only [Field.plain.plainL, Bool.and_eq_true] at hp
    rcases List.mem_cons.mp hf with rfl | hf
    · exact hp.1
    · exact mem_plainL cs hp.2 f hf

theorem heapPre : IsPre (fun a b : St => HeapExt a.heap b.heap) := ⟨fun _ => HeapExt.refl _, HeapExt.trans⟩

theorem appendLoop_full (n m : Nat) (p : String → Bool) (acc : List Field) (s : St)
    (acc' : List Field) (s' : St) (h : appendLoop p m acc s = .ok (acc', s')) (hm : MemoGood (n + m) s)
    (hall : ∀ f ∈ acc, WFF f ∧ (p f.name = true → RectField s.heap n f) ∧
      (p f.name = false → RectField s.heap (n + m) f)) :
    (ExtOK (n + m) s s' ∧ (∀ f ∈ acc', WFF f ∧ RectField s'.heap (n + m) f) ∧ names acc' = names acc) ∧
      ((∀ f ∈ acc, p f.name = true → f.plain = true) →
        absField.absFields s'.heap acc' =
          (absField.absFields s.heap acc).map (fun f => if p f.name then aPad false m f else f)) := by
  obtain ⟨e, mm, all⟩ := appendLoop_thread heapPre (I := MemoGood (n + m))
    (B := fun t x y => y.name = x.name ∧ WFF y ∧ RectField t.heap (n + m) y ∧
      ((p x.name = true → x.plain = true) →
        absField t.heap y = if p x.name then aPad false m (absField s.heap x) else absField s.heap x))
    (fun _ _ _ y e ⟨hname, hw, hr, hview⟩ =>
      ⟨hname, hw, RectField.ext e y hr, fun hpl => (absField_ext e y hr).trans (hview hpl)⟩)
    p m s acc
    (fun f hf hp a f' b r0 i hx => by
      -- the field is as it was at the start: its rows, and its view
      have hr := (hall f hf).2.1 hp
      obtain ⟨⟨⟨e, mm⟩, r, sh⟩, ab⟩ := padField_full false n m f a f' b hx i (RectField.ext r0 f hr)
      exact ⟨e, mm, sh.name, SameShape.wff f f' sh (hall f hf).1, r,
        fun hpl => by rw [if_pos hp, ab (hpl hp), absField_ext r0 f hr]⟩)
    (fun f hf hp => ⟨rfl, (hall f hf).1, (hall f hf).2.2 hp, fun _ => by rw [if_neg (by simp [hp])]⟩)
    s acc' s' h (HeapExt.refl _) hm
  refine ⟨⟨⟨e, mm⟩, fun y hy => ?_, all.names_eq (fun _ _ b => b.1)⟩, fun hpl => ?_⟩
  · obtain ⟨x, _, _, hw, hr, _⟩ := all.mem_right y hy
    exact ⟨hw, hr⟩
  · clear hall h
    induction all with
    | nil => rfl
    | cons b _ ih =>
      obtain ⟨_, _, _, hview⟩ := b
      simp only [absField.absFields, List.map_cons, absField_name]
      rw [hview (hpl _ (by simp)), ih (fun f hf => hpl f (List.mem_cons_of_mem _ hf))]

theorem appendLoop_abs (n m : Nat) (p : String → Bool) : ∀ (acc : List Field) (s : St)
    (acc' : List Field) (s' : St), appendLoop p m acc s = .ok (acc', s') → MemoGood (n + m) s →
    (∀ f ∈ acc, WFF f ∧ (p f.name = true → RectField s.heap n f ∧ f.plain = true) ∧
      (p f.name = false → RectField s.heap (n + m) f)) →
    absField.absFields s'.heap acc' =
      (absField.absFields s.heap acc).map (fun f => if p f.name then aPad false m f else f) :=
  fun acc s acc' s' h hm hall =>
    (appendLoop_full n m p acc s acc' s' h hm
      (fun f hf => ⟨(hall f hf).1, fun hp => ((hall f hf).2.1 hp).1, (hall f hf).2.2⟩)).2
      (fun f hf hp => ((hall f hf).2.1 hp).2)

/-- the loop of the list-of-records `extend` run on the views gives the view of the dict afterwards: the two loops take the
same branch at every field, and `absFields` commutes with `getField` and `setField`.  Carried along: the arrays of the dict
exist (so its view does not change when the heap grows) and the fields still to be extended are the `n`-row plain fields
they were.  The first hypothesis is `extendField_full` for the fields of `gs` (there: the induction hypothesis). -/
theorem loop1_abs (us : Units) (n m : Nat) (sk : List String) : ∀ (gs : List Field),
    (∀ g ∈ gs, ∀ (f : Field) (s : St) (f' : Field) (s' : St), extendField us f g s = .ok (f', s') → MemoGood (n + m) s →
      RectField s.heap n f → RectField s.heap m g → WFF f → WFF g →
      (ExtOK (n + m) s s' ∧ RectField s'.heap (n + m) f' ∧ WFF f' ∧ f'.name = f.name) ∧
        (f.plain = true → g.plain = true →
          aExtend us n m (absField s.heap f) (absField s.heap g) = some (absField s'.heap f'))) →
    ∀ (acc : List Field) (s : St) (acc' : List Field) (s' : St),
    extendField.loop1 us sk n acc gs s = .ok (acc', s') → MemoGood (n + m) s →
    (names acc).Nodup → (names gs).Nodup →
    (∀ g ∈ gs, RectField s.heap m g ∧ WFF g ∧ g.plain = true) →
    (∀ x ∈ acc, ∃ k, RectField s.heap k x) →
    (∀ x ∈ acc, x.name ∈ names gs → RectField s.heap n x ∧ WFF x ∧ x.plain = true) →
    aExtend.aLoop us n m sk (absField.absFields s.heap acc) (absField.absFields s.heap gs) =
      some (absField.absFields s'.heap acc')
  | [], _, acc, s, acc', s', h, _, _, _, _, _, _ => by
    cases h.symm
    rfl
  | g :: gs, hext, acc, s, acc', s', h, hm, hna, hng, hgs, hex, htodo => by
    simp only [extendField.loop1] at h
    split at h
    · simp at h
    · rename_i f1 s1 hstep
      obtain ⟨hg_rect, hg_wff, hg_pl⟩ := hgs g (by simp)
      simp only [names, List.map_cons, List.nodup_cons] at hng
      -- the field made for the name of `g`: its rows, and its view as the abstract loop computes it
      have key : (ExtOK (n + m) s s1 ∧ RectField s1.heap (n + m) f1 ∧ f1.name = g.name) ∧
          (((!sk.contains g.name || n == 0) = true ∧ absField s1.heap f1 = aPad true n (absField s.heap g)) ∨
           (¬ (!sk.contains g.name || n == 0) = true ∧ ∃ f, getField acc g.name = some f ∧
              aExtend us n m (absField s.heap f) (absField s.heap g) = some (absField s1.heap f1))) := by
        split at hstep
        · rename_i hc
          have hm' : MemoGood (m + n) s := by rw [Nat.add_comm]; exact hm
          obtain ⟨⟨e, r, sh⟩, ab⟩ := padField_full true m n g s f1 s1 hstep hm' hg_rect
          rw [Nat.add_comm] at e r
          exact ⟨⟨e, r, sh.name⟩, Or.inl ⟨hc, ab hg_pl⟩⟩
        · rename_i hc
          split at hstep
          · simp at hstep
          · rename_i f hget
            obtain ⟨hfin, hfn⟩ := getField_some hget
            obtain ⟨fr, fw, fp⟩ := htodo f hfin (by simp [names, hfn])
            obtain ⟨⟨e, r, _, nmq⟩, ab⟩ := hext g (by simp) f s f1 s1 hstep hm fr hg_rect fw hg_wff
            exact ⟨⟨e, r, nmq.trans hfn⟩, Or.inr ⟨hc, f, hget, ab fp hg_pl⟩⟩
      obtain ⟨⟨⟨e1, m1⟩, r1, nm1⟩, ab1⟩ := key
      have ih := loop1_abs us n m sk gs (fun g' hg' => hext g' (List.mem_cons_of_mem _ hg')) (setField acc f1) s1 acc' s' h m1
        (nodup_setField hna) hng.2
        (fun g' hg' => by
          obtain ⟨a, b⟩ := hgs g' (List.mem_cons_of_mem _ hg')
          exact ⟨RectField.ext e1 g' a, b⟩)
        (fun x hx => by
          rcases mem_setField hx with rfl | hin
          · exact ⟨n + m, r1⟩
          · obtain ⟨k, hk⟩ := hex x hin
            exact ⟨k, RectField.ext e1 x hk⟩)
        (fun x hx hxn => by
          rcases mem_setField_nodup hna hx with rfl | ⟨hin, _⟩
          · exact absurd (nm1 ▸ hxn) hng.1
          · obtain ⟨a, b⟩ := htodo x hin (by simp only [names, List.map_cons]; exact List.mem_cons_of_mem _ hxn)
            exact ⟨RectField.ext e1 x a, b⟩)
      rw [aSet_abs, absFields_ext' e1 acc hex,
        absFields_ext' e1 gs (fun c hc => ⟨m, (hgs c (List.mem_cons_of_mem _ hc)).1⟩)] at ih
      simp only [absField.absFields, aExtend.aLoop, absField_name]
      rcases ab1 with ⟨hc, ab⟩ | ⟨hc, f, hget, ab⟩
      · rw [if_pos hc, ← ab]
        exact ih
      · rw [if_neg hc, aGet_abs, hget]
        simp only [Option.map_some]
        rw [ab]
        exact ih

/-- row counts, well-formedness and name of the result for every pair of fields, and the list-of-records equation when both
are plain.  For two collections: the loop over the fields of other (`loop1_induct`: a field is finished with `n + m` rows, or still
an `n`-row field of self), then the second loop pads exactly the untouched ones -/
theorem extendField_full (us : Units) (n m : Nat) : ∀ (g f : Field) (s : St) (f' : Field) (s' : St),
    extendField us f g s = .ok (f', s') → MemoGood (n + m) s →
    RectField s.heap n f → RectField s.heap m g → WFF f → WFF g →
    (ExtOK (n + m) s s' ∧ RectField s'.heap (n + m) f' ∧ WFF f' ∧ f'.name = f.name) ∧
      (f.plain = true → g.plain = true →
        aExtend us n m (absField s.heap f) (absField s.heap g) = some (absField s'.heap f')) := by
  intro g
  induction g using Field.induct with
  | leaf nm2 k2 o2 no2 u2 l2 =>
    intro f s f' s' h hm hrf hrg _ _
    cases f with
    | leaf nm k o no u l =>
      simp only [extendField] at h
      exact ⟨(extendLeaf_full h hm hrf hrg).1, fun hpf _ => (extendLeaf_full h hm hrf hrg).2 hpf⟩
    | coll => simp [extendField] at h
  | coll nm2 no2 l2 gs ih =>
    intro f s f' s' h hm hrf hrg hwf hwg
    cases f with
    | leaf nm k o no u l =>
      simp only [extendField] at h
      exact ⟨(extendLeaf_full h hm hrf hrg).1, fun hpf _ => (extendLeaf_full h hm hrf hrg).2 hpf⟩
    | coll nm no l fs =>
      simp only [extendField] at h
      split at h
      · simp at h
      · rename_i fs' s2 hfin
        cases h
        have hsl : collRows s.heap no fs = n := collRows_eq hrf
        have hol : collRows s.heap no2 gs = m := collRows_eq hrg
        rw [hsl, hol] at hfin
        simp only [extendFinish] at hfin
        split at hfin
        · simp at hfin
        · rename_i acc1 s1 hloop
          rw [rectField_coll_iff] at hrf hrg
          rw [wff_coll_iff] at hwf hwg
          have hf : ∀ x ∈ fs, RectField s.heap n x ∧ WFF x := fun x hx => ⟨hrf.1 x hx, hwf.2 x hx⟩
          have hg : ∀ g ∈ gs, RectField s.heap m g ∧ WFF g := fun g hg => ⟨hrg.1 g hg, hwg.2 g hg⟩
          have mono : ∀ k (a b : St) (x : Field), HeapExt a.heap b.heap → RectField a.heap k x ∧ WFF x →
              RectField b.heap k x ∧ WFF x := fun _ _ _ x e t => ⟨RectField.ext e x t.1, t.2⟩
          obtain ⟨e1, m1, nd1, _, all1⟩ := loop1_induct heapPre (I := MemoGood (n + m))
            (Todo := fun s x => RectField s.heap n x ∧ WFF x) (Done := fun s x => RectField s.heap (n + m) x ∧ WFF x)
            (mono n) (mono (n + m)) us (names fs) n s gs
            (fun g hg' a f' b r0 i _ hp => by
              -- `n` empty rows in front of the `m` rows of `g`
              have hm' : MemoGood (m + n) a := by rw [Nat.add_comm]; exact i
              obtain ⟨⟨⟨e, mm⟩, r, sh⟩, _⟩ := padField_full true m n g a f' b hp hm' (RectField.ext r0 g (hg g hg').1)
              rw [Nat.add_comm] at mm r
              exact ⟨e, mm, ⟨r, SameShape.wff g f' sh (hg g hg').2⟩, sh.name⟩)
            (fun g hg' f a f' b r0 i _ ht hfn hx => by
              obtain ⟨⟨⟨e, mm⟩, r, w, nmq⟩, _⟩ := ih g hg' f a f' b hx i ht.1 (RectField.ext r0 g (hg g hg').1) ht.2 (hg g hg').2
              exact ⟨e, mm, ⟨r, w⟩, nmq.trans hfn⟩)
            hwg.1 fs s acc1 s1 hloop (HeapExt.refl _) hm hwf.1 (fun x hx _ => hf x hx)
          -- a field not of other is an untouched field of self, and the second loop pads exactly those
          have hsplit : ∀ x ∈ acc1, WFF x ∧
              (onlyInSelf (names fs) (names gs) m x.name = true → RectField s1.heap n x) ∧
              (onlyInSelf (names fs) (names gs) m x.name = false → RectField s1.heap (n + m) x) := by
            intro x hx
            rcases all1 x hx with ⟨hin, d⟩ | ⟨hnin, hxf⟩
            · exact ⟨d.2, fun hq => absurd hin (onlyInSelf_iff.mp hq).2, fun _ => d.1⟩
            · have hq : onlyInSelf (names fs) (names gs) m x.name = true :=
                onlyInSelf_iff.mpr ⟨List.mem_map_of_mem (f := Field.name) hxf, hnin⟩
              exact ⟨(hf x hxf).2, fun _ => RectField.ext e1 x (hf x hxf).1, fun hc => by rw [hq] at hc; cases hc⟩
          obtain ⟨⟨⟨e2, m2⟩, hall, hnames⟩, ab2⟩ := appendLoop_full n m _ acc1 s1 fs' s' hfin m1 hsplit
          have hrects : RectField.RectFields s'.heap (n + m) fs' := (rectFields_iff fs').mpr (fun c hc => (hall c hc).2)
          refine ⟨⟨⟨e1.trans e2, m2⟩, ?_, ?_, rfl⟩, fun hpf hpg => ?_⟩
          · rw [hsl, hol]
            exact RectFields.coll hrects
          · exact wff_coll_iff.mpr ⟨hnames ▸ nd1, fun c hc => (hall c hc).1⟩
          · have hpf' := mem_plainL fs (by simpa [Field.plain] using hpf)
            have hpg' := mem_plainL gs (by simpa [Field.plain] using hpg)
            have a1 := loop1_abs us n m (names fs) gs ih fs s acc1 s1 hloop hm hwf.1 hwg.1
              (fun g hg' => ⟨(hg g hg').1, (hg g hg').2, hpg' g hg'⟩) (fun x hx => ⟨n, (hf x hx).1⟩)
              (fun x hx _ => ⟨(hf x hx).1, (hf x hx).2, hpf' x hx⟩)
            have a2 := ab2 (fun x hx hq => by
              rcases all1 x hx with ⟨hin, _⟩ | ⟨_, hxf⟩
              · exact absurd hin (onlyInSelf_iff.mp hq).2
              · exact hpf' x hxf)
            simp only [absField, aExtend, aNames_abs, a1, aFinish, a2]

theorem extendField_spec (us : Units) (n m : Nat) : ∀ (g f : Field) (s : St) (f' : Field) (s' : St),
    extendField us f g s = .ok (f', s') → MemoGood (n + m) s →
    RectField s.heap n f → RectField s.heap m g → WFF f → WFF g →
    ExtOK (n + m) s s' ∧ RectField s'.heap (n + m) f' ∧ WFF f' ∧ f'.name = f.name :=
  fun g f s f' s' h hm hrf hrg hwf hwg => (extendField_full us n m g f s f' s' h hm hrf hrg hwf hwg).1

end Midgard.Dataset
