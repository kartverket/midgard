/-
C02 — the calendar year of a day number and the length of a year, for the decimal-year format and the `%j` directive.
Hinnant's `days_from_civil` is the days before the (March-based) year plus the days before the month plus the day;
the days before a year have the closed form `daysBeforeYear`, and everything about New Year's days follows from it,
over the integers and, for the Julian date of New Year (`yearStartJd1`), over ℚ.
-/
import Midgard.Model.TimeFormat
import Midgard.Proofs.Calendar
import Mathlib.Tactic.Ring
import Mathlib.Algebra.Order.Field.Rat

namespace Midgard.TimeFormat

/-- days from 1 March of year 0 to 1 March of year `y` -/
def daysBeforeYear (y : Int) : Int := 365 * y + y / 4 - y / 100 + y / 400

theorem daysFromCivil1970_eq (y m d : Int) : daysFromCivil1970 y m d =
    daysBeforeYear (if m ≤ 2 then y - 1 else y) + ((153 * (if m > 2 then m - 3 else m + 9) + 2) / 5 + d - 1) - 719468 := by
  simp only [daysFromCivil1970, doeOfCivil, daysBeforeYear]
  omega

/-- New Year's Day is day 306 of the March-based year before -/
theorem newYear_eq (y : Int) : daysFromCivil y 1 1 = daysBeforeYear (y - 1) - 730119 := by
  rw [daysFromCivil, daysFromCivil1970_eq, if_pos (by decide), if_neg (by decide), epoch2000]
  omega

theorem daysBeforeYear_succ (y : Int) : daysBeforeYear (y + 1) - daysBeforeYear y = if isLeap (y + 1) then 366 else 365 := by
  simp only [daysBeforeYear, isLeap, decide_eq_true_eq]
  split_ifs <;> omega

theorem yearLen_eq (y : Int) : yearLen y = if isLeap y then 366 else 365 := by
  have h := daysBeforeYear_succ (y - 1)
  rw [Int.sub_add_cancel] at h
  rw [yearLen, newYear_eq, newYear_eq, Int.add_sub_cancel, ← h]
  omega

theorem yearLen_range (y : Int) : 365 ≤ yearLen y ∧ yearLen y ≤ 366 := by
  rw [yearLen_eq]; split_ifs <;> omega

theorem newYear_mono {a b : Int} (h : a ≤ b) : daysFromCivil a 1 1 ≤ daysFromCivil b 1 1 := by
  simp only [newYear_eq, daysBeforeYear]
  omega

theorem year_window_civil (y m d : Int) (hm1 : 1 ≤ m) (hm2 : m ≤ 12) (hd1 : 1 ≤ d) (hd2 : d ≤ 31) :
    daysFromCivil y 1 1 ≤ daysFromCivil y m d ∧ daysFromCivil y m d < daysFromCivil (y + 1) 1 1 := by
  have hL := yearLen_range y
  rw [yearLen] at hL
  have e : daysFromCivil y m d = daysFromCivil y 1 1 +
      (if m ≤ 2 then (153 * (m + 9) + 2) / 5 + d - 307
       else daysFromCivil (y + 1) 1 1 - daysFromCivil y 1 1 + (153 * (m - 3) + 2) / 5 + d - 307) := by
    simp only [newYear_eq, Int.add_sub_cancel]
    rw [daysFromCivil, daysFromCivil1970_eq, epoch2000]
    split_ifs <;> omega
  rw [e]
  split_ifs <;> omega

theorem year_window (n : Int) :
    daysFromCivil (civilFromDays n).1 1 1 ≤ n ∧ n < daysFromCivil ((civilFromDays n).1 + 1) 1 1 := by
  obtain ⟨-, hm1, hm2, hd1, hd2⟩ := days_civil (n + epoch2000)
  have w := year_window_civil (civilFromDays n).1 _ _ hm1 hm2 hd1 hd2
  rwa [← civilFromDays, daysFromCivil_civilFromDays] at w

theorem doy_range (y m d : Int) (hm1 : 1 ≤ m) (hm2 : m ≤ 12) (hd1 : 1 ≤ d) (hd2 : d ≤ 31) :
    1 ≤ dayOfYear y m d ∧ dayOfYear y m d ≤ 366 := by
  have w := year_window_civil y m d hm1 hm2 hd1 hd2
  have hL := yearLen_range y
  rw [yearLen] at hL
  rw [dayOfYear]
  omega

theorem yearStart_succ (y : Int) : yearStartJd1 (y + 1) = yearStartJd1 y + (yearLen y : Rat) := by
  simp only [yearStartJd1, yearLen]; push_cast; ring

theorem yearStart_mono {a b : Int} (h : a ≤ b) : yearStartJd1 a ≤ yearStartJd1 b := by
  have : (daysFromCivil a 1 1 : Rat) ≤ (daysFromCivil b 1 1 : Rat) := by exact_mod_cast newYear_mono h
  simpa only [yearStartJd1, add_le_add_iff_left] using this

theorem yearLen_bounds (y : Int) : (365 : Rat) ≤ (yearLen y : Rat) ∧ (yearLen y : Rat) ≤ 366 := by
  have := yearLen_range y
  exact ⟨by exact_mod_cast this.1, by exact_mod_cast this.2⟩

end Midgard.TimeFormat
