/-
C19, text round trip: what the `ConfigParser` model reads from the lines `entry_as_str` writes, one lemma per kind of
line: an option line (`readLine_option`, of which the first line of an entry and a valueless metadata name are cases), a
continuation line, an empty line.  Mathlib-free.
-/
import Midgard.Proofs.ConfigLines
import Midgard.Proofs.ConfigStr
import Midgard.Proofs.Text

namespace Midgard.Proofs.ConfigText
open Midgard.Config

/-- a word as the reader sees it: non-empty, no blank of any kind -/
def ReaderWord (x : List Char) : Prop := x ≠ [] ∧ ∀ c ∈ x, isBlank c = false

theorem blank_of_ctl (c : Char) (h : 9 ≤ c.toNat ∧ c.toNat ≤ 13) : isBlank c = true := by
  simp only [isBlank, Bool.or_eq_true, Bool.and_eq_true, decide_eq_true_eq]
  exact Or.inl h

theorem isWord_of_noBlank {x : List Char} (hne : x ≠ []) (h : ∀ c ∈ x, isBlank c = false) : IsWord x :=
  ⟨hne, fun c hc he => by have := h c hc; rw [he] at this; simp [isBlank_space] at this⟩

theorem noCtl_of_noBlank {x : List Char} (h : ∀ c ∈ x, isBlank c = false) : NoCtl x := by
  intro c hc hctl
  have := h c hc
  rw [blank_of_ctl c hctl] at this
  simp at this

theorem noNL_of_noBlank {x : List Char} (h : ∀ c ∈ x, isBlank c = false) : '\n' ∉ x :=
  fun hm => noCtl_of_noBlank h _ hm (by decide)

theorem ReaderWord.isWord {x : List Char} (h : ReaderWord x) : IsWord x := isWord_of_noBlank h.1 h.2

theorem ReaderWord.noCtl {x : List Char} (h : ReaderWord x) : NoCtl x := noCtl_of_noBlank h.2

theorem unwords_getLast (ws : List (List Char)) (hne : ws ≠ []) (hw : ∀ x ∈ ws, ReaderWord x) :
    ∀ c, (unwords ws).getLast? = some c → isBlank c = false := by
  intro c hc
  -- the last character belongs to the last word
  obtain ⟨ws', wl, rfl⟩ : ∃ ws' wl, ws = ws' ++ [wl] := by
    rcases List.eq_nil_or_concat ws with h | ⟨a, b, h⟩
    · exact absurd h hne
    · exact ⟨a, b, by simp [h]⟩
  have hwl := hw wl (by simp)
  have : ∃ pre, unwords (ws' ++ [wl]) = pre ++ wl := by
    cases ws' with
    | nil => exact ⟨[], by simp [unwords]⟩
    | cons a t => exact ⟨a ++ t.flatMap (fun x => ' ' :: x) ++ [' '], by simp [unwords, List.flatMap_append]⟩
  obtain ⟨pre, hpre⟩ := this
  rw [hpre, Text.getLast?_append_ne _ _ hwl.1] at hc
  exact hwl.2 c (List.mem_of_getLast? hc)

theorem stripBlanks_unwords (ws : List (List Char)) (hw : ∀ x ∈ ws, ReaderWord x) :
    stripBlanks (unwords ws) = unwords ws := by
  cases ws with
  | nil => simp [unwords_nil, stripBlanks]
  | cons x t =>
    apply stripBlanks_id
    · intro c hc
      rw [unwords_head x t (hw x (by simp)).1] at hc
      exact (hw x (by simp)).2 c (List.mem_of_head? hc)
    · exact unwords_getLast (x :: t) (by simp) hw

/-- an option key as the reader accepts it unchanged -/
def KeyOK (lower : Bool) (k : List Char) : Prop :=
  k ≠ [] ∧ (∀ c ∈ k, isBlank c = false ∧ c ≠ '=') ∧ (lower = true → k.map lowerChar = k) ∧
  k.head? ≠ some '[' ∧ k.head? ≠ some '#' ∧ k.head? ≠ some ';'

theorem closeOpt_eq (p : PState) (n : String) (os : List RawOpt) (hcur : p.cur = some (n, os)) :
    p.closeOpt = { done := p.done, cur := some (n, os ++ p.opt.toList), opt := none, indent := p.indent } := by
  obtain ⟨d, c, o, i⟩ := p
  simp only at hcur
  subst hcur
  cases o <;> simp [PState.closeOpt]

theorem stripBlanks_rest (g0 : List (List Char)) (hg0 : ∀ x ∈ g0, ReaderWord x) :
    stripBlanks (g0.flatMap (fun x => ' ' :: x)) = unwords g0 := by
  cases g0 with
  | nil => simp [stripBlanks, unwords_nil]
  | cons x t =>
    rw [flatMap_blank_cons, ← List.singleton_append, stripBlanks_blanks_append _ _ (by intro c hc; simp at hc; subst hc; exact isBlank_space),
      stripBlanks_unwords _ hg0]

theorem readLine_header (lower : Bool) (p : PState) (line : List Char) (hne : line ≠ [])
    (hh : ∀ c, line.head? = some c → isBlank c = false)
    (hl : ∀ c, line.getLast? = some c → isBlank c = false)
    (h1 : line.head? ≠ some '#') (h2 : line.head? ≠ some ';') :
    readLine lower p line = headerLine lower p line 0 := by
  have hs : stripBlanks line = line := stripBlanks_id line hh hl
  have hind : (line.takeWhile isBlank).length = 0 := by
    cases line with
    | nil => rfl
    | cons c t => simp [hh c rfl]
  have he : line.isEmpty = false := by cases line <;> simp_all
  simp only [readLine, hs, h1, h2, he, hind, Bool.or_self, Bool.false_eq_true, if_false, decide_false]
  split
  · simp
  · simp
  · rfl

theorem sectionName?_none (l : List Char) (h : l.head? ≠ some '[') : sectionName? l = none := by
  unfold sectionName?
  split
  · simp at h
  · rfl

theorem sectionName?_header (n : List Char) (hn : n ≠ []) : sectionName? ('[' :: n ++ [']']) = some n := by
  have hr : (n ++ [']']).reverse.dropWhile (· ≠ ']') = ']' :: n.reverse := by simp
  have he : n.reverse.isEmpty = false := by cases n <;> simp_all
  simp only [sectionName?, List.cons_append, hr, he, Bool.false_eq_true, if_false, List.reverse_reverse]

theorem readLine_option (lower : Bool) (p : PState) (n : String) (os : List RawOpt) (key pad tail r : List Char)
    (f : Bool) (hcur : p.cur = some (n, os)) (hkey : KeyOK lower key) (hpad : ∀ c ∈ pad, isBlank c = true)
    (hpart : partitionAt '=' (key ++ pad ++ tail) = (key ++ pad, f, r))
    (hlast : ∀ c, (key ++ pad ++ tail).getLast? = some c → isBlank c = false)
    (hnew : key ∉ (os ++ p.opt.toList).map (·.key)) :
    readLine lower p (key ++ pad ++ tail) =
      .ok { done := p.done, cur := some (n, os ++ p.opt.toList),
            opt := some ⟨key, if f then some [stripBlanks r] else none⟩, indent := 0 } := by
  obtain ⟨hkne, hkc, hklow, hk1, hk2, hk3⟩ := hkey
  have hhead : (key ++ pad ++ tail).head? = key.head? := by
    cases key with
    | nil => exact absurd rfl hkne
    | cons c t => rfl
  rw [readLine_header lower p _ (by simp [hkne])
    (by rw [hhead]; exact fun c hc => (hkc c (List.mem_of_head? hc)).1) hlast (by rwa [hhead]) (by rwa [hhead])]
  have hrs : rstripBlanks (key ++ pad) = key := by
    rw [rstripBlanks_append_blanks _ _ hpad, rstripBlanks_id key fun c hc => (hkc c (List.mem_of_getLast? hc)).1]
  have hk' : (if lower = true then key.map lowerChar else key) = key := by
    cases lower
    · rfl
    · exact hklow rfl
  have hcont : ((os ++ p.opt.toList).map (·.key)).contains key = false := by simpa using hnew
  have hke : key.isEmpty = false := by simpa using hkne
  simp only [headerLine, sectionName?_none _ (by rwa [hhead]), optionLine, closeOpt_eq p n os hcur, hpart, hrs, hk', hke,
    hcont, Bool.false_eq_true, if_false]

/-- the line `entry_as_str` starts an entry with -/
theorem readLine_keyValue (lower : Bool) (p : PState) (n : String) (os : List RawOpt) (kw : Nat) (key rest : List Char)
    (hcur : p.cur = some (n, os)) (hkey : KeyOK lower key)
    (hlast : ∀ c, (key ++ padOf kw key ++ '=' :: rest).getLast? = some c → isBlank c = false)
    (hnew : key ∉ (os ++ p.opt.toList).map (·.key)) :
    readLine lower p (key ++ padOf kw key ++ '=' :: rest) =
      .ok { done := p.done, cur := some (n, os ++ p.opt.toList), opt := some ⟨key, some [stripBlanks rest]⟩, indent := 0 } := by
  have hpad : ∀ c ∈ padOf kw key, isBlank c = true := fun c hc => by
    rw [(isSpaces_pad kw key).2 c hc]; exact isBlank_space
  have hnoeq : '=' ∉ key ++ padOf kw key := by
    intro hm
    rcases List.mem_append.1 hm with h | h
    · exact (hkey.2.1 '=' h).2 rfl
    · exact absurd (hpad '=' h) (by decide)
  exact readLine_option lower p n os key _ _ rest true hcur hkey hpad (partitionAt_append '=' _ _ hnoeq) hlast hnew

theorem firstLine_getLast (kw : Nat) (key : List Char) (g0 : List (List Char)) (hg0 : ∀ x ∈ g0, ReaderWord x) :
    ∀ c, (firstLine kw key g0).getLast? = some c → isBlank c = false := by
  intro c hcl
  cases g0 with
  | nil =>
    rw [show firstLine kw key [] = (key ++ padOf kw key) ++ ['='] by simp [firstLine],
      Text.getLast?_append_ne _ _ (by simp)] at hcl
    cases hcl
    decide
  | cons x t =>
    rw [show firstLine kw key (x :: t) = (key ++ padOf kw key ++ ['=', ' ']) ++ unwords (x :: t) by
        rw [firstLine, flatMap_blank_cons]; simp,
      Text.getLast?_append_ne _ _ (unwords_ne_nil (hg0 x (by simp)).1 t)] at hcl
    exact unwords_getLast (x :: t) (by simp) hg0 c hcl

theorem readLine_first (lower : Bool) (p : PState) (n : String) (os : List RawOpt) (kw : Nat)
    (key : List Char) (g0 : List (List Char))
    (hcur : p.cur = some (n, os)) (hkey : KeyOK lower key) (hg0 : ∀ x ∈ g0, ReaderWord x)
    (hnew : key ∉ (os ++ p.opt.toList).map (·.key)) :
    readLine lower p (firstLine kw key g0) =
      .ok { done := p.done, cur := some (n, os ++ p.opt.toList), opt := some ⟨key, some [unwords g0]⟩, indent := 0 } := by
  rw [← stripBlanks_rest g0 hg0]
  exact readLine_keyValue lower p n os kw key _ hcur hkey (firstLine_getLast kw key g0 hg0) hnew

/-- `key:meta` alone on a line -/
theorem readLine_valueless (lower : Bool) (p : PState) (n : String) (os : List RawOpt)
    (key : List Char) (hcur : p.cur = some (n, os)) (hkey : KeyOK lower key)
    (hnew : key ∉ (os ++ p.opt.toList).map (·.key)) :
    readLine lower p key =
      .ok { done := p.done, cur := some (n, os ++ p.opt.toList), opt := some ⟨key, none⟩, indent := 0 } := by
  have h := readLine_option lower p n os key [] [] [] false hcur hkey (by simp)
    (by simpa using partitionAt_none '=' key fun h => (hkey.2.1 '=' h).2 rfl)
    (by simpa using fun c hc => (hkey.2.1 c (List.mem_of_getLast? hc)).1) hnew
  simpa using h

/-- a word of a value: a reader word that does not look like a comment when it starts a line.  The ladder of the round
trip is `wordVB` (the decidable form, `ConfigDoc`) ⇒ `ValueWord` ⇒ `ReaderWord` ⇒ `IsWord` (a chunk of `textwrap`,
`ConfigWrap`); `Midgard.Config.isWord` is something else, the `\w` of `_replace`. -/
def ValueWord (x : List Char) : Prop := ReaderWord x ∧ x.head? ≠ some '#' ∧ x.head? ≠ some ';'

theorem readLine_cont (lower : Bool) (p : PState) (c : String × List RawOpt) (k : List Char)
    (vs : List (List Char)) (hang : Nat) (g : List (List Char))
    (hcur : p.cur = some c) (hopt : p.opt = some ⟨k, some vs⟩) (hind : p.indent = 0) (hhang : 0 < hang)
    (hg : g ≠ []) (hv : ∀ x ∈ g, ValueWord x) :
    readLine lower p (contLine hang g) = .ok { p with opt := some ⟨k, some (vs ++ [unwords g])⟩ } := by
  have hrep : ∀ c ∈ List.replicate hang ' ', isBlank c = true := by
    intro c hc; simp at hc; rw [hc.2]; exact isBlank_space
  have hw : ∀ x ∈ g, ReaderWord x := fun x hx => (hv x hx).1
  have hs : stripBlanks (contLine hang g) = unwords g := by
    simp only [contLine]
    rw [stripBlanks_blanks_append _ _ hrep, stripBlanks_unwords g hw]
  obtain ⟨x, t, rfl⟩ : ∃ x t, g = x :: t := by cases g with | nil => exact absurd rfl hg | cons x t => exact ⟨x, t, rfl⟩
  have hxne := (hw x (by simp)).1
  have hhd := unwords_head x t hxne
  have h1 : (unwords (x :: t)).head? ≠ some '#' := hhd ▸ (hv x (by simp)).2.1
  have h2 : (unwords (x :: t)).head? ≠ some ';' := hhd ▸ (hv x (by simp)).2.2
  have hune : (unwords (x :: t)).isEmpty = false := by simpa using unwords_ne_nil hxne t
  have hhead : ∀ c, (unwords (x :: t)).head? = some c → isBlank c = false := by
    intro c hc
    rw [hhd] at hc
    exact (hw x (by simp)).2 c (List.mem_of_head? hc)
  have hindl : ((contLine hang (x :: t)).takeWhile isBlank).length = hang := by
    simp only [contLine]
    rw [takeWhile_blanks_append _ _ hrep hhead]; simp
  simp only [readLine, hs, h1, h2, hune, hindl, hcur, hopt, hind, Bool.or_self, Bool.false_eq_true, if_false,
    decide_false]
  simp [hhang]

theorem readLine_blank (lower : Bool) (p : PState) :
    readLine lower p [] = .ok (match p.opt with
      | some ⟨k, some vs⟩ => { p with opt := some ⟨k, some (vs ++ [[]])⟩ }
      | _ => p) := by
  simp only [readLine, stripBlanks]
  simp
  split <;> simp_all

end Midgard.Proofs.ConfigText
