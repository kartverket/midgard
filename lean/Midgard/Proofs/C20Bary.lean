/-
C20 — SciPy's BarycentricInterpolator, specified as the full-window Lagrange interpolant: a successful call returns
values of the scheme `lagR` with the window set to all samples (so its abscissae are pairwise distinct:
`Ascending.nodup`).
-/
import Midgard.Proofs.C20Lagrange

namespace Midgard.Proofs.C20
open Midgard.Numeric

theorem barycentric_returns {xs : List ℚ} {rows : List (List ℚ)} {dim : ℕ} {xnew : List ℚ} {out : List (List ℚ)}
    (h : barycentric xs rows dim xnew = .ok out) :
    0 < xs.length ∧ Ascending xs false ∧
      Returns (lagR xs.length (mean ((sortIdx xs false).map (fun t => xs.getD t 0))) 1) xs rows false dim xnew out := by
  unfold barycentric at h
  obtain ⟨hshape, h⟩ := of_guard_ok h
  obtain ⟨hshort, h⟩ := of_guard_ok h
  obtain ⟨hinc, h⟩ := of_guard_ok h
  have hl : rows.length = xs.length := by simpa using hshape
  have hlen : ((sortBy (xs.zip rows)).map (·.1)).length = xs.length := by
    simpa [sortedPairs] using sortedPairs_length xs rows false hl
  rw [← Except.ok.inj h, hlen]
  exact ⟨by omega, ascending_of_strictInc hl (by simpa [sortedPairs] using hinc),
    lagrangeAt_returns xs rows false dim xs.length 1 xnew hl le_rfl⟩

theorem barycentric_computes (xs : List ℚ) (rows : List (List ℚ)) (dim : ℕ) :
    Computes (barycentric xs rows dim) (lagR xs.length (mean ((sortIdx xs false).map (fun t => xs.getD t 0))) 1) xs rows
      false dim :=
  fun _ _ h => (barycentric_returns h).2

end Midgard.Proofs.C20
