/-
C07, and the third machine of C08 — coherence of the conversion cache of `PosVelArray` objects (`Model/PosCache.lean`) in
every history of conversions, views and in-place writes: the invariant `WF` and its preservation, by one more object
(`wf_push`) or by recaching objects of unchanged shape (`wf_recache`).  The mechanism (`_cache`, `_dependent_objs`, row
views, `__setitem__` clearing the dependents) is the one `Proofs/ObjCache.lean` treats for position arrays; here the store is
polymorphic in the array values and the cleared set is computed by saturation (`sat`), there by the depth-first walk.
-/
import Midgard.Model.PosCache
import Midgard.Proofs.Lists

namespace Midgard.Geo.PosCache

set_option linter.unusedSectionVars false

variable {A : Type} [Arr A]

/-- how many of the objects `0 … n-1` are not in `S` -/
def missing (n : Nat) (S : List Nat) : Nat := (List.range n).countP fun i => !S.contains i

theorem missing_zero {n : Nat} {S : List Nat} (h : missing n S = 0) {i : Nat} (hi : i < n) : i ∈ S := by
  unfold missing at h
  rw [List.countP_eq_zero] at h
  have := h i (List.mem_range.mpr hi)
  simpa using this

theorem missing_lt {n : Nat} {S T : List Nat} {j : Nat} (hj : j < n) (hjS : j ∉ S) (hjT : j ∈ T) :
    missing n (S ++ T) < missing n S := by
  unfold missing
  apply Lists.countP_lt_of_imp (x := j)
  · intro x _ hx
    simp only [Bool.not_eq_true', List.contains_eq_mem, decide_eq_false_iff_not, List.mem_append, not_or] at hx ⊢
    exact hx.1
  · exact List.mem_range.mpr hj
  · simpa using hjS
  · simp [hjT]

theorem missing_le (n : Nat) (S : List Nat) : missing n S ≤ n := by
  unfold missing
  exact Nat.le_trans List.countP_le_length (by simp)

def Closed (st : Store A) (S : List Nat) : Prop := ∀ i ∈ S, ∀ d ∈ (st.obj i).deps, d ∈ S

theorem newDeps_mem {st : Store A} {S : List Nat} {j : Nat} :
    j ∈ newDeps st S ↔ (∃ i ∈ S, j ∈ (st.obj i).deps) ∧ j ∉ S := by
  simp [newDeps, List.mem_filter, List.mem_flatMap]

theorem closed_of_newDeps_nil {st : Store A} {S : List Nat} (h : newDeps st S = []) : Closed st S := by
  intro i hi d hd
  apply Decidable.byContradiction
  intro hdS
  have : d ∈ newDeps st S := newDeps_mem.mpr ⟨⟨i, hi, hd⟩, hdS⟩
  rw [h] at this
  cases this

theorem sat_subset (st : Store A) : ∀ (f : Nat) (S : List Nat), S ⊆ sat st f S
  | 0, S => fun _ h => h
  | f + 1, S => by
    unfold sat
    split
    · exact fun _ h => h
    · exact fun x hx => sat_subset st f _ (List.mem_append_left _ hx)

/-- the fuel: every round that is not the last adds an object that was missing (`missing_lt`), so `missing st.n S`
rounds suffice, and that is at most `st.n` (`missing_le`) -/
theorem sat_closed (st : Store A) (hdeps : ∀ i, i < st.n → ∀ d ∈ (st.obj i).deps, d < st.n) :
    ∀ (f : Nat) (S : List Nat), (∀ x ∈ S, x < st.n) → missing st.n S ≤ f → Closed st (sat st f S)
  | 0, S => by
    intro hS hm i hi d hd
    unfold sat at hi ⊢
    exact missing_zero (Nat.le_zero.mp hm) (hdeps i (hS i hi) d hd)
  | f + 1, S => by
    intro hS hm
    unfold sat
    split
    · rename_i he
      exact closed_of_newDeps_nil (List.isEmpty_iff.mp he)
    · rename_i he
      have hne : newDeps st S ≠ [] := fun h => he (List.isEmpty_iff.mpr h)
      obtain ⟨j, hj⟩ := List.exists_mem_of_ne_nil _ hne
      obtain ⟨⟨i, hiS, hji⟩, hjS⟩ := newDeps_mem.mp hj
      have hjn : j < st.n := hdeps i (hS i hiS) j hji
      apply sat_closed st hdeps f
      · intro x hx
        rcases List.mem_append.mp hx with h | h
        · exact hS x h
        · obtain ⟨⟨i', hi'S, hxi'⟩, _⟩ := newDeps_mem.mp h
          exact hdeps i' (hS i' hi'S) x hxi'
      · have := missing_lt (n := st.n) hjn hjS hj
        omega

/-- what holds of the store after every history.  That a write clears every object on the written block rests on the
`parent` chain up to the owner (`closed_root`), not on the `root` links `view` adds: `root` is only bounded here. -/
structure WF (st : Store A) : Prop where
  buf_lt : ∀ i, i < st.n → (st.obj i).buf < st.nbuf
  deps_lt : ∀ i, i < st.n → ∀ d ∈ (st.obj i).deps, d < st.n
  root_lt : ∀ i, i < st.n → (st.obj i).root < st.n
  /-- a view and the object it was cut from are registered as depending on each other -/
  parent : ∀ i, i < st.n → (st.obj i).path ≠ [] →
    ∃ p, p < i ∧ (st.obj p).buf = (st.obj i).buf ∧ p ∈ (st.obj i).deps ∧ i ∈ (st.obj p).deps
  /-- one owner per memory block -/
  root_unique : ∀ i j, i < st.n → j < st.n → (st.obj i).buf = (st.obj j).buf →
    (st.obj i).path = [] → (st.obj j).path = [] → i = j
  /-- a cached conversion is the conversion of the current contents, and the object it is cached in depends on it -/
  cache_ok : ∀ i, i < st.n → ∀ c, (st.obj i).cache = some c →
    c < st.n ∧ i ∈ (st.obj c).deps ∧ (st.obj c).sys = (st.obj i).sys.other ∧
      contents st c = Arr.conv (st.obj i).sys.other (contents st i) ∧ (st.obj c).buf ≠ (st.obj i).buf

theorem wf_empty (a : A) : WF (empty a) where
  buf_lt := fun _ hi => absurd hi (Nat.not_lt_zero _)
  deps_lt := fun _ hi => absurd hi (Nat.not_lt_zero _)
  root_lt := fun _ hi => absurd hi (Nat.not_lt_zero _)
  parent := fun _ hi => absurd hi (Nat.not_lt_zero _)
  root_unique := fun _ _ hi => absurd hi (Nat.not_lt_zero _)
  cache_ok := fun _ hi => absurd hi (Nat.not_lt_zero _)

theorem closed_root {st : Store A} (wf : WF st) {S : List Nat} (hS : Closed st S) :
    ∀ i, i < st.n → ∃ r, r < st.n ∧ (st.obj r).path = [] ∧ (st.obj r).buf = (st.obj i).buf ∧ (i ∈ S ↔ r ∈ S) := by
  intro i
  induction i using Nat.strongRecOn with
  | ind i ih =>
    intro hi
    by_cases hp : (st.obj i).path = []
    · exact ⟨i, hi, hp, rfl, Iff.rfl⟩
    · obtain ⟨p, hpi, hbuf, hpd, hid⟩ := wf.parent i hi hp
      obtain ⟨r, hr, hrp, hrb, hiff⟩ := ih p hpi (Nat.lt_trans hpi hi)
      refine ⟨r, hr, hrp, hrb.trans hbuf, ?_⟩
      rw [← hiff]
      exact ⟨fun h => hS i h p hpd, fun h => hS p h i hid⟩

theorem closed_same_buf {st : Store A} (wf : WF st) {S : List Nat} (hS : Closed st S) {o j : Nat}
    (ho : o < st.n) (hj : j < st.n) (hoS : o ∈ S) (hb : (st.obj j).buf = (st.obj o).buf) : j ∈ S := by
  obtain ⟨r, hr, hrp, hrb, hiff⟩ := closed_root wf hS o ho
  obtain ⟨r', hr', hrp', hrb', hiff'⟩ := closed_root wf hS j hj
  have : r = r' := wf.root_unique r r' hr hr' (by rw [hrb, hrb', hb]) hrp hrp'
  subst this
  exact hiff'.mpr (hiff.mp hoS)

theorem clearSet_closed {st : Store A} (wf : WF st) {o : Nat} (ho : o < st.n) : Closed st (clearSet st o) :=
  sat_closed st wf.deps_lt st.n [o] (by simpa using ho) (missing_le _ _)

theorem clearSet_self (st : Store A) (o : Nat) : o ∈ clearSet st o :=
  sat_subset st st.n [o] (by simp)

/-- object `i` of `st` is object `i` of `st'`, with at most the new id `st.n` as one more dependent -/
structure Kept (st st' : Store A) (i : Nat) : Prop where
  buf : (st'.obj i).buf = (st.obj i).buf
  path : (st'.obj i).path = (st.obj i).path
  sys : (st'.obj i).sys = (st.obj i).sys
  root : (st'.obj i).root = (st.obj i).root
  cache : (st'.obj i).cache = (st.obj i).cache
  cont : contents st' i = contents st i
  deps_mono : ∀ d ∈ (st.obj i).deps, d ∈ (st'.obj i).deps
  deps_back : ∀ d ∈ (st'.obj i).deps, d ∈ (st.obj i).deps ∨ d = st.n

theorem Kept.of_obj {st st' : Store A} {i : Nat} (hc : contents st' i = contents st i)
    (h : st'.obj i = st.obj i ∨ st'.obj i = { st.obj i with deps := (st.obj i).deps ++ [st.n] }) : Kept st st' i := by
  rcases h with h | h
  · exact ⟨by rw [h], by rw [h], by rw [h], by rw [h], by rw [h], hc, fun _ hd => h ▸ hd, fun _ hd => Or.inl (h ▸ hd)⟩
  · exact ⟨by rw [h], by rw [h], by rw [h], by rw [h], by rw [h], hc, fun _ hd => by rw [h]; exact List.mem_append_left _ hd,
      fun d hd => by rw [h] at hd; simpa using hd⟩

/-- **one more object.**  The old objects are `Kept`; the new one, `st.n`, has no cache and is either the sole owner of its
memory block or a view linked with an object on the same block. -/
theorem wf_push {st st' : Store A} (wf : WF st) (hn : st'.n = st.n + 1) (hnb : st.nbuf ≤ st'.nbuf)
    (hold : ∀ i, i < st.n → Kept st st' i)
    (hnew : (st'.obj st.n).buf < st'.nbuf ∧ (∀ d ∈ (st'.obj st.n).deps, d < st.n + 1) ∧
      (st'.obj st.n).root < st.n + 1 ∧ (st'.obj st.n).cache = none)
    (hparent : (st'.obj st.n).path ≠ [] → ∃ p, p < st.n ∧ (st.obj p).buf = (st'.obj st.n).buf ∧
      p ∈ (st'.obj st.n).deps ∧ st.n ∈ (st'.obj p).deps)
    (huniq : (st'.obj st.n).path = [] → ∀ j, j < st.n → (st.obj j).buf ≠ (st'.obj st.n).buf) : WF st' := by
  have old : ∀ i, i < st'.n → i ≠ st.n → i < st.n := fun i h1 h2 => by omega
  obtain ⟨nbuf, ndeps, nroot, ncache⟩ := hnew
  constructor
  · intro i hi
    by_cases h : i = st.n
    · exact h ▸ nbuf
    · rw [(hold i (old i hi h)).buf]
      exact Nat.lt_of_lt_of_le (wf.buf_lt i (old i hi h)) hnb
  · intro i hi d hd
    rw [hn]
    by_cases h : i = st.n
    · exact ndeps d (h ▸ hd)
    · rcases (hold i (old i hi h)).deps_back d hd with h' | h'
      · exact Nat.lt_succ_of_lt (wf.deps_lt i (old i hi h) d h')
      · omega
  · intro i hi
    rw [hn]
    by_cases h : i = st.n
    · exact h ▸ nroot
    · rw [(hold i (old i hi h)).root]
      exact Nat.lt_succ_of_lt (wf.root_lt i (old i hi h))
  · intro i hi hp
    by_cases h : i = st.n
    · subst h
      obtain ⟨p, hpn, hb, h1, h2⟩ := hparent hp
      exact ⟨p, hpn, (hold p hpn).buf.trans hb, h1, h2⟩
    · have hi' := old i hi h
      have ki := hold i hi'
      obtain ⟨p, hpi, h1, h2, h3⟩ := wf.parent i hi' (ki.path ▸ hp)
      have kp := hold p (Nat.lt_trans hpi hi')
      exact ⟨p, hpi, by rw [kp.buf, ki.buf]; exact h1, ki.deps_mono p h2, kp.deps_mono i h3⟩
  · intro i j hi hj hb hpi hpj
    by_cases h : i = st.n <;> by_cases h' : j = st.n
    · rw [h, h']
    · subst h
      exact absurd ((hold j (old j hj h')).buf ▸ hb.symm) (huniq hpi j (old j hj h'))
    · subst h'
      exact absurd ((hold i (old i hi h)).buf ▸ hb) (huniq hpj i (old i hi h))
    · have ki := hold i (old i hi h)
      have kj := hold j (old j hj h')
      exact wf.root_unique i j (old i hi h) (old j hj h') (by rw [← ki.buf, ← kj.buf]; exact hb) (ki.path ▸ hpi)
        (kj.path ▸ hpj)
  · intro i hi c hc
    rw [hn]
    by_cases h : i = st.n
    · rw [h, ncache] at hc; cases hc
    · have hi' := old i hi h
      have ki := hold i hi'
      obtain ⟨h1, h2, h3, h4, h5⟩ := wf.cache_ok i hi' c (ki.cache ▸ hc)
      have kc := hold c h1
      rw [kc.sys, ki.sys, kc.cont, ki.cont, kc.buf, ki.buf]
      exact ⟨Nat.lt_succ_of_lt h1, kc.deps_mono i h2, h3, h4, h5⟩

/-- `st'` has the objects of `st` up to their caches (the memory may differ) -/
def SameShape (st st' : Store A) : Prop :=
  st'.n = st.n ∧ st'.nbuf = st.nbuf ∧ ∀ j, (st'.obj j).buf = (st.obj j).buf ∧ (st'.obj j).path = (st.obj j).path ∧
    (st'.obj j).deps = (st.obj j).deps ∧ (st'.obj j).sys = (st.obj j).sys ∧ (st'.obj j).root = (st.obj j).root

/-- **recaching.**  With the shape kept, the invariant holds again when every cache left or filled holds the conversion
of the contents as they are afterwards. -/
theorem wf_recache {st st' : Store A} (wf : WF st) (h : SameShape st st')
    (hcache : ∀ i, i < st.n → ∀ c, (st'.obj i).cache = some c →
      c < st.n ∧ i ∈ (st.obj c).deps ∧ (st.obj c).sys = (st.obj i).sys.other ∧
        contents st' c = Arr.conv (st.obj i).sys.other (contents st' i) ∧ (st.obj c).buf ≠ (st.obj i).buf) : WF st' := by
  obtain ⟨hn, hnb, hsh⟩ := h
  constructor
  · intro i hi
    rw [(hsh i).1, hnb]
    exact wf.buf_lt i (hn ▸ hi)
  · intro i hi d hd
    rw [hn]
    exact wf.deps_lt i (hn ▸ hi) d ((hsh i).2.2.1 ▸ hd)
  · intro i hi
    rw [(hsh i).2.2.2.2, hn]
    exact wf.root_lt i (hn ▸ hi)
  · intro i hi hp
    obtain ⟨p, h1, h2, h3, h4⟩ := wf.parent i (hn ▸ hi) ((hsh i).2.1 ▸ hp)
    exact ⟨p, h1, by rw [(hsh p).1, (hsh i).1]; exact h2, by rw [(hsh i).2.2.1]; exact h3, by rw [(hsh p).2.2.1]; exact h4⟩
  · intro i j hi hj hb hpi hpj
    rw [(hsh i).1, (hsh j).1] at hb
    exact wf.root_unique i j (hn ▸ hi) (hn ▸ hj) hb ((hsh i).2.1 ▸ hpi) ((hsh j).2.1 ▸ hpj)
  · intro i hi c hc
    rw [hn, (hsh c).2.2.1, (hsh c).2.2.2.1, (hsh i).2.2.2.1, (hsh c).1, (hsh i).1]
    exact hcache i (hn ▸ hi) c hc

theorem contents_sameShape {st st' : Store A} (h : SameShape st st') (hm : st'.mem = st.mem) (j : Nat) :
    contents st' j = contents st j := by
  simp only [contents, (h.2.2 j).1, (h.2.2 j).2.1, hm]

section Alloc
variable (st : Store A) (s : Sys) (a : A) (deps : List Nat)

@[simp] theorem alloc_n : (alloc st s a deps).1.n = st.n + 1 := rfl
@[simp] theorem alloc_nbuf : (alloc st s a deps).1.nbuf = st.nbuf + 1 := rfl
@[simp] theorem alloc_ret : (alloc st s a deps).2 = st.n := rfl
theorem alloc_obj_new : (alloc st s a deps).1.obj st.n = ⟨s, st.nbuf, [], none, deps, st.n⟩ := by simp [alloc]
theorem alloc_obj_old {i : Nat} (hi : i < st.n) : (alloc st s a deps).1.obj i = st.obj i := by
  simp [alloc, Nat.ne_of_lt hi]
theorem alloc_contents_new : contents (alloc st s a deps).1 st.n = a := by
  simp [contents, alloc, getPath]
theorem alloc_contents_old (wf : WF st) {i : Nat} (hi : i < st.n) :
    contents (alloc st s a deps).1 i = contents st i := by
  have hb := wf.buf_lt i hi
  simp [contents, alloc, Nat.ne_of_lt hi, Nat.ne_of_lt hb]

theorem wf_alloc (wf : WF st) (hdeps : ∀ d ∈ deps, d < st.n + 1) : WF (alloc st s a deps).1 := by
  refine wf_push wf rfl (Nat.le_succ _) (fun i hi => ?_) ?_ ?_ ?_
  · exact .of_obj (alloc_contents_old st s a deps wf hi) (.inl (alloc_obj_old st s a deps hi))
  · rw [alloc_obj_new]
    exact ⟨Nat.lt_succ_self _, hdeps, Nat.lt_succ_self _, rfl⟩
  · rw [alloc_obj_new]
    exact fun h => absurd rfl h
  · rw [alloc_obj_new]
    exact fun _ j hj => Nat.ne_of_lt (wf.buf_lt j hj)

end Alloc

section SetCache
variable (st : Store A) (o : Nat) (c : Option Nat)

@[simp] theorem setCache_n : (setCache st o c).n = st.n := rfl
@[simp] theorem setCache_nbuf : (setCache st o c).nbuf = st.nbuf := rfl
@[simp] theorem setCache_mem : (setCache st o c).mem = st.mem := rfl
theorem setCache_sameShape : SameShape st (setCache st o c) := by
  refine ⟨rfl, rfl, fun j => ?_⟩
  simp only [setCache]
  split <;> simp [*]
theorem setCache_cache_self : ((setCache st o c).obj o).cache = c := by simp [setCache]
theorem setCache_cache_other {j : Nat} (h : j ≠ o) : ((setCache st o c).obj j).cache = (st.obj j).cache := by
  simp [setCache, h]
@[simp] theorem setCache_contents (j : Nat) : contents (setCache st o c) j = contents st j :=
  contents_sameShape (setCache_sameShape st o c) rfl j

theorem wf_setCache (wf : WF st) (hc : ∀ c', c = some c' →
    c' < st.n ∧ o ∈ (st.obj c').deps ∧ (st.obj c').sys = (st.obj o).sys.other ∧
      contents st c' = Arr.conv (st.obj o).sys.other (contents st o) ∧ (st.obj c').buf ≠ (st.obj o).buf) :
    WF (setCache st o c) := by
  refine wf_recache wf (setCache_sameShape st o c) fun i hi c' hc' => ?_
  rw [setCache_contents, setCache_contents]
  by_cases h : i = o
  · subst h
    rw [setCache_cache_self] at hc'
    exact hc c' hc'
  · rw [setCache_cache_other st o c h] at hc'
    exact wf.cache_ok i hi c' hc'

end SetCache

theorem sys_other_of_ne {s t : Sys} (h : s ≠ t) : s = t.other := by
  cases s <;> cases t <;> simp_all [Sys.other]

theorem wf_toSystem {st : Store A} (wf : WF st) {o : Nat} (ho : o < st.n) (s : Sys) : WF (toSystem st o s).1 := by
  unfold toSystem
  split
  · exact wf
  · rename_i hs
    split
    · exact wf
    · have wfa := wf_alloc st s (Arr.conv s (contents st o)) [o] wf (by simp; omega)
      apply wf_setCache _ _ _ wfa
      intro c' hc'
      simp only [alloc_ret, Option.some.injEq] at hc'
      subst hc'
      rw [alloc_obj_new, alloc_obj_old st _ _ _ ho, alloc_contents_new, alloc_contents_old st _ _ _ wf ho]
      refine ⟨by simp, by simp, ?_, ?_, ?_⟩
      · exact sys_other_of_ne hs
      · rw [← sys_other_of_ne hs]
      · exact Nat.ne_of_gt (wf.buf_lt o ho)

/-- what `to_system` hands out holds the conversion of the current contents of the object asked, and asking
changes the contents of no object -/
theorem toSystem_spec {st : Store A} (wf : WF st) {o : Nat} (ho : o < st.n) (s : Sys) :
    contents (toSystem st o s).1 (toSystem st o s).2 =
      (if s = (st.obj o).sys then contents st o else Arr.conv s (contents st o)) ∧
    ∀ j, j < st.n → contents (toSystem st o s).1 j = contents st j := by
  unfold toSystem
  split
  · exact ⟨rfl, fun _ _ => rfl⟩
  · rename_i hs
    split
    · rename_i c hc
      obtain ⟨_, _, _, h4, _⟩ := wf.cache_ok o ho c hc
      rw [← sys_other_of_ne hs] at h4
      exact ⟨h4, fun _ _ => rfl⟩
    · simp only [setCache_contents, alloc_ret]
      exact ⟨alloc_contents_new _ _ _ _, fun j hj => alloc_contents_old st _ _ _ wf hj⟩

theorem view_obj_new (st : Store A) (o : Nat) (k : String) : (view st o k).1.obj st.n =
    ⟨(st.obj o).sys, (st.obj o).buf, (st.obj o).path ++ [k], none, [(st.obj o).root, o], (st.obj o).root⟩ := by
  simp [view]

theorem view_obj_old (st : Store A) (o : Nat) (k : String) {i : Nat} (hi : i < st.n) : (view st o k).1.obj i =
    if i = o ∨ i = (st.obj o).root then { st.obj i with deps := (st.obj i).deps ++ [st.n] } else st.obj i := by
  simp [view, Nat.ne_of_lt hi]

theorem view_contents {st : Store A} {o : Nat} (k : String) :
    ∀ i, i < st.n → contents (view st o k).1 i = contents st i := by
  intro i hi
  rw [contents, view_obj_old st o k hi]
  split <;> rfl

theorem wf_view {st : Store A} (wf : WF st) {o : Nat} (ho : o < st.n) (k : String) : WF (view st o k).1 := by
  refine wf_push wf rfl (Nat.le_refl _) (fun i hi => ?_) ?_ ?_ ?_
  · refine .of_obj (view_contents (o := o) k i hi) ?_
    rw [view_obj_old st o k hi]
    split
    · exact .inr rfl
    · exact .inl rfl
  · rw [view_obj_new]
    refine ⟨wf.buf_lt o ho, fun d hd => ?_, Nat.lt_succ_of_lt (wf.root_lt o ho), rfl⟩
    have := wf.root_lt o ho
    simp only [List.mem_cons, List.not_mem_nil, or_false] at hd
    rcases hd with hd | hd <;> omega
  · rw [view_obj_new]
    exact fun _ => ⟨o, ho, rfl, by simp, by rw [view_obj_old st o k ho, if_pos (Or.inl rfl)]; simp⟩
  · rw [view_obj_new]
    exact fun h => absurd h (by simp)

theorem view_contents_new {st : Store A} (o : Nat) (k : String) :
    contents (view st o k).1 (view st o k).2 = Arr.get k (contents st o) := by
  have getPath_append : ∀ (p : List String) (a : A), getPath (p ++ [k]) a = Arr.get k (getPath p a) := by
    intro p; induction p with
    | nil => intro a; rfl
    | cons x xs ih => intro a; simp [getPath, ih]
  simp [contents, view, getPath_append]

section SetItem
variable (st : Store A) (o : Nat) (k : String) (v : A)

@[simp] theorem setItem_n : (setItem st o k v).n = st.n := rfl
@[simp] theorem setItem_nbuf : (setItem st o k v).nbuf = st.nbuf := rfl
theorem setItem_sameShape : SameShape st (setItem st o k v) := by
  refine ⟨rfl, rfl, fun j => ?_⟩
  simp only [setItem]
  split <;> simp
theorem setItem_cache_some {j c : Nat} (h : ((setItem st o k v).obj j).cache = some c) :
    j ∉ clearSet st o ∧ (st.obj j).cache = some c := by
  simp only [setItem] at h
  split at h
  · cases h
  · rename_i hc; exact ⟨by simpa using hc, h⟩

theorem setItem_contents_other {j : Nat} (h : (st.obj j).buf ≠ (st.obj o).buf) :
    contents (setItem st o k v) j = contents st j := by
  simp only [contents, ((setItem_sameShape st o k v).2.2 j).1, ((setItem_sameShape st o k v).2.2 j).2.1]
  simp [setItem, h]

theorem setItem_contents_self :
    contents (setItem st o k v) o =
      getPath (st.obj o).path (putPath (st.obj o).path (Arr.put k v (contents st o)) (st.mem (st.obj o).buf)) := by
  simp only [contents, ((setItem_sameShape st o k v).2.2 o).1, ((setItem_sameShape st o k v).2.2 o).2.1]
  simp [setItem]

theorem wf_setItem (wf : WF st) (ho : o < st.n) : WF (setItem st o k v) := by
  have hcl := clearSet_closed wf ho
  have hself := clearSet_self st o
  refine wf_recache wf (setItem_sameShape st o k v) fun i hi c hc => ?_
  -- a cache that survives belongs to an object outside the cleared set: neither it nor its conversion is on the written block
  obtain ⟨hiS, hc'⟩ := setItem_cache_some st o k v hc
  obtain ⟨h1, h2, h3, h4, h5⟩ := wf.cache_ok i hi c hc'
  have hbi : (st.obj i).buf ≠ (st.obj o).buf := fun hb => hiS (closed_same_buf wf hcl ho hi hself hb)
  have hbc : (st.obj c).buf ≠ (st.obj o).buf := fun hb =>
    hiS (hcl c (closed_same_buf wf hcl ho h1 hself hb) i h2)
  rw [setItem_contents_other st o k v hbi, setItem_contents_other st o k v hbc]
  exact ⟨h1, h2, h3, h4, h5⟩

end SetItem

theorem wf_step {st : Store A} (wf : WF st) (op : Op A) : WF (step st op).1 := by
  cases op with
  | new s a => exact wf_alloc st s a [] wf (by simp)
  | toSys o s =>
    simp only [step]; split
    · rename_i ho; exact wf_toSystem wf ho s
    · exact wf
  | view o k =>
    simp only [step]; split
    · rename_i ho; exact wf_view wf ho k
    · exact wf
  | take o k =>
    simp only [step]; split
    · exact wf_alloc st _ _ [] wf (by simp)
    · exact wf
  | set o k v =>
    simp only [step]; split
    · rename_i ho; exact wf_setItem st o k v wf ho
    · exact wf

theorem wf_run {st : Store A} (wf : WF st) (ops : List (Op A)) : WF (run st ops) := by
  induction ops generalizing st with
  | nil => exact wf
  | cons op ops ih => exact ih (wf_step wf op)

end Midgard.Geo.PosCache
