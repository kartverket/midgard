/-
`SinexTmsParser`.  One step of it is an assignment `self.data[key] = value`: `tmsValue` is the method table of
`tmsStep` without the assignment, `tmsStep_custom` the equation between the two.  TIMESERIES/DATA is read in
whitespace mode: a record written as tokens after blanks (`wsLine`) splits into its tokens, and the column names are
those of the TIMESERIES/COLUMNS records.
-/
import Midgard.Proofs.SinexNames
import Midgard.Proofs.SinexDict
import Midgard.Proofs.Split
import Midgard.Proofs.OptionMapM

namespace Midgard.Props.C14
open Midgard.Sinex Midgard.FixedCol Midgard.Text Midgard.Decimal

theorem OtherEntry.otherKey {e : String} {b : BlockDef} (he : tmsListEntry e) (hb : OtherEntry e b) : OtherKey e b := by
  intro q hk hkey
  unfold tmsKey at hkey
  split at hkey
  · rcases he with rfl | rfl | rfl <;> exact absurd hkey (by decide)
  · exact hb q hk hkey

theorem tmsKey_ne {e : String} (h : e ≠ "timeseries_ref_coordinate") : tmsKey e = e := if_neg h

/-- the dictionary already stored under a key (`setdefault(key, dict())`) -/
def dictAt (D : List (String × Val)) (k : String) : List (String × Val) :=
  match dget? D k with
  | some (.dict kvs) => kvs
  | _ => []

/-- the list already stored under a key (`setdefault(key, list())`) -/
def listAt (D : List (String × Val)) (k : String) : List Val :=
  match dget? D k with
  | some (.list vs) => vs
  | _ => []

theorem dictAt_none {D : List (String × Val)} {k : String} (h : dget? D k = Option.none) : dictAt D k = [] := by
  rw [dictAt, h]

theorem listAt_none {D : List (String × Val)} {k : String} (h : dget? D k = Option.none) : listAt D k = [] := by
  rw [listAt, h]

/-- the value the block parser named `e` assigns, from the raw block and what `self.data` holds (`none`: it raises):
the method table of `tmsStep`, without the assignment -/
def tmsValue (e : String) (b : BlockDef) (r : RawBlock) (D : List (String × Val)) : Option Val :=
  if e = "timeseries_data" then
    (tmsNames D).bind fun names => (tmsData names r.lines).map fun d =>
      .dict (d.foldl (fun acc kv => dset acc kv.1 kv.2) (dictAt D "timeseries_data"))
  else if e = "file_reference" then
    (fileRefTms (rowsOfTms b r)).map fun d => .dict (d.foldl (fun acc kv => dset acc kv.1 kv.2) (dictAt D "file_reference"))
  else if e = "site_antenna" then
    ((rowsOfTms b r).mapM antennaRowTms).map fun rows' => .list (listAt D e ++ rows'.map rowVal)
  else if e = "site_id" ∨ e = "site_receiver" ∨ e = "site_eccentricity" then
    some (.list (listAt D e ++ (rowsOfTms b r).map rowVal))
  else if e = "timeseries_ref_coordinate" then
    match rowsOfTms b r with
    | [row] => some (rowVal row)
    | _ => Option.none
  else if e = "timeseries_columns" then some (.dict (columns b.fields (rowsOfTms b r)))
  else Option.none

/-- every block parser of sinex_tms is one assignment.  (A walk over the branches of `tmsStep`; the `match`es of the model
on what is stored already and `dictAt` / `listAt` are different matchers of the same shape, hence the closing `rfl`s.) -/
theorem tmsStep_custom (look : String → Option RawBlock) (D : List (String × Val)) (b : BlockDef) (q : String)
    (r : RawBlock) (hr : look b.marker = some r) (hk : b.kind = .custom q) :
    tmsStep look D b = (tmsValue (entryName q) b r D).map (dset D (tmsKey (entryName q))) := by
  unfold tmsStep tmsValue tmsKey
  simp only [hr, hk]
  generalize entryName q = e
  by_cases h1 : e = "timeseries_data"
  · subst h1
    simp [Option.map_bind, Function.comp_def, dictAt]
    rfl
  rw [if_neg h1, if_neg h1]
  by_cases h2 : e = "file_reference"
  · subst h2
    simp [Function.comp_def, dictAt]
    rfl
  rw [if_neg h2, if_neg h2]
  by_cases h3 : e = "site_antenna"
  · subst h3
    simp [Function.comp_def, appendRows, listAt]
    rfl
  rw [if_neg h3, if_neg h3]
  by_cases h4 : e = "site_id" ∨ e = "site_receiver" ∨ e = "site_eccentricity"
  · rw [if_pos h4, if_pos h4]
    rcases h4 with rfl | rfl | rfl <;> (simp [appendRows, listAt]; rfl)
  rw [if_neg h4, if_neg h4]
  by_cases h5 : e = "timeseries_ref_coordinate"
  · subst h5
    simp only [if_true]
    cases rowsOfTms b r with
    | nil => rfl
    | cons x rest => cases rest <;> rfl
  rw [if_neg h5, if_neg h5, if_neg h5]
  by_cases h6 : e = "timeseries_columns"
  · subst h6
    rfl
  · rw [if_neg h6, if_neg h6]
    rfl

theorem tmsValue_columns (b : BlockDef) (r : RawBlock) (D : List (String × Val)) :
    tmsValue "timeseries_columns" b r D = some (.dict (columns b.fields (rowsOfTms b r))) := by
  simp [tmsValue]

theorem tmsValue_ref (b : BlockDef) (r : RawBlock) (D : List (String × Val)) :
    tmsValue "timeseries_ref_coordinate" b r D =
      match rowsOfTms b r with
      | [row] => some (rowVal row)
      | _ => Option.none := by
  simp [tmsValue]

theorem tmsValue_antenna (b : BlockDef) (r : RawBlock) (D : List (String × Val)) :
    tmsValue "site_antenna" b r D =
      ((rowsOfTms b r).mapM antennaRowTms).map fun rows' => .list (listAt D "site_antenna" ++ rows'.map rowVal) := by
  simp [tmsValue]

theorem tmsValue_list (e : String) (he : tmsListEntry e) (b : BlockDef) (r : RawBlock) (D : List (String × Val)) :
    tmsValue e b r D = some (.list (listAt D e ++ (rowsOfTms b r).map rowVal)) := by
  rcases he with rfl | rfl | rfl <;> simp [tmsValue]

theorem tmsValue_file_reference (b : BlockDef) (r : RawBlock) (D : List (String × Val)) :
    tmsValue "file_reference" b r D = (fileRefTms (rowsOfTms b r)).map fun d =>
      .dict (d.foldl (fun acc kv => dset acc kv.1 kv.2) (dictAt D "file_reference")) := by
  simp [tmsValue]

theorem tmsValue_data (b : BlockDef) (r : RawBlock) (D : List (String × Val)) :
    tmsValue "timeseries_data" b r D = (tmsNames D).bind fun names => (tmsData names r.lines).map fun d =>
      .dict (d.foldl (fun acc kv => dset acc kv.1 kv.2) (dictAt D "timeseries_data")) := by
  simp [tmsValue]

/-- a TIMESERIES/DATA record: pairs of a pad and a token, then trailing text.  `PadsOk` (`Proofs/Split.lean`) is what
makes the pads whitespace, non-empty from the second on, and the tokens free of it; the first pad may be empty, so that
the record starts with a blank is asked separately where `parse_blocks` must keep the line -/
def wsLine (r : List (Str × Str) × Str) : Str := padded r.1 ++ r.2

def wsTokens (r : List (Str × Str) × Str) : List Str := r.1.map (·.2)

theorem length_wsTokens (r : List (Str × Str) × Str) : (wsTokens r).length = r.1.length := List.length_map _

theorem split_wsLine (r : List (Str × Str) × Str) (hok : PadsOk r.1 = true) (hb : isBlank r.2 = true) :
    split (wsLine r) = wsTokens r := by
  unfold wsLine split
  rw [splitAux_blank_end hb]
  exact split_padded r.1 hok

theorem length_wsColumns (rows : List (List Str)) : (wsColumns rows).length = (rows.headD []).length := by
  simp [wsColumns]

theorem getElem_wsColumns (rows : List (List Str)) (j : Nat) (hj : j < (rows.headD []).length) :
    (wsColumns rows)[j]'(by rw [length_wsColumns]; exact hj) = column j rows := by
  simp [wsColumns]

theorem tmsCol_float (name : Str) (col : List Str) (qs : List Rat) (hn : dtypeStr.contains name = false)
    (hc : col.map parseFloat = qs.map some) : tmsCol name col = some (.col (qs.map fun q => Cell.flt (some q))) := by
  unfold tmsCol
  rw [if_neg (by rw [hn]; decide), (mapM_eq_some_iff parseFloat col qs).mpr hc]
  rfl

theorem tmsData_keys (names : List Str) (lines : List Str) (d : List (String × Val)) (h : tmsData names lines = some d) :
    (keys d).Nodup := by
  unfold tmsData at h
  obtain ⟨rows, _, h⟩ := Option.bind_eq_some_iff.mp h
  refine foldlM_step_keys _ (fun acc x D' hx => ?_) _ [] d List.nodup_nil h
  obtain ⟨v, _, rfl⟩ := Option.map_eq_some_iff.mp hx
  exact ⟨_, _, rfl⟩

/-- the field table of TIMESERIES/COLUMNS, typed here; equal to the fields of the regenerated block by
`tms_columns_table` (`Props/C14.lean`) -/
def tmsColumnsFields : List FieldDef :=
  [⟨"col", 1, .f8, .none⟩, ⟨"name", 6, .u 20, .none⟩, ⟨"unit", 27, .u 21, .none⟩, ⟨"description", 49, .u 100, .utf8⟩]

theorem tmsNames_columns (D : List (String × Val)) (rows : List Row)
    (h : dget? D "timeseries_columns" = some (.dict (columns tmsColumnsFields rows))) :
    tmsNames D = some (rows.map fun r => cellStr (lookup r "name")) := by
  have h0 : validName "col" = "col" := validName_id (by decide +kernel)
  have h1 : validName "name" = "name" := validName_id (by decide +kernel)
  have h2 : ¬ "col" = "name" := by decide
  unfold tmsNames
  rw [h]
  simp [columns, kept, tmsColumnsFields, dget?, h0, h1, h2, List.map_map, Function.comp_def]

end Midgard.Props.C14
