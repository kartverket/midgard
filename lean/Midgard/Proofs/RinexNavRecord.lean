/-
One record of a navigation file through `addRecord`.  A record line is the rendering of its cells at the columns of the
standard (`Spec.RinexNav.v3Epoch`, `v2Epoch`, `orbitLine`); the parsers' tables cut wider fields that cover the standard's
(`FixedCol.Covers`: the `1X` before a two-digit field, the `4X` / `3X` before the first real), so each cell is read back
under its field's name.  What the orbit lines of a record contribute is a function of their text alone (`lineKv`, `linesKv`);
the columns read so far enter only through `pushRow`.  The regenerated tables (`Generated/RinexNavCols.lean`) enter through
`v3_lines`, `v2_lines`.  Core Lean only.
-/
import Midgard.Generated.RinexNavCols
import Midgard.Proofs.Lists
import Midgard.Proofs.OptionMapM
import Midgard.Proofs.RinexNavNum

namespace Midgard.Spec.RinexNavFile
open Midgard.Text Midgard.Decimal Midgard.FixedCol Midgard.RinexNav Midgard.Spec.NumText
open Midgard.Spec.Sp3File (okText R Lft)

theorem rstrip_cutIf (cut : Bool) (l : Str) : rstrip (cutIf cut l) = rstrip l := by
  unfold cutIf
  split
  · exact rstrip_idem l
  · rfl

/-- layout of a broadcast-orbit line as the parsers cut it: the first field takes the leading blanks -/
def rowLayout (lead : Nat) (n1 n2 n3 n4 : String) : Layout :=
  [⟨n1, 0, lead + 19⟩, ⟨n2, lead + 19, lead + 38⟩, ⟨n3, lead + 38, lead + 57⟩, ⟨n4, lead + 57, lead + 76⟩]

def rowLayout2 (lead : Nat) (n1 n2 : String) : Layout := [⟨n1, 0, lead + 19⟩, ⟨n2, lead + 19, lead + 38⟩]

theorem lineValues_rendered (num : Nat) (L P : Layout) (cells : List (Align × Str)) (post line : Str)
    (hline : line = renderFrom 0 L cells ++ post) (hs : SortedFrom 0 L = true) (hf : Fits L cells = true)
    (hc : Covers 0 L P = true) :
    lineValues ⟨num, P⟩ line = (P.map (·.name)).zip (cells.map (·.2)) := by
  rw [hline, lineValues, sliceAll_zip]
  exact congrArg _ (read_rendered L P 0 cells [] post hs hf rfl hc)

/-- 19-column fields side by side from column `pos` on: the standard's orbit line (`Spec.RinexNav.orbitLine`, `orbitLine_cols19`) -/
def cols19 (pos : Nat) : List String → Layout
  | [] => []
  | n :: ns => ⟨n, pos, pos + 19⟩ :: cols19 (pos + 19) ns

def orbitLayout (lead : Nat) : List String → Layout
  | [] => []
  | n :: ns => ⟨n, 0, lead + 19⟩ :: cols19 (lead + 19) ns

theorem orbitLine_cols19 (names : List String) : ∀ (lead : Nat), Spec.RinexNav.orbitLine lead names = cols19 lead names := by
  unfold Spec.RinexNav.orbitLine
  induction names with
  | nil => intro lead; rfl
  | cons n ns ih =>
    intro lead
    rw [cols19, ← ih (lead + 19), List.length_cons, List.range_succ_eq_map, List.zip_cons_cons, List.map_cons,
      List.zip_map_left, List.map_map]
    congr 1
    refine List.map_congr_left fun kn _ => ?_
    simp only [Function.comp, Prod.map]
    congr 1 <;> omega

theorem orbitLayout_names (lead : Nat) (ns : List String) : (orbitLayout lead ns).map (·.name) = ns := by
  cases ns with
  | nil => rfl
  | cons n ns =>
    have : ∀ (ns : List String) (pos : Nat), (cols19 pos ns).map (·.name) = ns := by
      intro ns
      induction ns with
      | nil => intro pos; rfl
      | cons n ns ih => intro pos; simp [cols19, ih]
    simp [orbitLayout, this]

theorem cols19_cells (kv : List (String × Num19)) (hwf : ∀ x ∈ kv, x.2.wf = true) : ∀ (pos : Nat),
    SortedFrom pos (cols19 pos (kv.map (·.1))) = true ∧
    Fits (cols19 pos (kv.map (·.1))) (kv.map fun x => R x.2.text) = true ∧
    renderFrom pos (cols19 pos (kv.map (·.1))) (kv.map fun x => R x.2.text) = ((kv.map (·.2)).map cell19).flatten := by
  induction kv with
  | nil => intro pos; exact ⟨rfl, rfl, rfl⟩
  | cons x kv ih =>
    intro pos
    obtain ⟨h1, h2, h3⟩ := ih (fun y hy => hwf y (by simp [hy])) (pos + 19)
    have hx : x.2.text.length ≤ 19 ∧ Clean x.2.text = true :=
      ⟨length_num19 x.2 (hwf x (by simp)), clean_num19 x.2 (hwf x (by simp))⟩
    simp only [R] at h2 h3 hx ⊢
    refine ⟨?_, ?_, ?_⟩
    · simp [cols19, SortedFrom, h1]
    · simp [cols19, fits_cons_iff, Field.width, hx.1, hx.2, h2]
    · simp [cols19, renderFrom_cons, Field.width, pad, cell19, h3]

theorem covers_orbit (lead : Nat) (ns : List String) (hs : SortedFrom lead (cols19 lead ns) = true) :
    Covers 0 (cols19 lead ns) (orbitLayout lead ns) = true := by
  cases ns with
  | nil => rfl
  | cons n ns =>
    simp only [cols19, SortedFrom, Bool.and_eq_true] at hs
    have hnext : ((cols19 (lead + 19) ns).head?.map (·.start)).getD (lead + 19) = lead + 19 := by cases ns <;> rfl
    simp [cols19, orbitLayout, Covers, hnext, covers_self _ _ hs.2]

theorem orbitLine_values (num lead : Nat) (kv : List (String × Num19)) (spare : List Num19) (cut : Bool)
    (hwf : ∀ x ∈ kv, x.2.wf = true) :
    lineValues ⟨num, orbitLayout lead (kv.map (·.1))⟩ (rowLine lead (kv.map (·.2) ++ spare) cut) =
      kv.map fun x => (x.1, x.2.text) := by
  obtain ⟨hs, hf, hr⟩ := cols19_cells kv hwf lead
  cases kv with
  | nil => rfl
  | cons x kv =>
    -- rendered from column 0 the standard's line starts with its `lead` blanks
    have hline : blanks lead ++ (((x :: kv).map (·.2) ++ spare).map cell19).flatten =
        renderFrom 0 (cols19 lead ((x :: kv).map (·.1))) ((x :: kv).map fun y => R y.2.text) ++
          (spare.map cell19).flatten := by
      rw [renderFrom_lead _ _ 0 lead hf (Nat.zero_le _) (Nat.le_refl _), hr]
      simp [List.append_assoc]
    have hs0 := sortedFrom_mono (Nat.zero_le lead) hs
    have hc := covers_orbit lead _ hs
    -- the writer's line is the rendering at the standard's orbit columns, which the parser's fields cover
    rw [← orbitLine_cols19] at hline hs0 hf hc
    unfold rowLine
    rw [lineValues, rstrip_cutIf, ← lineValues]
    refine (lineValues_rendered num (Spec.RinexNav.orbitLine lead _) _ _ _ _ hline hs0 hf hc).trans ?_
    simp [orbitLayout_names, R, List.map_map, Function.comp_def, List.zip_map']

theorem pushRow_append (d : Cols) (a b : List (String × Cell)) : pushRow d (a ++ b) = pushRow (pushRow d a) b := by
  simp [pushRow, List.foldl_append]

/-- `_parse_obs_float` of one orbit line: its (column, value) pairs -/
def lineKv (ld : LineDef) (line : Str) : Option (List (String × Cell)) :=
  (lineValues ld line).mapM fun kt => (floatField kt.2).map fun q => (kt.1, Cell.num q)

/-- line `il.1 + 2` of a record: a line number the table does not know contributes nothing -/
def lineKvAt (T : Tables) (il : Nat × Str) : Option (List (String × Cell)) :=
  match T.lines.find? (fun (l : LineDef) => l.num = il.1 + 2) with
  | Option.none => some []
  | some ld => lineKv ld il.2

def linesKv (T : Tables) (nl : List (Nat × Str)) : Option (List (String × Cell)) := (nl.mapM (lineKvAt T)).map List.flatten

theorem addEpoch_eq (d : Cols) (e : Epoch) (clock : List (String × Rat)) : addEpoch d e clock =
    pushRow d (("system", Cell.str e.system) :: ("satellite", Cell.str e.sat) :: clock.map fun nq => (nq.1, Cell.num nq.2)) := by
  simp [addEpoch, pushRow, List.foldl_map]

theorem addLine_eq (ld : LineDef) (d : Cols) (line : Str) : addLine ld d line = (lineKv ld line).map (pushRow d) := by
  refine Eq.trans ?_ (foldlM_map (fun kt : String × Str => (floatField kt.2).map fun q => (kt.1, Cell.num q))
    (fun (d : Cols) (x : String × Cell) => append d x.1 x.2) (lineValues ld line) d)
  unfold addLine
  congr 1
  funext d kt
  cases floatField kt.2 <;> rfl

theorem addLines_eq (T : Tables) (d : Cols) (nl : List (Nat × Str)) : addLines T d nl = (linesKv T nl).map (pushRow d) := by
  unfold addLines linesKv lineKvAt
  rw [Option.map_map]
  refine Eq.trans ?_ ((foldlM_map _ pushRow nl d).trans (congrArg (Option.map · _) (funext fun rows => ?_)))
  · congr 1
    funext d il
    cases T.lines.find? (fun (l : LineDef) => l.num = il.1 + 2) with
    | none => rfl
    | some ld => exact addLine_eq ld d il.2
  · exact (List.foldl_flatten ..).symm

theorem lineKv_keys (ld : LineDef) (line : Str) (kv : List (String × Cell)) (h : lineKv ld line = some kv) :
    kv.map (·.1) = ld.fields.map (·.name) := by
  rw [mapM_image _ (·.1) (·.1) (fun kt y hy => by
    obtain ⟨q, _, rfl⟩ := Option.map_eq_some_iff.mp hy
    rfl) h]
  exact sliceAll_names _ _

theorem lineKv_of (ld : LineDef) (line : Str) (kv : List (String × Num19))
    (h : lineValues ld line = kv.map fun x => (x.1, x.2.text)) (hwf : ∀ x ∈ kv, x.2.wf = true) :
    lineKv ld line = some (kv.map fun x => (x.1, Cell.num x.2.val)) := by
  unfold lineKv
  rw [h, mapM_eq_some_iff, List.map_map, List.map_map]
  exact List.map_congr_left fun x hx => by simp [floatField_num19 x.2 (hwf x hx)]

/-- an orbit line as the writer prints it: its 0-based number, the values under the standard's slot names, what fills the
spare columns, whether the line is cut after the last value -/
structure OrbitRow where
  idx : Nat
  named : List (String × Num19)
  spare : List Num19
  cut : Bool

def OrbitRow.line (lead : Nat) (row : OrbitRow) : Str := rowLine lead (row.named.map (·.2) ++ row.spare) row.cut

theorem linesKv_rows (T : Tables) (lead : Nat) (rows : List OrbitRow)
    (hT : ∀ row ∈ rows, T.lines.find? (fun (l : LineDef) => l.num = row.idx + 2) =
      some ⟨row.idx + 2, orbitLayout lead (row.named.map (·.1))⟩)
    (hwf : ∀ row ∈ rows, ∀ x ∈ row.named, x.2.wf = true) :
    linesKv T (rows.map fun row => (row.idx, row.line lead)) =
      some ((rows.flatMap (·.named)).map fun x => (x.1, Cell.num x.2.val)) := by
  rw [linesKv, (mapM_eq_some_iff _ _ (rows.map fun row => row.named.map fun x => (x.1, Cell.num x.2.val))).mpr ?_]
  · simp [List.flatMap_def, List.map_flatten, List.map_map, Function.comp_def]
  · rw [List.map_map, List.map_map]
    exact List.map_congr_left fun row hrow => by
      simp only [Function.comp_def, lineKvAt, hT row hrow]
      exact lineKv_of _ _ row.named (orbitLine_values (row.idx + 2) lead row.named row.spare row.cut (hwf row hrow)) (hwf row hrow)

open Midgard.Generated.RinexNav

/-- the tables of `rinex3_nav` as this file expects them (checked against the regenerated ones below).  The epoch line is field
for field the standard's `Spec.RinexNav.v3Epoch`; for RINEX 2 (`epochLayout2`) the parsers' fields are wider than the standard's -/
def epochLayout3 : Layout :=
  [⟨"system", 0, 1⟩, ⟨"sat_num", 1, 3⟩, ⟨"year", 4, 8⟩, ⟨"month", 9, 11⟩, ⟨"day", 12, 14⟩, ⟨"hour", 15, 17⟩,
   ⟨"minute", 18, 20⟩, ⟨"second", 21, 23⟩, ⟨"sat_clock_bias", 23, 42⟩, ⟨"sat_clock_drift", 42, 61⟩,
   ⟨"sat_clock_drift_rate", 61, 80⟩]

def orbitLines (lead : Nat) : List LineDef :=
  [⟨2, rowLayout lead "iode" "crs" "delta_n" "m0"⟩, ⟨3, rowLayout lead "cuc" "e" "cus" "sqrt_a"⟩,
   ⟨4, rowLayout lead "toe" "cic" "Omega" "cis"⟩, ⟨5, rowLayout lead "i0" "crc" "omega" "Omega_dot"⟩,
   ⟨6, rowLayout lead "idot" "gnss_data_info" "gnss_week" "gnss_l2p_flag"⟩,
   ⟨7, rowLayout lead "sv_accuracy" "sv_health" "gnss_tgd_bgd" "gnss_iodc_groupdelay"⟩,
   ⟨8, rowLayout2 lead "transmission_time" "gnss_interval"⟩]

theorem v3_lines : v3.lines = ⟨1, epochLayout3⟩ :: orbitLines 4 := by decide +kernel

theorem epochLine3_values {sys : Char} {prnText : Str} (y mo d h mi s : Nat) {c1 c2 c3 : Num19}
    (hsys : isSpace sys = false) (hprn : Clean prnText = true) (hplen : prnText.length ≤ 2)
    (h1 : c1.wf = true) (h2 : c2.wf = true) (h3 : c3.wf = true) :
    lineValues ⟨1, epochLayout3⟩ (epochLine3 sys prnText y mo d h mi s c1 c2 c3) =
      [("system", [sys]), ("sat_num", prnText), ("year", fixedDigits 4 y), ("month", i22 mo), ("day", i22 d),
       ("hour", i22 h), ("minute", i22 mi), ("second", i22 s), ("sat_clock_bias", c1.text),
       ("sat_clock_drift", c2.text), ("sat_clock_drift_rate", c3.text)] := by
  have hsc : Clean [sys] = true := by simp [Clean, hsys]
  have l1 := length_num19 c1 h1
  have l2 := length_num19 c2 h2
  have l3 := length_num19 c3 h3
  -- the writer prints at the standard's columns; the parser's table has the same fields
  refine (lineValues_rendered 1 Spec.RinexNav.v3Epoch epochLayout3 [Lft [sys], R prnText, R (fixedDigits 4 y), R (i22 mo),
    R (i22 d), R (i22 h), R (i22 mi), R (i22 s), R c1.text, R c2.text, R c3.text] [] _ ?_ (by decide +kernel) ?_
    (by decide +kernel)).trans ?_
  · simp [epochLine3, Spec.RinexNav.v3Epoch, renderFrom_cons, renderFrom_nil, Lft, R, pad, Field.width, ljust, rjust_of_length_ge, blanks_succ, cell19, i22,
      length_fixedDigits, List.append_assoc]
  · simp [Spec.RinexNav.v3Epoch, fits_cons_iff, Lft, R, i22, clean_fixedDigits, hsc, hprn, length_fixedDigits, Field.width, clean_num19,
      h1, h2, h3, hplen, l1, l2, l3]
  · simp [epochLayout3, Lft, R]

theorem find_line (lines : List LineDef) (ld : LineDef) (h : ld ∈ lines)
    (huniq : ∀ l ∈ lines, l.num = ld.num → l = ld) :
    lines.find? (fun (l : LineDef) => l.num = ld.num) = some ld := by
  induction lines with
  | nil => simp at h
  | cons x xs ih =>
    by_cases hx : x.num = ld.num
    · have := huniq x (by simp) hx
      simp [this]
    · have hne : ld ≠ x := fun e => hx (e ▸ rfl)
      have hmem : ld ∈ xs := by
        rcases List.mem_cons.mp h with e | e
        · exact absurd e hne
        · exact e
      simp only [List.find?_cons, hx, decide_false]
      exact ih hmem (fun l hl => huniq l (by simp [hl]))

theorem find_num (lines : List LineDef) (hnd : (lines.map (·.num)).Nodup) (ld : LineDef) (h : ld ∈ lines) :
    lines.find? (fun (l : LineDef) => l.num = ld.num) = some ld :=
  find_line lines ld h fun _ hl e => Lists.nodup_map_inj hnd hl h e

theorem find_lines (lead : Nat) (ld1 : LineDef) (h1 : ld1.num = 1) (T : Tables) (hT : T.lines = ld1 :: orbitLines lead) :
    T.lines.find? (fun (l : LineDef) => l.num = 1) = some ld1 ∧
    ∀ ld ∈ orbitLines lead, T.lines.find? (fun (l : LineDef) => l.num = ld.num) = some ld := by
  have hnd : (T.lines.map (·.num)).Nodup := by
    rw [hT, List.map_cons, h1, show (orbitLines lead).map (·.num) = [2, 3, 4, 5, 6, 7, 8] from rfl]
    decide
  exact ⟨h1 ▸ find_num _ hnd ld1 (hT ▸ List.mem_cons_self),
    fun ld hld => find_num _ hnd ld (hT ▸ List.mem_cons_of_mem _ hld)⟩

theorem clean_prnText (r : NavRec) (h : r.prn < 100) : Clean r.prnText = true ∧ r.prnText.length ≤ 2 := by
  unfold NavRec.prnText
  split
  · exact ⟨clean_fixedDigits 2 _, by simp [i22, length_fixedDigits]⟩
  · exact ⟨clean_of_numChars (numChars_natDigits _), (length_natDigits_le_iff 2 r.prn (by decide)).mpr (by simpa using h)⟩

theorem zfill_prnText (r : NavRec) (h : r.prn < 100) : zfill 2 r.prnText = i22 r.prn := by
  unfold NavRec.prnText
  split
  · exact zfill_i22 _
  · exact zfill_natDigits _ h

theorem supportedSys_facts {c : Char} (h : supportedSys.contains c = true) :
    isAlpha c = true ∧ okText [c] = true ∧ isSpace c = false ∧ [c] ≠ ['S'] ∧ [c] ≠ ['R'] := by
  simp only [supportedSys, List.contains_iff_mem, List.mem_cons, List.not_mem_nil, or_false] at h
  rcases h with rfl | rfl | rfl | rfl | rfl <;> decide

def navRows (r : NavRec) : List OrbitRow :=
  [⟨0, [("iode", r.o1.a), ("crs", r.o1.b), ("delta_n", r.o1.c), ("m0", r.o1.d)], [], r.o1.cut⟩,
   ⟨1, [("cuc", r.o2.a), ("e", r.o2.b), ("cus", r.o2.c), ("sqrt_a", r.o2.d)], [], r.o2.cut⟩,
   ⟨2, [("toe", r.o3.a), ("cic", r.o3.b), ("Omega", r.o3.c), ("cis", r.o3.d)], [], r.o3.cut⟩,
   ⟨3, [("i0", r.o4.a), ("crc", r.o4.b), ("omega", r.o4.c), ("Omega_dot", r.o4.d)], [], r.o4.cut⟩,
   ⟨4, [("idot", r.o5.a), ("gnss_data_info", r.o5.b), ("gnss_week", r.o5.c), ("gnss_l2p_flag", r.o5.d)], [], r.o5.cut⟩,
   ⟨5, [("sv_accuracy", r.o6.a), ("sv_health", r.o6.b), ("gnss_tgd_bgd", r.o6.c), ("gnss_iodc_groupdelay", r.o6.d)], [],
     r.o6.cut⟩,
   ⟨6, [("transmission_time", r.o7.a), ("gnss_interval", r.o7.b)], r.o7.spare, r.o7.cut⟩]

def orbitKv (r : NavRec) : List (String × Cell) :=
  ((navRows r).flatMap (·.named)).map fun x => (x.1, Cell.num x.2.val)

theorem kvOf_eq (r : NavRec) :
    kvOf r = [("system", Cell.str [r.sys]), ("satellite", Cell.str (satName r.sys r.prn)),
      ("sat_clock_bias", Cell.num r.c1.val), ("sat_clock_drift", Cell.num r.c2.val),
      ("sat_clock_drift_rate", Cell.num r.c3.val)] ++ orbitKv r := rfl

theorem navRows_wf (r : NavRec) (h : r.wf = true) : ∀ row ∈ navRows r, ∀ n ∈ row.named.map (·.2) ++ row.spare, n.wf = true := by
  simp only [NavRec.wf, Row4.wf, Row2.wf, Bool.and_eq_true, List.all_eq_true] at h
  obtain ⟨⟨⟨⟨⟨⟨⟨_, h1⟩, h2⟩, h3⟩, h4⟩, h5⟩, h6⟩, h7⟩ := h
  simp only [navRows, List.map_cons, List.map_nil, List.cons_append, List.nil_append, List.append_nil,
    List.forall_mem_cons, List.not_mem_nil, false_imp_iff, implies_true, and_true, h1, h2, h3, h4, h5, h6, h7, true_and]
  exact h7.1.2

theorem linesKv_nav (T : Tables) (lead : Nat) (hT : ∀ ld ∈ orbitLines lead, T.lines.find? (fun (l : LineDef) => l.num = ld.num) = some ld)
    (r : NavRec) (hr : r.wf = true) :
    linesKv T ((List.range 7).zip ((navRows r).map (OrbitRow.line lead))) = some (orbitKv r) := by
  -- `rfl`: the table is written with `rowLayout` / `rowLayout2`, which unfold to `orbitLayout` of the slot names
  have hlines : orbitLines lead = (navRows r).map fun row => ⟨row.idx + 2, orbitLayout lead (row.named.map (·.1))⟩ := rfl
  exact linesKv_rows T lead (navRows r)
    (fun row hrow => hT _ (hlines ▸ List.mem_map_of_mem hrow))
    (fun row hrow x hx => navRows_wf r hr row hrow x.2 (List.mem_append_left _ (List.mem_map_of_mem hx)))

theorem get_cons (k' : String) (v : Str) (rest : List (String × Str)) (k : String) :
    RinexNav.get ((k', v) :: rest) k = if k' = k then v else RinexNav.get rest k := by
  unfold RinexNav.get
  by_cases h : k' = k <;> simp [h]

theorem navRec_head_wf (r : NavRec) (h : r.wf = true) :
    supportedSys.contains r.sys = true ∧ r.prn < 100 ∧ r.year < 10000 ∧ r.month < 100 ∧ r.day < 100 ∧ r.hour < 100 ∧
    r.minute < 100 ∧ r.second < 100 ∧ r.c1.wf = true ∧ r.c2.wf = true ∧ r.c3.wf = true := by
  simp only [NavRec.wf, Bool.and_eq_true, decide_eq_true_eq] at h
  obtain ⟨⟨⟨⟨⟨⟨⟨⟨⟨⟨⟨⟨⟨⟨⟨⟨⟨hsys, hprn⟩, hy⟩, hmo⟩, hd⟩, hh⟩, hmi⟩, hs⟩, h1⟩, h2⟩, h3⟩, _⟩, _⟩, _⟩, _⟩, _⟩, _⟩, _⟩ := h
  exact ⟨hsys, hprn, hy, hmo, hd, hh, hmi, hs, h1, h2, h3⟩

theorem head3_nav (r : NavRec) (hr : r.wf = true) :
    head3 (lineValues ⟨1, epochLayout3⟩
      (epochLine3 r.sys r.prnText r.year r.month r.day r.hour r.minute r.second r.c1 r.c2 r.c3)) =
      some (.ok (epochOf r) [("sat_clock_bias", r.c1.val), ("sat_clock_drift", r.c2.val), ("sat_clock_drift_rate", r.c3.val)]) := by
  obtain ⟨hsys, hprn, hy, hmo, hd, hh, hmi, hs, h1, h2, h3⟩ := navRec_head_wf r hr
  obtain ⟨_, _, hsp, hnS, hnR⟩ := supportedSys_facts hsys
  obtain ⟨hpc, hpl⟩ := clean_prnText r hprn
  rw [epochLine3_values r.year r.month r.day r.hour r.minute r.second hsp hpc hpl h1 h2 h3]
  unfold head3
  simp only [get_cons, String.reduceEq, if_true, if_false, num19_last_not_alpha, Bool.false_eq_true, hnS, hnR,
    or_self, epoch3, clockOf, clockNames, List.mapM_cons, List.mapM_nil, floatField_num19 _ h1, floatField_num19 _ h2,
    floatField_num19 _ h3, parseInt_fixedDigits_lt (p := 4) (by decide) r.year (by simpa using hy),
    parseInt_i22 _ hmo, parseInt_i22 _ hd, parseInt_i22 _ hh, parseInt_i22 _ hmi,
    parseFloat_i22 r.second hs, zfill_prnText r hprn]
  simp [epochOf, satName]

/-- the case of an accepted epoch line; `addRecord_skipSystem` is the other -/
theorem addRecord_ok (T : Tables) (v2sys : Option Str) (st : St) (l1 : Str) (rest : List Str) (ld1 : LineDef) (e : Epoch)
    (clock : List (String × Rat)) (hld : T.lines.find? (fun (l : LineDef) => l.num = 1) = some ld1)
    (hhead : headOf v2sys (lineValues ld1 l1) = some (.ok e clock)) :
    addRecord T v2sys st (l1 :: rest) = (linesKv T ((List.range rest.length).zip rest)).map fun kv =>
      ⟨pushRow st.data (("system", Cell.str e.system) :: ("satellite", Cell.str e.sat) ::
        clock.map (fun nq => (nq.1, Cell.num nq.2)) ++ kv), st.epochs ++ [e]⟩ := by
  unfold addRecord
  simp only [hld, hhead, addLines_eq, addEpoch_eq, Option.map_map]
  exact congrArg (Option.map · _) (funext fun kv => by simp only [Function.comp, pushRow_append])

theorem addRecord_nav (T : Tables) (v2sys : Option Str) (lead : Nat) (ld1 : LineDef) (l1 : Str)
    (hT : T.lines = ld1 :: orbitLines lead) (h1 : ld1.num = 1) (st : St) (r : NavRec) (hr : r.wf = true)
    (hhead : headOf v2sys (lineValues ld1 l1) = some (.ok (epochOf r)
      [("sat_clock_bias", r.c1.val), ("sat_clock_drift", r.c2.val), ("sat_clock_drift_rate", r.c3.val)])) :
    addRecord T v2sys st (l1 :: (navRows r).map (OrbitRow.line lead)) =
      some ⟨pushRow st.data (kvOf r), st.epochs ++ [epochOf r]⟩ := by
  obtain ⟨hfind1, hfindO⟩ := find_lines lead ld1 h1 T hT
  rw [addRecord_ok T v2sys st l1 _ ld1 _ _ hfind1 hhead, List.length_map, show (navRows r).length = 7 from rfl,
    linesKv_nav T lead hfindO r hr, kvOf_eq]
  rfl

/-- RINEX 3: system letter, four-digit year, `4X` orbit lines -/
theorem addRecord_nav3 (st : St) (r : NavRec) (hr : r.wf = true) :
    addRecord v3 Option.none st (navLines3 r) = some ⟨pushRow st.data (kvOf r), st.epochs ++ [epochOf r]⟩ :=
  addRecord_nav v3 Option.none 4 _ _ v3_lines rfl st r hr (head3_nav r hr)

theorem skipRec_wf_fields (s : SkipRec) (h : s.wf = true) :
    (s.sys = 'R' ∨ s.sys = 'S') ∧ s.c1.wf = true ∧ s.c2.wf = true ∧ s.c3.wf = true ∧
    ∀ row ∈ s.rows, ∀ n ∈ row.1, n.wf = true := by
  simp only [SkipRec.wf, Bool.and_eq_true, Bool.or_eq_true, beq_iff_eq, List.all_eq_true] at h
  obtain ⟨⟨⟨⟨⟨hsys, _⟩, h1⟩, h2⟩, h3⟩, hrows⟩ := h
  exact ⟨hsys, h1, h2, h3, hrows⟩

theorem skipSys_facts {c : Char} (h : c = 'R' ∨ c = 'S') :
    isAlpha c = true ∧ okText [c] = true ∧ isSpace c = false ∧ ([c] = ['R'] ∨ [c] = ['S']) := by
  rcases h with rfl | rfl
  · exact ⟨by decide, by decide, by decide, Or.inl rfl⟩
  · exact ⟨by decide, by decide, by decide, Or.inr rfl⟩

theorem addRecord_skipSystem (T : Tables) (st : St) (l1 : Str) (rest : List Str) (ld1 : LineDef)
    (hld : T.lines.find? (fun (l : LineDef) => l.num = 1) = some ld1)
    (hnoalpha : ((RinexNav.get (lineValues ld1 l1) "sat_clock_drift").getLast?.map isAlpha).getD false = false)
    (hsys : RinexNav.get (lineValues ld1 l1) "system" = ['R'] ∨ RinexNav.get (lineValues ld1 l1) "system" = ['S']) :
    addRecord T Option.none st (l1 :: rest) = some st := by
  unfold addRecord
  simp only [hld]
  have : head3 (lineValues ld1 l1) = some .skipSystem := by
    unfold head3
    rw [hnoalpha]
    rcases hsys with h | h <;> simp [h]
  simp [headOf, this]

theorem addRecord_skip3 (st : St) (s : SkipRec) (hs : s.wf = true) :
    addRecord v3 Option.none st (skipLines3 s) = some st := by
  obtain ⟨hsys, h1, h2, h3, _⟩ := skipRec_wf_fields s hs
  obtain ⟨_, _, hsp, hRS⟩ := skipSys_facts hsys
  have hpc : Clean (i22 s.prn) = true ∧ (i22 s.prn).length ≤ 2 :=
    ⟨clean_fixedDigits 2 _, by simp [i22, length_fixedDigits]⟩
  have hvals := epochLine3_values s.year s.month s.day s.hour s.minute s.second hsp hpc.1 hpc.2 h1 h2 h3
  refine addRecord_skipSystem v3 st _ _ ⟨1, epochLayout3⟩ (find_lines 4 _ rfl v3 v3_lines).1 ?_ ?_
  · rw [hvals]
    simp only [get_cons, String.reduceEq, if_true, if_false, num19_last_not_alpha]
  · rw [hvals]
    simp only [get_cons, String.reduceEq, if_true]
    exact hRS

def epochLayout2 : Layout :=
  [⟨"sat", 0, 2⟩, ⟨"year", 2, 5⟩, ⟨"month", 5, 8⟩, ⟨"day", 8, 11⟩, ⟨"hour", 11, 14⟩, ⟨"minute", 14, 17⟩,
   ⟨"second", 17, 22⟩, ⟨"sat_clock_bias", 22, 41⟩, ⟨"sat_clock_drift", 41, 60⟩, ⟨"sat_clock_drift_rate", 60, 79⟩]

/-- both RINEX 2 parsers (`rinex2_nav`, `rinex212_nav`) have this record table -/
theorem v2_lines : v2.lines = ⟨1, epochLayout2⟩ :: orbitLines 3 ∧ v212.lines = ⟨1, epochLayout2⟩ :: orbitLines 3 := by
  decide +kernel

theorem len_nat2 {n : Nat} (h : n < 100) : (natDigits n).length ≤ 2 := (length_natDigits_le_iff 2 n (by decide)).mpr (by simpa using h)

theorem epochLine2_values {prn : Nat} (yy : Nat) {mo d h mi s : Nat} {c1 c2 c3 : Num19}
    (hprn : prn < 100) (hmo : mo < 100) (hd : d < 100) (hh : h < 100) (hmi : mi < 100) (hs : s < 100)
    (h1 : c1.wf = true) (h2 : c2.wf = true) (h3 : c3.wf = true) :
    lineValues ⟨1, epochLayout2⟩ (epochLine2 prn yy mo d h mi s c1 c2 c3) =
      [("sat", natDigits prn), ("year", i22 yy), ("month", natDigits mo), ("day", natDigits d), ("hour", natDigits h),
       ("minute", natDigits mi), ("second", fmtDec 1 ((s : Int) * 10)), ("sat_clock_bias", c1.text),
       ("sat_clock_drift", c2.text), ("sat_clock_drift_rate", c3.text)] := by
  have hsl : (fmtDec 1 ((s : Int) * 10)).length ≤ 5 := by
    have := length_fmtDec_le 1 3 ((s : Int) * 10) (by decide) (by omega)
    have hn : ¬ ((s : Int) * 10 < 0) := by omega
    simp only [hn, if_false] at this
    omega
  have hi : (i22 yy).length = 2 := by simp [i22, length_fixedDigits]
  have l1 := length_num19 c1 h1
  have l2 := length_num19 c2 h2
  have l3 := length_num19 c3 h3
  -- the writer prints at the standard's columns (`1X,I2`: a blank, then two columns); the parsers' fields take the blank in
  refine (lineValues_rendered 1 Spec.RinexNav.v2Epoch epochLayout2 [R (natDigits prn), R (i22 yy), R (natDigits mo),
    R (natDigits d), R (natDigits h), R (natDigits mi), R (fmtDec 1 ((s : Int) * 10)), R c1.text, R c2.text, R c3.text] [] _ ?_
    (by decide +kernel) ?_ (by decide +kernel)).trans ?_
  · have e : rjust 2 (i22 yy) = i22 yy := rjust_of_length_ge (Nat.le_of_eq hi.symm)
    simp [epochLine2, Spec.RinexNav.v2Epoch, renderFrom_cons, renderFrom_nil, R, pad, Field.width, blanks_succ, cell19, e, List.append_assoc]
  · simp [Spec.RinexNav.v2Epoch, fits_cons_iff, R, Field.width, clean_natDigits, show Clean (i22 yy) = true from clean_fixedDigits 2 yy,
      clean_of_numChars (numChars_fmtDec 1 ((s : Int) * 10)), clean_num19, h1, h2, h3, l1, l2, l3, len_nat2 hprn, hi,
      len_nat2 hmo, len_nat2 hd, len_nat2 hh, len_nat2 hmi, hsl]
  · simp [epochLayout2, R]

theorem head2_nav (r : NavRec) (hr : r.wf = true) (hG : r.sys = 'G') (hy1 : 1980 ≤ r.year) (hy2 : r.year < 2080) :
    head2 ['G'] (lineValues ⟨1, epochLayout2⟩
      (epochLine2 r.prn (r.year % 100) r.month r.day r.hour r.minute r.second r.c1 r.c2 r.c3)) =
      some (.ok (epochOf r) [("sat_clock_bias", r.c1.val), ("sat_clock_drift", r.c2.val), ("sat_clock_drift_rate", r.c3.val)]) := by
  obtain ⟨_, hprn, _, hmo, hd, hh, hmi, hs, h1, h2, h3⟩ := navRec_head_wf r hr
  rw [epochLine2_values (r.year % 100) hprn hmo hd hh hmi hs h1 h2 h3]
  unfold head2
  have hyy : parseInt? (i22 (r.year % 100)) = some ((r.year % 100 : Nat) : Int) :=
    parseInt_i22 _ (by omega)
  have hyne : (i22 (r.year % 100)).isEmpty = false := by rw [i22_eq]; rfl
  -- the line is not empty: its year field is not
  rw [List.all_eq_false.mpr ⟨("year", i22 (r.year % 100)), by simp, by simp [hyne]⟩]
  simp only [get_cons, String.reduceEq, if_true, if_false, num19_head_not_alpha, Bool.false_eq_true, epoch2, clockOf,
    clockNames, List.mapM_cons, List.mapM_nil, floatField_num19 _ h1, floatField_num19 _ h2, floatField_num19 _ h3, hyy,
    Option.bind_eq_bind, Option.bind_some, year4_back r.year hy1 hy2, parseInt_natDigits', sec_back,
    zfill_natDigits r.prn hprn]
  simp [epochOf, satName, hG]

/-- RINEX 2 (GPS): no system letter, two-digit year with the 80 pivot, `3X` orbit lines -/
theorem addRecord_nav2 (T : Tables) (hT : T.lines = ⟨1, epochLayout2⟩ :: orbitLines 3) (st : St) (r : NavRec)
    (hr : r.wf = true) (hG : r.sys = 'G') (hy1 : 1980 ≤ r.year) (hy2 : r.year < 2080) :
    addRecord T (some ['G']) st (navLines2 r) = some ⟨pushRow st.data (kvOf r), st.epochs ++ [epochOf r]⟩ :=
  addRecord_nav T (some ['G']) 3 _ _ hT rfl st r hr (head2_nav r hr hG hy1 hy2)

theorem head_clock_names (v2 : Option Str) (vs : List (String × Str)) (e : Epoch) (clock : List (String × Rat))
    (h : headOf v2 vs = some (.ok e clock)) : clock.map (·.1) = clockNames := by
  have key : ∀ (oe : Option Epoch), (oe.bind fun e' => (clockOf vs).map fun cl => Head.ok e' cl) = some (.ok e clock) →
      clock.map (·.1) = clockNames := by
    intro oe hb
    obtain ⟨e', _, h2⟩ := Option.bind_eq_some_iff.mp hb
    obtain ⟨cl, hcl, h3⟩ := Option.map_eq_some_iff.mp h2
    have : cl = clock := by injection h3
    subst this
    exact (mapM_image _ (·.1) id (fun n y hy => by
      obtain ⟨q, _, rfl⟩ := Option.map_eq_some_iff.mp hy
      rfl) hcl).trans (List.map_id _)
  cases v2 with
  | none =>
    simp only [headOf, head3] at h
    split at h
    · simp at h
    · split at h
      · simp at h
      · exact key _ h
  | some s =>
    simp only [headOf, head2] at h
    split at h
    · simp at h
    · split at h
      · simp at h
      · exact key _ h

end Midgard.Spec.RinexNavFile

#print axioms Midgard.Spec.RinexNavFile.head_clock_names
